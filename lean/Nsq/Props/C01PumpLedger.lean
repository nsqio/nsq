/-
C01 — "the only deliberate drops are client sample_rate and overflow of ephemeral queues", the PUMP side:
the delivery pump model `Nsq.Model.Pump` (loop-iteration granularity, output buffer, flusher, heartbeat,
identify, responses of the IOLoop interleaved) × a ledger of message ids (`Nsq.Proofs.PumpLedger`).
Together with the channel ledger (`C01.ledger`, `C01.only_deliberate_drops`: nothing but FIN / Empty / sampling / an
ephemeral overflow removes a located message) this says: nothing else in the pump drops.
What is NOT in the model (named in docs/C01.md): an error returned by `StartInFlightTimeout` (ignored by
the pump; unreachable: `C02Micro.never_already_in_flight`), a `SendMessage` error (the message is registered in
flight before the write and times out), and a corrupt disk record (`decodeMessage` fails → `continue`).
-/
import Nsq.Proofs.PumpLedger
namespace Nsq.Props.C01PumpLedger
open Nsq.Model.Pump Nsq.Proofs.PumpLedger

/-- along ANY schedule of pump steps, IOLoop responses, RDY / pause changes and offers: the ids offered to the pump are
exactly (as a multiset) those still queued, those it registered in flight and those it sampled out; the message frames it
wrote are exactly its in-flight registrations, in order, and as many as it counted -/
theorem pump_conserves (ops : List LOp) :
    (run {} ops).offered.Perm ((run {} ops).queue ++ (run {} ops).inflight ++ (run {} ops).sampled) ∧
    (run {} ops).frames = (run {} ops).inflight.reverse ∧ (run {} ops).frames.length = (run {} ops).p.sent :=
  let h := run_linv linv_init ops
  ⟨h.cons, h.frames, h.sent⟩

/-- **nothing else drops**: every id ever offered to the pump is still queued, or was registered in flight AND written as a
frame, or was dropped by the sampling test -/
theorem nothing_else_drops (ops : List LOp) {id : Nat} (h : id ∈ (run {} ops).offered) :
    id ∈ (run {} ops).queue ∨ (id ∈ (run {} ops).inflight ∧ id ∈ (run {} ops).frames) ∨ id ∈ (run {} ops).sampled := by
  obtain ⟨hc, hf, _⟩ := pump_conserves ops
  have := hc.subset h
  simp only [List.mem_append] at this
  rcases this with (h1 | h1) | h1
  · exact Or.inl h1
  · exact Or.inr (Or.inl ⟨h1, by rw [hf]; exact List.mem_reverse.2 h1⟩)
  · exact Or.inr (Or.inr h1)

/-- the steps of the pump that do not receive (`top`, flusher tick, ready-state wake-up, SUB / IDENTIFY events, heartbeat,
exit) and the other goroutines' steps (responses, RDY / in-flight / pause changes) touch neither the queue nor the
registrations, the frames' ids, or the sampled set -/
theorem other_steps_take_nothing (s : PL) (op : Op) :
    (step s (.pump op)).1.queue = s.queue ∧ (step s (.pump op)).1.inflight = s.inflight ∧
    (step s (.pump op)).1.sampled = s.sampled ∧ (step s (.pump op)).1.frames = s.frames ∧ (step s (.pump op)).1.offered = s.offered := by
  simp only [Nsq.Proofs.PumpLedger.step]
  split <;> exact ⟨rfl, rfl, rfl, rfl, rfl⟩

/-- a sampling drop needs `sample_rate > 0` and the queue cases armed (a guard evaluation found the consumer ready) -/
theorem sampled_needs_rate (s : PL) (id : Nat) (h : (step s (.sampled id)).1.sampled ≠ s.sampled) :
    s.p.sample ≠ 0 ∧ s.p.qArmed = true ∧ s.p.inSelect = true ∧ id ∈ s.queue := by
  simp only [Nsq.Proofs.PumpLedger.step] at h
  split at h
  · exact absurd rfl h
  · rename_i hq
    split at h
    · rename_i p' hs
      obtain ⟨_, h1, h2, h3⟩ := sampled_ok hs
      exact ⟨h1, h2, h3, by simpa using hq⟩
    · exact absurd rfl h

/-- a received message is registered and framed in the same step, whatever happens afterwards -/
theorem recv_registers (s : PL) (id : Nat) (h : (step s (.recv id)).2 = .ok) :
    (step s (.recv id)).1.inflight = id :: s.inflight ∧ (step s (.recv id)).1.frames = s.frames ++ [id] ∧
    (step s (.recv id)).1.p.buf = s.p.buf ++ [.msg s.p.sent] := by
  simp only [Nsq.Proofs.PumpLedger.step] at h ⊢
  split
  · rename_i hq; simp [hq] at h
  · split
    · rename_i p' hs
      exact ⟨rfl, rfl, (recv_ok hs).2⟩
    · rename_i hne   -- impossible: the pump refused (`hne`), so the ledger step returns its refusal, not `h`'s `.ok`
      simp_all

/-! non-vacuity: SUB, RDY 2, two messages offered; one is received and flushed by the flusher tick, the other is dropped by a
sampling consumer's test; a third stays queued after RDY 0 -/
def exOps : List LOp :=
  [.pump .top, .pump .subEvent, .pump (.setRdy 2), .pump .top, .pump (.identify true true 50), .offer 7, .offer 8, .offer 9,
   .pump .top, .recv 8, .pump .top, .pump .flushTick, .pump .top, .sampled 7, .pump (.setRdy 0), .pump .top, .recv 9]
example : (run {} exOps).queue = [9] ∧ (run {} exOps).inflight = [8] ∧ (run {} exOps).sampled = [7] ∧
    (run {} exOps).frames = [8] ∧ (run {} exOps).p.wire = [[.msg 0]] ∧ (run {} exOps).p.sent = 1 := by decide +kernel
example : 8 ∈ (run {} exOps).inflight ∧ 8 ∈ (run {} exOps).frames :=
  (nothing_else_drops exOps (id := 8) (by decide)).elim (fun h => absurd h (by decide))
    (fun h => h.elim id (fun h => absurd h (by decide)))
/-- after RDY 0 took effect the pump cannot receive: message 9 stays queued -/
example : (step (run {} (exOps.take 16)) (.recv 9)).2 = .reject "queues-off" := by decide +kernel

end Nsq.Props.C01PumpLedger
