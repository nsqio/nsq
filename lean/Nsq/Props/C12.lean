import Nsq.Proofs.GuidClock
import Nsq.Tie.Guid
import Nsq.Proofs.Keyed
/-!
# C12 — Message ids are unique and increasing per topic

The model `newGUID` is tied
to `nsqd/guid.go` by `Nsq.Tie.Guid.newGUID_eq` (regenerated definition = model) and by the
correspondence harness (real `guidFactory` on generated pre-states).

All statements quantify over every node id, every start state and every list of clock
readings — no monotonicity of the clock is assumed (it may stall, or step back).
-/
namespace Nsq.Props.C12
open Nsq.Model.Guid Nsq.Proofs.Guid

/-- The ids a factory (= a topic) hands out strictly increase as signed 64-bit integers, and
all of them are above every id handed out before (`lastID` of the start state). -/
theorem ids_strictly_increasing (f : St) (clock : List (BitVec 64)) :
    (run f clock).Pairwise (fun a b => a.toInt < b.toInt) ∧
    ∀ x ∈ run f clock, f.lastID.toInt < x.toInt :=
  (List.pairwise_cons.mp (run_chain f clock).1).symm

/-- No id is handed out twice. -/
theorem ids_nodup (f : St) (clock : List (BitVec 64)) : (run f clock).Nodup :=
  Nsq.Proofs.GuidExtra.run_nodup f clock

/-- Histories compose: ids produced after any earlier history are above everything the earlier
history produced (so uniqueness holds across the whole life of the factory). -/
theorem later_ids_above_earlier (f : St) (c₁ c₂ : List (BitVec 64)) :
    ∀ x ∈ run f c₁, ∀ y ∈ run (runSt f c₁) c₂, x.toInt < y.toInt := by
  intro x hx y hy
  have h1 := (run_chain f c₁).2 x (List.mem_cons_of_mem _ hx)
  have h2 := (List.pairwise_cons.mp (run_chain (runSt f c₁) c₂).1).1 y hy
  omega

/-- When the generator cannot produce a fresh id (time went backwards, per-millisecond sequence
exhausted, id would not be above the last one) nothing is remembered as handed out. -/
theorem error_leaves_lastID (f : St) (now : BitVec 64) (h : (newGUID f now).2.2 ≠ .none) :
    (newGUID f now).1.lastID = f.lastID :=
  newGUID_err h

/-- `Topic.GenerateID` (retry until success): whatever it finally returns is strictly above
every id returned before, for every stream of clock readings met while waiting. It has no
error return: on the error paths it only retries. -/
theorem generateID_fresh (f : St) (clock : List (BitVec 64)) (f' : St) (id : BitVec 64)
    (h : generateID f clock = (f', some id)) : f.lastID.toInt < id.toInt ∧ f'.lastID = id :=
  (Nsq.Proofs.GuidClock.generateID_returns h).2

/-- The sequence field is exhausted after 4095 increments within one pseudo-millisecond: the
call that would wrap it to 0 fails with `sequenceExpired` instead of reusing sequence 0. -/
theorem sequence_exhaustion_is_an_error (f : St) (now : BitVec 64)
    (hts : f.lastTs = BitVec.sshiftRight now 20) (hseq : f.seq = 4095#64) :
    (newGUID f now).2.2 = .sequenceExpired := by
  have es : 0#64 = nextSeq f f.lastTs := by rw [nextSeq_same, hseq]; decide
  rcases newGUID_cases f now hts es with ⟨lt, -⟩ | ⟨-, ⟨-, -, e⟩ | ⟨ne, -⟩⟩
  · exact absurd (BitVec.slt_iff_toInt_lt.mp lt) (Int.lt_irrefl _)
  · rw [e]
  · exact absurd rfl (ne rfl)

/-- `Hex` always yields 16 characters. -/
theorem hex_length (g : BitVec 64) : (hex g).length = 16 :=
  Nsq.Proofs.GuidExtra.hexBE_length 16 g.toNat

/-- Distinct ids have distinct 16-character hex renderings (what consumers see). -/
theorem hex_injective (a b : BitVec 64) (h : hex a = hex b) : a = b :=
  BitVec.eq_of_toNat_eq (Nsq.Proofs.GuidExtra.hexBE_inj 16 a.toNat b.toNat a.isLt b.isLt h)

/-- Consequently the hex ids handed out by a topic never repeat. -/
theorem hex_ids_nodup (f : St) (clock : List (BitVec 64)) : ((run f clock).map hex).Nodup :=
  Nsq.Proofs.Keyed.nodup_map_of_inj_on (ids_nodup f clock) fun a _ b _ => hex_injective a b

/-- "Increasing" also holds for what consumers see: for non-negative ids the 16-character hex
strings are ordered (lexicographically, i.e. as byte strings) like the ids. -/
theorem hex_strictMono (a b : BitVec 64) (ha : 0 ≤ a.toInt) (hab : a.toInt < b.toInt) : hex a < hex b :=
  Nsq.Proofs.GuidExtra.hex_strictMono a b ha hab

/-- The id text is always made of `[0-9a-f]` (16 of them: `hex_length`). -/
theorem hex_charset (g : BitVec 64) : ∀ c ∈ hex g,
    (48 ≤ c.toNat ∧ c.toNat ≤ 57) ∨ (97 ≤ c.toNat ∧ c.toNat ≤ 102) :=
  Nsq.Proofs.GuidExtra.hex_charset g

/-- For node ids in `[0,1024)` (enforced by `nsqd.New`: `Nsq.Tie.Guid.nodeID_range_checked`),
sequence numbers in `[0,4096)` and 41 bits of pseudo-milliseconds since `twepoch`, the three
fields of an id do not overlap: the id is non-negative and each field can be read back. -/
theorem pack_unpack (ts node seq : BitVec 64) (hts : (ts - twepoch).toNat < 2 ^ 41)
    (hn : node.toNat < 1024) (hs : seq.toNat < 4096) :
    0 ≤ (pack ts node seq).toInt ∧
    (pack ts node seq).toNat / 2 ^ 22 = (ts - twepoch).toNat ∧
    (pack ts node seq).toNat / 2 ^ 12 % 1024 = node.toNat ∧
    (pack ts node seq).toNat % 4096 = seq.toNat :=
  Nsq.Proofs.GuidExtra.pack_unpack ts node seq hts hn hs

/-- Hence two nodes with different (valid) node ids never produce the same id. -/
theorem pack_injective (ts ts' node node' seq seq' : BitVec 64)
    (hts : (ts - twepoch).toNat < 2 ^ 41) (hn : node.toNat < 1024) (hs : seq.toNat < 4096)
    (hts' : (ts' - twepoch).toNat < 2 ^ 41) (hn' : node'.toNat < 1024) (hs' : seq'.toNat < 4096)
    (h : pack ts node seq = pack ts' node' seq') : ts = ts' ∧ node = node' ∧ seq = seq' :=
  Nsq.Proofs.GuidExtra.pack_injective ts ts' node node' seq seq' hts hn hs hts' hn' hs' h

/-- **More than 4096 per millisecond**: whatever the start state, the node id and the number of
requests, at most 4096 ids are handed out within one pseudo-millisecond (the other requests
get an error, i.e. `GenerateID` waits) — and 4096 is reached (`burst_tight`). -/
theorem burst_4096 (f : St) (ts : BitVec 64) (clock : List (BitVec 64))
    (h : ∀ now ∈ clock, BitVec.sshiftRight now 20 = ts) : (run f clock).length ≤ 4096 :=
  Nsq.Proofs.GuidExtra.burst_4096 f ts clock h

/-! ## Non-vacuity: the hypotheses are met by concrete, non-trivial runs -/

example : (run Nsq.Proofs.GuidExtra.tightSt0 (List.replicate 4096 Nsq.Proofs.GuidExtra.tightNow)).length = 4096 :=
  Nsq.Proofs.GuidExtra.burst_tight
example : hex 255#64 < hex 256#64 := hex_strictMono _ _ (by decide +kernel) (by decide +kernel)
example : (pack (twepoch + 5#64) 1023#64 4095#64).toNat % 4096 = 4095 :=
  (pack_unpack _ _ _ (by decide +kernel) (by decide) (by decide)).2.2.2

/-- a clock that stalls, advances, steps back and recovers: 5 ids, 1 error -/
def demoClock : List (BitVec 64) :=
  [1700000000000000000#64, 1700000000000000000#64, 1700000000002000000#64,
   1600000000000000000#64, 1700000000002000000#64, 1700000000009000000#64]

def demoSt : St := { nodeID := 7#64, seq := 0#64, lastTs := 0#64, lastID := 0#64 }

example : (run demoSt demoClock).length = 5 := by decide +kernel
example : (newGUID (runSt demoSt (demoClock.take 3)) 1600000000000000000#64).2.2 = .timeBackwards := by decide +kernel
example : ∃ f now, (newGUID f now).2.2 = .sequenceExpired :=
  ⟨{ nodeID := 1#64, seq := 4095#64, lastTs := 5#64, lastID := 0#64 }, 5242880#64, by decide +kernel⟩
/-- the `lastID` guard is what protects a burst after the sequence wrapped: sequence restarts at 1
in the same pseudo-millisecond and would repeat an id — refused with `idBackwards`. -/
example : (newGUID { nodeID := 1#64, seq := 0#64, lastTs := 1288834974289#64,
                     lastID := pack 1288834974289#64 1#64 4095#64 }
                   (1288834974289#64 <<< 20)).2.2 = .idBackwards := by decide +kernel

end Nsq.Props.C12
