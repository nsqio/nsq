import Nsq.Proofs.Wire
import Nsq.Tie.WireFn
/-!
# C07 — envelope and frame integrity, stated on the TRANSLATED code

The theorems of `Nsq.Props.C07` are about the hand-written model `Nsq.Model.Wire`. Here the same
facts are stated directly on the definitions the translator re-derives from the Go source on
every run (`Nsq.Gen.CodecFn`: `Message.WriteTo`, `decodeMessage`, `protocol.SendFramedResponse`),
through the equalities of `Nsq.Tie.WireFn`. `bufferWriter` is `bytes.Buffer` (what
`SendMessage` / `writeMessageToBackend` encode into); the client-side reader `readFrame`
(go-nsq `ReadResponse` + `UnpackResponse`) is the model's, tied by correspondence.
-/
namespace Nsq.Props.C07Fn
open Nsq.Model.Wire Nsq.Model.ByteOps Nsq.Gen.CodecFn Nsq.Tie.WireFn

/-- Envelope round trip through the translated code, for EVERY int64 timestamp, uint16 attempts,
16-byte id and body: what the translated `WriteTo` leaves in an empty buffer, the translated
`decodeMessage` reads back unchanged (no error, no panic); the count returned is its length. -/
theorem translated_roundtrip (m : Msg) (hid : m.id.length = 16) :
    ∃ out, writeTo m.id m.body m.ts m.attempts bufferWriter [] = .ret (out, BitVec.ofNat 64 out.length, "") ∧
      out.length = 26 + m.body.length ∧
      decodeMessage out = .ret (some (ofMsg m), "") := by
  refine ⟨encode m, ?_, Nsq.Proofs.Wire.encode_length m hid, ?_⟩
  · simpa using writeTo_eq [] m
  · rw [decodeMessage_eq, Nsq.Proofs.Wire.decode_encode m hid]

/-- Buffers shorter than 26 bytes are rejected by the translated `decodeMessage`, never mis-parsed
and never a panic. -/
theorem translated_decode_short (b : Bytes) (h : b.length < 26) :
    decodeMessage b = .ret (none, "invalid message buffer size (%d)") := by
  rw [decodeMessage_eq, Nsq.Proofs.Wire.decode_short b h]

/-- The translated `decodeMessage` is total: every buffer gives a result, never `panic`. -/
theorem translated_decode_total (b : Bytes) : ∃ v, decodeMessage b = .ret v := by
  rw [decodeMessage_eq]; exact ⟨_, rfl⟩

/-- Conversely whatever the translated `decodeMessage` accepts is exactly what the translated
`WriteTo` writes for the result (the representation of a message is unique). -/
theorem translated_decode_sound (b : Bytes) (x : decodeMessage_Message) (e : String)
    (h : decodeMessage b = .ret (some x, e)) :
    e = "" ∧ x.ID.length = 16 ∧
    writeTo x.ID x.Body x.Timestamp x.Attempts bufferWriter [] = .ret (b, BitVec.ofNat 64 b.length, "") := by
  rw [decodeMessage_eq] at h
  cases hd : decode b with
  | none => rw [hd] at h; simp at h
  | some m =>
    rw [hd] at h
    simp only [Res.ret.injEq, Prod.mk.injEq, Option.some.injEq] at h
    obtain ⟨hx, he⟩ := h
    have hm := Nsq.Proofs.Wire.encode_decode b m hd
    subst hx
    refine ⟨he.symm, hm.2, ?_⟩
    have := writeTo_eq [] m
    simp only [List.nil_append, hm.1] at this
    exact this

/-- Frame round trip through the translated `SendFramedResponse`: the client-side reader returns
exactly the frame type and data (and the untouched rest of the stream), for every payload
within the client's int32 length. -/
theorem translated_frame_roundtrip (f : Frame) (rest : Bytes) (h : f.data.length + 4 < 2147483648) :
    ∃ out, sendFramedResponse bufferWriter [] f.ftype f.data =
        .ret (out, BitVec.ofNat 64 f.data.length + 8#64, "") ∧
      out.length = f.data.length + 8 ∧
      readFrame (out ++ rest) = some (f, rest) := by
  refine ⟨encodeFrame f, ?_, ?_, Nsq.Proofs.Wire.readFrame_encode f rest h⟩
  · simpa using sendFramedResponse_eq [] f
  · simp [encodeFrame, Nsq.Proofs.Wire.beBytes_length]; omega

/-- A message on the wire (`SendMessage`: translated `WriteTo` into a pooled buffer, then the
translated `SendFramedResponse` with frame type 2): the client reads one frame of type 2 whose
data the translated `decodeMessage` turns back into the message. -/
theorem translated_message_frame (m : Msg) (hid : m.id.length = 16) (rest : Bytes)
    (hb : m.body.length + 30 < 2147483648) :
    ∃ enc n out k, writeTo m.id m.body m.ts m.attempts bufferWriter [] = .ret (enc, n, "") ∧
      sendFramedResponse bufferWriter [] 2#32 enc = .ret (out, k, "") ∧
      readFrame (out ++ rest) = some ({ ftype := 2#32, data := enc }, rest) ∧
      decodeMessage enc = .ret (some (ofMsg m), "") := by
  obtain ⟨enc, h1, hl, h3⟩ := translated_roundtrip m hid
  obtain ⟨out, h2, _, h4⟩ := translated_frame_roundtrip { ftype := 2#32, data := enc } rest (by simp only; omega)
  exact ⟨enc, _, out, _, h1, h2, h4, h3⟩

def demo : Msg := { ts := 0x1122334455667788#64, attempts := 0x0102#16, id := List.replicate 16 97, body := [1, 2, 3] }

example : writeTo demo.id demo.body demo.ts demo.attempts bufferWriter [] =
    .ret ([0x11, 0x22, 0x33, 0x44, 0x55, 0x66, 0x77, 0x88, 1, 2] ++ List.replicate 16 97 ++ [1, 2, 3], 29#64, "") := by
  decide +kernel
example : decodeMessage ([0x11, 0x22, 0x33, 0x44, 0x55, 0x66, 0x77, 0x88, 1, 2] ++ List.replicate 16 97 ++ [1, 2, 3]) =
    .ret (some (ofMsg demo), "") := by decide +kernel
example : decodeMessage (List.replicate 25 0) = .ret (none, "invalid message buffer size (%d)") :=
  translated_decode_short _ (by decide)
example : ∃ v, decodeMessage [1, 2, 3] = .ret v := translated_decode_total _
example : sendFramedResponse bufferWriter [] 2#32 [79, 75] = .ret ([0, 0, 0, 6, 0, 0, 0, 2, 79, 75], 10#64, "") := by
  decide +kernel
example := translated_roundtrip demo (by decide)
example := translated_decode_sound _ (ofMsg demo) "" (translated_roundtrip demo (by decide)).choose_spec.2.2
example := translated_frame_roundtrip { ftype := 0#32, data := [79, 75] } [9] (by decide)
example := translated_message_frame demo (by decide) [] (by decide)

end Nsq.Props.C07Fn
