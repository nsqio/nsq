/-
C02.7 — the in-flight map / heap windows, over ALL schedules of micro-steps
(`Nsq.Model.ChanMicro`: answer = mapPop | heapRemove(+completion) [| mapPush | heapPush for TOUCH],
delivery = mapPush | heapPush (two steps, where /repo's `pushInFlightMessage` does both in one critical section: more
schedules than the code has), scan = {heapPop + mapPop in one critical section, fix F16} | put; any
steps of other operations may run in between).

The map step (`popInFlightMessage`) is the single decision point: whoever removes the id from the
map — FIN, REQ, TOUCH or the timeout scan — has the object; every other contender fails; a failing answer
changes nothing, a failing scan only drops the stale heap entry it met. The C02 history theorems hold along every micro-step schedule, not only in the atomic
model.

Real-code witnesses of these windows (steered with the in-tree hooks, replayed by `./check C02`):
`corpus/C02/late_answer.ops` (an answer in the delivery window / after a timeout hand-over) and
`corpus/C02/fin_vs_scan.ops` (FIN parked between its map pop and its heap removal while the scan
runs: the scan finds the heap entry, not the map entry, and skips it).
-/
import Nsq.Proofs.ChanHist
import Nsq.Proofs.ChanMicro
namespace Nsq.Props.C02Micro
open Nsq.Model.Chan (Ev St status okHist nDeliver wireAttempts)
open Nsq.Model.ChanMicro
open Nsq.Proofs.ChanMicro
open Nsq.Proofs.Chan (releases concerns lastDeliver)

def Reachable (s : MS) : Prop := ∃ ops : List Op, s = run {} ops

theorem reachable_minv {s : MS} (h : Reachable s) : MInv s := by
  obtain ⟨ops, rfl⟩ := h
  exact run_minv minv_init ops

theorem minv_step {s : MS} (h : MInv s) (op : Op) : MInv (step s op).1 := step_minv h op

/-- a contender that finds the id gone from the map fails and changes nothing: an answer gets
`E_FIN_FAILED` / `E_REQ_FAILED` / `E_TOUCH_FAILED` and the state is the same … -/
theorem loser_answer_noop (s : MS) {id : Nat} (hm : id ∉ s.map) (k : Nat) (a : Ans) :
    step s (.ansMapPop k id a) = (s, .fail) := ansMapPop_out s hm k a

/-- … an answer of a connection that is not the owner likewise … -/
theorem foreign_answer_noop (s : MS) {k id : Nat} (ho : getA s.owner id ≠ k) (a : Ans) :
    step s (.ansMapPop k id a) = (s, .fail) := by
  simp [step, ho]

/-- … and the scan that meets a heap entry whose id is no longer in the map (a FIN / REQ / TOUCH got
there first; checked in the same critical section as the heap pop, fix F16) only drops that stale
heap entry: no event, no change of queue, deferred set, map, or any message object. -/
theorem loser_scan_noop (s : MS) {id : Nat} (hm : id ∉ s.map) :
    (step s (.scanPop id)).2 ≠ .ok ∧
    (step s (.scanPop id)).1 = { s with heap := s.heap.erase id } := scanPop_out s hm

/-- a successful map pop takes the id out of the map (it is there at most once) -/
theorem winner_takes_it {s : MS} (h : Reachable s) {id : Nat} {op : Op} (hp : isPopOf id op = true)
    (hok : (step s op).2 = .ok) : id ∉ (step s op).1.map := pop_takes_it (reachable_minv h) hp hok

/-- C02.7 — for every interleaving of FIN / REQ / TOUCH (of any connections) and timeout scans on
one id, together with any other micro-steps, as long as the id is not pushed into the map again:
at most one of the map pops succeeds (this theorem states only that count). What the others do is the three
lemmas above: a losing / foreign answer fails with the state equal (`loser_answer_noop`, `foreign_answer_noop`);
a losing scan is refused and changes the state only by erasing the stale heap entry (`loser_scan_noop`). -/
theorem map_pop_is_the_winner {s : MS} (h : Reachable s) (id : Nat) (ops : List Op)
    (hnp : ∀ op ∈ ops, isPushOf id op = false) : wins id s ops ≤ 1 :=
  wins_le_one (reachable_minv h) id ops hnp

/-- … and the first contender that reaches the map while the id is there does win: the owner's
answer is accepted, the scan's pop succeeds. -/
theorem first_contender_wins {s : MS} {id : Nat} (hm : id ∈ s.map) :
    (∀ a, (step s (.ansMapPop (getA s.owner id) id a)).2 = .ok) ∧
    (id ∈ s.heap → (step s (.scanPop id)).2 = .ok) := by
  constructor
  · intro a; simp [step, hm]
  · intro hp; simp [step, hm, hp]

/-- the two "unreachable" error returns of `pushInFlightMessage` ("ID already in flight") are
indeed never taken: a delivery or the re-insertion of a TOUCH never finds the id in the map -/
theorem never_already_in_flight {s : MS} (h : Reachable s) {k id : Nat} :
    (id ∈ s.queue → id ∉ s.map) ∧ (Pend.touchMap k id ∈ s.pend → id ∉ s.map) :=
  ⟨fun hq => (take_queue (reachable_minv h) hq).nowhere.2.2.1,
   fun hp => (take_hand (reachable_minv h) hp (fun _ => rfl)).nowhere.2.2.1⟩

/-- C02.1 / C02.2 — an id in the in-flight map is there once, is nowhere else (not queued, not
deferred, not in the hands of an answering goroutine), and the owner stamped on its object is the
connection of its latest `deliver` event. -/
theorem holder_unique {s : MS} (h : Reachable s) {id : Nat} (hm : id ∈ s.map) :
    lastDeliver s.hist id = some (getA s.owner id) ∧
    id ∉ s.map.erase id ∧ id ∉ s.queue ∧ id ∉ s.deferred ∧ ∀ p ∈ s.pend, holdsW id p = 0 := by
  have hi := reachable_minv h
  have ⟨hq, hd, hm', hp⟩ := (take_map hi hm).nowhere
  exact ⟨Nsq.Proofs.Chan.held_is_last_deliver (hi.stm id hm), hm', hq, hd, hp⟩

/-- C02.1 — every id is in at most one place: queue, deferred set, map, or held by the goroutine of
an accepted answer between its map pop and its completion. -/
theorem single_location {s : MS} (h : Reachable s) (id : Nat) : cnt s id ≤ 1 :=
  (reachable_minv h).one id

/-- C02.3 — between two deliveries of an id there is an accepted REQ or a timeout of that id -/
theorem redelivery_justified {s : MS} (h : Reachable s) {h3 h2 h1 : List Ev} {k1 k2 id a1 a2 : Nat}
    (hs : s.hist = h3 ++ Ev.deliver k2 id a2 :: (h2 ++ Ev.deliver k1 id a1 :: h1)) :
    ∃ ev ∈ h2, releases ev id = true :=
  Nsq.Proofs.Chan.hist_redelivery_justified (reachable_minv h).okh hs

/-- … by the connection holding it then -/
theorem answer_by_holder {s : MS} (h : Reachable s) {h2 h1 : List Ev} {ev : Ev} {k id : Nat}
    (hs : s.hist = h2 ++ ev :: h1)
    (hev : ev = .finOk k id ∨ (∃ d, ev = .reqOk k id d) ∨ ev = .touchOk k id ∨ ev = .timeout id k) :
    lastDeliver h1 id = some k :=
  Nsq.Proofs.Chan.hist_answer_by_holder (reachable_minv h).okh hs hev

/-- C02.4 — the n-th delivery of an id carries attempts n, and that is the value of the
`Attempts` field of its (single) message object -/
theorem attempts_consecutive {s : MS} (h : Reachable s) {h2 h1 : List Ev} {k id a : Nat}
    (hs : s.hist = h2 ++ Ev.deliver k id a :: h1) :
    a = nDeliver h1 id + 1 ∧ (a < 65536 → wireAttempts a = nDeliver h1 id + 1) :=
  Nsq.Proofs.Chan.hist_attempts_consecutive (reachable_minv h).okh hs

theorem attempts_field {s : MS} (h : Reachable s) (id : Nat) : getA s.atts id = nDeliver s.hist id :=
  (reachable_minv h).att id

/-- C02.5 — once a FIN is accepted (its map pop succeeded), no event mentions the id again -/
theorem fin_final {s : MS} (h : Reachable s) {h2 h1 : List Ev} {k id : Nat}
    (hs : s.hist = h2 ++ Ev.finOk k id :: h1) :
    ∀ ev ∈ h2, concerns ev id = false ∧ ∀ k' a, ev ≠ .deliver k' id a :=
  Nsq.Proofs.Chan.hist_fin_final (reachable_minv h).okh hs

/-- the windows never orphan an in-flight message: an id in the map is in the heap, or a pending
heap push (delivery / TOUCH) will put it there — so the timeout scan can always reach it -/
theorem no_orphan {s : MS} (h : Reachable s) {id : Nat} (hm : id ∈ s.map) :
    id ∈ s.heap ∨ Pend.push id ∈ s.pend :=
  (reachable_minv h).orph id hm

/-- fix F16 — the scan decides in ONE step: a `timeout` event is recorded only by a step that finds
the id in the heap and in the map at the same moment; there is no state "popped from the heap, map
not yet consulted" in which a REQ and a redelivery could slip in (the schedule that made the scan
time out a fresh delivery needs exactly that state). -/
theorem scan_decides_at_once (s : MS) (id : Nat) :
    (step s (.scanPop id)).2 = .ok ↔ (id ∈ s.heap ∧ id ∈ s.map) := by
  simp only [step]
  by_cases hh : id ∈ s.heap <;> by_cases hm : id ∈ s.map <;> simp [hh, hm]

/-! ### non-vacuity: the windows are reachable, and the invariant is not `True` -/

/-- late answer in the delivery window: 7 is redelivered to connection 1 after a timeout; between
the map push and the heap push of that delivery the FIN of connection 1 arrives and is accepted;
its heap removal finds nothing; the delivery's heap push then leaves a stale heap entry; the scan
meets it, finds the map entry gone and skips it (`corpus/C02/late_answer.ops`). -/
def exLate : List Op :=
  [.put 7, .delMapPush 1 7, .heapPush 7, .scanPop 7, .scanPut 7,
   .delMapPush 1 7, .ansMapPop 1 7 .fin, .ansFinish 1 7 .fin, .heapPush 7,
   .scanPop 7]
example : (run {} exLate).hist = [.finOk 1 7, .deliver 1 7 2, .timeout 7 1, .deliver 1 7 1, .fanout 7 false] := by decide
example : (run {} (exLate.take 9)).heap = [7] ∧ (run {} (exLate.take 9)).map = [] := by decide
example : (step (run {} (exLate.take 9)) (.scanPop 7)).2 = .fail := by decide
example : run {} exLate = { atts := (run {} exLate).atts, owner := (run {} exLate).owner, hist := (run {} exLate).hist } := by decide

/-- FIN against the scan (`corpus/C02/fin_vs_scan.ops`): the FIN of the holder took 7 out of the map
and is parked before its heap removal; the scan runs, meets the heap entry, finds the map entry
gone and skips; nothing is requeued -/
def exFinScan : List Op :=
  [.put 7, .delMapPush 1 7, .heapPush 7, .ansMapPop 1 7 .fin, .scanPop 7, .ansFinish 1 7 .fin]
example : wins 7 (run {} (exFinScan.take 3)) (exFinScan.drop 3) = 1 := by decide
example : (run {} exFinScan).hist = [.finOk 1 7, .deliver 1 7 1, .fanout 7 false] ∧ (run {} exFinScan).queue = [] := by decide
/-- … and the other order: the scan wins, the FIN fails and changes nothing (also while the scan is
still between its pop and its `put`) -/
def exScanFin : List Op :=
  [.put 7, .delMapPush 1 7, .heapPush 7, .scanPop 7, .ansMapPop 1 7 .fin, .scanPut 7]
example : wins 7 (run {} (exScanFin.take 3)) (exScanFin.drop 3) = 1 := by decide
example : step (run {} (exScanFin.take 4)) (.ansMapPop 1 7 .fin) = (run {} (exScanFin.take 4), .fail) := by decide
example : (run {} exScanFin).queue = [7] := by decide
/-- the schedule of the former scan-window race (scan heap pop | REQ + redelivery to connection 2 |
scan map pop → the fresh delivery timed out at once) no longer exists: after the REQ the scan's one
step takes nothing (here the REQ's heap removal already took the entry; were it still there, the
step would find the id in the map only if it is in flight again — with its own new deadline). -/
example : (step (run {} [.put 7, .delMapPush 1 7, .heapPush 7, .ansMapPop 1 7 (.req 0), .ansFinish 1 7 (.req 0),
    .delMapPush 2 7]) (.scanPop 7)).2 = .reject := by decide
/-- the invariant rejects a state with one id in two places, and one with an orphan -/
example : ¬ MInv { queue := [1], map := [1] } := by
  intro h; have := h.one 1; simp [cnt, wsum, isId] at this
example : ¬ MInv { map := [1], hist := [.deliver 0 1 1, .fanout 1 false], atts := [(1, 1)] } := by
  intro h; have := h.orph 1 (by simp); simp at this

end Nsq.Props.C02Micro
