import Nsq.Proofs.GuidClock
import Nsq.Tie.Guid
/-!
# C12 — the last clause: "when the generator cannot produce a fresh id (clock stepped back,
# per-millisecond sequence exhausted) the publish waits; it never reuses an id"

`Props/C12.lean` proves uniqueness and order for every clock. This module states what
`Topic.GenerateID` (model `generateID`: retry `NewGUID` until it succeeds; tied by
`Nsq.Tie.GuidLoop`, by `Tie.Guid.newGUID_eq` and by the correspondence op `genids` on the real
`Topic.GenerateID` / PUB / MPUB / DPUB / HTTP paths with a white-boxed factory) does *while* it waits
and *when* it stops waiting:

* safety, every clock: `waits_while_clock_is_behind`, `returns_only_when_clock_caught_up`,
  `successive_publishes_increase`;
* progress, clocks inside the id layout's 41-bit horizon: `released_when_clock_passes`
  (+ the precise boundary `beyond_horizon_waits_forever`: after ≈ 2085 nothing is handed out any more);
* restart / re-creation (a new factory starts from zero): `restart_unique_partial` with the hypothesis
  spelled out and `restart_unique_full_false`.
-/
namespace Nsq.Props.C12Clock
open Nsq.Model.Guid Nsq.Model.GuidClock Nsq.Proofs.Guid Nsq.Proofs.GuidClock

/-- **The publish waits.** While every clock reading is in a pseudo-millisecond before the factory's
`lastTimestamp` (the wall clock was stepped back behind an id already handed out), `GenerateID` does
not return, however many readings it looks at, and the factory is exactly as before: nothing is
forgotten, so nothing can be handed out again. (Seeded defect C12-m7 — give up after 1000 retries and
re-anchor — is the negation of this statement.) -/
theorem waits_while_clock_is_behind (f : St) (clock : List (BitVec 64))
    (h : ∀ now ∈ clock, (tsOf now).toInt < f.lastTs.toInt) :
    generateID f clock = (f, none) ∧ run f clock = [] ∧ runSt f clock = f := by
  induction clock with
  | nil => exact ⟨rfl, rfl, rfl⟩
  | cons now rest ih =>
    obtain ⟨h0, hr⟩ := List.forall_mem_cons.mp h
    rw [generateID_cons, run_cons, runSt, newGUID_behind h0]
    exact ih hr

/-- **It returns only once the clock has caught up**, for EVERY stream of readings: the reading at
which `GenerateID` returned is not behind the `lastTimestamp` it started from; the id carries that
reading's pseudo-millisecond, the factory's node id and a 12-bit sequence number, is above every id
handed out before, and is what the factory now remembers. -/
theorem returns_only_when_clock_caught_up (f : St) (clock : List (BitVec 64)) (f' : St) (id : BitVec 64)
    (h : generateID f clock = (f', some id)) :
    (∃ now ∈ clock, f.lastTs.toInt ≤ (tsOf now).toInt ∧ f'.lastTs = tsOf now ∧
      ∃ s : BitVec 64, id = pack (tsOf now) f.nodeID (s &&& 4095#64)) ∧
    f.lastID.toInt < id.toInt ∧ f'.lastID = id :=
  generateID_returns h

/-- **Successive publishes** (each `GenerateID` call meets its own readings, arbitrary ones): the ids
handed out strictly increase in call order and are all above what was handed out before. This is the
function the correspondence op `genids` runs against the real `Topic.GenerateID`. -/
theorem successive_publishes_increase (f : St) (clocks : List (List (BitVec 64))) :
    (genMany f clocks).1.Pairwise (fun a b => a.toInt < b.toInt) ∧
    ∀ x ∈ (genMany f clocks).1, f.lastID.toInt < x.toInt :=
  (List.pairwise_cons.mp (genMany_chain f clocks)).symm

/-- **Progress** (liveness of the wait, as far as the generator is concerned). For a factory in a
state reachable from `NewGUIDFactory` (`WF`: `wf_reachable`) and clock readings inside the horizon of
the id layout (`InHorizon`: after 2012-10-28, less than 2^41 pseudo-ms later), `GenerateID` returns at
the latest at the first reading in a pseudo-millisecond after `lastTimestamp` — after a step back of
`D` it waits `D` (+ at most one pseudo-millisecond), after an exhausted sequence at most one
pseudo-millisecond. Hypotheses that are forced: see `beyond_horizon_waits_forever`. -/
theorem released_when_clock_passes (f : St) (clock : List (BitVec 64)) (hwf : WF f)
    (hh : ∀ now ∈ clock, InHorizon (tsOf now))
    (hlater : ∃ now ∈ clock, f.lastTs.toNat < (tsOf now).toNat) :
    ∃ f' id, generateID f clock = (f', some id) := by
  fun_induction generateID f clock with
  | case1 => obtain ⟨n, hn, _⟩ := hlater; cases hn
  | case2 f now rest r hok => exact ⟨_, _, rfl⟩
  | case3 f now rest r herr ih =>
    obtain ⟨hh0, hhr⟩ := List.forall_mem_cons.mp hh
    apply ih (newGUID_wf hwf hh0) hhr
    obtain ⟨n, hn, hl⟩ := hlater
    rw [newGUID_err_lastTs hwf hh0 herr]
    rcases List.mem_cons.mp hn with rfl | hn
    · exact absurd (newGUID_fresh_ms hwf hh0 hl) herr
    · exact ⟨n, hn, hl⟩

/-- `WF` is not an extra assumption about the daemon: it holds for the factory `NewGUIDFactory(node)`
makes (node id range: `Tie.Guid.nodeID_range_checked`) and after every in-horizon history. -/
theorem wf_reachable (node : BitVec 64) (hn : node.toNat < 1024) (clock : List (BitVec 64))
    (hh : ∀ now ∈ clock, InHorizon (tsOf now)) : WF (runSt (fresh node) clock) :=
  runSt_wf _ clock (fresh_wf node hn) hh

/-- **The horizon is real.** Once the clock is 2^41 … 2^42 pseudo-milliseconds past `twepoch`
(≈ 2085-11 … 2158) the packed id is negative, never exceeds a non-negative `lastID`, and `GenerateID`
waits forever: no id is ever reused, and no publish is ever accepted again. (Statement-wise this is
"the publish waits"; it is recorded as a boundary of `released_when_clock_passes`.) -/
theorem beyond_horizon_waits_forever (f : St) (clock : List (BitVec 64)) (hid : 0 ≤ f.lastID.toInt)
    (h : ∀ now ∈ clock, 2 ^ 41 ≤ (tsOf now - twepoch).toNat ∧ (tsOf now - twepoch).toNat < 2 ^ 42) :
    (generateID f clock).2 = none := by
  fun_induction generateID f clock with
  | case1 => rfl
  | case2 f now rest r hok => exact absurd hok (newGUID_beyond hid (h now (List.mem_cons_self ..)))
  | case3 f now rest r herr ih =>
    exact ih (by rw [newGUID_err herr]; exact hid) (List.forall_mem_cons.mp h).2

/-- **Restart / re-creation, partial.** A restarted daemon (or a deleted and re-created topic) gets a
new factory that remembers nothing. HYPOTHESIS (forced, see `restart_unique_full_false`): every clock
reading of the new factory is in a pseudo-millisecond after the old factory's `lastTimestamp` — the
wall clock was not stepped back across the restart, and the restart took more than the rest of the
current pseudo-millisecond. Then every id of the new factory is above every id of the old one. -/
theorem restart_unique_partial (old : St) (hwf : WF old) (clock₁ clock₂ : List (BitVec 64))
    (hh₁ : ∀ now ∈ clock₁, InHorizon (tsOf now)) (hh₂ : ∀ now ∈ clock₂, InHorizon (tsOf now))
    (hmono : ∀ now ∈ clock₂, (runSt old clock₁).lastTs.toNat < (tsOf now).toNat) :
    ∀ x ∈ run old clock₁, ∀ y ∈ run (fresh old.nodeID) clock₂, x.toInt < y.toInt := by
  intro x hx y hy
  have h1 := (run_chain old clock₁).2 x (List.mem_cons_of_mem _ hx)
  obtain ⟨now, hnow, s, rfl⟩ := Nsq.Proofs.GuidExtra.run_mem_shape (fresh old.nodeID) clock₂ y hy
  have h2 := later_ms_above (runSt old clock₁) (runSt_wf old clock₁ hwf hh₁) (tsOf now) old.nodeID
    (s &&& 4095#64) hwf.1 (and_mask_lt s) (hh₂ now hnow) (hmono now hnow)
  show x.toInt < (pack (tsOf now) old.nodeID (s &&& 4095#64)).toInt
  omega

/-- The full statement "ids of one topic name are unique across a restart / re-creation, whatever the
clock does" -/
def RestartUniqueFull : Prop :=
  ∀ (node : BitVec 64) (clock₁ clock₂ : List (BitVec 64)),
    ∀ x ∈ run (fresh node) clock₁, ∀ y ∈ run (fresh node) clock₂, x ≠ y

/-- … is false: the same pseudo-millisecond seen by the old and by the new factory (clock stepped back
across the restart, or a topic deleted and re-created within one pseudo-millisecond) yields the same
first id. -/
theorem restart_unique_full_false : ¬ RestartUniqueFull := by
  intro h
  exact h 7#64 [1700000000000000000#64] [1700000000000000000#64]
    (pack (tsOf 1700000000000000000#64) 7#64 0#64) (by decide) _ (by decide) rfl

/-! ## Non-vacuity -/

/-- a factory that handed out an id 2.5 s "in the future" (clock then stepped back by 2.5 s) -/
def steppedBack : St :=
  { nodeID := 517#64, seq := 7#64, lastTs := tsOf 1700000002500000000#64,
    lastID := pack (tsOf 1700000002500000000#64) 517#64 7#64 }

/-- 2000 retries (the clock 2.5 s, then 1.5 s behind): still waiting, state untouched -/
example : generateID steppedBack
    (List.replicate 1000 1700000000000000000#64 ++ List.replicate 1000 1700000001000000000#64)
    = (steppedBack, none) := by
  refine (waits_while_clock_is_behind steppedBack _ ?_).1
  intro now hnow
  simp only [List.mem_append, List.mem_replicate] at hnow
  rcases hnow with ⟨_, rfl⟩ | ⟨_, rfl⟩
  · decide +kernel
  · decide +kernel

example : WF steppedBack := by decide +kernel

/-- behind, behind, then a reading past lastTimestamp: released with sequence 0 of that millisecond -/
example : (generateID steppedBack [1700000000000000000#64, 1700000001000000000#64, 1700000002600000000#64]).2
    = some (pack (tsOf 1700000002600000000#64) 517#64 0#64) := by decide +kernel

example : ∃ f' id, generateID steppedBack [1700000000000000000#64, 1700000002600000000#64] = (f', some id) :=
  released_when_clock_passes _ _ (by decide +kernel)
    (List.forall_mem_cons.mpr ⟨by decide +kernel, List.forall_mem_singleton.mpr (by decide +kernel)⟩)
    ⟨1700000002600000000#64, by decide, by decide +kernel⟩

/-- 2090-01-01: beyond the horizon — a fresh factory never hands out anything -/
example : (generateID (fresh 1#64) [3786912000000000000#64, 3786912000002000000#64]).2 = none :=
  beyond_horizon_waits_forever _ _ (by decide +kernel)
    (List.forall_mem_cons.mpr ⟨by decide +kernel, List.forall_mem_singleton.mpr (by decide +kernel)⟩)

example : (genMany (fresh 3#64) [[1700000000000000000#64], [1700000000000000000#64], [1600000000000000000#64, 1700000000002000000#64]]).1.length = 3 := by
  decide +kernel

example : ∀ x ∈ run (fresh 7#64) [1700000000000000000#64],
    ∀ y ∈ run (fresh 7#64) [1700000000002000000#64, 1700000000002000000#64], x.toInt < y.toInt :=
  restart_unique_partial (fresh 7#64) (fresh_wf _ (by decide)) _ _
    (List.forall_mem_singleton.mpr (by decide +kernel))
    (List.forall_mem_cons.mpr ⟨by decide +kernel, List.forall_mem_singleton.mpr (by decide +kernel)⟩)
    (List.forall_mem_cons.mpr ⟨by decide +kernel, List.forall_mem_singleton.mpr (by decide +kernel)⟩)

end Nsq.Props.C12Clock
