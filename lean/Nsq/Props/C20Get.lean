import Nsq.Proofs.HttpGet
import Nsq.Props.C20Opts
/-!
# C20 — nsq_to_http GET mode: the request target carries the body exactly

`Nsq.Props.C20.http_body_unmodified` says that the model hands `m.body` to `Publish`; it says nothing about what
`GetPublisher.Publish` puts on the wire (`fmt.Sprintf(addr, url.QueryEscape(string(msg)))`). That is stated here,
at byte level, on `Nsq.Model.HttpGet`:

* `get_escape_roundtrip` — `url.QueryUnescape (url.QueryEscape body) = body` for every byte string: the destination
  recovers the body byte-exactly;
* `get_escape_alphabet` — the escaped body consists of unreserved characters, `+` and `%` only, so it cannot end the
  query parameter it is placed in (`&`, `#`, `=`, space, … never occur);
* `get_endpoint_clean` — for a *clean* template (every `%` belongs to the single `%s` or to a `%%`) the request target
  is `prefix ++ queryEscape body ++ suffix` with prefix and suffix fixed by the template (`%%` collapsed to `%`);
* `get_body_recoverable` — so the destination, which knows the template, gets the body back exactly;
* `get_main_check_sufficient` — the statement "main()'s check `strings.Count(addr, "%s") == 1` guarantees a clean
  template" is **false** (`get_main_check_sufficient_false`: `/p?d=%s&pct=100%`, `/p?d=%%s`, `/a%20b?d=%s` pass the
  check and are not clean — Go then prints `%!(NOVERB)`, `%!(EXTRA string=…)`, `%!b(string=…)` into the URL):
  open finding `get-template-stray-percent`. Under the hypothesis `cleanTemplate` everything above holds
  (`get_endpoint_clean` is the `_partial` form).
-/
namespace Nsq.Props.C20Get
open Nsq.Model.HttpGet Nsq.Proofs.HttpGet

/-- **Round trip.** What `url.QueryUnescape` makes of `url.QueryEscape body` is `body`, for all bytes. -/
theorem get_escape_roundtrip (body : Bytes) : queryUnescape (queryEscape body) = some body := by
  induction body with
  | nil => rfl
  | cons x xs ih =>
    have : queryEscape (x :: xs) = escapeByte x ++ queryEscape xs := by simp [queryEscape]
    rw [this, unescape_escapeByte, ih]
    rfl

/-- the escaped body uses only unreserved characters, `+` and `%` -/
theorem get_escape_alphabet (body : Bytes) : ∀ c ∈ queryEscape body, unreserved c = true ∨ c = 43 ∨ c = 37 := by
  intro c hc
  simp only [queryEscape, List.mem_flatMap] at hc
  obtain ⟨x, _, hx⟩ := hc
  rcases escapeByte_cases x with ⟨hu, e⟩ | ⟨_, e⟩ | e <;> rw [e] at hx
  · rw [List.mem_singleton.mp hx]; exact Or.inl hu
  · exact Or.inr (Or.inl (List.mem_singleton.mp hx))
  · simp only [List.mem_cons, List.not_mem_nil, or_false] at hx
    rcases hx with rfl | rfl | rfl
    · exact Or.inr (Or.inr rfl)
    · exact Or.inl (hexDigit_unreserved _ (toNat_div_lt x))
    · exact Or.inl (hexDigit_unreserved _ (Nat.mod_lt _ (by decide)))

/-- **Endpoint for a clean template** (hypothesis `cleanTemplate`): the request target is the template's text before
the `%s`, the escaped body, and the template's text after it — nothing else, whatever the body is. -/
theorem get_endpoint_clean (t : Bytes) (hclean : cleanTemplate t = true) :
    ∃ pre suf : Bytes, ∀ body, endpoint t body = some (pre ++ queryEscape body ++ suf) := by
  unfold cleanTemplate at hclean
  cases hs : scan t with
  | none => rw [hs] at hclean; cases hclean
  | some ps =>
    rw [hs] at hclean
    have hn : nargs ps = 1 := by simpa using hclean
    obtain ⟨l1, l2, hl⟩ := (render_split ps).2 hn
    exact ⟨l1, l2, fun body => by simp [endpoint, sprintf1, hs, hn, hl]⟩

/-- **The destination recovers the body**: strip the template's fixed prefix and suffix, unescape. -/
theorem get_body_recoverable (t : Bytes) (hclean : cleanTemplate t = true) :
    ∃ pre suf : Bytes, ∀ body, ∃ mid, endpoint t body = some (pre ++ mid ++ suf) ∧ queryUnescape mid = some body := by
  obtain ⟨pre, suf, h⟩ := get_endpoint_clean t hclean
  exact ⟨pre, suf, fun body => ⟨queryEscape body, h body, get_escape_roundtrip body⟩⟩

/-- an unclean template never yields a modelled endpoint (Go prints `%!…` diagnostics into the URL) -/
theorem get_endpoint_none_iff (t body : Bytes) : endpoint t body = none ↔ cleanTemplate t = false := by
  unfold endpoint sprintf1 cleanTemplate
  cases scan t with
  | none => simp
  | some ps => by_cases h : nargs ps = 1 <;> simp [h]

/-- the reading "main()'s validation guarantees a well-formed request target" -/
def get_main_check_sufficient : Prop := ∀ t : Bytes, mainCheck t = true → cleanTemplate t = true

/-- … is **false**: `/p?d=%s&pct=100%` passes `strings.Count(addr, "%s") == 1` and is not clean. -/
theorem get_main_check_sufficient_false : ¬ get_main_check_sufficient := by
  intro h
  have := h [47, 112, 63, 100, 61, 37, 115, 38, 112, 99, 116, 61, 49, 48, 48, 37] (by decide +kernel)
  revert this
  decide

/-- the hypothesis `naddr ≠ 0` of `http_no_silent_drop` / `http_eventual_delivery_partial` /
`tool_fin_only_after_accept_partial` is discharged by main()'s validation (`--get or --post required`): a started
nsq_to_http has at least one destination address (`posts` POST addresses or `getCounts.length` GET addresses). -/
theorem http_valid_start_has_address (a : Nsq.Model.RelayOpts.HttpArgs) (h : Nsq.Model.RelayOpts.validateHttp a = none) :
    a.posts + a.getCounts.length ≠ 0 := by
  obtain ⟨_, _, _, _, _, hv, _⟩ := Nsq.Props.C20Opts.n2h_starts_only_when_valid a h
  rcases hv with ⟨hp, _⟩ | ⟨_, hg⟩
  · omega
  · have : a.getCounts.length ≠ 0 := fun e => hg (List.length_eq_zero_iff.mp e)
    omega

/-! ### non-vacuity -/

example : Nsq.Model.RelayOpts.validateHttp ⟨true, false, false, false, false, 1, 0, 0, [1], true⟩ = none := by decide   -- one --get
example : Nsq.Model.RelayOpts.validateHttp ⟨true, false, false, false, false, 1, 0, 0, [], true⟩ = some .noDest := by decide +kernel

-- "/p?x=50%%25&d=%s" with body "a b&c" → "/p?x=50%25&d=a+b%26c"
example : endpoint [47, 112, 63, 120, 61, 53, 48, 37, 37, 50, 53, 38, 100, 61, 37, 115] [97, 32, 98, 38, 99] =
    some [47, 112, 63, 120, 61, 53, 48, 37, 50, 53, 38, 100, 61, 97, 43, 98, 37, 50, 54, 99] := by decide +kernel
example : cleanTemplate [47, 112, 63, 120, 61, 53, 48, 37, 37, 50, 53, 38, 100, 61, 37, 115] = true := by decide +kernel
-- bytes 0x00, 0xff, '%', '+', '~' escape to %00 %FF %25 %2B ~
example : queryEscape [0, 255, 37, 43, 126] = [37, 48, 48, 37, 70, 70, 37, 50, 53, 37, 50, 66, 126] := by decide +kernel
example : queryUnescape [37, 48, 48, 37, 70, 70, 37, 50, 53, 37, 50, 66, 126] = some [0, 255, 37, 43, 126] := by decide +kernel
-- the three witnesses of the open finding pass main()'s check and are unclean
example : mainCheck [47, 112, 63, 100, 61, 37, 37, 115] = true ∧ cleanTemplate [47, 112, 63, 100, 61, 37, 37, 115] = false := by decide   -- /p?d=%%s
example : mainCheck [47, 97, 37, 50, 48, 98, 63, 100, 61, 37, 115] = true ∧
    cleanTemplate [47, 97, 37, 50, 48, 98, 63, 100, 61, 37, 115] = false := by decide                                                    -- /a%20b?d=%s
-- and the check is not necessary either: "/p?e=%%s&d=%s" is clean (one operand use) but counts two "%s"
example : cleanTemplate [47, 112, 63, 101, 61, 37, 37, 115, 38, 100, 61, 37, 115] = true ∧
    mainCheck [47, 112, 63, 101, 61, 37, 37, 115, 38, 100, 61, 37, 115] = false := by decide +kernel

end Nsq.Props.C20Get
