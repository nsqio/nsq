import Nsq.Proofs.ToFileLines
import Nsq.Proofs.ToFileNoOverwrite
import Nsq.Tie.ToolsToFile
/-!
# C19, line level — every FINished message owns one whole, durable line

`Nsq.Props.C19.fin_implies_durable` is an *infix* claim: `body ++ "\n"` occurs somewhere in the
fsynced bytes.  It accepts `"rec0\nbodyAbodyB\n"` for a FINished message `bodyB` (a torn tail
`bodyA` left by a writer killed between its two writes, then appended to), three FINished messages
backed by one record, and any newline for an empty body.  The statement here is the one a reader
of the files needs: there is an assignment of the *occurrences* in `finished` (list positions;
duplicate bodies / ids allowed) to `(path, offset)` such that the file holds `body ++ "\n"` at
that offset, the offset is a line start, the record lies inside the fsynced prefix (gzip: of the
payload of closed members), and the byte ranges of different occurrences are pairwise disjoint.

The statement holds whenever the tool never appends behind a torn tail (`Mode`: fix F47 with readable files, `O_EXCL`, or
every file newline-terminated); it is false for plain append mode without F47 and, under F47b, for unreadable files.
-/
namespace Nsq.Props.C19Lines
open Nsq.Model.ToFile Nsq.Proofs.ToFile Nsq.Proofs.ToFileLines

/-- the occurrence `r.m` of a FINished message owns the bytes `[r.off, r.off + |body| + 1)` of the file `r.path`:
the record is there, it starts a line, and it lies inside the fsynced prefix of the decodable bytes -/
def OwnsLine (fs : FS) (r : Rec) : Prop :=
  ∃ f, fs.get r.path = some f ∧
    (f.data.drop r.off).take (line r.m).length = line r.m ∧
    (r.off = 0 ∨ f.data[r.off - 1]? = some 10) ∧
    r.off + (line r.m).length ≤ f.durable

def Apart (a b : Rec) : Prop :=
  a.path = b.path → a.off + (line a.m).length ≤ b.off ∨ b.off + (line b.m).length ≤ a.off

/-- **the line-level safety statement**: one record per occurrence in the FIN log (same order), pairwise apart -/
def LinesSafe (fs : FS) (finished : List Msg) : Prop :=
  ∃ rs : List Rec, rs.map (·.m) = finished ∧ (∀ r ∈ rs, OwnsLine fs r) ∧ rs.Pairwise Apart

theorem ownsLine_of_finOk {fs : FS} {r : Rec} (h : FinOk fs r) : OwnsLine fs r := by
  obtain ⟨f, hg, ⟨a, b, hd, ho, hn⟩, hdur⟩ := h
  refine ⟨f, hg, ?_, ?_, hdur⟩
  · rw [hd, List.append_assoc, List.drop_left' ho, List.take_left' rfl]
  · cases hn with
    | inl h0 => left; rw [← ho, h0]; rfl
    | inr h1 =>
      obtain ⟨x, hx⟩ := h1
      right
      rw [hd, ← ho, hx]
      simp

theorem linesSafe_of_ownRecs {fs : FS} {fin : List Msg} (h : OwnRecs fs fin) : LinesSafe fs fin := by
  obtain ⟨rf, h1, h2, h3⟩ := h
  exact ⟨rf, h1, fun r hr => ownsLine_of_finOk (h2 r hr), h3⟩

/-- what the environment may do besides the tool. `ext`: another process drops a new file (in mode `nlAll` — the
unfixed tree — it must be "\n"-terminated). `extAppend`: another O_APPEND writer of a plain file the tool may have open
(a second router of the same build: `--filename-format` without `<TOPIC>`) — it appends whole records with one
write(2) each, which is what fix F46 (`Cfg.oneWrite`) makes the tool's routers do; the two-write shape is excluded
here because there the *real* interleaving also lands between the model's two write primitives of one event. -/
def EnvOk (c : Cfg) (nlAll : Bool) : Ev → Prop
  | .ext _ data => nlAll = true → nlEnded data
  | .extAppend _ data => c.oneWrite = true ∧ nlEnded data
  | _ => True

theorem evOk_of_envOk {c : Cfg} {nlAll : Bool} {e : Ev} (h : EnvOk c nlAll e) : EvOk nlAll e := by
  cases e with
  | ext _ _ => exact h
  | extAppend _ _ => exact h.2
  | _ => trivial

/-- **FIN implies an own durable line, for every way of never appending behind a torn tail** (`Mode`: fix F47 with
readable files, `O_EXCL`, or every file newline-terminated — then also the initial directory, `nlAll`). -/
theorem fin_owns_line_of_mode {nlAll : Bool} (c : Cfg) (io : Nat → Fault) (hmode : Mode nlAll c io) (fs0 : FS)
    (hfs0 : nlAll = true → ∀ p f, fs0.get p = some f → nlEnded f.content)
    (evs : List (Ev × Bool)) (henv : ∀ e ∈ evs, EnvOk c nlAll e.1) :
    LinesSafe (run c io (init fs0) evs).fs (run c io (init fs0) evs).finished :=
  linesSafe_of_ownRecs (lines_run evs _ hmode (fun e he => evOk_of_envOk (henv e he)) (lines_init nlAll c fs0 hfs0)).own

/-- **FIN implies an own durable line — tree with fix F47.** Every configuration, every initial directory (torn
tails included), every event list, every fault schedule. Hypothesis, guarded by the shape of `sealTornTail`: on the
committed shape (`sealReadWarns = false`: a failed read of the last byte is a fatal exit) there is none; on the F47b
shape (`sealReadWarns = true`: the failed read is a warning and the file is appended to unsealed) every read of a last
byte succeeds — **every existing file the tool appends to is readable by it** (`ReadsOk io`). -/
theorem fin_owns_line_fixed (c : Cfg) (hfix : c.sealsTail = true) (io : Nat → Fault)
    (hrd : c.sealReadWarns = true → ReadsOk io) (fs0 : FS)
    (evs : List (Ev × Bool)) (henv : ∀ e ∈ evs, EnvOk c false e.1) :
    LinesSafe (run c io (init fs0) evs).fs (run c io (init fs0) evs).finished :=
  fin_owns_line_of_mode (nlAll := false) c io (Or.inl ⟨hfix, hrd⟩) fs0 (fun h => by cases h) evs henv

/-- **… committed F47 (/repo efaf20c): unconditional.** Also when files cannot be read (`Fault.rdErr` anywhere in the
schedule): the tool exits before it writes or FINishes anything (`unreadable_torn_file_is_fatal_committed`). -/
theorem fin_owns_line_committed (c : Cfg) (hfix : c.sealsTail = true) (hshape : c.sealReadWarns = false)
    (io : Nat → Fault) (fs0 : FS) (evs : List (Ev × Bool)) (henv : ∀ e ∈ evs, EnvOk c false e.1) :
    LinesSafe (run c io (init fs0) evs).fs (run c io (init fs0) evs).finished :=
  fin_owns_line_fixed c hfix io (fun h => by rw [hshape] at h; cases h) fs0 evs henv

/-- **… F47b (`fixes/F47b_seal_unreadable_file.patch`): partial.** Forced hypothesis `ReadsOk io`: every existing file
the tool re-opens for appending is readable by it. Without it: `fin_owns_line_F47b_full_false`. -/
theorem fin_owns_line_F47b_partial (c : Cfg) (hfix : c.sealsTail = true) (io : Nat → Fault) (hreadable : ReadsOk io)
    (fs0 : FS) (evs : List (Ev × Bool)) (henv : ∀ e ∈ evs, EnvOk c false e.1) :
    LinesSafe (run c io (init fs0) evs).fs (run c io (init fs0) evs).finished :=
  fin_owns_line_fixed c hfix io (fun _ => hreadable) fs0 evs henv

/-- **… without the fix, O_EXCL modes** (gzip or rotate-interval: the tool never re-opens an existing file). -/
theorem fin_owns_line_excl (c : Cfg) (hx : c.excl = true) (io : Nat → Fault) (fs0 : FS)
    (evs : List (Ev × Bool)) (henv : ∀ e ∈ evs, EnvOk c false e.1) :
    LinesSafe (run c io (init fs0) evs).fs (run c io (init fs0) evs).finished :=
  fin_owns_line_of_mode (nlAll := false) c io (Or.inr (Or.inl hx)) fs0 (fun h => by cases h) evs henv

/-- **… without the fix, plain append mode: partial.** Forced hypothesis: every pre-existing file and every file
another process drops is empty or ends in "\n" (no writer ever died inside a record, no short write). Holds for every
shape and every fault schedule — in particular under F47b when files are unreadable (`fin_owns_line_unreadable_partial`). -/
theorem fin_owns_line_partial (c : Cfg) (io : Nat → Fault) (fs0 : FS)
    (hfs0 : ∀ p f, fs0.get p = some f → nlEnded f.content)
    (evs : List (Ev × Bool)) (henv : ∀ e ∈ evs, EnvOk c true e.1) :
    LinesSafe (run c io (init fs0) evs).fs (run c io (init fs0) evs).finished :=
  fin_owns_line_of_mode (nlAll := true) c io (Or.inr (Or.inr rfl)) fs0 (fun _ => hfs0) evs henv

/-- **Restart.** A later run that starts on the directory an earlier run left behind — killed anywhere, also between
the two writes of a record — with the earlier run's FIN log `fin1` (each entry owning its line in `fs1`): with fix F47
everything either run FINished owns its line at the end. Hypothesis guarded by the shape as in `fin_owns_line_fixed`:
none on the committed shape; under F47b the later run can read the files it re-opens (`ReadsOk io`). -/
theorem restart_keeps_lines (c : Cfg) (hfix : c.sealsTail = true) (io : Nat → Fault)
    (hrd : c.sealReadWarns = true → ReadsOk io) (fs1 : FS) (fin1 : List Msg)
    (h1 : OwnRecs fs1 fin1) (evs : List (Ev × Bool)) (henv : ∀ e ∈ evs, EnvOk c false e.1) :
    LinesSafe (run c io { init fs1 with finished := fin1 } evs).fs
      (run c io { init fs1 with finished := fin1 } evs).finished :=
  linesSafe_of_ownRecs (lines_run evs _ (Or.inl ⟨hfix, hrd⟩) (fun e he => evOk_of_envOk (henv e he))
    (lines_init_fin false c fs1 fin1 h1 (fun h => by cases h))).own

/-- **Un-FINished messages.** While the tool runs, every written message not yet FINished owns a line too — durable
already, or visible through the open descriptor — apart from every other record (so the FINs after the next `Sync()`
acknowledge distinct lines). Hypothesis guarded by the shape as in `fin_owns_line_fixed` (F47b: `ReadsOk io`). -/
theorem pending_owns_line_fixed (c : Cfg) (hfix : c.sealsTail = true) (io : Nat → Fault)
    (hrd : c.sealReadWarns = true → ReadsOk io) (fs0 : FS)
    (evs : List (Ev × Bool)) (henv : ∀ e ∈ evs, EnvOk c false e.1)
    (hrun : (run c io (init fs0) evs).status = .running) :
    ∃ rf rp : List Rec, rf.map (·.m) = (run c io (init fs0) evs).finished ∧
      rp.map (·.m) = (run c io (init fs0) evs).pending ∧
      (∀ r ∈ rf, OwnsLine (run c io (init fs0) evs).fs r) ∧
      (∀ r ∈ rp, FinOk (run c io (init fs0) evs).fs r ∨ OpenOk c.gzip (run c io (init fs0) evs) r) ∧
      (rp ++ rf).Pairwise Apart := by
  obtain ⟨rf, rp, a, b, d, e, f⟩ := (lines_run evs _ (Or.inl ⟨hfix, hrd⟩) (fun e he => evOk_of_envOk (henv e he))
    (lines_init false c fs0 (fun h => by cases h))).pending_own hrun
  exact ⟨rf, rp, a, b, fun r hr => ownsLine_of_finOk (d r hr), e, f⟩

/-! ### the unconditional statement is false on the unfixed tree -/

/-- the full statement: no hypothesis on the directory, no foreign activity at all -/
def FinOwnsLineFull (c : Cfg) : Prop :=
  ∀ (io : Nat → Fault) (fs0 : FS) (evs : List (Ev × Bool)), (∀ e ∈ evs, e.1.isExt = false) →
    LinesSafe (run c io (init fs0) evs).fs (run c io (init fs0) evs).finished

/-- plain append mode as shipped: no gzip, no rotation, no work dir, max-in-flight 1, two writes, no sealing -/
def cfgAppend : Cfg := ⟨false, 0, 0, false, false, 1, false, false, false, false, false⟩
def noFault : Nat → Fault := fun _ => .ok
def pT : Path := ⟨true, "t", 0⟩
def mA : Msg := ⟨1, [65]⟩
def mB : Msg := ⟨2, [66]⟩
/-- the directory a run killed between `Write(body)` and `Write("\n")` of message `A` leaves behind -/
def fsTorn : FS := FS.empty.set pT ⟨[65], [], 1⟩
def evB : List (Ev × Bool) := [(.msg mB 0 "t", false)]

/-- the model does leave that directory: SIGKILL before the second write primitive of the record -/
example : ((run cfgAppend (fun k => if k = 2 then .kill else .ok) (init FS.empty) [(.msg mA 0 "t", false)]).fs.get pT).map (·.data)
      = some [65]
    ∧ (run cfgAppend (fun k => if k = 2 then .kill else .ok) (init FS.empty) [(.msg mA 0 "t", false)]).status = .killed := by
  decide

/-- **torn-tail append**: the next run appends behind the torn tail and FINishes `B`; the file reads `"AB\n"` -/
theorem torn_tail_append_witness :
    (run cfgAppend noFault (init fsTorn) evB).finished = [mB] ∧
    (run cfgAppend noFault (init fsTorn) evB).fs.get pT = some ⟨[65, 66, 10], [], 3⟩ ∧
    (run cfgAppend noFault (init fsTorn) evB).fs.dom = [pT, pT, pT, pT] := by decide +kernel

theorem domOk_fsTorn : DomOk fsTorn := by
  intro p hp
  by_cases e : p = pT
  · subst e; simp [fsTorn, FS.set]
  · simp [fsTorn, FS.set, FS.empty, e] at hp

/-- The witnesses compute `fs.dom` of their run; no name outside `dom` exists (`NoOv.dom`), so a `dom` of `pT`s means that
`pT` is the only file. -/
theorem only_pT {c : Cfg} {io : Nat → Fault} {fs0 : FS} {evs : List (Ev × Bool)} (hwf : c.WF) (hd0 : DomOk fs0)
    (hdom : ∀ q ∈ (run c io (init fs0) evs).fs.dom, q = pT) :
    ∀ p, (run c io (init fs0) evs).fs.get p ≠ none → p = pT :=
  fun p hp => hdom p ((noOv_run hwf io evs _ (noOv_init c fs0 hd0)).dom p hp)

/-- where `pT` is the only file, the record of the first FINished message lies in it -/
theorem first_rec_in_pT {fs : FS} {f : File} {m : Msg} {rest : List Msg} (hget : fs.get pT = some f)
    (honly : ∀ p, fs.get p ≠ none → p = pT) (h : LinesSafe fs (m :: rest)) :
    ∃ off, (f.data.drop off).take (line m).length = line m ∧ (off = 0 ∨ f.data[off - 1]? = some 10) := by
  obtain ⟨rs, hm, hv, _⟩ := h
  cases rs with
  | nil => simp at hm
  | cons r rs' =>
    simp only [List.map_cons, List.cons.injEq] at hm
    obtain ⟨g, hg, hrec, hstart, _⟩ := hv r (List.mem_cons_self ..)
    rw [honly r.path (by rw [hg]; simp), hget] at hg
    cases hg
    exact ⟨r.off, hm.1 ▸ hrec, hstart⟩

theorem ab_file_not_safe (fs : FS) (hget : fs.get pT = some ⟨[65, 66, 10], [], 3⟩)
    (honly : ∀ p, fs.get p ≠ none → p = pT) : ¬ LinesSafe fs [mB] := by
  intro h
  obtain ⟨off, hrec, hstart⟩ := first_rec_in_pT hget honly h
  simp only [mB, line] at hrec
  match off with
  | 0 => simp at hrec
  | 1 => simp at hstart
  | n + 2 =>
    have := congrArg List.length hrec
    simp at this
    omega

/-- `B` is FINished but owns no line: the only file is `"AB\n"` and `"B\n"` does not start a line in it -/
theorem torn_tail_append_not_safe :
    ¬ LinesSafe (run cfgAppend noFault (init fsTorn) evB).fs (run cfgAppend noFault (init fsTorn) evB).finished := by
  obtain ⟨hfin, hget, hdom⟩ := torn_tail_append_witness
  rw [hfin]
  exact ab_file_not_safe _ hget (only_pT (Or.inr (by decide +kernel)) domOk_fsTorn (by rw [hdom]; simp))

/-- **the full statement is false for the shipped shape** (plain append mode, no fix F47) -/
theorem fin_owns_line_full_false : ¬ FinOwnsLineFull cfgAppend :=
  fun h => torn_tail_append_not_safe (h noFault fsTorn evB (by decide))

/-- … and with fix F47 — in both accepted shapes of `sealTornTail` — the same run (the file is readable) seals the torn
tail first: the file reads `"A\nB\n"`, `B` owns the second line -/
theorem torn_tail_sealed_with_F47 (w : Bool) :
    (run { cfgAppend with sealsTail := true, sealReadWarns := w } noFault (init fsTorn) evB).finished = [mB] ∧
    (run { cfgAppend with sealsTail := true, sealReadWarns := w } noFault (init fsTorn) evB).fs.get pT
      = some ⟨[65, 10, 66, 10], [], 4⟩ ∧
    LinesSafe (run { cfgAppend with sealsTail := true, sealReadWarns := w } noFault (init fsTorn) evB).fs
      (run { cfgAppend with sealsTail := true, sealReadWarns := w } noFault (init fsTorn) evB).finished :=
  ⟨by cases w <;> decide, by cases w <;> decide,
   fin_owns_line_fixed _ rfl noFault (fun _ t => by simp [noFault]) fsTorn evB
     (fun e he => by simp [evB] at he; subst he; trivial)⟩

/-! ### the file cannot be read (write-only file, drop-box permissions) — committed F47 vs. follow-up F47b -/

/-- every existing file is unreadable: each read of a last byte fails (all other calls succeed) -/
def unreadable : Nat → Fault := fun _ => .rdErr
/-- plain append mode on the tree with F46 + F47, `sealTornTail` as committed -/
def cfgCommitted : Cfg := { cfgAppend with oneWrite := true, sealsTail := true }
/-- … and with the follow-up F47b -/
def cfgWarns : Cfg := { cfgCommitted with sealReadWarns := true }

/-- **committed F47, unreadable torn file `"A"`, message `"B"`**: the tool exits (`os.Exit(1)` in `updateFile`), nothing
is FINished, the file is unchanged (so `fin_owns_line_committed` has nothing to excuse) -/
theorem unreadable_torn_file_is_fatal_committed :
    (run cfgCommitted unreadable (init fsTorn) evB).status = .fatalExit ∧
    (run cfgCommitted unreadable (init fsTorn) evB).finished = [] ∧
    (run cfgCommitted unreadable (init fsTorn) evB).fs.get pT = some ⟨[65], [], 1⟩ := by decide +kernel

/-- **F47b, the same scenario**: warning, the record is appended to the torn tail: the file reads `"AB\n"`, `B` is
FINished, the tool keeps running -/
theorem unreadable_torn_file_witness :
    (run cfgWarns unreadable (init fsTorn) evB).status = .running ∧
    (run cfgWarns unreadable (init fsTorn) evB).finished = [mB] ∧
    (run cfgWarns unreadable (init fsTorn) evB).fs.get pT = some ⟨[65, 66, 10], [], 3⟩ ∧
    (run cfgWarns unreadable (init fsTorn) evB).fs.dom = [pT, pT, pT] := by decide +kernel

theorem unreadable_torn_file_not_safe :
    ¬ LinesSafe (run cfgWarns unreadable (init fsTorn) evB).fs (run cfgWarns unreadable (init fsTorn) evB).finished := by
  obtain ⟨_, hfin, hget, hdom⟩ := unreadable_torn_file_witness
  rw [hfin]
  exact ab_file_not_safe _ hget (only_pT (Or.inr (by decide +kernel)) domOk_fsTorn (by rw [hdom]; simp))

/-- **under F47b the unconditional statement is false**: without `ReadsOk` the torn tail of an unreadable file is
appended to (what F47b deliberately trades for not dying on a write-only file) -/
theorem fin_owns_line_F47b_full_false : ¬ FinOwnsLineFull cfgWarns :=
  fun h => unreadable_torn_file_not_safe (h unreadable fsTorn evB (by decide))

/-- … while for the committed shape it is true (`FinOwnsLineFull` has no foreign activity, so `EnvOk` is trivial) -/
theorem fin_owns_line_committed_full (c : Cfg) (hfix : c.sealsTail = true) (hshape : c.sealReadWarns = false) :
    FinOwnsLineFull c := by
  intro io fs0 evs hne
  apply fin_owns_line_committed c hfix hshape io fs0 evs
  intro e he
  have := hne e he
  cases hev : e.1 with
  | ext p d => rw [hev] at this; cases this
  | extAppend p d => rw [hev] at this; cases this
  | _ => trivial

/-- **what still holds under F47b when files are unreadable** (any fault schedule, `unreadable` included): if every
pre-existing file and every file another process drops is empty or ends in "\n", every FINished message owns its line.
Instance of `fin_owns_line_partial`; together with `fin_owns_line_F47b_partial` the hypothesis of the tree's guarantee
reads: *every existing file the tool appends to is readable by it, or is empty / newline-terminated*. -/
theorem fin_owns_line_unreadable_partial (c : Cfg) (_hshape : c.sealReadWarns = true) (io : Nat → Fault) (fs0 : FS)
    (hfs0 : ∀ p f, fs0.get p = some f → nlEnded f.content)
    (evs : List (Ev × Bool)) (henv : ∀ e ∈ evs, EnvOk c true e.1) :
    LinesSafe (run c io (init fs0) evs).fs (run c io (init fs0) evs).finished :=
  fin_owns_line_partial c io fs0 hfs0 evs henv

/-! ### two routers, one plain file (`--filename-format` without `<TOPIC>`) -/

/-- the other router's appends, seen from this router. Unfixed build: its body and its "\n" are two write(2) calls -/
def evShared : List (Ev × Bool) :=
  [(.msg mA 0 "t", false),              -- this router opens the file, writes "A", "\n", fsyncs, FINishes A
   (.extAppend pT [67], false),         -- the other router writes the body "C" of its message
   (.msg mB 0 "t", false),              -- this router writes "B", "\n", fsyncs, FINishes B
   (.extAppend pT [10], false)]         -- the other router's "\n"

/-- **two unfixed routers tear each other's records** (also with fix F47 alone): the file reads `"A\nCB\n\n"`, `B` is
FINished and `"B\n"` does not start a line. The other router is the same build, so its appends are *not* whole records
(`EnvOk` fails for them). -/
theorem shared_file_unfixed_witness :
    (run { cfgAppend with sealsTail := true } noFault (init FS.empty) evShared).finished = [mB, mA] ∧
    (run { cfgAppend with sealsTail := true } noFault (init FS.empty) evShared).fs.get pT =
      some ⟨[65, 10, 67, 66, 10, 10], [], 5⟩ ∧
    ¬ EnvOk { cfgAppend with sealsTail := true } false (.extAppend pT [67]) := by
  refine ⟨by decide, by decide, ?_⟩
  intro h
  exact absurd h.1 (by decide +kernel)

/-- **with fix F46 the line-level statement survives a second writer**: every router writes each record with one
O_APPEND write(2), so what the other router appends is a sequence of whole records (`EnvOk`), and with F47 (or O_EXCL,
where files are never shared) every FINished message owns its line. Instance of `fin_owns_line_fixed`, with its
shape-guarded hypothesis (F47b: `ReadsOk io`, the shared file is readable by this router). -/
theorem shared_file_lines_fixed (c : Cfg) (h46 : c.oneWrite = true) (h47 : c.sealsTail = true) (io : Nat → Fault)
    (hrd : c.sealReadWarns = true → ReadsOk io) (fs0 : FS) (evs : List (Ev × Bool))
    (henv : ∀ e ∈ evs, match e.1 with
      | .extAppend _ d => nlEnded d
      | _ => True) :
    LinesSafe (run c io (init fs0) evs).fs (run c io (init fs0) evs).finished := by
  apply fin_owns_line_fixed c h47 io hrd fs0 evs
  intro e he
  have := henv e he
  cases hev : e.1 with
  | extAppend p d => rw [hev] at this; exact ⟨h46, this⟩
  | ext p d => intro hh; cases hh
  | _ => trivial

/-- the configuration of THIS tree: whatever the operator's options `c`, the three shape parameters are the Bools
computed from the regenerated skeletons of `router()` / `updateFile()` / `sealTornTail()` (`Tie.ToolsToFile.routerOneWrite`,
`updateFileSeals`, `sealReadWarns`) -/
def treeCfg (c : Cfg) : Cfg :=
  { c with oneWrite := Nsq.Tie.ToolsToFile.routerOneWrite, sealsTail := Nsq.Tie.ToolsToFile.updateFileSeals,
           sealReadWarns := Nsq.Tie.ToolsToFile.sealReadWarns }

theorem shape_irrelevant (c : Cfg) (a b d : Bool) :
    (c.WF → Cfg.WF { c with oneWrite := a, sealsTail := b, sealReadWarns := d }) ∧
    Cfg.excl { c with oneWrite := a, sealsTail := b, sealReadWarns := d } = c.excl ∧
    Cfg.workDir { c with oneWrite := a, sealsTail := b, sealReadWarns := d } = c.workDir :=
  ⟨id, rfl, rfl⟩

/-- An equation of configurations, proved by rewriting with the tie theorems, so that no later proof makes the unifier
evaluate the regenerated tables. -/
theorem treeCfg_eq (c : Cfg) : treeCfg c = { c with oneWrite := true, sealsTail := true, sealReadWarns := true } := by
  rw [treeCfg, Nsq.Tie.ToolsToFile.tree_one_write, Nsq.Tie.ToolsToFile.tree_seals_tail,
    Nsq.Tie.ToolsToFile.tree_seal_read_warns]

/-- **THIS tree** (F46 = /repo 85f4c48, F47 = /repo efaf20c and F47b = /repo 73f7348 are committed): the ties
accept only the fixed skeletons of `router()` / `updateFile()` / `sealTornTail()` and decide all three Bools `true`
(`tree_one_write`, `tree_seals_tail`, `tree_seal_read_warns`). For every option set, every initial directory (torn tails
included), every event list in which other writers append whole records, and every fault schedule **in which every
existing file the tool re-opens for appending is readable by it** (`ReadsOk io`), every FINished message owns a line.
*Partial*: the hypothesis is forced — without it the statement is false on this tree (`fin_owns_line_F47b_full_false`:
unreadable torn `"A"` + message `"B"` → `"AB\n"`, `B` FINished, the operator is warned); for unreadable files that are
empty / newline-terminated: `fin_owns_line_unreadable_partial`.
A tree that reverts F46, F47 or F47b fails `tree_one_write` / `tree_seals_tail` / `tree_seal_read_warns` and this theorem
with it. -/
theorem fin_owns_line_this_tree_partial (c : Cfg) (io : Nat → Fault)
    (hreadable : ReadsOk io) (fs0 : FS) (evs : List (Ev × Bool))
    (henv : ∀ e ∈ evs, match e.1 with
      | .extAppend _ d => nlEnded d
      | _ => True) :
    LinesSafe (run (treeCfg c) io (init fs0) evs).fs (run (treeCfg c) io (init fs0) evs).finished := by
  rw [treeCfg_eq]
  exact shared_file_lines_fixed _ rfl rfl io (fun _ => hreadable) fs0 evs henv

/-! ### non-vacuity -/

/-- the tree's configuration of the plain-append options is the fully fixed one, in the F47b shape -/
example : treeCfg cfgAppend = cfgWarns := treeCfg_eq cfgAppend
/-- … so the full statement is false for the tree's configuration: the hypothesis of `…_this_tree_partial` is forced -/
example : ¬ FinOwnsLineFull (treeCfg cfgAppend) := by
  rw [treeCfg_eq]; exact fin_owns_line_F47b_full_false
/-- the hypotheses of `fin_owns_line_this_tree_partial` / `fin_owns_line_F47b_partial` are satisfiable (a schedule with stops and
write errors but no read error) and `ReadsOk` is what the F47b witness violates -/
example : ReadsOk noFault ∧ ReadsOk (fun k => if k = 2 then .kill else if k = 5 then .err else .ok) ∧ ¬ ReadsOk unreadable :=
  ⟨fun t => by simp [noFault], fun t => by show (if t = 2 then Fault.kill else if t = 5 then Fault.err else Fault.ok) ≠ .rdErr; (repeat' split) <;> simp, fun h => h 0 rfl⟩
/-- `fin_owns_line_committed` / `fin_owns_line_F47b_partial` / `fin_owns_line_unreadable_partial`: their configurations -/
example : cfgCommitted.sealsTail = true ∧ cfgCommitted.sealReadWarns = false ∧ cfgWarns.sealsTail = true ∧
    cfgWarns.sealReadWarns = true ∧ cfgWarns.excl = false := by decide +kernel
/-- F47b on an unreadable but newline-terminated file: appended to unsealed, and that is fine -/
example : (run cfgWarns unreadable (init (FS.empty.set pT ⟨[65, 10], [], 2⟩)) evB).finished = [mB] ∧
    (run cfgWarns unreadable (init (FS.empty.set pT ⟨[65, 10], [], 2⟩)) evB).fs.get pT = some ⟨[65, 10, 66, 10], [], 4⟩ := by
  decide
/-- F47b on a readable torn file with a failing WRITE of the newline: fatal in both shapes, nothing FINished -/
example : (run cfgWarns (fun k => if k = 1 then .err else .ok) (init fsTorn) evB).status = .fatalExit ∧
    (run cfgWarns (fun k => if k = 1 then .err else .ok) (init fsTorn) evB).finished = [] ∧
    (run cfgCommitted (fun k => if k = 1 then .err else .ok) (init fsTorn) evB).status = .fatalExit := by decide +kernel
/-- an unreadable EMPTY file is not read at all (`f.filesize > 0`): no exit on the committed shape -/
example : (run cfgCommitted unreadable (init (FS.empty.set pT ⟨[], [], 0⟩)) evB).finished = [mB] := by decide +kernel
/-- restart / pending / shared-file theorems: their guarded hypothesis is dischargeable on both shapes -/
example : (cfgCommitted.sealReadWarns = true → ReadsOk unreadable) ∧ (cfgWarns.sealReadWarns = true → ReadsOk noFault) :=
  ⟨fun h => by simp [cfgCommitted, cfgAppend] at h, fun _ t => by simp [noFault]⟩

def cfgFixed : Cfg := cfgCommitted
/-- whole-record interleaving of two fixed routers: `"C\n"` by the other router, `"B\n"` by this one, `"D\n"` … -/
def evSharedFixed : List (Ev × Bool) :=
  [(.ext pT [], false), (.extAppend pT [67, 10], false), (.msg mB 0 "t", false), (.extAppend pT [68, 10], false),
   (.msg mA 0 "t", false)]
example : (run cfgFixed noFault (init FS.empty) evSharedFixed).finished = [mA, mB] ∧
    ((run cfgFixed noFault (init FS.empty) evSharedFixed).fs.get pT).map (·.data) =
      some [67, 10, 66, 10, 68, 10, 65, 10] := by decide +kernel
example : ∀ e ∈ evSharedFixed, EnvOk cfgFixed false e.1 := by
  intro e he
  simp only [evSharedFixed, List.mem_cons, List.mem_nil_iff, or_false] at he
  rcases he with rfl | rfl | rfl | rfl | rfl
  · intro h; cases h
  · exact ⟨rfl, Or.inr ⟨[67], rfl⟩⟩
  · trivial
  · exact ⟨rfl, Or.inr ⟨[68], rfl⟩⟩
  · trivial
/-- `LinesSafe` is not `True`: one record cannot back two FINished occurrences (the infix `Safe` accepted this) -/
example : ¬ LinesSafe (FS.empty.set pT ⟨[66, 10], [], 2⟩) [mB, ⟨3, [66]⟩] := by
  intro ⟨rs, hm, hv, hp⟩
  match rs, hm with
  | [r1, r2], hm =>
    simp only [List.map_cons, List.map_nil, List.cons.injEq, and_true] at hm
    obtain ⟨f1, hg1, hrec1, _, _⟩ := hv r1 (by simp)
    obtain ⟨f2, hg2, hrec2, _, _⟩ := hv r2 (by simp)
    have hp1 : r1.path = pT := by
      by_cases e : r1.path = pT
      · exact e
      · simp [FS.set, FS.empty, e] at hg1
    have hp2 : r2.path = pT := by
      by_cases e : r2.path = pT
      · exact e
      · simp [FS.set, FS.empty, e] at hg2
    rw [hp1] at hg1; rw [hp2] at hg2
    simp at hg1 hg2
    subst hg1; subst hg2
    rw [hm.1] at hrec1; rw [hm.2] at hrec2
    have o1 : r1.off = 0 := by
      match h : r1.off with
      | 0 => rfl
      | n + 1 => rw [h] at hrec1; have := congrArg List.length hrec1; simp [line, mB] at this; omega
    have o2 : r2.off = 0 := by
      match h : r2.off with
      | 0 => rfl
      | n + 1 => rw [h] at hrec2; have := congrArg List.length hrec2; simp [line] at this; omega
    have hap := (List.pairwise_cons.mp hp).1 r2 (by simp) (by rw [hp1, hp2])
    rw [o1, o2, hm.1, hm.2] at hap
    simp [line, mB] at hap
  | [], hm => simp at hm
  | [_], hm => simp at hm
  | _ :: _ :: _ :: _, hm => simp at hm
/-- an empty body needs its own "\n" at a line start: the "\n" that ends another record does not count -/
example : ¬ OwnsLine (FS.empty.set pT ⟨[66, 10], [], 2⟩) ⟨⟨4, []⟩, pT, 1⟩ := by
  intro ⟨f, hg, _, hstart, _⟩
  simp at hg; subst hg
  simp at hstart
/-- the hypothesis of `fin_owns_line_partial` is satisfiable and is what the witness violates -/
example : ∀ p f, (FS.empty.set pT ⟨[65, 10], [], 2⟩).get p = some f → nlEnded f.content := by
  intro p f h
  by_cases e : p = pT
  · subst e; simp at h; subst h; exact Or.inr ⟨[65], rfl⟩
  · simp [FS.set, FS.empty, e] at h
example : ¬ nlEnded (File.content ⟨[65], [], 1⟩) := by
  intro h
  cases h with
  | inl h => simp [File.content] at h
  | inr h =>
    obtain ⟨a, ha⟩ := h
    have h2 := congrArg List.getLast? ha
    simp [File.content] at h2
example : cfgAppend.excl = false ∧ (⟨true, 0, 0, false, false, 1, true, false, false, false, false⟩ : Cfg).excl = true := by decide +kernel

end Nsq.Props.C19Lines
