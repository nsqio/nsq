/-
C01 — liveness as theorems under EXPLICIT fairness hypotheses.

`Nsq.Props.C01` proves safety (nothing but FIN / Empty / sampling / an ephemeral overflow removes a
message) and enabledness.  Here an infinite schedule `Exec` of the channel model (any operation at
any time — atomic ops, the FIN and pump micro-steps, rejected observations stutter) is given and
three step classes are assumed to be scheduled fairly, per message id:

* `FairScanInFlight` — weak fairness of the scan tick with `t ≥ deadline`: while the message stays
  in flight, a `scanInFlight t` with `deadline ≤ t` eventually runs (time advances and
  `queueScanLoop` reaches the channel: the tick-count side of that is `Nsq.Props.C04Live`);
* `FairScanDeferred` — the same for the deferred heap;
* `FairTake` — strong fairness of the consumer pumps towards this message: if infinitely often the
  message is queued while some consumer's guard (`IsReadyForMessages`) holds, it is eventually taken
  off the queue (the queue is a bag in the model: Go's `select` between memory and disk decides
  which message a pump receives — "no message is overtaken forever" is exactly this hypothesis);
* `ReadyInfOften` — the consumers' side: infinitely often some consumer is ready.

Nothing else is assumed: no invariant (only `gone_is_removed` asks for `Inv 0` at the start), no restriction on what
publishers, consumers, scans, pause, Empty do in between.  The fairness hypotheses are NOT discharged for the Go runtime (scheduler,
timers): they are named in the evidence as assumptions.
-/
import Nsq.Proofs.ChanLive
import Nsq.Proofs.ChanCount
import Nsq.Props.C02
namespace Nsq.Props.C01Live
open Nsq.Model.Chan Nsq.Proofs.Chan Nsq.Proofs.ChanLive

variable {conf : Conf}

def Queued (c : Chan) (id : Nat) : Prop := locOf c id = some .queued
def InFlight (c : Chan) (id : Nat) : Prop := ∃ k p d, locOf c id = some (.inflight k p d)
def Deferred (c : Chan) (id : Nat) : Prop := ∃ p, locOf c id = some (.deferred p)
/-- the channel owns the message (queue, in flight — to whomever —, deferred) -/
def Located (c : Chan) (id : Nat) : Prop := locOf c id ≠ none
def Gone (c : Chan) (id : Nat) : Prop := locOf c id = none

def DeliveredAt (ex : Exec conf) (id j : Nat) : Prop :=
  ∃ k att, (ex.st (j + 1)).hist = Ev.deliver k id att :: (ex.st j).hist

def FairScanInFlight (ex : Exec conf) (id : Nat) : Prop :=
  ∀ n, ∃ m, n ≤ m ∧ (¬ InFlight (ex.st m) id ∨
    ∃ t k p d, ex.ops m = .scanInFlight t ∧ locOf (ex.st m) id = some (.inflight k p d) ∧ p ≤ t)

def FairScanDeferred (ex : Exec conf) (id : Nat) : Prop :=
  ∀ n, ∃ m, n ≤ m ∧ (¬ Deferred (ex.st m) id ∨
    ∃ t p, ex.ops m = .scanDeferred t ∧ locOf (ex.st m) id = some (.deferred p) ∧ p ≤ t)

def TakeEnabled (c : Chan) (id : Nat) : Prop :=
  Queued c id ∧ ∃ cl ∈ c.clients, ready c.paused cl = true

def Taken (ex : Exec conf) (id m : Nat) : Prop := Queued (ex.st m) id ∧ ¬ Queued (ex.st (m + 1)) id

def FairTake (ex : Exec conf) (id : Nat) : Prop :=
  (∀ n, ∃ m, n ≤ m ∧ TakeEnabled (ex.st m) id) → ∀ n, ∃ m, n ≤ m ∧ Taken ex id m

def ReadyInfOften (ex : Exec conf) : Prop :=
  ∀ n, ∃ m, n ≤ m ∧ ∃ cl ∈ (ex.st m).clients, ready (ex.st m).paused cl = true

/-- along any schedule the location of any message moves along the graph
`none → queued|deferred`, `queued → in flight|none`, `in flight → *`, `deferred → queued|none`,
and it leaves `queued` for `in flight` only in a step that records its delivery -/
theorem location_moves (ex : Exec conf) (id n : Nat) :
    Move (DeliveredAt ex id n) (locOf (ex.st n) id) (locOf (ex.st (n + 1)) id) := by
  have := step_move conf (ex.st n) (ex.ops n) id
  rw [← ex.next n] at this
  exact this

/-- what "taken off the queue" can be: a delivery (event recorded, message in flight) or the
message is gone (sampled out by a sampling consumer, or `Channel.Empty`) -/
theorem taken_is_delivery_or_drop (ex : Exec conf) (id m : Nat) (h : Taken ex id m) :
    DeliveredAt ex id m ∨ Gone (ex.st (m + 1)) id := by
  obtain ⟨hq, hn⟩ := h
  exact (Move.of_queued (hq ▸ location_moves ex id m)).resolve_left hn

/-- a scan tick at/after the deadline releases the message: it is queued again (or dropped by the
full queue of an `#ephemeral` channel) — whoever held it, connected or not -/
theorem scanInFlight_releases (ex : Exec conf) (id m : Nat) {t : Int} {k : Nat} {p d : Int}
    (hop : ex.ops m = .scanInFlight t) (hl : locOf (ex.st m) id = some (.inflight k p d)) (hp : p ≤ t) :
    Queued (ex.st (m + 1)) id ∨ Gone (ex.st (m + 1)) id := by
  rw [ex.next m, hop]
  exact scanInFlight_releases_due conf hl hp

theorem scanDeferred_releases (ex : Exec conf) (id m : Nat) {t : Int} {p : Int}
    (hop : ex.ops m = .scanDeferred t) (hl : locOf (ex.st m) id = some (.deferred p)) (hp : p ≤ t) :
    Queued (ex.st (m + 1)) id ∨ Gone (ex.st (m + 1)) id := by
  rw [ex.next m, hop]
  exact scanDeferred_releases_due conf hl hp

/-- **C01 liveness.** Under the three fairness hypotheses and `ReadyInfOften`, a message the channel owns at time `n`
— queued in memory or on disk, in flight to anyone (connected or vanished), deferred — is
delivered by some LATER step `j ≥ n`, unless the channel ceases to own it (the only ways, by
`C01.nothing_else_removes`: an accepted FIN of its holder, `Empty`, client sampling, the overflow of
an `#ephemeral` queue). In particular an unanswered, requeued or timed-out message IS delivered
again. -/
theorem eventually_delivered (ex : Exec conf) (id : Nat)
    (hI : FairScanInFlight ex id) (hD : FairScanDeferred ex id) (hT : FairTake ex id) (hR : ReadyInfOften ex)
    {n : Nat} (h : Located (ex.st n) id) :
    ∃ j, n ≤ j ∧ (DeliveredAt ex id j ∨ Gone (ex.st (j + 1)) id) := by
  exact trace_eventually_delivered (loc := fun m => locOf (ex.st m) id) (D := DeliveredAt ex id)
    (R := fun m => ∃ cl ∈ (ex.st m).clients, ready (ex.st m).paused cl = true) (location_moves ex id)
    hI (fun m ⟨_, _, _, _, hop, hl, hp⟩ => scanInFlight_releases ex id m hop hl hp)
    hD (fun m ⟨_, _, hop, hl, hp⟩ => scanDeferred_releases ex id m hop hl hp) hT hR h

/-- "keeps being redelivered until …": either the channel ceases to own the message at some
point, or it is delivered again and again, for ever -/
theorem redelivered_until_gone (ex : Exec conf) (id : Nat)
    (hI : FairScanInFlight ex id) (hD : FairScanDeferred ex id) (hT : FairTake ex id) (hR : ReadyInfOften ex)
    {n : Nat} (_h : Located (ex.st n) id) :
    (∃ m, n ≤ m ∧ Gone (ex.st m) id) ∨ ∀ n', n ≤ n' → ∃ j, n' ≤ j ∧ DeliveredAt ex id j := by
  by_cases hg : ∃ m, n ≤ m ∧ Gone (ex.st m) id
  · exact Or.inl hg
  · right
    intro n' hn'
    have hloc : Located (ex.st n') id := fun hx => hg ⟨n', hn', hx⟩
    obtain ⟨j, hj, h'⟩ := eventually_delivered ex id hI hD hT hR hloc
    rcases h' with h' | h'
    · exact ⟨j, hj, h'⟩
    · exact absurd ⟨j + 1, by omega, h'⟩ hg

theorem exec_inv (ex : Exec conf) (h0 : Inv 0 (ex.st 0)) (n : Nat) : Inv 0 (ex.st n) := by
  induction n with
  | zero => exact h0
  | succ n ih => rw [ex.next n]; exact C02.inv_step conf ih (ex.ops n)

/-- … and "gone" means removed by one of the four removal events of `C01.ledger` — never by a
timeout, a REQ, a TOUCH, a disconnect, pause or a full memory queue of a durable channel -/
theorem gone_is_removed (ex : Exec conf) (h0 : Inv 0 (ex.st 0)) (id m : Nat)
    (hf : id ∈ fannedIds (ex.st m).hist) (hg : Gone (ex.st m) id) :
    ∃ ev ∈ (ex.st m).hist, removedIn ev id = true :=
  removed_of_fanned (exec_inv ex h0 m) hf (findE_none (Option.map_eq_none_iff.1 hg))

/-! ### non-vacuity: a concrete fair schedule

`exOpsAt`: publish 7, a consumer joins with RDY 1, gets the message, ignores it; from then on the
schedule repeats `scanInFlight 1000 ; deliver 1 7 0` for ever (the consumer never answers, the
message times out and is delivered again and again). All four hypotheses hold for it. -/

def exPre : List Op := [.put 7, .addClient 1 100 0, .rdy 1 1]
def exLoop (i : Nat) : Op := if i % 2 = 0 then .deliver 1 7 0 else .scanInFlight 1000

def exOpsAt (n : Nat) : Op := if h : n < 3 then exPre[n] else exLoop (n - 3)

def exSt : Nat → Chan
  | 0 => {}
  | n + 1 => (step {} (exSt n) (exOpsAt n)).1

def exExec : Exec ({} : Conf) := { ops := exOpsAt, st := exSt, next := fun _ => rfl }

example : locOf (exExec.st 4) 7 = some (.inflight 1 100 0) := by decide
example : locOf (exExec.st 5) 7 = some .queued ∧ locOf (exExec.st 6) 7 = some (.inflight 1 100 0) := by decide
example : DeliveredAt exExec 7 3 ∧ DeliveredAt exExec 7 5 := ⟨⟨1, 1, by decide⟩, ⟨1, 2, by decide⟩⟩
example : Located (exExec.st 4) 7 := by unfold Located; decide
example : Inv 0 (exExec.st 0) := inv_init false 0

/-! a schedule for which ALL hypotheses of `eventually_delivered` are proved (joint satisfiability):
publish 7, consumer 1 joins, RDY 1, delivery, FIN; afterwards nothing happens any more (the rejected
observation `removeClient 99` stutters for ever). -/
def fPre : List Op := [.put 7, .addClient 1 100 0, .rdy 1 1, .deliver 1 7 0, .fin 1 7]
def fOpsAt (n : Nat) : Op := if h : n < 5 then fPre[n] else .removeClient 99
def fSt : Nat → Chan
  | 0 => {}
  | n + 1 => (step {} (fSt n) (fOpsAt n)).1
def fExec : Exec ({} : Conf) := { ops := fOpsAt, st := fSt, next := fun _ => rfl }

theorem fSt_const (d : Nat) : fSt (5 + d) = fSt 5 := by
  induction d with
  | zero => rfl
  | succ d ih =>
    show (step {} (fSt (5 + d)) (fOpsAt (5 + d))).1 = fSt 5
    have : fOpsAt (5 + d) = .removeClient 99 := by unfold fOpsAt; rw [dif_neg (by omega)]
    rw [ih, this]; decide

theorem fSt_late {m : Nat} (h : 5 ≤ m) : fExec.st m = fSt 5 := by
  obtain ⟨d, rfl⟩ : ∃ d, m = 5 + d := ⟨m - 5, by omega⟩
  exact fSt_const d

theorem fGone : locOf (fSt 5) 7 = none := by decide
theorem fFairI : FairScanInFlight fExec 7 := fun n =>
  ⟨max n 5, by omega, Or.inl (by rw [fSt_late (by omega)]; rintro ⟨k, p, d, h⟩; rw [fGone] at h; cases h)⟩
theorem fFairD : FairScanDeferred fExec 7 := fun n =>
  ⟨max n 5, by omega, Or.inl (by rw [fSt_late (by omega)]; rintro ⟨p, h⟩; rw [fGone] at h; cases h)⟩
theorem fFairT : FairTake fExec 7 := by
  intro hen
  exfalso
  obtain ⟨m, hm, hq, _⟩ := hen 5
  rw [fSt_late hm] at hq
  revert hq; unfold Queued; decide
theorem fReady : ReadyInfOften fExec := fun n =>
  ⟨max n 5, by omega, by rw [fSt_late (by omega)]; decide⟩

example : ∃ j, 1 ≤ j ∧ (DeliveredAt fExec 7 j ∨ Gone (fExec.st (j + 1)) 7) :=
  eventually_delivered fExec 7 fFairI fFairD fFairT fReady (n := 1) (by unfold Located; decide)
example : DeliveredAt fExec 7 3 ∧ Gone (fExec.st 5) 7 ∧ removed (fExec.st 5).hist 7 = true :=
  ⟨⟨1, 1, by decide⟩, by unfold Gone; decide, by decide⟩

/-! ### the four hypotheses proved for the NON-trivial schedule `exExec` (the consumer never answers) -/

/-- shape of `exExec`'s states in the loop: message 7 alone, at `loc`; consumer 1 alone, RDY 1, holding `n` messages.  At the top of
the loop the message is queued and the consumer ready, in the middle it is in flight to consumer 1 with deadline 100 -/
def ExS (loc : Loc) (n : Int) (c : Chan) : Prop :=
  ∃ e cl, c.msgs = [e] ∧ e.id = 7 ∧ e.loc = loc ∧ c.clients = [cl] ∧ cl.conn = 1 ∧ cl.rdy = 1 ∧ cl.inFlight = n ∧
    cl.msgTimeout = 100 ∧ c.paused = false ∧ c.memLen = 0 ∧ c.memCap = 0 ∧ c.ephemeral = false

theorem exQ_deliver {c : Chan} (h : ExS .queued 0 c) : ExS (.inflight 1 100 0) 1 (step {} c (.deliver 1 7 0)).1 := by
  obtain ⟨e, cl, hm, hid, hl, hc, h1, h2, h3, h4, h5, h6, h7, h8⟩ := h
  have hf : findC c.clients 1 = some cl := by simp [findC, hc, h1]
  have hr : ready c.paused cl = true := by simp [ready, h5, h2, h3]
  have hfe : findE c.msgs 7 = some e := by simp [findE, hm, hid]
  have hq : isQueued e = true := by simp [isQueued, hl]
  simp only [step, hf, hr, Bool.not_true, Bool.false_eq_true, ↓reduceIte, doDeliver, hfe, hq]
  refine ⟨{ e with att := e.att + 1, loc := .inflight 1 (0 + cl.msgTimeout) 0 },
    { cl with inFlight := cl.inFlight + 1, msgCount := cl.msgCount + 1, lgr := cl.rdy, decr := false, armed := false }, ?_, hid, ?_, ?_, ?_, ?_, ?_, ?_, h5, ?_, h7, h8⟩
  · simp [setE, hm, hid]
  · simp [h4]
  · simp only [updC, hc, List.map_cons, List.map_nil, h1, beq_self_eq_true, ↓reduceIte]
  · exact h1
  · exact h2
  · simp [h3]
  · exact h4
  · simp [h6]

theorem exI_scan {c : Chan} (h : ExS (.inflight 1 100 0) 1 c) : ExS .queued 0 (step {} c (.scanInFlight 1000)).1 := by
  obtain ⟨e, cl, hm, hid, hl, hc, h1, h2, h3, h4, h5, h6, h7, h8⟩ := h
  have hdue : dueInflight c 1000 = [7] := by
    simp [dueInflight, hm, isInflight, priOf, hl, sortByPri, insertByPri, hid]
  have hfe : findE c.msgs 7 = some e := by simp [findE, hm, hid]
  simp only [step, hdue, List.foldl_cons, List.foldl_nil, timeoutOne, hfe, hl, enqueue, h6, h7, h8, Nat.lt_irrefl, ↓reduceIte,
    Bool.false_eq_true]
  refine ⟨{ e with loc := .queued }, decIn cl, ?_, hid, rfl, ?_, h1, h2, ?_, h4, h5, rfl, rfl, rfl⟩
  · simp [setE, hm, hid]
  · simp only [updC, hc, List.map_cons, List.map_nil, h1, beq_self_eq_true, ↓reduceIte]
  · simp [decIn, h3]

theorem exSt3 : ExS .queued 0 (exExec.st 3) :=
  ⟨⟨7, 0, .queued, {}⟩, { conn := 1, rdy := 1, msgTimeout := 100 }, by decide, rfl, rfl, by decide, rfl, rfl, rfl, rfl, by decide, by decide, by decide, by decide⟩

theorem exOps_even (i : Nat) : exExec.ops (3 + 2 * i) = .deliver 1 7 0 := by
  show exOpsAt (3 + 2 * i) = _
  unfold exOpsAt exLoop
  rw [dif_neg (by omega)]
  have : (3 + 2 * i - 3) % 2 = 0 := by omega
  simp [this]

theorem exOps_odd (i : Nat) : exExec.ops (4 + 2 * i) = .scanInFlight 1000 := by
  show exOpsAt (4 + 2 * i) = _
  unfold exOpsAt exLoop
  rw [dif_neg (by omega)]
  have : (4 + 2 * i - 3) % 2 = 1 := by omega
  simp [this]

theorem exLoopInv (i : Nat) : ExS .queued 0 (exExec.st (3 + 2 * i)) ∧ ExS (.inflight 1 100 0) 1 (exExec.st (4 + 2 * i)) := by
  induction i with
  | zero =>
    refine ⟨exSt3, ?_⟩
    have := exQ_deliver exSt3
    rw [← exOps_even 0, ← exExec.next 3] at this
    exact this
  | succ i ih =>
    have hq : ExS .queued 0 (exExec.st (3 + 2 * (i + 1))) := by
      have := exI_scan ih.2
      rw [← exOps_odd i, ← exExec.next (4 + 2 * i)] at this
      rwa [show 4 + 2 * i + 1 = 3 + 2 * (i + 1) by omega] at this
    refine ⟨hq, ?_⟩
    have := exQ_deliver hq
    rw [← exOps_even (i + 1), ← exExec.next (3 + 2 * (i + 1))] at this
    rwa [show 3 + 2 * (i + 1) + 1 = 4 + 2 * (i + 1) by omega] at this

theorem exS_loc {loc : Loc} {n : Int} {c : Chan} (h : ExS loc n c) : locOf c 7 = some loc := by
  obtain ⟨e, cl, hm, hid, hl, _⟩ := h
  simp [locOf, findE, hm, hid, hl]

theorem exS_ready {loc : Loc} {c : Chan} (h : ExS loc 0 c) : ∃ cl ∈ c.clients, ready c.paused cl = true := by
  obtain ⟨e, cl, _, _, _, hc, _, h2, h3, _, h5, _⟩ := h
  exact ⟨cl, by simp [hc], by simp [ready, h5, h2, h3]⟩

/-- the message is in flight at every odd position and a scan with `t = 1000 ≥ 100` runs there (weak fairness of the
scan, non-vacuously); it is queued with a ready consumer at every even position and is taken there (strong fairness of the pump). -/
theorem exFairI : FairScanInFlight exExec 7 := by
  intro n
  refine ⟨4 + 2 * n, by omega, Or.inr ⟨1000, 1, 100, 0, exOps_odd n, exS_loc (exLoopInv n).2, by omega⟩⟩

theorem exFairD : FairScanDeferred exExec 7 := by
  intro n
  refine ⟨4 + 2 * n, by omega, Or.inl ?_⟩
  rintro ⟨p, hp⟩
  rw [exS_loc (exLoopInv n).2] at hp
  cases hp

theorem exFairT : FairTake exExec 7 := by
  intro _ n
  refine ⟨3 + 2 * n, by omega, exS_loc (exLoopInv n).1, ?_⟩
  have : locOf (exExec.st (3 + 2 * n + 1)) 7 = some (.inflight 1 100 0) := by
    have := exS_loc (exLoopInv n).2
    rwa [show 4 + 2 * n = 3 + 2 * n + 1 by omega] at this
  unfold Queued
  rw [this]
  intro h; cases h

theorem exReady : ReadyInfOften exExec := by
  intro n
  exact ⟨3 + 2 * n, by omega, exS_ready (exLoopInv n).1⟩

/-- … and the theorems applied to it: delivered again and again, for ever (it is never gone) -/
theorem ex_redelivered_forever : ∀ n', 4 ≤ n' → ∃ j, n' ≤ j ∧ DeliveredAt exExec 7 j := by
  have hng : ¬ ∃ m, 4 ≤ m ∧ Gone (exExec.st m) 7 := by
    rintro ⟨m, hm, hg⟩
    unfold Gone at hg
    obtain ⟨i, hi⟩ : ∃ i, m = 3 + 2 * i ∨ m = 4 + 2 * i := ⟨(m - 3) / 2, by omega⟩
    rcases hi with rfl | rfl
    · rw [exS_loc (exLoopInv i).1] at hg; cases hg
    · rw [exS_loc (exLoopInv i).2] at hg; cases hg
  rcases redelivered_until_gone exExec 7 exFairI exFairD exFairT exReady (n := 4) (by unfold Located; decide) with h | h
  · exact absurd h hng
  · exact h

end Nsq.Props.C01Live
