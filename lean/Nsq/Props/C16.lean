import Nsq.Proofs.LookupSyncConv
/-!
# C16 — nsqd keeps nsqlookupd in sync and tolerates its faults

The property theorems, and the helpers stated over this file's `runG`, `Quiescent`, `InSync` (`runG_fixed`,
`inSync_of_inv`, `not_in_sync_of_endsWith`; the others: `Nsq.Proofs.LookupSync*`). Model: `Nsq.Model.LookupSync` — `lookupLoop` is one
goroutine, so a schedule is a list of its `select` iterations (`tick`, `notify`), local map operations
(`createTopic`, `createChan`, `delBegin`, `delUnlink`), lookupd faults (`lookupdDrop`, and the per-peer
`Outcome` of every `Command`: refuse / accept-then-close / stall / garbage / bad length are all `fail`) and
reconfiguration (`addPeer`, `removePeer`). `readResponse true` is the tree with
fixes/F3_lookup_peer_negative_size.patch.
-/
namespace Nsq.Props.C16
open Nsq.Model.LookupSync Nsq.Proofs.LookupSync

/-- `readResponseBounded` never panics, whatever bytes the lookupd sends and whatever the limit. -/
def C16_hostile_full (fix : Bool) : Prop :=
  ∀ (limit : Int) (input : List UInt8), readResponse fix limit input ≠ .panic

/-- With fixes/F3_lookup_peer_negative_size.patch: no input makes it panic. -/
theorem hostile_reply_no_panic : C16_hostile_full true := by
  intro limit input
  unfold readResponse
  split
  · simp only []
    split; · simp
    split; · simp
    split <;> simp
  · simp

/-- Without the fix the clause is false: the four bytes `FF FF FF FF` (length prefix −1) reach
`make([]byte, -1)`: "panic: runtime error: makeslice: len out of range" — nsqd dies. -/
theorem hostile_false_without_fix : ¬ C16_hostile_full false := by
  intro h
  exact h 1024 [0xFF, 0xFF, 0xFF, 0xFF] (by decide)

/-- A frame that is accepted has exactly the announced size, which is within the limit. -/
theorem accepted_frame_is_bounded (fix : Bool) (limit : Int) (input body : List UInt8)
    (h : readResponse fix limit input = .ok body) : (body.length : Int) ≤ limit := by
  unfold readResponse at h
  split at h
  · simp only [] at h
    split at h; · simp at h
    split at h; · split at h <;> simp at h
    split at h; · simp at h
    simp at h
    subst h
    rename_i a b c d rest h1 h2 h3
    simp only [List.length_take]
    omega
  · simp at h

/-- Any failed round trip (dial refused, accept-then-close, stall until the deadline, garbage, a length prefix that
is negative / over the limit / longer than what follows) closes that peer connection only; that lookupd then holds
nothing for this nsqd (it drops the closed connection's registrations). -/
theorem garbage_is_contained (objs dead : List Ref) (apply : List Key → List Key) (p : Peer) :
    command objs dead apply p .fail = { p with conn := .down, regs := [] } := by
  unfold command
  cases p.conn <;> rfl

/-- The other peers are handled independently of a failed one (each peer's new state depends only on its own old
state and its own outcome). -/
theorem peers_are_independent (f : Peer → Outcome → Peer) (ps : List Peer) (outs : List Outcome) (i : Nat) :
    (mapOutcomes f ps outs)[i]? = ps[i]?.map (fun p => f p (outs[i]?.getD .fail)) :=
  getElem?_mapOutcomes f ps outs i

/-- No lookup step touches nsqd's own topics and channels (the frame lemma: publishing and delivery,
which only depend on those maps, are unaffected by any lookupd behaviour). -/
theorem lookup_steps_leave_nsqd_alone (s s' : State) (st : Step)
    (hst : match st with | .tick _ | .notify _ _ | .lookupdDrop _ | .addPeer _ _ | .removePeer _ => True | _ => False)
    (h : step s st = some s') : s'.objs = s.objs ∧ s'.dead = s.dead ∧ s'.nextGen = s.nextGen := by
  cases st <;> simp only at hst
  · obtain ⟨_, rfl⟩ := step_some h; exact ⟨rfl, rfl, rfl⟩
  · obtain rfl : s' = _ := step_some h; exact ⟨rfl, rfl, rfl⟩
  · obtain rfl : s' = _ := step_some h; exact ⟨rfl, rfl, rfl⟩
  · obtain rfl : s' = _ := step_some h; exact ⟨rfl, rfl, rfl⟩
  · obtain rfl : s' = _ := step_some h; exact ⟨rfl, rfl, rfl⟩

/-- After a successful (re)connect — `Connect`, magic, `connectCallback`: IDENTIFY then REGISTER for every topic and
channel in the maps that is not being deleted — the lookupd's registrations for this nsqd are exactly the names that
are live on nsqd (an object that is being deleted is in its map until the very end of the deletion; with
fixes/F14_connect_callback_skips_exiting.patch it is not re-registered). -/
theorem reconnect_resyncs (objs dead : List Ref) (p : Peer) (hd : p.conn = .down) :
    (command objs dead id p .ok).conn = .up ∧
    ∀ k, k ∈ (command objs dead id p .ok).regs ↔ NameLive objs dead k := by
  have hc : command objs dead id p .ok = { p with conn := .up, regs := callbackRegs objs dead } := by
    unfold command; rw [hd]; rfl
  rw [hc]
  exact ⟨rfl, fun k => mem_callbackRegs objs dead k⟩

/-- On a fresh connection the command that triggered the reconnect adds nothing: `connectCallback` has just registered
exactly the live names, and the REGISTER / UNREGISTER chosen from the same state leaves that set unchanged. (So a
`Command` that returned right after a successful reconnect without sending its command — seeded change C16-m5 — cannot
lose an UNREGISTER: with F14 the callback never registers the object being deleted.) -/
theorem reconnect_makes_command_redundant (objs dead : List Ref) (t c : String) (k : Key) :
    k ∈ (if nameLive objs dead t c then register t c else unregister t c) (callbackRegs objs dead) ↔
      k ∈ callbackRegs objs dead := by
  -- with nothing pending an admissible list is exactly the live names, before the command and after it
  have h0 := regsOK_callback objs dead []
  exact ((regsOK_notify (r := ⟨t, c, 0⟩) _ h0).mem_iff (not_pending_nil _) (not_pending_nil _)).trans
    (h0.mem_iff (not_pending_nil _) (not_pending_nil _)).symm

/-- Two successful heartbeats always end connected: a connection whose lookupd went away fails the first PING
(closing it) and the second one reconnects. -/
theorem two_good_heartbeats_connect (o1 d1 o2 d2 : List Ref) (p : Peer) :
    (command o2 d2 id (command o1 d1 id p .ok) .ok).conn = .up := by
  unfold command
  cases p.conn <;> rfl

/-- local churn is over: no notification pending, nothing half deleted -/
def Quiescent (s : State) : Prop := s.bag = [] ∧ ∀ r ∈ s.objs, r ∉ s.dead

/-- every connected lookupd lists this nsqd for exactly its current topics and channels -/
def InSync (s : State) : Prop :=
  ∀ p ∈ s.peers, p.conn = .up → ∀ k, k ∈ p.regs ↔ ∃ r ∈ s.objs, r.key = k

/-- the convergence clause for a tree (`f14`, `f15`: which of the two lookup fixes it has): along EVERY schedule —
any interleaving of churn, faults, restarts and reconfiguration, with the notifications consumed in ANY order — once
churn is over every lookupd that has a working connection is in sync. -/
def C16_converges_full (f14 f15 : Bool) : Prop :=
  ∀ (steps : List Step) (s : State), runG f14 f15 State.init steps = some s → Quiescent s → InSync s

theorem stepG_fixed (s : State) (st : Step) : stepG true true s st = step s st := by
  cases st <;> simp [stepG, step]

theorem runG_fixed (s : State) (steps : List Step) : runG true true s steps = run s steps := by
  induction steps generalizing s with
  | nil => rfl
  | cons st rest ih => simp only [runG, run, stepG_fixed]; split <;> simp [ih]

theorem inSync_of_inv {s : State} (hI : Inv s) (hq : Quiescent s) : InSync s := by
  intro p hp hup k
  have np : ∀ k, ¬ Pending s.bag k := hq.1 ▸ not_pending_nil
  rw [← nameLive_iff_in_maps s.objs s.dead hI.chanTopic hq.2 k]
  exact (hI.peers p hp hup).mem_iff (np _) (np _)

/-- With fixes/F14_connect_callback_skips_exiting.patch and fixes/F15_lookup_notify_current_state.patch
the clause holds with NO hypothesis on the schedule:
whatever order the `Notify` goroutines are consumed in, whenever connections break and are re-established
(`two_good_heartbeats_connect`: two heartbeats after the last fault), quiescent ⇒ in sync. -/
theorem converges : C16_converges_full true true := by
  intro steps s hr hq
  rw [runG_fixed] at hr
  exact inSync_of_inv (inv_run inv_init hr) hq

def t0 : Ref := ⟨"t", "", 0⟩
def t1 : Ref := ⟨"t", "", 1⟩
def c1 : Ref := ⟨"t", "c", 1⟩

/-- witness 1 (stale UNREGISTER, needs F15): delete `t`, re-create `t`; the two notifications overtake each other. -/
def staleUnregister : List Step :=
  [.addPeer 0 .ok, .createTopic "t", .notify t0 [.ok], .delBegin t0, .delUnlink t0, .createTopic "t",
   .notify t1 [.ok], .notify t0 [.ok]]

/-- witness 2 (reconnect during a deletion, needs F14): the connection breaks, the UNREGISTER of `t` is lost with
it, the next heartbeat reconnects while `t` is still in the map (it is unlinked at the very end of the deletion). -/
def reconnectDuringDelete : List Step :=
  [.addPeer 0 .ok, .createTopic "t", .notify t0 [.ok], .lookupdDrop 0, .delBegin t0, .notify t0 [.ok],
   .tick [.ok], .delUnlink t0]

/-- witness 3 (child after parent, needs F15): a channel's creation notification is consumed after the UNREGISTER
of its exiting topic. -/
def channelAfterTopic : List Step :=
  [.addPeer 0 .ok, .createTopic "t", .notify t0 [.ok], .createChan "t" "c", .delBegin t0, .notify t0 [.ok],
   .notify c1 [.ok], .delBegin c1, .notify c1 [.ok], .delUnlink c1, .delUnlink t0]

/-- `o` is a quiescent state with exactly one peer, connected; `objKeys` are nsqd's keys and `regs` that peer's
registrations, each in the order the model holds them (the lists are compared with `==`). -/
def endsWith (o : Option State) (objKeys regs : List Key) : Bool :=
  match o with
  | some s => s.bag.isEmpty && s.objs.all (fun r => !s.dead.contains r) && s.objs.map Ref.key == objKeys &&
      (match s.peers with | [p] => p.conn == .up && p.regs == regs | _ => false)
  | none => false

-- on the tree without the fixes the three schedules end quiescent and out of sync …
example : endsWith (runG false false State.init staleUnregister) [("t", "")] [] = true := by decide +kernel
example : endsWith (runG false false State.init reconnectDuringDelete) [] [("t", "")] = true := by decide +kernel
example : endsWith (runG false false State.init channelAfterTopic) [] [("t", "")] = true := by decide +kernel
-- … each fix alone is not enough …
example : endsWith (runG false true State.init reconnectDuringDelete) [] [("t", "")] = true := by decide +kernel
example : endsWith (runG true false State.init staleUnregister) [("t", "")] [] = true := by decide +kernel
-- … and with both, the same schedules end in sync
example : endsWith (runG true true State.init staleUnregister) [("t", "")] [("t", "")] = true := by decide +kernel
example : endsWith (runG true true State.init reconnectDuringDelete) [] [] = true := by decide +kernel
example : endsWith (runG true true State.init channelAfterTopic) [] [] = true := by decide +kernel

theorem not_in_sync_of_endsWith {o : Option State} {objKeys regs : List Key} (h : endsWith o objKeys regs = true)
    (k : Key) (hk : ¬ (k ∈ regs ↔ k ∈ objKeys)) : ∃ s, o = some s ∧ Quiescent s ∧ ¬ InSync s := by
  cases o with
  | none => simp [endsWith] at h
  | some s =>
    simp only [endsWith] at h
    cases hps : s.peers with
    | nil => simp [hps] at h
    | cons p ps =>
      cases ps with
      | cons q qs => simp [hps] at h
      | nil =>
        simp only [hps, Bool.and_eq_true, List.isEmpty_iff, List.all_eq_true, beq_iff_eq] at h
        obtain ⟨⟨⟨hb, hd⟩, ho⟩, hup, hregs⟩ := h
        refine ⟨s, rfl, ⟨hb, fun r hr' => by have := hd r hr'; simpa using this⟩, ?_⟩
        intro hsync
        have := hsync p (by simp [hps]) hup k
        apply hk
        rw [hregs] at this
        rw [← ho]
        simp only [List.mem_map]
        exact this

/-- Without F14 the clause is false even with F15 (witness 2; reproduced on the real code without any forcing). -/
theorem converges_false_without_F14 : ¬ C16_converges_full false true := by
  intro h
  have hc : endsWith (runG false true State.init reconnectDuringDelete) [] [("t", "")] = true := by decide +kernel
  obtain ⟨s, hr, hq, hn⟩ := not_in_sync_of_endsWith hc ("t", "") (by simp)
  exact hn (h _ s hr hq)

/-- Without F15 the clause is false even with F14 (witness 1; reproduced on the real code with the
`nsqd.notify.beforeSend` hook). -/
theorem converges_false_without_F15 : ¬ C16_converges_full true false := by
  intro h
  have hc : endsWith (runG true false State.init staleUnregister) [("t", "")] [] = true := by decide +kernel
  obtain ⟨s, hr, hq, hn⟩ := not_in_sync_of_endsWith hc ("t", "") (by simp)
  exact hn (h _ s hr hq)

/-! ## non-vacuity -/

/-- an orderly schedule with churn, a lookupd restart and a failed command that ends quiescent and in sync with a
non-empty registration set -/
def goodSchedule : List Step :=
  [.addPeer 0 .ok, .createTopic "t", .notify t0 [.ok], .createChan "t" "c", .notify c1 [.fail], .tick [.ok],
   .lookupdDrop 0, .tick [.ok], .tick [.ok]]

example : endsWith (run State.init goodSchedule) [("t", ""), ("t", "c")] [("t", "c"), ("t", "")] = true := by decide +kernel

example : readResponse true 1024 [0, 0, 0, 2, 79, 75] = .ok [79, 75] := by decide +kernel
example : readResponse true 1 [0, 0, 0, 2, 79, 75] = .err := by decide +kernel

end Nsq.Props.C16
