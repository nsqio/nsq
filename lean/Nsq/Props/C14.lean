import Nsq.Proofs.RegistryQuery
import Nsq.Proofs.RegistryProto
import Nsq.Proofs.RegistrySched
import Nsq.Tie.Registry
/-!
# C14 — nsqlookupd answers reflect exactly the live registrations

Property theorems only (helpers: `Nsq.Proofs.Registry*`). `Nsq.Model.Registry` is the
implementation-shaped model (association lists for Go maps, peer ids for `*PeerInfo` pointers,
handlers as in the Go code); `Nsq.Spec.RegistrySpec` is the plain registry of the property
statement (sets and one-line answers); `abs` maps one to the other (DESIGN appendix A.2).

`c : Conf` (inactivity timeout, tombstone lifetime), all times `now`, all peers, names and
histories are universally quantified. `Op.modelled` excludes only
`POST /topic/tombstone?topic=*`, whose effect depends on Go's map iteration order.
-/
namespace Nsq.Props.C14
open Nsq.Model.Registry Nsq.Model.Registry.AMap Nsq.Spec.RegistrySpec
open Nsq.Proofs.RegistryRefine Nsq.Proofs.RegistryWF Nsq.Proofs.RegistryQuery

/-! ## 1. Refinement -/

/-- Steps: the empty registry is the empty spec state and every operation (IDENTIFY, REGISTER,
UNREGISTER, PING, disconnect, the five admin calls) commutes with `abs`. -/
theorem refines_step :
    abs init = Spec.init ∧
    ∀ (r : Registry) (op : Op), op.modelled = true → abs (step r op).1 = (abs r).step op :=
  ⟨abs_init, fun r op h => abs_step r op (starNode_of_modelled h)⟩

/-- … hence for every history, of any length, over any producers / topics / channels / times. -/
theorem refines_run (ops : List Op) (h : ∀ op ∈ ops, op.modelled = true) :
    abs (run init ops) = Spec.init.run ops := by
  rw [abs_run init ops fun op ho => starNode_of_modelled (h op ho), abs_init]

/-- The well-formedness invariant (unique keys, unique peers per key, every producer entry
belongs to an identified connection, identified connections are in the `client` registration,
tombstones only on topic entries) holds initially and is preserved by every operation. -/
theorem wf_invariant :
    WF init ∧ ∀ (r : Registry) (op : Op), op.modelled = true → WF r → WF (step r op).1 :=
  ⟨WF_init, fun r op _ => WF_step r op⟩

theorem wf_run (ops : List Op) (h : ∀ op ∈ ops, op.modelled = true) : WF (run init ops) :=
  WF_run init ops WF_init

/-- Answers: in every well-formed state each of the four answers is, as a duplicate-free list,
exactly the spec answer of `abs r`:
`/topics`; `/channels?topic=t`; `/lookup?topic=t` (404 iff the topic is unknown, its channel
list, and its producers = the connected, recently-pinged nsqds that registered the topic and
are not tombstoned for it); `/nodes` (the connected, recently-pinged nsqds, each with the topics
it registered and the per-topic tombstone flag). -/
theorem answers_refine (c : Conf) (r : Registry) (h : WF r) (now : Int) :
    (∀ t, t ∈ qTopics r ↔ (abs r).topics t) ∧ (qTopics r).Nodup ∧
    (∀ t, t ≠ star → (∀ ch, ch ∈ qChannels r t ↔ (abs r).channels t ch) ∧ (qChannels r t).Nodup) ∧
    (∀ t, t ≠ star → (qLookup c r t now = none ↔ ¬ (abs r).lookupFound t)) ∧
    (∀ t a, qLookup c r t now = some a →
        a.channels = qChannels r t ∧ (a.producers.map (·.1)).Nodup ∧
        ∀ p i, (p, i) ∈ a.producers ↔
          (abs r).producers c t now p ∧ ∃ pr, (abs r).peer p = some pr ∧ pr.info = i) ∧
    (∀ n, n ∈ qNodes c r now ↔
        (abs r).nodes c now n.id ∧ (∃ pr, (abs r).peer n.id = some pr ∧ pr.info = n.info) ∧
        n.topics = nodeTopics c r n.id now) ∧
    ((qNodes c r now).map (·.id)).Nodup ∧
    (∀ p, ((nodeTopics c r p now).map (·.1)).Nodup ∧
        ∀ t b, (t, b) ∈ nodeTopics c r p now ↔
          (abs r).nodeTopic p t ∧ (b = true ↔ (abs r).tombActive c now p t)) :=
  ⟨mem_qTopics r, nodup_qTopics r h,
   fun t ht => ⟨fun ch => mem_qChannels r t ch ht, nodup_qChannels r t ht h⟩,
   fun t ht => qLookup_none_iff c r t now ht,
   fun t a ha => ⟨lookup_channels c r t now a ha, nodup_lookup_producers c r t now a h ha,
                  mem_lookup_producers c r t now a h ha⟩,
   mem_qNodes c r now h, nodup_qNodes c r now h,
   fun p => ⟨nodup_nodeTopics c r p now h, mem_nodeTopics c r p now h⟩⟩

/-- The property: after EVERY history the answers are the ones the plain registry, run on the
same history, predicts. -/
theorem history_answers (c : Conf) (ops : List Op) (hm : ∀ op ∈ ops, op.modelled = true) (now : Int) :
    let r := run init ops
    let s := Spec.init.run ops
    (∀ t, t ∈ qTopics r ↔ s.topics t) ∧
    (∀ t ch, t ≠ star → (ch ∈ qChannels r t ↔ s.channels t ch)) ∧
    (∀ t, t ≠ star → (qLookup c r t now = none ↔ ¬ s.lookupFound t)) ∧
    (∀ t a p, qLookup c r t now = some a → (p ∈ a.producers.map (·.1) ↔ s.producers c t now p)) ∧
    (∀ p, p ∈ (qNodes c r now).map (·.id) ↔ s.nodes c now p) := by
  intro r s
  have hs : abs r = s := refines_run ops hm
  have hw : WF r := wf_run ops hm
  rw [← hs]
  exact ⟨mem_qTopics r, fun t ch ht => mem_qChannels r t ch ht, fun t ht => qLookup_none_iff c r t now ht,
    fun t a p hq => mem_lookup_producer_ids c r t now a hw hq p, mem_qNodes_ids c r now hw⟩

/-! ## 2. Corollaries -/

/-- An nsqd that disconnects is at once gone from every producer list and from `/nodes`. -/
theorem disconnect_immediate (c : Conf) (r : Registry) (h : WF r) (p : Nat) (now : Int) :
    (∀ t a, qLookup c (disconnect r p) t now = some a → p ∉ a.producers.map (·.1)) ∧
    p ∉ (qNodes c (disconnect r p) now).map (·.id) :=
  not_listed_of_not_live c _ (WF_disconnect r p h) p now ((disconnect_gone r p h).2 clientKey)

/-- … and EVERY way a connection can end runs that clean-up: for every byte stream the peer sent,
every registry, every JSON decoder and every pattern `wf` of answers the peer still read before
it went away (read error / EOF, a fatal error whose answer could or could not be written, the
failed write of the answer of a SUCCESSFUL command), the peer is afterwards in no producer list,
not in `/nodes`, and has no entry under any key. (`fin = panic` does not occur: C15.) -/
theorem disconnect_every_exit (c : Conf) (v : Nsq.Model.RegistryProto.Variant)
    (decode : List UInt8 → Option Info) (wf : Nat → Bool) (r : Registry) (h : WF r) (p : Nat) (now : Int)
    (inp : List UInt8) (now' : Int)
    (hfin : (Nsq.Model.RegistryProto.handleW v decode wf r p now inp).fin = .eof ∨
            (Nsq.Model.RegistryProto.handleW v decode wf r p now inp).fin = .fatal ∨
            (Nsq.Model.RegistryProto.handleW v decode wf r p now inp).fin = .writeFail) :
    let r' := (Nsq.Model.RegistryProto.handleW v decode wf r p now inp).reg
    (∀ t a, qLookup c r' t now' = some a → p ∉ a.producers.map (·.1)) ∧
    p ∉ (qNodes c r' now').map (·.id) ∧ (∀ k, getP r'.db k p = none) ∧ identifiedB r' p = false := by
  intro r'
  have key : Gone p r' ∧ WF r' :=
    Nsq.Proofs.RegistryProto.handleW_exit_gone v decode wf r p now inp h hfin
  obtain ⟨⟨hid, hnone⟩, hw⟩ := key
  have hl := not_listed_of_not_live c r' hw p now' (hnone clientKey)
  exact ⟨hl.1, hl.2, hnone, hid⟩

/-- non-vacuity: the peer identifies, registers, sends a second REGISTER and goes away without
reading its answer (`wf` fails at reply 2): the command is executed, then everything is removed -/
example :
    let res := Nsq.Model.RegistryProto.handleW Nsq.Model.RegistryProto.fixedV
      (fun _ => some ⟨[104], [110], [118], 1, 2⟩) (fun n => n < 2) init 7 0
      (Nsq.Model.RegistryProto.magicV1 ++ Nsq.Model.RegistryProto.cmdIDENTIFY ++ [10, 0, 0, 0, 1, 123] ++
        Nsq.Model.RegistryProto.cmdREGISTER ++ [32, 116, 10] ++ Nsq.Model.RegistryProto.cmdREGISTER ++ [32, 117, 10])
    res.fin = .writeFail ∧ res.replies.length = 2 ∧ qTopics res.reg = [[116], [117]] ∧
      (qLookup ⟨10, 10⟩ res.reg [117] 0).map (fun a => a.producers.length) = some 0 := by decide +kernel

/-- A tombstone hides only the named producer for the named topic: other topics, and nodes with
another address, keep their answers; `/nodes` never loses a node to a tombstone. -/
theorem tombstone_scoped (c : Conf) (r : Registry) (t node : Name) (at_ : Int) (ht : t ≠ star) :
    let r' := (tombstone r ⟨false, some t, none, some node⟩ at_).1
    (∀ t' q now, t' ≠ t → ((abs r').producers c t' now q ↔ (abs r).producers c t' now q)) ∧
    (∀ t' q now, ¬ (abs r).nodeIs q node → ((abs r').producers c t' now q ↔ (abs r).producers c t' now q)) ∧
    (∀ q now, (abs r').nodes c now q ↔ (abs r).nodes c now q) := by
  intro r'
  have e : abs r' = (abs r).tombstone ⟨false, some t, none, some node⟩ at_ :=
    abs_tombstone r _ at_ (by simp [Op.starNode, ht])
  rw [e]
  simp only [Spec.tombstone, Bool.false_eq_true, if_false, Spec.producers, Spec.nodes, Spec.recent,
    Spec.tombActive]
  refine ⟨?_, ?_, ?_⟩
  · intro t' q now hne; simp [hne]
  · intro t' q now hn; simp [hn]
  · intro q now; trivial

/-- … and the named producer IS hidden for the named topic while the tombstone is in force,
if it is registered there and its address matches. -/
theorem tombstone_hides (c : Conf) (r : Registry) (t node : Name) (at_ : Int) (ht : t ≠ star) (q : Nat)
    (now : Int) (hreg : (abs r).topicReg q t) (hnode : (abs r).nodeIs q node) (hlife : now - at_ < c.tombLife) :
    ¬ (abs (tombstone r ⟨false, some t, none, some node⟩ at_).1).producers c t now q := by
  have e := abs_tombstone r ⟨false, some t, none, some node⟩ at_ (by simp [Op.starNode, ht])
  rw [e]
  intro h
  obtain ⟨_, _, _, hnt⟩ := h
  apply hnt
  refine ⟨at_, ?_, hlife⟩
  simp [Spec.tombstone, hreg, hnode]

/-- A tombstone lapses after the tombstone lifetime … -/
theorem tombstone_lapses_time (c : Conf) (r : Registry) (p : Nat) (t : Name) (τ now : Int)
    (h : (abs r).tomb p t τ) (hl : now - τ ≥ c.tombLife) : ¬ (abs r).tombActive c now p t := by
  intro ⟨τ', h', hlt⟩
  simp only [abs] at h h'
  rw [h] at h'
  simp only [Option.some.injEq, Tomb.mk.injEq, true_and] at h'
  omega

/-- … or when that producer unregisters the topic: a later REGISTER creates a fresh,
untombstoned entry. -/
theorem tombstone_lapses_unregister (r : Registry) (p : Nat) (t : Name) (hi : identifiedB r p = true)
    (hv : validName t = true) :
    ∀ τ, ¬ (abs (register (unregister r p [t]).1 p [t]).1).tomb p t τ := by
  intro τ
  have hi3 : ((abs r).unregisterTopic p t).identified p = true := hi
  rw [abs_register, abs_unregister_topic r p t hi hv]
  unfold Spec.register
  rw [hi3]
  simp [getTopicChan, hv, chanParam, Spec.registerTC, Spec.unregisterTopic]

/-- An nsqd that has not pinged for longer than the inactivity timeout is absent from `/lookup`
and `/nodes`; a PING brings it back. -/
theorem inactive_hidden (c : Conf) (r : Registry) (p : Nat) (pr : PeerRec) (now : Int)
    (hp : (abs r).peer p = some pr) (hold : now - pr.lastUpdate > c.inactive) (hc : 0 ≤ c.inactive) :
    (∀ t, ¬ (abs r).producers c t now p) ∧ ¬ (abs r).nodes c now p ∧
    (abs (ping r p now)).recent c now p := by
  have hnr : ¬ (abs r).recent c now p := by
    intro ⟨pr', h1, h2⟩
    rw [hp] at h1; simp only [Option.some.injEq] at h1; subst h1; omega
  refine ⟨fun t h => hnr h.2.2.1, fun h => hnr h.2, ?_⟩
  · rw [abs_ping]
    simp only [Spec.recent, Spec.ping, if_true, hp, Option.map_some, Option.some.injEq]
    exact ⟨_, rfl, by simp; omega⟩

/-- Registering the same thing twice is the same as registering it once. -/
theorem dup_register_idempotent (r : Registry) (p : Nat) (params : List Name) :
    abs (register (register r p params).1 p params).1 = abs (register r p params).1 := by
  rw [abs_register, abs_register]
  generalize abs r = s
  unfold Spec.register
  cases hi : s.identified p with
  | false => simp [hi]
  | true =>
    simp only [Bool.not_true, Bool.false_eq_true, if_false]
    cases hg : getTopicChan "REGISTER" params with
    | error e =>
      simp only
      have : (s.disconnect p).identified p = false := by
        simp only [Spec.identified] at hi
        simp [Spec.disconnect, Spec.identified, hi]
      simp [this]
    | ok tc =>
      simp only
      have : (s.registerTC p tc).identified p = true := hi
      simp only [this, Bool.not_true, Bool.false_eq_true, if_false]
      exact Spec.ext_pointwise (fun _ => or_self_left) (fun _ _ => or_self_left) (fun _ _ => or_self_left)
        (fun _ _ _ => or_self_left) (fun _ _ _ => Iff.rfl) (fun _ => Iff.rfl) (fun _ => rfl)

/-- Unregistering something that was never registered changes nothing (unless it names an
`#ephemeral` channel nobody is registered for: that key is then dropped, as in the code). -/
theorem unregister_unknown_noop (r : Registry) (p : Nat) (t ch : Name) (hi : identifiedB r p = true)
    (hv : validName t = true) (hvc : validName ch = true)
    (hnot : ¬ (abs r).chanReg p t ch)
    (hkeep : isEphemeral ch = false ∨ ∃ q, (abs r).chanReg q t ch) :
    abs (unregister r p [t, ch]).1 = abs r := by
  rw [abs_unregister_chan r p t ch hi hv hvc]
  generalize abs r = s at hnot hkeep
  refine Spec.ext_pointwise (fun _ => Iff.rfl) (fun t' c' => ?_) (fun _ _ => Iff.rfl) (fun q t' c' => ?_)
    (fun _ _ _ => Iff.rfl) (fun _ => Iff.rfl) (fun _ => rfl)
  · refine and_iff_left_of_imp fun _ ⟨_, _, he, hall⟩ => ?_
    rcases hkeep with h | ⟨q, hq⟩
    · rw [h] at he; cases he
    · exact hnot (hall q hq ▸ hq)
  · exact and_iff_left_of_imp fun h ⟨e1, e2, e3⟩ => hnot (e1 ▸ e2 ▸ e3 ▸ h)

/-- An `#ephemeral` channel (topic) disappears when its last producer UNREGISTERs it; an abrupt
disconnect does NOT remove the key (the spec records this faithfully). -/
theorem ephemeral_gc (r : Registry) (p : Nat) (t ch : Name) (hi : identifiedB r p = true)
    (hv : validName t = true) (hvc : validName ch = true) (he : isEphemeral ch = true)
    (hlast : ∀ q, (abs r).chanReg q t ch → q = p) :
    ¬ (abs (unregister r p [t, ch]).1).knownChan t ch ∧
    ((abs (disconnect r p)).knownChan = (abs r).knownChan ∧
     (abs (disconnect r p)).knownTopic = (abs r).knownTopic) := by
  constructor
  · rw [abs_unregister_chan r p t ch hi hv hvc]
    exact fun h => h.2 ⟨rfl, rfl, he, hlast⟩
  · rw [abs_disconnect]
    unfold Spec.disconnect
    split <;> simp

theorem ephemeral_gc_topic (r : Registry) (p : Nat) (t : Name) (hi : identifiedB r p = true)
    (hv : validName t = true) (he : isEphemeral t = true) (hlast : ∀ q, (abs r).topicReg q t → q = p) :
    ¬ (abs (unregister r p [t]).1).knownTopic t := by
  rw [abs_unregister_topic r p t hi hv]
  exact fun h => h.2 ⟨rfl, he, hlast⟩

/-- `POST /topic/delete?topic=t` removes the topic and all its channels for every producer, and
nothing else. -/
theorem admin_delete_topic (r : Registry) (t : Name) (ht : t ≠ star) :
    let s' := abs (deleteTopic r ⟨false, some t, none, none⟩).1
    ¬ s'.knownTopic t ∧ (∀ ch, ¬ s'.knownChan t ch) ∧ (∀ q, ¬ s'.topicReg q t) ∧
    (∀ q ch, ¬ s'.chanReg q t ch) ∧
    (∀ t', t' ≠ t → (s'.knownTopic t' ↔ (abs r).knownTopic t') ∧
        (∀ ch, s'.knownChan t' ch ↔ (abs r).knownChan t' ch) ∧
        (∀ q, s'.topicReg q t' ↔ (abs r).topicReg q t') ∧
        (∀ q ch, s'.chanReg q t' ch ↔ (abs r).chanReg q t' ch)) := by
  intro s'
  have e : s' = (abs r).deleteTopic ⟨false, some t, none, none⟩ := abs_deleteTopic r _
  rw [e]
  simp only [Spec.deleteTopic, Bool.false_eq_true, if_false, tmatch, ht, false_or]
  refine ⟨by simp, by simp, by simp, by simp, ?_⟩
  intro t' hne
  simp [hne]

/-! ## 3. Concurrency: where handler calls are NOT atomic

The theorems above treat one handler call as one step. In the code each `RegistrationDB` method is one critical
section, and a handler that calls several of them is several sections: another connection's handler can run in between.
A handler is modelled as its list of sections (`registerSecs`, `deleteTopicSecs`, … : `atomic = false` is the list of
the tree before the handler was given one critical section, `atomic = true` the list since), `interleave` enumerates
the schedules of two overlapping calls, and "linearizable" means: every schedule ends where one of the two serial
orders ends. The `…_is_two_sections` lemmas say that the non-atomic lists compose to the handler of the sequential model;
the `…_false` theorems exhibit a schedule of the non-atomic lists that no serial order explains; the `…_fixed` /
`…_tree` theorems are about the atomic lists. Which lists the checked tree has is computed from the regenerated facts
(`Nsq.Tie.Registry.treeAtomic`, `readersAtomic`, `tombstoneAtomic`), not assumed. Every pair of handlers, with the whole
`DB` and the answers in place of the key set: `Nsq.Props.C14Sched`. -/

theorem unregister_is_two_sections (db : DB) (p : Nat) (t c : Name) (hc : c ≠ []) :
    unregisterDB db p ⟨t, c⟩ = unregChanStep2 (unregChanStep1 db t c p).1 t c (unregChanStep1 db t c p).2 := by
  simp only [unregisterDB, hc, ne_eq, not_false_eq_true, if_true, removeAndGC, unregChanStep1, unregChanStep2]
  rfl

theorem register_is_two_sections (db : DB) (p : Nat) (t c : Name) (hc : c ≠ []) :
    registerDB db p ⟨t, c⟩ = regStep2 (regStep1 db t c p) t p := by
  simp [registerDB, hc, regStep1, regStep2]

theorem deleteTopic_is_two_sections (db : DB) (t : Name) :
    deleteTopicDB db t = delTopicStep2 (delTopicStep1 db t) t := rfl

/-- "Overlapping handler calls behave like some serial order", for the pair
UNREGISTER(a) ‖ REGISTER(b) on one channel, schedule a₁ b₁ a₂ b₂. -/
def concurrent_unregister_register_linearizable : Prop :=
  ∀ (db : DB) (a b : Nat) (t c : Name), a ≠ b → c ≠ [] →
    let s1 := unregChanStep1 db t c a
    let final := regStep2 (unregChanStep2 (regStep1 s1.1 t c b) t c s1.2) t b
    (∀ k q, getP final k q = getP (registerDB (unregisterDB db a ⟨t, c⟩) b ⟨t, c⟩) k q) ∨
    (∀ k q, getP final k q = getP (unregisterDB (registerDB db b ⟨t, c⟩) a ⟨t, c⟩) k q)

/-- FALSE: `a` is the last producer of an `#ephemeral` channel and unregisters; `b`'s
`AddProducer` lands between `a`'s `RemoveProducer` (left = 0) and `RemoveRegistration`: the key
is deleted together with `b`'s registration, although `b` was answered OK. Both serial orders
keep `b` registered. -/
theorem concurrent_unregister_register_linearizable_false :
    ¬ concurrent_unregister_register_linearizable := by
  intro h
  have := h [(chanKey [116] ([100] ++ ephSuffix), [(1, fresh)]), (topicKey [116], [(1, fresh)])] 1 2 [116]
    ([100] ++ ephSuffix) (by decide) (by decide)
  cases this with
  | inl h1 => exact absurd (h1 (chanKey [116] ([100] ++ ephSuffix)) 2) (by decide +kernel)
  | inr h2 => exact absurd (h2 (chanKey [116] ([100] ++ ephSuffix)) 2) (by decide +kernel)

/-- Same for REGISTER(p) ‖ /topic/delete, schedule p₁ d₁ d₂ p₂. -/
def concurrent_register_delete_linearizable : Prop :=
  ∀ (db : DB) (p : Nat) (t c : Name), c ≠ [] → t ≠ star →
    let final := regStep2 (delTopicStep2 (delTopicStep1 (regStep1 db t c p) t) t) t p
    (∀ k, has final k = has (deleteTopicDB (registerDB db p ⟨t, c⟩) t) k) ∨
    (∀ k, has final k = has (registerDB (deleteTopicDB db t) p ⟨t, c⟩) k)

/-- FALSE: the topic ends up registered without the channel that was registered with it. -/
theorem concurrent_register_delete_linearizable_false : ¬ concurrent_register_delete_linearizable := by
  intro h
  have := h [] 1 [116] [99] (by decide) (by decide)
  cases this with
  | inl h1 => exact absurd (h1 (topicKey [116])) (by decide +kernel)
  | inr h2 => exact absurd (h2 (chanKey [116] [99])) (by decide +kernel)

/-! ### The repair F21 (one critical section per handler) makes both windows disappear

`registerSecs` / `deleteTopicSecs` / `createChannelSecs` list the critical sections of the three
handlers, before F21 (`atomic = false`) and since commit 0d24920 = F21
(`atomic = true`: `RegistrationDB.RegisterProducer`, `RemoveTopic`, `AddTopicChannel`; the tie
`register_shape`, `admin_topic_shape` accepts ONLY this shape and computes `treeAtomic` from it). -/

theorem sections_compose (atomic : Bool) (db : DB) (p : Nat) (t c : Name) (hc : c ≠ []) :
    runSecs db (registerSecs atomic p t c) = registerDB db p ⟨t, c⟩ ∧
    runSecs db (deleteTopicSecs atomic t) = deleteTopicDB db t ∧
    runSecs db (createChannelSecs atomic t c) = createChannelDB db t c := by
  cases atomic <;>
    simp [runSecs, registerSecs, deleteTopicSecs, createChannelSecs, registerDB, hc, regStep1, regStep2,
      deleteTopicDB, delTopicStep1, delTopicStep2, createChannelDB, createChanStep1, createChanStep2]

/-- With F21: EVERY schedule of REGISTER ‖ `/topic/delete` ends in the state of one of the two
serial orders (any registry, producer, names — also `topic=*`) … -/
theorem concurrent_register_delete_linearizable_fixed (db : DB) (p : Nat) (t c : Name) :
    ∀ s ∈ interleave (registerSecs true p t c) (deleteTopicSecs true t),
      runSecs db s = deleteTopicDB (registerDB db p ⟨t, c⟩) t ∨
      runSecs db s = registerDB (deleteTopicDB db t) p ⟨t, c⟩ :=
  Nsq.Proofs.RegistrySched.foldl_interleave_pair _ _ db

/-- … and so does every schedule of `/channel/create` ‖ `/topic/delete`. -/
theorem concurrent_create_delete_linearizable_fixed (db : DB) (t c : Name) :
    ∀ s ∈ interleave (createChannelSecs true t c) (deleteTopicSecs true t),
      runSecs db s = deleteTopicDB (createChannelDB db t c) t ∨
      runSecs db s = createChannelDB (deleteTopicDB db t) t c :=
  Nsq.Proofs.RegistrySched.foldl_interleave_pair _ _ db

/-- "Every schedule of the two handlers is explained by a serial order" (which keys exist), for the
section lists selected by `atomic`. -/
def concurrent_schedules_linearizable (atomic : Bool) : Prop :=
  ∀ (db : DB) (p : Nat) (t c : Name), c ≠ [] → t ≠ star →
    (∀ s ∈ interleave (registerSecs atomic p t c) (deleteTopicSecs atomic t),
      (∀ k, has (runSecs db s) k = has (deleteTopicDB (registerDB db p ⟨t, c⟩) t) k) ∨
      (∀ k, has (runSecs db s) k = has (registerDB (deleteTopicDB db t) p ⟨t, c⟩) k)) ∧
    (∀ s ∈ interleave (createChannelSecs atomic t c) (deleteTopicSecs atomic t),
      (∀ k, has (runSecs db s) k = has (deleteTopicDB (createChannelDB db t c) t) k) ∨
      (∀ k, has (runSecs db s) k = has (createChannelDB (deleteTopicDB db t) t c) k))

theorem concurrent_schedules_linearizable_fixed : concurrent_schedules_linearizable true := by
  intro db p t c _ _
  refine ⟨fun s hs => ?_, fun s hs => ?_⟩
  · rcases concurrent_register_delete_linearizable_fixed db p t c s hs with h | h
    · left; intro k; rw [h]
    · right; intro k; rw [h]
  · rcases concurrent_create_delete_linearizable_fixed db t c s hs with h | h
    · left; intro k; rw [h]
    · right; intro k; rw [h]

/-- FALSE for the section lists BEFORE F21 (0d24920): the schedule `create₁ delete₁ delete₂ create₂` from the empty
registry leaves the topic without the channel created with it (and REGISTER has the same window, above). -/
theorem concurrent_schedules_linearizable_unfixed_false : ¬ concurrent_schedules_linearizable false := by
  intro h
  have := (h [] 1 [116] [99] (by decide) (by decide)).2
    [fun db => createChanStep1 db [116] [99], fun db => delTopicStep1 db [116], fun db => delTopicStep2 db [116],
     fun db => createChanStep2 db [116]]
    ((Nsq.Proofs.RegistrySched.mem_interleave_iff _ _ _).mpr (.left (.right (.right (.left .nil)))))
  cases this with
  | inl h1 => exact absurd (h1 (topicKey [116])) (by decide +kernel)
  | inr h2 => exact absurd (h2 (chanKey [116] [99])) (by decide +kernel)

example : (interleave (registerSecs false 1 [116] [99]) (deleteTopicSecs false [116])).length = 6 ∧
    (interleave (registerSecs true 1 [116] [99]) (deleteTopicSecs true [116])).length = 2 := by decide +kernel

/-- THIS tree: the section lists are selected by `Nsq.Tie.Registry.treeAtomic`, which is COMPUTED from the
regenerated facts (`register_shape`, `admin_topic_shape`). With F21 reverted the facts decide `treeAtomic = false`,
`tree_atomic` fails and so does this theorem. -/
theorem concurrent_schedules_linearizable_tree : concurrent_schedules_linearizable Nsq.Tie.Registry.treeAtomic := by
  rw [Nsq.Tie.Registry.tree_atomic]
  exact concurrent_schedules_linearizable_fixed

example : (interleave (registerSecs Nsq.Tie.Registry.treeAtomic 1 [116] [99])
    (deleteTopicSecs Nsq.Tie.Registry.treeAtomic [116])).length = 2 := by
  rw [Nsq.Tie.Registry.tree_atomic]; decide +kernel

/-! ### Readers: `GET /lookup` and `GET /nodes` as lists of critical sections

`lookupSecs` / `nodesSecs` (`Nsq.Model.RegistrySched`): what the reader has read so far is carried next to the
registry. `ws` is ANY sequence of single-critical-section calls (the writers of this tree since F12/F21: REGISTER,
UNREGISTER channel, `/topic/create|delete`, `/channel/create`, one `RemoveProducer` of a disconnect, … — in the order
in which they took the lock). "Linearizable" = the reader's answer is the answer ONE state of that serial order
gives: the state after the first `k` calls. -/

def concurrent_lookup_linearizable (readersAtomic : Bool) : Prop :=
  ∀ (db : DB) (ws : List Section) (t : Name),
    ∀ s ∈ interleave (ws.map wsec) (lookupSecs readersAtomic t),
      ∃ k, k ≤ ws.length ∧
        runSecsO (db, LookupObs.init) s = (runSecs db ws, lookupDB (runSecs db (ws.take k)) t)

/-- `ids` = the nodes section 1 of `doNodes` returns (the writers `ws` considered leave the `client` key alone) -/
def concurrent_nodes_linearizable (readersAtomic : Bool) : Prop :=
  ∀ (db : DB) (ws : List Section),
    ∀ s ∈ interleave (ws.map wsec) (nodesSecs readersAtomic ((producersOf db clientKey).map (·.1))),
      ∃ k, k ≤ ws.length ∧
        runSecsO (db, NodesObs.init) s = (runSecs db ws, nodesDB (runSecs db (ws.take k)))

/-- FALSE for the three sections of `doLookup` as they were BEFORE F37 (682420a; finding
`race:lookup-vs-topic-delete`, fixed): topic `t` exists with channel `c` (created together by `/channel/create`);
schedule `lookup₁ (topic found) · /topic/delete · lookup₂ (no channels) · lookup₃`: the answer is
`200 channels: []`, but before the deletion the answer is `200 channels: [c]` and after it `404`. -/
theorem concurrent_lookup_delete_linearizable_false : ¬ concurrent_lookup_linearizable false := by
  intro h
  have := h (createChannelDB [] [116] [99]) (deleteTopicSecs true [116]) [116]
    [lookupRead1 [116], wsec (fun db => deleteTopicDB db [116]), lookupRead2 [116], lookupRead3 [116]]
    ((Nsq.Proofs.RegistrySched.mem_interleave_iff _ _ _).mpr (.right (.left (.right (.right .nil)))))
  revert this
  decide +kernel

/-- With F37 (one `RLock` around the handler): for EVERY sequence of single-section writers and every schedule, the
answer of `GET /lookup` is the atomic answer on the state after some prefix of the writers, and the writers are not
disturbed. -/
theorem concurrent_lookup_linearizable_fixed : concurrent_lookup_linearizable true := by
  intro db ws t s hs
  exact Nsq.Proofs.RegistrySched.atomic_reader_sees_prefix ws (fun db => lookupDB db t) db LookupObs.init s
    (by simpa [lookupSecs] using hs)

/-- the case the race leg replays: ONE writer call `w` — the answer is that of one of the two serial orders -/
theorem concurrent_lookup_one_writer_fixed (db : DB) (w : Section) (t : Name) :
    ∀ s ∈ interleave [wsec w] (lookupSecs true t),
      (runSecsO (db, LookupObs.init) s).2 = lookupDB db t ∨ (runSecsO (db, LookupObs.init) s).2 = lookupDB (w db) t :=
  -- writer and reader are one section each: the two schedules are the two serial orders
  fun s hs => (Nsq.Proofs.RegistrySched.foldl_interleave_pair _ _ (db, LookupObs.init) s hs).symm.imp
    (congrArg Prod.snd) (congrArg Prod.snd)

/-- FALSE for the sections of `doNodes` as they were BEFORE F37 (finding `race:nodes-vs-topic-delete`, fixed): nodes 1
and 3, both registered for topic `t`; one client issues `/topic/delete?topic=t`, `REGISTER t` (node 1), `REGISTER t`
(node 3). Schedule: clients · delete · topics(1) = [] · flags(1) · REGISTER 1 · REGISTER 3 · topics(3) = [t] · flags(3):
`/nodes` lists `t` for node 3 but not for node 1; the states of the serial order are {1,3}, {}, {1}, {1,3}. -/
theorem concurrent_nodes_delete_linearizable_false : ¬ concurrent_nodes_linearizable false := by
  intro h
  have := h
    [(clientKey, [(1, fresh), (3, fresh)]), (topicKey [116], [(1, fresh), (3, fresh)])]
    [fun db => deleteTopicDB db [116], fun db => registerDB db 1 ⟨[116], []⟩, fun db => registerDB db 3 ⟨[116], []⟩]
    [nodesRead1, wsec (fun db => deleteTopicDB db [116]), nodesReadTopics 1, nodesReadFlags 1,
     wsec (fun db => registerDB db 1 ⟨[116], []⟩), wsec (fun db => registerDB db 3 ⟨[116], []⟩),
     nodesReadTopics 3, nodesReadFlags 3]
    ((Nsq.Proofs.RegistrySched.mem_interleave_iff _ _ _).mpr
      (.right (.left (.right (.right (.left (.left (.right (.right .nil)))))))))
  revert this
  decide +kernel

/-- With F37: the answer of `GET /nodes` is the atomic answer on the state after some prefix of the writers. -/
theorem concurrent_nodes_linearizable_fixed : concurrent_nodes_linearizable true := by
  intro db ws s hs
  exact Nsq.Proofs.RegistrySched.atomic_reader_sees_prefix ws nodesDB db NodesObs.init s
    (by simpa [nodesSecs] using hs)

/-- The readers are linearizable exactly when the regenerated facts say they are one critical section
(`Nsq.Tie.Registry.readersAtomic`, computed). The statement about THIS tree is
`concurrent_readers_linearizable_this_tree` below. -/
theorem concurrent_readers_linearizable_tree :
    (concurrent_lookup_linearizable Nsq.Tie.Registry.readersAtomic ↔ Nsq.Tie.Registry.readersAtomic = true) ∧
    (concurrent_nodes_linearizable Nsq.Tie.Registry.readersAtomic ↔ Nsq.Tie.Registry.readersAtomic = true) := by
  generalize Nsq.Tie.Registry.readersAtomic = b
  cases b
  · exact ⟨⟨fun h => absurd h concurrent_lookup_delete_linearizable_false, fun h => by cases h⟩,
           ⟨fun h => absurd h concurrent_nodes_delete_linearizable_false, fun h => by cases h⟩⟩
  · exact ⟨⟨fun _ => rfl, fun _ => concurrent_lookup_linearizable_fixed⟩,
           ⟨fun _ => rfl, fun _ => concurrent_nodes_linearizable_fixed⟩⟩

/-- THIS tree (F37 = /repo 682420a is committed): `Tie.Registry.readers_shape` accepts ONLY the
one-critical-section shape, the facts decide `readersAtomic = true` (`readers_atomic`), and so for every registry, every
sequence of single-section writers and every schedule the answers of `GET /lookup` and `GET /nodes` are those of one
state of the writers' serial order. With F37 reverted `readers_atomic` does not hold and this theorem fails with it. -/
theorem concurrent_readers_linearizable_this_tree :
    concurrent_lookup_linearizable Nsq.Tie.Registry.readersAtomic ∧
    concurrent_nodes_linearizable Nsq.Tie.Registry.readersAtomic := by
  rw [Nsq.Tie.Registry.readers_atomic]
  exact ⟨concurrent_lookup_linearizable_fixed, concurrent_nodes_linearizable_fixed⟩

example : (interleave [wsec (α := LookupObs) (fun db => deleteTopicDB db [116])]
    (lookupSecs Nsq.Tie.Registry.readersAtomic [116])).length = 2 := by
  rw [Nsq.Tie.Registry.readers_atomic]; decide +kernel

/-- running alone, both section lists of `GET /lookup` give the sequential answer (`qLookup` is a function of
`lookupDB`: `Nsq.Proofs.RegistrySched.lookup_answer_of_obs`) -/
theorem lookup_sections_compose (atomic : Bool) (db : DB) (t : Name) :
    runSecsO (db, LookupObs.init) (lookupSecs atomic t) = (db, lookupDB db t) := by
  cases atomic
  · simp only [lookupSecs, runSecsO, List.foldl_cons, List.foldl_nil, lookupRead1, lookupRead2, lookupRead3, lookupDB,
      Bool.false_eq_true, if_false]
    by_cases h : (findRegistrations db Cat.topic t []).isEmpty = true <;> simp [h]
  · simp [lookupSecs, runSecsO, rsec]

/-- non-vacuity: four schedules of one writer call with the three-section reader, two with the one-section reader; the
witness registry answers `200 channels [c]` before and `404` after the deletion; the non-atomic `/nodes` sections
running alone compute `nodesDB` on the witness registry -/
example : (interleave [wsec (α := LookupObs) (fun db => deleteTopicDB db [116])] (lookupSecs false [116])).length = 4 ∧
    (interleave [wsec (α := LookupObs) (fun db => deleteTopicDB db [116])] (lookupSecs true [116])).length = 2 := by decide +kernel
example : lookupDB (createChannelDB [] [116] [99]) [116] = ⟨true, [[99]], []⟩ ∧
    lookupDB (deleteTopicDB (createChannelDB [] [116] [99]) [116]) [116] = ⟨false, [], []⟩ := by decide +kernel
example : (runSecsO ([(clientKey, [(1, fresh), (3, fresh)]), (topicKey [116], [(1, fresh), (3, fresh)])], NodesObs.init)
      (nodesSecs false [1, 3])).2 =
    nodesDB [(clientKey, [(1, fresh), (3, fresh)]), (topicKey [116], [(1, fresh), (3, fresh)])] := by decide +kernel

/-- The provable part: when the two calls do not overlap (any serial order) the refinement
theorems apply — `refines_run` is exactly that statement for histories of any length. With
`RemoveProducer`+`RemoveRegistration` in ONE critical section (fixes/F12) the schedule of
`concurrent_unregister_register_linearizable_false` does not exist: UNREGISTER is then a single step, as in `step`. -/
theorem concurrent_partial_serial (r : Registry) (op₁ op₂ : Op)
    (h₁ : op₁.modelled = true) (h₂ : op₂.modelled = true) :
    abs (run r [op₁, op₂]) = ((abs r).step op₁).step op₂ := by
  simp only [run]
  rw [abs_step _ op₂ (starNode_of_modelled h₂), abs_step r op₁ (starNode_of_modelled h₁)]

section Examples
def infoA : Info := ⟨[104, 65], [110, 65], [118, 49], 4150, 4151⟩
def nodeA : Name := [104, 65, 58, 52, 49, 53, 49]   -- "hA:4151"
def tT : Name := [116]
def tE : Name := [101, 35, 101, 112, 104, 101, 109, 101, 114, 97, 108]   -- "e#ephemeral"
def cf : Conf := ⟨2500, 1500⟩

def hist : List Op :=
  [.identify 1 infoA 0, .register 1 [tT, [99]], .tombstone ⟨false, some tT, none, some nodeA⟩ 100]

example : ∀ op ∈ hist, op.modelled = true := by decide +kernel
/-- registered, then tombstoned: hidden at 200, back at 1600 (tombstone lifetime 1500), gone at
2600 (inactive for more than 2500) -/
example : ((qLookup cf (run init (hist.take 2)) tT 50).map (fun a => a.producers.map (·.1))) = some [1] := by decide +kernel
example : ((qLookup cf (run init hist) tT 200).map (fun a => a.producers.map (·.1))) = some [] := by decide +kernel
example : ((qLookup cf (run init hist) tT 1600).map (fun a => a.producers.map (·.1))) = some [1] := by decide +kernel
example : ((qLookup cf (run init hist) tT 2600).map (fun a => a.producers.map (·.1))) = some [] := by decide +kernel
example : (qNodes cf (run init hist) 200).map (fun n => (n.id, n.topics)) = [(1, [(tT, true)])] := by decide +kernel
example : qLookup cf (run init hist) tE 200 = none := by decide +kernel
/-- `WF` is not `True`: a state with a duplicated key is rejected -/
example : ¬ WF ⟨[(topicKey tT, []), (topicKey tT, [])], []⟩ := by
  intro h; have := h.db.1; revert this; decide
/-- the excluded operation really is excluded -/
example : (Op.tombstone ⟨false, some star, none, some nodeA⟩ 0).modelled = false := by decide +kernel
/-- ephemeral GC hypotheses are satisfiable: last producer of `e#ephemeral` -/
example : qTopics (run init [.identify 1 infoA 0, .register 1 [tE], .unregister 1 [tE]]) = [] := by decide +kernel
example : qTopics (run init [.identify 1 infoA 0, .register 1 [tE], .disconnect 1]) = [tE] := by decide +kernel
end Examples

end Nsq.Props.C14
