/-
C07.4 — `queue_path_identity`: envelope integrity along every queue path, proved on the E2
channel / topic state machine.

In the model every message carries its envelope `Env = (timestamp, body)` next to its id: on the
topic queue (`TMsg.env`), in every channel (`Entry.env`: queued in memory or on disk, in flight,
deferred) and in the ghost envelope logs (`Topic.envlog`: what each id was published with;
`Chan.elog`: what was put on the channel and what was handed to a consumer). A move between
memory and disk is a change of counters (`memLen/dqLen`, `TMsg.place`), a requeue / deferral /
timeout is a change of the location tag: none of them can touch `env` — that this is also what the
bytes do (`WriteTo` / `decodeMessage` round trip, per-channel copy in `Topic.messagePump`) is
C07's codec part (`dq_roundtrip`, `Tie.Wire`). What is proved here is that along EVERY operation
list (atomic operations and all micro-steps) no step of the state machine confuses two messages'
envelopes or invents one: an invariant by induction over op lists.
Excluded by the statement: a message emptied / finished and published again gets a new id.
-/
import Nsq.Props.C01
namespace Nsq.Props.C07Path
open Nsq.Model.Chan Nsq.Model.ChanNsqd Nsq.Proofs.Chan Nsq.Proofs.ChanNsqd

/-- channel level: in every state reachable from a fresh channel by any op list
(1) every located message (queued in memory or on disk, in flight — also to a vanished
    connection —, deferred; after any number of requeues with any delay, timeouts, TOUCHes)
    carries the envelope that was put on the channel under its id;
(2) every delivery handed the consumer exactly that envelope;
(3) an id has one envelope. -/
theorem queue_path_identity {conf : Conf} {c : Chan} (h : C02.Reachable conf c) :
    (∀ e ∈ c.msgs, EEv.put e.id e.env ∈ c.elog) ∧
    (∀ k id a env, EEv.deliver k id a env ∈ c.elog → EEv.put id env ∈ c.elog) ∧
    (∀ id e1 e2, EEv.put id e1 ∈ c.elog → EEv.put id e2 ∈ c.elog → e1 = e2) := by
  obtain ⟨eph, cap, ops, rfl⟩ := h
  have := run_envInv conf ops (envInv_init eph cap)
  exact ⟨this.loc, this.del, this.uniq⟩

/-- consequently a redelivery carries the same envelope as every earlier delivery of that id -/
theorem redelivery_same_envelope {conf : Conf} {c : Chan} (h : C02.Reachable conf c)
    {k1 k2 id a1 a2 : Nat} {e1 e2 : Env}
    (h1 : EEv.deliver k1 id a1 e1 ∈ c.elog) (h2 : EEv.deliver k2 id a2 e2 ∈ c.elog) : e1 = e2 := by
  obtain ⟨_, hd, hu⟩ := queue_path_identity h
  exact hu id e1 e2 (hd _ _ _ _ h1) (hd _ _ _ _ h2)

/-- daemon level — `queue_path_identity` against the publisher's record: in every state reachable
by API-level operations, for every topic
(1) every message waiting on the topic queue (memory or disk),
(2) every located message of every channel,
(3) every envelope delivered on any channel
is the envelope recorded when that id was published (`envlog`, written only by PUB / MPUB / DPUB
with the values the publisher handed over), each id has one record, and every record belongs
to an acknowledged publish (or to the enqueued prefix of a failed MPUB). -/
theorem queue_path_identity_nsqd {s : State} (h : C01.NReachable s) {t : Topic} (ht : t ∈ s.topics) :
    (∀ m ∈ t.queue, (m.id, m.env) ∈ t.envlog) ∧
    (∀ nc ∈ t.chans, ∀ e ∈ nc.ch.msgs, (e.id, e.env) ∈ t.envlog) ∧
    (∀ nc ∈ t.chans, ∀ k id a env, EEv.deliver k id a env ∈ nc.ch.elog → (id, env) ∈ t.envlog) ∧
    (∀ id e1 e2, (id, e1) ∈ t.envlog → (id, e2) ∈ t.envlog → e1 = e2) ∧
    (∀ p ∈ t.envlog, p.1 ∈ t.acked ∨ p.1 ∈ t.unacked) := by
  have hi := (C01.nreachable_inv h).topics t ht
  refine ⟨hi.qenv, ?_, ?_, fun id e1 e2 h1 h2 => envlog_functional hi.elnodup h1 h2, hi.elid⟩
  · intro nc hnc e he
    exact hi.cput nc hnc e.id e.env ((hi.cenv nc hnc).loc e he)
  · intro nc hnc k id a env hd
    exact hi.cput nc hnc id env ((hi.cenv nc hnc).del k id a env hd)

/-- `topic_fanout_copies_envelope` at history level — the per-channel copies the topic pump makes
carry the same id / timestamp / body on every channel: two located copies, and two deliveries,
of one id on any two channels of a topic have the same envelope. -/
theorem topic_fanout_copies_envelope {s : State} (h : C01.NReachable s) {t : Topic} (ht : t ∈ s.topics)
    {nc1 nc2 : NChan} (h1 : nc1 ∈ t.chans) (h2 : nc2 ∈ t.chans) :
    (∀ e1 ∈ nc1.ch.msgs, ∀ e2 ∈ nc2.ch.msgs, e1.id = e2.id → e1.env = e2.env) ∧
    (∀ k1 k2 id a1 a2 v1 v2, EEv.deliver k1 id a1 v1 ∈ nc1.ch.elog → EEv.deliver k2 id a2 v2 ∈ nc2.ch.elog → v1 = v2) ∧
    (∀ id v1 v2, EEv.put id v1 ∈ nc1.ch.elog → EEv.put id v2 ∈ nc2.ch.elog → v1 = v2) := by
  obtain ⟨_, hloc, hdel, hfun, _⟩ := queue_path_identity_nsqd h ht
  have hi := (C01.nreachable_inv h).topics t ht
  refine ⟨?_, ?_, ?_⟩
  · intro e1 he1 e2 he2 hid
    have a := hloc nc1 h1 e1 he1
    have b := hloc nc2 h2 e2 he2
    rw [hid] at a
    exact hfun _ _ _ a b
  · intro k1 k2 id a1 a2 v1 v2 d1 d2
    exact hfun _ _ _ (hdel nc1 h1 _ _ _ _ d1) (hdel nc2 h2 _ _ _ _ d2)
  · intro id v1 v2 p1 p2
    exact hfun _ _ _ (hi.cput nc1 h1 id v1 p1) (hi.cput nc2 h2 id v2 p2)

/-- the step that makes the copies: `pumpTopic` puts the message's own envelope — and nothing
else — on the channels (every new `put` record is `(m.id, m.env)`) -/
theorem pump_copies_envelope (conf : NConf) (pump : List Nat) (m : TMsg) (kept : Bool) (pris : List (Nat × Int))
    {nc : NChan} (hi : Inv 0 nc.ch) (he : EnvInv nc.ch) (hnew : nFanout nc.ch.hist m.id = 0) :
    (∀ i ev, EEv.put i ev ∈ (fanOne conf pump m kept pris nc).ch.elog → EEv.put i ev ∈ nc.ch.elog ∨ (i = m.id ∧ ev = m.env)) ∧
    (pump.contains nc.cid = true → EEv.put m.id m.env ∈ (fanOne conf pump m kept pris nc).ch.elog) := by
  refine ⟨(fanOne_spec conf pump m kept pris hi hnew he).2.2.2.2, ?_⟩
  intro hp
  rcases fanOne_eq conf pump m kept pris nc with ⟨hp', _⟩ | ⟨_, cop, hc, h⟩
  · rw [hp] at hp'; cases hp'
  · rw [h]; exact put_records _ hi hc hnew

/-- a publish records exactly the envelope it was given, under the id it returns -/
theorem publish_records_envelope (s : State) (t sz d : Nat) (env : Env) :
    (∃ tp ∈ (Nsq.Model.ChanNsqd.step s (.pub t sz env)).1.topics, tp.tid = t ∧ (s.nextId, env) ∈ tp.envlog ∧
        ∃ m ∈ tp.queue, m.id = s.nextId ∧ m.env = env) ∧
    (∃ tp ∈ (Nsq.Model.ChanNsqd.step s (.dpub t sz d env)).1.topics, tp.tid = t ∧ (s.nextId, env) ∈ tp.envlog ∧
        ∃ m ∈ tp.queue, m.id = s.nextId ∧ m.env = env) := by
  obtain ⟨y, hy, hyt⟩ := ensureTopic_has s t
  have hn := (ensureTopic_nextId s t).1
  constructor
  · simp only [Nsq.Model.ChanNsqd.step]
    refine ⟨_, mem_updT.2 ⟨y, hy, rfl⟩, ?_⟩
    simp [hyt, putT, hn]
  · simp only [Nsq.Model.ChanNsqd.step]
    refine ⟨_, mem_updT.2 ⟨y, hy, rfl⟩, ?_⟩
    simp [hyt, putT, hn]

/-! non-vacuity: two channels, a message published with timestamp 111 / body 222, delivered on
one channel, requeued with a delay, released, redelivered; the other channel's copy still queued -/
def exOps : List Nsq.Model.ChanNsqd.Op :=
  [.createChan 1 1 false, .createChan 1 2 false, .pub 1 10 ⟨111, 222⟩, .pumpTopic 1 1 false [],
   .sub 5 1 1 false 60 0, .rdy 5 (some 1), .deliver 5 1 1000, .req 5 1 7 1001, .scanDeferred 1 1 99999999999,
   .deliver 5 1 2000]
def exS : State := Nsq.Model.ChanNsqd.run { conf := { memq := 0 } } exOps
example : C01.NReachable exS := ⟨_, _, by decide, rfl⟩
example : exS.topics.map (fun t => t.chans.map (fun nc => nc.ch.msgs.map (fun e => (e.id, e.att, e.env)))) =
    [[[(1, 2, ⟨111, 222⟩)], [(1, 0, ⟨111, 222⟩)]]] := by decide
example : exS.topics.map (fun t => t.chans.map (fun nc => nc.ch.elog)) =
    [[[.deliver 5 1 2 ⟨111, 222⟩, .deliver 5 1 1 ⟨111, 222⟩, .put 1 ⟨111, 222⟩], [.put 1 ⟨111, 222⟩]]] := by decide

end Nsq.Props.C07Path
