/-
C13 — stats account for every message (channel and client level; the topic level and the
rendering are in the second half of this file).
-/
import Nsq.Proofs.ChanCount
import Nsq.Proofs.ChanInvA
import Nsq.Props.C02
import Nsq.Proofs.ChanInFl
import Nsq.Props.C01
import Nsq.Proofs.ChanStats
namespace Nsq.Props.C13
open Nsq.Model.Chan Nsq.Proofs.Chan

/-- reachable by atomic operations only (no FIN split around an Empty) -/
def ReachableA (conf : Conf) (c : Chan) : Prop :=
  ∃ (eph : Bool) (cap : Nat) (ops : List Op), (∀ op ∈ ops, op.atomic = true) ∧
    c = run conf { ephemeral := eph, memCap := cap } ops

theorem reachableA_invA {conf : Conf} (hconf : 0 ≤ conf.maxRdy) {c : Chan} (h : ReachableA conf c) : InvA conf c := by
  obtain ⟨eph, cap, ops, hat, rfl⟩ := h
  exact run_invA conf hconf ops hat (invA_init conf eph cap)

theorem invOkA_sound {conf : Conf} (hconf : 0 ≤ conf.maxRdy) {c : Chan} (h : ReachableA conf c) : invOkA conf c = true :=
  invOkA_of_invA (reachableA_invA hconf h)

def nInflight (c : Chan) : Nat := c.msgs.countP isInflight
def nDeferred (c : Chan) : Nat := c.msgs.countP isDeferred

/-- C13.1 — `message_count = depth + in-flight + deferred + finished + emptied + sampled out +
dropped by an ephemeral queue`, with `depth = memLen + dqLen` = number of queued messages;
`requeue_count` / `timeout_count` count the accepted REQs / the timeouts. Holds in every
reachable state, micro-steps included. -/
theorem channel_conservation {conf : Conf} {c : Chan} (h : C02.Reachable conf c) :
    c.messageCount = (c.memLen + c.dqLen) + nInflight c + nDeferred c
        + nEv isFin c.hist + nEmptied c.hist + nEv isSampled c.hist + nEv isEphDrop c.hist
    ∧ c.memLen + c.dqLen = nQueued c.msgs
    ∧ c.requeueCount = nEv isReq c.hist ∧ c.timeoutCount = nEv isTimeout c.hist
    ∧ c.messageCount = nEv isFanout c.hist := by
  have hi := C02.reachable_inv h
  have hp := length_partition c.msgs
  have h1 := hi.mcL
  have h2 := hi.counts
  simp only [nGone, nQueued, nInflight, nDeferred] at *
  exact ⟨by omega, by omega, hi.rq, hi.to, hi.mcF⟩

/-- the property's own formula for a durable channel: nothing is ever dropped by the queue
(`Channel.put` overflows to disk) — `message_count = depth + in flight + deferred + finished +
emptied (+ sampled out, 0 without sampling consumers)` -/
theorem conservation_durable {conf : Conf} {cap : Nat} {ops : List Op} :
    let c := run conf { ephemeral := false, memCap := cap } ops
    nEv isEphDrop c.hist = 0 ∧
    c.messageCount = (c.memLen + c.dqLen) + nInflight c + nDeferred c
        + nEv isFin c.hist + nEmptied c.hist + nEv isSampled c.hist := by
  intro c
  have hz : nEv isEphDrop c.hist = 0 :=
    (run_keeps (P := fun c' => nEv isEphDrop c'.hist = 0 ∧ c'.ephemeral = false) conf ops
      (fun c0 op _ h => ⟨(ephDrop_only_ephemeral conf c0 op h.2).1.trans h.1, (ephDrop_only_ephemeral conf c0 op h.2).2⟩)
      (c := { ephemeral := false, memCap := cap }) ⟨rfl, rfl⟩).1
  have := (channel_conservation (conf := conf) (c := c) ⟨false, cap, ops, rfl⟩).1
  exact ⟨hz, by omega⟩

/-- C13.3 / C13.4 — every connected consumer's counters are what that consumer did:
`ready_count` is its last accepted RDY (0 after CLS), `message_count` its deliveries,
`finish_count` / `requeue_count` its accepted FINs / REQs, `in_flight_count` the number of
messages it currently holds — in particular never negative. (Atomic model.) -/
theorem client_counters {conf : Conf} (hconf : 0 ≤ conf.maxRdy) {c : Chan} (h : ReachableA conf c)
    {cl : Client} (hcl : cl ∈ c.clients) :
    cl.rdy = rdyOf c.hist cl.conn ∧ (cl.closing = true → cl.rdy = 0) ∧
    cl.msgCount = nDeliverBy c.hist cl.conn ∧ cl.finCount = nFinBy c.hist cl.conn ∧
    cl.reqCount = nReqBy c.hist cl.conn ∧
    cl.inFlight = (heldBy c.msgs cl.conn : Int) ∧ cl.inFlight = outstanding c.hist cl.conn :=
  (reachableA_invA hconf h).counters hcl

/-- C13.4 — no reported number is negative (all are `Nat` in the model except the two `Int`s) -/
theorem nonneg {conf : Conf} (hconf : 0 ≤ conf.maxRdy) {c : Chan} (h : ReachableA conf c)
    {cl : Client} (hcl : cl ∈ c.clients) : 0 ≤ cl.inFlight ∧ 0 ≤ cl.rdy ∧ cl.rdy ≤ conf.maxRdy :=
  (reachableA_invA hconf h).nonneg hcl

/-- C13.4 at full strength — over every schedule, with FIN split into its two critical sections
(`finChan | finClient`) and the pump into `guard | deliverArmed`: a consumer's `in_flight_count` is
the number of messages it holds in the in-flight map plus the number of its FINs that have
completed on the channel and not yet run `client.FinishedMessage()`. `Channel.Empty` subtracts
per consumer exactly what it dropped (`clientV2.Discarded`, fix F13), so the equation survives an
`Empty` inside the FIN window. -/
theorem inflight_exact_full {conf : Conf} {c : Chan} (h : C02.Reachable conf c) {cl : Client} (hcl : cl ∈ c.clients) :
    cl.inFlight = (heldBy c.msgs cl.conn : Int) + (c.pendingFin.count cl.conn : Nat) := by
  obtain ⟨eph, cap, ops, rfl⟩ := h
  exact (run_invFl conf ops (inv_init eph cap) (inFl_init eph cap)).2 cl hcl

/-- … in particular it is never negative, along any schedule (this was false before F13: the
schedule `f8Ops` below drove it to −1 when `Empty` stored 0). -/
theorem nonneg_full {conf : Conf} {c : Chan} (h : C02.Reachable conf c) {cl : Client} (hcl : cl ∈ c.clients) :
    0 ≤ cl.inFlight := by
  rw [inflight_exact_full h hcl]
  omega

/-- the executable form the driver evaluates at `inv` lines of micro-step episodes -/
theorem inFlOk_sound {conf : Conf} {c : Chan} (h : C02.Reachable conf c) : inFlOk c = true := by
  simp only [inFlOk, List.all_eq_true, beq_iff_eq]
  exact fun cl hcl => inflight_exact_full h hcl

/-- the F8 schedule: consumer 1 holds message 7; its FIN completes on the channel
(`Channel.FinishMessage`), `Channel.Empty` runs, then `client.FinishedMessage()` decrements -/
def f8Ops : List Op :=
  [.put 7, .addClient 1 60 0, .rdy 1 1, .deliver 1 7 100, .finChan 1 7, .empty, .finClient 1]

/-- after `Empty` inside the window the counter is still 1 (the pending FIN's), afterwards 0 -/
example : (run {} {} (f8Ops.take 6)).clients.map (·.inFlight) = [1] ∧
    (run {} {} f8Ops).clients.map (·.inFlight) = [0] := by decide

/-- and the C03 bound is intact afterwards: with RDY 1 and one message held the next delivery is refused -/
example : ((step {} (run {} {} (f8Ops ++ [.put 8, .put 9, .deliver 1 8 200])) (.deliver 1 9 201)).2) = .reject "guard" := by decide

/-! non-vacuity -/
example : ReachableA {} (run {} {} [.put 7, .addClient 1 60 0, .rdy 1 1, .deliver 1 7 100, .fin 1 7]) :=
  ⟨false, 0, _, by decide, rfl⟩
example : (run ({} : Conf) {} [.put 7, .addClient 1 60 0, .rdy 1 1, .deliver 1 7 100, .fin 1 7]).clients.map
    (fun cl => (cl.rdy, cl.inFlight, cl.msgCount, cl.finCount)) = [(1, 0, 1, 1)] := by decide

section Nsqd
open Nsq.Model.ChanNsqd Nsq.Proofs.ChanNsqd Nsq.Model.ChanStats Nsq.Proofs.ChanStats

/-- C13.2 `topic_conservation` (count) — in every reachable state a topic's `message_count` is the
number of acknowledged publishes plus the messages enqueued by failed MPUBs (their prefix), and
these are exactly the ids sitting in the topic queue or already fanned out. -/
theorem topic_conservation {s : State} (h : C01.NReachable s) {t : Topic} (ht : t ∈ s.topics) :
    t.msgCount = t.acked.length + t.unacked.length ∧
    (∀ i, (i ∈ t.acked ∨ i ∈ t.unacked) ↔ (i ∈ t.queue.map (·.id) ∨ i ∈ t.pumped)) :=
  let hi := (C01.nreachable_inv h).topics t ht
  ⟨hi.count, hi.ackq⟩

/-- C13.2 (bytes) — every publish to an existing topic adds exactly the body bytes of what it
enqueued: PUB/DPUB the message, MPUB all messages, a failed MPUB the prefix that was enqueued before
the failing write; other topics are untouched. -/
theorem topic_bytes (s : State) (t : Nat) {tp : Topic} (hf : findT s.topics t = some tp)
    (op : Nsq.Model.ChanNsqd.Op) (nb nc : Nat)
    (hop : (∃ sz e, op = .pub t sz e ∧ nb = sz ∧ nc = 1) ∨ (∃ sz d e, op = .dpub t sz d e ∧ nb = sz ∧ nc = 1) ∨
           (∃ sizes es, op = .mpub t sizes es ∧ nb = sizes.sum ∧ nc = sizes.length) ∨
           (∃ sizes j es, op = .mpubFail t sizes j es ∧ j < sizes.length ∧ nb = (sizes.take j).sum ∧ nc = j)) :
    ∀ y' ∈ (Nsq.Model.ChanNsqd.step s op).1.topics, ∃ y ∈ s.topics, y'.tid = y.tid ∧
      (y.tid = t → y'.msgBytes = y.msgBytes + nb ∧ y'.msgCount = y.msgCount + nc) ∧ (y.tid ≠ t → y' = y) := by
  have hens : ensureTopic s t = s := by simp [ensureTopic, hf]
  have key : ∀ (f : Topic → Topic), (∀ z, (f z).tid = z.tid ∧ (f z).msgBytes = z.msgBytes + nb ∧ (f z).msgCount = z.msgCount + nc) →
      ∀ y' ∈ updT s.topics t f, ∃ y ∈ s.topics, y'.tid = y.tid ∧
        (y.tid = t → y'.msgBytes = y.msgBytes + nb ∧ y'.msgCount = y.msgCount + nc) ∧ (y.tid ≠ t → y' = y) := by
    intro f hfz
    exact forall_updT (fun z hz hk => ⟨z, hz, (hfz z).1, fun _ => (hfz z).2, fun h => absurd hk h⟩)
      (fun z hz hk => ⟨z, hz, rfl, fun h => absurd h hk, fun _ => rfl⟩)
  rcases hop with ⟨sz, e, rfl, rfl, rfl⟩ | ⟨sz, d, e, rfl, rfl, rfl⟩ | ⟨sizes, es, rfl, rfl, rfl⟩ | ⟨sizes, j, es, rfl, hj, rfl, hnc⟩
  · simp only [Nsq.Model.ChanNsqd.step, hens]
    exact key _ (fun z => by obtain ⟨q, hq, _⟩ := putT_spec z s.nextId nb 0 e; simp [hq])
  · simp only [Nsq.Model.ChanNsqd.step, hens]
    exact key _ (fun z => by obtain ⟨q, hq, _⟩ := putT_spec z s.nextId nb d e; simp [hq])
  · simp only [Nsq.Model.ChanNsqd.step, hens]
    exact key _ (fun z => by obtain ⟨q, el, hq, _⟩ := putMany_spec z s.nextId sizes es; simp [hq])
  · subst hnc
    have hj' : ¬ nc ≥ sizes.length := by omega
    simp only [Nsq.Model.ChanNsqd.step, hens]
    rw [if_neg hj']
    exact key _ (fun z => by obtain ⟨q, el, hq, _⟩ := putMany_spec z s.nextId (sizes.take nc) es; simp [hq])

/-- C13.5 `render_agree` — the JSON and the text rendering, under every topic / channel /
include_clients filter, are projections of one snapshot: every row they show is (the projection
of) the row of the unfiltered JSON rendering for the same (topic, channel) key (text omits
`message_bytes` and `client_count`; `include_clients=false` omits the client list). -/
theorem render_agree (s : State) (fmt : Fmt) (ft fc : Option Nat) (incl : Bool) :
    ∀ r ∈ rows fmt (filterSnap ft fc incl (snapshot s)),
      ∃ r' ∈ rows .json (snapshot s), r'.key = r.key ∧ project fmt incl r' = r := by
  intro r hr
  obtain ⟨t', ht', hr⟩ := mem_rows.1 hr
  obtain ⟨t, ht, -, -, rfl⟩ := mem_filterSnap.1 ht'
  rcases hr with rfl | ⟨c', hc', rfl⟩
  · exact ⟨topicRow .json t, mem_rows.2 ⟨t, ht, .inl rfl⟩, by rw [topicRow_shown]; rfl, (topicRow_shown ..).symm⟩
  · obtain ⟨c, hc, -, rfl⟩ := mem_shown_chans.1 hc'
    rw [shown_tid, chanRow_shown]
    exact ⟨chanRow .json t.tid c, mem_rows.2 ⟨t, ht, .inr ⟨c, hc, rfl⟩⟩, rfl, rfl⟩

/-- C13.5, completeness direction (`render_agree` alone is satisfied by a filter that returns
nothing): every topic of the snapshot that passes the topic filter — and, under a channel filter, owns that channel —
is shown (projected) by the JSON and the text rendering, and so is each of its channels that passes the channel
filter. Together with `render_agree`: the filtered rendering is EXACTLY the projection of the matching rows. The
driver renders these `rows` (`statsq` lines) and the harness diffs them against the real `/stats` answers. -/
theorem render_complete (s : State) (fmt : Fmt) (ft fc : Option Nat) (incl : Bool) :
    ∀ t ∈ snapshot s, (ft = none ∨ ft = some t.tid) → (∀ c, fc = some c → ∃ x ∈ t.chans, x.cid = c) →
      project fmt incl (topicRow .json t) ∈ rows fmt (filterSnap ft fc incl (snapshot s)) ∧
      ∀ c ∈ t.chans, (fc = none ∨ fc = some c.cid) →
        project fmt incl (chanRow .json t.tid c) ∈ rows fmt (filterSnap ft fc incl (snapshot s)) := by
  intro t ht hft hfc
  have ht' := (mem_filterSnap (incl := incl)).2 ⟨t, ht, hft, hfc, rfl⟩
  exact ⟨mem_rows.2 ⟨_, ht', .inl (topicRow_shown ..).symm⟩, fun c hc hm =>
    mem_rows.2 ⟨_, ht', .inr ⟨_, mem_shown_chans.2 ⟨c, hc, hm, rfl⟩, by rw [shown_tid, chanRow_shown]⟩⟩⟩

/-! non-vacuity: a state with two topics, filters that select and filters that select nothing -/
example : (rows .text (filterSnap (some 1) (some 1) false (snapshot C01.exN))).length = 2 ∧
    (rows .json (filterSnap none none true (snapshot C01.exN))).length = 3 ∧
    (rows .json (filterSnap (some 9) none true (snapshot C01.exN))).length = 0 := by decide

/-- `render_complete` applied: topic 1 of `C01.exN` passes the filter `topic=1`, so its row is in the text rendering -/
example : (snapshot C01.exN).any (fun t => t.tid == 1) = true ∧
    ∀ t ∈ snapshot C01.exN, t.tid = 1 →
      project .text false (topicRow .json t) ∈ rows .text (filterSnap (some 1) none false (snapshot C01.exN)) :=
  ⟨by decide, fun t ht h1 =>
    (render_complete C01.exN .text (some 1) none false t ht (Or.inr (by rw [h1])) (fun c hc => by cases hc)).1⟩

end Nsqd

end Nsq.Props.C13
