import Nsq.Proofs.HttpFull
import Nsq.Proofs.AsciiString
/-!
# C10 — the whole nsqd HTTP table

`Nsq.Model.HttpFull.serve` covers every `router.Handle / HandlerFunc / Handler` registration of
`newHTTPServer` with its decorator (`Nsq.Tie.ProtoHttpFull.routes_full`), the response envelope of
`http_api.V1 / PlainText / RespondV1`, `/stats` (arguments and content), `/info`, `/ping`,
`/config/:opt` GET and PUT (`log_level`, `nsqlookupd_tcp_addresses`), `/debug/setblockrate`,
`/debug/freememory`; only the nine `net/http/pprof` handlers stay `external`. It is driven by the
correspondence leg `httpx` (`harness/e3/httpfull_test.go`). The theorems below quantify over all
requests, options and broker states.
-/
namespace Nsq.Props.C10Full
open Nsq.Model.HttpFull Nsq.Model.HttpApi Nsq.Model.ProtoV2 Nsq.Model.Names Nsq.Model.Base10 Nsq.Model
open Nsq.Proofs.HttpFull Nsq.Proofs.HttpApi

/-! ## 1. Status codes over the whole table -/

/-- Every error status of every registered route has its documented cause: 413 ⇒ something oversize,
400 ⇒ a bad/missing argument — for `/config` precisely: value not a log level / not a JSON list of
strings / option not settable / option unknown; for `/debug/setblockrate`: `rate` missing or not an
integer —, 404 ⇒ unknown topic/channel, 405 ⇒ registered path, other method, 403 ⇒ TLS required,
500 ⇒ the injected health fault on /ping, `external` ⇒ one of the pprof registrations. -/
theorem status_documented_full (hc : HConf) (healthy : Bool) (b : Broker) (rq : Request) :
    DocFull hc healthy b rq (HttpFull.serve hc healthy b rq).1 :=
  (serve_cases hc healthy b rq).doc

/-- No request to any registered route is answered 500 while the daemon is healthy (F24: `PlainText`
answers the nil result of the two debug handlers with an empty 200). -/
theorem no_500_full (hc : HConf) (b : Broker) (rq : Request) :
    (HttpFull.serve hc true b rq).1.status ≠ .s500 := by
  intro h
  have := (status_documented_full hc true b rq).s500 h
  simp at this

/-- Only the `net/http/pprof` registrations are outside the model. -/
theorem external_only_pprof (hc : HConf) (healthy : Bool) (b : Broker) (rq : Request)
    (h : (HttpFull.serve hc healthy b rq).1.status = .external) :
    ∃ name, routeFull rq.method rq.path = .handler name .raw :=
  (status_documented_full hc healthy b rq).ext h

/-- F24, before the repair: the decorator turned the nil result of `/debug/freememory` (and of a
valid `/debug/setblockrate`) into 500 INTERNAL_ERROR. After it: an empty 200. -/
theorem debug_nil_result (hc : HConf) (healthy : Bool) (b : Broker) (rq : Request) :
    renderPlainOld (runFull hc healthy b rq "freeMemory").1 = ⟨.s500, true, true, .errJson "INTERNAL_ERROR"⟩ ∧
    renderPlain (runFull hc healthy b rq "freeMemory").1 = ⟨.s200, false, false, .empty⟩ := by
  simp [runFull, baseHandler, renderPlainOld, renderPlain]

example : (HttpFull.serve Examples.hconf true [] ⟨ascii "POST", ascii "/debug/freememory", [], 0, []⟩).1 =
    ⟨.s200, false, false, .empty⟩ := by decide +kernel
example : (HttpFull.serve Examples.hconf true [] ⟨ascii "PUT", ascii "/debug/setblockrate", ascii "rate=x", 0, []⟩).1.status
    = .s400 := by decide +kernel
example : (HttpFull.serve Examples.hconf true [] ⟨ascii "PUT", ascii "/debug/setblockrate", ascii "%zz&rate=-7", 0, []⟩).1.status
    = .s200 := by decide +kernel
example : (HttpFull.serve Examples.hconf true [] ⟨ascii "GET", ascii "/debug/pprof/heap", [], 0, []⟩).1.status = .external := by
  decide +kernel
example : (HttpFull.serve Examples.hconf true [] ⟨ascii "POST", ascii "/debug/pprof/heap", [], 0, []⟩).1 =
    ⟨.s405, true, true, .errJson "METHOD_NOT_ALLOWED"⟩ := by decide +kernel
example : (HttpFull.serve Examples.hconf false [] ⟨ascii "GET", ascii "/ping", [], 0, []⟩).1 =
    ⟨.s500, false, false, .freeText⟩ := by decide +kernel

/-! ## 2. Every response is well formed -/

/-- The envelope: `Content-Type: application/json` exactly when the body is a JSON document; an
error document is `{"message":"M"}` with `M` from the catalogue, carries the NSQ header and a non-200
status; whatever carries the NSQ header and is not 200 is such a document (or the TLS refusal); a
200 never carries one. -/
theorem response_wellformed (hc : HConf) (healthy : Bool) (b : Broker) (rq : Request) :
    WireOK hc (HttpFull.serve hc healthy b rq).1 :=
  (serve_cases hc healthy b rq).wire

/-- The catalogue consists of upper-case letters and `_` only, so `json.Marshal` renders
`{"message":"M"}` literally (no escaping can occur). -/
theorem error_messages_literal : ∀ m ∈ errorMessages, m.toList.all plainJsonChar = true := by
  -- read the characters off the bytes: the kernel decodes `String.toList` in quadratic time
  rw [Proofs.AsciiString.toList_eq_chars]; decide +kernel

example : (HttpFull.serve Examples.hconf true [] ⟨ascii "POST", ascii "/pub", ascii "topic=bad!", 1, [1]⟩).1 =
    ⟨.s400, true, true, .errJson "INVALID_TOPIC"⟩ := by decide +kernel
example : (HttpFull.serve { Examples.hconf with tlsRefuse := true } true [] ⟨ascii "GET", ascii "/ping", [], 0, []⟩).1 =
    ⟨.s403, true, true, .tlsJson⟩ := by decide +kernel
example : (HttpFull.serve Examples.hconf true [] ⟨ascii "GET", ascii "/info", [], 0, []⟩).1 =
    ⟨.s200, true, true, .json .info⟩ := by decide +kernel

/-! ## 3. `/stats` -/

/-- `/stats` shows exactly the selected topics. -/
theorem stats_lists_exactly (b : Broker) (topic channel : Bytes) (tv : TopicView) :
    tv ∈ statsView b topic channel ↔
      ∃ t ∈ b, (topic = [] ∨ t.name = topic) ∧
        ((channel = [] ∧ tv = topicView t t.chans) ∨
         (channel ≠ [] ∧ hasChan t channel = true ∧ tv = topicView t (t.chans.filter (·.name == channel)))) := by
  have h1 (t : Topic) : t ∈ (if topic.isEmpty then b else b.filter (·.name == topic)) ↔
      t ∈ b ∧ (topic = [] ∨ t.name = topic) := by
    cases topic <;> simp [List.mem_filter]
  show tv ∈ List.filterMap (shown channel) _ ↔ _
  simp only [List.mem_filterMap, (perm_sortBy _ _).mem_iff, h1, shown_iff, and_assoc]

/-- Without filters `/stats` shows every topic of the broker once. -/
theorem stats_all (b : Broker) : (statsView b [] []).length = b.length := by
  unfold statsView
  simp [(perm_sortBy _ _).length_eq]

/-- `/stats` lists the topics in name order, and the channels of each topic likewise. -/
theorem stats_sorted (b : Broker) (topic channel : Bytes) :
    (statsView b topic channel).Pairwise (fun x y => bytesLe x.name y.name = true) ∧
    ∀ (t : Topic) (cs : List Chan), (topicView t cs).chans.Pairwise (fun x y => bytesLe x.name y.name = true) := by
  have hs {α : Type} (f : α → Bytes) (l : List α) :
      (sortBy (fun x y => bytesLe (f x) (f y)) l).Pairwise (fun x y => bytesLe (f x) (f y) = true) :=
    pairwise_sortBy _ (fun a b c => bytesLe_trans (f a) (f b) (f c)) (fun a b => bytesLe_total (f a) (f b)) l
  refine ⟨?_, fun t cs => List.Pairwise.map _ (fun a b h => h) (hs Chan.name cs)⟩
  refine List.Pairwise.filterMap (shown channel) ?_ (hs Topic.name _)
  intro t t' hle v hv v' hv'
  rw [shown_name hv, shown_name hv']; exact hle

example : statsView Examples.broker2 [] [] =
    [⟨ascii "a", false, 1, 1, []⟩, ⟨ascii "b", false, 0, 0, []⟩] := by decide +kernel
example : statsView Examples.broker2 (ascii "b") [] = [⟨ascii "b", false, 0, 0, []⟩] := by decide +kernel
example : statsView Examples.broker2 [] (ascii "c") = [] := by decide +kernel
example : (HttpFull.serve Examples.hconf true Examples.broker2
    ⟨ascii "GET", ascii "/stats", ascii "format=json&include_mem=0&topic=b", 0, []⟩).1.body =
    .json (.stats [⟨ascii "b", false, 0, 0, []⟩] true false) := by decide +kernel

/-! ## Which requests touch the broker -/

/-- A `GET` never changes the broker (whatever path, query, body). -/
theorem get_never_changes_broker (hc : HConf) (healthy : Bool) (b : Broker) (rq : Request)
    (hget : rq.method = ascii "GET") : (HttpFull.serve hc healthy b rq).2 = b :=
  (serve_cases hc healthy b rq).readonly hget

/-- No handler other than the publish and admin ones changes the broker, whatever the method (`/config` PUT
included: it changes options, not topics). -/
theorem only_publish_and_admin_touch_the_broker (hc : HConf) (healthy : Bool) (b : Broker) (rq : Request)
    (name : String) (hn : baseHandler name = none) : (runFull hc healthy b rq name).2 = b :=
  runFull_snd_of_not_base hc healthy b rq name hn

example : (HttpFull.serve Examples.hconf true Examples.broker2
    ⟨ascii "GET", ascii "/stats", ascii "format=json", 0, []⟩).2 = Examples.broker2 := by decide +kernel
example : baseHandler "doConfig" = none := by decide +kernel

/-! ## 4. `/config/:opt` -/

/-- `PUT /config/log_level` on ASCII input is the case-insensitive comparison with the five words
(non-ASCII: `İ` and the Kelvin sign also lower-case to ASCII letters — `goLower`), and the level
answered is 1 … 5. -/
theorem log_level_ascii (s : Bytes) (h : ∀ c ∈ s, c < 128) : parseLogLevel s = wordLevel (asciiLower s) := by
  unfold parseLogLevel
  rw [goLower_ascii s h]

theorem log_level_range (s : Bytes) (n : Nat) (h : parseLogLevel s = some n) : 1 ≤ n ∧ n ≤ 5 :=
  wordLevel_range _ n h

/-- `PUT /config/nsqlookupd_tcp_addresses` accepts the compact JSON rendering of every list of
plain strings (no quote, backslash or control character). -/
theorem lookupd_addresses_accepts_rendered (xs : List Bytes) (h : ∀ x ∈ xs, Plain x) :
    isStrArrayJson (renderArr xs) = true := by
  unfold isStrArrayJson
  cases xs with
  | nil => simp [renderArr, jsStep, isWs]
  | cons x r =>
    have h91 : jsStep .start 91 = .arr0 := by simp [jsStep, isWs]
    simp only [renderArr, List.foldl_cons, h91]
    rw [fold_quote_tail x (h x (by simp)) _ .arr0 (by simp [jsStep, isWs])]
    simp [fold_renderTail r (fun y hy => h y (by simp [hy]))]

example : parseLogLevel [0xC4, 0xB0, 110, 102, 111] = some 2 := by decide      -- "İnfo"
example : parseLogLevel (ascii "WaRn") = some 3 := by decide +kernel
example : parseLogLevel (ascii "warning") = none := by decide +kernel
example : isStrArrayJson (ascii " [ \"a:1\" , null ,\"\\u00e9\\n\" ] ") = true := by decide +kernel
example : isStrArrayJson (ascii "null") = true := by decide +kernel
example : isStrArrayJson (ascii "[1]") = false := by decide +kernel
example : isStrArrayJson (ascii "[\"a\",]") = false := by decide +kernel
example : isStrArrayJson (ascii "{}") = false := by decide +kernel
example : isStrArrayJson (ascii "\"a\"") = false := by decide +kernel
example : isStrArrayJson (ascii "[\"\\x\"]") = false := by decide +kernel
example : renderArr [ascii "a:1", ascii "b"] = ascii "[\"a:1\",\"b\"]" := by decide +kernel

/-! ## 5. `HttpFull` extends the C10 model -/

/-- Wherever `HttpApi` has an answer (`status ≠ external`) the widened model gives the same status;
the publish and admin handlers are taken over unchanged (same status, same broker). -/
theorem extends_http_api (hc : HConf) (healthy : Bool) (b : Broker) (rq : Request) :
    (renderV1 (doStatsFull b rq)).status = (doStats b rq).1.status ∧
    ((doConfig hc b rq).1.status ≠ .external →
      (renderV1 (doConfigFull hc rq)).status = (doConfig hc b rq).1.status) ∧
    ∀ name h, baseHandler name = some h →
      (renderV1 (runFull hc healthy b rq name).1).status = (runHandler hc healthy b rq h).1.status ∧
      (runFull hc healthy b rq name).2 = (runHandler hc healthy b rq h).2 := by
  refine ⟨?_, ?_, fun name h hn => ?_⟩
  · -- /stats
    unfold doStatsFull doStats
    cases parseQuery rq.rawQuery with
    | none => rfl
    | some kv =>
      simp only []
      split <;> rfl
  · -- `PUT nsqlookupd_tcp_addresses` is the one answer of `doConfig` that is `external`
    unfold doConfigFull kLookupdAddrs kLogLevel parseLogLevel
    fun_cases doConfig hc b rq
    case case3 => exact fun h => absurd rfl h
    all_goals intro _
    case case4 hl _ _ _ =>
      rw [← wordLevel_isSome, Option.isSome_iff_exists] at hl
      obtain ⟨n, hn⟩ := hl
      simp only [if_true, if_false, *]
      rfl
    case case5 hl _ _ _ =>
      rw [← wordLevel_isSome, Bool.not_eq_true, Option.isSome_eq_false_iff, Option.isNone_iff_eq_none] at hl
      simp only [if_true, if_false, *]
      rfl
    case case7 =>
      simp only [if_false, if_true, *]
      split <;> rfl
    all_goals simp only [if_true, if_false, *]
    all_goals rfl
  · rw [runFull_base hc healthy b rq hn]
    exact ⟨renderV1_ofResponse_status _, rfl⟩

example : baseHandler "doPUB" = some .pub := by decide +kernel

end Nsq.Props.C10Full
