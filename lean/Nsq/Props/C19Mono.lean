import Nsq.Props.C19Ops
import Nsq.Proofs.ToFileTrack
/-!
# C19 — step-wise "no overwrite" and the tool over whole runs

`Nsq.Props.C19.no_overwrite` is anchored at the directory the tool started with (`fs0`): it says nothing about files
that appear later — created by other processes (`Ev.ext`) or by the tool itself. Here the anchor is the directory
after *any prefix* of the run: every file that exists then keeps its name and its bytes as a prefix for the rest of
the run, and with O_EXCL every file that is not behind the open descriptor stays byte-identical.
Files in a separate *work* dir may be appended to (plain append mode) and are moved to the output dir by the tool:
`files_grow_or_move` covers them too — between any two points of a run every file is still there with its old bytes as
a prefix, under its name or moved work dir → output dir (no `Cfg.WF`, no finiteness needed).

`toolRun` lifts the tool-level step (router behind go-nsq's `max_attempts` give-up) to a list of deliveries; the
decision `tool_safe_iff` is restated over whole runs.
-/
namespace Nsq.Props.C19Mono
open Nsq.Model.ToFile Nsq.Proofs.ToFile Nsq.Props.C19 Nsq.Props.C19Ops

/-- the directory `NoOv` is re-anchored at in mid-run. With O_EXCL the open file is left out: the tool still writes to it, and
`NoOv.own` wants the file behind `f.out` not to be in the anchor. -/
def anchor (c : Cfg) (st : St) : FS := if c.excl = true ∧ st.hasOut = true then st.fs.del st.outPath else st.fs

theorem noOv_anchor {c : Cfg} {fs0 : FS} {st : St} (h : NoOv c fs0 st) : NoOv c (anchor c st) st := by
  unfold anchor
  by_cases hx : c.excl = true ∧ st.hasOut = true
  · rw [if_pos hx]
    refine ⟨fun _ p f0 hp => ?_, fun _ _ => by simp, h.dom, h.nodiv⟩
    by_cases e : p = st.outPath
    · subst e; simp at hp
    · rw [get_del_ne _ _ _ e] at hp; exact hp
  · rw [if_neg hx]
    exact ⟨fun _ p f0 hp => hp, fun hxe hho => absurd ⟨hxe, hho⟩ hx, h.dom, h.nodiv⟩

theorem grown_after (c : Cfg) (io : Nat → Fault) (fs0 : FS) (before after : List (Ev × Bool)) :
    Nsq.Proofs.ToFileTrack.Grown c (run c io (init fs0) before).fs (run c io (init fs0) (before ++ after)).fs := by
  rw [run_append]
  exact (Nsq.Proofs.ToFileTrack.tracked_run after _ (Nsq.Proofs.ToFileTrack.tracked_run before _ (wd_init c fs0)).1).2

/-- **No overwrite, step-wise.** Split any run at any point (`before ++ after`). Every file that exists after
`before` — pre-existing, dropped by another process, or created by the tool itself — (in O_EXCL modes: except the one
behind the open descriptor) still has its name at the end if it is in the output dir (or there is no separate work
dir), with its old bytes as a prefix; and in O_EXCL modes (gzip / rotate-interval) it is byte-identical, work dir
included. Every configuration `computeFilenameFormat` accepts, every fault schedule, foreign files and appends allowed. -/
theorem no_overwrite_stepwise (c : Cfg) (hwf : c.WF) (io : Nat → Fault) (fs0 : FS) (hdom : DomOk fs0)
    (before after : List (Ev × Bool)) (p : Path) (f : File)
    (hp : (run c io (init fs0) before).fs.get p = some f)
    (hopen : c.excl = true → ¬ ((run c io (init fs0) before).hasOut = true ∧ p = (run c io (init fs0) before).outPath)) :
    (p.out = true ∨ c.workDir = false →
      ∃ f', (run c io (init fs0) (before ++ after)).fs.get p = some f' ∧ (∃ x, f'.data = f.data ++ x) ∧ f.durable ≤ f'.durable) ∧
    (c.excl = true → (run c io (init fs0) (before ++ after)).fs.get p = some f) := by
  have h := noOv_run hwf io after _ (noOv_anchor (noOv_run hwf io before _ (noOv_init c fs0 hdom)))
  refine ⟨(grown_after c io fs0 before after).keep hp, ?_⟩
  rw [run_append]
  have hpa : (anchor c (run c io (init fs0) before)).get p = some f := by
    unfold anchor
    by_cases hx : c.excl = true ∧ (run c io (init fs0) before).hasOut = true
    · rw [if_pos hx]
      have e : p ≠ (run c io (init fs0) before).outPath := fun e => hopen hx.1 ⟨hx.2, e⟩
      rw [get_del_ne _ _ _ e]; exact hp
    · rw [if_neg hx]; exact hp
  exact fun hx => h.excl hx p f hpa

/-- in append mode (no O_EXCL) the statement covers the file behind the open descriptor too -/
theorem no_overwrite_stepwise_append (c : Cfg) (hwf : c.WF) (hx : c.excl = false) (io : Nat → Fault) (fs0 : FS)
    (hdom : DomOk fs0) (before after : List (Ev × Bool)) (p : Path) (f : File)
    (hp : (run c io (init fs0) before).fs.get p = some f) (hk : p.out = true ∨ c.workDir = false) :
    ∃ f', (run c io (init fs0) (before ++ after)).fs.get p = some f' ∧ (∃ x, f'.data = f.data ++ x) ∧ f.durable ≤ f'.durable :=
  (no_overwrite_stepwise c hwf io fs0 hdom before after p f hp (fun h => by rw [hx] at h; cases h)).1 hk

/-- **Nothing is lost, step-wise, work dir included.** Split any run at any point. Every file that exists after
`before` — pre-existing, dropped by another process, created by the tool; output dir or work dir; open or closed —
exists at the end with its old decodable bytes as a prefix and at least its old durable length, under the same name or
(a work-dir file) moved by the tool into the output dir. Every configuration, event list, fault schedule. -/
theorem files_grow_or_move (c : Cfg) (io : Nat → Fault) (fs0 : FS) (before after : List (Ev × Bool)) (p : Path) (f : File)
    (hp : (run c io (init fs0) before).fs.get p = some f) :
    ∃ q f', (run c io (init fs0) (before ++ after)).fs.get q = some f' ∧ (∃ x, f'.data = f.data ++ x) ∧
      f.durable ≤ f'.durable ∧ (q = p ∨ (p.out = false ∧ q.out = true)) := by
  obtain ⟨q, f', hq, hle, hmv⟩ := grown_after c io fs0 before after p f hp
  exact ⟨q, f', hq, hle.1, hle.2, hmv.imp id And.right⟩

/-- … and without a separate work dir nothing is ever renamed: the name is kept -/
theorem files_grow_in_place (c : Cfg) (hwd : c.workDir = false) (io : Nat → Fault) (fs0 : FS) (before after : List (Ev × Bool))
    (p : Path) (f : File) (hp : (run c io (init fs0) before).fs.get p = some f) (hpo : p.out = true) :
    ∃ f', (run c io (init fs0) (before ++ after)).fs.get p = some f' ∧ (∃ x, f'.data = f.data ++ x) ∧ f.durable ≤ f'.durable := by
  have _ := hwd
  exact (grown_after c io fs0 before after).keep hp (Or.inl hpo)

/-! ### the tool over a whole run of deliveries -/

structure Delivery where
  m : Msg
  attempts : Nat
  now : Int
  fn : String
  starved : Bool

def toolRun (c : Cfg) (io : Nat → Fault) (k : Nat) (st : St) : List Delivery → St
  | [] => st
  | d :: ds => toolRun c io k (toolStep c io k st d.m d.attempts d.now d.fn d.starved) ds

/-- tool-level safety over runs, consumer configured with `max_attempts = k` -/
def toolRunSafeAt (k : Nat) : Prop :=
  ∀ (c : Cfg) (io : Nat → Fault) (st : St), Inv c st → ∀ (ds : List Delivery),
    ∀ x ∈ (toolRun c io k st ds).finished, Safe (toolRun c io k st ds).fs (line x)

/-- **partial, over runs**: if the library gives up on none of the deliveries, every FINished message of the whole
run is safe on disk (the tool run *is* a router run) -/
theorem tool_run_fin_implies_durable_partial (c : Cfg) (io : Nat → Fault) (k : Nat) (st : St) (hinv : Inv c st)
    (ds : List Delivery) (hno : ∀ d ∈ ds, shouldFail k d.attempts = false) :
    ∀ x ∈ (toolRun c io k st ds).finished, Safe (toolRun c io k st ds).fs (line x) := by
  induction ds generalizing st with
  | nil => exact fun x hx => safe_of_durS (hinv.fin x hx)
  | cons d ds ih =>
    unfold toolRun
    rw [toolStep_eq_step c io k st d.m d.attempts d.now d.fn d.starved (hno d (List.mem_cons_self ..))]
    exact ih _ (inv_step io st _ d.starved hinv) (fun d' hd' => hno d' (List.mem_cons_of_mem _ hd'))

theorem tool_run_safe_without_giveup : toolRunSafeAt 0 :=
  fun c io st hinv ds => tool_run_fin_implies_durable_partial c io 0 st hinv ds (fun _ _ => by simp [shouldFail])

theorem tool_run_unsafe_with_giveup (k : Nat) (hk : 0 < k) : ¬ toolRunSafeAt k := by
  intro h
  apply tool_unsafe_with_giveup k hk
  intro c io st hinv m attempts now fn starved
  exact h c io st hinv [⟨m, attempts, now, fn, starved⟩]

/-- **decision over whole runs**: whatever the tool FINishes along any list of deliveries is safe on disk iff the
consumer library is configured never to give up -/
theorem tool_run_safe_iff (k : Nat) : toolRunSafeAt k ↔ k = 0 :=
  Nsq.Proofs.iff_zero_of tool_run_safe_without_giveup tool_run_unsafe_with_giveup k

theorem shipped_tool_run_safe_iff :
    toolRunSafeAt Nsq.Gen.ToolsToFileFn.toFileMaxAttempts ↔ Nsq.Gen.ToolsToFileFn.toFileMaxAttempts = 0 :=
  tool_run_safe_iff _

/-! ### non-vacuity -/

/-- a run with several deliveries: attempts 1, 1, then a 6th attempt of an unwritten message with max_attempts 5 -/
def ds3 : List Delivery :=
  [⟨⟨1, [104]⟩, 1, 100, "t<REV>.log", false⟩, ⟨⟨2, [105]⟩, 1, 200, "t<REV>.log", false⟩, ⟨⟨3, [106]⟩, 6, 300, "t<REV>.log", false⟩]
example : ((toolRun cfgPlain noFault 0 (init FS.empty) ds3).finished.map (·.id)) = [2, 3, 1] := by decide +kernel
/-- message 3 is FINished by the library although only 1 and 2 were ever written -/
example : ((toolRun cfgPlain noFault 5 (init FS.empty) ds3).finished.map (·.id)) = [3, 1]
    ∧ ((toolRun cfgPlain noFault 5 (init FS.empty) ds3).fs.get ⟨true, "t<REV>.log", 0⟩).map (·.data) = some [104, 10, 105, 10] := by
  decide
example : ∀ d ∈ ds3, shouldFail 0 d.attempts = false := by decide +kernel
/-- the step-wise statement protects a file another process dropped mid-run and the tool's own closed file -/
def evA : List (Ev × Bool) := [(.msg m1 100 "t<REV>.log", false), (.hup, false), (.ext ⟨true, "x", 0⟩ [9], false)]
example : ((run cfgGzWork noFault (init FS.empty) evA).fs.get ⟨true, "x", 0⟩) = some ⟨[9], [], 1⟩
    ∧ ((run cfgGzWork noFault (init FS.empty) evA).fs.get ⟨true, "t<REV>.log", 0⟩).isSome = true
    ∧ (run cfgGzWork noFault (init FS.empty) evA).hasOut = true := by decide +kernel
example : DomOk FS.empty := fun _ hp => absurd rfl hp
/-- a work file really is moved: after the message it is `w/…`, after the HUP `o/…` with the same bytes -/
example : ((run cfgGzWork noFault (init FS.empty) [(.msg m1 100 "t<REV>.log", false)]).fs.get ⟨false, "t<REV>.log", 0⟩).map (·.data)
      = some [104, 105, 10]
    ∧ ((run cfgGzWork noFault (init FS.empty) [(.msg m1 100 "t<REV>.log", false), (.hup, false)]).fs.get ⟨false, "t<REV>.log", 0⟩) = none
    ∧ ((run cfgGzWork noFault (init FS.empty) [(.msg m1 100 "t<REV>.log", false), (.hup, false)]).fs.get ⟨true, "t<REV>.log", 0⟩).map (·.data)
      = some [104, 105, 10] := by decide +kernel
/-- … and the exception is real: in O_EXCL mode the open file does change -/
example : ((run cfgGzWork noFault (init FS.empty) [(.msg m1 100 "t<REV>.log", false)]).fs.get ⟨false, "t<REV>.log", 0⟩).map (·.content)
      ≠ ((run cfgGzWork noFault (init FS.empty) [(.msg m1 100 "t<REV>.log", false), (.msg m2 200 "t<REV>.log", false)]).fs.get
          ⟨false, "t<REV>.log", 0⟩).map (·.content) := by decide +kernel

end Nsq.Props.C19Mono
