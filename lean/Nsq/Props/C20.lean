import Nsq.Proofs.Split
import Nsq.Proofs.Relay
/-!
# C20 — Relay tools forward every record exactly and acknowledge only on success

* to_nsq (`Nsq.Model.Split`): `to_nsq_records` is about the trimming rule "drop the last byte only if
  it is the delimiter" (fix F5). The rule of the tree before the fix ("drop the last byte of every
  non-empty line") is kept as `trimOld`: the full statement is false for it
  (`to_nsq_records_old_false`, witness `"ab"` → `"a"`), true only for delimiter-terminated input
  (`to_nsq_records_old_partial`). `Nsq.Tie.ToolsSplit` ties the current tree to `trimFixed`.
* relays (`Nsq.Model.Relay`): for every destination behaviour, every mode and every message list.
-/
namespace Nsq.Props.C20
open Nsq.Model

section ToNsq
open Nsq.Model.Split

/-- **to_nsq publishes exactly the records — when every publish succeeds.** For every byte string and every
delimiter byte the records published — to each of the `n` destinations, in order — are exactly the non-empty
delimiter-separated pieces of the input, byte for byte, *including an unterminated final record*.
`deliver` has the hypothesis **"every destination acknowledges every record"** built in: the
statement with that hypothesis explicit, its refutation without it, and what the fail-stop tool does at a refused
record (exit status 1, nothing after it) are `Nsq.Props.C20Refuse.to_nsq_records_if_accepted`,
`to_nsq_records_unconditional_false`, `to_nsq_published_until_refusal`. -/
theorem to_nsq_records (d : UInt8) (input : Bytes) (n i : Nat) (hi : i < n) :
    received i (deliver n (published trimFixed d input)) = records d input := by
  rw [Nsq.Proofs.Split.received_deliver n i hi, Nsq.Proofs.Split.published_fixed]

/-- the statement for the trimming rule of the tree before fix F5 -/
def to_nsq_records_old : Prop :=
  ∀ (d : UInt8) (input : Bytes), published trimOld d input = records d input

/-- … is false: input `"ab"` (no trailing newline) is published as `"a"`. -/
theorem to_nsq_records_old_false : ¬ to_nsq_records_old := by
  intro h
  have := h 10 [97, 98]
  rw [Nsq.Proofs.Split.published_eq] at this
  revert this
  decide

/-- … and holds when the last record is terminated (or the input is empty). (Only this direction is proved; the
converse — an unterminated non-empty input is published wrongly by `trimOld` — is shown on the witness above and on
2037 of 3006 generated inputs of the old tree, not as a theorem.) -/
theorem to_nsq_records_old_partial (d : UInt8) (input : Bytes) (hterm : input = [] ∨ input.getLast? = some d) :
    published trimOld d input = records d input :=
  Nsq.Proofs.Split.published_records trimOld d (Nsq.Proofs.Split.trimOld_terminated d) input fun p hp => by
    rw [Nsq.Proofs.Split.splitOn_last_of_terminated d input hterm] at hp
    cases hp
    rfl

/-- no empty record is ever published, and none contains the delimiter -/
theorem to_nsq_records_clean (d : UInt8) (input : Bytes) :
    ∀ r ∈ published trimFixed d input, r ≠ [] ∧ d ∉ r := by
  rw [Nsq.Proofs.Split.published_fixed]
  intro r hr
  unfold records at hr
  rw [List.mem_filter] at hr
  exact ⟨by simpa using hr.2, Nsq.Proofs.Lines.splitOn_no_delim d input r hr.1⟩

example : published trimFixed 10 [97, 98] = [[97, 98]] := by rw [Nsq.Proofs.Split.published_eq]; decide
example : published trimOld 10 [97, 98] = [[97]] := by rw [Nsq.Proofs.Split.published_eq]; decide
example : published trimFixed 10 [111, 110, 101, 10, 10, 97, 98] = [[111, 110, 101], [97, 98]] := by
  rw [Nsq.Proofs.Split.published_eq]; decide
example : records 44 [97, 44, 44, 98, 44] = [[97], [98]] := by decide +kernel
example : received 1 (deliver 2 [[1], [2]]) = [[1], [2]] := by decide +kernel

end ToNsq

section Http
open Nsq.Model.Relay Nsq.Model.Relay.Http Nsq.Proofs.Relay.Http

/-- **FIN only after accept (nsq_to_http).** If handling a message ends in `Finish`, then either
sampling dropped it, or every request made was accepted by its destination (2xx for POST, 200 for
GET), in mode *all* every configured address was asked, and in the other modes one request was made.
With **no address** (`naddr = 0`) mode *all* asks nobody and finishes (`example` below): "at least one request" needs
`naddr ≠ 0` (`http_no_silent_drop`), which main() guarantees (`--get or --post required`:
`Nsq.Props.C20Get.http_valid_start_has_address`).
`resp a` is the status **the publisher sees**, i.e. what `http.Client.Do` returns: with a client that
follows redirects that is the answer of the *last* request of a chain, which need not carry the body. The wire-level statement — the request that carried the body was itself accepted —
is `Nsq.Props.C20Redirect.http_fin_only_after_body_accepted` (POST publisher, any client that follows only
method-preserving redirects: fix F45 and fix F45b; `…_never` / `…_get_partial` for the GET publisher); it is refuted for
the client of the tree before the fixes (`…_following_false`). -/
theorem http_fin_only_after_accept (c : Cfg) (counter : Nat) (m : Msg) (so : Bool) (pick : Nat)
    (resp : Nat → Option Nat) (hfin : Out.fin m.id ∈ (step c counter m so pick resp).2) :
    (c.sampling = true ∧ so = true) ∨
    ((∀ a b ok, Out.request a b ok ∈ (step c counter m so pick resp).2 → ok = true ∧ accepts c.post (resp a) = true) ∧
     (c.mode = .all → ∀ a < c.naddr, Out.request a m.body true ∈ (step c counter m so pick resp).2) ∧
     (c.mode ≠ .all → ∃ a, Out.request a m.body true ∈ (step c counter m so pick resp).2)) := by
  have h := step_handled c counter m so pick resp
  generalize (step c counter m so pick resp).2 = out at h hfin ⊢
  cases h with
  | sampled hs hso => exact Or.inl ⟨hs, hso⟩
  | panic => simp at hfin
  | rejected => simp at hfin
  | accepted _ hacc =>
    refine Or.inr ⟨fun a b ok hmem => ?_, fun hm a ha => ?_, fun hm => ?_⟩
    · simp only [List.mem_append, List.mem_map, List.mem_singleton, reduceCtorEq, or_false] at hmem
      obtain ⟨a', ha', e⟩ := hmem
      cases e
      exact ⟨rfl, hacc a ha'⟩
    · rw [targets_all counter pick hm]
      exact List.mem_append_left _ (List.mem_map_of_mem (List.mem_range.mpr ha))
    · obtain ⟨a, ha⟩ := targets_one counter pick hm
      exact ⟨a, by simp [ha]⟩

/-- **Reject implies requeue (nsq_to_http).** If any request of a handling was not accepted
(non-2xx / non-200 status, transport error, timeout), the message is requeued and never finished. -/
theorem http_reject_implies_requeue (c : Cfg) (counter : Nat) (m : Msg) (so : Bool) (pick : Nat)
    (resp : Nat → Option Nat) (a : Nat) (b : Bytes)
    (hrej : Out.request a b false ∈ (step c counter m so pick resp).2) :
    Out.req m.id ∈ (step c counter m so pick resp).2 ∧ Out.fin m.id ∉ (step c counter m so pick resp).2 := by
  have h := step_handled c counter m so pick resp
  generalize (step c counter m so pick resp).2 = out at h hrej ⊢
  cases h <;> simp at hrej ⊢

/-- **Body handed to `Publish` unmodified (nsq_to_http).** In the model every `Out.request` carries `m.body`: the handler
passes the message body, and nothing else, to `Publisher.Publish`. This holds *by construction of the model* — it states what `HandleMessage` passes on, not what goes over the wire. The wire-level statements are: POST — the
request body is the message body (checked on every run by the harness oracle "arrived modified", not a theorem); GET — the
request target is `template[%s := QueryEscape body]` and the destination recovers the body byte-exactly
(`Nsq.Props.C20Get.get_endpoint_clean`, `get_escape_roundtrip`, tied on the real `GetPublisher`). -/
theorem http_body_unmodified (c : Cfg) (counter : Nat) (m : Msg) (so : Bool) (pick : Nat)
    (resp : Nat → Option Nat) (a : Nat) (b : Bytes) (ok : Bool)
    (h : Out.request a b ok ∈ (step c counter m so pick resp).2) : b = m.body := by
  have hh := step_handled c counter m so pick resp
  generalize (step c counter m so pick resp).2 = out at hh h
  cases hh <;> simp at h
  · obtain ⟨_, _, _, e, _⟩ := h; exact e.symm
  · rcases h with ⟨_, _, _, e, _⟩ | ⟨_, e, _⟩
    · exact e.symm
    · exact e

theorem http_fin_has_request (c : Cfg) (hn : c.naddr ≠ 0) (counter : Nat) (m : Msg) (so : Bool) (pick : Nat)
    (resp : Nat → Option Nat) (hfin : Out.fin m.id ∈ (step c counter m so pick resp).2) :
    (c.sampling = true ∧ so = true) ∨ ∃ a, Out.request a m.body true ∈ (step c counter m so pick resp).2 :=
  (http_fin_only_after_accept c counter m so pick resp hfin).imp_right fun h =>
    if hm : c.mode = .all then ⟨0, h.2.1 hm 0 (Nat.pos_of_ne_zero hn)⟩ else h.2.2 hm

/-- A message is dropped un-forwarded only by sampling: without sampling configured a `Finish`
always has an accepted request behind it. -/
theorem http_no_silent_drop (c : Cfg) (counter : Nat) (m : Msg) (so : Bool) (pick : Nat) (resp : Nat → Option Nat)
    (hns : c.sampling = false) (hn : c.naddr ≠ 0) (hfin : Out.fin m.id ∈ (step c counter m so pick resp).2) :
    ∃ a, Out.request a m.body true ∈ (step c counter m so pick resp).2 :=
  (http_fin_has_request c hn counter m so pick resp hfin).resolve_left fun h => by rw [hns] at h; cases h.1

theorem http_good_attempt (c : Cfg) (hn : c.naddr ≠ 0) (counter : Nat) (m : Msg) (so : Bool) (pick : Nat)
    (resp : Nat → Option Nat) (hso : so = false) (hacc : ∀ a, accepts c.post (resp a) = true) :
    ∃ reqs, (step c counter m so pick resp).2 = reqs ++ [Out.fin m.id] ∧
      (∃ a, Out.request a m.body true ∈ reqs) ∧
      (c.mode = .all → ∀ a < c.naddr, Out.request a m.body true ∈ reqs) := by
  have h := step_handled c counter m so pick resp
  generalize (step c counter m so pick resp).2 = out at h ⊢
  cases h with
  | sampled _ h => rw [hso] at h; cases h
  | panic _ h => exact absurd h hn
  | rejected _ _ _ ha => rw [hacc] at ha; cases ha
  | accepted =>
    refine ⟨_, rfl, ?_, fun hm a ha => ?_⟩
    · by_cases hm : c.mode = .all
      · exact ⟨0, by rw [targets_all counter pick hm]; exact List.mem_map_of_mem (List.mem_range.mpr (Nat.pos_of_ne_zero hn))⟩
      · obtain ⟨a, ha⟩ := targets_one counter pick hm; exact ⟨a, by simp [ha]⟩
    · rw [targets_all counter pick hm]; exact List.mem_map_of_mem (List.mem_range.mpr ha)

/-- **Eventual delivery (partial).** *Hypotheses (not proved here):* the source redelivers an unfinished message
(C01) and the destination eventually accepts — i.e. among the attempts `ins` for message `m` there is one that is not
sampled out and whose every request is accepted; and at least one address is configured (`naddr ≠ 0`; guaranteed by
main(), see `http_fin_only_after_accept`). Then the trace contains **an accepted request carrying the body** (one for every
address in mode *all*) **followed by `Finish m`**. (Fairness of redelivery and of the destination is assumed, not
derived.) -/
theorem http_eventual_delivery_partial (c : Cfg) (hn : c.naddr ≠ 0) (m : Msg) (ins : List In) (counter : Nat)
    (hgood : ∃ i ∈ ins, i.m = m ∧ i.sampledOut = false ∧ ∀ a, accepts c.post (i.resp a) = true) :
    ∃ pre post, run c counter ins = pre ++ Out.fin m.id :: post ∧
      (∃ a, Out.request a m.body true ∈ pre) ∧
      (c.mode = .all → ∀ a < c.naddr, Out.request a m.body true ∈ pre) := by
  obtain ⟨i, hi, rfl, hs, ha⟩ := hgood
  obtain ⟨pre, n, post, e⟩ := run_mem c counter ins i hi
  obtain ⟨reqs, hstep, hreq, hall⟩ := http_good_attempt c hn n i.m i.sampledOut i.pick i.resp hs ha
  rw [hstep] at e
  exact ⟨pre ++ reqs, post, by simp [e], hreq.imp fun a h => List.mem_append_right _ h,
    fun hm a ha => List.mem_append_right _ (hall hm a ha)⟩

/-- the hypothesis `naddr ≠ 0` is needed: with no address, mode *all* finishes without any request -/
example : run ⟨.all, 0, true, false⟩ 0 [⟨⟨7, [1]⟩, false, 0, fun _ => some 200⟩] = [Out.fin 7] := by decide +kernel
example : run ⟨.all, 2, true, false⟩ 0
      [⟨⟨7, [1]⟩, false, 0, fun _ => some 500⟩, ⟨⟨7, [1]⟩, false, 0, fun _ => some 200⟩] =
    [Out.request 0 [1] false, Out.req 7, Out.request 0 [1] true, Out.request 1 [1] true, Out.fin 7] := by decide +kernel

/-! ### the tool as shipped (handler behind go-nsq's `handlerLoop` with its `max_attempts` give-up) -/

/-- full statement for the tool: a `Finish` always has sampling or an accepted request behind it -/
def tool_fin_only_after_accept : Prop :=
  ∀ (c : Cfg) (maxAttempts attempts counter : Nat) (m : Msg) (so : Bool) (pick : Nat) (resp : Nat → Option Nat),
    Out.fin m.id ∈ (consume c maxAttempts attempts counter m so pick resp).2 →
      (c.sampling = true ∧ so = true) ∨ ∃ a, Out.request a m.body true ∈ (consume c maxAttempts attempts counter m so pick resp).2

/-- with any positive `max_attempts = k` the delivery with `attempts = k + 1` is finished without a request -/
theorem consume_unsafe_with_giveup (k : Nat) (hk : 0 < k) :
    ¬ ∀ (c : Cfg), c.naddr ≠ 0 → ∀ (attempts counter : Nat) (m : Msg) (so : Bool) (pick : Nat) (resp : Nat → Option Nat),
      Out.fin m.id ∈ (consume c k attempts counter m so pick resp).2 →
        (c.sampling = true ∧ so = true) ∨ ∃ a, Out.request a m.body true ∈ (consume c k attempts counter m so pick resp).2 := by
  intro h
  have hs : shouldFail k (k + 1) = true := by simp [shouldFail, hk]
  have hw : (consume ⟨.roundRobin, 1, true, false⟩ k (k + 1) 0 ⟨7, [1]⟩ false 0 (fun _ => some 500)).2 = [Out.fin 7] := by
    simp [consume, hs]
  have := h ⟨.roundRobin, 1, true, false⟩ (by decide) (k + 1) 0 ⟨7, [1]⟩ false 0 (fun _ => some 500) (by rw [hw]; simp)
  rw [hw] at this
  cases this with
  | inl h => cases h.1
  | inr h => obtain ⟨a, ha⟩ := h; simp at ha

/-- … is **false on the current tree** (open finding): with go-nsq's default `max_attempts = 5` the sixth
delivery of a message is finished without any request — a destination that failed five times never gets it. -/
theorem tool_fin_only_after_accept_false : ¬ tool_fin_only_after_accept :=
  fun h => consume_unsafe_with_giveup 5 (by decide) fun c _ => h c 5

/-- … and holds whenever the library does not give up (`max_attempts = 0`, or attempts ≤ max_attempts). -/
theorem tool_fin_only_after_accept_partial (c : Cfg) (hn : c.naddr ≠ 0) (maxAttempts attempts counter : Nat) (m : Msg)
    (so : Bool) (pick : Nat) (resp : Nat → Option Nat) (hno : shouldFail maxAttempts attempts = false)
    (hfin : Out.fin m.id ∈ (consume c maxAttempts attempts counter m so pick resp).2) :
    (c.sampling = true ∧ so = true) ∨ ∃ a, Out.request a m.body true ∈ (consume c maxAttempts attempts counter m so pick resp).2 := by
  unfold consume at hfin ⊢
  rw [hno] at hfin ⊢
  exact http_fin_has_request c hn counter m so pick resp hfin

example : shouldFail 5 5 = false ∧ shouldFail 5 6 = true ∧ shouldFail 0 1000 = false := by decide +kernel

example : (step ⟨.all, 2, true, false⟩ 0 ⟨7, [1]⟩ false 0 (fun a => if a = 0 then some 200 else some 500)).2 =
    [Out.request 0 [1] true, Out.request 1 [1] false, Out.req 7] := by decide +kernel
example : (step ⟨.all, 2, true, false⟩ 0 ⟨7, [1]⟩ false 0 (fun _ => some 204)).2 =
    [Out.request 0 [1] true, Out.request 1 [1] true, Out.fin 7] := by decide +kernel
example : (step ⟨.roundRobin, 2, false, false⟩ 4 ⟨7, [1]⟩ false 0 (fun _ => some 204)).2 =
    [Out.request 1 [1] false, Out.req 7] := by decide   -- GET accepts only 200
example : (step ⟨.hostPool, 2, true, true⟩ 4 ⟨7, [1]⟩ true 1 (fun _ => none)).2 = [Out.fin 7] := by decide +kernel

end Http

section N2N
open Nsq.Model.Relay Nsq.Model.Relay.N2N Nsq.Proofs.Relay.N2N

/-- **FIN only after accept (nsq_to_nsq).** A step finishes message `id` only when the destination
answered OK to a transaction that carries this message (the `accepted` event right before it), or
when a configured JSON filter drops the message. -/
theorem n2n_fin_only_after_accept (c : Cfg) (st : St) (ev : Ev) (id : Nat)
    (hfin : Out.fin id ∈ (step c st ev).2) :
    (∃ i tx, ev = .result i true ∧ st.outstanding[i]? = some tx ∧ tx.id = id ∧
        (step c st ev).2 = [Out.accepted tx.addr tx.id, Out.fin tx.id]) ∨
    (c.filterOn = true ∧ ∃ m pick ae, ev = .msg m .drop pick ae ∧ m.id = id) := by
  obtain ⟨p, q, hsplit⟩ := List.append_of_mem hfin
  rcases step_fin_split c st ev id p q hsplit with ⟨i, tx, rfl, ho, hid, hp, hq⟩ | ⟨hf, m, pick, ae, rfl, hid, _, _⟩
  · exact Or.inl ⟨i, tx, rfl, ho, hid, by rw [hsplit, hp, hq, hid]; rfl⟩
  · exact Or.inr ⟨hf, m, pick, ae, rfl, hid⟩

/-- **Reject implies requeue (nsq_to_nsq).** A failed transaction (error frame, lost connection) is
answered by `Requeue`, never `Finish`; so is a `PublishAsync` that fails at once. -/
theorem n2n_reject_implies_requeue (c : Cfg) (st : St) (i : Nat) (tx : Tx) (h : st.outstanding[i]? = some tx) :
    (step c st (.result i false)).2 = [Out.rejected tx.addr tx.id, Out.req tx.id] := by
  simp [step, h]

theorem n2n_async_error_requeues (c : Cfg) (st : St) (m : Msg) (f : Filter) (pick : Nat)
    (hnf : c.filterOn = false) (hn : ¬(c.roundRobin = true ∧ c.naddr = 0)) :
    (step c st (.msg m f pick true)).2 = [Out.req m.id] := by
  simp [step, hnf, publishTo, hn]

/-- **Body unmodified (nsq_to_nsq).** Without a JSON filter / whitelist the published body is the
message body and the transaction remembers the right message. -/
theorem n2n_body_unmodified (c : Cfg) (st : St) (m : Msg) (f : Filter) (pick : Nat) (ae : Bool)
    (hnf : c.filterOn = false) :
    (∀ a id b, Out.publish a id b ∈ (step c st (.msg m f pick ae)).2 → id = m.id ∧ b = m.body) ∧
    (∀ tx ∈ (step c st (.msg m f pick ae)).1.outstanding, tx ∈ st.outstanding ∨ (tx.id = m.id ∧ tx.body = m.body)) := by
  constructor
  · intro a id b hmem
    have hs := step_steps c st (.msg m f pick ae)
    generalize (step c st (.msg m f pick ae)).1.outstanding = os at hs
    generalize (step c st (.msg m f pick ae)).2 = out at hs hmem
    cases hs <;> simp at hmem
    case publish hb _ => exact ⟨hmem.2.1, hmem.2.2 ▸ hb hnf⟩
  · intro tx htx
    rcases step_outstanding c st _ tx htx with h | ⟨_, m', _, _, _, he, hid, hb, _⟩
    · exact Or.inl h
    · cases he; exact Or.inr ⟨hid.symm, hb hnf⟩

/-- Over whole histories: every transaction still outstanding was published in this history (or was
outstanding at the start) — so the `accepted`/`fin` pair of `n2n_fin_only_after_accept` always refers
to a `publish` of the same message id and body. -/
theorem n2n_outstanding_published (c : Cfg) (evs : List Ev) (st : St) :
    ∀ tx ∈ (runSt c st evs).outstanding,
      tx ∈ st.outstanding ∨ Out.publish tx.addr tx.id tx.body ∈ run c st evs := by
  induction evs generalizing st with
  | nil => intro tx h; exact Or.inl h
  | cons e es ih =>
    intro tx htx
    unfold run
    rw [List.mem_append]
    rcases ih (step c st e).1 tx htx with h | h
    · -- outstanding right after `e`: it was there before, or `e` published it
      rcases step_outstanding c st e tx h with h | ⟨hpub, _⟩
      · exact Or.inl h
      · exact Or.inr (Or.inl hpub)
    · exact Or.inr (Or.inr h)

example : (step ⟨true, 2, false⟩ ⟨0, []⟩ (.msg ⟨5, [9]⟩ .drop 0 false)) =
    (⟨1, [⟨1, 5, [9]⟩]⟩, [Out.publish 1 5 [9]]) := by decide +kernel
example : (step ⟨true, 2, false⟩ ⟨1, [⟨1, 5, [9]⟩]⟩ (.result 0 true)).2 = [Out.accepted 1 5, Out.fin 5] := by decide +kernel
example : (step ⟨true, 2, false⟩ ⟨1, [⟨1, 5, [9]⟩]⟩ (.result 0 false)).2 = [Out.rejected 1 5, Out.req 5] := by decide +kernel
example : (step ⟨false, 2, true⟩ ⟨0, []⟩ (.msg ⟨5, [9]⟩ .drop 0 false)).2 = [Out.fin 5] := by decide +kernel

end N2N

end Nsq.Props.C20
