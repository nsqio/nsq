import Nsq.Model.RdyBytes
import Nsq.Proofs.Num
/-!
# C03.4 over the bytes on the wire

`Props.C03.rdy_range_full` is about a local helper `countOfValue : Nat → Option Int` that nothing ties
to the code. This module restates it over the byte string the client sent, on the model of the RDY
handler's argument handling (`Model.RdyBytes.rdyArg`), whose parser is the translated
`ByteToBase10` (`Tie.Num.byteToBase10_eq`, specification `Proofs.Num.byteToBase10_spec`) and whose
decisions are compared with the real handler on generated spellings (driver op `rdy`,
harness/e1/rdy_bytes_test.go).
-/
namespace Nsq.Props.C03RdyBytes
open Nsq.Model.Num Nsq.Model.RdyBytes Nsq.Proofs.Num

/-- **RDY range, full strength, over bytes.** For every byte string `b` sent as the count and every
`max-rdy-count ≥ 0`: the handler accepts iff `b` consists of decimal digits only (any number of them,
leading zeros included; the empty string reads as 0) and the number they denote is `≤ max-rdy-count`;
the ready count then set is exactly that number. Everything else — a sign, a blank, a letter, a value
above the maximum, `2^63 … 2^64-1` (negative as int64), `≥ 2^64` (a parse error, fix 43ed751:
`18446744073709551621` is not read as 5) — is the fatal `E_INVALID`. -/
theorem rdy_range_bytes (maxRdy : BitVec 64) (h0 : 0 ≤ maxRdy.toInt) (b : Bytes) :
    (∀ c, rdyArg maxRdy (some b) = .ok c ↔
      (allDigits b = true ∧ (value b : Int) ≤ maxRdy.toInt ∧ c.toInt = value b)) ∧
    ((∃ c, rdyArg maxRdy (some b) = .ok c) ↔ (allDigits b = true ∧ (value b : Int) ≤ maxRdy.toInt)) := by
  have hmax := maxRdy.toInt_lt
  have key : ∀ c, rdyArg maxRdy (some b) = .ok c ↔
      (allDigits b = true ∧ (value b : Int) ≤ maxRdy.toInt ∧ c.toInt = value b) := by
    intro c
    unfold rdyArg
    simp only []
    rw [byteToBase10_spec]
    by_cases hd : allDigits b = true ∧ value b < 2 ^ 64
    · rw [if_pos hd]
      simp only [Bool.or_eq_true, BitVec.slt_iff_toInt_lt, zero_toInt]
      have hint : (BitVec.ofNat 64 (value b)).toInt =
          if value b < 2 ^ 63 then (value b : Int) else (value b : Int) - 2 ^ 64 := by
        rw [BitVec.toInt_eq_toNat_cond, BitVec.toNat_ofNat, Nat.mod_eq_of_lt hd.2]
        split <;> split <;> omega
      generalize BitVec.ofNat 64 (value b) = v at *
      split
      · exact ⟨nofun, fun ⟨_, hle, _⟩ => by split at hint <;> omega⟩
      · constructor
        · rintro ⟨⟩
          exact ⟨hd.1, by split at hint <;> omega, by split at hint <;> omega⟩
        · rintro ⟨_, _, hc⟩
          exact congrArg _ (BitVec.eq_of_toInt_eq (by split at hint <;> omega)).symm
    · rw [if_neg hd]
      exact ⟨nofun, fun ⟨ha, hle, _⟩ => absurd ⟨ha, by omega⟩ hd⟩
  refine ⟨key, ?_⟩
  constructor
  · rintro ⟨c, hc⟩
    have := (key c).1 hc
    exact ⟨this.1, this.2.1⟩
  · rintro ⟨ha, hle⟩
    have hlt : value b < 2 ^ 63 := by omega
    refine ⟨BitVec.ofNat 64 (value b), (key _).2 ⟨ha, hle, ?_⟩⟩
    have hn : (BitVec.ofNat 64 (value b)).toNat = value b := by simp; omega
    rw [BitVec.toInt_eq_toNat_of_lt (by omega), hn]

/-- `RDY` without a count is `RDY 1` (accepted iff `max-rdy-count ≥ 1`). -/
theorem rdy_no_arg (maxRdy : BitVec 64) :
    rdyArg maxRdy none = if 1 ≤ maxRdy.toInt then .ok 1#64 else .rangeErr 1#64 := by
  unfold rdyArg
  have z : (1#64).toInt = 1 := by decide
  by_cases h : 1 ≤ maxRdy.toInt
  · have : ¬ (BitVec.slt maxRdy 1#64 = true) := by simp [BitVec.slt, z]; omega
    simp [h, this, BitVec.slt]
  · have : BitVec.slt maxRdy 1#64 = true := by simp [BitVec.slt, z]; omega
    simp [h, this]

/-- "2500" with max-rdy-count 2500 -/
example : rdyArg 2500#64 (some [50#8, 53#8, 48#8, 48#8]) = .ok 2500#64 := by decide
/-- "2501" -/
example : rdyArg 2500#64 (some [50#8, 53#8, 48#8, 49#8]) = .rangeErr 2501#64 := by decide
/-- "18446744073709551621" = 2^64 + 5: refused as a parse error, not read as 5 -/
example : rdyArg 2500#64 (some [49#8,56#8,52#8,52#8,54#8,55#8,52#8,52#8,48#8,55#8,51#8,55#8,48#8,57#8,53#8,53#8,49#8,54#8,50#8,49#8])
    = .parseErr := by decide
/-- "9223372036854775808" = 2^63: negative as int64 -/
example : ∃ c, rdyArg 2500#64 (some [57#8,50#8,50#8,51#8,51#8,55#8,50#8,48#8,51#8,54#8,56#8,53#8,52#8,55#8,55#8,53#8,56#8,48#8,56#8])
    = .rangeErr c ∧ c.toInt < 0 := ⟨9223372036854775808#64, by decide, by decide⟩
/-- "+5", "", "007" -/
example : rdyArg 2500#64 (some [43#8, 53#8]) = .parseErr ∧ rdyArg 2500#64 (some []) = .ok 0#64 ∧
    rdyArg 2500#64 (some [48#8, 48#8, 55#8]) = .ok 7#64 := by decide
example : (∃ c, rdyArg 2500#64 (some [50#8, 53#8, 48#8, 48#8]) = .ok c) :=
  ((rdy_range_bytes 2500#64 (by decide) _).2).2 ⟨by decide, by decide⟩

end Nsq.Props.C03RdyBytes
