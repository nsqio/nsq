import Nsq.Props.C19Lines
import Nsq.Props.C19Name
/-!
# C19 — no overwrite on the configuration of the committed tree; the shared-file witness at line level

* `no_overwrite_accepted_this_tree`: `Props.C19Name.no_overwrite_accepted` is stated for `cfgOf …`, a configuration whose
  shape parameters `oneWrite`, `sealsTail`, `sealReadWarns` are all `false` — not the tree. `Cfg.WF` does not look at the
  shape parameters, so the statement holds verbatim for `treeCfg (cfgOf …)`, the configuration of the committed tree
  (shape parameters computed from the regenerated skeletons, `Props.C19Lines.treeCfg`). `cfgOf` itself (how the
  option set of the command line becomes a `Cfg`) is a hand-written definition; only its `hasRev` field goes through the
  translated `computeFilenameFormat` / `currentFilename`.
* `shared_file_unfixed_not_safe`: the witness `shared_file_unfixed_witness` computes the run (file `"A\nCB\n\n"`, `B`
  FINished) but does not say that the line-level statement fails; this theorem does.
-/
namespace Nsq.Props.C19Tree
open Nsq.Model.ToFile Nsq.Proofs.ToFile Nsq.Proofs.ToFileLines Nsq.Props.C19Lines
open Nsq.Model.Str Nsq.Model.ToFileName Nsq.Props.C19Name

theorem treeCfg_wf (c : Cfg) (h : c.WF) : (treeCfg c).WF := (shape_irrelevant c _ _ _).1 h
theorem treeCfg_excl (c : Cfg) : (treeCfg c).excl = c.excl := (shape_irrelevant c _ _ _).2.1
theorem treeCfg_workDir (c : Cfg) : (treeCfg c).workDir = c.workDir := (shape_irrelevant c _ _ _).2.2

/-- **`no_overwrite` for every accepted option set, on the configuration of THIS tree**: for every option set accepted by
`computeFilenameFormat`, pre-existing files survive every run of the router as committed (F46, F47, F47b shapes). -/
theorem no_overwrite_accepted_this_tree (o : Opts) (topic pid cff datetime : Str) (hn : Except Str Str) (se : Bool)
    (mif : Nat) (cc : Bool) (hok : computeFilenameFormat o topic hn pid = .ok cff)
    (io : Nat → Fault) (fs0 : FS) (hdom : DomOk fs0) (evs : List (Ev × Bool)) (p : Path) (f0 : File)
    (hp : fs0.get p = some f0) :
    let c := treeCfg (cfgOf o (currentFilename cff datetime) se mif cc)
    (p.out = true ∨ c.workDir = false →
      ∃ f, (run c io (init fs0) evs).fs.get p = some f ∧ (∃ x, f.data = f0.data ++ x) ∧ f0.durable ≤ f.durable) ∧
    (c.excl = true → (run c io (init fs0) evs).fs.get p = some f0) :=
  Nsq.Props.C19.no_overwrite _ (treeCfg_wf _ (format_ok_cfg_wf o topic pid cff datetime hn se mif cc hok)) io fs0 hdom evs p f0 hp

/-- In `"A\nCB\n\n"` the only place where `"B\n"` occurs is offset 3, behind the `C` of the other router. -/
theorem acb_file_not_safe (fs : FS) (d : Nat) (hget : fs.get pT = some ⟨[65, 10, 67, 66, 10, 10], [], d⟩)
    (honly : ∀ p, fs.get p ≠ none → p = pT) (rest : List Msg) : ¬ LinesSafe fs (mB :: rest) := by
  intro h
  obtain ⟨off, hrec, hstart⟩ := first_rec_in_pT hget honly h
  simp only [mB, line] at hrec
  match off with
  | 0 => simp at hrec
  | 1 => simp at hrec
  | 2 => simp at hrec
  | 3 => simp at hstart
  | 4 => simp at hrec
  | 5 => simp at hrec
  | n + 6 =>
    have := congrArg List.length hrec
    simp at this

/-- **two unfixed routers, one plain file: the line-level statement FAILS** (the missing conjunct of
`shared_file_unfixed_witness`): `B` is FINished and owns no line of `"A\nCB\n\n"`. -/
theorem shared_file_unfixed_not_safe :
    ¬ LinesSafe (run { cfgAppend with sealsTail := true } noFault (init FS.empty) evShared).fs
        (run { cfgAppend with sealsTail := true } noFault (init FS.empty) evShared).finished := by
  obtain ⟨hfin, hget, _⟩ := shared_file_unfixed_witness
  rw [hfin]
  exact acb_file_not_safe _ 5 hget (only_pT (Or.inr (by decide +kernel)) (by intro p hp; simp [FS.empty] at hp) (by decide +kernel)) _

/-- gzip + work dir, format "<TOPIC>.<HOST><REV>.<DATETIME>.log" (the accepted option set of `Props.C19Name`'s examples) -/
private def oRot : Opts :=
  { hostIdentifier := [], filenameFormat := [60, 84, 79, 80, 73, 67, 62, 46, 60, 72, 79, 83, 84, 62, 60, 82, 69, 86, 62, 46, 60, 68, 65, 84, 69, 84, 73, 77, 69, 62, 46, 108, 111, 103], gzip := true,
    rotateSize := 0, rotateInterval := 0, workDir := [47, 119], outputDir := [47, 111] }

/-- non-vacuity of `no_overwrite_accepted_this_tree`: an accepted option set (topic "t", host "h.example", pid "42" ↦
"t.h<REV>.<DATETIME>.log.gz") gives a well-formed configuration of this tree, whose shape parameters are the regenerated ones -/
example : (computeFilenameFormat oRot [116] (.ok [104, 46, 101, 120, 97, 109, 112, 108, 101]) [52, 50]).toOption =
    some [116, 46, 104, 60, 82, 69, 86, 62, 46, 60, 68, 65, 84, 69, 84, 73, 77, 69, 62, 46, 108, 111, 103, 46, 103, 122] := by decide +kernel
example : (treeCfg (cfgOf oRot [116, 46, 104, 60, 82, 69, 86, 62, 46, 50, 48, 50, 54, 46, 108, 111, 103, 46, 103, 122] false 200 true)).WF :=
  Or.inl (by decide +kernel)
example : (treeCfg cfgAppend).oneWrite = Nsq.Tie.ToolsToFile.routerOneWrite ∧
    (treeCfg cfgAppend).sealsTail = Nsq.Tie.ToolsToFile.updateFileSeals := by
  -- not `⟨rfl, rfl⟩`: the unifier would evaluate the regenerated tables behind the two Bools
  simp only [treeCfg, and_self]

end Nsq.Props.C19Tree
