import Nsq.Proofs.RelayOpts
/-!
# C20, option surface of nsq_to_http / nsq_to_nsq

Models: `Nsq/Model/RelayOpts.lean`. `parseCustomHeaders` is TRANSLATED from the tree and proved equal to the
model (`Tie/ToolsRelayOpts.lean`); everything else is driven through the real functions by
`harness/e8/{n2h,n2n}_opts_test.go` (correspondence + direct oracles).
-/
namespace Nsq.Props.C20Opts
open Nsq.Model.RelayOpts Nsq.Proofs.RelayOpts

/-- A `--header` value without a colon is rejected — in particular the `key=value` form that the tool's own
fatal message advertises (`--header value format should be 'key=value'`). -/
theorem header_without_colon_rejected (s : Str) (h : (58 : UInt8) ∉ s) : parseHeader s = none := by
  unfold parseHeader; rw [cut_none 58 s h]

/-- An accepted value is split at its FIRST colon (the value may contain further colons); key and value are
non-empty and carry no leading / trailing ASCII white space. -/
theorem header_split_exact (s k v : Str) (h : parseHeader s = some (k, v)) :
    ∃ k0 v0, s = k0 ++ 58 :: v0 ∧ (58 : UInt8) ∉ k0 ∧ k = trimSpace k0 ∧ v = trimSpace v0 ∧ k ≠ [] ∧ v ≠ [] ∧
      (∀ b, k.head? = some b → isSpace b = false) ∧ (∀ b, k.getLast? = some b → isSpace b = false) ∧
      (∀ b, v.head? = some b → isSpace b = false) ∧ (∀ b, v.getLast? = some b → isSpace b = false) := by
  unfold parseHeader at h
  cases hc : cut 58 s with
  | none => simp [hc] at h
  | some kv =>
    obtain ⟨k0, v0⟩ := kv
    simp only [hc] at h
    by_cases he : trimSpace k0 = [] ∨ trimSpace v0 = []
    · simp [he] at h
    · simp only [he, if_false, Option.some.injEq, Prod.mk.injEq] at h
      obtain ⟨rfl, rfl⟩ := h
      have := cut_some 58 s k0 v0 hc
      simp only [not_or] at he
      exact ⟨k0, v0, this.1, this.2, rfl, rfl, he.1, he.2, trimSpace_head k0, trimSpace_last k0,
        trimSpace_head v0, trimSpace_last v0⟩

/-- All or nothing: the parse succeeds iff every value is acceptable (one bad `--header` is fatal), it never
panics, and the LAST flag for a key wins. -/
theorem header_parse_all_or_nothing (strs : List Str) :
    parseCustomHeaders strs ≠ .panic ∧
    (∀ m, parseCustomHeaders strs = .ok m → ∀ s ∈ strs, (parseHeader s).isSome) :=
  ⟨foldSteps_no_panic [] strs, fun m h => by
    unfold parseCustomHeaders at h
    rw [foldSteps_header] at h
    split at h
    · exact List.all_eq_true.mp ‹_›
    · cases h⟩

theorem header_last_wins (strs : List Str) (s k v : Str) (m : List (Str × Str))
    (hs : parseHeader s = some (k, v)) (h : parseCustomHeaders (strs ++ [s]) = .ok m) : mapGet m k = some v := by
  unfold parseCustomHeaders at h
  rw [foldSteps_header] at h
  split at h
  · cases h
    simp only [List.filterMap_append, List.filterMap_cons, hs, List.filterMap_nil, List.foldl_append, List.foldl_cons,
      List.foldl_nil]
    exact mapGet_mapSet _ k v
  · cases h

/-- What a request carries: without a custom header of that name, POST has `Content-Type: --content-type`
and `User-Agent: nsq_to_http v…`, GET has the User-Agent and no Content-Type from the tool. -/
theorem request_default_headers (post : Bool) (ct ua : Str) (custom : List (Str × Str))
    (hct : ∀ kv ∈ custom, lower kv.1 ≠ ofAscii "content-type")
    (hua : ∀ kv ∈ custom, lower kv.1 ≠ ofAscii "user-agent") :
    headerOnRequest post ct ua custom (ofAscii "User-Agent") = some ua ∧
    headerOnRequest post ct ua custom (ofAscii "Content-Type") = (if post then some ct else none) := by
  have l1 : lower (ofAscii "User-Agent") = ofAscii "user-agent" := by decide +kernel
  have l2 : lower (ofAscii "Content-Type") = ofAscii "content-type" := by decide +kernel
  have h1 : custom.filter (fun kv => lower kv.1 = lower (ofAscii "User-Agent")) = [] := by
    rw [List.filter_eq_nil_iff]; intro kv hkv; rw [l1]; simpa using hua kv hkv
  have h2 : custom.filter (fun kv => lower kv.1 = lower (ofAscii "Content-Type")) = [] := by
    rw [List.filter_eq_nil_iff]; intro kv hkv; rw [l2]; simpa using hct kv hkv
  unfold headerOnRequest
  rw [h1, h2, l1, l2]
  have l3 : (ofAscii "content-type" = ofAscii "user-agent") = False := by decide +kernel
  cases post <;> simp [l3]

/-- A custom header is set on every request (GET and POST) and overrides the tool's own header of that name. -/
theorem request_custom_header (post : Bool) (ct ua : Str) (custom : List (Str × Str)) (name : Str)
    (h : ∃ kv ∈ custom, lower kv.1 = lower name) :
    ∃ kv ∈ custom, lower kv.1 = lower name ∧ headerOnRequest post ct ua custom name = some kv.2 := by
  obtain ⟨kv0, hm, hl⟩ := h
  have hne : custom.filter (fun kv => lower kv.1 = lower name) ≠ [] := by
    intro he
    have : kv0 ∈ custom.filter (fun kv => lower kv.1 = lower name) := by simp [List.mem_filter, hm, hl]
    rw [he] at this; cases this
  unfold headerOnRequest
  cases hg : (custom.filter (fun kv => lower kv.1 = lower name)).getLast? with
  | none => rw [List.getLast?_eq_none_iff] at hg; exact absurd hg hne
  | some kv =>
    have hmem := List.mem_of_getLast? hg
    simp only [List.mem_filter, decide_eq_true_eq] at hmem
    exact ⟨kv, hmem.1, hmem.2, rfl⟩

/-- The tool starts only with: headers parsed, topic and channel, exactly one of --nsqd-tcp-address /
--lookupd-http-address, exactly one of --get / --post, every GET address with exactly one `%s`, sample within
[0,1], and a non-default --content-type only together with --post and non-empty. -/
theorem n2h_starts_only_when_valid (a : HttpArgs) (h : validateHttp a = none) :
    a.headersOk = true ∧ a.topicEmpty = false ∧ a.channelEmpty = false ∧
    (a.contentTypeGiven = true → a.posts > 0 ∧ a.contentTypeEmpty = false) ∧
    ((a.nsqd > 0 ∧ a.lookupd = 0) ∨ (a.nsqd = 0 ∧ a.lookupd > 0)) ∧
    ((a.posts > 0 ∧ a.getCounts = []) ∨ (a.posts = 0 ∧ a.getCounts ≠ [])) ∧
    (∀ c ∈ a.getCounts, c = 1) ∧ a.sampleOk = true := by
  obtain ⟨h1, h2, h3, h4, h5, h6, h7, h8, h9, h10⟩ := (validateHttp_none_iff a).1 h
  simp only [not_or, Bool.not_eq_true] at h2
  simp only [Bool.not_eq_false] at h1 h10
  refine ⟨h1, h2.1, h2.2, ?_, ?_, ?_, ?_, h10⟩
  · intro hg
    constructor
    · false_or_by_contra; exact h3 ⟨hg, by omega⟩
    · cases hc : a.contentTypeEmpty
      · rfl
      · exact absurd ⟨hg, hc⟩ h4
  · omega
  · cases hgc : a.getCounts with
    | nil => simp [hgc] at h7; left; exact ⟨by omega, rfl⟩
    | cons c cs => simp [hgc] at h8; right; exact ⟨h8, by simp⟩
  · intro c hc
    false_or_by_contra
    apply h9
    rw [List.any_eq_true]
    exact ⟨c, hc, by simpa using ‹¬c = 1›⟩

/-- An unknown `--mode` is not rejected: nsq_to_http silently publishes to ALL addresses (ModeAll is the zero
value), nsq_to_nsq silently round-robins. -/
theorem unknown_mode_is_default (mode : String) (h1 : mode ≠ "round-robin") (h2 : mode ≠ "hostpool")
    (h3 : mode ≠ "epsilon-greedy") : httpMode mode = 0 ∧ n2nMode mode = 0 := by
  simp [httpMode, n2nMode, h1, h2, h3]

/-- Exactly which messages pass `--require-json-field` / `--require-json-value`. -/
theorem require_json_pass_iff (r : Req) (v : Option JVal) :
    (shouldPass r v).1 = true ↔
      r.field = [] ∨ ∃ jv, v = some jv ∧ (r.value = [] ∨ jv = .str r.value ∨ (jv = .num true ∧ r.valueIsNumber = true)) := by
  unfold shouldPass
  by_cases hf : r.field = []
  · simp [hf]
  · cases v with
    | none => simp [hf]
    | some jv =>
      by_cases hv : r.value = []
      · simp [hf, hv]
      · cases jv with
        | str s => simp [hf, hv]
        | num eq => cases eq <;> simp [hf, hv]
        | other => simp [hf, hv]

/-- `backoff` (the handler returns an error: REQUEUE) exactly when a value is required and the field is absent;
such a message can never pass, so it is requeued until the consumer gives up. -/
theorem require_json_backoff_iff (r : Req) (v : Option JVal) :
    (shouldPass r v).2 = true ↔ r.field ≠ [] ∧ r.value ≠ [] ∧ v = none := by
  unfold shouldPass
  by_cases hf : r.field = []
  · simp [hf]
  · cases v with
    | none => simp [hf]
    | some jv =>
      by_cases hv : r.value = []
      · simp [hf, hv]
      · cases jv <;> simp [hf, hv]

/-- `--whitelist-json-field`: the published object contains exactly the whitelisted keys that were present,
each once, with the value of the input. -/
theorem whitelist_exact {V : Type} (wl : List Str) (js : Str → Option V) :
    (∀ k, k ∈ (whitelist wl js).map Prod.fst ↔ k ∈ wl ∧ (js k).isSome) ∧
    (∀ k v, (k, v) ∈ whitelist wl js → js k = some v) ∧
    ((whitelist wl js).map Prod.fst).Nodup := by
  refine ⟨fun k => ?_, fun k v h => ?_, ?_⟩
  · rw [whitelist_keys, List.mem_filter, mem_dedup]
  · simp only [whitelist, List.mem_filterMap, Option.map_eq_some_iff] at h
    obtain ⟨k2, _, v2, hv2, heq⟩ := h
    cases heq; exact hv2
  · rw [whitelist_keys]; exact (nodup_dedup wl).filter _

/-- "the whitelist leaves every value unchanged" also for numbers as WRITTEN in the message — FALSE: the tool
decodes into float64 (open finding `whitelist-rewrites-large-integers`). -/
def whitelist_integers_exact : Prop := ∀ n : Nat, f64round n = n

theorem whitelist_integers_exact_false : ¬ whitelist_integers_exact := by
  intro h; have := h 9007199254740993; revert this; decide

/-- the provable part: integers below 2^53 (forced hypothesis) are forwarded exactly -/
theorem whitelist_integers_exact_partial (n : Nat) (h : n < 2 ^ 53) : f64round n = n := by
  unfold f64round; simp [h]

/-- Destination topic: `--destination-topic` is ONE string (not a list): when set, every message of every
consumed topic is published to it; otherwise each message goes to the topic it was consumed from. A message is
published to exactly one topic on exactly one destination nsqd. -/
theorem destination_topic (dest consumed : Str) :
    (dest ≠ [] → publishTopic dest consumed = dest) ∧ (dest = [] → publishTopic dest consumed = consumed) := by
  unfold publishTopic; constructor <;> intro h <;> simp [h]

/-- hostpool (also epsilon-greedy): every `Get` is answered by exactly one `Mark`, carrying the publish outcome:
nsq_to_http marks at once; nsq_to_nsq marks in `HandleMessage` only when `PublishAsync` failed, otherwise in
the responder when the transaction completes (an outstanding transaction has no mark yet). -/
theorem hostpool_mark_once (accepted asyncErr ok : Bool) :
    httpMarks true false accepted = [accepted] ∧ httpMarks true true accepted = [] ∧
    httpMarks false false accepted = [] ∧
    n2nMarks true true (some ok) = [false] ∧ n2nMarks true true none = [false] ∧
    n2nMarks true false (some ok) = [ok] ∧ n2nMarks true false none = [] ∧
    n2nMarks false asyncErr (some ok) = [] := by
  cases accepted <;> cases asyncErr <;> cases ok <;> decide

/-! ### non-vacuity -/
def s (x : String) : Str := ofAscii x

example : parseHeader (s " X-Tok : a:b c\t") = some (s "X-Tok", s "a:b c") := by decide +kernel
example : parseHeader (s "key=value") = none ∧ parseHeader (s ": v") = none ∧ parseHeader (s "k:  ") = none := by decide +kernel
example : parseCustomHeaders [s "A: 1", s "B:2", s "A:3"] = .ok [(s "A", s "3"), (s "B", s "2")] := by decide +kernel
example : parseCustomHeaders [s "A: 1", s "B=2"] = .err := by decide +kernel
example : headerOnRequest true (s "text/plain") (s "ua") [(s "content-type", s "application/json")] (s "Content-Type")
    = some (s "application/json") := by decide +kernel
example : headerOnRequest false (s "text/plain") (s "ua") [] (s "Content-Type") = none := by decide +kernel
example : validateHttp ⟨true, false, false, true, false, 1, 0, 1, [], true⟩ = none := by decide +kernel
example : validateHttp ⟨true, false, false, false, false, 1, 0, 0, [1, 2], true⟩ = some .badGet := by decide +kernel
example : validateHttp ⟨true, false, false, true, false, 1, 0, 0, [1], true⟩ = some .ctNeedsPost := by decide +kernel
example : httpMode "round_robin" = 0 ∧ httpMode "round-robin" = 1 ∧ n2nMode "hostpol" = 0 := by decide +kernel
example : shouldPass ⟨s "f", s "1", true⟩ (some (.num true)) = (true, false) ∧
    shouldPass ⟨s "f", s "1", true⟩ none = (false, true) ∧ shouldPass ⟨s "f", [], false⟩ (some .other) = (true, false) := by decide +kernel
example : f64round 9007199254740993 = 9007199254740992 ∧ f64round 1234567890123456789 = 1234567890123456768 ∧
    f64round 42 = 42 := by decide +kernel
example : whitelist [s "a", s "b", s "a", s "c"] (fun k => if k = s "a" then some 1 else if k = s "c" then some 2 else none)
    = [(s "a", 1), (s "c", 2)] := by decide +kernel

end Nsq.Props.C20Opts
