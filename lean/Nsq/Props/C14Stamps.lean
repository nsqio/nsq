import Nsq.Proofs.RegistrySched
import Nsq.Proofs.RegistryMap
import Nsq.Gen.Lookupd
/-!
# C14 — `lastUpdate` inside the section model

The concurrency theorems of `Nsq.Props.C14` / `C14Sched` are about the REGISTRY part of the answers. The other input of
`GET /lookup` / `GET /nodes` is each peer's `lastUpdate` stamp: `PING` stores it with `sync/atomic` and takes NO lock of the
`RegistrationDB`; `Producers.FilterByActive` loads it, one atomic load per producer, in a loop (regenerated facts
`stamps_shape`: the call lists of the two functions contain no `Lock`/`RLock`). So a reader is one critical section for the
registry but `n` separate atomic reads for the stamps. Model: the stamps table alone (`Stamps`), the reader = one section per
listed producer (`readerSecs ids`), a `PING` of peer `p` = one section (`pingSec`).

* `stamps_reader_one_ping_linearizable`: against ONE overlapping `PING` the reader's stamps are those of one of the two
  serial orders (ids duplicate-free — they are the keys of one Go map);
* `stamps_reader_prefix_false`: against TWO `PING`s that took effect one after the other (`ping 1` before `ping 2`) the reader
  can load the OLD stamp of peer 1 and the NEW stamp of peer 2 — the stamps of NO prefix of the writers. The answer is then
  "peer 2 active, peer 1 not" when both stamps were stale. This is a statement about the model (a consequence of the
  per-producer loads of `stamps_shape`); it needs two peers silent for longer than `--inactive-producer-timeout` and is
  NOT replayed on the daemon (the answer is still a mixture of values each peer really had);
* `stamps_reader_each_read_regular`: what does hold for every number of `PING`s and every schedule: each stamp the reader
  returns is the stamp that peer had after SOME prefix of the writers (per-peer atomic reads; never a torn or invented value).
-/
namespace Nsq.Props.C14Stamps
open Nsq.Model.Registry Nsq.Model.Registry.AMap Nsq.Proofs.RegistryMap Nsq.Proofs.RegistrySched Nsq.Gen

/-- COMPUTED shape: `PING` = load, `time.Now()`, store — no lock; `FilterByActive` = `time.Now()` once, then loads — no lock
of its own (it runs inside the reader's `RLock` since F37, which does not exclude `PING`) -/
theorem stamps_shape :
    Lookupd.callsPingCmd = ["LoadInt64", "Now", "StoreInt64"] ∧
    Lookupd.callsFilterByActive = ["Now", "LoadInt64"] := by decide +kernel

abbrev Stamps := List (Nat × Int)
abbrev SObs := List (Nat × Option Int)
abbrev SSec := Stamps × SObs → Stamps × SObs

/-- `atomic.LoadInt64(&p.peerInfo.lastUpdate)` of producer `id` inside the loop of `FilterByActive` -/
def readStamp (id : Nat) : SSec := fun x => (x.1, x.2 ++ [(id, mget x.1 id)])
/-- `atomic.StoreInt64(&client.peerInfo.lastUpdate, now)` of `PING` -/
def pingW (p : Nat) (now : Int) : Stamps → Stamps := fun st => mset st p now
def pingSec (p : Nat) (now : Int) : SSec := fun x => (pingW p now x.1, x.2)

def readerSecs (ids : List Nat) : List SSec := ids.map readStamp
def runS (x : Stamps × SObs) (l : List SSec) : Stamps × SObs := l.foldl (fun d s => s d) x
def runW (st : Stamps) (ws : List (Stamps → Stamps)) : Stamps := ws.foldl (fun d w => w d) st
def readAll (st : Stamps) (ids : List Nat) : SObs := ids.map (fun id => (id, mget st id))

theorem run_readers (ids : List Nat) : ∀ (st : Stamps) (o : SObs),
    runS (st, o) (readerSecs ids) = (st, o ++ readAll st ids) := by
  induction ids with
  | nil => intro st o; simp [runS, readerSecs, readAll]
  | cons id rest ih =>
    intro st o
    have := ih st (o ++ [(id, mget st id)])
    simp only [runS, readerSecs, List.map_cons, List.foldl_cons, readStamp, readAll] at this ⊢
    rw [this]; simp

theorem readAll_ping_of_not_mem (st : Stamps) (p : Nat) (now : Int) (ids : List Nat) (h : p ∉ ids) :
    readAll (pingW p now st) ids = readAll st ids := by
  unfold readAll
  apply List.map_congr_left
  intro id hid
  have : ¬ id = p := fun e => h (e ▸ hid)
  simp [pingW, mget_mset, this]

/-- The reader against ONE overlapping `PING`: the loaded stamps are all-before or all-after, the store is not disturbed. -/
theorem stamps_reader_one_ping_linearizable (st : Stamps) (ids : List Nat) (hnd : ids.Nodup) (p : Nat) (now : Int) :
    ∀ s ∈ interleave (readerSecs ids) [pingSec p now],
      runS (st, []) s = (pingW p now st, readAll st ids) ∨
      runS (st, []) s = (pingW p now st, readAll (pingW p now st) ids) := by
  intro s hs
  obtain ⟨k, _, e⟩ := foldl_interleave_single _ _ (st, []) s hs
  -- the loads before the store see `st`, those after it the new table
  have h1 := run_readers (ids.take k) st []
  have h2 := run_readers (ids.drop k) (pingW p now st) (readAll st (ids.take k))
  simp only [runS, readerSecs] at h1 h2
  rw [runS, e, readerSecs, ← List.map_take, ← List.map_drop, h1, pingSec, List.nil_append, h2]
  have hall : ∀ st', readAll st' ids = readAll st' (ids.take k) ++ readAll st' (ids.drop k) := by
    intro st'; simp [readAll]
  by_cases hp : p ∈ ids.drop k
  · right
    have hnot : p ∉ ids.take k := by
      intro ht
      have hnd' : (ids.take k ++ ids.drop k).Nodup := by rw [List.take_append_drop]; exact hnd
      exact (List.nodup_append.mp hnd').2.2 p ht p hp rfl
    rw [hall, readAll_ping_of_not_mem st p now _ hnot]
  · left
    rw [hall st, readAll_ping_of_not_mem st p now _ hp]

/-- "the reader's stamps are those after a prefix of the writers" (the form of `concurrent_lookup_linearizable`) -/
def stamps_reader_sees_prefix : Prop :=
  ∀ (st : Stamps) (ids : List Nat) (ws : List (Stamps → Stamps)), ids.Nodup →
    ∀ s ∈ interleave (ws.map (fun w x => (w x.1, x.2))) (readerSecs ids),
      ∃ k, k ≤ ws.length ∧ (runS (st, []) s).2 = readAll (runW st (ws.take k)) ids

/-- FALSE: `load(1)` (old) · `PING 1` · `PING 2` · `load(2)` (new): old stamp of peer 1 with the new stamp of peer 2. -/
theorem stamps_reader_prefix_false : ¬ stamps_reader_sees_prefix := by
  intro h
  have := h [(1, 0), (2, 0)] [1, 2] [pingW 1 10, pingW 2 20] (by decide)
    [readStamp 1, fun x => (pingW 1 10 x.1, x.2), fun x => (pingW 2 20 x.1, x.2), readStamp 2]
    ((mem_interleave_iff _ _ _).mpr (.right (.left (.left (.right .nil)))))
  revert this
  decide +kernel

def wlift (w : Stamps → Stamps) : SSec := fun x => (w x.1, x.2)

/-- along a schedule: a writer moves every later read one prefix on; a read appends the value of the prefix reached -/
theorem reads_regular_of_shuffle {xs ys s : List SSec} (h : Shuffle xs ys s) :
    ∀ (ws : List (Stamps → Stamps)) (ids : List Nat) (st : Stamps) (o : SObs), xs = ws.map wlift → ys = readerSecs ids →
      ∃ vals : List (Option Int), (runS (st, o) s).2 = o ++ ids.zip vals ∧ vals.length = ids.length ∧
        (runS (st, o) s).1 = runW st ws ∧
        ∀ i (hi : i < vals.length), ∃ k, k ≤ ws.length ∧ ∃ id, ids[i]? = some id ∧ vals[i] = mget (runW st (ws.take k)) id := by
  induction h with
  | nil =>
    intro ws ids st o hx hy
    obtain rfl : ws = [] := List.map_eq_nil_iff.mp hx.symm
    obtain rfl : ids = [] := List.map_eq_nil_iff.mp hy.symm
    exact ⟨[], by simp [runS], rfl, rfl, fun i hi => absurd hi (by simp)⟩
  | left _ ih =>
    intro ws ids st o hx hy
    cases ws with
    | nil => simp at hx
    | cons w ws' =>
      simp only [List.map_cons, List.cons.injEq] at hx
      obtain ⟨rfl, rfl⟩ := hx
      obtain ⟨vals, h1, h2, h3, h4⟩ := ih ws' ids (w st) o rfl hy
      refine ⟨vals, ?_, h2, ?_, ?_⟩
      · simpa [runS, wlift] using h1
      · simpa [runS, runW, wlift] using h3
      · intro i hi
        obtain ⟨k, hk, id, hid, hv⟩ := h4 i hi
        exact ⟨k + 1, by simp; omega, id, hid, by simpa [runW] using hv⟩
  | right _ ih =>
    intro ws ids st o hx hy
    cases ids with
    | nil => simp [readerSecs] at hy
    | cons id ids' =>
      simp only [readerSecs, List.map_cons, List.cons.injEq] at hy
      obtain ⟨rfl, rfl⟩ := hy
      obtain ⟨vals, h1, h2, h3, h4⟩ := ih ws ids' st (o ++ [(id, mget st id)]) hx rfl
      refine ⟨mget st id :: vals, ?_, by simp [h2], ?_, ?_⟩
      · simp only [runS, List.foldl_cons, readStamp] at h1 ⊢
        rw [h1]; simp
      · simpa [runS, readStamp] using h3
      · intro i hi
        cases i with
        | zero => exact ⟨0, Nat.zero_le _, id, rfl, by simp [runW]⟩
        | succ j =>
          simp only [List.length_cons] at hi
          obtain ⟨k, hk, id', hid, hv⟩ := h4 j (by omega)
          exact ⟨k, hk, id', by simpa using hid, by simpa using hv⟩

/-- Every schedule of ANY sequence of writers with the reader: the observation is the list of the ids in order, and every
stamp in it is the stamp that peer had after SOME prefix of the writers. -/
theorem stamps_reader_each_read_regular :
    ∀ (n : Nat) (ws : List (Stamps → Stamps)) (ids : List Nat) (st : Stamps) (o : SObs) (s : List SSec),
      ws.length + ids.length ≤ n → s ∈ interleaveF n (ws.map wlift) (readerSecs ids) →
      ∃ vals : List (Option Int), (runS (st, o) s).2 = o ++ ids.zip vals ∧ vals.length = ids.length ∧
        (runS (st, o) s).1 = runW st ws ∧
        ∀ i (hi : i < vals.length), ∃ k, k ≤ ws.length ∧ ∃ id, ids[i]? = some id ∧ vals[i] = mget (runW st (ws.take k)) id :=
  fun n ws ids st o s hn hs =>
    reads_regular_of_shuffle ((mem_interleaveF_iff n _ _ s (by simpa [readerSecs] using hn)).mp hs) ws ids st o rfl rfl

/-! ## non-vacuity -/

example : (interleave (readerSecs [1, 2]) [pingSec 1 10]).length = 3 ∧
    (interleave ([pingW 1 10, pingW 2 20].map wlift) (readerSecs [1, 2])).length = 6 := by decide +kernel
/-- the two serial answers differ, and the torn one is neither -/
example : readAll [(1, 0), (2, 0)] [1, 2] ≠ readAll (pingW 1 10 [(1, 0), (2, 0)]) [1, 2] := by decide +kernel
example : (runS ([(1, 0), (2, 0)], []) [readStamp 1, wlift (pingW 1 10), wlift (pingW 2 20), readStamp 2]).2 =
    [(1, some 0), (2, some 20)] := by decide +kernel

end Nsq.Props.C14Stamps
