/-
C04 (timing half) — tick-count lateness of `queueScanLoop`.

`Nsq.Props.C04` proves "never early" and "one ROUND of the loop leaves nothing due in any channel
when there are at most `QueueScanSelectionCount` channels". Here the whole tick is modelled
(`Nsq.Model.Timing.tickLoop`: rounds repeated at once while the dirty fraction exceeds
`QueueScanDirtyPercent`) and lateness is stated in TICKS:

* ≤ `QueueScanSelectionCount` (20) channels: a message whose deadline is `d` is released by the
  FIRST tick whose first round reads the clock at/after `d` — tick-count lateness 0, i.e. wall-clock
  lateness < one `QueueScanInterval` + the duration of the tick (`released_by_first_tick_after_deadline`);
* any number of channels: it is released by the first tick at/after `d` in which `UniqRands`
  selects its channel in some executed round (`released_when_selected`); whether and when that happens
  is the random stream's choice (20 of n per round, fresh draw every round): NO deterministic tick
  bound exists with more than 20 channels, and none is claimed;
* what the 25 % dirty loop guarantees (`dirty_loop_guarantee`): a tick ends only after a round in
  which at most the threshold fraction of the scanned channels had anything due, and every round
  scans `min(20, n)` distinct channels completely — so while more than a quarter of a sample is
  dirty the loop does not wait for the next `QueueScanInterval`.
Time readings are inputs (`Round.now`), the clock itself is not modelled (wall-clock: partial).
The shape of the loop is tied to the source by `Nsq.Tie.TickLoop.scanTickLoop_eq`.
-/
import Nsq.Proofs.TickLoop
import Nsq.Tie.TickLoop
namespace Nsq.Props.C04Live
open Nsq.Model.PQ Nsq.Model.Timing Nsq.Proofs.PQ Nsq.Proofs.Timing Nsq.Proofs.Tick Nsq.Proofs.TickLoop

/-- the tick never panics, executes between 1 and the given number of rounds, keeps the channel
list and every channel's heap/map invariant, and never re-creates a due entry: what was clear at
`d` before the tick is clear at `d` after it — any number of channels, any random stream, any
clock readings, any threshold -/
theorem tick_total (q pn pd : Nat) (cs : List Chan) (hinv : AllInv cs) (rds : List Round) :
    ∃ cs' b k, tickLoop q pn pd cs rds = some (cs', b, k) ∧ cs'.length = cs.length ∧ AllInv cs' ∧
      k ≤ rds.length ∧ (rds ≠ [] → 1 ≤ k) ∧ (b = false → k = rds.length) ∧
      ∀ i d, ClearAt cs i d → ClearAt cs' i d := by
  obtain ⟨cs', b, k, h1, _, h⟩ := tickLoop_spec q pn pd rds cs hinv
  exact ⟨cs', b, k, h1, h⟩

/-- **≤ 20 channels: released by the first tick at/after the deadline.** If the daemon has at most
`q = QueueScanSelectionCount` channels, then after ANY tick whose first round reads the clock at or
after `d` (however many further rounds the dirty loop adds, whatever they read) no channel holds an
in-flight or deferred entry with deadline `≤ d`. -/
theorem released_by_first_tick_after_deadline (q pn pd : Nat) (cs : List Chan) (hinv : AllInv cs)
    (hn : cs.length ≤ q) (rd : Round) (rest : List Round) (d : Int) (hd : ∀ i, i < cs.length → d ≤ rd.now i) :
    ∃ cs' b k, tickLoop q pn pd cs (rd :: rest) = some (cs', b, k) ∧ 1 ≤ k ∧
      ∀ c ∈ cs', nothingDue c d = true := by
  obtain ⟨cs', b, k, h1, h8, h2, _, _, h5, _⟩ := tickLoop_spec q pn pd (rd :: rest) cs hinv
  refine ⟨cs', b, k, h1, h5 (by simp), ?_⟩
  intro c hc
  obtain ⟨i, hi⟩ := List.getElem?_of_mem hc
  have hlt : i < cs.length := by
    rw [← h2]; exact (List.getElem?_eq_some_iff.1 hi).1
  exact h8 i d (everSelected_small q pn pd cs hn rd rest i hlt d (hd i hlt)) c hi

/-- **any number of channels: released when selected.** A channel that `UniqRands` hands to a
worker in some executed round of the tick, with a clock reading `≥ d`, holds nothing with deadline
`≤ d` when the tick ends. -/
theorem released_when_selected (q pn pd : Nat) (cs : List Chan) (hinv : AllInv cs) (rds : List Round)
    (i : Nat) (d : Int) (hs : everSelected q pn pd cs i d rds = true) :
    ∃ cs' b k, tickLoop q pn pd cs rds = some (cs', b, k) ∧ ClearAt cs' i d := by
  obtain ⟨cs', b, k, h1, h8, _⟩ := tickLoop_spec q pn pd rds cs hinv
  exact ⟨cs', b, k, h1, h8 i d hs⟩

/-- **the 25 % loop.** A tick that ended by the dirty test (not because the given rounds ran out)
ended with a round that scanned `min(q, n)` distinct channels of which at most the fraction
`pn / pd` answered dirty; every earlier round was followed by another one AT ONCE. -/
theorem dirty_loop_guarantee (q pn pd : Nat) (cs cs' : List Chan) (rds : List Round) (k : Nat)
    (h : tickLoop q pn pd cs rds = some (cs', true, k)) :
    ∃ cs0 rd sel, rd ∈ rds ∧ uniqRands (min q cs0.length) cs0.length rd.r = some sel ∧
      sel.length = min q cs0.length ∧ sel.Nodup ∧
      cs' = scanTick cs0 sel rd.now ∧ dirtyCount cs0 sel rd.now * pd ≤ pn * min q cs0.length := by
  induction rds generalizing cs k with
  | nil => simp [tickLoop] at h
  | cons rd rest ih =>
    obtain ⟨sel, hsel, hlen, hnd, _⟩ := uniqRands_perm (min q cs.length) cs.length rd.r
    by_cases hdirty : dirtyCount cs sel rd.now * pd > pn * min q cs.length
    · simp only [tickLoop, hsel, hdirty, ↓reduceIte, Option.map_eq_some_iff] at h
      obtain ⟨⟨a, b, k'⟩, h1, h2⟩ := h
      simp only [Prod.mk.injEq] at h2
      obtain ⟨rfl, rfl, _⟩ := h2
      obtain ⟨cs0, rd0, sel0, hm, r⟩ := ih _ _ h1
      exact ⟨cs0, rd0, sel0, List.mem_cons_of_mem _ hm, r⟩
    · simp only [tickLoop, hsel, hdirty, ↓reduceIte, Option.some.injEq, Prod.mk.injEq] at h
      exact ⟨cs, rd, sel, List.mem_cons_self, hsel, by omega, hnd, h.1.symm, by omega⟩

/-- a round in which every worker reads the clock at 10 (the entries of `twoChans` are due at 5 resp. 6) -/
def exRound : Round := { r := fun i => 7 * i + 2, now := fun _ => 10 }

example : ∃ cs' b k, tickLoop 20 1 4 twoChans [exRound, exRound] = some (cs', b, k) ∧ 1 ≤ k ∧
    ∀ c ∈ cs', nothingDue c 10 = true :=
  released_by_first_tick_after_deadline 20 1 4 twoChans twoChans_inv (by decide +kernel) exRound [exRound] 10
    (fun _ _ => Int.le_refl 10)

/-- computed: the first round is 100 % dirty (2 of 2 > 25 %), so a second round runs at once; it
is clean and the tick ends by the dirty test after 2 rounds -/
example : (tickLoop 20 1 4 twoChans [exRound, exRound, exRound]).map (fun x => (x.2.1, x.2.2, x.1.map (·.ready))) =
    some (true, 2, [[7], [8]]) := by decide +kernel

/-- with q = 1 of 2 channels only the selected channel (index 0 for this stream) is scanned per round;
the round is 100 % dirty but the given rounds ran out (`false`) -/
example : (tickLoop 1 1 4 twoChans [exRound]).map (fun x => (x.2.1, x.2.2, x.1.map (fun c => nothingDue c 10))) =
    some (false, 1, [true, false]) := by decide +kernel

example : everSelected 1 1 4 twoChans 0 10 [exRound] = true ∧ everSelected 1 1 4 twoChans 1 10 [exRound] = false := by
  decide +kernel

example : ∃ cs' b k, tickLoop 1 1 4 twoChans [exRound] = some (cs', b, k) ∧ ClearAt cs' 0 10 :=
  released_when_selected 1 1 4 twoChans twoChans_inv [exRound] 0 10 (by decide +kernel)

example : ∀ cs', tickLoop 20 1 4 twoChans [exRound, exRound, exRound] = some (cs', true, 2) →
    ∃ cs0 rd sel, rd ∈ [exRound, exRound, exRound] ∧ uniqRands (min 20 cs0.length) cs0.length rd.r = some sel ∧
      sel.length = min 20 cs0.length ∧ sel.Nodup ∧
      cs' = scanTick cs0 sel rd.now ∧ dirtyCount cs0 sel rd.now * 4 ≤ 1 * min 20 cs0.length :=
  fun cs' h => dirty_loop_guarantee 20 1 4 twoChans cs' _ 2 h

example : ∃ cs' b k, tickLoop 20 1 4 twoChans [exRound] = some (cs', b, k) ∧ cs'.length = twoChans.length ∧ AllInv cs' ∧
      k ≤ 1 ∧ (([exRound] : List Round) ≠ [] → 1 ≤ k) ∧ (b = false → k = 1) ∧
      ∀ i d, ClearAt twoChans i d → ClearAt cs' i d :=
  tick_total 20 1 4 twoChans twoChans_inv [exRound]

end Nsq.Props.C04Live
