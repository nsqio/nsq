import Nsq.Proofs.LookupTicks
import Nsq.Props.C16
/-!
# C16 — "within a few heartbeat intervals" as a TICK-COUNT theorem

The model has discrete heartbeat ticks (`Step.tick`: one iteration of `lookupLoop`'s ticker branch = one `PING`
`Command` per peer). A *fault* of the lookupd at address `a` is a `Command` to it that fails (refused dial,
accept-then-close, stall until the 1 s deadline, garbage, bad length, `E_INVALID`), a `lookupdDrop a` (restart / closed
connection) or a failed first connection; `OkRun a s steps` says the schedule `steps` from `s` contains none. Churn
(create / delete / notifications), faults of OTHER lookupds and reconfiguration may go on.

The property's "converge within a few heartbeat intervals" holds with k = 2 ticks (`in_sync_within_two_ticks`), and
2 is tight (`two_ticks_needed`): a lookupd restart that nsqd has not yet noticed (`stale`) costs one tick to detect (the
PING fails, `lp.Close()`) and one to reconnect and replay (`connectCallback`).

Wall-clock: k ticks after the last fault lie within (k+1) heartbeat intervals plus the time the Commands themselves
take (each round trip is bounded by 1 s, F39: one deadline per round trip, tie `Tie.LookupSync.read_deadline_shape`;
replay corpus/C16/fixed/slow_drip_reply.ops); the harness measures ticks (heartbeat log lines of the real `lookupLoop`)
and time.

`command_refines_fine`, `command_nil_refines_fine`: the one `Outcome` per `Command` that all of this is stated over
summarises `fineCommand` of `Nsq.Model.LookupPeer`, which consumes the network interactions of a `Command` one by one.
-/
namespace Nsq.Props.C16Ticks
open Nsq.Model.LookupSync Nsq.Proofs.LookupSync Nsq.Proofs.LookupTicks Nsq.Props.C16

/-- From ANY state: a schedule without faults of the lookupd at `a` that contains at least two command rounds
(heartbeat ticks or notifications) ends with every peer entry for `a` connected and alive. -/
theorem two_rounds_connect (a : Nat) (s s' : State) (steps : List Step) (hr : run s steps = some s')
    (hok : OkRun a s steps) (h2 : 2 ≤ rounds steps) : ∀ p ∈ s'.peers, p.addr = a → p.conn = .up := by
  intro p hp ha
  have := rank_run 2 hr hok (fun q _ _ => rank_le_two q.conn) p hp ha
  exact (rank_zero_iff _).mp (by omega)

/-- … in particular two heartbeat ticks after the last fault suffice, whatever else happens in between. -/
theorem two_ticks_connect (a : Nat) (s s' : State) (steps : List Step) (hr : run s steps = some s')
    (hok : OkRun a s steps) (h2 : 2 ≤ ticks steps) : ∀ p ∈ s'.peers, p.addr = a → p.conn = .up :=
  two_rounds_connect a s s' steps hr hok (Nat.le_trans h2 (ticks_le_rounds steps))

/-- If nsqd had already noticed the failure (no connection to `a` is `stale`), one tick suffices. -/
theorem one_tick_suffices_when_noticed (a : Nat) (s s' : State) (steps : List Step) (hr : run s steps = some s')
    (hok : OkRun a s steps) (h1 : 1 ≤ ticks steps) (hn : ∀ p ∈ s.peers, p.addr = a → p.conn ≠ .stale) :
    ∀ p ∈ s'.peers, p.addr = a → p.conn = .up := by
  intro p hp ha
  have := rank_run 1 hr hok (fun q hq hqa => rank_le_one (hn q hq hqa)) p hp ha
  have := ticks_le_rounds steps
  exact (rank_zero_iff _).mp (by omega)

/-- The property clause with the tick count: `pre` is ANY history (churn, faults, restarts, reconfiguration); after
it, a schedule that is fault-free for the lookupd at `a` and contains two heartbeat ticks, at whose end nsqd is
quiescent, leaves that lookupd connected and listing exactly nsqd's current topics and channels. -/
theorem in_sync_within_two_ticks (a : Nat) (pre steps : List Step) (s0 s' : State)
    (h0 : run State.init pre = some s0) (hr : run s0 steps = some s') (hok : OkRun a s0 steps)
    (h2 : 2 ≤ ticks steps) (hq : Quiescent s') :
    ∀ p ∈ s'.peers, p.addr = a → p.conn = .up ∧ ∀ k, k ∈ p.regs ↔ ∃ r ∈ s'.objs, r.key = k := by
  intro p hp ha
  have hup := two_ticks_connect a s0 s' steps hr hok h2 p hp ha
  exact ⟨hup, inSync_of_inv (inv_run (inv_run inv_init h0) hr) hq p hp hup⟩

/-- k = 2 is tight: a reachable state and a fault-free schedule with ONE tick after which the lookupd is still not
connected (it restarted; the first PING only detects that). -/
theorem two_ticks_needed :
    ∃ (pre steps : List Step) (s0 s' : State), run State.init pre = some s0 ∧ run s0 steps = some s' ∧
      OkRun 0 s0 steps ∧ ticks steps = 1 ∧ ∃ p ∈ s'.peers, p.addr = 0 ∧ p.conn ≠ .up := by
  refine ⟨[.addPeer 0 .ok, .lookupdDrop 0], [.tick [.ok]], _, _, rfl, rfl, ?_, rfl, ?_⟩
  · refine ⟨?_, fun _ _ => trivial⟩
    intro i p hp _
    cases i with
    | zero => rfl
    | succ j => cases hp  -- the witness state has one peer
  · exact ⟨_, List.mem_cons_self, rfl, by decide⟩

/-- `Command`, interaction by interaction, is the one-`Outcome` summary: with `b` = "every interaction this
`Command` consumes succeeded", the fine model's result abstracts to `command … (outcomeOf b)`. -/
theorem command_refines_fine (objs dead : List Ref) (apply : List Key → List Key) (a : Nat) (st : PState)
    (sess : Session) (net : List Bool) :
    let res := fineCommand (callbackCmds objs dead) (some apply) st sess net
    let b := allOk net (needed st (callbackCmds objs dead).length true)
    let p' := command objs dead apply ⟨a, absConn st sess, sess.getD []⟩ (outcomeOf b)
    p'.conn = absConn res.1 res.2 ∧ p'.regs = res.2.getD [] ∧ p'.addr = a := by
  intro res b p'
  cases st with
  | connected =>
    cases sess with
    | none =>
      simp only [res, p', fineCommand, absConn, command, outcomeOf]
      cases b <;> simp
    | some regs =>
      have hb : b = net.getD 0 false := by
        simp [b, allOk, needed, List.range_succ]
      simp only [res, p', fineCommand, absConn, command, outcomeOf, hb]
      cases net.getD 0 false <;> simp
  | disconnected =>
    have hb : b = (allOk net (3 + (callbackCmds objs dead).length) &&
        net.getD (3 + (callbackCmds objs dead).length) false) := allOk_succ _ _
    simp only [res, p', fineCommand, absConn, command, outcomeOf, hb, callbackRegs]
    cases h1 : allOk net (3 + (callbackCmds objs dead).length) <;>
      cases h2 : net.getD (3 + (callbackCmds objs dead).length) false <;> simp

/-- `Command(nil)` ("start the connection") is issued only for a peer just added (lookup.go, `lookupLoop`), hence only
from `.disconnected none`; from there it is the statement above with `id`. -/
theorem command_nil_refines_fine (objs dead : List Ref) (a : Nat) (net : List Bool) :
    let res := fineCommand (callbackCmds objs dead) none .disconnected none net
    let b := allOk net (needed .disconnected (callbackCmds objs dead).length false)
    let p' := command objs dead id ⟨a, .down, []⟩ (outcomeOf b)
    p'.conn = absConn res.1 res.2 ∧ p'.regs = res.2.getD [] := by
  intro res b p'
  simp only [res, p', b, fineCommand, absConn, command, outcomeOf, needed, callbackRegs, Bool.false_eq_true, if_false,
    Nat.add_zero]
  cases h1 : allOk net (3 + (callbackCmds objs dead).length) <;> simp

/-! ## non-vacuity -/

/-- after `pre`, which ends with a restart of both lookupds: a schedule with churn and faults of lookupd 1 going on,
fault-free for 0, two ticks: in sync -/
def sched : List Step :=
  [.tick [.ok, .fail], .createChan "t" "c", .notify ⟨"t", "c", 1⟩ [.ok, .fail], .tick [.ok, .fail]]

def pre : List Step :=
  [.addPeer 0 .ok, .addPeer 1 .ok, .createTopic "t", .notify ⟨"t", "", 0⟩ [.ok, .ok], .lookupdDrop 0, .lookupdDrop 1]

example : ((run State.init (pre ++ sched)).map (fun s => s.peers.map (fun p => (p.addr, p.conn == .up, p.regs)))) =
    some [(0, true, [("t", "c"), ("t", "")]), (1, false, [])] := by decide +kernel
example : ticks sched = 2 ∧ rounds sched = 3 := by decide +kernel
/-- one interaction fails in the middle of `connectCallback` (the 2nd REGISTER): the whole `Command` fails, the peer
is disconnected and the lookupd holds nothing -/
example : fineCommand [("t", "c"), ("u", "")] (some id) .disconnected none [true, true, true, true, false, true] =
    (.disconnected, none) := by decide +kernel
example : fineCommand [("t", "c"), ("u", "")] (some id) .disconnected none [true, true, true, true, true, true] =
    (.connected, some [("u", ""), ("t", "c"), ("t", "")]) := by decide +kernel

end Nsq.Props.C16Ticks
