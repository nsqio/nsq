/-
C01 — at-least-once delivery: the safety half (nothing but a FIN, an explicit empty, client
sampling or an ephemeral queue's overflow ever removes a message from a channel) and local
progress (enabledness) lemmas.
Liveness itself ("keeps being redelivered for as long as the daemon runs") needs scheduler
fairness and the timing of `queueScanLoop`: it is proved under named fairness hypotheses in
`Nsq.Props.C01Live` (one channel) and `Nsq.Props.C01Topic` (the daemon), not here.
-/
import Nsq.Proofs.ChanCount
import Nsq.Props.C02
import Nsq.Proofs.ChanNsqd
import Nsq.Proofs.ChanLive
namespace Nsq.Props.C01
open Nsq.Model.Chan Nsq.Proofs.Chan

/-- C01.3 — the ledger: the messages a channel holds (queued in memory or on disk, in flight —
also to a connection that vanished —, deferred) are exactly those fanned out to it minus those
finished, emptied, sampled out or dropped by an ephemeral queue; as sets and, ids being distinct,
as multisets. A timeout, a REQ with any delay, a TOUCH, a disconnect, pause/unpause and a full
memory queue do not appear on the right-hand side: they remove nothing. -/
theorem ledger {conf : Conf} {c : Chan} (h : C02.Reachable conf c) :
    (∀ id, (∃ e ∈ c.msgs, e.id = id) ↔ (id ∈ fannedIds c.hist ∧ removed c.hist id = false)) ∧
    (c.msgs.map (·.id)).Perm ((fannedIds c.hist).filter (fun id => !removed c.hist id)) := by
  have hi := C02.reachable_inv h
  refine ⟨owns_iff hi, ?_⟩
  rw [List.perm_ext_iff_of_nodup hi.core.nodup ((fannedIds_nodup hi.okh).filter _)]
  intro id
  simp only [List.mem_map, List.mem_filter, Bool.not_eq_true', owns_iff hi id]

/-- a message leaves a channel only through one of the four removal events -/
theorem nothing_else_removes {conf : Conf} {c : Chan} (h : C02.Reachable conf c) {id : Nat}
    (hf : id ∈ fannedIds c.hist) (hgone : ¬ ∃ e ∈ c.msgs, e.id = id) :
    ∃ ev ∈ c.hist, removedIn ev id = true :=
  removed_of_fanned (C02.reachable_inv h) hf (fun e he hid => hgone ⟨e, he, hid⟩)

/-- C01.4 — the two deliberate drops happen only in the documented cases: `sampledOut` only in
the delivery pump of a connected consumer that negotiated `sample_rate > 0` (and whose guard
held), `ephDrop` only on an `#ephemeral` channel. -/
theorem only_deliberate_drops (conf : Conf) (c : Chan) (op : Op) :
    (nEv isSampled (step conf c op).1.hist ≠ nEv isSampled c.hist →
      ∃ k id cl, op = .sampleDrop k id ∧ findC c.clients k = some cl ∧ cl.sample ≠ 0 ∧ ready c.paused cl = true) ∧
    (c.ephemeral = false → nEv isEphDrop (step conf c op).1.hist = nEv isEphDrop c.hist) :=
  ⟨sampled_only conf c op, fun h => (ephDrop_only_ephemeral conf c op h).1⟩

/-! ### C01.5 progress (enabledness) -/

theorem deliver_of_nodup {conf : Conf} {c : Chan} (hn : (c.msgs.map (·.id)).Nodup) {e : Entry} (he : e ∈ c.msgs)
    (hq : e.loc = .queued) {k : Nat} {cl : Client} (hc : findC c.clients k = some cl)
    (hr : ready c.paused cl = true) (now : Int) :
    (step conf c (.deliver k e.id now)).2 = .msg (e.att + 1) ∧
    ∃ e' ∈ (step conf c (.deliver k e.id now)).1.msgs,
      e'.id = e.id ∧ e'.loc = .inflight k (now + cl.msgTimeout) now := by
  have hf := findE_of_mem hn he
  have hq' : isQueued e = true := by simp [isQueued, hq]
  simp only [step, doDeliver, hc, hr, hf, hq', Bool.not_true, Bool.false_eq_true, ↓reduceIte, true_and]
  exact ⟨_, mem_setE.2 ⟨e, he, rfl⟩, by simp⟩

/-- a queued message and a consumer whose guard holds: the delivery step is enabled, registers the
message in flight for that consumer and sends it with the next attempts value -/
theorem deliver_enabled {conf : Conf} {c : Chan} (h : C02.Reachable conf c) {e : Entry} (he : e ∈ c.msgs)
    (hq : e.loc = .queued) {k : Nat} {cl : Client} (hc : findC c.clients k = some cl)
    (hr : ready c.paused cl = true) (now : Int) :
    (step conf c (.deliver k e.id now)).2 = .msg (e.att + 1) ∧
    ∃ e' ∈ (step conf c (.deliver k e.id now)).1.msgs,
      e'.id = e.id ∧ e'.loc = .inflight k (now + cl.msgTimeout) now :=
  deliver_of_nodup (C02.reachable_inv h).core.nodup he hq hc hr now

/-- an in-flight message whose deadline has passed is picked up by the scan (whoever held it —
also a connection that has vanished): `timeoutOne` puts it back on the queue … -/
theorem timeout_enabled {c : Chan} {e : Entry} (he : e ∈ c.msgs) {k : Nat} {p d : Int}
    (hl : e.loc = .inflight k p d) {t : Int} (hp : p ≤ t) : e.id ∈ dueInflight c t :=
  Proofs.ChanLive.mem_due he (by simp [isInflight, priOf, hl, hp])

/-- … where it is queued again, or, on an ephemeral channel whose memory queue is full, dropped -/
theorem timeoutOne_requeues {conf : Conf} {c : Chan} (h : C02.Reachable conf c) {e : Entry} (he : e ∈ c.msgs) {k : Nat} {p d : Int}
    (hl : e.loc = .inflight k p d) :
    (∃ e' ∈ (timeoutOne c e.id).msgs, e'.id = e.id ∧ e'.loc = .queued ∧ e'.att = e.att) ∨
    (c.ephemeral = true ∧ ¬ c.memLen < c.memCap) := by
  have hf := findE_of_mem (C02.reachable_inv h).core.nodup he
  simp only [timeoutOne, hf, hl]
  -- `Channel.put` keeps the re-tagged entry unless it drops it
  rcases enqueue_cases _ e.id with ⟨_, h'⟩ | ⟨h1, h2, _⟩ | ⟨_, _, h'⟩
  · rw [h']; exact .inl ⟨_, mem_setE.2 ⟨e, he, rfl⟩, by simp⟩
  · exact .inr ⟨h2, h1⟩
  · rw [h']; exact .inl ⟨_, mem_setE.2 ⟨e, he, rfl⟩, by simp⟩

open Nsq.Proofs.ChanLive in
/-- … and the scan is complete: after `scanInFlight t` no message is in flight with a deadline
`≤ t` — whoever held it, connected or not (each due message was re-queued, or dropped by a full
ephemeral queue) -/
theorem scan_releases_all_due {conf : Conf} {c : Chan} (h : C02.Reachable conf c) (t : Int) :
    ∀ e ∈ (step conf c (.scanInFlight t)).1.msgs, ∀ k p d, e.loc = .inflight k p d → t < p := by
  intro e he k p d hl
  have hi' := step_inv conf (C02.reachable_inv h) (.scanInFlight t)
  have hloc : locOf (step conf c (.scanInFlight t)).1 e.id = some (.inflight k p d) := by
    rw [locOf, findE_of_mem hi'.core.nodup he, Option.map_some, hl]
  -- still in flight, so the scan has not released it: it was in flight before, with this deadline, and not due
  have hr : Rel _ (locOf c e.id) (locOf (step conf c (.scanInFlight t)).1 e.id) :=
    timeoutOne_scan.foldl_rel (dueInflight c t) c e.id
  rw [hloc] at hr
  rcases hr with h1 | ⟨_, h' | h'⟩
  · apply Int.not_le.1
    intro hp
    have := scanInFlight_releases_due conf h1.symm hp
    rw [hloc] at this
    rcases this with h' | h' <;> cases h'
  · cases h'
  · cases h'

/-- a deferred message whose time has come is picked up by the deferred scan -/
theorem deferred_enabled {c : Chan} {e : Entry} (he : e ∈ c.msgs) {p : Int}
    (hl : e.loc = .deferred p) {t : Int} (hp : p ≤ t) : e.id ∈ dueDeferred c t :=
  Proofs.ChanLive.mem_due he (by simp [isDeferred, priOf, hl, hp])

/-- a disconnect leaves the in-flight messages of the vanished connection where they are
(they are released by the next due scan, `timeout_enabled`) -/
theorem disconnect_keeps_inflight (conf : Conf) (c : Chan) (k : Nat) :
    (step conf c (.removeClient k)).1.msgs = c.msgs ∧ (step conf c (.removeClient k)).1.hist = c.hist := by
  simp only [step]
  split <;> exact ⟨rfl, rfl⟩

/-! **What is NOT proved**: eventual occurrence without assumptions. The lemmas
above show that for every located message some step towards its delivery is *enabled*; that the Go
scheduler eventually runs the pump and that `queueScanLoop` eventually scans at a time past the
deadline is scheduler / timer fairness (DESIGN 4.4), which no theorem discharges (`Nsq.Props.C01Live` takes it as hypotheses). The harness
closes the gap empirically: after every generated history it drains every channel and requires
finished ∪ emptied ∪ sampled-out = acknowledged. -/

/-! non-vacuity -/
example : (∃ e ∈ (run C02.exConf {} (C02.exOps.take 5)).msgs, e.id = 7) ∧
    7 ∈ fannedIds (run C02.exConf {} (C02.exOps.take 5)).hist ∧
    removed (run C02.exConf {} (C02.exOps.take 5)).hist 7 = false := by decide
example : removed C02.exChan.hist 7 = true ∧ 7 ∈ fannedIds C02.exChan.hist ∧ C02.exChan.msgs = [] := by decide

section Nsqd
open Nsq.Model.ChanNsqd Nsq.Proofs.ChanNsqd

/-- reachable nsqd states: from an empty daemon (any configuration) by any list of API-level
operations (everything except the two halves of a split channel creation) -/
def NReachable (s : State) : Prop :=
  ∃ (conf : NConf) (ops : List Nsq.Model.ChanNsqd.Op), (∀ op ∈ ops, Op.api op = true) ∧
    s = Nsq.Model.ChanNsqd.run { conf := conf } ops

theorem nreachable_inv {s : State} (h : NReachable s) : NInv s := by
  obtain ⟨conf, ops, hapi, rfl⟩ := h
  exact nrun_inv (ninv_init conf) ops hapi

/-- every channel of every topic of every reachable daemon state satisfies the channel
invariant — so all channel-level statements of C01, C02, C13 hold for it -/
theorem every_channel_inv {s : State} (h : NReachable s) {t : Topic} (ht : t ∈ s.topics) {nc : NChan} (hnc : nc ∈ t.chans) :
    Inv 0 nc.ch := ((nreachable_inv h).topics t ht).chans nc hnc

/-- C01.1 `ack_implies_enqueued` — when PUB / DPUB is answered OK (`.ids [id]`) the message is in
the topic's queue (memory or disk) and recorded as acknowledged, whatever the topic's state
(paused, without channels, memory queue full). (In the code: `okBytes` is returned only after a
successful `PutMessage` — regenerated facts `Tie.Chan.pubAck_eq`, `dpubAck_eq`, `mpubAck_eq`.) -/
theorem ack_implies_enqueued (s : State) (t sz d : Nat) (env : Env) :
    (Nsq.Model.ChanNsqd.step s (.pub t sz env)).2 = .ids [s.nextId] ∧
    (∃ tp ∈ (Nsq.Model.ChanNsqd.step s (.pub t sz env)).1.topics, tp.tid = t ∧
        s.nextId ∈ tp.queue.map (·.id) ∧ s.nextId ∈ tp.acked) ∧
    (Nsq.Model.ChanNsqd.step s (.dpub t sz d env)).2 = .ids [s.nextId] ∧
    (∃ tp ∈ (Nsq.Model.ChanNsqd.step s (.dpub t sz d env)).1.topics, tp.tid = t ∧
        s.nextId ∈ tp.queue.map (·.id) ∧ s.nextId ∈ tp.acked) := by
  obtain ⟨y, hy, hyt⟩ := ensureTopic_has s t
  have hn := (ensureTopic_nextId s t).1
  refine ⟨by simp [Nsq.Model.ChanNsqd.step, hn], ?_, by simp [Nsq.Model.ChanNsqd.step, hn], ?_⟩
  · simp only [Nsq.Model.ChanNsqd.step]
    refine ⟨_, mem_updT.2 ⟨y, hy, rfl⟩, ?_⟩
    simp [hyt, putT, hn]
  · simp only [Nsq.Model.ChanNsqd.step]
    refine ⟨_, mem_updT.2 ⟨y, hy, rfl⟩, ?_⟩
    simp [hyt, putT, hn]

/-- MPUB: every message of an acknowledged multi-publish is in the topic queue -/
theorem ack_implies_enqueued_mpub (s : State) (t : Nat) (sizes : List Nat) (envs : List Env) :
    (Nsq.Model.ChanNsqd.step s (.mpub t sizes envs)).2 = .ids (idsFrom s.nextId sizes.length) ∧
    ∃ tp ∈ (Nsq.Model.ChanNsqd.step s (.mpub t sizes envs)).1.topics, tp.tid = t ∧
      ∀ i ∈ idsFrom s.nextId sizes.length, i ∈ tp.queue.map (·.id) ∧ i ∈ tp.acked := by
  obtain ⟨y, hy, hyt⟩ := ensureTopic_has s t
  have hn := (ensureTopic_nextId s t).1
  refine ⟨by simp [Nsq.Model.ChanNsqd.step, hn], ?_⟩
  simp only [Nsq.Model.ChanNsqd.step]
  refine ⟨_, mem_updT.2 ⟨y, hy, rfl⟩, ?_⟩
  obtain ⟨q, el, hq1, hq2, _⟩ := putMany_spec y (ensureTopic s t).nextId sizes envs
  rw [hn] at hq1 hq2
  simp only [hyt, ↓reduceIte, hn, hq1, hq2]
  refine ⟨trivial, ?_⟩
  intro i hi
  simp [hi]

/-- C01.2 `fanout_complete` — in every reachable state, an acknowledged message is still in the
topic queue or has a fan-out event on EVERY channel of the topic that existed when it was
published (`born ≤ id`: ids are issued in publish order) and still exists; and the pump's snapshot
is the channel map (channel creation returns only after the `channelUpdateChan` handshake). -/
theorem fanout_complete {s : State} (h : NReachable s) {t : Topic} (ht : t ∈ s.topics) :
    t.pump = t.chans.map (·.cid) ∧
    ∀ i ∈ t.acked, i ∈ t.queue.map (·.id) ∨
      ∀ nc ∈ t.chans, nc.born ≤ i → i ∈ fannedIds nc.ch.hist := by
  have hi := (nreachable_inv h).topics t ht
  refine ⟨hi.pfresh, ?_⟩
  intro i hia
  rcases (hi.ackq i).1 (Or.inl hia) with hq | hp
  · exact Or.inl hq
  · right
    intro nc hnc hb
    rw [mem_fannedIds]
    exact hi.fan nc hnc i hp hb

/-- together with the channel ledger: an acknowledged message is, on every such channel, still
located (queued / in flight / deferred) or was removed by one of the four removal events -/
theorem acked_is_located_or_removed {s : State} (h : NReachable s) {t : Topic} (ht : t ∈ s.topics)
    {i : Nat} (hia : i ∈ t.acked) (hq : i ∉ t.queue.map (·.id)) {nc : NChan} (hnc : nc ∈ t.chans) (hb : nc.born ≤ i) :
    (∃ e ∈ nc.ch.msgs, e.id = i) ∨ removed nc.ch.hist i = true := by
  have hinv := every_channel_inv h ht hnc
  have hf : i ∈ fannedIds nc.ch.hist := by
    rcases (fanout_complete h ht).2 i hia with h1 | h1
    · exact absurd h1 hq
    · exact h1 nc hnc hb
  cases hr : removed nc.ch.hist i
  · exact Or.inl ((owns_iff hinv i).2 ⟨hf, hr⟩)
  · exact Or.inr rfl

/-- progress at the topic: a queued message, at least one channel in the snapshot and the topic
not paused make the fan-out step enabled -/
theorem pump_enabled (s : State) {t : Nat} {tp : Topic} (hf : findT s.topics t = some tp)
    (hp : pumpEnabled tp = true) {m : TMsg} (hm : tp.queue.find? (fun x => x.id == m.id) = some m)
    (pris : List (Nat × Int)) :
    ∃ kept, (Nsq.Model.ChanNsqd.step s (.pumpTopic t m.id kept pris)).2
      = .ids ((tp.chans.filter (fun nc => tp.pump.contains nc.cid)).map (·.cid)) := by
  refine ⟨(match m.place with | .disk => false | _ => true), ?_⟩
  have hk : keptAllowed m (match m.place with | .disk => false | _ => true) = true := by
    unfold keptAllowed
    split
    · rfl
    · cases m.place <;> rfl
  simp [Nsq.Model.ChanNsqd.step, hf, hp, hm, hk]

/-- a channel created while a message is being pumped is part of the snapshot from the next
`refreshPump` on (the real `GetChannel` blocks until then) -/
theorem refresh_restores_snapshot (s : State) (t : Nat) {tp : Topic}
    (h : tp ∈ (Nsq.Model.ChanNsqd.step s (.refreshPump t)).1.topics) (ht : tp.tid = t) :
    tp.pump = tp.chans.map (·.cid) := by
  simp only [Nsq.Model.ChanNsqd.step] at h
  exact updT_at (Q := fun tp => tp.pump = tp.chans.map (·.cid)) (fun _ _ _ => rfl) tp h ht

/-! non-vacuity at the nsqd level -/
def exN : State := Nsq.Model.ChanNsqd.run { conf := { memq := 1 } }
  [.createChan 1 1 false, .pub 1 10, .pumpTopic 1 1 false [], .createChan 1 2 false, .pub 1 20, .pumpTopic 1 2 false []]
example : NReachable exN := ⟨_, _, by decide, rfl⟩
/-- channel 2 was created after message 1 was published: it has message 2 only -/
example : exN.topics.map (fun t => t.chans.map (fun nc => (nc.cid, nc.born, nc.ch.msgs.map (·.id)))) =
    [[(1, 1, [2, 1]), (2, 2, [2])]] := by decide

end Nsqd

end Nsq.Props.C01
