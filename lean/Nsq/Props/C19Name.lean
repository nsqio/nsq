import Nsq.Model.ToFileName
import Nsq.Proofs.Str
import Nsq.Props.C19
/-!
C19, file names: what `computeFilenameFormat` guarantees for *every* option set, topic, host name
and pid, and what `currentFilename` keeps for every clock reading. The model is tied to the Go
source by translation (`Nsq.Tie.ToolsToFileFn`: translated definition = model). These theorems
discharge the hypothesis `Cfg.WF` of `C19.no_overwrite` / `rev_terminates` / `never_diverges` for every
configuration the shipped tool can start with.
-/
namespace Nsq.Props.C19Name
open Nsq.Model.Str Nsq.Model.ToFileName Nsq.Proofs.Str

/-- the only error of its own: a rotating / gzip / work-dir configuration whose format lacks `<REV>` -/
theorem format_error_iff (o : Opts) (topic h pid e : Str) :
    computeFilenameFormat o topic (.ok h) pid = .error e ↔
      (needsRev o = true ∧ contains o.filenameFormat tREV = false ∧ e = errMissingRev) := by
  unfold computeFilenameFormat
  by_cases hr : needsRev o = true <;> by_cases hc : contains o.filenameFormat tREV = true <;>
    simp [hr, hc, eq_comm]

/-- a failing `os.Hostname()` is passed on, nothing else is looked at -/
theorem format_hostname_error (o : Opts) (topic pid e : Str) :
    computeFilenameFormat o topic (.error e) pid = .error e := rfl

private theorem subst_keeps (cff topic ident pid : Str) (h : contains cff tREV = true) :
    contains (substitute cff topic ident pid) tREV = true := by
  unfold substitute
  apply replaceAll_keeps _ _ _ _ (by decide +kernel)
  apply replaceAll_keeps _ _ _ _ (by decide +kernel)
  exact replaceAll_keeps _ _ _ _ (by decide) h

private theorem gz_keeps (g : Bool) (cff : Str) (h : contains cff tREV = true) :
    contains (gzSuffix g cff) tREV = true := by
  unfold gzSuffix
  split
  · exact contains_append_left _ _ _ h
  · exact h

private theorem format_ok {o : Opts} {topic pid cff : Str} {hn : Except Str Str}
    (hok : computeFilenameFormat o topic hn pid = .ok cff) :
    ∃ ff ident, cff = gzSuffix o.gzip (substitute ff topic ident pid) ∧
      (needsRev o = true → contains ff tREV = true) := by
  unfold computeFilenameFormat at hok
  split at hok
  · cases hok
  · split at hok
    · split at hok
      · exact ⟨_, _, (Except.ok.inj hok).symm, fun _ => ‹_›⟩
      · cases hok
    · exact ⟨_, _, (Except.ok.inj hok).symm, fun hr => absurd hr ‹_›⟩

/-- **`<REV>` is always there when it is needed**: if `computeFilenameFormat` succeeds for options that
rotate, gzip or use a work dir, the computed format contains `<REV>` — the substitutions of
`<TOPIC>`, `<HOST>`, `<PID>` (by arbitrary strings) and the `.gz` suffix cannot destroy it -/
theorem format_ok_has_rev (o : Opts) (topic pid cff : Str) (hn : Except Str Str)
    (hok : computeFilenameFormat o topic hn pid = .ok cff) (hr : needsRev o = true) :
    contains cff tREV = true := by
  obtain ⟨ff, ident, rfl, h⟩ := format_ok hok
  exact gz_keeps _ _ (subst_keeps _ _ _ _ (h hr))

/-- … and so does every file name `currentFilename` derives from it, whatever `strftime` returns -/
theorem current_filename_has_rev (cff datetime : Str) (h : contains cff tREV = true) :
    contains (currentFilename cff datetime) tREV = true :=
  replaceAll_keeps _ _ _ _ (by decide) h

/-- the configuration of the router model is well-formed (`Cfg.WF`) for every option set the tool
accepts, for every file name it will ever compute -/
theorem format_ok_cfg_wf (o : Opts) (topic pid cff datetime : Str) (hn : Except Str Str) (se : Bool) (mif : Nat) (cc : Bool)
    (hok : computeFilenameFormat o topic hn pid = .ok cff) :
    (cfgOf o (currentFilename cff datetime) se mif cc).WF := by
  unfold Nsq.Model.ToFile.Cfg.WF cfgOf
  by_cases hr : needsRev o = true
  · exact Or.inl (current_filename_has_rev _ _ (format_ok_has_rev o topic pid cff hn hok hr))
  · right
    unfold needsRev at hr
    simp only [Bool.or_eq_true, decide_eq_true_eq, not_or, Bool.not_eq_true] at hr
    obtain ⟨⟨⟨h1, h2⟩, h3⟩, h4⟩ := hr
    refine ⟨h1, ?_, by simpa using h3, by simpa using h4⟩
    simp only [Int.toNat_eq_zero]
    omega

/-- `C19.no_overwrite` without the well-formedness hypothesis: for every option set accepted by
`computeFilenameFormat`, pre-existing files survive every run of the router -/
theorem no_overwrite_accepted (o : Opts) (topic pid cff datetime : Str) (hn : Except Str Str) (se : Bool) (mif : Nat) (cc : Bool)
    (hok : computeFilenameFormat o topic hn pid = .ok cff)
    (io : Nat → Nsq.Model.ToFile.Fault) (fs0 : Nsq.Model.ToFile.FS) (hdom : Nsq.Proofs.ToFile.DomOk fs0)
    (evs : List (Nsq.Model.ToFile.Ev × Bool)) (p : Nsq.Model.ToFile.Path) (f0 : Nsq.Model.ToFile.File)
    (hp : fs0.get p = some f0) :
    let c := cfgOf o (currentFilename cff datetime) se mif cc
    (p.out = true ∨ c.workDir = false →
      ∃ f, (Nsq.Model.ToFile.run c io (Nsq.Model.ToFile.init fs0) evs).fs.get p = some f ∧
        (∃ x, f.data = f0.data ++ x) ∧ f0.durable ≤ f.durable) ∧
    (c.excl = true → (Nsq.Model.ToFile.run c io (Nsq.Model.ToFile.init fs0) evs).fs.get p = some f0) :=
  Nsq.Props.C19.no_overwrite _ (format_ok_cfg_wf o topic pid cff datetime hn se mif cc hok) io fs0 hdom evs p f0 hp

/-- gzip output: the computed format, and every file name derived from it, ends in `.gz` -/
theorem gzip_name_ends_gz (o : Opts) (topic pid cff datetime : Str) (hn : Except Str Str)
    (hok : computeFilenameFormat o topic hn pid = .ok cff) (hg : o.gzip = true) :
    hasSuffix cff gz = true ∧ hasSuffix (currentFilename cff datetime) gz = true := by
  have h1 : hasSuffix cff gz = true := by
    obtain ⟨ff, ident, rfl, _⟩ := format_ok hok
    rw [hg]
    unfold gzSuffix
    by_cases hs : hasSuffix (substitute ff topic ident pid) gz = true
    · simp [hs]
    · simp only [hs, Bool.true_and, Bool.not_false, if_true]
      exact (hasSuffix_iff _ _).mpr ⟨_, rfl⟩
  exact ⟨h1, replaceAll_keeps_suffix _ _ _ _ (by decide) h1⟩

/-! ### non-vacuity (byte strings spelled out; the comment gives the text) -/

private def isErr (r : Except Str Str) (e : Str) : Bool := match r with | .error x => x == e | .ok _ => false

/-- gzip + work dir, format "<TOPIC>.<HOST><REV>.<DATETIME>.log" -/
private def oRot : Opts :=
  { hostIdentifier := [], filenameFormat := [60, 84, 79, 80, 73, 67, 62, 46, 60, 72, 79, 83, 84, 62, 60, 82, 69, 86, 62, 46, 60, 68, 65, 84, 69, 84, 73, 77, 69, 62, 46, 108, 111, 103], gzip := true,
    rotateSize := 0, rotateInterval := 0, workDir := [47, 119], outputDir := [47, 111] }

/-- no rotation, format "<TOPIC><REV>.log" -/
private def oPlain : Opts := { oRot with gzip := false, workDir := [47, 111], filenameFormat := [60, 84, 79, 80, 73, 67, 62, 60, 82, 69, 86, 62, 46, 108, 111, 103] }

-- topic "t", host "h.example", pid "42"  ↦  "t.h<REV>.<DATETIME>.log.gz"
example : (computeFilenameFormat oRot [116] (.ok [104, 46, 101, 120, 97, 109, 112, 108, 101]) [52, 50]).toOption = some [116, 46, 104, 60, 82, 69, 86, 62, 46, 60, 68, 65, 84, 69, 84, 73, 77, 69, 62, 46, 108, 111, 103, 46, 103, 122] := by decide +kernel
-- datetime "2026"  ↦  "t.h<REV>.2026.log.gz"
example : currentFilename [116, 46, 104, 60, 82, 69, 86, 62, 46, 60, 68, 65, 84, 69, 84, 73, 77, 69, 62, 46, 108, 111, 103, 46, 103, 122] [50, 48, 50, 54] = [116, 46, 104, 60, 82, 69, 86, 62, 46, 50, 48, 50, 54, 46, 108, 111, 103, 46, 103, 122] := by decide +kernel
example : needsRev oRot = true := by decide +kernel
-- format "<TOPIC>.log" is refused
example : isErr (computeFilenameFormat { oRot with filenameFormat := [60, 84, 79, 80, 73, 67, 62, 46, 108, 111, 103] } [116] (.ok [104]) [49]) errMissingRev = true := by decide +kernel
-- no rotation: `<REV>` is removed from the format: "t.log"
example : (computeFilenameFormat oPlain [116] (.ok [104]) [49]).toOption = some [116, 46, 108, 111, 103] := by decide +kernel
example : needsRev oPlain = false := by decide +kernel
-- the overlap condition is not vacuous: "<REV>" and "V><" overlap, and then the occurrence can vanish ("<REV><" ↦ "<RE")
example : noOverlap [60, 82, 69, 86, 62] [86, 62, 60] = false := by decide +kernel
example : contains (replaceAll [60, 82, 69, 86, 62, 60] [86, 62, 60] []) [60, 82, 69, 86, 62] = false := by decide +kernel
example : (cfgOf oRot [116, 46, 104, 60, 82, 69, 86, 62, 46, 50, 48, 50, 54, 46, 108, 111, 103, 46, 103, 122] false 200 true).WF := Or.inl (by decide +kernel)

end Nsq.Props.C19Name
