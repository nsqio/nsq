/-
C04 (timing half) at micro-step granularity for the WHOLE in-flight model.

Model `Nsq.Model.ChanMicroT`: `Nsq.Model.ChanMicro` (one step per critical section of channel.go on the
in-flight map / heap; any schedule) plus `msg.pri`, heap keys and the scan as `PeekAndShift(t)` on the ROOT.

* `never_early_micro_whole` — BOTH code shapes, every schedule: a timeout is decided only by a scan whose
  time `t` is at/after the deadline stamped by the LATEST `StartInFlightTimeout` / `TouchMessage` of that
  message (never early w.r.t. the current delivery, whatever late answers, stale heap entries and
  redeliveries happened in between).
* `scan_complete_micro_false` — pre-F48 shape (`fixed = false`): "a scan that finds nothing due leaves nothing
  due" is FALSE at micro granularity. Witness = `a3Ops` (replayed on the real code by
  `TestVerifStaleHeapReplay`): a late REQ of the same connection between map insert and heap insert leaves a
  stale heap entry of the shared object; its next delivery rewrites `pri` in place; the root is then an entry
  whose object is not due, and message X, due for 1000 time units, is invisible to `processInFlightQueue`.
* `stale_entry_impossible_fixed` — the same schedule in the F48 shape: the late REQ meets a heap entry, removes it,
  no stale entry, X is released.
* **`scan_complete_micro_fixed`** — the GENERAL completeness statement `ScanComplete true` for the F48 shape
  (the committed tree, /repo 88fd245; fixed by the tie `Tie.Chan.inflightPushShape_eq`): along EVERY schedule of critical
  sections, a scan that finds nothing due leaves no in-flight message with deadline `≤ t`. Invariant
  `Proofs.ChanMicroTF.FInv` (`heap_invariants_fixed`): no pending heap push, heap ids distinct, entry key = the
  object's current `pri`, entry id in the map or in the hand of an answering goroutine, every in-map id has its entry.
* `released_by_first_scan_after_deadline_micro` — hence a scan at `t ≥ deadline` cannot return "nothing due" while
  the message is in flight: it pops something, and when it returns idle the message has been released.
* `stale_exit_needs_pending_answer` — the scan's other exit (`PeekAndShift` handed out an object that is no
  longer in the map: `goto exit`, `dirty = true`) happens ONLY while a FIN / REQ / TOUCH of that very message is between
  `popInFlightMessage` and `removeFromInFlightPQ`; `no_stale_exit_when_quiescent`: with no answer in that window every
  scan step succeeds. What is NOT claimed: that such a scan is repeated at once (the 25 % dirty loop decides; a due entry
  behind the stale one waits for the next scan round — wall-clock one `QueueScanInterval`).
* `projects_to_untimed` (per step: 0, 1 or 2 untimed steps), `ownership_transports` (`MInv` of the untimed component
  along every timed schedule), `reachable_transports` (the untimed component is `C02Micro.Reachable`, the hypothesis of
  every `Nsq.Props.C02Micro` theorem — so they apply to the timed model as stated). Built by `./check C04`.
-/
import Nsq.Proofs.ChanMicroT
import Nsq.Proofs.ChanMicroTF
import Nsq.Props.C02Micro
namespace Nsq.Props.C04Micro
open Nsq.Model.ChanMicro Nsq.Model.ChanMicroT Nsq.Proofs.ChanMicro Nsq.Proofs.ChanMicroT

/-- **never early, whole micro-step model, both shapes**: along ANY schedule from the empty channel, every
`timedOut id t` in the log is preceded by a stamp of `id`, and the latest one before it is `d ≤ t` -/
theorem never_early_micro_whole (fixed : Bool) (ops : List TOp) :
    ∀ post pre id t, (runT fixed {} ops).tlog = post ++ .timedOut id t :: pre →
      ∃ d, lastStamp pre id = some d ∧ d ≤ t :=
  (runT_inv fixed {} ops inv_init.1 inv_init.2).2

/-- `msg.pri` is written by the two stamping steps only: it always equals the last stamp -/
theorem pri_is_last_stamp (fixed : Bool) (ops : List TOp) (id : Nat) :
    lastStamp (runT fixed {} ops).tlog id = priOf (runT fixed {} ops) id :=
  (runT_inv fixed {} ops inv_init.1 inv_init.2).1 id

/-- every timed step is 0, 1 or 2 steps of the untimed micro-step model on the untimed component -/
theorem projects_to_untimed (fixed : Bool) (s : TS) (op : TOp) :
    ∃ l : List Op, (stepT fixed s op).1.ms = run s.ms l := step_ms fixed s op

/-- … so the invariant of `ChanMicro` (and with it `C02Micro`'s ownership theorems) holds along timed schedules -/
theorem ownership_transports (fixed : Bool) (ops : List TOp) : MInv (runT fixed {} ops).ms :=
  runT_minv fixed {} minv_init ops

/-- … and the untimed component of every state of a timed schedule from the empty channel is `C02Micro.Reachable`
(the hypothesis of every `Nsq.Props.C02Micro` theorem): the whole timed schedule projects to ONE untimed schedule,
the concatenation of the per-step projections — so those theorems apply to it as stated -/
theorem reachable_transports (fixed : Bool) (ops : List TOp) : Nsq.Props.C02Micro.Reachable (runT fixed {} ops).ms := by
  obtain ⟨l, h⟩ := runT_reaches fixed {} ops
  exact ⟨l, h⟩

/-- "a scan that finds nothing due (`PeekAndShift(t)` = nil) leaves no in-flight message with deadline `≤ t`" -/
def ScanComplete (fixed : Bool) : Prop :=
  ∀ (ops : List TOp) (t : Int), (stepT fixed (runT fixed {} ops) (.scanIdle t)).2 = .ok →
    ∀ id ∈ (runT fixed {} ops).ms.map, ∀ d, priOf (runT fixed {} ops) id = some d → t < d

/-- audit A3's schedule. M = 1, X = 2; connections 1, 2, 3; times in ms. -/
def a3Ops : List TOp :=
  [.plain (.put 1), .plain (.put 2),
   .delMapPush 1 1 0 10, .plain (.heapPush 1),            -- delivery 1 of M to connection 1 (deadline 10) …
   .scanPop 1 1000, .plain (.scanPut 1),                   -- … ignored, timed out, queued again
   .delMapPush 1 1 1000 1000,                              -- delivery 2 of M to connection 1: in the map, heap push pending
   .plain (.ansMapPop 1 1 (.req 0)), .plain (.ansFinish 1 1 (.req 0)),   -- its late `REQ M 0` is accepted: M queued again
   .plain (.heapPush 1),                                   -- the pump's heap push: STALE entry (M, 2000)
   .delMapPush 2 2 1000 2000, .plain (.heapPush 2),        -- X to connection 2, deadline 3000
   .delMapPush 3 1 1000 60000, .plain (.heapPush 1)]       -- delivery 3 of M: pri := 61000 IN PLACE; second entry of M

/-- pre-F48: heap entries `(M,61000), (X,3000), (M,2000)`; the root is the stale `(M,2000)` whose object now
says 61000: at `t = 4000` the scan finds nothing (`scanIdle` accepted), X (deadline 3000) cannot be popped. -/
theorem scan_complete_micro_false : ¬ ScanComplete false := by
  intro h
  have := h a3Ops 4000 (by decide) 2 (by decide) 3000 (by decide)
  exact absurd this (by decide)

example : (runT false {} a3Ops).hk = [(1, 61000), (2, 3000), (1, 2000)] ∧ (runT false {} a3Ops).ms.map = [1, 2] := by decide
example : (stepT false (runT false {} a3Ops) (.scanPop 2 4000)).2 = .reject := by decide
/-- X stays hidden until the stale root's object is due itself: lateness up to the OTHER message's msg_timeout -/
example : (stepT false (runT false {} a3Ops) (.scanIdle 60999)).2 = .ok := by decide

/-- the same schedule in the F48 shape: the late REQ finds and removes the heap entry, the pump's separate heap
push no longer exists (rejected), no stale entry; at `t = 4000` the scan is NOT idle and pops X -/
theorem stale_entry_impossible_fixed :
    (runT true {} a3Ops).hk = [(1, 61000), (2, 3000)] ∧
    (stepT true (runT true {} a3Ops) (.scanIdle 4000)).2 = .reject ∧
    (stepT true (runT true {} a3Ops) (.scanPop 2 4000)).2 = .ok := by decide

/-- never-early is not affected by the stale entry (both shapes): the one timeout in the log was decided at 1000 ≥ 10 -/
example : (runT false {} a3Ops).tlog.filter (fun e => match e with | .timedOut .. => true | _ => false) = [.timedOut 1 1000] := by decide
example : ∃ d, lastStamp [TEv.stamp 1 10] 1 = some d ∧ d ≤ 1000 :=
  never_early_micro_whole false [.plain (.put 1), .delMapPush 1 1 0 10, .plain (.heapPush 1), .scanPop 1 1000] [] _ 1 1000 (by decide)
example : MInv (runT false {} a3Ops).ms := ownership_transports false a3Ops
example : ∀ id, cnt (runT false {} a3Ops).ms id ≤ 1 :=
  fun id => Nsq.Props.C02Micro.single_location (reachable_transports false a3Ops) id

open Nsq.Proofs.ChanMicroTF

/-- the invariants (a)–(f) of the F48 shape hold along every schedule from the empty channel: no heap push is
pending, heap entry ids are distinct and are the untimed heap, an entry's key is its object's CURRENT `pri` (the
"ordered by insertion key, tested on current pri" abstraction of `PeekAndShift` is therefore exact), an entry's id is
in the in-flight map or held by an answering goroutine, and every in-map id has its entry -/
theorem heap_invariants_fixed (ops : List TOp) :
    let s := runT true {} ops
    (∀ id, Pend.push id ∉ s.ms.pend) ∧ (s.hk.map Prod.fst).Nodup ∧ s.hk.map Prod.fst = s.ms.heap ∧
    (∀ e ∈ s.hk, priOf s e.1 = some e.2) ∧
    (∀ e ∈ s.hk, e.1 ∈ s.ms.map ∨ ∃ k a, Pend.ans k e.1 a ∈ s.ms.pend) ∧
    (∀ id ∈ s.ms.map, ∃ d, priOf s id = some d ∧ (id, d) ∈ s.hk) := by
  have h := runT_finv finv_init ops
  exact ⟨h.nopush, h.nodup, h.heapEq, h.keyPri, h.owned, fun id hm => map_has_entry h hm⟩

/-- **`ScanComplete` holds for the F48 shape, every schedule** (the statement that is FALSE of the pre-F48 shape:
`scan_complete_micro_false`) -/
theorem scan_complete_micro_fixed : ScanComplete true := by
  intro ops t hi id hm d hd
  exact scanIdle_complete (runT_finv finv_init ops) hi id hm d hd

/-- released by the first scan at/after the deadline, micro granularity: while `id` is in flight with deadline
`d ≤ t`, `processInFlightQueue(t)` cannot return "nothing due" — and whenever a scan does return idle (after any
number of its own pops and any interleaved steps of other goroutines, `more`), nothing with deadline `≤ t` is in flight -/
theorem released_by_first_scan_after_deadline_micro (ops : List TOp) (id : Nat) (d t : Int)
    (hm : id ∈ (runT true {} ops).ms.map) (hd : priOf (runT true {} ops) id = some d) (hle : d ≤ t) :
    (stepT true (runT true {} ops) (.scanIdle t)).2 ≠ .ok ∧
    ∀ more : List TOp, (stepT true (runT true {} (ops ++ more)) (.scanIdle t)).2 = .ok →
      ∀ i ∈ (runT true {} (ops ++ more)).ms.map, ∀ di, priOf (runT true {} (ops ++ more)) i = some di → t < di := by
  refine ⟨fun hi => ?_, fun more hi => scan_complete_micro_fixed (ops ++ more) t hi⟩
  have := scan_complete_micro_fixed ops t hi id hm d hd
  omega

/-- the scan's stale exit (`msg = nil; dirty = true; goto exit`) needs a FIN / REQ / TOUCH of that very
message between its two critical sections -/
theorem stale_exit_needs_pending_answer (ops : List TOp) (id : Nat) (t : Int)
    (hf : (stepT true (runT true {} ops) (.scanPop id t)).2 = .fail) :
    ∃ k a, Pend.ans k id a ∈ (runT true {} ops).ms.pend :=
  stale_pop_has_answer (runT_finv finv_init ops) hf

/-- … so with no answer in that window the scan never exits early: every `PeekAndShift` that returns an object
times it out -/
theorem no_stale_exit_when_quiescent (ops : List TOp) (id : Nat) (t : Int)
    (hq : ∀ k i a, Pend.ans k i a ∉ (runT true {} ops).ms.pend) :
    (stepT true (runT true {} ops) (.scanPop id t)).2 ≠ .fail := by
  intro hf
  obtain ⟨k, a, hp⟩ := stale_exit_needs_pending_answer ops id t hf
  exact hq k id a hp

/-- non-vacuity: on the audit's schedule (F48 shape) the idle scan at 2999 is accepted and both in-flight messages
have later deadlines; at 4000 it is refused (X, deadline 3000, is due) and after popping X it is accepted again -/
example : (stepT true (runT true {} a3Ops) (.scanIdle 2999)).2 = .ok ∧ (runT true {} a3Ops).ms.map = [1, 2] ∧
    priOf (runT true {} a3Ops) 2 = some 3000 ∧ priOf (runT true {} a3Ops) 1 = some 61000 := by decide
example : (stepT true (runT true {} a3Ops) (.scanIdle 4000)).2 ≠ .ok :=
  (released_by_first_scan_after_deadline_micro a3Ops 2 3000 4000 (by decide) (by decide) (by decide)).1
example : (stepT true (runT true {} (a3Ops ++ [.scanPop 2 4000])) (.scanIdle 4000)).2 = .ok ∧
    (runT true {} (a3Ops ++ [.scanPop 2 4000])).ms.map = [1] := by decide
/-- non-vacuity of the stale exit: FIN of M (id 1) by connection 1 popped it from the map, the scan at 2000 meets M's
heap entry (key 10 ≤ 2000): `.fail`, and the pending answer is there -/
def staleOps : List TOp := [.plain (.put 1), .delMapPush 1 1 0 10, .plain (.ansMapPop 1 1 .fin)]
example : (stepT true (runT true {} staleOps) (.scanPop 1 2000)).2 = .fail ∧
    Pend.ans 1 1 .fin ∈ (runT true {} staleOps).ms.pend := by decide
example : ∃ k a, Pend.ans k 1 a ∈ (runT true {} staleOps).ms.pend :=
  stale_exit_needs_pending_answer staleOps 1 2000 (by decide)
example : (stepT true (runT true {} [.plain (.put 1), .delMapPush 1 1 0 10]) (.scanPop 1 2000)).2 ≠ .fail :=
  no_stale_exit_when_quiescent _ 1 2000 (by
    have : (runT true {} [.plain (.put 1), .delMapPush 1 1 0 10]).ms.pend = [] := by decide
    intro k i a; rw [this]; simp)

end Nsq.Props.C04Micro
