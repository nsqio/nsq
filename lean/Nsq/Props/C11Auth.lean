import Nsq.Proofs.AuthQuery
import Nsq.Proofs.AsciiString
/-!
# C11 — the auth query: what nsqd asks, whom, and for how long the answer counts

`Nsq.Model.AuthQuery`: `auth.QueryAuthd` builds the endpoint and the parameters, `QueryAnyAuthd` walks
the configured servers, the TTL becomes the expiry. Tied by the correspondence leg `authq`
(`harness/gate/authq_test.go`, compiled into package `internal/auth`: the real functions against
recording HTTP servers) and by the regenerated statements in `Nsq.Tie.Gate`. What the gate does with
the validated answer is `Nsq.Props.C11`.
-/
namespace Nsq.Props.C11Auth
open Nsq.Model.AuthQuery Nsq.Model.HttpApi Nsq.Model.Names Nsq.Model Nsq.Proofs.AuthQuery

/-- **No parameter injection**: for every secret, common name and remote address (arbitrary bytes),
`url.ParseQuery` on the auth server recovers exactly the four parameters nsqd set — the identity a
grant is decided on cannot be forged through the secret. -/
theorem no_parameter_injection (ip cn secret : Bytes) (tls : Bool) :
    parseQuery (encodeQuery ip cn secret tls) =
      some [(kCommonName, cn), (kRemoteIP, ip), (kSecret, secret), (kTLS, tlsText tls)] := by
  obtain ⟨k1, k2, k3, k4⟩ := keys_ok
  have e : encodeQuery ip cn secret tls =
      seg kCommonName cn ++ 38 :: (seg kRemoteIP ip ++ 38 :: (seg kSecret secret ++ 38 :: seg kTLS (tlsText tls))) := by
    simp [encodeQuery, seg, List.append_assoc]
  unfold parseQuery
  rw [e, splitOn_eq, Proofs.Lines.splitOn_line 38 _ _ (seg_no_sep _ _ k1).1,
    Proofs.Lines.splitOn_line 38 _ _ (seg_no_sep _ _ k2).1, Proofs.Lines.splitOn_line 38 _ _ (seg_no_sep _ _ k3).1,
    Proofs.Lines.splitOn_last 38 _ (seg_no_sep _ _ k4).1,
    parsePairs_seg _ _ k1, parsePairs_seg _ _ k2, parsePairs_seg _ _ k3, parsePairs_seg _ _ k4]
  simp [parsePairs]

/-- `QueryEscape` then `QueryUnescape` is the identity on every byte string. -/
theorem escape_roundtrip (s : Bytes) : unescape (queryEscape s) = some s := unescape_queryEscape s

/-- The request: a bare `host:port` is asked at `http://host:port/auth`, an address with a scheme as
it is; GET carries the parameters in the query, `post` in the body, the TLS flag as `true`/`false`. -/
theorem request_shape (authd ip cn secret method : Bytes) (tls : Bool) :
    (containsSub (ascii "://") authd = false → endpoint authd = ascii "http://" ++ authd ++ ascii "/auth") ∧
    (containsSub (ascii "://") authd = true → endpoint authd = authd) ∧
    (method ≠ ascii "post" → buildRequest authd ip cn secret tls method =
      ⟨false, endpoint authd ++ [63] ++ encodeQuery ip cn secret tls, []⟩) ∧
    (method = ascii "post" → buildRequest authd ip cn secret tls method =
      ⟨true, endpoint authd, [(kCommonName, cn), (kRemoteIP, ip), (kSecret, secret), (kTLS, tlsText tls)]⟩) := by
  refine ⟨fun h => by simp [endpoint, h], fun h => by simp [endpoint, h], fun h => by simp [buildRequest, h],
    fun h => by simp [buildRequest, h]⟩

/-- `QueryAnyAuthd`: the servers are asked in rotation order from the start index, at most `n` of
them; it stops at the first acceptable answer (everything asked before it had failed, nothing after
it is asked); it fails only after all `n` were asked and failed. -/
theorem query_any (n start : Nat) (ok : Nat → Bool) :
    (queryAny n start ok).1 =
      (List.range (queryAny n start ok).1.length).map (fun j => (0 + j + start) % n) ∧
    (queryAny n start ok).1.length ≤ n ∧
    (∀ r, (queryAny n start ok).2 = some r → ok r = true ∧ (queryAny n start ok).1.getLast? = some r) ∧
    ((queryAny n start ok).2 = none →
      (queryAny n start ok).1.length = n ∧ ∀ x ∈ (queryAny n start ok).1, ok x = false) ∧
    (∀ x ∈ (queryAny n start ok).1.dropLast, ok x = false) := by
  obtain ⟨h1, h2⟩ := walk_cases (k := n) (i := 0) (asked := (queryAny n start ok).1) (ans := (queryAny n start ok).2) rfl
  refine ⟨by simpa [List.range_eq_range'] using h1, ?_⟩
  rcases h2 with ⟨hn, hl, hf⟩ | ⟨pre, r, e, hr, hl, hk, hf⟩
  · exact ⟨by omega, by simp [hn], fun _ => ⟨hl, hf⟩, fun x hx => hf x (List.dropLast_subset _ hx)⟩
  · rw [e, hr]
    exact ⟨by simp; omega, by simp [hk], by simp, by simpa using hf⟩

/-- The TTL: up to 9 223 372 036 s (292 years) the expiry is exactly `now + ttl` seconds; beyond, the
64-bit product wraps — always to something *earlier* than the TTL says, so an answer is never used
longer than granted (the connection re-queries early; `Props.C11.requery_after_ttl` and `auth_gate`
do not depend on the value of the expiry). -/
theorem ttl_exact_and_never_late (ttl : Int) (h0 : 0 < ttl) :
    (ttl ≤ 9223372036 → ttlNs ttl = ttl * 1000000000) ∧
    (ttl < 9223372036854775808 → ttlNs ttl ≤ ttl * 1000000000) := by
  unfold ttlNs
  refine ⟨fun h1 => ?_, fun h1 => ?_⟩
  · rw [wrap64_eq ttl (by omega) (by omega), wrap64_eq _ (by omega) (by omega)]
  · rw [wrap64_eq ttl (by omega) h1]
    exact wrap64_le _ (by omega)

example : ttlNs 3600 = 3600000000000 := by decide +kernel
example : ttlNs 9223372037 < 0 := by decide +kernel          -- already expired when stored: re-queried on every command
-- `ascii` of a literal: the kernel decodes `String.toList` in quadratic time, `toList_eq_chars` reads the characters off the bytes
example : endpoint (ascii "127.0.0.1:4181") = ascii "http://127.0.0.1:4181/auth" := by
  unfold ascii; rw [Proofs.AsciiString.toList_eq_chars]; decide +kernel
example : endpoint (ascii "https://auth.example/v1") = ascii "https://auth.example/v1" := by
  unfold ascii; rw [Proofs.AsciiString.toList_eq_chars]; decide +kernel
example : encodeQuery (ascii "10.0.0.1") (ascii "cn") (ascii "a&tls=true") false =
    ascii "common_name=cn&remote_ip=10.0.0.1&secret=a%26tls%3Dtrue&tls=false" := by
  unfold ascii; rw [Proofs.AsciiString.toList_eq_chars]; decide +kernel
example : queryAny 3 7 (fun i => i == 0) = ([1, 2, 0], some 0) := by decide +kernel
example : queryAny 3 2 (fun _ => false) = ([2, 0, 1], none) := by decide +kernel
example : queryAny 0 5 (fun _ => true) = ([], none) := by decide +kernel

end Nsq.Props.C11Auth
