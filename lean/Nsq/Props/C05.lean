import Nsq.Model.Restart
import Nsq.Proofs.Restart
import Nsq.Tie.Restart
/-
C05 — graceful shutdown and restart lose nothing.
Atomic model: Model/Life.lean + Model/Restart.lean (`cycle = reload ∘ closeAll`).
Shutdown racing in-progress operations: `RaceSt` micro-step model in Model/Restart.lean.
-/
namespace Nsq.Props.C05
open Nsq.Model Nsq.Model.Life Nsq.Model.Restart Nsq.Proofs.Restart Nsq.Proofs.Life

/-- 1. a graceful shutdown followed by a start on the same data path brings back every durable
topic and channel with its paused flag, and every message each channel was responsible for —
queued in memory or on disk, in flight (to a live or a departed consumer) or deferred — with
identical id, timestamp, attempts and body; likewise the topic's own queue. -/
theorem restart_preserves (s : St) (hwf : WF s) :
    persisted (cycle s) = persisted s ∧
    ∀ T ∈ s.topics, T.eph = false →
      ∃ T' ∈ (cycle s).topics, T'.name = T.name ∧ T'.paused = T.paused ∧ T'.eph = false ∧
        T'.queue = T.queue ∧
        ∀ C ∈ T.chans, C.eph = false →
          ∃ C' ∈ T'.chans, C'.name = C.name ∧ C'.paused = C.paused ∧ C'.eph = false ∧
            C'.located = C.located ∧ C'.inflight = [] ∧ C'.clients = [] := by
  refine ⟨persisted_reload s.memCap (closeAll s), fun T hT he => ?_⟩
  rw [cycle_topics s hwf]
  refine ⟨reloadedTopic T, List.mem_map_of_mem (List.mem_filter.2 ⟨hT, by simp [he]⟩), rfl, rfl, rfl, rfl,
    fun C hC hce => ?_⟩
  exact ⟨reloadedChan C, List.mem_map_of_mem (List.mem_filter.2 ⟨hC, by simp [hce]⟩), rfl, rfl, rfl,
    by simp [reloadedChan, Chan.located], rfl, rfl⟩

/-- names stay unique across a restart -/
theorem wf_cycle (s : St) (hwf : WF s) : WF (cycle s) := cycle_wf s hwf

/-- every state reachable from an empty daemon has unique names, so `restart_preserves` applies
after any history (and again after any history following a restart) -/
theorem wf_reachable (cap : Nat) (ops : List Op) : WF (run (init cap) ops) :=
  wf_run ops _ (wf_init cap)

/-- 3. a message finished (or never present) before the shutdown does not reappear -/
theorem finished_stay_finished (s : St) (hwf : WF s) (T : Topic) (hT : T ∈ s.topics) (he : T.eph = false)
    (C : Chan) (hC : C ∈ T.chans) (hce : C.eph = false) (id : Nat) (hfin : ∀ m ∈ C.located, m.id ≠ id) :
    ∃ T' ∈ (cycle s).topics, T'.name = T.name ∧ ∃ C' ∈ T'.chans, C'.name = C.name ∧
      ∀ m ∈ C'.located, m.id ≠ id := by
  obtain ⟨T', hT', hn, _, _, _, hch⟩ := (restart_preserves s hwf).2 T hT he
  obtain ⟨C', hC', hcn, _, _, hloc, _, _⟩ := hch C hC hce
  exact ⟨T', hT', hn, C', hC', hcn, by rw [hloc]; exact hfin⟩

/-- 2. the attempts count continues: a message that comes back from the disk queue carries the
attempts it had at shutdown (`restart_preserves` keeps the whole record), and its next delivery
is stamped `attempts + 1` -/
theorem attempts_continue (s : St) (t c : String) (k : Nat) (fm : Bool) (id : Nat) (C : Chan) (m : Msg) (rest : List Msg)
    (h : getChan s t c = some C) (hx : C.exiting = false) (hp : C.paused = false) (hk : hasClient C k = true)
    (hsrc : (if fm then C.memLen else C.diskLen) ≠ 0) (htake : takeId C.queue id = some (m, rest)) :
    ∃ C', getChan (step s (.deliver t c k fm id)).1 t c = some C' ∧
      ({ m with attempts := nextAttempts m.attempts }, k) ∈ C'.inflight := by
  let F : Chan → Chan := fun C =>
      { C with queue := rest, memLen := if fm then C.memLen - 1 else C.memLen,
               inflight := C.inflight ++ [({ m with attempts := nextAttempts m.attempts }, k)],
               clients := bumpClient C.clients k 1 }
  have e1 : (step s (.deliver t c k fm id)).1 = modChan s t c F := by
    simp [step, h, hx, hp, hk, hsrc, htake, F]
  rw [e1]
  exact ⟨F C, getChan_modChan (fun _ => rfl) h, by simp [F]⟩

/-- 6. `LoadMetadata` creates every channel of a topic before the topic's pump is started: the
first pump run after the reload hands the whole reloaded topic queue to every reloaded channel -/
theorem load_before_start (s : St) (T' : Topic) (hT' : T' ∈ (cycle s).topics) :
    (fanoutAll s.memCap T'.chans T'.queue).map (fun C => (C.name, C.queue)) =
      T'.chans.map (fun C => (C.name, C.queue ++ T'.queue)) := by
  rw [fanoutAll_eq, List.map_map]
  apply List.map_congr_left
  intro C hC
  obtain ⟨e, _, rfl⟩ := List.mem_map.mp hT'
  obtain ⟨ce, _, rfl⟩ := List.mem_map.mp hC
  have := foldl_put_durable s.memCap (reloadTopic (closeAll s).dq e).queue (reloadChan (closeAll s).dq e.1 ce) rfl rfl
  simp only [Function.comp, this, foldl_putMessage_name]

/-- 4. a topic without channels keeps its queue across the restart (by `restart_preserves`) and
fans it out completely to a channel created later -/
theorem zero_channel_topic (s : St) (hwf : WF s) (T : Topic) (hT : T ∈ s.topics) (he : T.eph = false)
    (h0 : T.chans = []) (c : String) :
    ∃ T' ∈ (cycle s).topics, T'.name = T.name ∧ T'.queue = T.queue ∧ T'.chans = [] ∧
      (fanoutAll s.memCap [newChan c false] T'.queue).map (·.queue) = [T.queue] := by
  rw [cycle_topics s hwf]
  refine ⟨reloadedTopic T, List.mem_map_of_mem (List.mem_filter.2 ⟨hT, by simp [he]⟩), rfl, rfl,
    by simp [reloadedTopic, h0], ?_⟩
  rw [fanoutAll_eq]
  simpa [newChan, reloadedTopic] using foldl_put_durable s.memCap T.queue (newChan c false) rfl rfl

def cycles : Nat → St → St
  | 0, s => s
  | n + 1, s => cycles n (cycle s)

theorem cycles_topics (n : Nat) : ∀ (s : St), WF s → (cycles (n + 1) s).topics = (cycle s).topics := by
  induction n with
  | zero => exact fun _ _ => rfl
  | succ n ih => exact fun s hwf => (ih (cycle s) (wf_cycle s hwf)).trans (cycle_cycle_topics s hwf)

/-- 5. any number of restart cycles: topics, channels, paused flags and every channel's messages
are those of the state before the first shutdown (histories between the cycles are covered by
`wf_reachable`: `restart_preserves` holds at every later shutdown as well) -/
theorem restart_cycles (n : Nat) : ∀ (s : St), WF s →
    WF (cycles (n + 1) s) ∧ persisted (cycles (n + 1) s) = persisted s ∧
    ∀ T ∈ s.topics, T.eph = false →
      ∃ T' ∈ (cycles (n + 1) s).topics, T'.name = T.name ∧ T'.paused = T.paused ∧ T'.queue = T.queue ∧
        ∀ C ∈ T.chans, C.eph = false →
          ∃ C' ∈ T'.chans, C'.name = C.name ∧ C'.paused = C.paused ∧ C'.located = C.located := by
  intro s hwf
  have ht := cycles_topics n s hwf
  have hp := restart_preserves s hwf
  refine ⟨?_, ?_, fun T hT he => ?_⟩
  · show WFt _
    rw [ht]; exact wf_cycle s hwf
  · rw [← hp.1]; unfold persisted; rw [ht]
  · obtain ⟨T', hT', h1, h2, _, h4, h5⟩ := hp.2 T hT he
    refine ⟨T', ht ▸ hT', h1, h2, h4, fun C hC hce => ?_⟩
    obtain ⟨C', hC', g1, g2, _, g4, _⟩ := h5 C hC hce
    exact ⟨C', hC', g1, g2, g4⟩

/-! ## shutdown requested at any point (micro-steps)

`{}` = the tree without any repair (scans hold the exit lock, answers and publishers do not);
`fixedTree` = with F17 (topic-exit barrier) and F18 (REQ/TOUCH hold the exit lock);
`joinedTree` = also F23 (Exit joins the handlers and their pumps) and F26 (GetTopic hands out a closed topic during Exit).
All four are committed to /repo: the ties `topic_exit_flag_shape`, `answers_exit_lock_shape`, `exit_joins_pumps_shape`,
`get_topic_exit_shape` demand exactly the committed shapes and `tree_model_known : treeModel = joinedTree`.
`C05_full_tree` (= `C05_full_joined`) is the theorem for the current tree; `C05_full_false`, `C05_full_fixed_false`,
`each_repair_needed` are theorems about the unrepaired shapes; every witness schedule is replayed on the real code with the
hooks (a reproduction is a VIOLATION). -/

/-- the full claim: whatever the interleaving of the shutdown with publishers, answers and consumer
pumps, once everything has run to its end every acknowledged, un-FINished message is on a disk queue -/
def C05_full : Prop :=
  ∀ (sched : List RaceStep) (s : RaceSt), raceRun {} sched = some s → raceDone s = true → allAckedOnDisk s = true

/-- … and the same claim for the tree with both repairs -/
def C05_full_fixed : Prop :=
  ∀ (sched : List RaceStep) (s : RaceSt), raceRun fixedTree sched = some s → raceDone s = true → allAckedOnDisk s = true

/-- Exit has closed the topics it found; a publisher's `GetTopic` (it waited for the NSQD lock) creates a
second topic and its publish is acknowledged; nobody flushes that topic (`exit_races_new_topic_publish`) -/
def witnessNewTopic : List RaceStep := [.exitFlag, .exitChan, .exitTopicFlush, .pubNewTopic 1]

/-- F9 (a): the consumer pump has taken m off the channel queue and not yet registered it in
flight (`proto.pump.afterRecv`) when `Channel.flush` runs: m reaches neither disk nor a consumer -/
def witnessPump : List RaceStep :=
  [.pubCheck 1, .pubSend 1, .fanout, .pumpRecv, .exitFlag, .exitChan, .exitTopicFlush, .pumpRegister 1]

/-- F9 (b): a publisher passed the exitFlag test (`topic.put.afterExitCheck`), the topic is flushed
and closed, then the publisher's send lands in the memory channel and is acknowledged -/
def witnessPublish : List RaceStep :=
  [.pubCheck 1, .exitFlag, .exitChan, .exitTopicFlush, .pubSend 1]

/-- F18 (a): REQ 0 has taken m out of the in-flight map (`chan.req.afterPop`), the channel is flushed
and closed, then REQ sees `Exiting()` and returns an error: m is in no container -/
def witnessReq : List RaceStep :=
  [.pubCheck 1, .pubSend 1, .fanout, .pumpRecv, .pumpRegister 1, .ansTake 1, .exitFlag, .exitChan, .exitTopicFlush, .reqPut 1]

/-- F18 (b): deferred REQ: m lands in the deferred map of a closed channel -/
def witnessReqDeferred : List RaceStep :=
  [.pubCheck 1, .pubSend 1, .fanout, .pumpRecv, .pumpRegister 1, .ansTake 1, .exitFlag, .exitChan, .exitTopicFlush, .reqDefer 1]

/-- F18 (c): TOUCH (`chan.touch.afterPop`): m lands back in the in-flight map of a closed channel -/
def witnessTouch : List RaceStep :=
  [.pubCheck 1, .pubSend 1, .fanout, .pumpRecv, .pumpRegister 1, .ansTake 1, .exitFlag, .exitChan, .exitTopicFlush, .touchPut 1]

def lostFrom (s0 : RaceSt) (sched : List RaceStep) : Bool :=
  match raceRun s0 sched with
  | some s => raceDone s && !allAckedOnDisk s
  | none => false

def lost (sched : List RaceStep) : Bool := lostFrom {} sched

theorem witnessPump_loses : lost witnessPump = true := by decide +kernel
theorem witnessPublish_loses : lost witnessPublish = true := by decide +kernel
theorem witnessReq_loses : lost witnessReq = true ∧ lost witnessReqDeferred = true ∧ lost witnessTouch = true := by decide +kernel

theorem lostFrom_refutes (s0 : RaceSt) (w : List RaceStep) (hl : lostFrom s0 w = true) :
    ¬ ∀ (sched : List RaceStep) (s : RaceSt), raceRun s0 sched = some s → raceDone s = true → allAckedOnDisk s = true := by
  intro h
  unfold lostFrom at hl
  cases hr : raceRun s0 w with
  | none => rw [hr] at hl; cases hl
  | some s =>
    rw [hr] at hl
    simp only [Bool.and_eq_true, Bool.not_eq_true'] at hl
    have := h w s hr hl.1
    rw [this] at hl
    cases hl.2

theorem C05_full_false : ¬ C05_full := lostFrom_refutes {} witnessPump witnessPump_loses

/-- the pump window stays open with both repairs: it is the only one (see `fixed_tree_loses_only_pump_window`) -/
theorem C05_full_fixed_false : ¬ C05_full_fixed :=
  lostFrom_refutes fixedTree witnessPump (by decide +kernel)

/-- with the barrier the publish witness is not a schedule any more (`Topic.exit` cannot set the flag
while the publisher holds the read lock), and neither are the three answer witnesses with the exit lock
held by REQ / TOUCH; each repair alone closes its own window -/
theorem repaired_witnesses_impossible :
    raceRun fixedTree witnessPublish = none ∧ raceRun { topicBarrier := true } witnessPublish = none ∧
    raceRun fixedTree witnessReq = none ∧ raceRun fixedTree witnessReqDeferred = none ∧
    raceRun fixedTree witnessTouch = none ∧ raceRun { ansLock := true } witnessReq = none ∧
    raceRun { ansLock := true } witnessReqDeferred = none ∧ raceRun { ansLock := true } witnessTouch = none := by decide +kernel

/-- the same interleavings with the waiting made explicit (the shutdown step comes after the parked
goroutine has finished) lose nothing on the repaired tree -/
theorem repaired_orders_safe :
    lostFrom fixedTree [.pubCheck 1, .pubSend 1, .exitFlag, .exitChan, .exitTopicFlush] = false ∧
    lostFrom fixedTree [.pubCheck 1, .pubSend 1, .fanout, .pumpRecv, .pumpRegister 1, .ansTake 1, .exitFlag, .reqPut 1,
      .exitChan, .exitTopicFlush] = false ∧
    (raceRun fixedTree [.pubCheck 1, .pubSend 1, .fanout, .pumpRecv, .pumpRegister 1, .ansTake 1, .exitFlag, .reqPut 1,
      .exitChan, .exitTopicFlush]).map (fun s => (raceDone s, s.chanDisk)) = some (true, [1]) := by decide +kernel

/-- **F17 + F18**: on the repaired tree, whatever the schedule, once the shutdown has completed and every
goroutine has run to its end, every acknowledged message is on a disk queue, was FINished, or was
registered in flight by a consumer pump *after* its channel had been flushed — the one window left -/
theorem fixed_tree_loses_only_pump_window (sched : List RaceStep) (s : RaceSt)
    (h : raceRun fixedTree sched = some s) (hd : raceDone s = true) :
    ∀ m ∈ s.acked, m ∈ s.topicDisk ∨ m ∈ s.chanDisk ∨ m ∈ s.finished ∨ m ∈ s.lateReg ∨ m ∈ s.lateTopic :=
  (raceRun_induction fixedInv_step sched fixedTree s fixedInv_init h).done hd

/-- `C05_fixed_partial`: hypothesis forced by `C05_full_fixed_false` — no consumer pump registered a message
after its channel was flushed.  Then the repaired tree loses nothing, for every schedule. -/
theorem C05_fixed_partial (sched : List RaceStep) (s : RaceSt)
    (h : raceRun fixedTree sched = some s) (hd : raceDone s = true) (hl : s.lateReg = []) (hlt : s.lateTopic = []) :
    allAckedOnDisk s = true :=
  (raceRun_induction fixedInv_step sched fixedTree s fixedInv_init h).lossless hd hl hlt

/-- **F17 + F18 + F23 + F26** (`joinedTree`: `NSQD.Exit` joins every connection handler and its messagePump before
it closes the topics, and `GetTopic` hands out a closed topic once `isExiting` is set): the last two windows are closed — whatever the schedule, once the shutdown has completed and
every goroutine has run to its end, every acknowledged message is on a disk queue or was FINished.  This is
`C05_full_fixed` without any hypothesis, for the tree with the four repairs. -/
theorem C05_full_joined (sched : List RaceStep) (s : RaceSt)
    (h : raceRun joinedTree sched = some s) (hd : raceDone s = true) : allAckedOnDisk s = true := by
  have inv := raceRun_induction joinInv_step sched joinedTree s joinInv_init h
  exact inv.toFixedInv.lossless hd inv.late inv.lt

/-- **THE theorem for the current tree**: the race-model instance the regenerated facts select (`Tie.Restart.treeModel`,
which `tree_model_known` proves to be `joinedTree`, F17, F18, F23, F26 being committed) loses nothing, whatever the
schedule — no hypothesis.  A tree that drops one of the four repairs changes `treeModel`, `tree_model_known` fails and this
statement is no longer about it (`each_repair_needed` below is, and the hook replay of that window is a VIOLATION). -/
theorem C05_full_tree (sched : List RaceStep) (s : RaceSt)
    (h : raceRun Nsq.Tie.Restart.treeModel sched = some s) (hd : raceDone s = true) : allAckedOnDisk s = true := by
  rw [Nsq.Tie.Restart.tree_model_known] at h
  exact C05_full_joined sched s h hd

/-- every one of the four repairs is needed: dropping exactly one from `joinedTree` re-opens its window (the `_false`
witnesses of the unrepaired shapes, as theorems about those shapes) -/
theorem each_repair_needed :
    lostFrom { joinedTree with topicBarrier := false } witnessPublish = true ∧
    lostFrom { joinedTree with ansLock := false } witnessReq = true ∧
    lostFrom { joinedTree with ansLock := false } witnessReqDeferred = true ∧
    lostFrom { joinedTree with ansLock := false } witnessTouch = true ∧
    lostFrom { joinedTree with pumpJoin := false } witnessPump = true ∧
    lostFrom { joinedTree with newTopicGuard := false } witnessNewTopic = true := by decide +kernel

/-- on that tree the pump witness is not a schedule (the topics are not closed while a pump holds a message),
after the shutdown has begun no pump takes anything, and the interleaving with the waiting made explicit loses
nothing; F23 alone does not repair the other two windows -/
theorem joined_witness_impossible :
    raceRun joinedTree witnessPump = none ∧
    raceRun joinedTree [.pubCheck 1, .pubSend 1, .fanout, .exitFlag, .pumpRecv] = none ∧
    lostFrom joinedTree [.pubCheck 1, .pubSend 1, .fanout, .pumpRecv, .pumpRegister 1, .exitFlag, .exitChan, .exitTopicFlush] = false ∧
    lostFrom { pumpJoin := true } witnessPublish = true ∧ lostFrom { pumpJoin := true } witnessReq = true ∧
    -- a publish that creates its topic after Exit's critical section is acknowledged and never flushed,
    -- unless GetTopic refuses (F26); F23 and F26 each leave the other window open
    lostFrom fixedTree witnessNewTopic = true ∧ lostFrom { fixedTree with pumpJoin := true } witnessNewTopic = true ∧
    lostFrom { fixedTree with newTopicGuard := true } witnessPump = true ∧
    lostFrom joinedTree witnessNewTopic = false := by decide +kernel

/-- **F17 alone** (whatever the channel-side parameters, from any initial parameter choice with the
barrier): every acknowledged message is on the topic's disk queue or was handed to the channel by the
topic pump — nothing is left in the memory queue of a closed topic -/
theorem barrier_topic_side_safe (s0 : RaceSt) (hb : s0.topicBarrier = true)
    (he : s0.topicExiting = false) (hc : s0.chanClosed = false) (ht : s0.topicClosed = false) (ha : s0.acked = [])
    (sched : List RaceStep) (s : RaceSt) (h : raceRun s0 sched = some s) (hd : s.topicClosed = true) :
    ∀ m ∈ s.acked, m ∈ s.topicDisk ∨ m ∈ s.fanned ∨ m ∈ s.lateTopic :=
  (raceRun_induction barrierInv_step sched s0 s (barrierInv_init hb he hc ht ha) h).closed hd

/-- the state after the three stages of a shutdown that nothing interleaves with -/
def exited (s : RaceSt) : RaceSt :=
  { s with topicExiting := true, chanDisk := s.chanDisk ++ s.chanMem ++ s.inflight ++ s.deferred, chanMem := [], chanClosed := true,
           topicDisk := s.topicDisk ++ s.topicMem, topicMem := [], topicClosed := true }

/-- `C05_partial` (any tree whose scans hold the exit lock, in particular the unrepaired one): a shutdown
that starts when no publisher is between the exit check and its queue write, no consumer pump holds an
unregistered message and no REQ / TOUCH / scan is between its two halves (and runs its three stages
without such a continuation appearing) leaves every acknowledged, un-FINished message on disk
(`hlt`: nothing was acknowledged into a topic created after an earlier shutdown's critical section — `pubNewTopic`
needs `topicExiting`, so this holds in every state reached before the shutdown begins) -/
theorem C05_partial (s : RaceSt) (hinv : RaceInv s) (hp : s.putPending = []) (hh : s.pumpHolds = [])
    (hsc : s.scanHolds = []) (ha : s.ansHolds = []) (hlt : s.lateTopic = [])
    (he : s.topicExiting = false) (hc : s.chanClosed = false) (ht : s.topicClosed = false) :
    raceRun s [.exitFlag, .exitChan, .exitTopicFlush] = some (exited s) ∧
      allAckedOnDisk (exited s) = true ∧ raceDone (exited s) = true := by
  refine ⟨by simp [raceRun, raceStep, he, hc, ht, hsc, ha, hp, hh, exited], ?_, ?_⟩
  · refine allAckedOnDisk_of fun m hm => ?_
    have := hinv.2.1 hc m hm
    unfold Located at this
    simp only [hh, hsc, ha, hlt, List.not_mem_nil, or_false, false_or] at this
    simp only [exited, List.mem_append]
    rcases this with h1 | h1 | h1 | h1 | h1 | h1 | h1 <;> simp [h1]
  · simp [raceDone, exited, hp, hh, hsc, ha]

/-- the invariant used by `C05_partial` holds in every reachable state of the race model -/
theorem race_inv_reachable (sched : List RaceStep) (s : RaceSt) (h : raceRun {} sched = some s) : RaceInv s :=
  raceRun_induction raceInv_step sched {} s (raceInv_init {} rfl rfl rfl) h

/-- shutdown racing the timeout scan is **safe** on the tree as it is: the scan holds `exitMutex.RLock`
from before it takes a message out of the in-flight map until it has put it back (tie
`scan_holds_exit_lock`), so in every reachable state a closed channel means no scan holds a message —
a timed-out message is never dropped by the "exiting" path -/
theorem scan_race_safe (sched : List RaceStep) (s : RaceSt) (h : raceRun {} sched = some s)
    (hc : s.chanClosed = true) : s.scanHolds = [] :=
  (race_inv_reachable sched s h).2.2 hc

/-- … and the lock is what makes it safe: without it (`scanLock := false`, e.g. taking exitMutex only
around the final requeue) the channel can close while the scan holds the message and it is lost -/
def witnessScanUnlocked : List RaceStep :=
  [.pubCheck 1, .pubSend 1, .fanout, .pumpRecv, .pumpRegister 1, .scanTake 1, .exitFlag, .exitChan, .exitTopicFlush, .scanPut 1]

theorem scan_lock_needed :
    lostFrom { scanLock := false } witnessScanUnlocked = true ∧
    raceRun {} witnessScanUnlocked = none := by decide +kernel

def markExiting (s : St) : St :=
  { s with topics := s.topics.map (fun T => { T with chans := T.chans.map (fun C => { C with exiting := true }) }) }

/-- a `PersistMetadata` that runs after the topics have been closed (a Notify still pending when
`Exit` took the lock) writes the same metadata: the listing does not look at exit flags (tie
`metadata_ignores_exit_flag`) -/
theorem persisted_ignores_exiting (s : St) : persisted (markExiting s) = persisted s := by
  unfold persisted markExiting
  simp only [List.filter_map, List.map_map]
  congr 1
  · funext T
    simp only [Function.comp, List.filter_map, List.map_map]
    rfl

/-! ### non-vacuity -/

def mA : Msg := { id := 21, ts := 7, attempts := 0, body := [9] }
def mB : Msg := { id := 22, ts := 8, attempts := 0, body := [] }
def mC : Msg := { id := 23, ts := 9, attempts := 0, body := [1, 2, 3] }

/-- durable topic `t` (paused channel `c`: mA in flight to consumer 7 with attempts 1, mB deferred,
mC queued on disk), an ephemeral channel, a zero-channel topic `z` with a backlog -/
def demo : St :=
  run (init 1) [.createTopic "t" false, .createChan "t" "c" false, .createChan "t" "e#" true,
    .createTopic "z" false, .pub "z" mA, .pub "z" mB,
    .sub "t" "c" 7, .pub "t" mA, .pump "t", .pub "t" mB, .pump "t", .pub "t" mC, .pump "t",
    .deliver "t" "c" 7 true 21, .deliver "t" "c" 7 false 22, .req "t" "c" 7 22 true, .pauseChan "t" "c" true]

example : WF demo := wf_reachable 1 _
example : (getChan demo "t" "c").map (fun C => (C.inflight.map (fun e => (e.1.id, e.1.attempts)), C.deferred.map (·.id), C.queue.map (·.id), C.paused)) =
    some ([(21, 1)], [22], [23], true) := by decide +kernel
example : (getChan (cycle demo) "t" "c").map (fun C => (C.located.map (fun m => (m.id, m.attempts, m.body)), C.paused, C.memLen)) =
    some ([(23, 0, [1, 2, 3]), (21, 1, [9]), (22, 1, [])], true, 0) := by decide +kernel
example : persisted (cycle demo) = [("t", false, [("c", true)]), ("z", false, [])] := by decide +kernel
example : (getTopic (cycle demo) "z").map (fun T => T.queue.map (·.id)) = some [21, 22] := by decide +kernel
example : (getChan (cycle demo) "t" "e#") = none := by decide +kernel
example : persisted (cycles 3 demo) = persisted demo ∧
    (getChan (cycles 3 demo) "t" "c").map (·.located) = (getChan (cycle demo) "t" "c").map (·.located) := by decide +kernel
/-- the hypotheses of `C05_partial` hold in a non-trivial reachable race state (one message queued
in the channel, one still in the topic) -/
example : ∃ s, raceRun {} [.pubCheck 1, .pubSend 1, .fanout, .pubCheck 2, .pubSend 2] = some s ∧
    s.putPending = [] ∧ s.pumpHolds = [] ∧ s.topicExiting = false ∧ s.acked = [2, 1] := ⟨_, rfl, rfl, rfl, rfl, rfl⟩
/-- `fixed_tree_loses_only_pump_window` / `C05_fixed_partial` are not vacuous: a complete shutdown of the repaired
tree racing a publisher, a deferred REQ, a TOUCH, a FIN, a timeout scan and a disk-queue receive; everything ends on disk -/
def fixedDemo : List RaceStep :=
  [.pubCheck 1, .pubSend 1, .pubCheck 2, .pubSend 2, .pubCheck 3, .pubSend 3, .pubCheck 4, .pubSend 4, .pubCheck 5,
   .fanout, .fanout, .fanout, .pumpRecv, .pumpRegister 1, .pumpRecv, .pumpRegister 2, .pumpRecv, .pumpRegister 3,
   .ansTake 1, .pubSend 5, .exitFlag, .pubCheck 6, .reqDefer 1, .ansTake 2, .touchPut 2, .fin 3, .scanTake 2, .scanPut 2,
   .exitChan, .exitTopicFlush]
example : (raceRun fixedTree fixedDemo).map (fun s => (raceDone s, s.lateReg, s.acked, s.topicDisk, s.chanDisk, s.finished, allAckedOnDisk s)) =
    some (true, [], [5, 4, 3, 2, 1], [4, 5], [2, 1], [3], true) := by rfl
/-- … and the window that stays: same tree, the pump registers after the flush -/
example : (raceRun fixedTree witnessPump).map (fun s => (raceDone s, s.lateReg, allAckedOnDisk s)) = some (true, [1], false) := by decide +kernel
example : (raceRun { topicBarrier := true } [.pubCheck 1, .pubSend 1, .pubCheck 2, .pubSend 2, .fanout, .exitFlag, .exitChan, .exitTopicFlush]).map
    (fun s => (s.topicClosed, s.acked, s.topicDisk, s.fanned)) = some (true, [2, 1], [2], [1]) := by decide +kernel

/-- `C05_full_tree` is not vacuous: the complete shutdown `fixedDemo` is a schedule of the tree's own instance -/
example : (raceRun Nsq.Tie.Restart.treeModel fixedDemo).map (fun s => (raceDone s, s.acked, allAckedOnDisk s)) =
    some (true, [5, 4, 3, 2, 1], true) := by rw [Nsq.Tie.Restart.tree_model_known]; rfl

/-- `C05_full_joined` is not vacuous: the same complete shutdown on the tree with F23 -/
example : (raceRun joinedTree fixedDemo).map (fun s => (raceDone s, s.lateReg, s.acked, s.topicDisk, s.chanDisk, s.finished, allAckedOnDisk s)) =
    some (true, [], [5, 4, 3, 2, 1], [4, 5], [2, 1], [3], true) := by rfl

end Nsq.Props.C05
