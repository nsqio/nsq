import Nsq.Proofs.Num
import Nsq.Proofs.PQ
import Nsq.Proofs.Timing
import Nsq.Proofs.Tick
import Nsq.Proofs.ScanWindow
import Nsq.Tie.Num
import Nsq.Tie.PQ
/-!
# C04 — Timeouts and delays are honoured: never early, boundedly late, range-checked

Property theorems (helper lemmas: `Nsq.Proofs.Num`, `Nsq.Proofs.PQ`, `Nsq.Proofs.Timing`, `Nsq.Proofs.Tick`,
`Nsq.Proofs.ScanWindow`). In the numeric half each handler's theorem comes after what the handler reads of its argument
and how it turns milliseconds into a duration: REQ and DPUB parse with `ByteToBase10` and convert with the saturating
`msToDuration` (`parsed_ms`); HTTP `defer=` parses with `strconv.ParseInt` (`parseInt_range`) and,
like `SetMsgTimeout`, which is handed a number, tests the range in milliseconds against `max / time.Millisecond` before
a plain multiplication (`ms_checked`).

* numeric half (`Nsq.Model.Num`): tied by `Nsq.Tie.Num` — `ByteToBase10` and `msToDuration` are
  regenerated from the Go source and proved equal to the model; the statements of
  REQ / DPUB / doPUB / SetMsgTimeout are regenerated and compared — and by the correspondence
  harness `harness/e1/num_test.go` (real handlers, real TCP / HTTP).
* timing half (`Nsq.Model.PQ`, `Nsq.Model.Timing`): tied by `Nsq.Tie.PQ` (regenerated statements)
  and by `harness/e1/timing_test.go` (real heaps, real `Channel` with white-box clock).

*Partial (named in the evidence):* with more channels than `QueueScanSelectionCount` the scan
selection is random, and wall-clock lateness depends on the Go timer and scheduler: the
theorems prove "a scan at or after the deadline releases it" and "every channel is scanned on
every tick when there are at most `QueueScanSelectionCount` channels", not a wall-clock bound.
-/
namespace Nsq.Props.C04
open Nsq.Model.Num Nsq.Proofs.Num

/-- REQ: every digit string that fits 64 bits requeues with `min(v ms, MaxReqTimeout)`; anything
else (a non-digit byte anywhere, or a value ≥ 2^64) is refused with `E_INVALID` — never wrapped. -/
theorem req_clamp (maxReq : BitVec 64) (s : Bytes) :
    (reqTimeout maxReq s = none ↔ ¬ (allDigits s = true ∧ value s < 2 ^ 64)) ∧
    (∀ d, reqTimeout maxReq s = some d →
        d.toInt = min ((value s : Int) * 1000000) maxReq.toInt) := by
  have hm := maxReq.toInt_lt
  rcases parsed_ms s with ⟨hb, hn⟩ | ⟨ms, hb, h1, h2, hD⟩
  · simp [reqTimeout, hb, hn]
  · simp only [reqTimeout, hb, BitVec.slt_iff_toInt_lt, hD, zero_toInt]
    rw [if_neg (by omega)]
    refine ⟨by simp [h1, h2]; split <;> simp, fun d hd => ?_⟩
    split at hd <;> cases hd <;> omega

/-- DPUB: accepted exactly for a digit string of at most `MaxReqTimeout` milliseconds, and then deferred by exactly that;
`.parse` exactly for what is no digit string or does not fit 64 bits — never wrapped.  (`hcfg`: at the largest
representable duration the saturated product passes the range test, `dpub_saturation_corner`.) -/
theorem dpub_range (maxReq : BitVec 64) (hcfg : maxReq ≠ maxInt64) (s : Bytes) :
    ((∃ d, dpubDefer maxReq s = .ok d) ↔
        (allDigits s = true ∧ (value s : Int) * 1000000 ≤ maxReq.toInt)) ∧
    (∀ d, dpubDefer maxReq s = .ok d → d.toInt = (value s : Int) * 1000000) ∧
    (dpubDefer maxReq s = .error .parse ↔ ¬ (allDigits s = true ∧ value s < 2 ^ 64)) := by
  have hm := maxReq.toInt_lt
  have hne : maxReq.toInt ≠ 9223372036854775807 :=
    fun h => hcfg (BitVec.eq_of_toInt_eq (by rw [h, maxInt64_toInt]))
  rcases parsed_ms s with ⟨hb, hn⟩ | ⟨ms, hb, h1, h2, hD⟩
  · simp only [dpubDefer, hb]
    exact ⟨⟨nofun, fun ⟨h1, h2⟩ => absurd ⟨h1, by omega⟩ hn⟩, nofun, by simp [hn]⟩
  · simp only [dpubDefer, hb, Bool.or_eq_true, BitVec.slt_iff_toInt_lt, hD, zero_toInt]
    split
    · exact ⟨⟨nofun, fun ⟨_, h⟩ => by omega⟩, nofun, by simp [h1, h2]⟩
    · refine ⟨⟨fun _ => ⟨h1, by omega⟩, fun _ => ⟨_, rfl⟩⟩, ?_, by simp [h1, h2]⟩
      rintro d ⟨⟩
      omega

/-- on a non-empty digit string `strconv.ParseInt` gives its value below 2^63 and a range error from there on -/
theorem parseInt_digits (s : Bytes) (hne : s ≠ []) (hd : allDigits s = true) :
    parseInt s = if value s < 2 ^ 63 then some (value s : Int) else none := by
  cases s with
  | nil => contradiction
  | cons c tl =>
    have hc : isDigit c = true := by simp [allDigits] at hd; exact hd.1
    rw [isDigit_iff] at hc
    have h1 : c ≠ 45#8 := by intro h; subst h; simp at hc
    have h2 : c ≠ 43#8 := by intro h; subst h; simp at hc
    simp [parseInt, h1, h2, hd]

/-- HTTP `defer=`: accepted exactly when `strconv.ParseInt` reads a `v ≥ 0` of at most `MaxReqTimeout` milliseconds, and
then deferred by exactly `v` ms -/
theorem http_defer (maxReq : BitVec 64) (hcfg : 0 ≤ maxReq.toInt) (s : Bytes) :
    ((∃ d, httpDefer maxReq s = some d) ↔
        (∃ v, parseInt s = some v ∧ 0 ≤ v ∧ v * 1000000 ≤ maxReq.toInt)) ∧
    (∀ d v, httpDefer maxReq s = some d → parseInt s = some v → d.toInt = v * 1000000) := by
  cases hp : parseInt s with
  | none => simp [httpDefer, hp]
  | some di =>
    have hrange := parseInt_range hp
    have hto : (BitVec.ofInt 64 di).toInt = di := BitVec.toInt_ofInt_eq_self (by decide) hrange.1 hrange.2
    have ⟨hle, hmul⟩ := ms_checked hcfg (BitVec.ofInt 64 di)
    rw [hto] at hle hmul
    simp only [httpDefer, hp, Bool.or_eq_true, BitVec.slt_iff_toInt_lt, hto, zero_toInt]
    split
    · exact ⟨⟨nofun, fun ⟨v, hv, _, _⟩ => by cases hv; omega⟩, nofun⟩
    · refine ⟨⟨fun _ => ⟨di, rfl, by omega, by omega⟩, fun _ => ⟨_, rfl⟩⟩, ?_⟩
      rintro d v ⟨⟩ ⟨⟩
      exact hmul (by omega) (by omega)

/-- `SetMsgTimeout` (IDENTIFY `msg_timeout`): the negotiated timeout is unchanged (0), or the
requested whole number of milliseconds within `[1 s, MaxMsgTimeout]`; everything else is refused. -/
theorem setMsgTimeout_range (maxMsgTimeout cur v : BitVec 64) (hcfg : 0 ≤ maxMsgTimeout.toInt) :
    (∀ d, setMsgTimeout maxMsgTimeout cur v = some d →
        (v = 0#64 ∧ d = cur) ∨
        (1000 ≤ v.toInt ∧ v.toInt * 1000000 ≤ maxMsgTimeout.toInt ∧ d.toInt = v.toInt * 1000000)) ∧
    (setMsgTimeout maxMsgTimeout cur v = none →
        v ≠ 0#64 ∧ (v.toInt < 1000 ∨ maxMsgTimeout.toInt < v.toInt * 1000000)) := by
  have ⟨hle, hmul⟩ := ms_checked hcfg v
  have h1000 : (1000#64).toInt = 1000 := by decide +kernel
  simp only [setMsgTimeout, beq_iff_eq, Bool.and_eq_true, BitVec.sle_iff_toInt_le, h1000, hle]
  split
  · next h0 => exact ⟨fun d hd => .inl ⟨h0, (Option.some.inj hd).symm⟩, nofun⟩
  · next h0 =>
    split
    · next hr => exact ⟨fun d hd => .inr ⟨hr.1, hr.2, Option.some.inj hd ▸ hmul (by omega) hr.2⟩, nofun⟩
    · exact ⟨nofun, fun _ => ⟨h0, by omega⟩⟩

/-- **C04 range, full statement** (true of the current tree since fix 43ed751; its pre-fix
witnesses are replayed from `corpus/C04/fixed/numeric_overflow.ops` on every run).
For every byte string `s` given as the delay — i.e. for every way of writing a number, of any
length, and every non-number — and every `max-req-timeout` other than the largest representable
duration:
* `REQ` requeues with exactly `min(v ms, max-req-timeout)` when `s` is a digit string whose value
  `v` fits 64 bits, and refuses (`E_INVALID`) every other `s`; it never uses a wrapped value;
* `DPUB` accepts iff `s` is a digit string with `0 ≤ v ms ≤ max-req-timeout` and then defers by
  exactly `v ms`;
* HTTP `defer=` accepts iff `strconv.ParseInt` reads `s` as `v` with `0 ≤ v ms ≤ max-req-timeout`
  and then defers by exactly `v ms` (for plain digit strings `parseInt_digits` gives `v`).
(An empty `s` is the empty digit string: value 0 on TCP, a syntax error for `ParseInt`.) -/
theorem C04_range_full (maxReq : BitVec 64) (hpos : 0 ≤ maxReq.toInt) (hcfg : maxReq ≠ maxInt64)
    (s : Bytes) :
    ((reqTimeout maxReq s = none ↔ ¬ (allDigits s = true ∧ value s < 2 ^ 64)) ∧
     (∀ d, reqTimeout maxReq s = some d → d.toInt = min ((value s : Int) * 1000000) maxReq.toInt)) ∧
    (((∃ d, dpubDefer maxReq s = .ok d) ↔ (allDigits s = true ∧ (value s : Int) * 1000000 ≤ maxReq.toInt)) ∧
     (∀ d, dpubDefer maxReq s = .ok d → d.toInt = (value s : Int) * 1000000)) ∧
    (((∃ d, httpDefer maxReq s = some d) ↔ (∃ v, parseInt s = some v ∧ 0 ≤ v ∧ v * 1000000 ≤ maxReq.toInt)) ∧
     (∀ d v, httpDefer maxReq s = some d → parseInt s = some v → d.toInt = v * 1000000)) :=
  ⟨req_clamp maxReq s, ⟨(dpub_range maxReq hcfg s).1, (dpub_range maxReq hcfg s).2.1⟩, http_defer maxReq hpos s⟩

/-- Every spelling that is not a plain digit string is refused on TCP (REQ and DPUB). -/
theorem non_digit_rejected (maxReq : BitVec 64) (s : Bytes) (h : allDigits s = false) :
    reqTimeout maxReq s = none ∧ dpubDefer maxReq s = .error .parse := by
  have hb : byteToBase10 s = none := by
    rw [byteToBase10_spec]; simp [h]
  simp [reqTimeout, dpubDefer, hb]

/-- The one configuration excluded above, spelled out: with `max-req-timeout` = 2^63−1 ns (≈ 292
years, i.e. "no limit") DPUB's saturating conversion accepts every 64-bit millisecond count above
9223372036854 with a delay of 2^63−1 ns. -/
theorem dpub_saturation_corner :
    dpubDefer maxInt64 [57,50,50,51,51,55,50,48,51,54,56,53,53] = .ok maxInt64 := by decide +kernel

/-! ## Timing -/
open Nsq.Model.PQ Nsq.Model.Timing Nsq.Proofs.PQ Nsq.Proofs.Timing

/-- **Never early**, for ANY channel state whatsoever (arbitrary array contents, no heap order
needed): everything `processInFlightQueue(t)` / `processDeferredQueue(t)` hands to `put` has a
deadline `≤ t`; and `put` receives exactly the released messages, in order. -/
theorem scan_never_early (c : Chan) (t : Int) :
    (∀ e ∈ (scanInFlight c t).released, e.pri ≤ t) ∧ (∀ e ∈ (scanDeferred c t).released, e.pri ≤ t) ∧
    (scanInFlight c t).chan.ready = c.ready ++ (scanInFlight c t).released.map (·.id) ∧
    (scanDeferred c t).chan.ready = c.ready ++ (scanDeferred c t).released.map (·.id) :=
  ⟨(scanInFlight_spec c t).1.due, (scanDeferred_spec c t).1.due, (scanInFlight_spec c t).1.ready,
   (scanDeferred_spec c t).1.ready⟩

/-- **Heap invariant**: `Push`, `Pop`, `Remove`, `PeekAndShift` of both heaps (nsqd's own
`inFlightPqueue`; `pqueue.PriorityQueue` under `container/heap`) preserve min-heap order and the
`index` back-pointers from any state satisfying them, for any priorities (ties included); the root
is the minimum. -/
theorem heap_inv (a : H) (h : Inv a) :
    (∀ id pri, Inv (push a id pri)) ∧
    (∀ b e, pop1 a = some (b, e) → Inv b) ∧
    (∀ i b e, remove1 a i = some (b, e) → Inv b) ∧
    (∀ i b e, remove2 a i = some (b, e) → Inv b) ∧
    (∀ t b e, peekAndShift1 a t = some (b, e) → Inv b) ∧
    (∀ t b e, peekAndShift2 a t = some (b, e) → Inv b) ∧
    (∀ k (hk : k < a.size), (a[0]'(by omega)).pri ≤ a[k].pri) :=
  ⟨fun id pri => push_inv a id pri h, fun _ _ hp => ((pop1_takes a).took hp).inv h, fun _ _ _ hp => ((remove1_takes a _).took hp).inv h,
   fun _ _ _ hp => ((remove2_takes a _).took hp).inv h, fun _ _ _ hp => (peekAndShift1_took hp).1.inv h,
   fun _ _ _ hp => (peekAndShift2_took hp).1.inv h, fun k hk => root_min a h.1 k hk⟩

/-- The heap operations neither lose nor invent deadlines: the removed element is the one asked
for (`(id, pri)` of the old root / of position `i`), the rest is a permutation. -/
theorem heap_contents (a : H) :
    (∀ id pri, (keys (push a id pri)).Perm ((id, pri) :: keys a)) ∧
    (∀ t b e, peekAndShift1 a t = some (b, e) →
        (key e :: keys b).Perm (keys a) ∧ ∃ h0 : 0 < a.size, key e = key a[0] ∧ e.index = -1) ∧
    (∀ t b e, peekAndShift2 a t = some (b, e) →
        (key e :: keys b).Perm (keys a) ∧ ∃ h0 : 0 < a.size, key e = key a[0] ∧ e.index = -1) ∧
    (∀ i b e, remove1 a i = some (b, e) →
        (key e :: keys b).Perm (keys a) ∧ ∃ hi : i < a.size, key e = key a[i] ∧ e.index = -1) :=
  have out {i : Nat} {r : H × E} (tk : Took a i r) :
      (key r.2 :: keys r.1).Perm (keys a) ∧ ∃ hi : i < a.size, key r.2 = key a[i] ∧ r.2.index = -1 :=
    ⟨tk.perm, tk.lt, tk.same, tk.index⟩
  ⟨fun id pri => push_keys a id pri, fun _ _ _ hp => out (peekAndShift1_took hp).1,
   fun _ _ _ hp => out (peekAndShift2_took hp).1, fun _ _ _ hp => out ((remove1_takes a _).took hp)⟩

/-- Every API call keeps the channel's data invariant (heap order, indices, heap ids = map keys,
no duplicates) and never panics from a state satisfying it — for every history. -/
theorem chan_inv (max : Int) (ops : List Op) : ChanInv (run max {} ops) :=
  run_inv max {} ops inv_init

/-- **Scan complete**: after a scan at `t` (from any reachable state) no entry with deadline `≤ t`
remains in that queue; released ∪ remaining = before; `dirty` says exactly "something was released". -/
theorem scan_complete (c : Chan) (h : ChanInv c) (t : Int) :
    ((∀ k (hk : k < (scanInFlight c t).chan.ifpq.size), t < ((scanInFlight c t).chan.ifpq[k]).pri) ∧
     ((scanInFlight c t).released.map key ++ keys (scanInFlight c t).chan.ifpq).Perm (keys c.ifpq) ∧
     (scanInFlight c t).dirty = !(scanInFlight c t).released.isEmpty) ∧
    ((∀ k (hk : k < (scanDeferred c t).chan.dpq.size), t < ((scanDeferred c t).chan.dpq[k]).pri) ∧
     ((scanDeferred c t).released.map key ++ keys (scanDeferred c t).chan.dpq).Perm (keys c.dpq) ∧
     (scanDeferred c t).dirty = !(scanDeferred c t).released.isEmpty) :=
  have s1 := (scanInFlight_spec c t).1
  have s2 := (scanDeferred_spec c t).1
  ⟨⟨s1.late h, s1.perm h, s1.dirty h⟩, ⟨s2.late h, s2.perm h, s2.dirty h⟩⟩

/-- **TOUCH**: each accepted TOUCH sets the deadline to
`min(now + msgTimeout, deliveryTS + MaxMsgTimeout)` (and leaves `deliveryTS` alone); hence after
ANY history whose deliveries start with a timeout `≤ MaxMsgTimeout` (the `SetMsgTimeout` range),
whatever the TOUCH pattern, every in-flight deadline is `≤ deliveryTS + MaxMsgTimeout`. -/
theorem touch_cap (max : Int) :
    (∀ c now client id mt, ChanInv c → (touch c now client id mt max).2 = .ok →
      ∃ r, lookup c.ifmap id = some r ∧ r.client = client ∧
        (id, min (now + mt) (r.dts + max)) ∈ keys (touch c now client id mt max).1.ifpq ∧
        (touch c now client id mt max).1.ifmap = c.ifmap) ∧
    (∀ ops : List Op, (∀ op ∈ ops, ∀ now id client timeout, op = .inflight now id client timeout → timeout ≤ max) →
      ∀ r ∈ (run max {} ops).ifmap, ∀ p, (r.id, p) ∈ keys (run max {} ops).ifpq → p ≤ r.dts + max) :=
  ⟨fun c now client id mt _ hok => touch_sets_deadline c now client id mt max hok,
   fun ops hops => cap_run max {} ops inv_init (cap_init max) hops⟩

/-- **Requeue**: `REQ` with delay 0 hands the message to `put` at once; with delay `d ≠ 0` it is
parked with deadline `now + d`, is not handed to `put`, and stays parked through EVERY later
history whose deferred scans are all earlier than `now + d`. -/
theorem requeue_not_before (max : Int) (c : Chan) (now client : Int) (id : Nat) (d : Int) :
    ((requeue c now client id 0).2 = .ok → (requeue c now client id 0).1.ready = c.ready ++ [id]) ∧
    (d ≠ 0 → (requeue c now client id d).2 = .ok →
      (requeue c now client id d).1.ready = c.ready ∧
      ∀ ops : List Op, (∀ t, Op.scanDef t ∈ ops → t < now + d) →
        (id, now + d) ∈ keys (run max (requeue c now client id d).1 ops).dpq) :=
  ⟨fun hok => requeue_zero c now client id hok,
   fun hd hok => ⟨(requeue_delay c now client id d hd hok).2,
     fun ops hearly => deferred_stays max _ id (now + d) (requeue_delay c now client id d hd hok).1 ops hearly⟩⟩

/-- **Deferred publish** (`DPUB`, `/pub?defer=`): the same for `StartDeferredTimeout`. Only the
scans and `REQ 0` ever hand anything to `put` (`step_ready_other`). -/
theorem deferred_not_before (max : Int) (c : Chan) (now : Int) (id : Nat) (d : Int)
    (hok : (startDeferred c now id d).2 = .ok) :
    (startDeferred c now id d).1.ready = c.ready ∧
    (∀ ops : List Op, (∀ t, Op.scanDef t ∈ ops → t < now + d) →
      (id, now + d) ∈ keys (run max (startDeferred c now id d).1 ops).dpq) ∧
    (∀ c' op, (∀ t, op ≠ .scanIf t) → (∀ t, op ≠ .scanDef t) → (∀ now cl id, op ≠ .requeue now cl id 0) →
      (step max c' op).ready = c'.ready) :=
  ⟨(startDeferred_ok c now id d hok).2,
   fun ops hearly => deferred_stays max _ id (now + d) (startDeferred_ok c now id d hok).1 ops hearly,
   fun c' op h1 h2 h3 => step_ready_other max c' op h1 h2 h3⟩

/-- **In-flight timeout not before its deadline**: an in-flight message stays in flight through
every history that neither names it (TOUCH/FIN/REQ) nor scans at or after its deadline. -/
theorem inflight_not_before (max : Int) (c : Chan) (h : ChanInv c) (id : Nat) (p : Int)
    (hin : (id, p) ∈ keys c.ifpq) (ops : List Op) (hearly : ∀ t, Op.scanIf t ∈ ops → t < p)
    (hnot : ∀ op ∈ ops, (∀ now cl mt, op ≠ .touch now cl id mt) ∧ (∀ cl, op ≠ .finish cl id) ∧
      (∀ now cl d, op ≠ .requeue now cl id d)) :
    (id, p) ∈ keys (run max c ops).ifpq :=
  (run_induction (P := fun c => ChanInv c ∧ (id, p) ∈ keys c.ifpq)
    (A := fun op => (∀ t, op = .scanIf t → t < p) ∧ (∀ now cl mt, op ≠ .touch now cl id mt) ∧
      (∀ cl, op ≠ .finish cl id) ∧ (∀ now cl d, op ≠ .requeue now cl id d))
    (fun c op hA hP => ⟨step_inv max c op hP.1, trans_ifstays (step_trans max c op) hP.1.ifInv.2 _ hP.2 hA.1 hA.2⟩)
    ops c (fun op ho => ⟨fun t e => hearly t (e ▸ ho), hnot op ho⟩) ⟨h, hin⟩).2

/-! ### the window inside a scan iteration (finding `scan-window-requeue`, fixed by F16) -/

/-- "Never timed out before its deadline" at the granularity of the code's critical sections, for
the scan iteration of shape `fixed`: a message in flight (so neither queued nor deferred; ids are
unique: no other message with its id is published meanwhile), popped by a scan at `t`, then ANY
history of other API calls (deliveries come from the queue: `runQ`), then the rest of the
iteration. If the iteration releases the message, its deadline was due (`≤ t`) and it is not at
that moment a (fresh) in-flight delivery: it has no in-flight deadline and no in-flight owner. -/
def never_early_micro (fixed : Bool) : Prop :=
  ∀ (c : Chan) (t : Int) (between : List Op) (max : Int),
    ChanInv c →
    ∀ e, (scanPopPQ fixed c t).2 = some e →
      e.id ∉ c.ready → e.id ∉ c.dmap → (∀ op ∈ between, ∀ now d, op ≠ .defer now e.id d) →
      let c' := runQ max (scanPopPQ fixed c t).1 between
      (scanFinishPop fixed c' e.id).2 = true →
      e.pri ≤ t ∧ deadlineOf c' e.id = none ∧ lookup c'.ifmap e.id = none

/-- **Full theorem for the current code** (fix F16: heap pop + map delete in one critical section;
shape pinned by `Tie.PQ.processInFlightBody_eq`). -/
theorem never_early_micro_fixed : never_early_micro true := by
  intro c t between max h e he h1 h2 h3 c' _
  obtain ⟨hle, g0⟩ := Nsq.Proofs.ScanWindow.gone_after_pop h he h1 h2
  have g := Nsq.Proofs.ScanWindow.gone_runQ max between _ g0 h3
  exact ⟨hle, Nsq.Proofs.ScanWindow.deadlineOf_none g.heap, g.lookup_none⟩

/-- the pre-fix schedule: message 1 delivered to client 1 at 0 with timeout 10; the scan at t = 10
pops it off the heap; before the scan's second critical section the holder sends `REQ 1 0` and the
message (same object) is delivered again, to client 2, at 10 with timeout 60000; the scan then finds
id 1 in the in-flight map, "owned" by the object's current clientID, and times the fresh delivery
out: released at t = 10 with deadline 60010. -/
def raceStart : Chan := (startInFlight {} 0 1 1 10).1
def raceBetween : List Op := [.requeue 10 1 1 0, .inflight 10 1 2 60000]

/-- **The same statement is FALSE of the pre-fix shape** (finding `scan-window-requeue`, fixed by F16;
the schedule is replayed on the real code with the `chan.scan.afterPQPop` hook on every run and
must no longer reproduce). -/
theorem never_early_micro_false : ¬ never_early_micro false := by
  intro h
  have hinv : ChanInv raceStart := step_inv 0 {} (.inflight 0 1 1 10) inv_init
  -- after `hinv`, in the order of `never_early_micro`: the pop yields the entry (1, 10); id 1 is not queued; not deferred;
  -- nothing in between defers it; the iteration releases it
  have := h raceStart 10 raceBetween 900000 hinv ⟨1, 10, -1⟩ (by decide +kernel) (by decide +kernel)
    (by decide +kernel) (by intro op hop now d; simp [raceBetween] at hop; rcases hop with rfl | rfl <;> simp)
    (by decide +kernel)
  have h2 := this.2.1
  revert h2
  decide +kernel

/-- in that schedule the message is moreover handed out twice while one holder still has it, and the
data invariant is lost (heap entry without map entry) -/
example : (scanFinishPop false (runQ 900000 (scanPopPQ false raceStart 10).1 raceBetween) 1).1.ready = [1] ∧
    (scanFinishPop false (runQ 900000 (scanPopPQ false raceStart 10).1 raceBetween) 1).1.ifmap = [] ∧
    deadlineOf (scanFinishPop false (runQ 900000 (scanPopPQ false raceStart 10).1 raceBetween) 1).1 1 = some 60010 := by
  decide +kernel

/-- the fixed shape on the same schedule: the REQ finds nothing in flight, nothing is re-delivered,
the message is handed out once, with no in-flight entry left -/
example : (scanFinishPop true (runQ 900000 (scanPopPQ true raceStart 10).1 raceBetween) 1).1.ready = [1] ∧
    (scanFinishPop true (runQ 900000 (scanPopPQ true raceStart 10).1 raceBetween) 1).1.ifmap = [] ∧
    deadlineOf (scanFinishPop true (runQ 900000 (scanPopPQ true raceStart 10).1 raceBetween) 1).1 1 = none := by
  decide +kernel

/-- without interference both shapes are the atomic step `scanInFlight` -/
example : (scanFinishPop false (scanPopPQ false raceStart 10).1 1).1.ready = (scanInFlight raceStart 10).chan.ready ∧
    (scanFinishPop true (scanPopPQ true raceStart 10).1 1).1.ready = (scanInFlight raceStart 10).chan.ready := by
  decide +kernel

/-- **Scan selection**: `UniqRands q n` never panics and returns `min q n` pairwise distinct
indices below `n`, for every random stream; when `n ≤ q` it is a permutation of `0..n-1`: with at
most `QueueScanSelectionCount` channels EVERY channel is scanned on every tick. -/
theorem uniqRands_perm (q n : Nat) (r : Nat → Nat) :
    ∃ l, uniqRands q n r = some l ∧ l.length = min q n ∧ l.Nodup ∧ (∀ x ∈ l, x < n) ∧
      (n ≤ q → l.Perm (List.range n)) :=
  Nsq.Proofs.Timing.uniqRands_perm q n r

/-- **Every channel, every tick** (at most `QueueScanSelectionCount` channels in the scan loop's
list): one ROUND of `queueScanLoop`'s `loop:` (`Model.Timing.queueScanTick`; the whole tick incl. the dirty loop is
`C04Live`'s `tickLoop`) never panics, and — for channels satisfying `ChanInv` — afterwards NO channel holds anything due at
the clock reading its worker took — so in that regime lateness is at most one scan interval plus
the scan time (wall-clock part: partial). With more channels the tick scans `min(q, n)` distinct
ones and leaves the others untouched (`Proofs.Tick.tick_general`). -/
theorem every_channel_scanned_each_tick (q : Nat) (cs : List Chan) (r : Nat → Nat) (now : Nat → Int)
    (hn : cs.length ≤ q) (hinv : ∀ c ∈ cs, ChanInv c) :
    ∃ cs', queueScanTick q cs r now = some cs' ∧ cs'.length = cs.length ∧
      ∀ i (hi : i < cs'.length), ChanInv cs'[i] ∧ nothingDue cs'[i] (now i) = true := by
  obtain ⟨l, h1, _, _, _, h5⟩ := uniqRands_perm (min q cs.length) cs.length r
  have hperm : l.Perm (List.range cs.length) := h5 (by omega)
  refine ⟨scanTick cs l now, by simp [queueScanTick, h1], Nsq.Proofs.Tick.scanTick_length cs l now, ?_⟩
  intro i hi
  have hi' : i < cs.length := by rw [Nsq.Proofs.Tick.scanTick_length] at hi; exact hi
  have hm : i ∈ l := hperm.mem_iff.2 (List.mem_range.2 hi')
  rw [Nsq.Proofs.Tick.scanTick_getElem cs l now i hi hi', if_pos hm]
  exact Nsq.Proofs.Tick.scanChannel_spec cs[i] (hinv _ (List.getElem_mem hi')) (now i)

/-- Lateness in the model: a due entry is released by the FIRST scan of its queue at or after its
deadline (consequence of `scan_complete`); wall-clock lateness is the partial part. -/
theorem released_by_first_scan_after_deadline (c : Chan) (h : ChanInv c) (t : Int) (id : Nat) (p : Int)
    (hin : (id, p) ∈ keys c.dpq) (hdue : p ≤ t) : (id, p) ∈ (scanDeferred c t).released.map key := by
  have ⟨hleft, hperm, _⟩ := (scan_complete c h t).2
  rcases List.mem_append.mp (hperm.symm.subset hin) with h1 | h2
  · exact h1
  · have := late_iff_keys.1 hleft _ h2
    exact absurd hdue (by omega)

/-! ## Non-vacuity -/

-- numeric: the pre-fix witnesses, and ordinary values
example : byteToBase10 [49,56,52,52,54,55,52,52,48,55,51,55,48,57,53,53,49,54,50,49] = none := by decide +kernel  -- "18446744073709551621"
example : dpubDefer 3600000000000#64 [49,56,52,52,54,55,52,52,48,55,51,55,49,48] = .error .range := by decide +kernel  -- "18446744073710"
example : reqTimeout 3600000000000#64 [49,56,52,52,54,55,52,52,48,55,51,55,49,48] = some 3600000000000#64 := by decide +kernel
example : dpubDefer 3600000000000#64 [53,48,48,48] = .ok 5000000000#64 := by decide +kernel   -- "5000" → 5 s
example : httpDefer 3600000000000#64 [43,53] = some 5000000#64 := by decide +kernel            -- "+5" is a ParseInt spelling
example : httpDefer 3600000000000#64 [] = none := by decide +kernel
example : reqTimeout 3600000000000#64 [] = some 0#64 := by decide +kernel                        -- the empty digit string is 0 on TCP
example : setMsgTimeout 900000000000#64 60000000000#64 999#64 = none := by decide +kernel
example : setMsgTimeout 900000000000#64 60000000000#64 900000#64 = some 900000000000#64 := by decide +kernel
-- timing
example : Nsq.Proofs.PQ.Inv (push (push (push #[] 1 30) 2 10) 3 20) := by
  rw [Nsq.Proofs.PQ.Inv, ← heapOrdOk_iff, ← indexOk_iff]; decide +kernel
example : ¬ HeapOrd #[⟨1, 30, 0⟩, ⟨2, 10, 1⟩] := by rw [← heapOrdOk_iff]; decide +kernel
example : touchDeadline 95 0 60 100 = 100 ∧ touchDeadline 10 0 60 100 = 70 := by decide +kernel
example : uniqRands 20 3 (fun i => 7 * i + 2) = some [2, 0, 1] := by decide +kernel

example : ∃ cs', queueScanTick 20 Nsq.Proofs.Tick.twoChans (fun i => 7 * i + 2) (fun _ => 10) = some cs' ∧
    cs'.length = Nsq.Proofs.Tick.twoChans.length ∧
    ∀ i (hi : i < cs'.length), ChanInv cs'[i] ∧ nothingDue cs'[i] 10 = true :=
  every_channel_scanned_each_tick 20 _ _ _ (by decide +kernel) Nsq.Proofs.Tick.twoChans_inv

/-- the hypotheses of `inflight_not_before` are satisfiable on a history with content -/
example :
    (7, 10) ∈ keys (run 100 (run 100 {} [.inflight 0 7 1 10])
      [.inflight 1 8 1 50, .finish 1 8, .scanIf 9]).ifpq :=
  inflight_not_before 100 _ (run_inv 100 _ _ inv_init) 7 10 (by decide +kernel)
    [.inflight 1 8 1 50, .finish 1 8, .scanIf 9] (by simp) (by simp)

/-- an arbitrary (non-heap) array: the scan still releases nothing early -/
example : ((scanInFlight { ifpq := #[⟨1, 50, 0⟩, ⟨2, 5, 1⟩], ifmap := [⟨1, 1, 0⟩, ⟨2, 1, 0⟩] } 10).released.map (·.id)) = [] := by
  decide +kernel

open Nsq.Proofs.Tick
example : ∃ cs', queueScanTick 20 twoChans (fun i => 7 * i + 2) (fun _ => 10) = some cs' ∧
    cs'.length = 2 ∧
    ∀ i (hi : i < cs'.length), ChanInv cs'[i] ∧ nothingDue cs'[i] 10 = true :=
  every_channel_scanned_each_tick 20 twoChans _ _ (by decide +kernel) twoChans_inv

end Nsq.Props.C04
