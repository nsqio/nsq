/-
C01.2 `fanout_complete` over runs of the daemon-level model `Nsq.Model.ChanNsqd` that INCLUDE the raw halves of channel
creation `createChanRaw | refreshPump` (docs/C01.md "Round 10").

`C01.fanout_complete` is stated for `NReachable` (API-level ops only) and keyed on the field `born` (id counter at the map
insert); `C01Snap.fanout_complete_raw` has the split creation, but on the small model `TopicSnap`. Here: EVERY op list of
`ChanNsqd.step` (all 30 ops, the raw halves, the pump's and FIN's micro-steps, failed MPUBs, ephemeral reaping, fatal
errors), from the empty daemon. The ghost `E tid cid` (pure instrumentation, `grun_is_run`) is the value of the id counter
when the channel ENTERED the pump's snapshot: set by `refreshPump tid` for every channel of the topic not yet entered, by
the atomic `createChan` / `sub` when they create the channel, reset to `none` by a `createChanRaw` that creates it.

* `fanout_complete_rawops` — in every state of every such run, every acknowledged id of every topic is still in the topic
  queue, or has a fan-out event on EVERY existing channel of the topic that entered the snapshot no later than the id was
  issued (`E = some b`, `b ≤ i`);
* `fanout_complete_born_false` — the same statement keyed on the field `born` (assigned at the map insert) is FALSE over
  runs with the raw halves (5-op witness: the message published between the halves goes to the old snapshot);
A SUB that finds the channel already in the map (a second subscriber during the window) returns WITHOUT entering: `E` stays
`none` until the pump's refresh — exactly `Topic.GetChannel` (`isNew` false ⇒ no `channelUpdateChan` send); the theorem
promises such a consumer nothing before the refresh.
-/
import Nsq.Proofs.ChanNsqdRaw
namespace Nsq.Props.C01Raw
open Nsq.Model.Chan Nsq.Model.ChanNsqd Nsq.Proofs.Chan Nsq.Proofs.ChanNsqdRaw

/-- the ghost is instrumentation only -/
theorem grun_is_run (s : State) (E : Gh) (ops : List Nsq.Model.ChanNsqd.Op) :
    (grun (s, E) ops).1 = Nsq.Model.ChanNsqd.run s ops := grun_fst (s, E) ops

def E0 : Gh := fun _ _ => none

/-- **fan-out completeness over every run, raw halves of channel creation included** -/
theorem fanout_complete_rawops (conf : NConf) (ops : List Nsq.Model.ChanNsqd.Op) (t : Topic)
    (ht : t ∈ (Nsq.Model.ChanNsqd.run { conf := conf } ops).topics) :
    ∀ i ∈ t.acked, i ∈ t.queue.map (·.id) ∨
      ∀ nc ∈ t.chans, ∀ b, (grun ({ conf := conf }, E0) ops).2 t.tid nc.cid = some b → b ≤ i → i ∈ fannedIds nc.ch.hist := by
  have h := grun_fi (fi_init conf E0) ops
  have hft := h.topics t (by rw [grun_fst]; exact ht)
  intro i hia
  rcases hft.ackq i hia with hq | hp
  · exact Or.inl hq
  · right
    intro nc hnc b hb hbi
    rw [mem_fannedIds]
    exact hft.fan nc hnc b hb i hp hbi

/-- an entered channel that still exists is in the pump's snapshot -/
theorem entered_in_snapshot (conf : NConf) (ops : List Nsq.Model.ChanNsqd.Op) (t : Topic)
    (ht : t ∈ (Nsq.Model.ChanNsqd.run { conf := conf } ops).topics) (nc : NChan) (hnc : nc ∈ t.chans)
    (he : ((grun ({ conf := conf }, E0) ops).2 t.tid nc.cid).isSome = true) : nc.cid ∈ t.pump := by
  have h := grun_fi (fi_init conf E0) ops
  have := (h.topics t (by rw [grun_fst]; exact ht)).vis nc hnc he
  simpa using this

/-- step level: the atomic `createChan` of a new channel enters it at once; the raw insert does not; the refresh does -/
theorem createChan_enters (s : State) (E : Gh) (t c : Nat) (eph : Bool) (hn : isNew s t c = true) :
    (gstep (s, E) (.createChan t c eph)).2 t c = some s.nextId ∧
    (gstep (s, E) (.createChanRaw t c eph)).2 t c = none := by
  simp [gstep, gnext, hn, Nsq.Proofs.ChanNsqdRaw.setE]

theorem refresh_enters (s : State) (E : Gh) (t c : Nat) :
    ((gstep (s, E) (.refreshPump t)).2 t c).isSome = true ∧
    (E t c = none → (gstep (s, E) (.refreshPump t)).2 t c = some s.nextId) := by
  simp only [gstep, gnext, if_true]
  cases E t c <;> simp

/-- channel 1 exists; messages 1 2 published, 1 pumped; channel 2 inserted (SUB in progress); 2 pumped to the OLD
snapshot; refresh (`GetChannel` returns: entered at 3); message 3 published and pumped -/
def bsOps : List Nsq.Model.ChanNsqd.Op :=
  [.createChan 1 1 false, .pub 1 10, .pub 1 10, .pumpTopic 1 1 true [], .createChanRaw 1 2 false,
   .pumpTopic 1 2 true [], .refreshPump 1, .pub 1 10, .pumpTopic 1 3 true []]

def bsEnd : State × Gh := grun ({}, E0) bsOps

example : bsEnd.2 1 1 = some 1 ∧ bsEnd.2 1 2 = some 3 := by decide
example : bsEnd.1.topics.map (·.acked) = [[3, 2, 1]] ∧ bsEnd.1.topics.map (fun t => t.queue.map (·.id)) = [[]] ∧
    bsEnd.1.topics.map (·.pump) = [[1, 2]] ∧
    bsEnd.1.topics.map (fun t => t.chans.map (fun nc => fannedIds nc.ch.hist)) = [[[3, 2, 1], [3]]] ∧
    bsEnd.1.topics.map (fun t => t.chans.map (·.born)) = [[1, 3]] := by decide
/-- between the halves channel 2 is in the map but has not entered -/
example : (grun ({}, E0) (bsOps.take 6)).2 1 2 = none ∧
    ((grun ({}, E0) (bsOps.take 6)).1.topics.map (fun t => (t.pump, t.chans.map (·.cid)))) = [([1], [1, 2])] := by decide

/-- the statement keyed on the field `born` (id counter at the MAP INSERT) -/
def FanoutCompleteBorn : Prop :=
  ∀ (ops : List Nsq.Model.ChanNsqd.Op) (t : Topic), t ∈ (Nsq.Model.ChanNsqd.run {} ops).topics →
    ∀ i ∈ t.acked, i ∈ t.queue.map (·.id) ∨ ∀ nc ∈ t.chans, nc.born ≤ i → i ∈ fannedIds nc.ch.hist

def bornOps : List Nsq.Model.ChanNsqd.Op :=
  [.createChan 1 1 false, .createChanRaw 1 2 false, .pub 1 10, .pumpTopic 1 1 true [], .refreshPump 1]

example : (Nsq.Model.ChanNsqd.run {} bornOps).topics.map (·.acked) = [[1]] ∧
    (Nsq.Model.ChanNsqd.run {} bornOps).topics.map (fun t => t.queue.map (·.id)) = [[]] ∧
    (Nsq.Model.ChanNsqd.run {} bornOps).topics.map (fun t => t.chans.map (·.born)) = [[1, 1]] ∧
    (Nsq.Model.ChanNsqd.run {} bornOps).topics.map (fun t => t.chans.map (fun nc => fannedIds nc.ch.hist)) = [[[1], []]] := by
  decide

/-- keyed on `born` the statement is false over runs with the raw halves: channel 2 is inserted (born = 1), message 1 is
published and fanned out to the OLD snapshot `[1]` before the pump takes the update -/
theorem fanout_complete_born_false : ¬ FanoutCompleteBorn := by
  intro h
  have key : ∃ t ∈ (Nsq.Model.ChanNsqd.run {} bornOps).topics, 1 ∈ t.acked ∧ 1 ∉ t.queue.map (·.id) ∧
      ∃ nc ∈ t.chans, nc.born ≤ 1 ∧ 1 ∉ fannedIds nc.ch.hist := by decide
  obtain ⟨t, ht, ha, hq, nc, hnc, hb, hf⟩ := key
  rcases h bornOps t ht 1 ha with h1 | h1
  · exact hq h1
  · exact hf (h1 nc hnc hb)

/-- the theorem applied to the busy-sub run: message 3 (acknowledged, not queued) is on every channel entered by 3 -/
example : ∀ t ∈ (Nsq.Model.ChanNsqd.run {} bsOps).topics, ∀ nc ∈ t.chans, ∀ b,
    (grun ({}, E0) bsOps).2 t.tid nc.cid = some b → b ≤ 3 → 3 ∈ fannedIds nc.ch.hist := by
  intro t ht
  have ha : ∀ t ∈ (Nsq.Model.ChanNsqd.run {} bsOps).topics, 3 ∈ t.acked ∧ 3 ∉ t.queue.map (·.id) := by decide
  exact (fanout_complete_rawops {} bsOps t ht 3 (ha t ht).1).resolve_left (ha t ht).2
/-- … and message 2 (published between the halves) is NOT on channel 2 — the bound `b ≤ i` is needed -/
example : ∃ t ∈ (Nsq.Model.ChanNsqd.run {} bsOps).topics, 2 ∈ t.acked ∧ 2 ∉ t.queue.map (·.id) ∧
    ∃ nc ∈ t.chans, nc.cid = 2 ∧ 2 ∉ fannedIds nc.ch.hist := by decide

end Nsq.Props.C01Raw
