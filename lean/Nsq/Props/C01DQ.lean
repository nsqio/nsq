import Nsq.Proofs.BackedQueueCounters
import Nsq.Proofs.ChanInv
import Nsq.Props.E9DiskQueue
/-
C01 × E9 — the queue of one channel / topic with the REAL backend: a bounded memory queue
(`memoryMsgChan`) in front of the go-diskqueue model (`Model/BackedQueue.lean`).

`C01.ledger` counts message ids of the E2 model, whose queue is two numbers (`memLen`, `dqLen`).
Here the same queue holds byte strings: every history of puts / receives from either side /
`Close`+`New` cycles / `Empty` keeps every accepted record in exactly one place, byte-identical — an
overflow to disk and the way back neither lose, duplicate nor invent a message
(`overflow_keeps_multiset`); each of the two queues is FIFO, their union is not
(`each_queue_is_fifo`, `global_fifo_full_false`, `mem_queue_size_zero_is_fifo`); the two E2 counters
are exactly the two lengths and E2's rule "`memLen < memCap` ? memory : disk" is `BackedQueue.put`
(`counters_refine_E2`); a record the backend refuses is in neither queue (`invalid_size_put_drops`).
-/
namespace Nsq.Props.C01DQ
open Nsq.Model Nsq.Model.Wire
open Nsq.Model.BackedQueue (BQ PutOut Op Run stepRun run fresh openBQ)
open Nsq.Model.DiskQueue (St Cfg FS PutRes openQ)
open Nsq.Proofs.DiskQueue Nsq.Proofs.BackedQueue
open Nsq.Props.E9DiskQueue (cfgW cfgW_ok ra rb rc)

/-- 1. THE LEDGER OF BYTES.  After every history from a fresh data path (puts of any records, receives
from the memory queue and from the backend interleaved arbitrarily, `Channel.Close` + `NewChannel` cycles,
`Empty`) the backend is a healthy FIFO holding some `disk`, the memory queue respects its capacity, and
as MULTISETS

  records handed to a pump ++ dropped by `Empty` (memory, disk) ++ lost in a `flush` ++ memory ++ disk
      = records accepted (`put` returned nil).

Nothing else: no record is lost, duplicated or invented when it overflows to disk and comes back.
Without `Empty` in the history the two `Empty` terms are empty; when every record put has a size the
backend accepts (always, for encoded messages within `--max-msg-size`: tie of the `diskqueue.New`
bounds) nothing is refused or lost in a flush and EVERY put is accepted. -/
theorem overflow_keeps_multiset (cfg : Cfg) (hok : CfgOk cfg) (memCap : Nat) (ops : List Op) :
    ∃ disk gone, Inv (run memCap cfg ops).q disk ∧ (run memCap cfg ops).q.mem.length ≤ memCap ∧
      ((run memCap cfg ops).taken ++ ((run memCap cfg ops).emptiedMem ++ (gone ++ ((run memCap cfg ops).flushLost ++
          ((run memCap cfg ops).q.mem ++ disk))))).Perm (run memCap cfg ops).accepted ∧
      ((∀ o ∈ ops, o ≠ .empty) → gone = [] ∧ (run memCap cfg ops).emptiedMem = []) ∧
      ((∀ b, Op.put b ∈ ops → ValidRec cfg b) →
        (run memCap cfg ops).refused = [] ∧ (run memCap cfg ops).flushLost = [] ∧
        (run memCap cfg ops).accepted = putsOf ops) := by
  obtain ⟨d, g, hl, e1, _, e3⟩ := ledger_foldl cfg memCap ops _ [] [] (ledger_fresh cfg hok memCap)
  exact ⟨d, g, hl.inv, hl.bound, hl.perm, e1, fun hv => (e3 hv (fun _ hb => absurd hb List.not_mem_nil)).2⟩

/-- consequences, spelled out: a record handed to a pump is byte-identical to a record that was accepted,
and no record is handed out more often than it was accepted (no invention, no duplication) … -/
theorem taken_at_most_as_often_as_put (cfg : Cfg) (hok : CfgOk cfg) (memCap : Nat) (ops : List Op) (b : Bytes) :
    (run memCap cfg ops).taken.count b ≤ (run memCap cfg ops).accepted.count b ∧
    (b ∈ (run memCap cfg ops).taken → b ∈ (run memCap cfg ops).accepted) ∧
    (b ∈ (run memCap cfg ops).accepted → Op.put b ∈ ops) := by
  obtain ⟨d, g, (hl : Ledger cfg memCap (run memCap cfg ops) d g), _, e2, _⟩ :=
    ledger_foldl cfg memCap ops _ [] [] (ledger_fresh cfg hok memCap)
  refine ⟨?_, fun hb => hl.perm.subset (List.mem_append_left _ hb), fun hb => (e2 b hb).resolve_left List.not_mem_nil⟩
  rw [← hl.perm.count_eq b, List.count_append]
  exact Nat.le_add_right _ _

/-- … and nothing accepted disappears: an accepted record of a history without `Empty` and with valid sizes
that was not handed out yet is still in the memory queue or on disk (no loss) -/
theorem accepted_is_taken_or_queued (cfg : Cfg) (hok : CfgOk cfg) (memCap : Nat) (ops : List Op)
    (hne : ∀ o ∈ ops, o ≠ .empty) (hv : ∀ b, Op.put b ∈ ops → ValidRec cfg b) (b : Bytes) (hb : Op.put b ∈ ops) :
    ∃ disk, Inv (run memCap cfg ops).q disk ∧
      (b ∈ (run memCap cfg ops).taken ∨ b ∈ (run memCap cfg ops).q.mem ∨ b ∈ disk) := by
  obtain ⟨d, g, hi, _, hp, e1, e2⟩ := overflow_keeps_multiset cfg hok memCap ops
  obtain ⟨g0, m0⟩ := e1 hne
  obtain ⟨_, f0, a0⟩ := e2 hv
  refine ⟨d, hi, ?_⟩
  have : b ∈ (run memCap cfg ops).accepted := by rw [a0]; exact putsOf_mem.2 hb
  have := hp.symm.subset this
  rw [g0, m0, f0] at this
  simpa using this

/-- the ORDER facts that hold: each of the two queues is FIFO.  `put` appends at the END of the memory
queue when it has room, else at the END of the disk queue; `takeMem` removes the HEAD of the memory
queue, `takeDisk` the HEAD of the disk queue (byte-identical); neither touches the other queue -/
theorem each_queue_is_fifo (q : BQ) (disk : List Bytes) (h : Inv q disk) :
    (∀ b, q.mem.length < q.memCap →
      BackedQueue.put q b = (.mem, { q with mem := q.mem ++ [b] })) ∧
    (∀ b, ¬ q.mem.length < q.memCap → ValidRec q.dq.cfg b →
      (BackedQueue.put q b).1 = .backend .ok ∧ (BackedQueue.put q b).2.mem = q.mem ∧ Inv (BackedQueue.put q b).2 (disk ++ [b])) ∧
    (∀ b rest, q.mem = b :: rest → BackedQueue.takeMem q = (some b, { q with mem := rest })) ∧
    (q.mem = [] → BackedQueue.takeMem q = (none, q)) ∧
    (∀ d rest, disk = d :: rest →
      (BackedQueue.takeDisk q).1 = some d ∧ (BackedQueue.takeDisk q).2.mem = q.mem ∧ Inv (BackedQueue.takeDisk q).2 rest) ∧
    (disk = [] → BackedQueue.takeDisk q = (none, q)) := by
  refine ⟨fun b hm => put_mem q b hm, fun b hm hv => put_disk_ok h b hm hv, fun b rest hm => takeMem_cons q b rest hm,
    fun hm => takeMem_nil q hm, fun d rest hd => ?_, fun hd => ?_⟩
  · rw [hd] at h
    exact takeDisk_cons h
  · rw [hd] at h
    exact takeDisk_nil h

/-- the order fact that does NOT hold: "records are handed out in the order they were accepted" -/
def global_fifo_full : Prop :=
  ∀ (cfg : Cfg), CfgOk cfg → ∀ (memCap : Nat) (ops : List Op), (∀ b, Op.put b ∈ ops → ValidRec cfg b) →
    (run memCap cfg ops).taken <+: (run memCap cfg ops).accepted

/-- tiny witness: capacity 1, put a (memory), put b (disk), a pump's `select` takes the backend case first -/
theorem global_fifo_full_false : ¬ global_fifo_full := by
  intro h
  have := h cfgW cfgW_ok 1 [.put ra, .put rb, .takeDisk] fun b hb =>
    (by decide : ∀ b ∈ putsOf [Op.put ra, .put rb, .takeDisk], ValidRec cfgW b) b (putsOf_mem.2 hb)
  have e : (run 1 cfgW [.put ra, .put rb, .takeDisk]).taken = [rb] ∧
      (run 1 cfgW [.put ra, .put rb, .takeDisk]).accepted = [ra, rb] := by decide +kernel
  rw [e.1, e.2] at this
  exact absurd this (by decide)

/-- … it does hold with `--mem-queue-size 0` ("avoid memory chan, for more consistent ordering",
`Topic.put`): then, in a history without `Empty`, the records handed out are exactly a prefix of the records
accepted and the rest is the disk queue, in order -/
theorem mem_queue_size_zero_is_fifo (cfg : Cfg) (hok : CfgOk cfg) (ops : List Op) (hne : ∀ o ∈ ops, o ≠ .empty) :
    ∃ disk, Inv (run 0 cfg ops).q disk ∧ (run 0 cfg ops).q.mem = [] ∧
      (run 0 cfg ops).accepted = (run 0 cfg ops).taken ++ disk := by
  obtain ⟨d, g, hl, he⟩ := zero_mem_fifo_foldl cfg ops hne (fresh 0 cfg) [] [] (ledger_fresh cfg hok 0) rfl
  exact ⟨d, hl.inv, List.eq_nil_of_length_eq_zero (Nat.le_zero.1 hl.bound), he⟩

/-- 2. THE E2 COUNTERS ARE THESE TWO LENGTHS.  One step: for a channel queue `q` (backend holding `disk`) and
an E2 channel `c` with `memLen = |mem|`, `dqLen = |disk|` (`CntRel`), every queue operation is matched by
the counter updates of the E2 model, re-establishing the relation:
* `put` (valid record) ↔ `Chan.enqueue` — E2's rule "`memLen < memCap` ? memory : disk" IS `BackedQueue.put`;
* a receive ↔ the update of `Chan.doDeliver` (and `sampleDrop`), `e2Take` = "`memLen > 0` ? memory : disk";
  when the pump's `select` took the backend case although the memory queue was not empty, followed by
  the E2 operation `resplit` (the observation of the runtime's choice);
* `Empty` ↔ E2 `empty`; `Close` + `New` ↔ `resplit 0 (memLen + dqLen)` (the flush).
`dqLen` is the backend's `Depth()` and `memLen + dqLen` is `Channel.Depth()`. -/
theorem counters_refine_E2 (conf : Chan.Conf) (cfg : Cfg) (memCap : Nat) (r : Run) (disk gone : List Bytes)
    (h : Ledger cfg memCap r disk gone) (hc : Clean cfg r) (c : Chan.Chan) (hr : CntRel r.q disk c) :
    ((c.dqLen : Int) = r.q.dq.depth ∧ BackedQueue.depth r.q = ((c.memLen + c.dqLen : Nat) : Int)) ∧
    (∀ o, (∀ b, o = .put b → ValidRec cfg b) →
      CntRel (stepRun cfg r o).q (specDisk cfg r disk o) (e2Step conf r c o)) ∧
    (∀ b, ((BackedQueue.put r.q b).1 = .mem ↔ c.memLen < c.memCap) ∧
      ((Chan.enqueue c 0).memLen = c.memLen + 1 ↔ c.memLen < c.memCap)) ∧
    (∀ cl k id now a, (Chan.doDeliver c cl k id now).2 = .msg a →
      (Chan.doDeliver c cl k id now).1.memLen = (e2Take c).memLen ∧
      (Chan.doDeliver c cl k id now).1.dqLen = (e2Take c).dqLen) := by
  have hd := depth_Q h.inv
  obtain ⟨r1, r2, r3, r4⟩ := hr
  refine ⟨⟨by rw [hd, r2], ?_⟩, fun o hv => cnt_step (stepRun_inv h o).1 h hc conf c ⟨r1, r2, r3, r4⟩ hv, fun b => ⟨?_, ?_⟩,
    doDeliver_counters c⟩
  · show (r.q.mem.length : Int) + r.q.dq.depth = _
    rw [hd, r1, r2]; simp
  · by_cases hm : r.q.mem.length < r.q.memCap
    · rw [put_mem r.q b hm]
      exact ⟨fun _ => by rw [r1, r3]; exact hm, fun _ => rfl⟩
    · rw [put_full r.q b hm]
      refine ⟨fun hh => ?_, fun hh => ?_⟩
      · exact absurd hh (by simp)
      · rw [r1, r3] at hh; exact absurd hh hm
  · by_cases hm : c.memLen < c.memCap
    · exact ⟨fun _ => hm, fun _ => (cnt_enqueue_mem ⟨rfl, rfl, rfl, r4⟩ hm 0).1⟩
    · rw [(cnt_enqueue_disk ⟨rfl, rfl, rfl, r4⟩ hm 0).1]
      exact ⟨fun hh => absurd hh (Nat.ne_of_lt (Nat.lt_succ_self _)), fun hh => absurd hh hm⟩

/-- whole histories: after ANY history of valid-size records the E2 counters (run alongside: `e2Run`) are
`memLen = len(memoryMsgChan)` and `dqLen = backend.Depth()` = the number of records on disk -/
theorem counters_refine_E2_run (conf : Chan.Conf) (cfg : Cfg) (hok : CfgOk cfg) (memCap : Nat) (ops : List Op)
    (hv : ∀ b, Op.put b ∈ ops → ValidRec cfg b) :
    ∃ disk, Inv (run memCap cfg ops).q disk ∧
      (e2Run conf cfg (fresh memCap cfg) { memCap := memCap } ops).memLen = (run memCap cfg ops).q.mem.length ∧
      (e2Run conf cfg (fresh memCap cfg) { memCap := memCap } ops).dqLen = disk.length ∧
      ((e2Run conf cfg (fresh memCap cfg) { memCap := memCap } ops).dqLen : Int) = (run memCap cfg ops).q.dq.depth ∧
      (e2Run conf cfg (fresh memCap cfg) { memCap := memCap } ops).memLen ≤ memCap := by
  obtain ⟨d, g, hl, hr⟩ := cnt_foldl cfg memCap conf ops hv (fresh memCap cfg) [] [] (ledger_fresh cfg hok memCap)
    (fun b hb => absurd hb (by show ¬ b ∈ ([] : List Bytes); simp)) { memCap := memCap } ⟨rfl, rfl, rfl, rfl⟩
  obtain ⟨r1, r2, _, _⟩ := hr
  refine ⟨d, hl.inv, r1, r2, ?_, ?_⟩
  · rw [r2]; exact (depth_Q hl.inv).symm
  · rw [r1]; exact hl.bound

/-- link to `C01.ledger` / the E2 invariant (`C02.reachable_inv : Reachable conf c → Inv 0 c`): the number
of `queued` entries of the E2 channel = the number of byte strings in memory and on disk -/
theorem queued_entries_are_the_records (q : BQ) (disk : List Bytes) (c : Chan.Chan) (hi : Nsq.Proofs.Chan.Inv 0 c)
    (hr : CntRel q disk c) : Chan.nQueued c.msgs = (q.mem ++ disk).length := by
  have := hi.counts
  rw [List.length_append, ← hr.1, ← hr.2.1]
  omega

/-- 3. WHEN THE BACKEND REFUSES THE RECORD (size outside `[minMsgSize, maxMsgSize]` of `diskqueue.New`): with
the memory queue full, `put` returns the backend's error, and the record is in NEITHER queue — both are
exactly as before (`Channel.put` returns the error; `Topic.messagePump` only logs it: for that channel the
message is gone).  Cannot happen for an encoded message within `--max-msg-size` (tie of the bounds). -/
theorem invalid_size_put_drops (q : BQ) (disk : List Bytes) (h : Inv q disk) (b : Bytes)
    (hm : ¬ q.mem.length < q.memCap) (hv : ¬ ValidRec q.dq.cfg b) :
    (BackedQueue.put q b).1 = .backend .invalid ∧ (BackedQueue.put q b).2.mem = q.mem ∧
      Inv (BackedQueue.put q b).2 disk :=
  put_disk_invalid h b hm hv

/-- "a `put` always lands in one of the two queues" -/
def put_never_drops_full : Prop :=
  ∀ (q : BQ) (disk : List Bytes) (b : Bytes), Inv q disk →
    ∃ disk', Inv (BackedQueue.put q b).2 disk' ∧ ((BackedQueue.put q b).2.mem ++ disk').Perm (b :: (q.mem ++ disk))

/-- TRUE for records of valid size: the record is afterwards in exactly one of the queues and nothing else moved -/
theorem put_never_drops_partial (q : BQ) (disk : List Bytes) (b : Bytes) (h : Inv q disk) (hv : ValidRec q.dq.cfg b) :
    ((BackedQueue.put q b).1 = .mem ∨ (BackedQueue.put q b).1 = .backend .ok) ∧
    ∃ disk', Inv (BackedQueue.put q b).2 disk' ∧ ((BackedQueue.put q b).2.mem ++ disk').Perm (b :: (q.mem ++ disk)) := by
  by_cases hm : q.mem.length < q.memCap
  · rw [put_mem q b hm]
    refine ⟨Or.inl rfl, disk, h, ?_⟩
    show ((q.mem ++ [b]) ++ disk).Perm _
    rw [List.append_assoc]
    exact (List.perm_middle (l₁ := q.mem) (l₂ := disk) (a := b))
  · obtain ⟨a1, a2, a4⟩ := put_disk_ok h b hm hv
    refine ⟨Or.inr a1, disk ++ [b], a4, ?_⟩
    rw [a2, ← List.append_assoc]
    exact (List.perm_append_comm (l₁ := q.mem ++ disk) (l₂ := [b]))

/-- FALSE without the size hypothesis: `--mem-queue-size 0`, a record shorter than `minMsgSize` -/
theorem put_never_drops_full_false : ¬ put_never_drops_full := by
  intro h
  obtain ⟨d', hi, hp⟩ := h (openBQ 0 cfgW FS.empty) [] [] (fresh_inv 0 cfgW cfgW_ok)
  obtain ⟨_, a2, a4⟩ := put_disk_invalid (fresh_inv 0 cfgW cfgW_ok) [] (by decide) (by
    show ¬ ValidRec (openQ cfgW FS.empty).cfg []
    rw [openQ_cfg]; decide)
  have l1 := depth_Q hi
  have l2 := depth_Q a4
  have hd : d' = [] := by
    have : (d'.length : Int) = (([] : List Bytes).length : Int) := by rw [← l1, ← l2]
    exact List.eq_nil_of_length_eq_zero (by simpa using this)
  rw [hd, a2] at hp
  have := hp.length_eq
  simp [openBQ] at this

/-- the same at `Close`: a record that was accepted into the MEMORY queue although the backend refuses its
size is lost by `flush` (the error is only logged) — the one way an accepted record can vanish, and the
reason `overflow_keeps_multiset` carries the term `flushLost` -/
theorem flush_drops_invalid_witness :
    (run 1 cfgW [.put [], .restart]).accepted = [[]] ∧ (run 1 cfgW [.put [], .restart]).flushLost = [[]] ∧
    (run 1 cfgW [.put [], .restart]).q.mem = [] ∧ (run 1 cfgW [.put [], .restart]).q.dq.depth = 0 := by decide +kernel

/-! ### non-vacuity -/

/-- capacity 1; a goes to memory, b and c overflow to disk (two files), the backend's b is taken first,
then a restart flushes a behind c, then everything is drained -/
def exOps : List Op := [.put ra, .put rb, .put rc, .takeDisk, .restart, .takeDisk, .takeDisk, .takeMem]

example : ∀ b, Op.put b ∈ exOps → ValidRec cfgW b :=
  fun b hb => (by decide : ∀ b ∈ putsOf exOps, ValidRec cfgW b) b (putsOf_mem.2 hb)
example : (run 1 cfgW exOps).accepted = [ra, rb, rc] ∧ (run 1 cfgW exOps).taken = [rb, rc, ra] ∧
    (run 1 cfgW exOps).q.mem = [] ∧ (run 1 cfgW exOps).q.dq.depth = 0 := by decide +kernel
example : (run 1 cfgW (exOps.take 3)).q.mem = [ra] ∧ (run 1 cfgW (exOps.take 3)).q.dq.depth = 2 ∧
    (run 1 cfgW (exOps.take 3)).q.dq.wf = 0 ∧ (run 1 cfgW (exOps.take 5)).q.dq.depth = 2 := by decide +kernel
-- `each_queue_is_fifo`, `invalid_size_put_drops`, `put_never_drops_partial`: a state with `Inv`, memory full
example : Inv (run 1 cfgW (exOps.take 3)).q [rb, rc] := by
  have hl := ledger_step (ledger_step (ledger_step (ledger_fresh cfgW cfgW_ok 1) (.put ra)) (.put rb)) (.put rc)
  have e : specDisk cfgW (stepRun cfgW (stepRun cfgW (fresh 1 cfgW) (.put ra)) (.put rb))
      (specDisk cfgW (stepRun cfgW (fresh 1 cfgW) (.put ra)) (specDisk cfgW (fresh 1 cfgW) [] (.put ra)) (.put rb))
      (.put rc) = [rb, rc] := by decide
  exact e ▸ hl.inv
example : ¬ (run 1 cfgW (exOps.take 3)).q.mem.length < (run 1 cfgW (exOps.take 3)).q.memCap ∧
    ¬ ValidRec (run 1 cfgW (exOps.take 3)).q.dq.cfg [] ∧ ValidRec (run 1 cfgW (exOps.take 3)).q.dq.cfg ra := by decide +kernel
-- `counters_refine_E2_run` on the example: the E2 counters computed alongside
example : (e2Run {} cfgW (fresh 1 cfgW) { memCap := 1 } (exOps.take 3)).memLen = 1 ∧
    (e2Run {} cfgW (fresh 1 cfgW) { memCap := 1 } (exOps.take 3)).dqLen = 2 ∧
    (e2Run {} cfgW (fresh 1 cfgW) { memCap := 1 } (exOps.take 4)).memLen = 1 ∧
    (e2Run {} cfgW (fresh 1 cfgW) { memCap := 1 } (exOps.take 4)).dqLen = 1 ∧
    (e2Run {} cfgW (fresh 1 cfgW) { memCap := 1 } (exOps.take 5)).memLen = 0 ∧
    (e2Run {} cfgW (fresh 1 cfgW) { memCap := 1 } (exOps.take 5)).dqLen = 2 ∧
    (e2Run {} cfgW (fresh 1 cfgW) { memCap := 1 } exOps).dqLen = 0 := by decide +kernel
-- `CntRel` / `Ledger` / `Clean` are satisfiable together (hypotheses of `counters_refine_E2`)
example : Ledger cfgW 1 (fresh 1 cfgW) [] [] ∧ Clean cfgW (fresh 1 cfgW) ∧ CntRel (fresh 1 cfgW).q [] { memCap := 1 } :=
  ⟨ledger_fresh cfgW cfgW_ok 1, fun b hb => absurd hb (by show ¬ b ∈ ([] : List Bytes); simp), rfl, rfl, rfl, rfl⟩
-- `mem_queue_size_zero_is_fifo`
example : (run 0 cfgW [.put ra, .put rb, .takeMem, .takeDisk, .restart, .put rc]).taken = [ra] ∧
    (run 0 cfgW [.put ra, .put rb, .takeMem, .takeDisk, .restart, .put rc]).accepted = [ra, rb, rc] := by decide +kernel
-- `queued_entries_are_the_records`: a reachable E2 channel (capacity 1, two puts) against the byte queue
example : Chan.nQueued (Chan.run {} { memCap := 1 } [.put 1, .put 2]).msgs = 2 ∧
    (Chan.run {} { memCap := 1 } [.put 1, .put 2]).memLen = 1 ∧ (Chan.run {} { memCap := 1 } [.put 1, .put 2]).dqLen = 1 := by decide +kernel

end Nsq.Props.C01DQ
