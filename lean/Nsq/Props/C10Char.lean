import Nsq.Props.C10
import Nsq.Model.HttpBody
import Nsq.Proofs.ProtoV2
/-!
# C10 — exact characterisations (docs/C10.md)

* §1–§3: for every admin endpoint, `/pub` and `/stats`, at the level of `handle` (TLS gate +
  router + handler): each (status, message) pair ↔ the exact condition on the request and the broker, the
  list of pairs is exhaustive, the broker after a 200 is an explicit expression, and nothing changes
  otherwise. The structures `TopicEndpoint`, `ChannelEndpoint`, `PubEndpoint` (`Nsq.Proofs.HttpChar`) hold
  these equivalences field by field. Router-level statuses (403, 405) are equivalences too (`router_status_iff` — the only place
  where 403 is covered: every `*_char`, `pub_char`, `stats_char` assumes `hc.tlsRefuse = false` and the exact method and
  path of its endpoint).
* §4: text `/mpub` — exact acceptance, exact divergence from binary `/mpub` / TCP `MPUB`, and the
  refutation of the literal clause "same size limits".
* §5: how many body bytes each handler reads; bounded for every handler after fix F33, unbounded
  before it (witness).
-/
namespace Nsq.Props.C10Char
open Nsq.Model.HttpApi Nsq.Model.HttpFull Nsq.Model.HttpBody Nsq.Model.ProtoV2 Nsq.Model.Names Nsq.Model.Base10 Nsq.Model
open Nsq.Proofs.HttpApi Nsq.Proofs.HttpDoc Nsq.Proofs.HttpApiEquiv Nsq.Proofs.HttpApiText Nsq.Proofs.HttpChar Nsq.Proofs.HttpTextDiv
open Nsq.Proofs.ProtoV2 Nsq.Proofs.Mpub

/-! ## 1. Topic endpoints: exact answers and exact effect -/

/-- `POST /topic/create`: the name is validated, the topic need not exist; 200 ⇒ broker = `getTopic b t`. -/
theorem topic_create_char (hc : HConf) (healthy : Bool) (b : Broker) (rq : Request)
    (htls : hc.tlsRefuse = false) (hat : At rq "POST" "/topic/create") :
    TopicEndpoint true false (fun t => getTopic b t) b rq (handle hc healthy b rq) := by
  rw [handle_at hc healthy b rq _ _ .createTopic htls hat route_topic_create]
  exact doCreateTopic_char b rq

/-- `POST /topic/empty`: 200 ⇒ the named topic's own queue is empty, everything else as before. -/
theorem topic_empty_char (hc : HConf) (healthy : Bool) (b : Broker) (rq : Request)
    (htls : hc.tlsRefuse = false) (hat : At rq "POST" "/topic/empty") :
    TopicEndpoint true true (fun t => modifyTopic b t (fun x => { x with msgs := [] })) b rq
      (handle hc healthy b rq) := by
  rw [handle_at hc healthy b rq _ _ .emptyTopic htls hat route_topic_empty]
  exact doEmptyTopic_char b rq

/-- `POST /topic/delete`: the raw name is looked up (no validation); 200 ⇒ broker = `deleteTopic b t`. -/
theorem topic_delete_char (hc : HConf) (healthy : Bool) (b : Broker) (rq : Request)
    (htls : hc.tlsRefuse = false) (hat : At rq "POST" "/topic/delete") :
    TopicEndpoint false true (fun t => deleteTopic b t) b rq (handle hc healthy b rq) := by
  rw [handle_at hc healthy b rq _ _ .deleteTopic htls hat route_topic_delete]
  exact doDeleteTopic_char b rq

/-- `POST /topic/pause`: 200 ⇒ the flag is set (and the pump settles). -/
theorem topic_pause_char (hc : HConf) (healthy : Bool) (b : Broker) (rq : Request)
    (htls : hc.tlsRefuse = false) (hat : At rq "POST" "/topic/pause") :
    TopicEndpoint false true (fun t => modifyTopic b t (fun x => settle { x with paused := true })) b rq
      (handle hc healthy b rq) := by
  rw [handle_at hc healthy b rq _ _ .pauseTopic htls hat route_topic_pause]
  exact doPauseTopic_char b rq (by rw [hat.2]; decide +kernel)

/-- `POST /topic/unpause`: 200 ⇒ the flag is cleared and the pump hands the pending messages on. -/
theorem topic_unpause_char (hc : HConf) (healthy : Bool) (b : Broker) (rq : Request)
    (htls : hc.tlsRefuse = false) (hat : At rq "POST" "/topic/unpause") :
    TopicEndpoint false true (fun t => modifyTopic b t (fun x => settle { x with paused := false })) b rq
      (handle hc healthy b rq) := by
  rw [handle_at hc healthy b rq _ _ .pauseTopic htls hat route_topic_unpause]
  exact doPauseTopic_char b rq (by rw [hat.2]; decide +kernel)

-- non-vacuity: every branch of the structure is inhabited
example : At ⟨ascii "POST", ascii "/topic/delete", ascii "topic=a", 0, []⟩ "POST" "/topic/delete" := ⟨rfl, rfl⟩
example : handle Examples.hconf true Examples.broker2 ⟨ascii "POST", ascii "/topic/delete", ascii "topic=a", 0, []⟩ =
    (⟨.s200, ""⟩, [{ name := ascii "b", paused := false, count := 0, msgs := [], chans := [] }]) := by
  rw [handle_of_route rfl route_topic_delete]; decide +kernel
example : (handle Examples.hconf true Examples.broker2 ⟨ascii "POST", ascii "/topic/delete", ascii "topic=zz", 0, []⟩).1 =
    ⟨.s404, "TOPIC_NOT_FOUND"⟩ := by
  rw [handle_of_route rfl route_topic_delete]; decide +kernel
example : (handle Examples.hconf true Examples.broker2 ⟨ascii "POST", ascii "/topic/empty", ascii "topic=%21", 0, []⟩).1 =
    ⟨.s400, "INVALID_TOPIC"⟩ := by
  rw [handle_of_route rfl route_topic_empty]; decide +kernel
example : (handle Examples.hconf true Examples.broker2 ⟨ascii "POST", ascii "/topic/empty", ascii "x=1", 0, []⟩).1 =
    ⟨.s400, "MISSING_ARG_TOPIC"⟩ := by
  rw [handle_of_route rfl route_topic_empty]; decide +kernel
example : (handle Examples.hconf true Examples.broker2 ⟨ascii "POST", ascii "/topic/empty", ascii "%zz", 0, []⟩).1 =
    ⟨.s400, "INVALID_REQUEST"⟩ := by
  rw [handle_of_route rfl route_topic_empty]; decide +kernel
example : arg ⟨ascii "POST", ascii "/topic/delete", ascii "topic=a&topic=b", 0, []⟩ kTopic = some (ascii "a") := by decide +kernel
-- a 400 for a good request is not admitted (`Documented` alone would admit it)
example : ¬ ((handle Examples.hconf true Examples.broker2
    ⟨ascii "POST", ascii "/topic/empty", ascii "topic=a", 0, []⟩).1.status = .s400) := by
  rw [handle_of_route rfl route_topic_empty]; decide +kernel

/-! ## 2. Channel endpoints -/

theorem channel_create_char (hc : HConf) (healthy : Bool) (b : Broker) (rq : Request)
    (htls : hc.tlsRefuse = false) (hat : At rq "POST" "/channel/create") :
    ChannelEndpoint false (fun t c => getChannel b t c) b rq (handle hc healthy b rq) := by
  rw [handle_at hc healthy b rq _ _ .createChannel htls hat route_channel_create]
  exact doCreateChannel_char b rq

theorem channel_delete_char (hc : HConf) (healthy : Bool) (b : Broker) (rq : Request)
    (htls : hc.tlsRefuse = false) (hat : At rq "POST" "/channel/delete") :
    ChannelEndpoint true (fun t c => deleteChannel b t c) b rq (handle hc healthy b rq) := by
  rw [handle_at hc healthy b rq _ _ .deleteChannel htls hat route_channel_delete]
  exact doDeleteChannel_char b rq

theorem channel_empty_char (hc : HConf) (healthy : Bool) (b : Broker) (rq : Request)
    (htls : hc.tlsRefuse = false) (hat : At rq "POST" "/channel/empty") :
    ChannelEndpoint true (fun t c => modifyChan b t c (fun x => { x with msgs := [] })) b rq
      (handle hc healthy b rq) := by
  rw [handle_at hc healthy b rq _ _ .emptyChannel htls hat route_channel_empty]
  exact doEmptyChannel_char b rq

theorem channel_pause_char (hc : HConf) (healthy : Bool) (b : Broker) (rq : Request)
    (htls : hc.tlsRefuse = false) (hat : At rq "POST" "/channel/pause") :
    ChannelEndpoint true (fun t c => modifyChan b t c (fun x => { x with paused := true })) b rq
      (handle hc healthy b rq) := by
  rw [handle_at hc healthy b rq _ _ .pauseChannel htls hat route_channel_pause]
  exact doPauseChannel_char b rq (by rw [hat.2]; decide +kernel)

theorem channel_unpause_char (hc : HConf) (healthy : Bool) (b : Broker) (rq : Request)
    (htls : hc.tlsRefuse = false) (hat : At rq "POST" "/channel/unpause") :
    ChannelEndpoint true (fun t c => modifyChan b t c (fun x => { x with paused := false })) b rq
      (handle hc healthy b rq) := by
  rw [handle_at hc healthy b rq _ _ .pauseChannel htls hat route_channel_unpause]
  exact doPauseChannel_char b rq (by rw [hat.2]; decide +kernel)

def brokerAC : Broker :=
  [{ name := ascii "a", paused := false, count := 0, msgs := [],
     chans := [{ name := ascii "c", paused := false, clients := 0, msgs := [⟨[1], 0⟩] }] }]

def brokerACEmptied : Broker :=
  [{ name := ascii "a", paused := false, count := 0, msgs := [],
     chans := [{ name := ascii "c", paused := false, clients := 0, msgs := [] }] }]

example : handle Examples.hconf true brokerAC ⟨ascii "POST", ascii "/channel/empty", ascii "topic=a&channel=c", 0, []⟩ =
    (⟨.s200, ""⟩, brokerACEmptied) := by
  rw [handle_of_route rfl route_channel_empty]; decide +kernel
example : (handle Examples.hconf true brokerAC ⟨ascii "POST", ascii "/channel/pause", ascii "topic=a&channel=d", 0, []⟩).1 =
    ⟨.s404, "CHANNEL_NOT_FOUND"⟩ := by
  rw [handle_of_route rfl route_channel_pause]; decide +kernel
example : (handle Examples.hconf true brokerAC ⟨ascii "POST", ascii "/channel/pause", ascii "topic=b&channel=c", 0, []⟩).1 =
    ⟨.s404, "TOPIC_NOT_FOUND"⟩ := by
  rw [handle_of_route rfl route_channel_pause]; decide +kernel
example : (handle Examples.hconf true brokerAC ⟨ascii "POST", ascii "/channel/pause", ascii "topic=a", 0, []⟩).1 =
    ⟨.s400, "MISSING_ARG_CHANNEL"⟩ := by
  rw [handle_of_route rfl route_channel_pause]; decide +kernel
example : (handle Examples.hconf true brokerAC ⟨ascii "POST", ascii "/channel/pause", ascii "topic=a&channel=%21", 0, []⟩).1 =
    ⟨.s400, "INVALID_ARG_CHANNEL"⟩ := by
  rw [handle_of_route rfl route_channel_pause]; decide +kernel
example : GoodNames ⟨ascii "POST", ascii "/channel/pause", ascii "topic=a&channel=c", 0, []⟩ (ascii "a") (ascii "c") :=
  ⟨by decide +kernel, by decide +kernel, by decide +kernel, by decide +kernel⟩

/-! ## 3. `/pub`, `/stats`, the router and the 500 -/

theorem pub_char (hc : HConf) (healthy : Bool) (b : Broker) (rq : Request)
    (htls : hc.tlsRefuse = false) (hat : At rq "POST" "/pub") :
    PubEndpoint hc b rq (handle hc healthy b rq) := by
  rw [handle_at hc healthy b rq _ _ .pub htls hat route_pub]
  exact doPUB_char hc b rq

/-- Which delays `/pub` accepts, exactly. -/
theorem pub_defer_exact (hc : HConf) (rq : Request) (ns : Int) :
    deferNs hc rq = some ns ↔ ¬ QueryBad rq ∧
      ((arg rq kDefer = none ∧ ns = 0) ∨
       ∃ d di, arg rq kDefer = some d ∧ parseInt64 d = some di ∧ 0 ≤ di ∧ di ≤ hc.maxReqTimeoutMs ∧
         ns = di * 1000000) := by
  unfold deferNs QueryBad arg
  cases hq : parseQuery rq.rawQuery with
  | none => simp
  | some kv =>
    unfold deferArg
    cases hd : qget kv kDefer with
    | none => simp [hd, eq_comm]
    | some d =>
      cases hp : parseInt64 d with
      | none => simp [hd, hp]
      | some di =>
        simp [hd, hp, and_assoc, eq_comm]

theorem stats_char (hc : HConf) (healthy : Bool) (b : Broker) (rq : Request)
    (htls : hc.tlsRefuse = false) (hat : At rq "GET" "/stats") :
    (handle hc healthy b rq = (⟨.s400, "INVALID_REQUEST"⟩, b) ↔ QueryBad rq) ∧
    (handle hc healthy b rq = (⟨.s200, "*"⟩, b) ↔ ¬ QueryBad rq) := by
  rw [handle_at hc healthy b rq _ _ .stats htls hat route_stats]
  exact doStats_char b rq

/-- 403 exactly when TLS is required and absent; 405 exactly when the path is registered for other
methods only (and the method is not OPTIONS). -/
theorem router_status_iff (hc : HConf) (healthy : Bool) (b : Broker) (rq : Request) :
    ((handle hc healthy b rq).1.status = .s403 ↔ hc.tlsRefuse = true) ∧
    ((handle hc healthy b rq).1.status = .s405 ↔
      hc.tlsRefuse = false ∧ route rq.method rq.path = .methodNotAllowed) := by
  have hd := Nsq.Props.C10.status_documented hc healthy b rq
  constructor
  · constructor
    · exact hd.s403
    · intro h; simp [handle, h, resp]
  · constructor
    · intro h
      refine ⟨?_, hd.s405 h⟩
      cases ht : hc.tlsRefuse
      · rfl
      · simp [handle, ht, resp] at h
    · intro ⟨h1, h2⟩; simp [handle, h1, h2, resp]

/-- No request is answered 500 BY THE MODEL while the daemon is healthy (the model has no read-error branch at all, so
the statement holds for every model request and coincides with `C10.no_500`).  `Complete rq` (declared length = bytes that arrive, or
chunked; examples below) remains the NAMED EXCLUSION under which this model statement is claimed of the real server: the
real `/pub`, text `/mpub` and `PUT /config` answer 500 INTERNAL_ERROR when the body stops short of Content-Length
(nsqd/http.go, the `io.ReadAll` / `ReadBytes` error returns) — observed on the listener by the harness (`interrupted:*`
histogram), not modelled. -/
theorem no_500_complete (hc : HConf) (b : Broker) (rq : Request) :
    (handle hc true b rq).1.status ≠ .s500 :=
  Nsq.Props.C10.no_500 hc b rq

example : Complete ⟨ascii "POST", ascii "/pub", ascii "topic=t", 3, [1, 2, 3]⟩ := Or.inl rfl
example : ¬ Complete ⟨ascii "POST", ascii "/pub", ascii "topic=t", 5, [1, 2, 3]⟩ := by
  unfold Complete; simp
example : (handle Examples.hconf true [] ⟨ascii "POST", ascii "/pub", ascii "topic=t&defer=90000", 3, [1, 2, 3]⟩) =
    (⟨.s200, "OK"⟩, publish [] (ascii "t") [⟨[1, 2, 3], 90000000000⟩]) := by
  rw [handle_of_route rfl route_pub]; decide +kernel
example : (handle Examples.hconf true [] ⟨ascii "POST", ascii "/pub", ascii "topic=t&defer=90001", 3, [1, 2, 3]⟩) =
    (⟨.s400, "INVALID_DEFER"⟩, getTopic [] (ascii "t")) := by
  rw [handle_of_route rfl route_pub]; decide +kernel
example : deferNs Examples.hconf ⟨ascii "POST", ascii "/pub", ascii "topic=t&defer=7", 3, [1, 2, 3]⟩ = some 7000000 := by decide +kernel
example : (handle { Examples.hconf with tlsRefuse := true } true [] ⟨ascii "GET", ascii "/ping", [], 0, []⟩).1.status = .s403 := by
  decide +kernel
example : route (ascii "GET") (ascii "/pub") = .methodNotAllowed := by decide +kernel

/-! ## 4. Text `/mpub` against binary `/mpub` / TCP `MPUB` -/

/-- **Exact acceptance of text mode.** With a valid topic, text mode and a declared length not above
max-body-size: 200 ⇔ the body is within max-body-size and every non-empty line within max-msg-size; the
queue then receives exactly the non-empty lines; otherwise 413 (`MSG_TOO_BIG` or `BODY_TOO_BIG`) with
the topic created and nothing enqueued. -/
theorem mpub_text_exact (hc : HConf) (h0 : 0 ≤ hc.maxBodySize) (b : Broker) (rq : Request) (kv : List (Bytes × Bytes))
    (t : Bytes) (hq : parseQuery rq.rawQuery = some kv) (ht : qget kv kTopic = some t)
    (htext : binaryMode kv = false) (hv : isValidName t = true) (hcl : ¬ rq.contentLength > hc.maxBodySize) :
    ((doMPUB hc b rq).1.status = .s200 ↔ TextAccepts hc rq.body) ∧
    (TextAccepts hc rq.body → doMPUB hc b rq = (⟨.s200, "OK"⟩, publish b t (toMsgs (Mpub.textBlocks rq.body)))) ∧
    (¬ TextAccepts hc rq.body → (doMPUB hc b rq).1.status = .s413 ∧ (doMPUB hc b rq).2 = getTopic b t ∧
      ((doMPUB hc b rq).1.msg = "MSG_TOO_BIG" ∨ (doMPUB hc b rq).1.msg = "BODY_TOO_BIG")) :=
  doMPUB_text_iff hc h0 b rq kv t hq ht htext hv hcl

/-- **Exact divergence, direction 1**: a body text mode accepts is accepted by TCP `MPUB` (= binary
`/mpub`) of its lines exactly when there is at least one line, at most (max-body-size − 4)/5 of them, and
the framed batch (4 + Σ (4 + len)) fits max-body-size. In every other case text answers 200 and TCP
answers `E_BAD_BODY`. When both accept, the queues are identical. -/
theorem mpub_text_vs_tcp (conf : Conf) (hc : HConf) (hl : Linked conf hc) (s : ConnState) (b : Broker)
    (cmd t : Bytes) (tl : List Bytes) (body : Bytes) (hv : isValidName t = true)
    (hacc : TextAccepts hc body) (hlen : (Mpub.encode (Mpub.textBlocks body)).length < 2147483648) :
    let ms := Mpub.textBlocks body
    let tcp := mpub conf s b (cmd :: t :: tl) (mwire (Mpub.encode ms))
    (tcp.reply = some .ok ↔
      ms ≠ [] ∧ (ms.length : Int) ≤ Mpub.maxMessages conf.maxBodySize ∧
        ((Mpub.encode ms).length : Int) ≤ conf.maxBodySize) ∧
    (tcp.reply = some .ok → tcp.broker = publish b t (toMsgs ms)) ∧
    (tcp.reply ≠ some .ok → tcp.reply = some (.err .E_BAD_BODY)) := by
  intro ms tcp
  have heach : ∀ m ∈ ms, BodyOk conf.maxMsgSize m := by
    intro m hm
    refine ⟨textBlocks_nonempty body m hm, ?_⟩
    rw [← hl.msg]; exact hacc.lines m hm
  by_cases hgood : ms ≠ [] ∧ (ms.length : Int) ≤ Mpub.maxMessages conf.maxBodySize ∧
      ((Mpub.encode ms).length : Int) ≤ conf.maxBodySize
  · have hacc' := tcp_accepts conf s b cmd t tl ms hl.auth hv hlen ⟨hgood.1, heach, hgood.2.1, hgood.2.2⟩
    exact ⟨⟨fun _ => hgood, fun _ => hacc'.1⟩, fun _ => hacc'.2, fun h => absurd hacc'.1 h⟩
  · have href := tcp_refuses conf s b cmd t tl ms hl.auth hv hlen hgood
    have hno : tcp.reply ≠ some .ok := fun h => nomatch href.symm.trans h
    exact ⟨⟨fun h => absurd h hno, fun h => absurd h hgood⟩, fun h => absurd h hno, fun _ => href⟩

/-- **Exact divergence, direction 2**: a batch TCP accepts is refused by text mode exactly when the text
body (lines plus any number of empty lines / newlines) is longer than max-body-size. -/
theorem mpub_tcp_vs_text (conf : Conf) (hc : HConf) (hl : Linked conf hc) (h0 : 0 ≤ hc.maxBodySize) (b : Broker)
    (rq : Request) (kv : List (Bytes × Bytes)) (t : Bytes)
    (hq : parseQuery rq.rawQuery = some kv) (ht : qget kv kTopic = some t)
    (htext : binaryMode kv = false) (hv : isValidName t = true) (hcl : ¬ rq.contentLength > hc.maxBodySize)
    (hbin : BinAccepts conf (Mpub.textBlocks rq.body)) :
    ((doMPUB hc b rq).1.status = .s200 ↔ (rq.body.length : Int) ≤ hc.maxBodySize) := by
  rw [(doMPUB_text_iff hc h0 b rq kv t hq ht htext hv hcl).1]
  constructor
  · exact fun h => h.size
  · intro h
    exact ⟨h, fun l hl' => by rw [hl.msg]; exact (hbin.each l hl').2⟩

/-- The literal clause "text /mpub and TCP MPUB apply the same size limits": whenever one accepts a
list of messages, so does the other. -/
def SameLimitsText : Prop :=
  ∀ (conf : Conf) (hc : HConf), Linked conf hc → ∀ (body : Bytes),
    ((doMPUB hc [] ⟨ascii "POST", ascii "/mpub", ascii "topic=t", body.length, body⟩).1.status = .s200 ↔
     (mpub conf Examples.conn [] [ascii "MPUB", ascii "t"] (mwire (Mpub.encode (Mpub.textBlocks body)))).reply = some .ok)

def conf20 : Conf := { Nsq.Proofs.ProtoV2.Examples.conf with maxBodySize := 20 }

theorem linked20 : Linked conf20 Examples.hconf := ⟨rfl, rfl, by decide +kernel, rfl, by decide +kernel, by decide +kernel, by decide +kernel⟩

/-- ten one-byte lines: 19 bytes of text, 54 bytes framed -/
def tenLines : Bytes := [97, 10, 97, 10, 97, 10, 97, 10, 97, 10, 97, 10, 97, 10, 97, 10, 97, 10, 97]

/-- … and it is false: under max-body-size 20, ten one-byte lines (19 bytes) are accepted by text mode
and refused by TCP MPUB (count 10 > (20 − 4)/5 = 3; 54 framed bytes > 20). This is the line-oriented
format's design, documented, not repaired. -/
theorem same_limits_text_full_false : ¬ SameLimitsText := by
  intro h
  have h1 := (h conf20 Examples.hconf linked20 tenLines).mp (by decide +kernel)
  have h2 := tcp_refuses conf20 Examples.conn [] (ascii "MPUB") (ascii "t") [] (Mpub.textBlocks tenLines) rfl
    (by decide +kernel) (by decide +kernel) (fun h => absurd h.2.1 (by decide +kernel))
  rw [h2] at h1
  cases h1

example : Mpub.textBlocks tenLines = List.replicate 10 [97] := by decide +kernel
example : TextAccepts Examples.hconf tenLines := ⟨by decide +kernel, by decide +kernel⟩
-- the empty body: text answers 200 and publishes nothing, TCP refuses an empty batch
example : doMPUB Examples.hconf [] ⟨ascii "POST", ascii "/mpub", ascii "topic=t", 0, []⟩ =
    (⟨.s200, "OK"⟩, publish [] (ascii "t") []) := by decide +kernel
example : (mpub conf20 Examples.conn [] [ascii "MPUB", ascii "t"] (mwire (Mpub.encode []))).reply =
    some (.err .E_BAD_BODY) :=
  tcp_refuses conf20 Examples.conn [] (ascii "MPUB") (ascii "t") [] [] rfl (by decide +kernel) (by decide +kernel) (fun h => h.1 rfl)
-- direction 2: one message padded with newlines beyond max-body-size
example : (doMPUB Examples.hconf [] ⟨ascii "POST", ascii "/mpub", ascii "topic=t", 21,
    97 :: List.replicate 20 10⟩).1 = ⟨.s413, "BODY_TOO_BIG"⟩ := by decide +kernel
example : Mpub.textBlocks (97 :: List.replicate 20 10) = [[97]] := by decide +kernel
example : BinAccepts conf20 [[97]] :=
  ⟨by decide +kernel, fun m hm => by simp at hm; subst hm; exact ⟨by decide +kernel, by decide +kernel⟩, by decide +kernel, by decide +kernel⟩

/-! ## 5. How much of the body a handler reads (fix F33) -/

theorem handlerRead_within (hc : HConf) (rq : Request) (name : String) :
    (handlerRead false hc rq name).within (readLimit hc) := by
  have hcut (n : Nat) (k : Int) (h : k ≤ max hc.maxMsgSize hc.maxBodySize + 1) :
      min n k.toNat ≤ (max hc.maxMsgSize hc.maxBodySize + 1).toNat := by omega
  unfold handlerRead readLimit
  simp only [Bool.false_and, Bool.false_eq_true, if_false]
  -- each leaf reads 0 bytes or `min |body| k` with k one of the three cuts
  repeat' split
  all_goals first
    | exact Nat.zero_le _
    | exact hcut _ _ (by omega)

/-- After F33 no handler of nsqd's own reads more than max(max-msg-size, max-body-size)+1 bytes of the
request body, whatever the request. -/
theorem body_read_bounded (hc : HConf) (rq : Request) : (bodyRead hc rq).within (readLimit hc) := by
  unfold bodyRead readOf
  split
  · exact Nat.zero_le _
  · split
    · split
      · trivial
      · exact handlerRead_within hc rq _
    all_goals exact Nat.zero_le _

/-- The admin endpoints and `/stats` read nothing of the body: their answer cannot depend on it. -/
theorem admin_reads_no_body (hc : HConf) (rq : Request) (name : String) (d : Deco)
    (htls : hc.tlsRefuse = false) (hr : routeFull rq.method rq.path = .handler name d) (hd : d ≠ .raw)
    (hn : name ≠ "doPUB" ∧ name ≠ "doMPUB" ∧ name ≠ "doConfig") :
    bodyRead hc rq = .exact 0 := by
  unfold bodyRead readOf
  simp only [htls, Bool.false_eq_true, if_false, hr, hd, handlerRead, hn.1, hn.2.1, hn.2.2]
  split <;> simp

/-- … and their model answer is indeed independent of body and declared length. -/
theorem admin_answer_ignores_body (hc : HConf) (healthy : Bool) (b : Broker) (rq : Request) (cl : Int) (body : Bytes)
    (h : Handler) (hadmin : h ≠ .pub ∧ h ≠ .mpub ∧ h ≠ .config) :
    runHandler hc healthy b { rq with contentLength := cl, body := body } h = runHandler hc healthy b rq h := by
  -- the three excluded handlers contradict `hadmin`; every other handler does not mention body or length
  cases h <;> first | rfl | simp at hadmin

theorem pause_read_old : bodyReadOld Examples.hconf
    ⟨ascii "POST", ascii "/topic/pause", ascii "topic=t", 100, List.replicate 100 120⟩ = .exact 100 := by
  decide +kernel

/-- Before F33 the bound was false: a `POST /topic/pause?topic=t` with a body of any length had all of it
read into memory (`io.ReadAll` in `http_api.NewReqParams`). -/
theorem body_read_bounded_false_before_F33 :
    ¬ ∀ (hc : HConf) (rq : Request), (bodyReadOld hc rq).within (readLimit hc) :=
  fun h => absurd (pause_read_old ▸ h Examples.hconf _) (by decide +kernel)

example : bodyRead Examples.hconf ⟨ascii "POST", ascii "/topic/pause", ascii "topic=t", 100, List.replicate 100 120⟩ = .exact 0 := by
  decide +kernel
example : bodyReadOld Examples.hconf ⟨ascii "POST", ascii "/topic/pause", ascii "topic=t", 100, List.replicate 100 120⟩ = .exact 100 :=
  pause_read_old
example : bodyRead Examples.hconf ⟨ascii "POST", ascii "/pub", ascii "topic=t", -1, List.replicate 100 120⟩ = .exact 9 := by
  decide +kernel
example : bodyRead Examples.hconf ⟨ascii "POST", ascii "/mpub", ascii "topic=t", -1, List.replicate 100 120⟩ = .atMost 21 := by
  decide +kernel
example : readLimit Examples.hconf = 21 := by decide +kernel
example : routeFull (ascii "GET") (ascii "/stats") = .handler "doStats" .v1 := by decide +kernel

end Nsq.Props.C10Char
