/-
C13.3 / C13.4 — `in_flight_count` with every counter window split.

`C13.inflight_exact_full` is over the channel model with the FIN and pump windows split. Here, on the counter model
`Nsq.Model.ClientWindows` (one consumer; each of SendingMessage | StartInFlightTimeout, pop | FinishedMessage /
RequeuedMessage / TimedOutMessage, initPQ | Discarded is two steps), for EVERY schedule:
* `inflight_exact_all_windows` — `in_flight_count = held in the map + popped-not-yet-decremented + counted-not-yet-
  registered + dropped-not-yet-discarded`; `nonneg_all_windows` — hence never negative; `quiescent_exact` — with no
  operation inside a window it is exactly the number of messages held;
* `exact_false_store_zero` / `exact_false_register_first` — both pre-F13 shapes reach −1 (F8 and its REQ / scan twins).
Tie: the order facts `Tie.Chan.pumpDeliver_eq` (count first), `finOrder_eq`, `requeueMessage_eq` + REQ's
`RequeuedMessage` after `RequeueMessage` (`answerErrs_eq`), `scanInFlight_eq` (`TimedOutMessage` after the pop),
`chanEmpty_eq` / `initPQDropped_eq` / `clientDiscarded_eq`, translated `Tie.ChanFunc.clFinished_eq … clDiscarded_eq`;
replays on the real code on every run: `corpus/C13/fixed/f8_fin_empty.ops` (FIN window), `corpus/C13/req_empty_window.ops`
(REQ window, hook `proto.req.beforeClientCount`), `corpus/C02/fin_vs_scan.ops`; the concurrent leg's `conc-negative`.
-/
import Nsq.Model.ClientWindows
namespace Nsq.Props.C13Windows
open Nsq.Model.ClientWindows

def Exact (s : St) : Prop := s.cnt = (s.held : Int) + s.pendDec + s.pendSend + s.pendDisc

theorem step_exact (s : St) (h : Exact s) (op : Op) : Exact (step true true s op).1 := by
  unfold Exact at *
  cases op
  · simp only [step, ↓reduceIte]; omega
  · simp only [step]
    split
    · exact h
    · rename_i hp
      have : s.pendSend ≠ 0 := by simpa using hp
      simp only [↓reduceIte]; omega
  · simp only [step]
    split
    · exact h
    · rename_i hp
      have : s.held ≠ 0 := by simpa using hp
      show s.cnt = ((s.held - 1 : Nat) : Int) + ((s.pendDec + 1 : Nat) : Int) + s.pendSend + s.pendDisc
      omega
  · simp only [step]
    split
    · exact h
    · rename_i hp
      have : s.pendDec ≠ 0 := by simpa using hp
      show s.cnt - 1 = (s.held : Int) + ((s.pendDec - 1 : Nat) : Int) + s.pendSend + s.pendDisc
      omega
  · show s.cnt = ((0 : Nat) : Int) + s.pendDec + s.pendSend + ((s.pendDisc + s.held : Nat) : Int)
    omega
  · show s.cnt - s.pendDisc = (s.held : Int) + s.pendDec + s.pendSend + ((0 : Nat) : Int)
    omega

/-- **every window split, every schedule**: the counter is exactly what is held plus what is inside a window -/
theorem inflight_exact_all_windows (ops : List Op) : Exact (run true true {} ops) := by
  suffices h : ∀ s, Exact s → Exact (run true true s ops) from h {} (by simp [Exact])
  induction ops with
  | nil => exact fun s h => h
  | cons op ops ih => exact fun s h => ih _ (step_exact s h op)

theorem nonneg_all_windows (ops : List Op) : 0 ≤ (run true true {} ops).cnt := by
  have := inflight_exact_all_windows ops
  unfold Exact at this; omega

theorem quiescent_exact (ops : List Op) (h1 : (run true true {} ops).pendDec = 0)
    (h2 : (run true true {} ops).pendSend = 0) (h3 : (run true true {} ops).pendDisc = 0) :
    (run true true {} ops).cnt = (run true true {} ops).held := by
  have := inflight_exact_all_windows ops
  unfold Exact at this; omega

/-- the full statement, per code shape -/
def NonNegFull (countFirst subtract : Bool) : Prop := ∀ ops, 0 ≤ (run countFirst subtract {} ops).cnt

theorem nonneg_full_fixed : NonNegFull true true := nonneg_all_windows

/-- pre-F13 `client.Empty()` (store 0): an answer (FIN, REQ or the scan alike) parked between its pop and its
decrement, `Channel.Empty` in between → −1 -/
theorem exact_false_store_zero : ¬ NonNegFull true false := by
  intro h
  exact absurd (h [.sendFirst, .sendSecond, .pop, .emptyDrop, .emptyDisc, .dec]) (by decide)

/-- pre-F13 order of the pump (register, then count) with the subtracting Empty: the message is dropped and
subtracted before it was counted → −1 for a moment -/
theorem exact_false_register_first : ¬ NonNegFull false true := by
  intro h
  exact absurd (h [.sendFirst, .emptyDrop, .emptyDisc]) (by decide)

/-! non-vacuity: the REQ-window schedule of `corpus/C13/req_empty_window.ops` (two held, one REQ parked, Empty, release) -/
def reqWin : List Op := [.sendFirst, .sendSecond, .sendFirst, .sendSecond, .pop, .emptyDrop, .emptyDisc, .dec]
example : (run true true {} reqWin) = { held := 0, cnt := 0, pendDec := 0, pendSend := 0, pendDisc := 0 } := by decide
example : (run true true {} (reqWin.take 7)).cnt = 1 ∧ (run true true {} (reqWin.take 7)).pendDec = 1 := by decide
example : (run true false {} reqWin).cnt = -1 := by decide
example : (run true true {} reqWin).cnt = (run true true {} reqWin).held :=
  quiescent_exact reqWin (by decide) (by decide) (by decide)

end Nsq.Props.C13Windows
