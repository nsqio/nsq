import Nsq.Proofs.AdminGate
import Nsq.Proofs.AdminFanout
import Nsq.Tie.AdminGate
import Nsq.Proofs.AdminProg
import Nsq.Tie.AdminProg
import Nsq.Proofs.AdminReach
/-!
# C17 — nsqadmin state-changing actions require an admin identity

Property theorems only. They quantify over the route table and the handler skeletons that
`tools/go2lean` (kind `adminroutes`) regenerates from `nsqadmin/http.go` on every run
(`Nsq.Gen.AdminRoutes.adminRoutes / adminHandlers`), over every configuration, every request and
every behaviour of the upstreams (`Env`). The decidable judgements on the finite table (one `Verdict` per route,
`Nsq.Proofs.AdminSweep` in `Nsq.Tie.AdminGate`) are lifted to all requests by the interpreter lemmas of
`Nsq.Proofs.AdminGate` / `AdminFanout` / `AdminNotify` / `AdminReach`; the statements about what a `ClusterInfo`
action sends rest on `Nsq.Proofs.AdminProg` (programs proved equal to the regenerated ones in `Nsq.Tie.AdminProg`).
-/
namespace Nsq.Props.C17
open Nsq.Model.AdminGate Nsq.Proofs.AdminGate Nsq.Proofs.AdminFanout Nsq.Tie.AdminGate
open Nsq.Gen.AdminRoutes Nsq.Proofs.AdminReach

/-- **mutating_guarded.** Every POST / PUT / DELETE route below `/api` in the regenerated table
has a handler skeleton, and for every configuration, request and upstream behaviour: a request
without an admin identity is answered 403 and performs *nothing* — no upstream call, no
notification, not even a read of the request body. -/
theorem mutating_guarded (r : Route) (hr : r ∈ adminRoutes) (hm : r.mutating = true) :
    ∃ sk, skelOf r = some sk ∧
      ∀ env : Env, isAdmin env.conf env.req = false → run env sk = (403, []) := by
  obtain ⟨sk, hs, v⟩ := Proofs.AdminSweep.resolved hr
  exact ⟨sk, hs, fun env hna => guarded_run env sk (v.1 hm).1 hna⟩

example : ∃ r ∈ adminRoutes, r.mutating = true ∧ r.method = "DELETE" := by decide +kernel

/-- Non-vacuity: a configuration with admins and a request of somebody else. -/
def sampleEnv (users : List String) (hdrs : List (String × String)) : Env :=
  { conf := { adminUsers := users, aclHeader := "X-Forwarded-User", cidrSet := true,
              lookupdMode := true, notifyOn := false },
    req := { method := "POST", headers := hdrs, action := "empty", opt := "",
             nonEmptyParams := ["topic", "channel"], nonEmptyBody := [] },
    inNet := false, bodyOk := true, upstreamErr := fun _ _ => .none,
    localErr := fun _ _ => false, otherCond := fun _ => false }

example : isAdmin (sampleEnv ["alice"] [("X-Forwarded-User", "mallory")]).conf
    (sampleEnv ["alice"] [("X-Forwarded-User", "mallory")]).req = false := by decide +kernel

/-- **isAdmin_exact.** The check is exact string equality between the first value of the
configured ACL header and one of the configured admin users; with no admin list everyone is an
admin. (`isAdmin` is the regenerated `isAuthorizedAdminRequest`: `Tie.AdminGate.isAuthorized_eq`.) -/
theorem isAdmin_exact (conf : Conf) (req : Req) :
    isAuthorizedAdminRequest conf req = true ↔
      conf.adminUsers = [] ∨ headerGet req.headers conf.aclHeader ∈ conf.adminUsers := by
  rw [isAuthorized_eq]; exact isAdmin_iff conf req

/-- No look-alike passes: an identity that is not literally in the (non-empty) admin list is
refused — whatever its case, surrounding whitespace, or prefix/suffix relation to an admin
name; an absent header reads as the empty string and is refused unless "" is listed. -/
theorem isAdmin_no_lookalike (conf : Conf) (req : Req) (hne : conf.adminUsers ≠ [])
    (hnot : headerGet req.headers conf.aclHeader ∉ conf.adminUsers) :
    isAuthorizedAdminRequest conf req = false := by
  cases h : isAuthorizedAdminRequest conf req with
  | false => rfl
  | true => rcases (isAdmin_exact conf req).1 h with h1 | h1 <;> contradiction

example : isAdmin { adminUsers := ["alice"], aclHeader := "x-forwarded-user", cidrSet := false,
                    lookupdMode := true, notifyOn := false }
    { method := "POST", headers := [("X-Forwarded-User", "alice")], action := "", opt := "",
      nonEmptyParams := [], nonEmptyBody := [] } = true := by decide +kernel
example : isAdmin { adminUsers := ["alice"], aclHeader := "X-Forwarded-User", cidrSet := false,
                    lookupdMode := true, notifyOn := false }
    { method := "POST", headers := [("X-Forwarded-User", "Alice")], action := "", opt := "",
      nonEmptyParams := [], nonEmptyBody := [] } = false := by decide +kernel
example : isAdmin { adminUsers := ["alice"], aclHeader := "X-Forwarded-User", cidrSet := false,
                    lookupdMode := true, notifyOn := false }
    { method := "POST", headers := [("X-Forwarded-User", "alice ")], action := "", opt := "",
      nonEmptyParams := [], nonEmptyBody := [] } = false := by decide +kernel

/-- **readonly_open.** No GET view below `/api` (and no page / static route) consults the admin
check for its answer: status and upstream calls are the same for every identity, admin list and
ACL header name. -/
theorem readonly_open (r : Route) (hr : r ∈ adminRoutes)
    (hv : Route.apiView r = true ∨ Route.page r = true) :
    ∃ sk, skelOf r = some sk ∧
      ∀ (env : Env) (users : List String) (hdr : String) (hs : List (String × String)),
        run (withIdentity env users hdr hs) sk = run env sk := by
  obtain ⟨sk, h1, v⟩ := Proofs.AdminSweep.resolved hr
  exact ⟨sk, h1, fun env users hdr hs => authFree_runSt env users hdr hs sk {} (v.2.1 hv)⟩

example : (adminRoutes.filter Route.apiView).length = 7 := by decide +kernel

/-- **config_cidr.** With an allowed CIDR configured, `GET` and `PUT /config/:opt` from a
client address outside the network are refused with a 4xx and nothing happens: the body is not
read, the configuration is not written, no upstream is called. -/
theorem config_cidr (r : Route) (hr : r ∈ adminRoutes) (hc : r.isConfig = true) :
    ∃ sk, skelOf r = some sk ∧
      ∀ env : Env, env.conf.cidrSet = true → env.inNet = false →
        (400 ≤ (run env sk).1 ∧ (run env sk).1 < 500) ∧ (run env sk).2 = [] := by
  obtain ⟨sk, hs, v⟩ := Proofs.AdminSweep.resolved hr
  exact ⟨sk, hs, fun env h1 h2 => cidrGuarded_run env sk (v.2.2.1 hc) h1 h2⟩

/-- … and the status is exactly 403 whenever the client address parses (`net.SplitHostPort`
and `net.ParseIP` succeed), for GET and PUT alike. -/
theorem config_cidr_403 (env : Env) (hset : env.conf.cidrSet = true) (hout : env.inNet = false)
    (hsplit : env.localErr "net.SplitHostPort" 0 = false) (hip : env.otherCond "ip == nil" = false) :
    run env adminSkel_doConfig = (403, []) := by
  simp [run, runSt, adminSkel_doConfig, evalCond, doEff, hset, hout, hsplit, hip]

example : (run (sampleEnv [] []) adminSkel_doConfig) = (403, []) := by decide +kernel

/-- Without a configured CIDR the gate is open (this is what the code does; the property only
speaks about a configured CIDR): a PUT of a known option is carried out. -/
example : (run { sampleEnv [] [] with
    conf := { adminUsers := [], aclHeader := "", cidrSet := false, lookupdMode := true, notifyOn := false },
    req := { method := "PUT", headers := [], action := "", opt := "log_level",
             nonEmptyParams := ["opt"], nonEmptyBody := [] } } adminSkel_doConfig)
    = (200, [.bodyRead, .configWrite]) := by decide +kernel

/-- **admin_fanout (handler level).** For every mutating route and every request that gets past
the gate to an answer 200 or 502, the handler performs exactly one `ClusterInfo` action — the
one the table `expectedAction` lists for (handler, body action, channel parameter); any other
answer (400/403) performs none. What that action sends to which nsqlookupd / nsqd is
`fanout_exactly_once` / `fanout_producers` below. -/
theorem admin_fanout (r : Route) (hr : r ∈ adminRoutes) (hm : r.mutating = true) :
    ∃ sk, skelOf r = some sk ∧ ∀ env : Env,
      (((run env sk).1 = 200 ∨ (run env sk).1 = 502) →
        upstreamObs (run env sk).2 =
          [expectedAction r.handler env.req.action (env.req.nonEmptyParams.contains "channel")]) ∧
      (¬((run env sk).1 = 200 ∨ (run env sk).1 = 502) → upstreamObs (run env sk).2 = []) := by
  obtain ⟨sk, hs, v⟩ := Proofs.AdminSweep.resolved hr
  exact ⟨sk, hs, fun env => fanout_lift r.handler sk (v.1 hm).2.2.2.1 env⟩

/-- Non-vacuity: an admin emptying a channel reaches `EmptyChannel` and is answered 200. -/
example : run (sampleEnv ["alice"] [("X-Forwarded-User", "alice")]) adminSkel_channelActionHandler
    = (200, [.bodyRead, .upstream "EmptyChannel"]) := by decide +kernel
example : run (sampleEnv [] []) adminSkel_channelActionHandler
    = (200, [.bodyRead, .upstream "EmptyChannel"]) := by decide +kernel
example : run (sampleEnv ["alice"] []) adminSkel_channelActionHandler = (403, []) := by decide +kernel

/-- **state_change_requires_admin.** State-changing is defined by what a handler *does*, not by the method
it is registered under: for every route of the regenerated table — GET routes included — and every
environment, a run that shows a write to the outside (an upstream call that can send a non-GET request
according to the regenerated classification `upstreamWrites`, a notification, a configuration write) belongs
to a `/config` route (CIDR gate: `config_cidr`), to the graphite proxy, or was made with an admin identity. -/
theorem state_change_requires_admin (r : Route) (hr : r ∈ adminRoutes) (sk : Skel) (hsk : skelOf r = some sk)
    (env : Env) (hw : writeObs upstreamWrites (run env sk).2 = true) :
    r.isConfig = true ∨ r.isProxy = true ∨ isAdmin env.conf env.req = true := by
  obtain ⟨sk', hsk', v⟩ := Proofs.AdminSweep.resolved hr
  obtain rfl : sk = sk' := Option.some.inj (hsk.symm.trans hsk')
  by_cases hcw : canWrite upstreamWrites sk = true
  · have h' := v.2.2.2.1 hcw
    simp only [Bool.or_eq_true] at h'
    rcases h' with (hm | hc) | hp
    · right; right
      cases hadm : isAdmin env.conf env.req with
      | true => rfl
      | false => rw [guarded_run env sk (v.1 hm).1 hadm] at hw; cases hw
    · exact Or.inl hc
    · exact Or.inr (Or.inl hp)
  · simp only [Bool.not_eq_true] at hcw
    rw [noWrite_run upstreamWrites env sk hcw] at hw
    cases hw

/-- Non-vacuity: deleting a topic as an admin is such a write; the same request from somebody else shows
nothing. -/
example : writeObs upstreamWrites
    (run (sampleEnv ["alice"] [("X-Forwarded-User", "alice")]) adminSkel_deleteTopicHandler).2 = true := by decide +kernel
example : writeObs upstreamWrites
    (run (sampleEnv ["alice"] [("X-Forwarded-User", "mallory")]) adminSkel_deleteTopicHandler).2 = false := by decide +kernel

/-- **views_only_read.** Every GET route outside `/config` (API views, pages, static files) performs no write
in any environment: no upstream call other than GETs, no notification, no configuration write. -/
theorem views_only_read (r : Route) (hr : r ∈ adminRoutes) (hg : r.plainGet = true) :
    ∃ sk, skelOf r = some sk ∧ ∀ env : Env, writeObs upstreamWrites (run env sk).2 = false := by
  obtain ⟨sk, hs, v⟩ := Proofs.AdminSweep.resolved hr
  exact ⟨sk, hs, fun env => noWrite_run upstreamWrites env sk (v.2.2.2.2.1 hg)⟩

example : (adminRoutes.filter Route.plainGet).length = 18 := by decide +kernel
example : upstreamObs (run (sampleEnv [] []) adminSkel_topicHandler).2 = ["GetTopicProducers", "GetNSQDStats"] := by decide +kernel

/-- **admin_carried_out.** "With an admin identity, or with no admin list, the action is carried out": for
every mutating route and every environment in which the request carries an admin identity and is well
formed — its body decodes, the names it gives pass `IsValidTopicName` / `IsValidChannelName` (the tests listed
by `validOf`), and for the pause / unpause / empty routes the body names one of these three — the handler
answers 200 or 502 *and* has performed exactly the `ClusterInfo` action of the table. There is no other way
out behind the admin check. What that action sends where: `fanout_exactly_once`, `fanout_producers`. -/
theorem admin_carried_out (r : Route) (hr : r ∈ adminRoutes) (hm : r.mutating = true) :
    ∃ sk, skelOf r = some sk ∧ ∀ env : Env,
      WellFormed env (validOf r.handler).others →
      (∀ as, (validOf r.handler).actions = some as → env.req.action ∈ as) →
      ((run env sk).1 = 200 ∨ (run env sk).1 = 502) ∧
      upstreamObs (run env sk).2 =
        [expectedAction r.handler env.req.action (env.req.nonEmptyParams.contains "channel")] := by
  obtain ⟨sk, hs, v⟩ := Proofs.AdminSweep.resolved hr
  refine ⟨sk, hs, fun env wf hact => ?_⟩
  have hst := adminReaches_run env r.handler sk (v.1 hm).2.2.1 wf hact
  exact ⟨hst, (fanout_lift r.handler sk (v.1 hm).2.2.2.1 env).1 hst⟩

/-- Non-vacuity, one 200-path per mutating handler: a well-formed request of an admin is answered 200 and
the one expected action is among the effects. -/
def okEnv (action : String) (params body : List String) : Env :=
  { conf := { adminUsers := ["alice"], aclHeader := "X-Forwarded-User", cidrSet := false,
              lookupdMode := true, notifyOn := false },
    req := { method := "POST", headers := [("X-Forwarded-User", "alice")], action := action, opt := "",
             nonEmptyParams := params, nonEmptyBody := body },
    inNet := true, bodyOk := true, upstreamErr := fun _ _ => .none,
    localErr := fun _ _ => false, otherCond := fun _ => false }

example : WellFormed (okEnv "" [] ["Topic"]) (validOf "createTopicChannelHandler").others :=
  ⟨by decide +kernel, rfl, fun _ _ => rfl⟩
example : run (okEnv "" [] ["Topic", "Channel"]) adminSkel_createTopicChannelHandler
    = (200, [.bodyRead, .upstream "CreateTopicChannel"]) := by decide +kernel
example : run (okEnv "pause" ["topic"] []) adminSkel_topicActionHandler
    = (200, [.bodyRead, .upstream "PauseTopic"]) := by decide +kernel
example : run (okEnv "unpause" ["topic", "channel"] []) adminSkel_channelActionHandler
    = (200, [.bodyRead, .upstream "UnPauseChannel"]) := by decide +kernel
example : run (okEnv "" ["node"] ["Topic"]) adminSkel_tombstoneNodeForTopicHandler
    = (200, [.bodyRead, .upstream "TombstoneNodeForTopic"]) := by decide +kernel
example : run (okEnv "" ["topic"] []) adminSkel_deleteTopicHandler
    = (200, [.upstream "DeleteTopic"]) := by decide +kernel
example : run (okEnv "" ["topic", "channel"] []) adminSkel_deleteChannelHandler
    = (200, [.upstream "DeleteChannel"]) := by decide +kernel
/-- … and what the well-formedness hypothesis excludes is refused *before* anything is sent. -/
example : run { okEnv "delete" ["topic"] [] with bodyOk := true } adminSkel_topicActionHandler = (400, [.bodyRead]) := by decide +kernel
example : run { okEnv "" [] ["Topic"] with otherCond := fun s => s == "!protocol.IsValidTopicName(body.Topic)" }
    adminSkel_createTopicChannelHandler = (400, [.bodyRead]) := by decide +kernel

/-- **admin_fanout (request level) — a membership lemma, not a tie.** In the hand-written model
`Nsq.Model.AdminFanout` (the one the driver's `gate` op replays) the list `requests w act` is *defined* as lookupd
posts ++ lookup GETs ++ producer posts; this theorem only unfolds that definition. It says something about the code only
through the `gate` correspondence stream, which compares `requests` with what the stubs recorded. The
statements that carry weight are `fanout_exactly_once` / `fanout_producers` below, about the *translated*
programs (`Tie.AdminProg`). -/
theorem admin_fanout_requests (w : Nsq.Model.AdminFanout.World) (act : Nsq.Model.AdminFanout.Action) :
    (∀ p ∈ Nsq.Model.AdminFanout.producersFor w act,
        Nsq.Model.AdminFanout.Req.post p (Nsq.Model.AdminFanout.nsqdCommand act) ∈
          Nsq.Model.AdminFanout.requests w act) ∧
    (∀ c ∈ Nsq.Model.AdminFanout.lookupdCommands w act, ∀ l ∈ w.lookupds,
        Nsq.Model.AdminFanout.Req.post l.addr c ∈ Nsq.Model.AdminFanout.requests w act) :=
  ⟨fun p hp => List.mem_append_right _ (List.mem_map.2 ⟨p, hp, rfl⟩),
   fun c hc l hl => List.mem_append_left _ (List.mem_append_left _
     (List.mem_flatMap.2 ⟨c, hc, List.mem_map.2 ⟨l, hl, rfl⟩⟩))⟩

/-! ## The `ClusterInfo` actions as programs (model `Nsq.Model.AdminProg`, translated from data.go:
`Nsq.Tie.AdminProg` proves regenerated program = `progOf kind` for all ten methods) -/

section Programs
open Nsq.Model.AdminFanout Nsq.Model.AdminProg Nsq.Proofs.AdminProg

/-- **fanout_errors_never_dropped.** For *every* program whose steps all use the aggregate policy and that
ends in `return ErrList(errs)`: unless a non-partial error is returned, the returned list holds exactly one
error per failed request of the run; so a `nil` result means every request that was sent succeeded.
Every translated method has this form (`progs_aggregate`). -/
theorem fanout_errors_never_dropped (w : World) (a : Action) (p : Prog) (hp : allAggregate p = true) :
    ((run w a p).aborted = false → (run w a p).errs = failCount w (run w a p).reqs) ∧
    ((resultOf p (run w a p)).1 = .none → ∀ r ∈ (run w a p).reqs, fails w r = false) ∧
    ((resultOf p (run w a p)).1 = .partialErr →
        (resultOf p (run w a p)).2 = failCount w (run w a p).reqs ∧ 0 < failCount w (run w a p).reqs) := by
  have hacc := run_accounted w a p hp
  have hend : p.ending = .errList := by
    simp only [allAggregate, Bool.and_eq_true, beq_iff_eq] at hp; exact hp.2
  obtain ⟨hnone, hpart⟩ := resultOf_errList p (run w a p) hend
  refine ⟨hacc, fun hres => ?_, fun hres => ?_⟩
  · obtain ⟨hab, h0⟩ := hnone hres
    exact failCount_zero w _ (by rw [← hacc hab]; exact h0)
  · obtain ⟨hab, hpos, h2⟩ := hpart hres
    rw [← hacc hab]
    exact ⟨h2, hpos⟩

theorem progs_aggregate (k : Kind) : allAggregate (progOf k) = true := progOf_aggregate k

/-- Non-vacuity, and what the clause excludes: the same delete with the error of the nsqlookupd step
*ignored* answers `nil` although nsqlookupd L0 refused the command; the real program reports one error. -/
def sampleWorld : World :=
  { lookupds := [{ addr := "L0", up := true, producers := ["N0"], postUp := false },
                 { addr := "L1", up := true, producers := ["N0", "N1"] }],
    nsqdAddrs := [],
    nsqds := [{ addr := "N0", up := true, hasTopic := true }, { addr := "N1", up := true, hasTopic := true }] }

def sampleDelete : Action := { kind := .deleteTopic, topic := "t" }

example : resultOf (progOf .deleteTopic) (runAction sampleWorld sampleDelete) = (.partialErr, 1) := by decide +kernel
example : (runAction sampleWorld sampleDelete).reqs.map renderReq =
    ["G:L0/lookup?topic=t", "G:L1/lookup?topic=t", "P:L0/topic/delete?topic=t", "P:L1/topic/delete?topic=t",
     "P:N0/topic/delete?topic=t", "P:N1/topic/delete?topic=t"] := by decide +kernel

theorem fanout_error_dropped_without_aggregate :
    ∃ (w : World) (a : Action) (p : Prog),
      (resultOf p (run w a p)).1 = .none ∧ ∃ r ∈ (run w a p).reqs, fails w r = true :=
  ⟨sampleWorld, sampleDelete,
    ⟨[agg (.lookup .topicProducers), ⟨.always, .lookupdPost "topic/delete" .topic, .ignore⟩,
      agg (.producersPost "topic/delete" .topic)], .errList⟩,
    by decide +kernel, ⟨true, .lookupd, "L0", "/topic/delete", "topic=t"⟩, by decide +kernel, by decide +kernel⟩

/-- **fanout_exactly_once.** An action that is carried out (no non-partial error): for each command the
action has for the nsqlookupds, the addresses that receive it are exactly the configured nsqlookupds (in
order, as often as configured); the addresses that receive the nsqd command are exactly the producers found
by the lookup. With pairwise distinct nsqlookupd addresses every nsqlookupd is POSTed each command exactly
once, and every producer found through nsqlookupd (one entry per address reported by a responding
nsqlookupd: `fanout_producers`) exactly once. -/
theorem fanout_exactly_once (w : World) (a : Action) (hwf : Action.wf a)
    (hab : (runAction w a).aborted = false) :
    (∀ c ∈ lookupdCmds a,
        postsTo (runAction w a) .lookupd (pathOf c.1) (qsOf a c.2) = w.lookupds.map (·.addr)) ∧
    (∀ c, nsqdCmd a.kind = some c →
        postsTo (runAction w a) .nsqd (pathOf c.1) (qsOf a c.2) = (runAction w a).producers) ∧
    ((w.lookupds.map (·.addr)).Nodup → ∀ c ∈ lookupdCmds a, ∀ l ∈ w.lookupds,
        (postsTo (runAction w a) .lookupd (pathOf c.1) (qsOf a c.2)).count l.addr = 1) ∧
    ((runAction w a).producers.Nodup → ∀ c, nsqdCmd a.kind = some c → ∀ p ∈ (runAction w a).producers,
        (postsTo (runAction w a) .nsqd (pathOf c.1) (qsOf a c.2)).count p = 1) := by
  obtain ⟨hlk, hnsqd, _⟩ := runAction_ok w a hwf hab
  refine ⟨hlk, hnsqd, ?_, ?_⟩
  · intro hnd c hc l hl
    rw [hlk c hc]
    rw [hnd.count, if_pos (List.mem_map.2 ⟨l, hl, rfl⟩)]
  · intro hnd c hc p hp
    rw [hnsqd c hc]
    rw [hnd.count, if_pos hp]

example : Action.wf sampleDelete := by simp [Action.wf, sampleDelete]
example : (runAction sampleWorld sampleDelete).aborted = false ∧
    lookupdCmds sampleDelete = [("topic/delete", .topic)] ∧
    (runAction sampleWorld sampleDelete).producers = ["N0", "N1"] := by decide +kernel

/-- **fanout_producers.** Who the relevant nsqds are: the producer list after a successful lookup is the
lookup's answer; through nsqlookupd it has no duplicates and contains exactly the addresses that some
responding nsqlookupd reports; in direct mode it has one entry per configured nsqd that answers and lists the
topic — **the address that nsqd's `/info` reports** (`reportOf`), not the configured one, and not
de-duplicated; for a tombstone it is the address the named node reports. `GetTopicProducers` asks the
nsqlookupds iff one is configured (`Tie.AdminProg.getTopicProducers_fallback`). The last three conjuncts restate the
definitions of the model (they are what the `fan` correspondence stream checks against the code). -/
theorem fanout_producers (w : World) (a : Action) (hwf : Action.wf a)
    (hab : (runAction w a).aborted = false) (l : Lookup) (hl : lookupOf a.kind = some l) :
    (runAction w a).producers = (doLookup w a l).producers ∧
    ((lookupdTopicProducers w a).producers.Nodup ∧
      ∀ p, p ∈ (lookupdTopicProducers w a).producers ↔
        ∃ lk ∈ w.lookupds, getOk w lk.addr = true ∧ p ∈ lk.producers) ∧
    (nsqdTopicProducers w a).producers = (w.nsqdAddrs.filter (nodeHasTopic w)).map (reportOf w) ∧
    (nsqdProducersOfNode w a).producers = (if nodeUp w a.node then [reportOf w a.node] else []) ∧
    doLookup w a .topicProducers =
      (if !w.lookupds.isEmpty then lookupdTopicProducers w a else nsqdTopicProducers w a) :=
  ⟨((runAction_ok w a hwf hab).2.2 l hl).1, lookupd_producers w a, rfl, rfl, rfl⟩

example : lookupOf sampleDelete.kind = some .topicProducers := by decide +kernel

/-- **fanout_lookup_first.** Delete / pause / unpause / empty ask for the producers *before* they change
anything ("for topic removal, you need to get all the producers first"): every GET of the run precedes every
POST; and when that lookup fails as a whole, no POST is sent at all. -/
theorem fanout_lookup_first (w : World) (a : Action)
    (hk : a.kind ≠ .createTopic ∧ a.kind ≠ .createChannel ∧ a.kind ≠ .tombstone) :
    getsFirst (runAction w a).reqs ∧
    ((runAction w a).aborted = true → ∀ r ∈ (runAction w a).reqs, r.post = false) :=
  lookup_first w a _ (lookupFirst_progOf a.kind hk)

example : sampleDelete.kind ≠ .createTopic ∧ sampleDelete.kind ≠ .createChannel ∧
    sampleDelete.kind ≠ .tombstone := by decide +kernel

/-- **fanout_goes_where_info_points.** In direct-nsqd mode and for a tombstone the nsqd command is
not sent to the address nsqadmin was configured with / was asked about, but to the address that nsqd's own
`/info` answer reports, and two nsqds that report the same address get it twice there. So
`DELETE /api/nodes/A`, when A's `/info` claims B's address, deletes the topic on **B**. This is what the
code does (`Producer.HTTPAddress()`); the theorem states it, the examples show it. -/
theorem fanout_goes_where_info_points (w : World) (a : Action) (hwf : Action.wf a)
    (hab : (runAction w a).aborted = false) :
    (a.kind = .tombstone →
      postsTo (runAction w a) .nsqd "/topic/delete" (qsOf a .topic) =
        (if nodeUp w a.node then [reportOf w a.node] else [])) ∧
    (w.lookupds = [] → ∀ c, nsqdCmd a.kind = some c → lookupOf a.kind = some .topicProducers →
      postsTo (runAction w a) .nsqd (pathOf c.1) (qsOf a c.2) =
        (w.nsqdAddrs.filter (nodeHasTopic w)).map (reportOf w)) := by
  obtain ⟨_, hnsqd, hprod⟩ := runAction_ok w a hwf hab
  constructor
  · intro hk
    have h1 := hnsqd ("topic/delete", .topic) (by simp [nsqdCmd, hk])
    have h2 := (hprod .nsqdProducersOfNode (by simp [lookupOf, hk])).1
    simpa [pathOf, h2, doLookup, node_producers] using h1
  · intro hl c hc hlk
    rw [hnsqd c hc, (hprod .topicProducers hlk).1]
    simp [doLookup, hl, nsqd_producers]

/-- A's `/info` claims B's address: the tombstone of A deletes the topic on B, and A is only asked. -/
def liarWorld : World :=
  { lookupds := [{ addr := "L", up := true, producers := [] }], nsqdAddrs := [],
    nsqds := [{ addr := "A", up := true, hasTopic := true, reports := "B" },
              { addr := "B", up := true, hasTopic := true }] }

example : (runAction liarWorld { kind := .tombstone, topic := "t1", node := "A" }).reqs.map renderReq =
    ["P:L/topic/tombstone?topic=t1&node=A", "G:A/info", "G:A/stats?format=json&include_clients=false",
     "P:B/topic/delete?topic=t1"] := by decide +kernel
/-- Direct mode, two configured nsqds reporting one address: that address is POSTed twice. -/
def twinWorld : World :=
  { lookupds := [], nsqdAddrs := ["A", "B"],
    nsqds := [{ addr := "A", up := true, hasTopic := true, reports := "B" },
              { addr := "B", up := true, hasTopic := true }] }

example : ((runAction twinWorld { kind := .emptyTopic, topic := "t" }).reqs.filter (·.post)).map renderReq =
    ["P:B/topic/empty?topic=t", "P:B/topic/empty?topic=t"] := by decide +kernel

/-- **create_direct_mode_sends_nothing** (open finding `fanout:create-direct-mode`). Without a
configured nsqlookupd `CreateTopicChannel` — which is only ever given the nsqlookupd addresses — sends no
request at all; for a topic alone it returns nil: the handler answers 200 and announces `create_topic`, and
no nsqd has been told (with a channel it returns "failed to query any nsqlookupd" over zero nsqlookupds: 502). `fanout_exactly_once` holds for this action only because its set of relevant upstreams is empty. -/
theorem create_direct_mode_sends_nothing (w : World) (a : Action) (hl : w.lookupds = [])
    (hk : a.kind = .createTopic ∨ a.kind = .createChannel) :
    (runAction w a).reqs = [] ∧
    (a.channel = "" → (resultOf (progOf a.kind) (runAction w a)).1 = .none) ∧
    (a.channel ≠ "" → (resultOf (progOf a.kind) (runAction w a)).1 = .full) := by
  have hp : progOf a.kind = createProg := by rcases hk with hk | hk <;> simp [progOf, hk]
  unfold runAction
  rw [hp]
  -- with no nsqlookupd every POST loop is empty and the lookup over zero nsqlookupds "fails as a whole"
  by_cases hc : a.channel = "" <;>
    simp [Nsq.Model.AdminProg.run, createProg, runSteps, execStep, agg, aggCh, guardHolds, opReqs, doLookup, lookupdTopicProducers, hl,
      hc, failCount, St.reqs, resultOf]

def soloWorld : World :=
  { lookupds := [], nsqdAddrs := ["A"], nsqds := [{ addr := "A", up := true, hasTopic := false }] }

example : (runAction soloWorld { kind := .createTopic, topic := "brandnew" }).reqs = [] := by decide +kernel
/-- The full clause "the action is carried out on every relevant nsqd" is therefore false of the code in this
mode: an nsqd is configured, the answer is `nil` (→ 200), and it received nothing. -/
def CreateReachesConfiguredNsqds : Prop :=
  ∀ (w : World) (a : Action), a.kind = .createTopic → (resultOf (progOf a.kind) (runAction w a)).1 = .none →
    ∀ n ∈ w.nsqdAddrs, ∃ r ∈ (runAction w a).reqs, r.post = true ∧ r.addr = n

theorem create_reaches_configured_nsqds_false : ¬ CreateReachesConfiguredNsqds := by
  intro h
  obtain ⟨r, hr, _⟩ := h soloWorld { kind := .createTopic, topic := "brandnew" } rfl (by decide +kernel) "A" (by simp [soloWorld])
  have hnil : (runAction soloWorld { kind := .createTopic, topic := "brandnew" }).reqs = [] := by decide +kernel
  rw [hnil] at hr
  cases hr

end Programs

/-! ## Notifications (`notifyAdminAction`) -/

section Notify
open Nsq.Proofs.AdminNotify

/-- **notify_exact.** For every mutating route, every request and every upstream behaviour:
(i) without an admin identity, or without a configured `--notification-http-endpoint`, nothing is notified;
(ii) with an endpoint, the notifications of a run are exactly those of the `ClusterInfo` actions it performed
— one per action, named after it (`create_topic` plus `create_channel` when the body names a channel) — when
the handler announces (answer 200; pause / unpause / empty also on 502, they notify before looking at the
error), and none otherwise (400 / 403 / 502 of create, delete, tombstone). With `admin_fanout` (exactly one
action on 200/502, none otherwise): exactly one notification per performed action, never one without. -/
theorem notify_exact (r : Route) (hr : r ∈ adminRoutes) (hm : r.mutating = true) :
    ∃ sk, skelOf r = some sk ∧ ∀ env : Env,
      (isAdmin env.conf env.req = false → notifyObs (run env sk).2 = []) ∧
      (env.conf.notifyOn = false → notifyObs (run env sk).2 = []) ∧
      (env.conf.notifyOn = true →
        notifyObs (run env sk).2 =
          notesFor r.handler (upstreamObs (run env sk).2) (env.req.nonEmptyBody.contains "Channel")
            (run env sk).1) := by
  obtain ⟨sk, hs, v⟩ := Proofs.AdminSweep.resolved hr
  obtain ⟨hguard, _, _, _, hnote, hgated⟩ := v.1 hm
  refine ⟨sk, hs, fun env => ⟨?_, ?_, ?_⟩⟩
  · intro hna; rw [guarded_run env sk hguard hna]; rfl
  · intro hoff; exact notifyGated_runSt env hoff false sk {} rfl hgated
  · intro hon; exact notify_lift r.handler sk hnote env hon

/-- Routes that do not change state never notify (all paths of their regenerated skeletons). -/
theorem notify_only_mutating (r : Route) (hr : r ∈ adminRoutes) (hm : r.mutating = false) :
    ∃ sk, skelOf r = some sk ∧ ∀ p ∈ paths sk, notesOf p.2.1 = [] := by
  obtain ⟨sk, hs, v⟩ := Proofs.AdminSweep.resolved hr
  exact ⟨sk, hs, v.2.2.2.2.2 hm⟩

/-- Non-vacuity: an admin pausing a channel with an endpoint configured notifies `pause_channel` once; the
same request from somebody else notifies nothing; creating topic + channel notifies both. -/
def notifyEnv (users : List String) (hdrs : List (String × String)) (action : String) (body : List String) : Env :=
  { sampleEnv users hdrs with
    conf := { adminUsers := users, aclHeader := "X-Forwarded-User", cidrSet := false, lookupdMode := true, notifyOn := true },
    req := { method := "POST", headers := hdrs, action := action, opt := "",
             nonEmptyParams := ["topic", "channel"], nonEmptyBody := body } }

example : run (notifyEnv ["alice"] [("X-Forwarded-User", "alice")] "pause" []) adminSkel_channelActionHandler
    = (200, [.bodyRead, .upstream "PauseChannel", .notify "pause_channel"]) := by decide +kernel
example : run (notifyEnv ["alice"] [("X-Forwarded-User", "bob")] "pause" []) adminSkel_channelActionHandler
    = (403, []) := by decide +kernel
example : notifyObs (run (notifyEnv [] [] "" ["Topic", "Channel"]) adminSkel_createTopicChannelHandler).2
    = ["create_topic", "create_channel"] := by decide +kernel
example : notesFor "createTopicChannelHandler" ["CreateTopicChannel"] true 200 = ["create_topic", "create_channel"] ∧
    notesFor "deleteTopicHandler" ["DeleteTopic"] false 502 = [] ∧
    notesFor "topicActionHandler" ["EmptyTopic"] false 502 = ["empty_topic"] := by decide +kernel

end Notify

end Nsq.Props.C17
