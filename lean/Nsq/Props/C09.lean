import Nsq.Proofs.ProtoV2
import Nsq.Proofs.ProtoSpec
import Nsq.Proofs.Names
import Nsq.Proofs.Base10
/-!
# C09 — nsqd TCP protocol: every input gets its defined answer; limits hold

The model `Nsq.Model.ProtoV2` (raw byte stream of one connection → reply frames, end of the
connection, connection state, effect on the abstract broker) is tied to `/repo` by the
regenerated facts of `Nsq.Tie.Proto` (dispatch table, every `New(Fatal)ClientErr` call site, limit
comparisons, regex literal) and by the byte-stream correspondence harness `harness/e3`.

Every statement quantifies over ALL byte sequences, all values of the limits in `Conf` (including an
arbitrary JSON decoder `Conf.decode` and arbitrary TLS / auth gate inputs, constant per `Conf`), all
connection states and all broker states — of the BASE model: no consumer limit, no failing backend
write, the gate a constant. The model with those inputs (`Nsq.Model.ProtoEnv`: every step is an
`exec` step under a configuration computed from the connection's authorization state) and the option
preconditions of `messagePump`'s tickers are in `Nsq.Props.C09Audit`.
-/
namespace Nsq.Props.C09
open Nsq.Model.ProtoV2 Nsq.Model.Names Nsq.Model.Base10 Nsq.Model Nsq.Spec.ProtoSpec
open Nsq.Proofs.ProtoV2

/-! ## 1. Totality, no panic -/

/-- For every byte sequence, against any broker state, the connection ends because the client closed
(`eof`), because the server closed it (`closed`) or at a negotiated TLS/compression upgrade
(`upgraded`, outside the model) — never in a panic (every `make` is preceded by its range check) and
the model never runs out of fuel. -/
theorem serve_total_no_panic (conf : Conf) (s : ConnState) (b : Broker) (bs : Bytes) :
    (serve conf s b bs).fin = .eof ∨ (serve conf s b bs).fin = .closed ∨ (serve conf s b bs).fin = .upgraded := by
  fun_cases serve conf s b bs
  case case1 =>
    rw [disconnect_fin]
    exact loop_fin conf _ s b _ (Nat.lt_succ_self _)
  case case2 => exact .inr (.inl rfl)
  case case3 => exact .inl rfl

/-- The same for `ioLoop`, the run against the empty broker. -/
theorem ioLoop_total_no_panic (conf : Conf) (s : ConnState) (bs : Bytes) :
    (ioLoop conf s bs).2 = .eof ∨ (ioLoop conf s bs).2 = .closed ∨ (ioLoop conf s bs).2 = .upgraded :=
  serve_total_no_panic conf s [] bs

/-- No single command panics either (`Ctl.panic` marks `make` with a negative size). -/
theorem exec_no_panic (conf : Conf) (s : ConnState) (b : Broker) (ps : List Bytes) (rest : Bytes) :
    (exec conf s b ps rest).ctl ≠ .panic :=
  (exec_ok conf s b ps rest).1

example : ioLoop Examples.conf Examples.conn (magicV2 ++ ascii "PUB t\n" ++ [0, 0, 0, 1, 97] ++ ascii "NOP\nFOO\n") =
    ([.ok, .err .E_INVALID], .closed) := by decide +kernel
example : ioLoop Examples.conf Examples.conn (magicV2 ++ ascii "PUB t\n" ++ [255, 255, 255, 255]) =
    ([.err .E_BAD_MESSAGE], .closed) := by decide +kernel
example : ioLoop Examples.conf Examples.conn (ascii "  V1") = ([.err .E_BAD_PROTOCOL], .closed) := by decide +kernel

/-! ## 2. Every answer is the documented one -/

/-- Each command is answered as the declarative table `Spec.ProtoSpec.allowed` says: the success
reply exactly when the command instance has no defect; otherwise the documented `E_*` code of one
of its defects, and the connection is closed exactly when that code's class is fatal. The table
judges every defect on its own (no order of checks); the only non-fatal codes are
E_FIN_FAILED / E_REQ_FAILED / E_TOUCH_FAILED. -/
theorem answers_refine_spec (conf : Conf) (s : ConnState) (b : Broker) (ps : List Bytes) (rest : Bytes)
    (hps : ps ≠ []) :
    answer conf s ps rest (exec conf s b ps rest).reply (decide ((exec conf s b ps rest).ctl = .close)) :=
  Nsq.Proofs.ProtoSpec.exec_refines conf s b ps rest hps

/-- `bytes.Split` never hands `Exec` an empty parameter list, so the theorem above applies to every
line the loop reads. -/
theorem split_nonempty (l : Bytes) : splitSp l ≠ [] := by
  fun_cases splitSp l
  all_goals nofun

/-- The codes and classes an error answer can have, as sets tied to the `New(Fatal)ClientErr` call
sites by `Nsq.Tie.Proto.fatal_codes_have_sites` / `nonfatal_codes_have_sites`. -/
theorem error_codes_and_classes (conf : Conf) (s : ConnState) (b : Broker) (ps : List Bytes) (rest : Bytes) (c : Code)
    (hauth : AuthGateOk conf) (h : (exec conf s b ps rest).reply = some (.err c)) :
    ((exec conf s b ps rest).ctl = .close ∧ c ∈ modelFatal) ∨
    ((exec conf s b ps rest).ctl = .cont ∧ c ∈ modelNonFatal) :=
  exec_codes conf s b ps rest c hauth h

example : answer Examples.conf Examples.conn [cPUB, ascii "bad!"] [0, 0, 0, 1, 97] (some (.err .E_BAD_TOPIC)) true := by
  unfold answer; decide +kernel
example : ¬ answer Examples.conf Examples.conn [cPUB, ascii "bad!"] [0, 0, 0, 1, 97] (some .ok) false := by
  unfold answer; decide +kernel
example : answer Examples.conf Examples.conn [cPUB, ascii "t"] [0, 0, 0, 1, 97] (some .ok) false := by
  unfold answer; decide +kernel
-- a bad name AND a bad size: either documented code is allowed (the table has no order of checks)
example : allowed Examples.conf Examples.conn [cPUB, ascii "bad!"] [0, 0, 0, 0] =
    [(some (.err .E_BAD_TOPIC), true), (some (.err .E_BAD_MESSAGE), true)] := by decide +kernel

/-! ## 3. Limits -/

/-- Everything a connection ever gets accepted respects the limits: a publish has a valid topic
name, 1..max-msg-size bytes per message and (MPUB) 1..(max-body-size-4)/5 messages, a deferred
publish a delay in [0, max-req-timeout]; SUB has valid names; RDY is in [0, max-rdy-count]; the
delay handed to a requeue is clamped into [0, max-req-timeout]; the IDENTIFY values are in their
negotiated ranges. -/
theorem limits (conf : Conf) (s : ConnState) (b : Broker) (bs : Bytes) :
    ∀ e ∈ (serve conf s b bs).eff, EffOk conf e := by
  fun_cases serve conf s b bs
  case case1 =>
    rw [disconnect_eff]
    exact loop_eff conf _ _ _ _
  all_goals exact fun _ => nofun

/-- `isValidName` accepts exactly the grammar: 1–64 bytes, a non-empty base over `[.a-zA-Z0-9_-]`
optionally followed by `#ephemeral`. -/
theorem isValidName_iff_grammar (s : Bytes) : isValidName s = true ↔ Grammatical s :=
  Nsq.Proofs.Names.isValidName_iff s

/-- `ByteToBase10` returns the value of the digit string exactly when it fits 64 bits — for every
spelling (leading zeros, any length); anything else is an error, never a wrapped value. -/
theorem number_exact (d : Bytes) (n : Nat) :
    byteToBase10 d = some n ↔ (∀ c ∈ d, IsDigit c) ∧ decVal d 0 = n ∧ n ≤ maxU64 :=
  Nsq.Proofs.Base10.byteToBase10_iff d n

/-- RDY: whatever the spelling of the count, an accepted count IS the number written, and it is
within [0, max-rdy-count]. -/
theorem rdy_exact (conf : Conf) (s : ConnState) (b : Broker) (cmd p : Bytes) (tl : List Bytes) (rest : Bytes)
    (n : Int) (h : (rdy conf s b (cmd :: p :: tl) rest).eff = [.rdy n]) :
    (∀ c ∈ p, IsDigit c) ∧ n = (decVal p 0 : Int) ∧ 0 ≤ n ∧ n ≤ conf.maxRdy :=
  Nsq.Proofs.Base10.rdy_exact conf s b cmd p tl rest n h

/-- DPUB: an accepted delay, whatever its spelling (also beyond 64 bits), is the number written,
in milliseconds, and at most max-req-timeout. -/
theorem dpub_exact (conf : Conf) (s : ConnState) (b : Broker) (cmd t d : Bytes) (tl : List Bytes) (rest : Bytes)
    (ms : List Msg) (hmax : conf.maxReqTimeoutNs < maxI64)
    (h : (dpub conf s b (cmd :: t :: d :: tl) rest).eff = [.enq t ms]) :
    (∀ c ∈ d, IsDigit c) ∧ (decVal d 0 : Int) * 1000000 ≤ conf.maxReqTimeoutNs ∧
      ∀ m ∈ ms, m.deferNs = (decVal d 0 : Int) * 1000000 :=
  Nsq.Proofs.Base10.dpub_exact conf s b cmd t d tl rest ms hmax h

/-- REQ: the delay handed to the channel is min(number written × 1 ms, max-req-timeout), for every
spelling of the number that fits 64 bits (others are E_INVALID). -/
theorem req_clamp (conf : Conf) (s : ConnState) (b : Broker) (cmd id t : Bytes) (tl : List Bytes) (rest : Bytes)
    (ns : Int) (h0 : 0 ≤ conf.maxReqTimeoutNs) (hmax : conf.maxReqTimeoutNs ≤ maxI64)
    (h : (req conf s b (cmd :: id :: t :: tl) rest).eff = [.req id ns]) :
    (∀ c ∈ t, IsDigit c) ∧ ns = min ((decVal t 0 : Int) * 1000000) conf.maxReqTimeoutNs :=
  Nsq.Proofs.Base10.req_clamp conf s b cmd id t tl rest ns h0 hmax h

example : EffOk Examples.conf (.enq (ascii "t") [⟨[97], 0⟩]) := by
  simp [EffOk, MsgOk, Examples.conf]; decide
example : ¬ EffOk Examples.conf (.rdy 8) := by simp [EffOk, Examples.conf]
example : byteToBase10 (ascii "18446744073709551621") = none := by decide +kernel
example : byteToBase10 (ascii "007") = some 7 := by decide +kernel

/-! ## 4. A fatal error closes only the connection that caused it -/

/-- A command that closes the connection has answered with an error frame, leaves every queue of
the broker as it was (at most a new, empty topic — MPUB with a well-formed name) and has no
effect; the loop stops there: nothing after it on the same connection is executed. -/
theorem fatal_closes_only_self (conf : Conf) (s : ConnState) (b : Broker) (ps : List Bytes) (rest : Bytes)
    (h : (exec conf s b ps rest).ctl = .close) :
    (∃ c, (exec conf s b ps rest).reply = some (.err c)) ∧
      Untouched b (exec conf s b ps rest).broker ∧ (exec conf s b ps rest).eff = [] := by
  obtain ⟨c, hc⟩ := exec_close conf s b ps rest h
  exact ⟨⟨c, hc⟩, exec_err conf s b ps rest c hc⟩

theorem fatal_stops_the_loop (conf : Conf) (fuel : Nat) (s : ConnState) (b : Broker) (bs l rest : Bytes)
    (hl : readLine bs = .line l rest) (h : (exec conf s b (splitSp l) rest).ctl = .close) :
    loop conf (fuel + 1) s b bs = Run.stop (exec conf s b (splitSp l) rest) .closed := by
  rw [loop]
  simp only [hl, h]

/-- BASE MODEL ONLY: in `exec` no reply reads the broker, so this holds by the
construction of the base model — it says nothing about `--max-channel-consumers`, where the real SUB
reads the channel's client count (E_SUB_FAILED). The statement about the real inputs is
`Nsq.Props.C09Audit`: `answers_independent_of_broker_partial` (hypothesis: the option is 0, the
default), `answers_independent_of_broker_full_false` (limit 1: same bytes, OK vs E_SUB_FAILED),
`sub_limit_exact`, `sub_failed_iff_limit`, `answer_reads_broker_only_through_limit`. -/
theorem answers_independent_of_broker_base (conf : Conf) (s : ConnState) (b b' : Broker) (bs : Bytes) :
    rview (serve conf s b bs) = rview (serve conf s b' bs) := by
  unfold serve
  split
  · split
    · rw [disconnect_rview, disconnect_rview]
      exact loop_indep conf _ s b b' _
    · rfl
  · rfl

/-! ## 5. A rejected publish enqueues nothing; MPUB is all-or-nothing -/

/-- Any command answered with an error — fatal or not, PUB/MPUB/DPUB included — enqueues nothing:
the broker is unchanged except possibly for one new topic that is still empty. -/
theorem rejected_publish_enqueues_nothing (conf : Conf) (s : ConnState) (b : Broker) (ps : List Bytes)
    (rest : Bytes) (c : Code) (h : (exec conf s b ps rest).reply = some (.err c)) :
    Untouched b (exec conf s b ps rest).broker ∧ (exec conf s b ps rest).eff = [] :=
  exec_err conf s b ps rest c h

/-- BASE MODEL ONLY: MPUB either enqueues the whole batch it decoded — all
messages, in order, each within the limits — and answers OK, or answers a fatal error and enqueues
nothing. The base model's `publish` cannot fail, which is why this holds; with a failing backend
write the real `Topic.PutMessages` leaves a prefix enqueued: `Nsq.Props.C09Audit`
`mpub_all_or_nothing_partial` (hypothesis: no failing write), `mpub_all_or_nothing_full_false`,
`publish_fault_prefix_exact` (open finding `mpub-partial-on-backend-fault`). -/
theorem mpub_all_or_nothing_base (conf : Conf) (s : ConnState) (b : Broker) (ps : List Bytes) (rest : Bytes) :
    (∃ t n r bodies r2, ps[1]? = some t ∧ readLen rest = some (n, r) ∧ 1 ≤ n ∧ n ≤ conf.maxBodySize ∧
        Mpub.readMPUB conf.maxMsgSize conf.maxBodySize (r.take n.toNat) = .ok bodies r2 ∧
        (mpub conf s b ps rest).reply = some .ok ∧ (mpub conf s b ps rest).ctl = .cont ∧
        (mpub conf s b ps rest).broker = publish b t (toMsgs bodies) ∧
        (mpub conf s b ps rest).eff = [.enq t (toMsgs bodies)] ∧
        (mpub conf s b ps rest).rest = r2 ++ r.drop n.toNat) ∨
    (∃ c, (mpub conf s b ps rest).reply = some (.err c) ∧ (mpub conf s b ps rest).ctl = .close ∧
        Untouched b (mpub conf s b ps rest).broker ∧ (mpub conf s b ps rest).eff = []) :=
  mpub_cases conf s b ps rest

/-- The batch an accepted MPUB decoded is exactly what was on the wire: re-encoding it gives back
the bytes that were consumed. -/
theorem mpub_decodes_the_wire (maxMsg maxBody : Int) (bs : Bytes) (bodies : List Bytes) (r : Bytes)
    (h : Mpub.readMPUB maxMsg maxBody bs = .ok bodies r) : bs = Mpub.encode bodies ++ r :=
  Nsq.Proofs.Mpub.readMPUB_wire maxMsg maxBody bs bodies r h

example : (mpub Examples.conf Examples.conn [] [cMPUB, ascii "t"]
    ([0, 0, 0, 14] ++ Mpub.encode [[97], [98]])).broker =
      [{ name := ascii "t", paused := false, count := 2, msgs := [⟨[97], 0⟩, ⟨[98], 0⟩], chans := [] }] := by
  decide +kernel
-- second message has size 0: nothing is enqueued (only the empty topic exists)
example : (mpub Examples.conf Examples.conn [] [cMPUB, ascii "t"]
    ([0, 0, 0, 13, 0, 0, 0, 2, 0, 0, 0, 1, 97, 0, 0, 0, 0])).broker = [emptyTopic (ascii "t")] := by
  decide +kernel

/-! ## 6. The declared MPUB body size bounds the batch

`readMPUB` reads from the declared — and range-checked — body, not from the connection itself
(`fixes/F10_mpub_body_limit.patch`; without that limit an MPUB takes in count × (4 + max-msg-size) bytes
whatever size it declared: declared 1, batch of 14 bytes accepted). -/

/-- The bytes an accepted MPUB consumes after its size field are at most the declared body size,
which itself is within [1, max-body-size]: max-body-size is enforced for every MPUB. -/
theorem mpub_total_le_body_limit (conf : Conf) (s : ConnState) (b : Broker) (ps : List Bytes) (rest : Bytes)
    (n : Int) (r : Bytes) (hl : readLen rest = some (n, r)) (hok : (mpub conf s b ps rest).reply = some .ok) :
    1 ≤ n ∧ n ≤ conf.maxBodySize ∧ ((r.length : Int) - ((mpub conf s b ps rest).rest.length : Int)) ≤ n := by
  rcases mpub_cases conf s b ps rest with ⟨t, n', r', bodies, r2, _, hl', h1, h2, hm, _, _, _, _, hrest⟩ | ⟨c, hc, _⟩
  · rw [hl] at hl'
    simp only [Option.some.injEq, Prod.mk.injEq] at hl'
    obtain ⟨rfl, rfl⟩ := hl'
    have h3 := congrArg List.length (Nsq.Proofs.Mpub.readMPUB_wire _ _ _ _ _ hm)
    simp only [List.length_append, List.length_take] at h3
    rw [hrest]
    simp only [List.length_append, List.length_drop]
    refine ⟨h1, h2, ?_⟩
    omega
  · rw [hc] at hok; simp at hok

/-- The bound by the limits alone still holds for the shared reader (HTTP passes it its own limit). -/
theorem mpub_consumed_by_limits (maxMsg maxBody : Int) (bs : Bytes) (bodies : List Bytes) (r : Bytes)
    (h : Mpub.readMPUB maxMsg maxBody bs = .ok bodies r) :
    (bs.length - r.length : Int) ≤ 4 + Mpub.maxMessages maxBody * (4 + maxMsg) := by
  obtain ⟨h1, h2, h3, h4⟩ := Nsq.Proofs.Mpub.readMPUB_ok maxMsg maxBody bs bodies r h
  have hsum : ∀ (l : List Bytes), (∀ b ∈ l, Nsq.Proofs.Mpub.BodyOk maxMsg b) →
      (((l.map (fun b => b.length + 4)).sum : Nat) : Int) ≤ (l.length : Int) * (4 + maxMsg) := by
    intro l
    induction l with
    | nil => simp
    | cons x xs ih =>
      intro hx
      have hxs := ih (fun b hb => hx b (List.mem_cons_of_mem _ hb))
      have hx0 := hx x (List.mem_cons_self)
      unfold Nsq.Proofs.Mpub.BodyOk at hx0
      simp only [List.map_cons, List.sum_cons, List.length_cons]
      push_cast
      rw [Int.add_mul, Int.one_mul]
      omega
  have hs := hsum bodies h3
  have hmsg : (0 : Int) ≤ 4 + maxMsg := by
    cases bodies with
    | nil => simp at h1
    | cons x xs =>
      have := h3 x (List.mem_cons_self)
      unfold Nsq.Proofs.Mpub.BodyOk at this
      omega
  have hmul : (bodies.length : Int) * (4 + maxMsg) ≤ Mpub.maxMessages maxBody * (4 + maxMsg) :=
    Int.mul_le_mul_of_nonneg_right h2 hmsg
  have h4' : (bs.length : Int) = 4 + (((bodies.map (fun b => b.length + 4)).sum : Nat) : Int) + (r.length : Int) := by
    rw [h4, List.length_append, Nsq.Proofs.Mpub.encode_length]; push_cast; rfl
  omega

-- the witness of F10 (declared size 1, batch of 14 bytes): E_BAD_BODY, nothing enqueued
example : (mpub Examples.conf Examples.conn [] [cMPUB, ascii "t"] ([0, 0, 0, 1] ++ Mpub.encode [[97], [98]])).reply =
    some (.err .E_BAD_BODY) := by decide +kernel
-- a batch one byte longer than declared: E_BAD_MESSAGE, nothing enqueued (only the empty topic exists)
example : (mpub Examples.conf Examples.conn [] [cMPUB, ascii "t"] ([0, 0, 0, 13] ++ Mpub.encode [[97], [98]])).reply =
    some (.err .E_BAD_MESSAGE) ∧
    (mpub Examples.conf Examples.conn [] [cMPUB, ascii "t"] ([0, 0, 0, 13] ++ Mpub.encode [[97], [98]])).broker =
      [emptyTopic (ascii "t")] := by decide +kernel
-- over-declared: accepted; exactly the batch is consumed, the rest of the stream is read as commands
example : (mpub Examples.conf Examples.conn [] [cMPUB, ascii "t"]
    ([0, 0, 0, 20] ++ Mpub.encode [[97], [98]] ++ ascii "NOP\n")).rest = ascii "NOP\n" := by decide +kernel

end Nsq.Props.C09
