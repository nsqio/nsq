/-
C03.2 — the one-message overshoot as a HISTORY-level theorem at micro-step granularity.

`Props.C03.overshoot_le_one` only says "a delivery leaves the connection disarmed" (a step-level fact). Here, over
EVERY op list in which deliveries happen through the pump's micro-steps `guard k | deliverArmed k id` (any other op —
RDY, CLS, pause, FIN, REQ, scans, Empty, (dis)connects, FIN micro-steps, sampling drops — at any place in between):

* `every_delivery_has_its_guard` — in the history, every `deliver k _ _` event is preceded by a `guardOk k` event that
  lies AFTER the previous `deliver k` event: one successful evaluation of `IsReadyForMessages` per message, so at most
  ONE message can follow a RDY decrease / CLS / pause the pump has not evaluated yet;
* `deliveries_le_guards` — hence, per connection, #deliveries ≤ #successful guard evaluations on every reachable history
  (and `<` while a licence is unconsumed);
* `guard_event_means_ready` — a `guardOk k` event is recorded only in a state where `¬paused ∧ 0 < rdy ∧ inFlight < rdy`.
The atomic `deliver` op (guard and send in ONE step; what the serialised observer of the atomic model sees) records no
`guardOk` and is excluded by hypothesis; for it `C03.deliver_only_if_ready` gives the guard at the delivery itself.
Replayed on the real code: `corpus/C03/obs/overshoot.ops` (hook `proto.pump.afterGuard`).
-/
import Nsq.Proofs.ChanGuard
import Nsq.Proofs.ChanCount
namespace Nsq.Props.C03Guard
open Nsq.Model.Chan Nsq.Proofs.ChanGuard

/-- the op list uses the pump's micro-steps for deliveries -/
def MicroDeliveries (ops : List Op) : Prop := ∀ op ∈ ops, ∀ k id now, op ≠ .deliver k id now

/-- **history level**: whenever the history reads `… ++ deliver k id a :: rest`, the latest guard/deliver event of
`k` in `rest` is a `guardOk k` -/
theorem every_delivery_has_its_guard (conf : Conf) (eph : Bool) (cap : Nat) (ops : List Op) (hm : MicroDeliveries ops)
    (post rest : List Ev) (k id a : Nat)
    (hh : (run conf { ephemeral := eph, memCap := cap } ops).hist = post ++ .deliver k id a :: rest) :
    pend k rest = true := by
  have h := (run_ginv conf (ginv_init eph cap) ops hm).ok
  rw [hh] at h
  clear hh
  induction post with
  | nil => simp only [List.nil_append, okG, Bool.and_eq_true] at h; exact h.1
  | cons e post ih =>
    apply ih
    cases e <;> simp only [List.cons_append, okG, Bool.and_eq_true] at h <;> first | exact h | exact h.2

/-- per connection: deliveries never outnumber successful guard evaluations; strictly fewer while armed -/
theorem deliveries_le_guards (conf : Conf) (eph : Bool) (cap : Nat) (ops : List Op) (hm : MicroDeliveries ops) (k : Nat) :
    nD k (run conf { ephemeral := eph, memCap := cap } ops).hist +
      (pend k (run conf { ephemeral := eph, memCap := cap } ops).hist).toNat
    ≤ nG k (run conf { ephemeral := eph, memCap := cap } ops).hist :=
  okG_count k _ (run_ginv conf (ginv_init eph cap) ops hm).ok

/-- an armed connection has an unconsumed licence in the history -/
theorem armed_has_licence (conf : Conf) (eph : Bool) (cap : Nat) (ops : List Op) (hm : MicroDeliveries ops) :
    ∀ cl ∈ (run conf { ephemeral := eph, memCap := cap } ops).clients, cl.armed = true →
      pend cl.conn (run conf { ephemeral := eph, memCap := cap } ops).hist = true :=
  (run_ginv conf (ginv_init eph cap) ops hm).lic

/-- a `guardOk` event is recorded only by a guard evaluation that found the connection ready -/
theorem guard_event_means_ready (conf : Conf) (c : Chan) (op : Op) (k : Nat)
    (h : nG k (step conf c op).1.hist ≠ nG k c.hist) :
    op = .guard k ∧ ∃ cl, findC c.clients k = some cl ∧ ready c.paused cl = true := by
  obtain ⟨ev, hp, hr⟩ := (Nsq.Proofs.Chan.step_records conf c op).of_nEv_ne _ h
  cases ev with
  | guardOk k' => obtain rfl : k' = k := by simpa [isG] using hp
                  exact hr
  | _ => cases hp

/-! non-vacuity: the overshoot schedule — guard, RDY 0, the armed delivery still happens (its licence is the guard
evaluation before the RDY change), a second one is refused -/
def ovOps : List Op := [.put 7 {}, .put 8 {}, .addClient 1 60 0, .rdy 1 1, .guard 1, .rdy 1 0, .deliverArmed 1 7 100]
theorem ovOps_micro : MicroDeliveries ovOps := by
  intro op hop k id now; simp [ovOps] at hop; rcases hop with h | h | h | h | h | h | h <;> subst h <;> simp
example : MicroDeliveries ovOps := ovOps_micro
example : (run {} {} ovOps).hist.take 3 = [.deliver 1 7 1, .rdySet 1 0, .guardOk 1] := by decide
example : pend 1 [Ev.rdySet 1 0, .guardOk 1, .rdySet 1 1, .joined 1, .fanout 8 false, .fanout 7 false] = true := by decide
example : (step {} (run {} {} ovOps) (.deliverArmed 1 8 101)).2 = .reject "not-armed" := by decide
example : nD 1 (run {} {} ovOps).hist = 1 ∧ nG 1 (run {} {} ovOps).hist = 1 := by decide
/-- the theorem applied: the delivery of 7 in `ovOps` has its `guardOk` -/
example : pend 1 ((run {} {} ovOps).hist.drop 1) = true :=
  every_delivery_has_its_guard {} false 0 ovOps ovOps_micro [] _ 1 7 1 (by decide)

end Nsq.Props.C03Guard
