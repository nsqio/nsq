import Nsq.Proofs.WireStack
import Nsq.Tie.Wire
/-!
# C07 — Message content and envelope integrity on every path

The model `Nsq.Model.Wire` is tied to the code by `Nsq.Tie.Wire` (regenerated statements and constants) and by the
correspondence harness `harness/e1/wire_test.go`; the end-to-end oracle `harness/e1/e2e_test.go` checks the
property itself on a running nsqd over every negotiated transport.

Not covered by any theorem (assumptions, named in the evidence): the internals of `crypto/tls`,
`compress/flate`, `snappy` and go-diskqueue's file I/O — `upgrade_loses_nothing_partial` takes
`dec (enc s) = s` as a hypothesis.
-/
namespace Nsq.Props.C07
open Nsq.Model.Wire Nsq.Proofs.Wire Nsq.Proofs.WireStack

/-- Envelope round trip, for EVERY timestamp (all int64), attempts (all uint16), 16-byte id and
body (any bytes, any length ≥ 0): what `WriteTo` writes, `decodeMessage` reads back unchanged. -/
theorem decode_encode (m : Msg) (hid : m.id.length = 16) : decode (encode m) = some m :=
  Nsq.Proofs.Wire.decode_encode m hid

/-- Buffers shorter than 26 bytes are rejected, never mis-parsed. -/
theorem decode_short (b : Bytes) (h : b.length < 26) : decode b = none :=
  Nsq.Proofs.Wire.decode_short b h

/-- Conversely every buffer that decodes is exactly the encoding of the result (so the disk /
wire representation of a message is unique: two different messages never share bytes). -/
theorem encode_decode (b : Bytes) (m : Msg) (h : decode b = some m) : encode m = b ∧ m.id.length = 16 :=
  Nsq.Proofs.Wire.encode_decode b m h

theorem encode_injective (m₁ m₂ : Msg) (h1 : m₁.id.length = 16) (h2 : m₂.id.length = 16)
    (h : encode m₁ = encode m₂) : m₁ = m₂ :=
  Nsq.Proofs.Wire.encode_injective m₁ m₂ h1 h2 h

/-- Framing: for every list of frames the client-side reader run over the concatenation of their
encodings returns exactly that list — bodies that contain newlines, NULs or bytes that look like
frame headers included. The size bound is the client's `int32` length. -/
theorem frame_stream_roundtrip (fs : List Frame) (h : ∀ f ∈ fs, f.data.length + 4 < 2147483648) :
    parseFrames (fs.map encodeFrame).flatten = some fs :=
  Nsq.Proofs.Wire.frame_stream_roundtrip fs h

/-- …and whatever the reader accepts is the concatenation of the frames it returns. -/
theorem frame_stream_sound (s : Bytes) (fs : List Frame) (h : parseFrames s = some fs) :
    (fs.map encodeFrame).flatten = s := by
  revert h
  fun_induction parseFrames s generalizing fs
  case case1 s he =>
    intro h
    cases h
    exact (List.isEmpty_iff.mp he).symm
  case case2 => exact nofun
  case case3 s _ f r hr ih =>
    intro h
    cases hp : parseFrames r with
    | none => rw [hp] at h; contradiction
    | some fs' =>
      rw [hp] at h
      cases h
      rw [List.map_cons, List.flatten_cons, ih fs' hp]
      exact (readFrame_sound s r f hr).symm

/-- Every message frame nsqd emits is within that bound, given `max-msg-size`. -/
theorem size_le_limits (m : Msg) (hid : m.id.length = 16) (maxMsgSize : Nat)
    (hb : m.body.length ≤ maxMsgSize) (hmax : maxMsgSize + 30 < 2147483648) :
    (encode m).length + 4 < 2147483648 := by
  rw [encode_length m hid]; omega

/-- MPUB: every non-empty batch of non-empty bodies within the limits is read back exactly, in
order, and the reader stops exactly at the end of the batch. -/
theorem mpub_roundtrip (bs : List Bytes) (rest : Bytes) (maxMsg maxBody : Int) (hne : bs ≠ [])
    (hb : ∀ b ∈ bs, 0 < b.length ∧ (b.length : Int) ≤ maxMsg ∧ b.length < 2147483648)
    (hc : (bs.length : Int) ≤ (maxBody - 4).tdiv 5) (hc31 : bs.length < 2147483648) :
    readMPUB (mpubBody bs ++ rest) maxMsg maxBody = .ok (bs, rest) :=
  Nsq.Proofs.Wire.mpub_roundtrip bs rest maxMsg maxBody hne hb hc hc31

/-- …and an accepted MPUB body IS the serialisation of the bodies returned (nothing is invented,
dropped or re-cut), each within the limits. -/
theorem mpub_sound (s : Bytes) (maxMsg maxBody : Int) (bs : List Bytes) (rest : Bytes)
    (h : readMPUB s maxMsg maxBody = .ok (bs, rest)) :
    s = mpubBody bs ++ rest ∧ bs ≠ [] ∧ (bs.length : Int) ≤ (maxBody - 4).tdiv 5 ∧
      ∀ b ∈ bs, 0 < b.length ∧ (b.length : Int) ≤ maxMsg :=
  Nsq.Proofs.Wire.mpub_sound s maxMsg maxBody bs rest h

/-- All or nothing: any failure enqueues no message; success enqueues the whole batch in order. -/
theorem mpub_all_or_nothing (q : List Bytes) (s : Bytes) (maxMsg maxBody : Int) :
    ((mpubCmd q s maxMsg maxBody).2 ≠ none → (mpubCmd q s maxMsg maxBody).1 = q) ∧
    ((mpubCmd q s maxMsg maxBody).2 = none → ∃ bs rest,
      readMPUB s maxMsg maxBody = .ok (bs, rest) ∧ (mpubCmd q s maxMsg maxBody).1 = q ++ bs) :=
  Nsq.Proofs.Wire.mpub_all_or_nothing q s maxMsg maxBody

/-- Text `/mpub` (with or without a `Content-Length`): the messages are the non-empty pieces
between newlines, each byte-exact (`splitNL_join`: the pieces re-joined give the body), a final
piece without newline is kept whole; an over-long body is an error, never a silent truncation. -/
theorem textmpub_split (k : Bool) (body : Bytes) (maxMsg maxBody : Nat) (hlen : body.length ≤ maxBody)
    (hblk : ∀ b ∈ splitNL body, b.length ≤ maxMsg) :
    textMpubHttp k body maxMsg maxBody = .ok ((splitNL body).filter (fun b => !b.isEmpty)) ∧
    [10].intercalate (splitNL body) = body ∧ (∀ b ∈ splitNL body, (10 : UInt8) ∉ b) :=
  ⟨textmpubHttp_split k body maxMsg maxBody hlen hblk, splitNL_join body, splitNL_no_newline body⟩

theorem textmpub_never_truncates (k : Bool) (body : Bytes) (maxMsg maxBody : Nat) (hlen : maxBody < body.length) :
    ∃ e, textMpubHttp k body maxMsg maxBody = .error e := by
  unfold textMpubHttp
  split
  · exact ⟨_, rfl⟩
  · exact textmpub_too_big body maxMsg maxBody hlen

/-- HTTP `/pub` (with or without a `Content-Length`): what is published is exactly the request body,
accepted iff it has 1..max-msg-size bytes — an over-long body is refused, never truncated. -/
theorem http_pub_exact (k : Bool) (body : Bytes) (maxMsg : Nat) :
    (∀ b, httpPub k body maxMsg = .ok b → b = body) ∧
    ((∃ b, httpPub k body maxMsg = .ok b) ↔ (0 < body.length ∧ body.length ≤ maxMsg)) := by
  rw [httpPub_eq]
  split
  · exact ⟨nofun, by simp; omega⟩
  split
  · next h => exact ⟨nofun, by simp [List.isEmpty_iff.mp h]⟩
  · next h1 h2 =>
    exact ⟨fun b hb => (Except.ok.inj hb).symm,
      fun _ => ⟨List.length_pos_iff.mpr (by simpa using h2), by omega⟩, fun _ => ⟨_, rfl⟩⟩

/-- A diskqueue record (4-byte length + data) is read back exactly (the file I/O of
go-diskqueue itself is an assumption). -/
theorem dq_roundtrip (d rest : Bytes) (minSz maxSz : Nat) (h1 : minSz ≤ d.length)
    (h2 : d.length ≤ maxSz) (h3 : d.length < 2147483648) :
    dqRead minSz maxSz (dqRecord d ++ rest) = some (d, rest) :=
  Nsq.Proofs.Wire.dq_roundtrip d rest minSz maxSz h1 h2 h3

/-- The output side of a connection, for EVERY sequence of protocol actions (responses,
messages, flushes, output-buffer changes, TLS / snappy / deflate upgrades, SUB) from a fresh
connection: the plaintext handed to the successive transport stacks, in order, plus what is
still buffered, is exactly the concatenation of the frames passed to `Send` — no byte is lost,
duplicated or reordered when a writer is replaced.
(This is about the ORDER of the plaintext only; it cannot say that a writer
was re-created on the wrong transport, and `connStep .setOutputBuffer` is the behaviour of the
tree WITH fix F30 — see `Props.C07Stack`, `fixed_tree_is_round6_model` and the witness
`output_on_negotiated_transport_false` for the tree before it.) -/
theorem upgrade_loses_nothing (cap : Nat) (ops : List ConnOp) :
    (connRun (conn0 cap) ops).stream = (((connRun (conn0 cap) ops).sent).map encodeFrame).flatten := by
  rw [show conn0 cap = (Nsq.Model.WireStack.tconn0 cap).forget from rfl, ← forget_run, forget_stream]
  exact tstream true cap ops

/-- The reason: before SUB the buffer is empty after every action (each non-message frame is
flushed, message frames only go to subscribed clients, IDENTIFY is refused after SUB). -/
theorem init_buffer_empty (cap : Nat) (ops : List ConnOp) :
    (connRun (conn0 cap) ops).subscribed = false → (connRun (conn0 cap) ops).w.buf = [] := by
  rw [show conn0 cap = (Nsq.Model.WireStack.tconn0 cap).forget from rfl, ← forget_run]
  exact (streamInv_run true _ ops (streamInv_tconn0 cap)).2

/-- What the client decodes, transport stack by transport stack. *Partial*: the codecs (TLS,
snappy, deflate — any mix, one `enc`/`dec` pair per stack) are only assumed to be inverse to
each other on the streams they carry. -/
theorem upgrade_loses_nothing_partial (cap : Nat) (ops : List ConnOp)
    (enc dec : Nat → Bytes → Bytes) (hcodec : ∀ i s, dec i (enc i s) = s) :
    let c := connRun (conn0 cap) ops
    let layers := c.closedLayers ++ [c.w.sink]
    let wire := (List.range layers.length).zip layers |>.map (fun p => enc p.1 p.2)
    let seen := (List.range wire.length).zip wire |>.map (fun p => dec p.1 p.2)
    seen.flatten ++ c.w.buf = ((c.sent).map encodeFrame).flatten := by
  intro c layers wire seen
  have hs := upgrade_loses_nothing cap ops
  have hseen : seen = layers := by
    simp only [seen, wire]
    apply List.ext_getElem
    · simp
    · intro i h1 h2
      simp [hcodec]
  rw [hseen, ← hs]
  simp [layers, Conn.stream, c]

/-- `writeMessageToBackend` / `SendMessage` with pooled buffers, for every request history and
every choice of buffer from the pool: the bytes handed on for message k are `encode mₖ` and
nothing else; the pool only ever holds empty buffers. -/
theorem buffer_pool_reset (pool : List Bytes) (hp : ∀ b ∈ pool, b = []) (reqs : List (Nat × Msg)) :
    (poolRun pool reqs).2 = reqs.map (fun r => encode r.2) ∧ ∀ b ∈ (poolRun pool reqs).1, b = [] := by
  induction reqs generalizing pool with
  | nil => exact ⟨rfl, hp⟩
  | cons r reqs ih =>
    obtain ⟨k, m⟩ := r
    have hp' : ∀ b ∈ ([] : Bytes) :: pool.eraseIdx k, b = [] := by
      intro b hb
      rcases List.mem_cons.mp hb with hb | hb
      · exact hb
      · exact hp b (List.mem_of_mem_eraseIdx hb)
    obtain ⟨i1, i2⟩ := ih _ hp'
    -- `[] ++ encode m` is rewritten, not left to the unifier, which would unfold `encode`
    rw [poolRun_cons, pooled_buffer_empty pool hp k, List.nil_append]
    exact ⟨congrArg (encode m :: ·) i1, i2⟩

/-- `Topic.messagePump`: every channel's copy carries the same id, body and timestamp. -/
theorem topic_fanout_copies_envelope (m : Msg) (n : Nat) :
    (fanout m n).length = n ∧ ∀ x ∈ fanout m n, x.id = m.id ∧ x.body = m.body ∧ x.ts = m.ts := by
  refine ⟨by simp [fanout], ?_⟩
  intro x hx
  simp only [fanout, List.mem_map, List.mem_range] at hx
  obtain ⟨i, _, rfl⟩ := hx
  split <;> simp

def demoMsg : Msg := { ts := 1700000000000000000#64, attempts := 65535#16,
                       id := [48,49,50,51,52,53,54,55,56,57,97,98,99,100,101,102],
                       body := [0, 0, 0, 8, 0, 0, 0, 2, 10, 0, 255] }   -- looks like a frame header, has NUL and newline

example : decode (encode demoMsg) = some demoMsg := decode_encode demoMsg (by decide)
example : decode (List.replicate 25 0) = none := by decide +kernel
example : parseFrames ((([{ ftype := 2#32, data := encode demoMsg }, { ftype := 0#32, data := [79, 75] }] : List Frame).map
    encodeFrame).flatten) = some [{ ftype := 2#32, data := encode demoMsg }, { ftype := 0#32, data := [79, 75] }] :=
  frame_stream_roundtrip _ (by decide)
example : readMPUB (mpubBody [[1, 2], [0, 0, 0, 1]] ++ [9]) 10 100 = .ok ([[1, 2], [0, 0, 0, 1]], [9]) :=
  mpub_roundtrip _ _ _ _ (by decide) (by decide) (by decide) (by decide)
example : (mpubCmd [[7]] (mpubBody [[1, 2]] |>.dropLast) 10 100) = ([[7]], some .badMessage) := by decide +kernel
example : textMpubHttp false [97, 10, 10, 98] 5 100 = .ok [[97], [98]] :=
  (textmpub_split false [97, 10, 10, 98] 5 100 (by decide) (by decide)).1
example : httpPub false [1, 2, 3, 4] 3 = .error .tooBig ∧ httpPub true [1, 2, 3] 3 = .ok [1, 2, 3] ∧
    httpPub false [] 3 = .error .empty := ⟨rfl, rfl, rfl⟩
/-- an upgrade in the middle: IDENTIFY response, upgrade, OK, SUB, message, flush -/
example : let c := connRun (conn0 16) [.sendResponse ⟨0#32, [123, 125]⟩, .upgrade 64, .sendResponse ⟨0#32, [79, 75]⟩,
                      .subscribe, .sendMessage ⟨2#32, encode demoMsg⟩, .upgrade 1, .flush]
          c.closedLayers.length = 1 ∧ c.sent.length = 3 ∧ c.w.buf = [] := by decide +kernel
/-- `init_buffer_empty` matters: without it a replaced writer would
drop bytes — a buffer holding data is NOT preserved by `upgrade` in general -/
example : (connStep { w := { cap := 8, buf := [1, 2, 3] } } (.upgrade 8)).stream ≠
          ({ w := { cap := 8, buf := [1, 2, 3] } } : Conn).stream := by decide +kernel

end Nsq.Props.C07
