import Nsq.Props.C05
import Nsq.Props.E9DiskQueue
import Nsq.Proofs.DQGlue
/-!
# C05 on top of engine E9 — restart loses nothing, every disk queue a go-diskqueue file set

`C05.restart_preserves` models every disk queue as an entry of the association list `Persist.dq`
and ASSUMES that a named queue hands back after the restart what was flushed into it
(`Restart.lookupDQ`).  Here every named disk queue is a state / file set of the E9 model
`Model.DiskQueue` (tied to go-diskqueue v1.1.0 by `Tie.DiskQueue` + harness/e9):

* before the shutdown backend `b` is a live queue `B b` that holds the messages `disk b` (`RepFor`:
  after ANY history, `E9DiskQueue.reachable_Q`), the messages `rest b` (memory queue, in flight,
  deferred) are not on disk yet; together they are what `Restart.closeAll` records for `b`, as a bag
  (`Perm`: the Life model keeps memory + disk in ONE list and treats it as a bag, `memLen`);
* the shutdown is `flushTo`: `Put` of every message of `rest b` (`Channel.flush`/`Topic.flush` via
  `writeMessageToBackend`), then `Close()`; what survives is `(close …).fs` — files only;
* the new process (possibly with another `--max-bytes-per-file` / `--sync-every`) runs `New` on
  these files and reads (`readAll`); `cycleDQ` is `Restart.reload` with `lookupDQ` replaced by that.

Parameters, not assumptions: the record codec `K` (`Codec`: `Life.Msg` has an abstract `id : Nat`;
`lifeCodec` = the real wire format with the id on 16 bytes, `wireCodec` = the real format on
`Wire.Msg`), `CfgOk cfg'` (`0 < syncEvery`, `maxMsgSize < 2^31`, as everywhere in E9).
Named hypothesis: `hmsg` — every persisted message is in the codec's domain (16-byte id, body within
`--max-msg-size`, …: what the publish path enforces, C07/C11).
-/
namespace Nsq.Props.C05DQ
open Nsq.Model Nsq.Model.Wire Nsq.Model.DiskQueue Nsq.Proofs.DiskQueue Nsq.Props.E9DiskQueue
open Nsq.Model.RestartDQ Nsq.Proofs.DQGlue

/-- 1. THE DATA PART.  A live disk queue `s0` holds `disk` (encoded); the shutdown flushes `rest`
into it and closes it.  Every one of these `Put`s is accepted, and the new process — any
configuration `cfg'` with the same record-size bounds, `maxBytesPerFile`/`syncEvery` free — reads
back from the files alone exactly `disk ++ rest`: every message, in order, identical. -/
theorem flush_reload_exact {μ : Type} (cfg' : Cfg) (hok : CfgOk cfg') (K : Codec μ cfg'.minMsgSize cfg'.maxMsgSize)
    (s0 : St) (disk rest : List μ)
    (h0 : Q s0 (disk.map K.enc))
    (hmin : s0.cfg.minMsgSize = cfg'.minMsgSize) (hmax : s0.cfg.maxMsgSize = cfg'.maxMsgSize)
    (hd : ∀ m ∈ disk, K.ok m) (hr : ∀ m ∈ rest, K.ok m) :
    (∀ n, (disk ++ rest).length ≤ n → readBack K cfg' (flushTo K s0 rest) n = disk ++ rest) ∧
    readAll K cfg' (flushTo K s0 rest) = disk ++ rest ∧
    Q (openQ cfg' (flushTo K s0 rest)) ((disk ++ rest).map K.enc) ∧
    (∀ pre m post, rest = pre ++ m :: post → (put (writeAll s0 (pre.map K.enc)) (K.enc m)).1 = .ok) := by
  have hrep := flush_reload cfg' hok K s0 disk rest ⟨h0, hmin, hmax⟩ hr
  obtain ⟨r1, r2⟩ := readBack_of_rep cfg' hok K (flushTo K s0 rest) (disk ++ rest) hrep (List.forall_mem_append.2 ⟨hd, hr⟩)
  refine ⟨r1, r2, hrep.1, ?_⟩
  intro pre m post e
  subst e
  exact writeAll_next_ok cfg' hok s0 (disk.map K.enc) ⟨h0, hmin, hmax⟩ (pre.map K.enc)
    (enc_valid_all K pre (fun x hx => hr x (List.mem_append_left _ hx))) (K.enc m) (K.valid m (hr m (by simp)))

/-- shutdown + start with every disk queue an E9 file set: the topics and channels
`LoadMetadata` creates from the metadata of `s`, each queue = what `New` + receive hands out
from the files that flushing `rest b` into the live queue `B b` and closing it left behind -/
def cycleDQ (cfg' : Cfg) (K : Codec Life.Msg cfg'.minMsgSize cfg'.maxMsgSize) (s : Life.St)
    (B : Life.BName → St) (rest : Life.BName → List Life.Msg) : List Life.Topic :=
  reloadW (fun b => readAll K cfg' (flushTo K (B b) (rest b))) (Restart.closeAll s).metadata

/-- `Restart.cycle` is the same function with the list lookup in place of the E9 files -/
theorem cycle_is_reloadW (s : Life.St) :
    (Restart.cycle s).topics = reloadW (Restart.lookupDQ (Restart.closeAll s).dq) (Restart.closeAll s).metadata := rfl

/-- 2. `C05.restart_preserves` WITHOUT the disk-queue assumption.  For every state with unique
names, every assignment `B` of a live E9 disk queue to each backend that holds `disk b`, every
`rest b` with `disk b ++ rest b` = the messages `closeAll` records for `b` (as a bag):
a graceful shutdown followed by a start on the same files brings back every durable topic and
channel with its paused flag, and the restarted topic queue / channel content is, read from the
go-diskqueue files, exactly `disk ++ rest` (the real on-disk order: old disk content, then the
flushed messages) — the same bag as before the shutdown: every message the topic / channel was
responsible for (queued in memory or on disk, in flight, deferred), identical id, timestamp,
attempts, body; nothing else. -/
theorem restart_preserves_dq (cfg' : Cfg) (hok : CfgOk cfg') (K : Codec Life.Msg cfg'.minMsgSize cfg'.maxMsgSize)
    (s : Life.St) (hwf : Restart.WF s)
    (B : Life.BName → St) (disk rest : Life.BName → List Life.Msg)
    (hB : ∀ b, RepFor cfg'.minMsgSize cfg'.maxMsgSize (B b) ((disk b).map K.enc))
    (hsplit : ∀ b, (disk b ++ rest b).Perm (Restart.lookupDQ (Restart.closeAll s).dq b))
    (hmsg : ∀ e ∈ (Restart.closeAll s).dq, ∀ m ∈ e.2, K.ok m) :
    Life.persisted { memCap := s.memCap, topics := cycleDQ cfg' K s B rest } = Life.persisted s ∧
    ∀ T ∈ s.topics, T.eph = false →
      ∃ T' ∈ cycleDQ cfg' K s B rest, T'.name = T.name ∧ T'.paused = T.paused ∧ T'.eph = false ∧
        T'.queue = disk (T.name, none) ++ rest (T.name, none) ∧ T'.queue.Perm T.queue ∧
        ∀ C ∈ T.chans, C.eph = false →
          ∃ C' ∈ T'.chans, C'.name = C.name ∧ C'.paused = C.paused ∧ C'.eph = false ∧
            C'.located = disk (T.name, some C.name) ++ rest (T.name, some C.name) ∧
            C'.located.Perm C.located ∧ C'.inflight = [] ∧ C'.clients = [] := by
  have hlook : ∀ b, readAll K cfg' (flushTo K (B b) (rest b)) = disk b ++ rest b :=
    fun b => readAll_flush cfg' hok K (B b) (disk b) (rest b) (hB b) (lookupDQ_all hmsg (hsplit b))
  refine ⟨persisted_reloadW s.memCap _ _, fun T hT he => ?_⟩
  -- the reloaded topic / channel is the image of its metadata entry
  refine ⟨_, List.mem_map_of_mem (List.mem_map_of_mem (List.mem_filter.2 ⟨hT, by simp [he]⟩)), rfl, rfl, rfl, hlook _, ?_,
    fun C hC hce => ?_⟩
  · show (readAll K cfg' (flushTo K (B (T.name, none)) (rest (T.name, none)))).Perm T.queue
    rw [hlook, ← Nsq.Proofs.Restart.lookup_topic s T hT he hwf]
    exact hsplit _
  · have hl : (reloadChanW (fun b => readAll K cfg' (flushTo K (B b) (rest b))) T.name (C.name, C.paused)).located =
        disk (T.name, some C.name) ++ rest (T.name, some C.name) := by
      simp only [Life.Chan.located, reloadChanW, List.map_nil, List.append_nil]
      exact hlook _
    refine ⟨_, List.mem_map_of_mem (List.mem_map_of_mem (List.mem_filter.2 ⟨hC, by simp [hce]⟩)), rfl, rfl, rfl, hl, ?_, rfl, rfl⟩
    rw [hl, ← Nsq.Proofs.Restart.lookup_chan s T C hT hC hce hwf]
    exact hsplit _

/-- 3. when the split follows the model's list order (`disk b ++ rest b` IS the list `closeAll`
records — e.g. everything already on disk, or nothing), reading the E9 files computes literally the
restarted state of the list model: every theorem of C05 about `cycle s` (`finished_stay_finished`,
`zero_channel_topic`, `load_before_start`, `restart_cycles`, …) is a theorem about the E9 files. -/
theorem cycle_refines_exact (cfg' : Cfg) (hok : CfgOk cfg') (K : Codec Life.Msg cfg'.minMsgSize cfg'.maxMsgSize)
    (s : Life.St) (B : Life.BName → St) (disk rest : Life.BName → List Life.Msg)
    (hB : ∀ b, RepFor cfg'.minMsgSize cfg'.maxMsgSize (B b) ((disk b).map K.enc))
    (hsplit : ∀ b, disk b ++ rest b = Restart.lookupDQ (Restart.closeAll s).dq b)
    (hmsg : ∀ e ∈ (Restart.closeAll s).dq, ∀ m ∈ e.2, K.ok m) :
    cycleDQ cfg' K s B rest = (Restart.cycle s).topics := by
  rw [cycle_is_reloadW]
  refine congrArg (reloadW · _) (funext fun b => ?_)
  rw [← hsplit b]
  exact readAll_flush cfg' hok K (B b) (disk b) (rest b) (hB b) (lookupDQ_all hmsg (.of_eq (hsplit b)))

/-! ### non-vacuity -/

/-- nsqd's shape of configuration, small: `--max-msg-size 4`, files of at most 40 bytes, sync every 2 -/
def cfgT : Cfg := nsqdCfg 4 40 2
theorem cfgT_ok : CfgOk cfgT := ⟨by decide, by decide⟩

/-- the codec parameter is met by the real wire format — on `Wire.Msg` and (id on 16 bytes) on `Life.Msg` -/
example : Codec Wire.Msg cfgT.minMsgSize cfgT.maxMsgSize := wireCodec 4
def KT : Codec Life.Msg cfgT.minMsgSize cfgT.maxMsgSize := lifeCodec 4

open Nsq.Props.C05 (mA mB mC demo) in
example : KT.ok mA ∧ KT.ok mB ∧ KT.ok mC ∧ ¬ KT.ok { mC with body := [1, 2, 3, 4, 5] } ∧ ¬ KT.ok { mC with ts := 2 ^ 63 } := by
  show LifeOk 4 mA ∧ LifeOk 4 mB ∧ LifeOk 4 mC ∧ ¬ LifeOk 4 { mC with body := [1, 2, 3, 4, 5] } ∧ ¬ LifeOk 4 { mC with ts := 2 ^ 63 }
  decide

open Nsq.Props.C05 (mA mB mC demo) in
/-- a two-message flush into a fresh queue: records of 31 and 33 bytes, 40-byte files → the second
`Put` rolls to file 1; the new process (files of 1000 bytes) reads both back -/
example : (writeAll (openQ cfgT FS.empty) ([mA, mC].map KT.enc)).wf = 1 ∧
    ((flushTo KT (openQ cfgT FS.empty) [mA, mC]).dat 0).isSome ∧ ((flushTo KT (openQ cfgT FS.empty) [mA, mC]).dat 1).isSome ∧
    (flushTo KT (openQ cfgT FS.empty) [mA, mC]).md = some { depth := 2, rf := 0, rp := 0, wf := 1, wp := 33 } ∧
    readBack KT { cfgT with maxBytesPerFile := 1000 } (flushTo KT (openQ cfgT FS.empty) [mA, mC]) 5 = [mA, mC] ∧
    readAll KT cfgT (flushTo KT (openQ cfgT FS.empty) [mA, mC]) = [mA, mC] := by decide +kernel

open Nsq.Props.C05 (mA mB mC demo) in
/-- … and behind a record that was on disk already (the hypotheses of `flush_reload_exact`) -/
example : Q (put (openQ cfgT FS.empty) (KT.enc mB)).2 ([mB].map KT.enc) :=
  (put_fresh cfgT cfgT_ok (KT.enc mB) (KT.valid mB (by show LifeOk 4 mB; decide))).1

/-! an instance of the hypotheses of `restart_preserves_dq`: `C05.demo` (memCap 1; durable topic `t`
with the paused channel `c`: mC on its disk queue, mA in flight with attempts 1, mB deferred;
zero-channel topic `z`: mA in its memory queue, mB on its disk queue) -/

def mA1 : Life.Msg := { C05.mA with attempts := 1 }
def mB1 : Life.Msg := { C05.mB with attempts := 1 }

/-- the live disk queues before the shutdown -/
def demoB (b : Life.BName) : St :=
  if b = ("t", some "c") then (put (openQ cfgT FS.empty) (KT.enc C05.mC)).2
  else if b = ("z", none) then (put (openQ cfgT FS.empty) (KT.enc C05.mB)).2
  else openQ cfgT FS.empty

def demoDisk (b : Life.BName) : List Life.Msg :=
  if b = ("t", some "c") then [C05.mC] else if b = ("z", none) then [C05.mB] else []

/-- what is in memory / in flight / deferred at the shutdown -/
def demoRest (b : Life.BName) : List Life.Msg :=
  if b = ("t", some "c") then [mA1, mB1] else if b = ("z", none) then [C05.mA]
  else Restart.lookupDQ (Restart.closeAll C05.demo).dq b

example : Restart.WF C05.demo := C05.wf_reachable 1 _

theorem demo_rep : ∀ b, RepFor cfgT.minMsgSize cfgT.maxMsgSize (demoB b) ((demoDisk b).map KT.enc) := by
  intro b
  unfold demoB demoDisk
  by_cases h1 : b = ("t", some "c")
  · rw [if_pos h1, if_pos h1]
    exact put_fresh cfgT cfgT_ok (KT.enc C05.mC) (KT.valid C05.mC (by show LifeOk 4 C05.mC; decide))
  · rw [if_neg h1, if_neg h1]
    by_cases h2 : b = ("z", none)
    · rw [if_pos h2, if_pos h2]
      exact put_fresh cfgT cfgT_ok (KT.enc C05.mB) (KT.valid C05.mB (by show LifeOk 4 C05.mB; decide))
    · rw [if_neg h2, if_neg h2]
      exact fresh_empty cfgT cfgT_ok

/-- the split is a genuine permutation for `z`: the model's list is [mA, mB] (publish order), on the
real disk mB comes first (it overflowed to disk while mA sat in the memory queue) -/
theorem demo_split : ∀ b, (demoDisk b ++ demoRest b).Perm (Restart.lookupDQ (Restart.closeAll C05.demo).dq b) := by
  intro b
  unfold demoDisk demoRest
  by_cases h1 : b = ("t", some "c")
  · rw [if_pos h1, if_pos h1, h1]
    exact List.Perm.of_eq (by decide)
  · rw [if_neg h1, if_neg h1]
    by_cases h2 : b = ("z", none)
    · rw [if_pos h2, if_pos h2, h2]
      have : Restart.lookupDQ (Restart.closeAll C05.demo).dq ("z", none) = [C05.mA, C05.mB] := by decide +kernel
      rw [this]
      exact List.Perm.swap _ _ _
    · rw [if_neg h2, if_neg h2]
      exact List.Perm.refl _

theorem demo_ok : ∀ e ∈ (Restart.closeAll C05.demo).dq, ∀ m ∈ e.2, KT.ok m := by
  show ∀ e ∈ (Restart.closeAll C05.demo).dq, ∀ m ∈ e.2, LifeOk 4 m
  decide

/-- all hypotheses of `restart_preserves_dq` at once, on a state with two non-trivial live disk queues -/
example := restart_preserves_dq cfgT cfgT_ok KT C05.demo (C05.wf_reachable 1 _) demoB demoDisk demoRest
  demo_rep demo_split demo_ok

/-- the conclusion computed on the E9 model: channel `c` of `t` gets mC (disk), then mA, mB with
their attempts; topic `z` gets mB, mA — the order of the real files -/
example : (cycleDQ cfgT KT C05.demo demoB demoRest).map (fun T => (T.name, T.paused, T.queue.map (·.id))) =
    [("t", false, []), ("z", false, [22, 21])] := by decide +kernel
example : (cycleDQ cfgT KT C05.demo demoB demoRest).flatMap
      (fun T => T.chans.map (fun C => (C.name, C.paused, C.located.map (fun m => (m.id, m.attempts))))) =
    [("c", true, [(23, 0), (21, 1), (22, 1)])] := by decide +kernel

end Nsq.Props.C05DQ
