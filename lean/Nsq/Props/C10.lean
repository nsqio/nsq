import Nsq.Proofs.HttpDoc
import Nsq.Proofs.HttpApiEquiv
import Nsq.Proofs.HttpTextDiv
import Nsq.Proofs.HttpRoutes
/-!
# C10 — nsqd HTTP API: validation, status codes and equivalence with TCP publish

The model `Nsq.Model.HttpApi.handle`
(request as the handler sees it → response status/message and new broker) is tied to `/repo` by
`Nsq.Tie.ProtoHttp` (route table = the `router.Handle` registrations; ordered text of every
status-deciding statement) and by the correspondence harness (`harness/e3/http_test.go`, real
`httpServer.ServeHTTP`). The TCP side of the equivalences is the C09 model `Nsq.Model.ProtoV2`.

Statements quantify over all requests (method, path, raw query, declared/undeclared length, body),
all option values and all broker states. `net/http` and `httprouter` are trusted (DESIGN §4).
-/
namespace Nsq.Props.C10
open Nsq.Model.HttpApi Nsq.Model.ProtoV2 Nsq.Model.Names Nsq.Model.Base10 Nsq.Model Nsq.Spec.ProtoSpec
open Nsq.Proofs.HttpApi Nsq.Proofs.HttpDoc Nsq.Proofs.HttpApiEquiv Nsq.Proofs.ProtoV2

/-- Every error status has its documented cause: 413 ⇒ something oversize (or a malformed binary
batch / config value, which reuse 413), 400 ⇒ a bad or missing argument, 404 (handler) ⇒ unknown
topic/channel, 405 ⇒ path registered for another method, 403 ⇒ TLS required, 500 ⇒ the injected
health fault on /ping. -/
theorem status_documented (hc : HConf) (healthy : Bool) (b : Broker) (rq : Request) :
    Documented hc healthy b rq (handle hc healthy b rq).1 := by
  unfold handle
  split
  · exact documented_of .s403 rfl ‹_›
  · split
    · rename_i h hr
      exact runHandler_doc hc healthy b rq h (fun e => ping_path _ _ (e ▸ hr))
    · exact documented_of .s200 rfl trivial
    · exact documented_of .s405 rfl ‹_›
    · exact documented_of .notFoundOrRedirect rfl trivial

/-- No complete request is answered 500: the only 500 of the model is `/ping` while the daemon
reports itself unhealthy (backend write error — the I/O-fault hypothesis). -/
theorem no_500 (hc : HConf) (b : Broker) (rq : Request) : (handle hc true b rq).1.status ≠ .s500 := by
  intro h
  have := (status_documented hc true b rq).s500 h
  simp at this

/-- `handle` is total, and the two places where the Go code could panic cannot: `readMPUB` never
reaches `make` with a negative size (so the recovered-panic 500 of binary /mpub is dead), and
`Code[2:]` is applied to codes of at least two characters. -/
theorem handle_total_no_panic :
    (∀ maxMsg maxBody bs, Mpub.readMPUB maxMsg maxBody bs ≠ .panic) ∧ (∀ c : Code, 2 ≤ c.toString.length) :=
  ⟨Nsq.Proofs.Mpub.readMPUB_ne_panic, fun c => by cases c <;> decide +kernel⟩

/-- A path that is not registered never reaches a handler. (Wrong method on a registered path:
`C10Char.router_status_iff`.) -/
theorem unknown_path_not_found (hc : HConf) (healthy : Bool) (b : Broker) (rq : Request)
    (htls : hc.tlsRefuse = false) (h : route rq.method rq.path = .notFound) :
    handle hc healthy b rq = (⟨.notFoundOrRedirect, "NOT_FOUND"⟩, b) := by
  simp [handle, htls, h, resp]

example : (handle Examples.hconf true [] ⟨ascii "POST", ascii "/pub", ascii "topic=t", 3, [1, 2, 3]⟩).1.status = .s200 := by
  rw [handle_of_route rfl route_pub]; decide +kernel
example : (handle Examples.hconf true [] ⟨ascii "POST", ascii "/pub", ascii "topic=bad!", 3, [1, 2, 3]⟩).1 =
    ⟨.s400, "INVALID_TOPIC"⟩ := by
  rw [handle_of_route rfl route_pub]; decide +kernel
example : (handle Examples.hconf true [] ⟨ascii "GET", ascii "/pub", ascii "topic=t", 0, []⟩).1.status = .s405 := by
  decide +kernel
example : (handle Examples.hconf true [] ⟨ascii "POST", ascii "/pub", ascii "topic=t", 9, [1, 2, 3, 4, 5, 6, 7, 8, 9]⟩).1.status
    = .s413 := by
  rw [handle_of_route rfl route_pub]; decide +kernel
example : (handle Examples.hconf false [] ⟨ascii "GET", ascii "/ping", [], 0, []⟩).1.status = .s500 := by
  rw [handle_of_route rfl route_ping]; decide +kernel
example : (handle Examples.hconf true [] ⟨ascii "POST", ascii "/topic/empty", ascii "topic=t", 0, []⟩).1 =
    ⟨.s404, "TOPIC_NOT_FOUND"⟩ := by
  rw [handle_of_route rfl route_topic_empty]; decide +kernel

/-- `/pub?topic=t` enqueues exactly what `PUB t` enqueues and rejects exactly when it rejects — for
every topic name, every body (complete request: declared length or chunked) and every broker. A
rejection on either side leaves all queues untouched. -/
theorem pub_equiv_tcp (conf : Conf) (hc : HConf) (hl : Linked conf hc) (s : ConnState) (b : Broker) (rq : Request)
    (kv : List (Bytes × Bytes)) (cmd t : Bytes) (tl : List Bytes) (rest : Bytes)
    (hq : parseQuery rq.rawQuery = some kv) (ht : qget kv kTopic = some t) (hnd : qget kv kDefer = none)
    (hcomp : Complete rq) (hlen : rq.body.length < 2147483648) :
    ((doPUB hc b rq).1.status = .s200 ↔ (pub conf s b (cmd :: t :: tl) (wire rq.body rest)).reply = some .ok) ∧
    ((doPUB hc b rq).1.status = .s200 →
      (doPUB hc b rq).2 = (pub conf s b (cmd :: t :: tl) (wire rq.body rest)).broker) ∧
    ((doPUB hc b rq).1.status ≠ .s200 →
      Untouched b (doPUB hc b rq).2 ∧ Untouched b (pub conf s b (cmd :: t :: tl) (wire rq.body rest)).broker) := by
  have h := pubBody_agrees conf hc hl s b rq kv t rest hq ht hcomp hlen
  have hd : deferArg hc kv = some 0 := by unfold deferArg; rw [hnd]
  rw [hd] at h
  exact h

/-- `/pub?topic=t&defer=d` ≡ `DPUB t d` for every non-empty decimal `d` (digits only, any length,
including values beyond 64 bits): same acceptance, same delay in nanoseconds, same queue. -/
theorem dpub_equiv_tcp (conf : Conf) (hc : HConf) (hl : Linked conf hc) (s : ConnState) (b : Broker) (rq : Request)
    (kv : List (Bytes × Bytes)) (cmd t d : Bytes) (tl : List Bytes) (rest : Bytes)
    (hq : parseQuery rq.rawQuery = some kv) (ht : qget kv kTopic = some t) (hdq : qget kv kDefer = some d)
    (hd : d ≠ []) (hall : ∀ c ∈ d, IsDigit c) (hcomp : Complete rq) (hlen : rq.body.length < 2147483648) :
    ((doPUB hc b rq).1.status = .s200 ↔ (dpub conf s b (cmd :: t :: d :: tl) (wire rq.body rest)).reply = some .ok) ∧
    ((doPUB hc b rq).1.status = .s200 →
      (doPUB hc b rq).2 = (dpub conf s b (cmd :: t :: d :: tl) (wire rq.body rest)).broker) ∧
    ((doPUB hc b rq).1.status ≠ .s200 →
      Untouched b (doPUB hc b rq).2 ∧ Untouched b (dpub conf s b (cmd :: t :: d :: tl) (wire rq.body rest)).broker) := by
  have h := pubBody_agrees conf hc hl s b rq kv t rest hq ht hcomp hlen
  rw [defer_equiv conf hc hl kv d hdq hd hall] at h
  rw [dpub_deferTcp]
  exact h

/-- Binary `/mpub` ≡ `MPUB` of the same batch (same parser, same limits): accepted together,
rejected together, identical queues. Hypothesis: the length is declared, or the chunked body is
within max-body-size (beyond it HTTP reads only the first max-body-size bytes: `mpub_body_bounded`). -/
theorem mpub_binary_equiv_tcp (conf : Conf) (hc : HConf) (hl : Linked conf hc) (s : ConnState) (b : Broker)
    (rq : Request) (kv : List (Bytes × Bytes)) (cmd t : Bytes) (tl : List Bytes)
    (hq : parseQuery rq.rawQuery = some kv) (ht : qget kv kTopic = some t) (hbin : binaryMode kv = true)
    (hcomp : rq.contentLength = rq.body.length ∨ (rq.contentLength = -1 ∧ (rq.body.length : Int) ≤ hc.maxBodySize))
    (hlen : rq.body.length < 2147483648) :
    ((doMPUB hc b rq).1.status = .s200 ↔ (mpub conf s b (cmd :: t :: tl) (mwire rq.body)).reply = some .ok) ∧
    ((doMPUB hc b rq).1.status = .s200 →
      (doMPUB hc b rq).2 = (mpub conf s b (cmd :: t :: tl) (mwire rq.body)).broker) ∧
    ((doMPUB hc b rq).1.status ≠ .s200 →
      Untouched b (doMPUB hc b rq).2 ∧ Untouched b (mpub conf s b (cmd :: t :: tl) (mwire rq.body)).broker) := by
  show Agrees b (doMPUB hc b rq) (mpub conf s b (cmd :: t :: tl) (mwire rq.body))
  by_cases hv : isValidName t = true
  · rw [mpub_mwire conf s b cmd t tl rq.body hl.auth hv hlen]
    have hU := untouched_getTopic b t hv
    by_cases hbig : (rq.body.length : Int) > hc.maxBodySize
    · -- declared and too big: 413 / E_BAD_BODY
      have hcl : rq.contentLength > hc.maxBodySize := by
        rcases hcomp with h | ⟨_, h⟩ <;> omega
      have hh : doMPUB hc b rq = resp .s413 "BODY_TOO_BIG" b := by rw [doMPUB, if_pos hcl]
      have hbig' : (rq.body.length : Int) > conf.maxBodySize := by rw [← hl.body]; exact hbig
      rw [hh]
      by_cases h0 : (rq.body.length : Int) ≤ 0
      · rw [if_pos h0]
        exact agree_of_reject (by simp [resp]) (by simp [fatal]) (.inl rfl) hU
      · rw [if_neg h0, if_pos hbig']
        exact agree_of_reject (by simp [resp]) (by simp [fatal]) (.inl rfl) hU
    · have hcl : ¬ rq.contentLength > hc.maxBodySize := by
        rcases hcomp with h | ⟨h, _⟩ <;> omega
      have hbig' : ¬ (rq.body.length : Int) > conf.maxBodySize := by rw [← hl.body]; exact hbig
      rw [doMPUB_binary hc b rq kv t hq ht hbin hv hcl (by omega), hl.msg, hl.body]
      by_cases h0 : (rq.body.length : Int) ≤ 0
      · rw [if_pos h0]
        have hnil : rq.body = [] := by
          cases hb : rq.body with
          | nil => rfl
          | cons x xs => rw [hb] at h0; simp at h0; omega
        have hr : Mpub.readMPUB conf.maxMsgSize conf.maxBodySize rq.body = .err .E_BAD_BODY := by
          rw [hnil]; rfl
        rw [hr]
        exact agree_of_reject (by simp [resp]) (by simp [fatal]) hU hU
      · rw [if_neg h0, if_neg hbig']
        cases hr : Mpub.readMPUB conf.maxMsgSize conf.maxBodySize rq.body with
        | err c => exact agree_of_reject (by simp [resp]) (by simp [fatal]) hU hU
        | panic => exact absurd hr (Nsq.Proofs.Mpub.readMPUB_ne_panic _ _ _)
        | ok bodies r2 => exact agree_of_accept rfl rfl rfl
  · have hv' : isValidName t = false := by simpa using hv
    have htcp : mpub conf s b (cmd :: t :: tl) (mwire rq.body) = fatal .E_BAD_TOPIC s b := by
      rw [mpub]; simp only [hv', Bool.not_false, if_true]
    have hh : (doMPUB hc b rq).1.status ≠ .s200 ∧ (doMPUB hc b rq).2 = b := by
      rw [doMPUB]
      split
      · exact ⟨by simp [resp], rfl⟩
      · rw [topicFromQuery_of _ _ _ hq ht, if_neg hv]
        exact ⟨by simp [resp], rfl⟩
    rw [htcp]
    exact agree_of_reject hh.1 (by simp [fatal]) (.inl hh.2) (.inl rfl)

/-- Text `/mpub`: for non-empty, newline-free blocks within the limits, posting them joined by
`\n` (with or without a trailing newline) enqueues exactly what `MPUB` of the list enqueues. -/
theorem mpub_text_equiv (conf : Conf) (hc : HConf) (hl : Linked conf hc) (s : ConnState) (b : Broker)
    (rq : Request) (kv : List (Bytes × Bytes)) (cmd t : Bytes) (tl : List Bytes) (blocks : List Bytes)
    (hq : parseQuery rq.rawQuery = some kv) (ht : qget kv kTopic = some t) (htext : binaryMode kv = false)
    (hv : isValidName t = true)
    (hblocks : Nsq.Proofs.HttpApiText.GoodBlocks conf blocks)
    (hbody : rq.body = Nsq.Proofs.HttpApiText.joinNl blocks ∨ rq.body = Nsq.Proofs.HttpApiText.joinNl blocks ++ [10])
    (hsize : (rq.body.length : Int) ≤ hc.maxBodySize) (hcl : ¬ rq.contentLength > hc.maxBodySize)
    (hwire : ((Mpub.encode blocks).length : Int) ≤ conf.maxBodySize) :
    doMPUB hc b rq = (⟨.s200, "OK"⟩, publish b t (toMsgs blocks)) ∧
    (mpub conf s b (cmd :: t :: tl) (mwire (Mpub.encode blocks))).reply = some .ok ∧
    (mpub conf s b (cmd :: t :: tl) (mwire (Mpub.encode blocks))).broker = publish b t (toMsgs blocks) := by
  have htb := Nsq.Proofs.HttpTextDiv.textBlocks_joinNl blocks rq.body hblocks.nonempty
    (fun x hx => ⟨(hblocks.each x hx).1, (hblocks.each x hx).2.1⟩) hbody
  have hacc : Nsq.Proofs.HttpTextDiv.TextAccepts hc rq.body :=
    ⟨hsize, fun l hl' => by rw [htb] at hl'; rw [hl.msg]; exact (hblocks.each l hl').2.2⟩
  have hbin : Nsq.Proofs.HttpTextDiv.BinAccepts conf blocks :=
    ⟨hblocks.nonempty, fun m hm => ⟨List.length_pos_iff.mpr (hblocks.each m hm).1, (hblocks.each m hm).2.2⟩,
      hblocks.count, hwire⟩
  refine ⟨?_, Nsq.Proofs.HttpTextDiv.tcp_accepts conf s b cmd t tl blocks hl.auth hv hblocks.wire hbin⟩
  rw [← htb]
  exact (Nsq.Proofs.HttpTextDiv.doMPUB_text_iff hc (by omega) b rq kv t hq ht htext hv hcl).2.1 hacc

/-- create / delete / empty / pause / unpause of a topic or channel change the named topic only —
every other topic, with all its channels, messages, counters and pause flags, is exactly as
before — and change nothing at all unless they answer 200. -/
theorem admin_exact_effect (hc : HConf) (healthy : Bool) (b : Broker) (rq : Request) (h : Handler)
    (hadmin : h = .createTopic ∨ h = .deleteTopic ∨ h = .emptyTopic ∨ h = .pauseTopic ∨ h = .createChannel ∨
      h = .deleteChannel ∨ h = .emptyChannel ∨ h = .pauseChannel) :
    ((runHandler hc healthy b rq h).1.status ≠ .s200 → (runHandler hc healthy b rq h).2 = b) ∧
    ∀ kv t, parseQuery rq.rawQuery = some kv → qget kv kTopic = some t →
      OnlyTopic t b (runHandler hc healthy b rq h).2 := by
  obtain ⟨hu, hf⟩ := (admin_cases hc healthy b rq h hadmin).frame
  exact ⟨hu, fun kv t hkv ht => hf t (by simp only [Nsq.Proofs.HttpChar.arg, hkv, ht])⟩

/-- On the named topic, delete, empty and (un)pause do what they say. -/
theorem admin_named_effect (b : Broker) (t : Bytes) :
    findTopic (deleteTopic b t) t = none ∧
    findTopic (modifyTopic b t (fun x => { x with msgs := [] })) t =
      (findTopic b t).map (fun x => { x with msgs := [] }) ∧
    (∀ p : Bool, findTopic (modifyTopic b t (fun x => settle { x with paused := p })) t =
      (findTopic b t).map (fun x => settle { x with paused := p })) :=
  ⟨(Nsq.Proofs.Broker.findTopic_delete b t t).trans (if_pos rfl),
   Nsq.Proofs.Broker.findTopic_modify_eq b t _ (fun _ => rfl),
   fun p => Nsq.Proofs.Broker.findTopic_modify_eq b t _ (fun x => by simp [Nsq.Proofs.Broker.settle_name])⟩

/-- The publish endpoints too touch only the topic they name. -/
theorem publish_touches_only_its_topic (b : Broker) (t : Bytes) (ms : List Msg) :
    OnlyTopic t b (publish b t ms) := onlyTopic_trans (onlyTopic_getTopic b t) (onlyTopic_putMsgs _ t ms)

example : (handle Examples.hconf true Examples.broker2
    ⟨ascii "POST", ascii "/topic/pause", ascii "topic=a", 0, []⟩).2 =
    [{ name := ascii "a", paused := true, count := 1, msgs := [⟨[1], 0⟩], chans := [] },
     { name := ascii "b", paused := false, count := 0, msgs := [], chans := [] }] := by
  rw [handle_of_route rfl route_topic_pause]; decide +kernel

/-! ## F10, HTTP face: max-body-size bounds every accepted /mpub

The body of binary `/mpub` is read through `io.LimitReader(req.Body, max-body-size)` (fix F10,
`fixes/F10_mpub_body_limit.patch`; without it a chunked request handed the unlimited body to `readMPUB`:
max-body-size 20, a 28-byte batch accepted). -/

/-- Binary mode, declared or chunked: what an accepted request enqueues was encoded within the first
max-body-size bytes of the body (the batch is exactly a prefix of them). -/
theorem mpub_body_bounded (hc : HConf) (b : Broker) (rq : Request) (kv : List (Bytes × Bytes))
    (hq : parseQuery rq.rawQuery = some kv) (hbin : binaryMode kv = true)
    (h : (doMPUB hc b rq).1.status = .s200) :
    ∃ t bodies r, Mpub.readMPUB hc.maxMsgSize hc.maxBodySize (rq.body.take hc.maxBodySize.toNat) = .ok bodies r ∧
      rq.body.take hc.maxBodySize.toNat = Mpub.encode bodies ++ r ∧
      ((Mpub.encode bodies).length : Int) ≤ hc.maxBodySize ∧
      (doMPUB hc b rq).2 = publish b t (toMsgs bodies) := by
  unfold doMPUB at h ⊢
  by_cases hcl : rq.contentLength > hc.maxBodySize
  · simp [hcl, resp] at h
  · rw [if_neg hcl] at h ⊢
    split at h
    · simp [resp] at h
    · rename_i t ht
      simp only [hq, Option.getD_some, hbin, if_true] at h ⊢
      split at h
      · simp [resp] at h
      · simp [resp] at h
      · rename_i bodies r hm
        have hw := Nsq.Proofs.Mpub.readMPUB_wire _ _ _ _ _ hm
        refine ⟨t, bodies, r, hm, hw, ?_, rfl⟩
        have hl : (rq.body.take hc.maxBodySize.toNat).length ≤ hc.maxBodySize.toNat := by
          rw [List.length_take]; omega
        rw [hw, List.length_append, Nsq.Proofs.Mpub.encode_length] at hl
        rw [Nsq.Proofs.Mpub.encode_length]
        omega

/-- Text mode: an accepted body is at most max-body-size bytes long. -/
theorem mpub_text_body_bounded (hc : HConf) (body : Bytes) (r : List Bytes) (h0 : 0 ≤ hc.maxBodySize)
    (h : mpubText hc body = .ok r) : (body.length : Int) ≤ hc.maxBodySize :=
  ((Nsq.Proofs.HttpTextDiv.mpubText_ok_iff hc h0 body r).mp h).1.size

/-- A declared length above max-body-size is refused before anything is read. -/
theorem mpub_declared_bounded (hc : HConf) (b : Broker) (rq : Request)
    (hdecl : rq.contentLength = rq.body.length) (h : (doMPUB hc b rq).1.status = .s200) :
    (rq.body.length : Int) ≤ hc.maxBodySize := by
  unfold doMPUB at h
  split at h
  · simp [resp] at h
  · omega

-- the witness of F10 (chunked, 28-byte batch under max-body-size 20) is answered 413 BAD_MESSAGE
example : (doMPUB Examples.hconf [] ⟨ascii "POST", ascii "/mpub", ascii "topic=t&binary=true", -1,
    Mpub.encode [[1, 2, 3, 4, 5, 6, 7, 8], [1, 2, 3, 4, 5, 6, 7, 8]]⟩).1 = ⟨.s413, "BAD_MESSAGE"⟩ := by decide +kernel
example : (doMPUB Examples.hconf [] ⟨ascii "POST", ascii "/mpub", ascii "topic=t&binary=true", -1,
    Mpub.encode [[1, 2, 3], [4]]⟩).1.status = .s200 := by decide +kernel

end Nsq.Props.C10
