import Nsq.Proofs.MetaLoad
import Nsq.Props.C06
import Nsq.Model.MetaAccept
/-!
# C06 — `LoadMetadata` on every file content, persist error paths, temp name, dirlock

Model: `Nsq.Model.MetaLoad`. `encoding/json` is the
abstract `Codec`; everything after the decode (name validity, duplicates, pause flags, ephemeral names), the
three outcomes of a start (refuse / fresh / loaded), the error returns of `PersistMetadata`, the random
temporary name and `dirlock` are inside the model.
-/
namespace Nsq.Props.C06Load
open Nsq.Model.FS Nsq.Model.Meta Nsq.Model.MetaLoad Nsq.Proofs.MetaLoad Nsq.Proofs.Meta

variable {β : Type}

/-- Whatever the decoded document holds (invalid, repeated, over-long, `#ephemeral` names, any flags), the maps
after `LoadMetadata` have unique valid topic names, unique valid channel names per topic, the ephemeral flag the
name dictates, and nothing exiting. -/
theorem loadRaw_wf (d : Doc) : WF (loadRaw d) :=
  List.foldlRecOn d loadTopicEntry wf_nil fun m h t _ => loadTopicEntry_wf m t h

/-- `LoadMetadata` is total with three outcomes, and a loaded state is well-formed — for every file content. -/
theorem load_outcome_wf (cd : Codec β) (fc : FileContent β) :
    load cd fc = .refuse ∨ load cd fc = .fresh ∨ ∃ m, load cd fc = .loaded m ∧ WF m := by
  cases fc with
  | absent => right; left; rfl
  | unreadable => left; rfl
  | present b =>
    cases hp : cd.parse b with
    | none => left; simp [load, hp]
    | some d => right; right; exact ⟨loadRaw d, by simp [load, hp], loadRaw_wf d⟩

/-- The start is refused exactly when the file cannot be read (other than "does not exist") or `encoding/json`
rejects its content (syntax error, wrong type, empty file, truncated file, the pre-JSON line format). -/
theorem refuse_iff (cd : Codec β) (fc : FileContent β) :
    load cd fc = .refuse ↔ fc = .unreadable ∨ ∃ b, fc = .present b ∧ cd.parse b = none := by
  cases fc with
  | absent => simp [load]
  | unreadable => simp [load]
  | present b =>
    cases hp : cd.parse b with
    | none => simp [load, hp]
    | some d => simp [load, hp]

/-- A missing file is a fresh start (and only a missing file is). -/
theorem fresh_iff (cd : Codec β) (fc : FileContent β) : load cd fc = .fresh ↔ fc = .absent := by
  cases fc with
  | absent => simp [load]
  | unreadable => simp [load]
  | present b => cases hp : cd.parse b <;> simp [load, hp]

/-- Exactly the valid topic names of the document exist afterwards: an invalid name is skipped, a valid one is never
lost — wherever it stands and however often it is repeated. -/
theorem loaded_topics_are_the_valid_names (d : Doc) (t : String) :
    t ∈ (loadRaw d).map (·.name) ↔ ∃ e ∈ d, e.name = t ∧ validName t = true := by
  simpa [loadRaw] using mem_names_foldl d [] t

/-- A pause is never undone by what follows in the file: once a topic is paused after a prefix of the document,
it is paused after the whole document (a later entry of the same name with `paused:false` does NOT unpause). -/
theorem pause_is_sticky (d1 d2 : Doc) (t : String) (h : ∃ x ∈ loadRaw d1, x.name = t ∧ x.paused = true) :
    ∃ x ∈ loadRaw (d1 ++ d2), x.name = t ∧ x.paused = true := by
  rw [loadRaw, List.foldl_append]
  exact List.foldlRecOn (motive := fun m => ∃ x ∈ m, PausedTopic t x) d2 loadTopicEntry h
    fun m hm e _ => loadTopicEntry_keeps_pause t m e hm

example : (∃ x ∈ loadRaw [⟨"t", true, []⟩], x.name = "t" ∧ x.paused = true) ∧
    loadRaw ([⟨"t", true, []⟩] ++ [⟨"t", false, []⟩]) = [⟨"t", true, false, false, []⟩] := by decide +kernel

/-- On a document with unique valid names the real loop is the idealised loader (`#ephemeral` names in the file
ARE created, as ephemeral objects). -/
theorem load_good_doc (d : Doc) (h : DocGood d) : loadRaw d = d.map loadTopicE := loadRaw_good d h

/-- Loading what `PersistMetadata` wrote for a well-formed state gives that state back (minus its ephemeral
objects, which are never written). Generalises `C06.load_then_snapshot` to the real loop. -/
theorem load_marshal_snapshot (cd : Codec β) (hc : cd.RoundTrip) (m : Mem) (h : WF m) :
    load cd (.present (cd.marshal (snap m))) = .loaded (stripEph m) := by
  simp only [load, hc (snap m)]
  rw [loadRaw_persist _ (snap_persist m h), loadDoc_snap m h]

/-- apps/nsqd `Start` = LoadMetadata, then PersistMetadata: for EVERY document the file written right after the
load re-loads to the same persisted state, and re-persisting that writes the same document (fixed point). -/
theorem persist_after_load_fixed_point (d : Doc) :
    loadRaw (snap (loadRaw d)) = stripEph (loadRaw d) ∧
    snap (loadRaw (snap (loadRaw d))) = snap (loadRaw d) := by
  have hw := loadRaw_wf d
  have h1 := loadRaw_persist _ (snap_persist _ hw)
  refine ⟨by rw [h1, loadDoc_snap _ hw], ?_⟩
  rw [h1]; exact Nsq.Props.C06.load_then_snapshot _

/-- A refused start leaves everything as it was: no process, the file untouched (apps/nsqd: `logFatal`). -/
theorem refused_start_touches_nothing (cd : Codec β) (fix : Bool) (s s' : Sys β) (b : β)
    (hdead : s.alive = false) (hd : s.fs.dat = some b) (hp : cd.parse b = none)
    (hs : step cd fix s .start = some s') :
    s'.lastStart = .badFile ∧ s'.alive = false ∧ s'.fs = s.fs ∧ load cd (fileOf s.fs) = .refuse := by
  simp [step, hdead, hd, hp] at hs
  subst hs
  exact ⟨rfl, rfl, rfl, by simp [fileOf, hd, load, hp]⟩

/-- A truncated file (a short write that landed in `nsqd.dat`) which `encoding/json` rejects is refused — never
loaded as a smaller state. (With the abstract codec "rejects" is the hypothesis; the harness checks on the real
decoder that every strict prefix of a written document is rejected.) -/
theorem truncated_file_refused (cd : Codec β) (d : Doc) (k : Nat) (h : cd.parse (cd.cut k (cd.marshal d)) = none) :
    load cd (.present (cd.cut k (cd.marshal d))) = .refuse := by
  simp [load, h]

/-- … which is why `dat_absent_or_complete` matters: along every schedule, kill point and number of restarts
`nsqd.dat` is never such a prefix, so `LoadMetadata` never refuses. -/
theorem start_never_refuses (cd : Codec β) (hc : cd.RoundTrip) (fix : Bool) (s : Sys β) (h : Reach cd fix s) :
    load cd (fileOf s.fs) ≠ .refuse := by
  rcases Nsq.Props.C06.dat_absent_or_complete cd fix s h with h0 | ⟨d, _, hd⟩
  · simp [fileOf, h0, load]
  · simp [fileOf, hd, load, hc d]

/-- The full statement: the abstract `start` step of `Model.Meta` (idealised loader) and the real loop agree on
every reachable file. -/
def C06_start_load_exact : Prop :=
  ∀ (β : Type) (cd : Codec β) (fix : Bool) (s : Sys β), cd.RoundTrip → Reach cd fix s → s.alive = false →
    ∃ s', step cd fix s .start = some s' ∧ (load cd (fileOf s.fs)).mem = some s'.mem

/-- It holds when every document the daemon ever wrote has unique valid non-ephemeral names, i.e. when names enter
the live maps only through the `IsValid…Name`-guarded call sites (HTTP and TCP handlers: C09/C10; `LoadMetadata`
itself: `loadRaw_wf`) and the ephemeral flag is the one the name dictates. -/
theorem start_load_exact_partial (cd : Codec β) (hc : cd.RoundTrip) (fix : Bool) (s : Sys β)
    (h : Reach cd fix s) (hdead : s.alive = false) (hnames : ∀ d ∈ s.taken, DocPersist d) :
    ∃ s', step cd fix s .start = some s' ∧ (load cd (fileOf s.fs)).mem = some s'.mem := by
  rcases Nsq.Props.C06.dat_absent_or_complete cd fix s h with h0 | ⟨d, hd1, hd⟩
  · exact ⟨boot s [], by simp [step, hdead, h0], by simp [fileOf, h0, load, LoadRes.mem, boot]⟩
  · refine ⟨boot s (loadDoc d), by simp [step, hdead, hd, hc d], ?_⟩
    simp [fileOf, hd, load, hc d, LoadRes.mem, boot, loadRaw_persist _ (hnames d hd1)]

/-- a channel name that did not pass `IsValidChannelName` (the only unguarded source on this tree is the channel
list a nsqlookupd returns to `GetTopic`): it is persisted, and skipped by the next start -/
def badNameSchedule : List Step :=
  [.start, .mem (.createTopic "t" false), .mem (.createChan "t" "a b" false), .persist .beginNotify, .persist .read,
   .persist .read, .persist (.openTmp 1), .persist .writeRest, .persist .sync, .persist .rename, .persist .finish, .kill]

def badNameCheck (o : Option (Sys B)) : Bool :=
  match o with
  | some s => !s.alive && (load toyCodec (fileOf s.fs)).mem == some [⟨"t", false, false, false, []⟩] &&
      ((step toyCodec true s .start).map (·.mem)) == some [⟨"t", false, false, false, [⟨"a b", false, false, false⟩]⟩]
  | none => false

/-- Without the hypothesis the full statement is false: the real loop drops the invalid channel, the idealised
loader keeps it. (Observation on nsq: an invalid name that got into the maps does not survive a restart.) -/
theorem start_load_exact_false : ¬ C06_start_load_exact := by
  intro hfull
  have hc : badNameCheck (run toyCodec true Sys.init badNameSchedule) = true := by decide +kernel
  cases hr : run toyCodec true Sys.init badNameSchedule with
  | none => rw [hr] at hc; cases hc
  | some s =>
    simp only [hr, badNameCheck, Bool.and_eq_true, beq_iff_eq, Bool.not_eq_true'] at hc
    obtain ⟨⟨h1, h2⟩, h3⟩ := hc
    obtain ⟨s', hs, hm⟩ := hfull _ toyCodec true s (fun d => by simp [toyCodec]) ⟨_, hr⟩ h1
    rw [hs] at h3
    simp only [Option.map_some, Option.some.injEq] at h3
    rw [h2, h3] at hm
    simp at hm

/-- a hostile document: an invalid topic (with a channel that is skipped with it), a repeated topic (second
occurrence pauses it and adds a channel; its `paused:false` … does not unpause), an invalid, a repeated and an
over-long channel name, ephemeral topic and channel -/
def hostileDoc : Doc :=
  [⟨"a b", true, [⟨"c", false⟩]⟩,
   ⟨"t", false, [⟨"c", true⟩, ⟨"", false⟩, ⟨"c", false⟩, ⟨"d#ephemeral", false⟩]⟩,
   ⟨"t", true, [⟨"e", false⟩, ⟨String.ofList (List.replicate 65 'x'), false⟩, ⟨String.ofList (List.replicate 64 'x'), true⟩]⟩,
   ⟨"t", false, []⟩,
   ⟨"u#ephemeral", false, [⟨"é", false⟩]⟩]

theorem loadRaw_hostileDoc : loadRaw hostileDoc =
    [⟨"t", true, false, false, [⟨"c", true, false, false⟩, ⟨"d#ephemeral", false, true, false⟩, ⟨"e", false, false, false⟩,
       ⟨String.ofList (List.replicate 64 'x'), true, false, false⟩]⟩,
     ⟨"u#ephemeral", false, true, false, []⟩] := by decide +kernel

example : loadRaw hostileDoc =
    [⟨"t", true, false, false, [⟨"c", true, false, false⟩, ⟨"d#ephemeral", false, true, false⟩, ⟨"e", false, false, false⟩,
       ⟨String.ofList (List.replicate 64 'x'), true, false, false⟩]⟩,
     ⟨"u#ephemeral", false, true, false, []⟩] := loadRaw_hostileDoc
example : snap (loadRaw hostileDoc) =
    [⟨"t", true, [⟨"c", true⟩, ⟨"e", false⟩, ⟨String.ofList (List.replicate 64 'x'), true⟩]⟩] := by
  rw [loadRaw_hostileDoc]; rfl
example : (loadRaw hostileDoc).map (·.name) = ["t", "u#ephemeral"] ∧ validName "a b" = false := by
  rw [loadRaw_hostileDoc]; decide +kernel
example : ¬ DocGood hostileDoc := by
  intro h; have := (h.2 _ (List.mem_cons_self ..)).1; revert this; decide +kernel
example : load toyCodec (.present (hostileDoc, none)) = .loaded (loadRaw hostileDoc) := rfl
/-- a truncated file in the toy codec is rejected, the complete one is not -/
example : load toyCodec (.present (toyCodec.cut 3 (toyCodec.marshal hostileDoc))) = .refuse := rfl
example : load toyCodec (.unreadable) = .refuse ∧ load toyCodec (.absent) = .fresh := ⟨rfl, rfl⟩
example : DocGood [⟨"t", true, [⟨"c#ephemeral", true⟩]⟩] ∧ WF [⟨"t", true, false, false, [⟨"c", true, false, false⟩]⟩] := by
  refine ⟨⟨by decide, List.forall_mem_singleton.mpr ?_⟩, ⟨by decide, List.forall_mem_singleton.mpr ?_⟩⟩
  · exact ⟨by decide +kernel, by decide, List.forall_mem_singleton.mpr (by decide +kernel)⟩
  · exact ⟨by decide +kernel, by decide +kernel, rfl, by decide, List.forall_mem_singleton.mpr (by decide +kernel)⟩
/-- the hypotheses of `refused_start_touches_nothing` are met by a dead daemon on a truncated file -/
example : ∃ s', step toyCodec true { (Sys.init : Sys B) with fs := { dat := some ([], some 1), tmps := [] } } .start = some s' ∧
    s'.lastStart = .badFile := ⟨_, rfl, rfl⟩
/-- `start_never_refuses` / `start_load_exact_partial` on the kill-in-the-middle-of-a-write schedule of `Props.C06` -/
example : ((run toyCodec true Sys.init (Nsq.Props.C06.lifeSchedule.take 26)).map
    (fun s => (s.alive, (load toyCodec (fileOf s.fs)).mem))) =
    some (false, some [⟨"t", false, false, false, [⟨"c", false, false, false⟩]⟩]) := by decide +kernel

/-- Whatever fails (open, a short write, fsync, rename) and whatever temporary name was drawn, `nsqd.dat` is
unchanged and the error is returned. (The temporary file may stay behind: harmless, never read.) -/
theorem persist_failure_keeps_dat (cd : Codec β) (fs : FS β) (r : Nat) (d : Doc) (out : POutcome)
    (h : out ≠ .ok) : (persistOnce cd fs r d out).1.dat = fs.dat ∧ (persistOnce cd fs r d out).2 = false := by
  cases out <;> simp_all [persistOnce, FS.dat_setTmp]

/-- A persist that returns nil has put the complete document in `nsqd.dat` — also when the temporary name collides
with a stale temporary file left by an earlier kill or failure (`O_TRUNC`). -/
theorem persist_ok_sets_dat (cd : Codec β) (fs : FS β) (r : Nat) (d : Doc) :
    (persistOnce cd fs r d .ok).1.dat = some (cd.marshal d) ∧ (persistOnce cd fs r d .ok).2 = true :=
  ⟨FS.dat_renameTmp _ r _ (FS.tmp_setTmp fs r _), rfl⟩

/-- `dat_absent_or_complete` under disk faults: after any sequence of persists with any outcomes and any temporary
names, `nsqd.dat` is absent or the complete serialisation of a document that was there before or that one of the
calls wrote — never a prefix. -/
theorem dat_absent_or_complete_under_faults (cd : Codec β) (calls : List PCall) :
    ∀ (fs : FS β) (D : List Doc), (fs.dat = none ∨ ∃ d ∈ D, fs.dat = some (cd.marshal d)) →
      (persistMany cd fs calls).dat = none ∨
      ∃ d ∈ D ++ calls.map (·.d), (persistMany cd fs calls).dat = some (cd.marshal d) := by
  induction calls with
  | nil => intro fs D h; rw [List.map_nil, List.append_nil]; exact h
  | cons c rest ih =>
    intro fs D h
    have hstep : (persistOnce cd fs c.r c.d c.out).1.dat = none ∨
        ∃ d ∈ D ++ [c.d], (persistOnce cd fs c.r c.d c.out).1.dat = some (cd.marshal d) := by
      by_cases hok : c.out = .ok
      · right
        exact ⟨c.d, List.mem_append_right _ (List.mem_singleton.mpr rfl), by
          rw [hok]; exact (persist_ok_sets_dat cd fs c.r c.d).1⟩
      · rw [(persist_failure_keeps_dat cd fs c.r c.d c.out hok).1]
        rcases h with h | ⟨d, hd, he⟩
        · left; exact h
        · right; exact ⟨d, List.mem_append_left _ hd, he⟩
    rw [List.map_cons, List.append_cons]
    exact ih _ (D ++ [c.d]) hstep

/-- The temporary name can never be `nsqd.dat` itself (it is longer). -/
theorem tmp_name_never_dat (r : Nat) : tmpName r ≠ "nsqd.dat" := by
  intro h
  have := congrArg String.length h
  simp [tmpName, String.length_append] at this
  have h8 : "nsqd.dat".length = 8 := by decide +kernel
  have h9 : "nsqd.dat.".length = 9 := by decide +kernel
  have h4 : ".tmp".length = 4 := by decide +kernel
  omega

/-- The pause handlers drop `PersistMetadata`'s error: "answered 200 ⇒ the flag is in `nsqd.dat`" as a statement
over disk faults … -/
def C06_pause_ack_under_faults : Prop :=
  ∀ (β : Type) (cd : Codec β) (fs : FS β) (r : Nat) (d : Doc) (out : POutcome),
    pauseAnswer (persistOnce cd fs r d out).2 = 200 → (persistOnce cd fs r d out).1.dat = some (cd.marshal d)

/-- … holds for a persist that succeeded (the quantifier of C06: kills, not disk faults) … -/
theorem pause_ack_under_faults_partial (cd : Codec β) (fs : FS β) (r : Nat) (d : Doc) (out : POutcome)
    (hok : out = .ok) (_h : pauseAnswer (persistOnce cd fs r d out).2 = 200) :
    (persistOnce cd fs r d out).1.dat = some (cd.marshal d) := by
  subst hok; exact (persist_ok_sets_dat cd fs r d).1

/-- … and is false under a disk fault: rename fails, the handler still answers 200, the file has the old flag.
(Observation outside C06's quantifier; replayed on the real code by `TestVerifMetaLoad`, leg `persistfault rename`.) -/
theorem pause_ack_under_faults_false : ¬ C06_pause_ack_under_faults := by
  intro h
  have := h _ toyCodec FS.empty 1 [⟨"t", true, []⟩] .renameFails rfl
  simp [persistOnce, FS.dat_setTmp, FS.empty] at this

/-- a stale partial temporary file with the same "random" name, a failing write, a failing rename, then a good one -/
example :
    let fs0 : FS B := { dat := some ([], none), tmps := [(7, ([⟨"old", false, []⟩], some 3))] }
    let fs := persistMany toyCodec fs0 [⟨7, [⟨"a", false, []⟩], .writeFails 2⟩, ⟨7, [⟨"b", false, []⟩], .renameFails⟩,
      ⟨8, [⟨"c", false, []⟩], .openFails⟩, ⟨7, [⟨"d", true, []⟩], .ok⟩, ⟨9, [⟨"e", true, []⟩], .syncFails⟩]
    fs.dat = some ([⟨"d", true, []⟩], none) ∧ fs.tmp 7 = none ∧ fs.tmp 9 = some ([⟨"e", true, []⟩], none) := by
  decide +kernel
example : tmpName 42 = "nsqd.dat.42.tmp" := by decide +kernel

/-- `New` fails before anything is read or written when the data path does not exist, or when another live process
holds the lock (whatever the path holds). -/
theorem new_fails_without_lock (cd : Codec β) (k : PathKind) (held : Bool) (fc : FileContent β)
    (h : k = .missing ∨ held = true) : startOn cd k held fc = none := by
  rcases h with h | h
  · subst h; rfl
  · subst h; cases k <;> rfl

/-- A data path that is a regular file is NOT refused by `dirlock` (`open` + `flock` work on a file); the start is
refused by `LoadMetadata` (ENOTDIR is not "does not exist"), again before anything is written. -/
theorem regular_file_path_refused_by_load (cd : Codec β) (fc : FileContent β) :
    startOn cd .regularFile false fc = some .refuse := rfl

/-- On a free directory the start is exactly `LoadMetadata` of the file. -/
theorem start_on_free_dir (cd : Codec β) (fc : FileContent β) : startOn cd .dir false fc = some (load cd fc) := rfl

example : startOn toyCodec .dir true (.present (hostileDoc, none)) = none := rfl
example : startOn toyCodec .dir false (.present (hostileDoc, none)) = some (.loaded (loadRaw hostileDoc)) := rfl

end Nsq.Props.C06Load
