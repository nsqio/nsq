import Nsq.Proofs.RegistrySched
import Nsq.Tie.Registry
/-!
# C14 — every pair of overlapping handler calls of the section model, FULL database and answers

`Nsq.Props.C14.concurrent_schedules_linearizable_tree` concludes equality of the key set (`has`) under `c ≠ []`,
`t ≠ *` for two writer pairs, and the readers have their own theorems. Here every pair, the whole `DB`, and all four
computed shape flags of `Nsq.Tie.Registry`:

* `Handler`: EVERY handler of the section model — REGISTER, UNREGISTER topic channel, `/topic/delete`,
  `/channel/create`, `POST /topic/tombstone?topic=t` (t ≠ `*`), `GET /lookup`, `GET /nodes`;
* `secs sh h`: its list of critical sections, selected by FOUR computed shape flags (`Shapes`): `tree` (F21), `unreg`
  (F12), `readers` (F37), `tomb` (F38); `Shapes.committed` takes them from the regenerated facts
  (`treeAtomic`, `unregisterAtomic`, `readersAtomic`, `tombstoneAtomic`);
* `concurrent_pairs_linearizable_tree`: on the committed tree, for EVERY pair of handlers (writer ‖ writer, reader ‖
  writer, reader ‖ reader; any registry, names — also `c = ""`, `topic = *` for the handlers that accept them), every
  schedule of the two section lists ends in the FULL state of one of the two serial orders: the same registry (`DB`
  equality, not only the key set) and the same two answers;
* `pairs_linearizable_iff`: the statement holds for a shape vector iff all four flags are set — four witnesses, among
  them UNREGISTER ‖ REGISTER on the pre-F12 shape and tombstone ‖ `/lookup` on the pre-F38 shape.

Not in the section model (named, not claimed): UNREGISTER without a channel (`FindRegistrations`, one `RemoveProducer`
per channel, `RemoveProducerAndPrune(topic key)`: several critical sections in the committed tree as well), the
disconnect clean-up (one `RemoveProducer` per registration), `topic=*` of tombstone (run-time pick), `lastUpdate` of PING
(an atomic outside the lock: the theorems are about the REGISTRY part of the answers, `lookupDB` / `nodesDB`).
-/
namespace Nsq.Props.C14Sched
open Nsq.Model.Registry Nsq.Model.Registry.AMap

/-- what a handler call holds between two of its critical sections / has read when it returns -/
inductive Ans
  | none
  | left (n : Nat)
  | lookup (o : LookupObs)
  | nodes (o : NodesObs)
deriving DecidableEq, Repr

/-- which handlers are ONE critical section -/
structure Shapes where
  tree : Bool
  unreg : Bool
  readers : Bool
  tomb : Bool
deriving DecidableEq, Repr

/-- COMPUTED from the regenerated facts of this tree (`Nsq.Tie.Registry`) -/
def Shapes.committed : Shapes :=
  ⟨Nsq.Tie.Registry.treeAtomic, Nsq.Tie.Registry.unregisterAtomic, Nsq.Tie.Registry.readersAtomic,
   Nsq.Tie.Registry.tombstoneAtomic⟩

def Shapes.allAtomic : Shapes := ⟨true, true, true, true⟩

theorem committed_eq : Shapes.committed = Shapes.allAtomic := by
  simp [Shapes.committed, Shapes.allAtomic, Nsq.Tie.Registry.tree_atomic, Nsq.Tie.Registry.unregister_atomic,
    Nsq.Tie.Registry.readers_atomic, Nsq.Tie.Registry.tombstone_atomic]

/-! ## The tombstone handler on the bare registry

`tombstoneDB` reads the peers table only through `nodeMatches r · node`; no handler of the section model writes the
peers table, so the match predicate `m` is a parameter. -/

/-- `TombstoneProducers(topic, node)` (F38: under one `Lock()`) -/
def tombDB (m : Nat → Bool) (db : DB) (t : Name) (now : Int) : DB :=
  match mget db (topicKey t) with
  | none => db
  | some pm => mset db (topicKey t) (pm.map (fun e => if m e.1 then (e.1, ⟨true, now⟩) else e))

theorem tombstoneDB_eq_tombDB (r : Registry) (t node : Name) (now : Int) (ht : t ≠ star) :
    tombstoneDB r t node now = tombDB (fun id => nodeMatches r id node) r.db t now := by
  unfold tombstoneDB tombDB tombstonePM
  rw [if_neg ht]
  rfl

/-- one unlocked `p.Tombstone()` of the loop of `doTombstoneTopicProducer` BEFORE F38: the entry of `id` under the topic
key is marked (if it is still there) -/
def tombMark (db : DB) (t : Name) (id : Nat) (now : Int) : DB :=
  match mget db (topicKey t) with
  | none => db
  | some pm => mset db (topicKey t) (pm.map (fun e => if e.1 = id then (e.1, ⟨true, now⟩) else e))

inductive Handler
  | register (p : Nat) (t c : Name)
  | unregisterChan (p : Nat) (t c : Name)
  | deleteTopic (t : Name)
  | createChannel (t c : Name)
  /-- `m`: which peers carry the node string; `ids`: the producers `FindProducers` returned (loop bound, data) -/
  | tombstone (m : Nat → Bool) (t : Name) (now : Int) (ids : List Nat)
  | lookup (t : Name)
  /-- `ids`: the nodes section 1 of `doNodes` returned (loop bound, data) -/
  | nodes (ids : List Nat)

def Ans.lookupObs : Ans → LookupObs
  | .lookup o => o
  | _ => LookupObs.init

def Ans.nodesObs : Ans → NodesObs
  | .nodes o => o
  | _ => NodesObs.init

def Ans.leftN : Ans → Nat
  | .left n => n
  | _ => 1

def ofLookup (s : SectionO LookupObs) : SectionO Ans :=
  fun x => ((s (x.1, x.2.lookupObs)).1, .lookup (s (x.1, x.2.lookupObs)).2)

def ofNodes (s : SectionO NodesObs) : SectionO Ans :=
  fun x => ((s (x.1, x.2.nodesObs)).1, .nodes (s (x.1, x.2.nodesObs)).2)

/-- UNREGISTER topic channel: before F12 `RemoveProducer` (state, `left`), then `RemoveRegistration` when `left = 0` and
the channel is `#ephemeral` (`unregChanStep1/2`); since F12 `RemoveProducerAndPrune` = `removeAndGC` -/
def unregisterChanSecs (atomic : Bool) (p : Nat) (t c : Name) : List (SectionO Ans) :=
  if atomic then [wsec (fun db => removeAndGC db (chanKey t c) p (isEphemeral c))]
  else [fun x => ((unregChanStep1 x.1 t c p).1, .left (unregChanStep1 x.1 t c p).2),
        fun x => (unregChanStep2 x.1 t c x.2.leftN, x.2)]

/-- `POST /topic/tombstone?topic=t`: before F38 `FindProducers` (a read), then one unlocked write per matching producer;
since F38 one `Lock()` around both -/
def tombstoneSecs (atomic : Bool) (m : Nat → Bool) (t : Name) (now : Int) (ids : List Nat) : List (SectionO Ans) :=
  if atomic then [wsec (fun db => tombDB m db t now)]
  else wsec (fun db => db) :: (ids.filter m).map (fun id => wsec (fun db => tombMark db t id now))

def secs (sh : Shapes) : Handler → List (SectionO Ans)
  | .register p t c => (registerSecs sh.tree p t c).map wsec
  | .unregisterChan p t c => unregisterChanSecs sh.unreg p t c
  | .deleteTopic t => (deleteTopicSecs sh.tree t).map wsec
  | .createChannel t c => (createChannelSecs sh.tree t c).map wsec
  | .tombstone m t now ids => tombstoneSecs sh.tomb m t now ids
  | .lookup t => (lookupSecs sh.readers t).map ofLookup
  | .nodes ids => (nodesSecs sh.readers ids).map ofNodes

/-- the effect of the handler of the SEQUENTIAL model on the registry … -/
def Handler.eff : Handler → DB → DB
  | .register p t c, db => registerDB db p ⟨t, c⟩
  | .unregisterChan p t c, db => removeAndGC db (chanKey t c) p (isEphemeral c)
  | .deleteTopic t, db => deleteTopicDB db t
  | .createChannel t c, db => createChannelDB db t c
  | .tombstone m t now _, db => tombDB m db t now
  | .lookup _, db => db
  | .nodes _, db => db

/-- … and what it reads from it -/
def Handler.ans : Handler → DB → Ans
  | .lookup t, db => .lookup (lookupDB db t)
  | .nodes _, db => .nodes (nodesDB db)
  | _, _ => .none

theorem unregisterChan_eff (db : DB) (p : Nat) (t c : Name) (hc : c ≠ []) :
    (Handler.unregisterChan p t c).eff db = unregisterDB db p ⟨t, c⟩ := by
  simp [Handler.eff, unregisterDB, hc]

/-! ## Two overlapping calls: each has its own slot for what it has read -/

def lift1 (s : SectionO Ans) : SectionO (Ans × Ans) := fun x => ((s (x.1, x.2.1)).1, ((s (x.1, x.2.1)).2, x.2.2))
def lift2 (s : SectionO Ans) : SectionO (Ans × Ans) := fun x => ((s (x.1, x.2.2)).1, (x.2.1, (s (x.1, x.2.2)).2))

def schedules (sh : Shapes) (h₁ h₂ : Handler) : List (List (SectionO (Ans × Ans))) :=
  interleave ((secs sh h₁).map lift1) ((secs sh h₂).map lift2)

/-- "every schedule of every pair of handler calls ends in the registry AND the two answers of one of the two serial
orders" (the serial orders are those of the sequential model: `eff`, `ans`) -/
def serialOutcome (h₁ h₂ : Handler) (db : DB) (s : List (SectionO (Ans × Ans))) : Prop :=
  runSecsO (db, (Ans.none, Ans.none)) s = (h₂.eff (h₁.eff db), (h₁.ans db, h₂.ans (h₁.eff db))) ∨
  runSecsO (db, (Ans.none, Ans.none)) s = (h₁.eff (h₂.eff db), (h₁.ans (h₂.eff db), h₂.ans db))

instance (h₁ h₂ : Handler) (db : DB) (s : List (SectionO (Ans × Ans))) : Decidable (serialOutcome h₁ h₂ db s) := by
  unfold serialOutcome; infer_instance

def pairs_linearizable (sh : Shapes) : Prop :=
  ∀ (h₁ h₂ : Handler) (db : DB), ∀ s ∈ schedules sh h₁ h₂, serialOutcome h₁ h₂ db s

theorem secs_allAtomic (h : Handler) :
    ∃ f : SectionO Ans, secs Shapes.allAtomic h = [f] ∧ ∀ db, f (db, Ans.none) = (h.eff db, h.ans db) := by
  cases h <;>
    simp [secs, Shapes.allAtomic, registerSecs, deleteTopicSecs, createChannelSecs, unregisterChanSecs, tombstoneSecs,
      lookupSecs, nodesSecs, wsec, rsec, ofLookup, ofNodes, Handler.eff, Handler.ans]

theorem alone_allAtomic (h : Handler) (db : DB) :
    runSecsO (db, Ans.none) (secs Shapes.allAtomic h) = (h.eff db, h.ans db) := by
  obtain ⟨f, hf, hv⟩ := secs_allAtomic h
  simp [hf, runSecsO, hv]

theorem pairs_linearizable_allAtomic : pairs_linearizable Shapes.allAtomic := by
  intro h₁ h₂ db s hs
  obtain ⟨f, hf, hfv⟩ := secs_allAtomic h₁
  obtain ⟨g, hg, hgv⟩ := secs_allAtomic h₂
  simp only [schedules, hf, hg, List.map_cons, List.map_nil] at hs
  simpa [serialOutcome, runSecsO, lift1, lift2, hfv, hgv] using
    Nsq.Proofs.RegistrySched.foldl_interleave_pair _ _ (db, (Ans.none, Ans.none)) s hs

/-- **THIS tree** (F12, F21, F37, F38 committed; the four flags are COMPUTED from the regenerated facts): for every two
handler calls of the section model — writer ‖ writer, reader ‖ writer, reader ‖ reader — every registry and every
schedule, the final registry (the whole `DB`) and both answers are those of one of the two serial orders. No hypothesis
on the names. With one of the four commits reverted the corresponding shape fact fails and this theorem with it. -/
theorem concurrent_pairs_linearizable_tree : pairs_linearizable Shapes.committed := by
  rw [committed_eq]; exact pairs_linearizable_allAtomic

/-- the registry half, in the form of `concurrent_register_delete_linearizable_fixed`, for every pair -/
theorem concurrent_pairs_db_tree (h₁ h₂ : Handler) (db : DB) :
    ∀ s ∈ schedules Shapes.committed h₁ h₂,
      (runSecsO (db, (Ans.none, Ans.none)) s).1 = h₂.eff (h₁.eff db) ∨
      (runSecsO (db, (Ans.none, Ans.none)) s).1 = h₁.eff (h₂.eff db) := by
  intro s hs
  rcases concurrent_pairs_linearizable_tree h₁ h₂ db s hs with e | e
  · left; rw [e]
  · right; rw [e]

/-- UNREGISTER(a) ‖ REGISTER(b) on one channel of the committed tree, in the sequential model's terms (`c ≠ ""`) -/
theorem concurrent_unregister_register_linearizable_tree (db : DB) (a b : Nat) (t c : Name) (hc : c ≠ []) :
    ∀ s ∈ schedules Shapes.committed (.unregisterChan a t c) (.register b t c),
      (runSecsO (db, (Ans.none, Ans.none)) s).1 = registerDB (unregisterDB db a ⟨t, c⟩) b ⟨t, c⟩ ∨
      (runSecsO (db, (Ans.none, Ans.none)) s).1 = unregisterDB (registerDB db b ⟨t, c⟩) a ⟨t, c⟩ := by
  intro s hs
  have := concurrent_pairs_db_tree (.unregisterChan a t c) (.register b t c) db s hs
  rw [← unregisterChan_eff _ _ _ _ hc, ← unregisterChan_eff _ _ _ _ hc]
  exact this

/-- tombstone ‖ `GET /lookup` on the committed tree, in the sequential model's terms (`t ≠ *`; `r.peers` is not written
by either call): `/lookup` reads the producers of the topic either all before or all after the marks -/
theorem concurrent_tombstone_lookup_linearizable_tree (r : Registry) (t node : Name) (now : Int) (ids : List Nat)
    (ht : t ≠ star) :
    ∀ s ∈ schedules Shapes.committed (.tombstone (fun id => nodeMatches r id node) t now ids) (.lookup t),
      runSecsO (r.db, (Ans.none, Ans.none)) s = (tombstoneDB r t node now, (Ans.none, Ans.lookup (lookupDB r.db t))) ∨
      runSecsO (r.db, (Ans.none, Ans.none)) s =
        (tombstoneDB r t node now, (Ans.none, Ans.lookup (lookupDB (tombstoneDB r t node now) t))) := by
  intro s hs
  rw [tombstoneDB_eq_tombDB r t node now ht]
  rcases concurrent_pairs_linearizable_tree _ _ r.db s hs with e | e
  · right; rw [e]; rfl
  · left; rw [e]; rfl

def tT : Name := [116]
def cE : Name := [100] ++ ephSuffix

/-- before F21 (`tree = false`): `/channel/create` ‖ `/topic/delete` from the empty registry, schedule
`create₁ delete₁ delete₂ create₂`: the topic is left without the channel created with it -/
theorem pairs_linearizable_false_tree (sh : Shapes) (h : sh.tree = false) : ¬ pairs_linearizable sh := by
  obtain ⟨a, b, c, d⟩ := sh
  simp only at h; subst h
  intro hl
  have := hl (.createChannel tT [99]) (.deleteTopic tT) []
  simp only [schedules, secs] at this; revert this; decide +kernel

/-- before F12 (`unreg = false`, REGISTER already one section): `a` is the last producer of an `#ephemeral` channel and
unregisters; `b`'s REGISTER lands between `a`'s `RemoveProducer` (left = 0) and `RemoveRegistration`: the channel key is
deleted together with `b`'s registration although `b` was answered OK (finding `race:unregister-gc-vs-register`, fixed) -/
theorem pairs_linearizable_false_unreg (sh : Shapes) (h1 : sh.tree = true) (h : sh.unreg = false) :
    ¬ pairs_linearizable sh := by
  obtain ⟨a, b, c, d⟩ := sh
  simp only at h h1; subst h; subst h1
  intro hl
  have := hl (.unregisterChan 1 tT cE) (.register 2 tT cE) [(chanKey tT cE, [(1, fresh)]), (topicKey tT, [(1, fresh)])]
  simp only [schedules, secs] at this; revert this; decide +kernel

/-- before F37 (`readers = false`, `/topic/delete` already one section): topic with one channel; schedule
`lookup₁ (topic found) · /topic/delete · lookup₂ (no channels) · lookup₃`: `200 channels: []` is the answer of neither
serial order (finding `race:lookup-vs-topic-delete`, fixed) -/
theorem pairs_linearizable_false_readers (sh : Shapes) (h1 : sh.tree = true) (h : sh.readers = false) :
    ¬ pairs_linearizable sh := by
  obtain ⟨a, b, c, d⟩ := sh
  simp only at h h1; subst h; subst h1
  intro hl
  have := hl (.lookup tT) (.deleteTopic tT) (createChannelDB [] tT [99])
  simp only [schedules, secs] at this; revert this; decide +kernel

/-- before F38 (`tomb = false`, `/lookup` already one section): two producers of the topic carry the node string;
schedule `FindProducers · mark(1) · /lookup · mark(3)`: `/lookup` reads producer 1 tombstoned and producer 3 not — in both
serial orders it reads them alike (finding `race:tombstone-unlocked-write`, fixed; there the detector reports the
unlocked write itself) -/
theorem pairs_linearizable_false_tomb (sh : Shapes) (h1 : sh.readers = true) (h : sh.tomb = false) :
    ¬ pairs_linearizable sh := by
  obtain ⟨a, b, c, d⟩ := sh
  simp only at h h1; subst h; subst h1
  intro hl
  have := hl (.tombstone (fun _ => true) tT 5 [1, 3]) (.lookup tT) [(topicKey tT, [(1, fresh), (3, fresh)])]
  simp only [schedules, secs] at this; revert this; decide +kernel

/-- The pairs of the section model are linearizable EXACTLY when all four handler groups are one critical section. -/
theorem pairs_linearizable_iff (sh : Shapes) : pairs_linearizable sh ↔ sh = Shapes.allAtomic := by
  constructor
  · intro hl
    obtain ⟨a, b, c, d⟩ := sh
    cases a
    · exact absurd hl (pairs_linearizable_false_tree _ rfl)
    · cases b
      · exact absurd hl (pairs_linearizable_false_unreg _ rfl rfl)
      · cases c
        · exact absurd hl (pairs_linearizable_false_readers _ rfl rfl)
        · cases d
          · exact absurd hl (pairs_linearizable_false_tomb _ rfl rfl)
          · rfl
  · rintro rfl; exact pairs_linearizable_allAtomic

/-- the statement over the COMPUTED flags: it holds iff the regenerated facts decide all four shapes atomic -/
theorem concurrent_pairs_linearizable_tree_iff :
    pairs_linearizable Shapes.committed ↔
      (Nsq.Tie.Registry.treeAtomic = true ∧ Nsq.Tie.Registry.unregisterAtomic = true ∧
       Nsq.Tie.Registry.readersAtomic = true ∧ Nsq.Tie.Registry.tombstoneAtomic = true) := by
  rw [pairs_linearizable_iff]
  simp [Shapes.committed, Shapes.allAtomic]

/-! ## Non-vacuity -/

example : (schedules Shapes.allAtomic (.unregisterChan 1 tT cE) (.register 2 tT cE)).length = 2 ∧
    (schedules ⟨false, false, false, false⟩ (.unregisterChan 1 tT cE) (.register 2 tT cE)).length = 6 ∧
    (schedules ⟨true, true, false, true⟩ (.lookup tT) (.deleteTopic tT)).length = 4 ∧
    (schedules ⟨true, true, true, false⟩ (.tombstone (fun _ => true) tT 5 [1, 3]) (.lookup tT)).length = 4 := by decide +kernel
example : (schedules Shapes.committed (.tombstone (fun _ => true) tT 5 [1, 3]) (.lookup tT)).length = 2 := by
  rw [committed_eq]; decide +kernel
/-- the two serial orders differ (the disjunction is not one statement twice): registry and answer -/
example : (Handler.register 2 tT cE).eff ((Handler.unregisterChan 2 tT cE).eff []) ≠
    (Handler.unregisterChan 2 tT cE).eff ((Handler.register 2 tT cE).eff []) := by decide +kernel
example : (Handler.lookup tT).ans [(topicKey tT, [(1, fresh), (3, fresh)])] ≠
    (Handler.lookup tT).ans ((Handler.tombstone (fun _ => true) tT 5 [1, 3]).eff [(topicKey tT, [(1, fresh), (3, fresh)])]) := by
  decide +kernel
example : (runSecsO ([(topicKey tT, [(1, fresh), (3, fresh)])], Ans.none) (tombstoneSecs false (fun _ => true) tT 5 [1, 3])).1 =
    tombDB (fun _ => true) [(topicKey tT, [(1, fresh), (3, fresh)])] tT 5 := by decide +kernel
example : (runSecsO ([(chanKey tT cE, [(1, fresh)]), (topicKey tT, [(1, fresh)])], Ans.none)
      (unregisterChanSecs false 1 tT cE)).1 =
    unregisterDB [(chanKey tT cE, [(1, fresh)]), (topicKey tT, [(1, fresh)])] 1 ⟨tT, cE⟩ := by decide +kernel

end Nsq.Props.C14Sched
