import Nsq.Proofs.ProtoAgree
import Nsq.Props.C09Audit
/-!
# C09: what of the broker a connection's whole run depends on

With `--max-channel-consumers > 0` a SUB reads the channel's client count. Here, for the serve-level model
`Nsq.Model.ProtoEnv` (`serveX` = magic + `IOLoop` + teardown, `connectX` = connection still open), any configuration, any
connection state, any bytes: the run of a connection (frames, end, final state, accepted effects) is the same against two
brokers that have the same NUMBER OF CONSUMERS on the channels its own input SUBscribes to (`serveTargets`; a channel
that does not exist counts 0; the targets are computed against one of the two brokers). The brokers are arbitrary
otherwise, and the connection's own earlier commands change no client count: its answers are a function of its bytes and
of the client count of its SUB's channel at the moment of the SUB. `C09Audit` has the per-command statement, the limit 0
and the refutation of unconditional independence.
-/
namespace Nsq.Props.C09Agree
open Nsq.Model.ProtoV2 Nsq.Model.Names Nsq.Model.ProtoEnv Nsq.Model
open Nsq.Proofs.ProtoV2 Nsq.Proofs.ProtoEnv Nsq.Proofs.ProtoAgree

def serveTargets (xc : XConf) (x : XState) (b : Broker) (bs : Bytes) : List (Bytes × Bytes) :=
  match bs with
  | m0 :: m1 :: m2 :: m3 :: rest => if [m0, m1, m2, m3] = magicV2 then subTargets xc (rest.length + 1) x b rest else []
  | _ => []

/-- The whole run of a connection depends on the broker only through the number of consumers of the channels it
SUBscribes to -/
theorem answers_function_of_sub_counts (xc : XConf) (x : XState) (b b' : Broker) (bs : Bytes)
    (h : ∀ p ∈ serveTargets xc x b bs, clientCount b p.1 p.2 = clientCount b' p.1 p.2) :
    rview (serveX xc x b bs) = rview (serveX xc x b' bs) ∧ rview (connectX xc x b bs) = rview (connectX xc x b' bs) := by
  unfold serveX connectX
  unfold serveTargets at h
  split
  · rename_i m0 m1 m2 m3 rest
    split
    · rename_i hm
      simp only [hm, if_true] at h
      rw [disconnect_rview, disconnect_rview]
      have := (loopX_agree xc (rest.length + 1) x b b' rest h).1
      exact ⟨this, this⟩
    · exact ⟨rfl, rfl⟩
  · exact ⟨rfl, rfl⟩

/-- corollary: brokers that agree on EVERY client count (any limit) -/
theorem answers_independent_of_counts (xc : XConf) (x : XState) (b b' : Broker) (bs : Bytes)
    (h : ∀ t c, clientCount b t c = clientCount b' t c) :
    rview (serveX xc x b bs) = rview (serveX xc x b' bs) ∧ rview (connectX xc x b bs) = rview (connectX xc x b' bs) :=
  answers_function_of_sub_counts xc x b b' bs (fun p _ => h p.1 p.2)

/-- … and while the connection stays open the two brokers still agree on every client count -/
theorem brokers_still_agree (xc : XConf) (x : XState) (b b' : Broker) (bs : Bytes)
    (h : ∀ t c, clientCount b t c = clientCount b' t c) :
    ∀ t c, clientCount (connectX xc x b bs).broker t c = clientCount (connectX xc x b' bs).broker t c := by
  unfold connectX
  split
  · split
    · exact fun t c => (loopX_agree xc _ x b b' _ fun p _ => h p.1 p.2).2 t c (h t c)
    · exact h
  · exact h

/-- publishes (through `GetTopic`, `PutMessages`, `settle`) change no client count -/
theorem publish_keeps_counts (b : Broker) (n : Bytes) (ms : List Msg) (t c : Bytes) :
    clientCount (publish b n ms) t c = clientCount b t c := clientCount_publish b n ms t c

/-- an accepted SUB adds exactly one consumer, to its own channel -/
theorem sub_adds_one (b : Broker) (t c t' c' : Bytes) :
    clientCount (addClient (getChannel (getTopic b t) t c) t c) t' c' =
      clientCount b t' c' + (if t' = t ∧ c' = c then 1 else 0) := clientCount_sub b t c t' c'

namespace Examples
open Nsq.Props.C09Audit.Examples

/-- nothing like the empty broker, except that nobody consumes `t/c` -/
def other : Broker :=
  [{ name := ascii "t", paused := false, count := 7, msgs := [],
     chans := [{ name := ascii "c", paused := false, clients := 0, msgs := [⟨[1], 0⟩] },
               { name := ascii "d", paused := true, clients := 5, msgs := [] }] },
   { name := ascii "u", paused := true, count := 2, msgs := [⟨[2], 0⟩, ⟨[3], 0⟩], chans := [] }]

def bytesA : Bytes := magicV2 ++ ascii "SUB t c\n" ++ ascii "RDY 1\n" ++ ascii "SUB t d\n"

example : serveTargets xlimit x0 [] bytesA = [(ascii "t", ascii "c")] := by decide +kernel
/-- the theorem applied under limit 1: same run against `[]` and `other` -/
example : rview (serveX xlimit x0 [] bytesA) = rview (serveX xlimit x0 other bytesA) :=
  (answers_function_of_sub_counts xlimit x0 [] other bytesA (by decide +kernel)).1
example : (serveX xlimit x0 [] bytesA).replies = [.ok, .err .E_INVALID] ∧
    (serveX xlimit x0 other bytesA).replies = [.ok, .err .E_INVALID] := by decide +kernel
/-- the hypothesis is needed: `busy` has one consumer on `t/c` -/
example : clientCount [] (ascii "t") (ascii "c") ≠ clientCount busy (ascii "t") (ascii "c") ∧
    (serveX xlimit x0 busy bytesA).replies = [.err .E_SUB_FAILED] := by decide +kernel
/-- the brokers do NOT agree on every count (`t/d`: 0 vs 5): only the SUB's channel matters -/
example : clientCount [] (ascii "t") (ascii "d") ≠ clientCount other (ascii "t") (ascii "d") := by decide +kernel
example : clientCount (publish other (ascii "t") [⟨[9], 0⟩]) (ascii "t") (ascii "d") = 5 := by decide +kernel

end Examples
end Nsq.Props.C09Agree
