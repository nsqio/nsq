import Nsq.Model.ChanDelete
import Nsq.Proofs.ChanDelete
/-
C08 — "deleting a channel disconnects its consumers … a later re-creation starts empty", under every
interleaving of `Topic.DeleteExistingChannel` (HTTP delete or the ephemeral channel's `deleteCallback`) with
SUB, disconnects, publishes, re-creation of the name and another deletion of the same name.
Model: Model/ChanDelete.lean; `{}` = the tree without fixes/F22, `fixedTree` = with it.
-/
namespace Nsq.Props.C08ChanDelete
open Nsq.Model.ChanDelete Nsq.Proofs.ChanDelete

/-- the full claim for the unrepaired tree: no schedule unlinks an object that nobody deleted, leaves a
consumer attached to an object the map does not hold, or strands a message in such an object -/
def ChanDeleteFull : Prop :=
  ∀ (sched : List CStep) (s : CSt), crun {} sched = some s → zombies s = [] ∧ leaked s = [] ∧ stranded s = []

/-- consumer 1 subscribed; deletion D1 has run `channel.Delete()` to its end (1 closed) and is about to unlink;
a second deletion D2 finds the same object, loses the CAS and unlinks the name; the name is re-created
(object 1) by consumer 2's SUB, a message is fanned out to it; D1 unlinks the *name*: the fresh object leaves
the map although nobody deleted it (`chan_double_delete_unlinks_fresh`) -/
def witnessChanDouble : List CStep :=
  [.sub 1, .delBegin, .delExit 0, .delBegin, .loserUnlink 0, .sub 2, .pub, .delUnlink 0]

theorem witnessChanDouble_leaks :
    (crun {} witnessChanDouble).map (fun s => (zombies s, leaked s, stranded s, s.closed, s.map)) =
      some ([2], [1], [0], [1], none) := by decide +kernel

theorem chan_delete_full_false : ¬ ChanDeleteFull := by
  intro h
  have := (h witnessChanDouble _ rfl).1
  revert this
  decide +kernel

/-- the loser cannot unlink before the winner's exit has finished (`exitMutex`): on every tree the step is
disabled until then, so a re-created channel never shares its disk queue's file names with a channel that is
still being emptied (the topic-level hazard of F20's mutation m7 does not exist one level down) -/
theorem loser_waits_for_exit (s : CSt) (id : Nat) (T : CObj) (hf : findObj s id = some T) (hx : T.exited = false) :
    cstep s (.loserUnlink id) = none := by
  simp only [cstep]
  split
  · rw [hf]; simp [hx]
  · rfl

/-- the same interleaving on the repaired tree: D2 unlinks the deleted object, the name is re-created, and D1's
late unlink leaves the fresh object alone -/
theorem repaired_witness :
    (crun fixedTree witnessChanDouble).map
      (fun s => (zombies s, leaked s, stranded s, s.closed, s.map.map (fun T => (T.id, T.subs, T.queue)), s.answered)) =
      some ([], [], [], [1], some (1, [2], [0]), [0, 0]) := by rfl

/-- **F22**: on the repaired tree no schedule of subscriptions, disconnects, publishes, creations, deletions
(any number, concurrent, incl. the ephemeral callback) and re-creations unlinks an object that was not deleted:
no consumer is left attached to an unreachable object, no message is stranded in one -/
theorem no_chan_zombie_fixed (sched : List CStep) (s : CSt) (h : crun fixedTree sched = some s) :
    zombies s = [] ∧ leaked s = [] ∧ stranded s = [] := by
  have inv := fixedInv_run sched fixedTree s fixedInv_init h
  exact ⟨inv.flatten_nil (·.subs) (fun _ h => h.1), List.map_eq_nil_iff.2 inv.filter_not_exiting,
    inv.flatten_nil (·.queue) (fun _ h => h.2)⟩

/-- every tree: when a deletion answers (winner or loser), the object it looked up is no longer registered -/
theorem deleted_object_gone (s s' : CSt) (id : Nat)
    (h : cstep s (.delUnlink id) = some s' ∨ cstep s (.loserUnlink id) = some s') :
    ∀ M, s'.map = some M → M.id ≠ id := by
  have key : ∀ M, (unlink s id).map = some M → M.id ≠ id := by
    intro M
    unfold unlink
    split
    · rename_i h0; intro h1; rw [h0] at h1; cases h1
    · rename_i M0 h0
      split
      · rename_i hc
        intro h1
        rw [h0] at h1; cases h1
        simp only [Bool.and_eq_true, bne_iff_ne, ne_eq] at hc
        exact hc.2
      · intro h1; cases h1
  rcases h with h | h <;> simp only [cstep] at h <;> (repeat' split at h) <;> (try cases h) <;> exact key

/-- every tree: the exit stage of a channel deletion closes every consumer attached to the object at that
moment and discards its queue (what `delete_chan_effects` says in the atomic model) -/
theorem delete_chan_closes_attached (s s' : CSt) (id : Nat) (T : CObj) (hf : findObj s id = some T)
    (h : cstep s (.delExit id) = some s') : ∀ k ∈ T.subs, k ∈ s'.closed := by
  simp only [cstep] at h
  split at h
  · rw [hf] at h
    simp only [] at h
    split at h
    · cases h
    · cases h
      intro k hk
      simp [hk]
  · cases h

/-! ### non-vacuity -/
example : (crun fixedTree [.sub 1, .sub 2, .pub, .leave 1, .delBegin, .sub 3, .delBegin, .delExit 0, .loserUnlink 0, .sub 4, .pub,
    .delUnlink 0, .delBegin, .delExit 1, .delUnlink 1]).map
      (fun s => (s.unlinked.map (fun T => (T.id, T.exiting, T.subs, T.queue)), s.closed, s.left, s.map, s.answered)) =
    some ([(1, true, [], []), (0, true, [], [])], [4, 2, 3], [1], none, [1, 0, 0]) := by rfl
example : ∃ s T, findObj s 0 = some T ∧ T.exited = false ∧ cstep s (.loserUnlink 0) = none :=
  ⟨{ map := some { id := 0, exiting := true }, deleters := [0], losers := [0], nextId := 1 }, _, rfl, rfl, rfl⟩
example : ∃ s s', cstep s (.loserUnlink 0) = some s' ∧ s'.map = none :=
  ⟨{ map := some { id := 0, exiting := true, exited := true }, deleters := [0], losers := [0], nextId := 1 }, _, rfl, rfl⟩
example : ∃ s T, findObj s 0 = some T ∧ T.subs = [2, 1] ∧ (cstep s (.delExit 0)).map (·.closed) = some [2, 1] :=
  ⟨{ map := some { id := 0, exiting := true, subs := [2, 1] }, deleters := [0], nextId := 1 }, _, rfl, rfl, rfl⟩

end Nsq.Props.C08ChanDelete
