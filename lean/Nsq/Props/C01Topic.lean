/-
C01 — topic-level liveness under EXPLICIT fairness hypotheses, composed with the channel level.

`Nsq.Props.C01Live` proves, for ONE channel, that a message the channel owns is eventually delivered
under fairness of the scans and the consumer pumps. Here the schedule is an infinite run `NExec` of the
nsqd-level model (`Nsq.Model.ChanNsqd`: topics with their queue, the topic pump's snapshot, channels,
subscriptions; any API-level operation at any time, from any state satisfying the invariant) and the
topic pump is a fifth fair step class:

* `FairTopicPump ex t id` — strong fairness of `Topic.messagePump` towards this message: if infinitely
  often the message is in the topic queue while the pump is enabled (topic not paused, at least one channel in
  the snapshot), then it is eventually taken off the topic queue. (The topic queue is a bag in the model: the
  pump's `select` between memory and disk decides which message it receives — "no message is overtaken forever"
  is this hypothesis.)
* `PumpEnabledInfOften ex t` — the environment's side: infinitely often the topic is unpaused and has a channel.
  A topic without channels, or paused for ever, keeps its messages in the topic queue: that is the documented
  behaviour, not a loss (`C01.ack_implies_enqueued`).
* per channel `(t, c)`: `FairScanInFlightN`, `FairScanDeferredN`, `FairTakeN`, `ReadyInfOftenN` — the four
  hypotheses of `C01Live.eventually_delivered`, stated on the nsqd-level schedule.

None of them is discharged for the Go runtime (they are listed as assumptions in the evidence).
-/
import Nsq.Proofs.TopicLive
namespace Nsq.Props.C01Topic
open Nsq.Model.Chan Nsq.Model.ChanNsqd Nsq.Proofs.Chan Nsq.Proofs.ChanLive Nsq.Proofs.ChanNsqd Nsq.Proofs.TopicLive

def PumpEnabledFor (s : State) (t id : Nat) : Prop :=
  ∃ tp, findT s.topics t = some tp ∧ id ∈ tp.queue.map (·.id) ∧ pumpEnabled tp = true

def PumpedAt (ex : NExec) (t id m : Nat) : Prop := inTQ (ex.st m) t id ∧ ¬ inTQ (ex.st (m + 1)) t id

def FairTopicPump (ex : NExec) (t id : Nat) : Prop :=
  (∀ n, ∃ m, n ≤ m ∧ PumpEnabledFor (ex.st m) t id) → ∀ n, ∃ m, n ≤ m ∧ PumpedAt ex t id m

def PumpEnabledInfOften (ex : NExec) (t : Nat) : Prop :=
  ∀ n, ∃ m, n ≤ m ∧ ∃ tp, findT (ex.st m).topics t = some tp ∧ pumpEnabled tp = true

def DeliveredAtN (ex : NExec) (t c id j : Nat) : Prop := NDeliv (ex.st j) (ex.st (j + 1)) t c id

def FairScanInFlightN (ex : NExec) (t c id : Nat) : Prop :=
  ∀ n, ∃ m, n ≤ m ∧ ((¬ ∃ k p d, nloc (ex.st m) t c id = some (.inflight k p d)) ∨
    ∃ time k p d, ex.ops m = .scanInFlight t c time ∧ nloc (ex.st m) t c id = some (.inflight k p d) ∧ p ≤ time)

def FairScanDeferredN (ex : NExec) (t c id : Nat) : Prop :=
  ∀ n, ∃ m, n ≤ m ∧ ((¬ ∃ p, nloc (ex.st m) t c id = some (.deferred p)) ∨
    ∃ time p, ex.ops m = .scanDeferred t c time ∧ nloc (ex.st m) t c id = some (.deferred p) ∧ p ≤ time)

/-- some consumer of channel `(t, c)` passes `IsReadyForMessages` -/
def ReadyN (s : State) (t c : Nat) : Prop :=
  ∃ ch, chanAt s t c = some ch ∧ ∃ cl ∈ ch.clients, ready ch.paused cl = true

def FairTakeN (ex : NExec) (t c id : Nat) : Prop :=
  (∀ n, ∃ m, n ≤ m ∧ nloc (ex.st m) t c id = some .queued ∧ ReadyN (ex.st m) t c) →
    ∀ n, ∃ m, n ≤ m ∧ nloc (ex.st m) t c id = some .queued ∧ nloc (ex.st (m + 1)) t c id ≠ some .queued

def ReadyInfOftenN (ex : NExec) (t c : Nat) : Prop := ∀ n, ∃ m, n ≤ m ∧ ReadyN (ex.st m) t c

/-- **a message leaves a topic queue only through its own accepted fan-out**, and that step hands it to
EVERY channel the topic has at that moment (the pump's snapshot is the channel map): each of them
records the `fanout` event, none had one before -/
theorem leaves_queue_only_by_fanout (ex : NExec) (t id m : Nat) (h : PumpedAt ex t id m) :
    PumpAccepted (ex.st m) (ex.ops m) t id ∧
    ∀ c ch, chanAt (ex.st m) t c = some ch →
      ∃ ch', chanAt (ex.st (m + 1)) t c = some ch' ∧ nFanout ch'.hist id = 1 ∧ nFanout ch.hist id = 0 := by
  obtain ⟨hq, hn⟩ := h
  have hacc : PumpAccepted (ex.st m) (ex.ops m) t id := by
    rcases tq_unless (ex.st m) (ex.ops m) t id hq with h' | h'
    · rw [← ex.next m] at h'; exact absurd h' hn
    · exact h'
  refine ⟨hacc, ?_⟩
  intro c ch hc
  obtain ⟨ch', h1, h2, h3⟩ := pump_fans_out (ex.inv m) hacc hc
  rw [← ex.next m] at h1
  exact ⟨ch', h1, by omega, h3⟩

theorem inTQ_unless (ex : NExec) (t id m : Nat) (h : inTQ (ex.st m) t id) :
    inTQ (ex.st (m + 1)) t id ∨ PumpedAt ex t id m := by
  by_cases hq : inTQ (ex.st (m + 1)) t id
  · exact Or.inl hq
  · exact Or.inr ⟨h, hq⟩

/-- **topic-level liveness.** Under `FairTopicPump` and `PumpEnabledInfOften`, a message in the queue of
topic `t` at time `n` (memory or disk; by `C01.ack_implies_enqueued` every acknowledged publish is) is fanned
out by some step `m ≥ n`: it leaves the topic queue and every channel of the topic at that moment gets it. -/
theorem eventually_fanned_out (ex : NExec) (t id : Nat) (hF : FairTopicPump ex t id) (hE : PumpEnabledInfOften ex t)
    {n : Nat} (h : inTQ (ex.st n) t id) :
    ∃ m, n ≤ m ∧ PumpedAt ex t id m ∧
      ∀ c ch, chanAt (ex.st m) t c = some ch →
        ∃ ch', chanAt (ex.st (m + 1)) t c = some ch' ∧ nFanout ch'.hist id = 1 ∧ nFanout ch.hist id = 0 := by
  obtain ⟨m, hm, hp⟩ := leadsto_fair (P := fun m => inTQ (ex.st m) t id) (inTQ_unless ex t id) (fun hen => hF fun n2 => by
    obtain ⟨m, hm, ⟨tp', htp', hid⟩, tp, htp, hpe⟩ := hen n2
    rw [htp] at htp'; cases htp'
    exact ⟨m, hm, _, htp, hid, hpe⟩) hE h
  exact ⟨m, hm, hp, (leaves_queue_only_by_fanout ex t id m hp).2⟩

/-- ANY nsqd-level step moves the location of ANY message on ANY channel along the graph of
`Nsq.Proofs.ChanLive.trans`; `queued → in flight` only with a recorded delivery on that channel -/
theorem location_moves (ex : NExec) (t c id n : Nat) :
    Move (DeliveredAtN ex t c id n) (nloc (ex.st n) t c id) (nloc (ex.st (n + 1)) t c id) := by
  have := nstep_move (ex.st n) (ex.ops n) t c id
  rw [← ex.next n] at this
  exact this

/-- the channel-level liveness of `C01Live.eventually_delivered`, on the nsqd-level schedule: a message
channel `(t, c)` owns at time `n` is delivered by a step `j ≥ n`, or the channel ceases to own it (the four
removal events — or the channel itself is gone: an `#ephemeral` channel whose last consumer left) -/
theorem eventually_delivered_on (ex : NExec) (t c id : Nat)
    (hI : FairScanInFlightN ex t c id) (hD : FairScanDeferredN ex t c id) (hT : FairTakeN ex t c id)
    (hR : ReadyInfOftenN ex t c) {n : Nat} (h : nloc (ex.st n) t c id ≠ none) :
    ∃ j, n ≤ j ∧ (DeliveredAtN ex t c id j ∨ nloc (ex.st (j + 1)) t c id = none) := by
  refine trace_eventually_delivered (loc := fun m => nloc (ex.st m) t c id) (D := DeliveredAtN ex t c id)
    (R := fun m => ReadyN (ex.st m) t c) (location_moves ex t c id)
    hI (fun m ⟨time, _, _, _, hop, hl, hp⟩ => ?_) hD (fun m ⟨time, _, hop, hl, hp⟩ => ?_) hT hR h
  · have := nscanInFlight_releases (ex.st m) t c id hl hp
    rwa [← hop, ← ex.next m] at this
  · have := nscanDeferred_releases (ex.st m) t c id hl hp
    rwa [← hop, ← ex.next m] at this

/-- **C01, both levels composed.** A message in the queue of topic `t` at time `n` (every acknowledged
publish is: `C01.ack_implies_enqueued`) is, under the topic-pump fairness, fanned out at some step `m ≥ n`
to EVERY channel `c` the topic has at that moment — each records the `fanout` event — and on each such
channel, under the channel-level fairness hypotheses for `(t, c)`, it is then delivered by some step
`j ≥ m`, or the channel ceases to own it (`fanned_then_gone_is_removed`: FIN accepted, `Empty`, sampling, the
overflow of an `#ephemeral` queue — or the channel itself disappeared). -/
theorem acked_eventually_delivered (ex : NExec) (t id : Nat) (hF : FairTopicPump ex t id) (hE : PumpEnabledInfOften ex t)
    {n : Nat} (h : inTQ (ex.st n) t id) :
    ∃ m, n ≤ m ∧ PumpedAt ex t id m ∧
      ∀ c ch, chanAt (ex.st m) t c = some ch →
        (∃ ch', chanAt (ex.st (m + 1)) t c = some ch' ∧ nFanout ch'.hist id = 1 ∧ nFanout ch.hist id = 0) ∧
        (FairScanInFlightN ex t c id → FairScanDeferredN ex t c id → FairTakeN ex t c id → ReadyInfOftenN ex t c →
          ∃ j, m ≤ j ∧ (DeliveredAtN ex t c id j ∨ nloc (ex.st (j + 1)) t c id = none)) := by
  obtain ⟨m, hm, hp, hfan⟩ := eventually_fanned_out ex t id hF hE h
  refine ⟨m, hm, hp, ?_⟩
  intro c ch hc
  refine ⟨hfan c ch hc, ?_⟩
  intro hI hD hT hR
  by_cases hl : nloc (ex.st (m + 1)) t c id = none
  · exact ⟨m, Nat.le_refl m, Or.inr hl⟩
  · obtain ⟨j, hj, h'⟩ := eventually_delivered_on ex t c id hI hD hT hR hl
    exact ⟨j, by omega, h'⟩

/-- "the channel ceased to own it" after the fan-out means: removed by one of the four removal events of
`C01.ledger` (while the channel exists) — never by a timeout, a REQ, a TOUCH, a disconnect, pause -/
theorem fanned_then_gone_is_removed (ex : NExec) (t c id j : Nat) {ch : Chan} (hc : chanAt (ex.st j) t c = some ch)
    (hf : nFanout ch.hist id ≠ 0) (hg : nloc (ex.st j) t c id = none) :
    ∃ ev ∈ ch.hist, removedIn ev id = true := by
  have hinv : Inv 0 ch := by
    obtain ⟨tp, nc, h1, h2, rfl⟩ := chanAt_some hc
    exact ((ex.inv j).topics tp (findT_some h1).1).chans nc (findN_some h2).1
  have hl : locOf ch id = none := by simpa [nloc, hc] using hg
  exact removed_of_fanned hinv (mem_fannedIds.2 hf) (findE_none (Option.map_eq_none_iff.1 hl))

/-! ### non-vacuity: a concrete schedule for which every hypothesis is proved

channel 1 of topic 1 is created, connection 5 subscribes with RDY 1, a message is published (id 1), the topic
pump fans it out, it is delivered and FINished; afterwards nothing happens (`createTopic 1` stutters). -/

def exPre : List Nsq.Model.ChanNsqd.Op :=
  [.createChan 1 1 false, .sub 5 1 1 false 100 0, .rdy 5 (some 1), .pub 1 10, .pumpTopic 1 1 false [], .deliver 5 1 0, .fin 5 1]

def exOpsAt (n : Nat) : Nsq.Model.ChanNsqd.Op := if h : n < 7 then exPre[n] else .createTopic 1

def exSt : Nat → State
  | 0 => {}
  | n + 1 => (Nsq.Model.ChanNsqd.step (exSt n) (exOpsAt n)).1

theorem exApi (n : Nat) : Op.api (exOpsAt n) = true := by
  unfold exOpsAt
  by_cases h : n < 7
  · rw [dif_pos h]
    have : ∀ i (hi : i < 7), Op.api (exPre[i]'hi) = true := by decide
    exact this n h
  · rw [dif_neg h]; rfl

def exExec : NExec := { ops := exOpsAt, st := exSt, next := fun _ => rfl, api := exApi, inv0 := ninv_init {} }

theorem exSt_const (d : Nat) : exSt (7 + d) = exSt 7 := by
  induction d with
  | zero => rfl
  | succ d ih =>
    show (Nsq.Model.ChanNsqd.step (exSt (7 + d)) (exOpsAt (7 + d))).1 = exSt 7
    have : exOpsAt (7 + d) = .createTopic 1 := by unfold exOpsAt; rw [dif_neg (by omega)]
    rw [ih, this]; decide

theorem exSt_late {m : Nat} (h : 7 ≤ m) : exExec.st m = exSt 7 := by
  obtain ⟨d, rfl⟩ : ∃ d, m = 7 + d := ⟨m - 7, by omega⟩
  exact exSt_const d

example : inTQ (exExec.st 4) 1 1 := ⟨_, rfl, by decide⟩
/-- the schedule's final state, as far as the hypotheses look at it: topic 1 has an empty queue and an enabled pump,
channel 1 no longer owns message 1 and has a ready consumer -/
theorem exFinal : (findT (exSt 7).topics 1).map (fun tp => (tp.queue.map (·.id), pumpEnabled tp)) = some ([], true) ∧
    (chanAt (exSt 7) 1 1).map (fun ch => (locOf ch 1, ch.clients.any (ready ch.paused))) = some (none, true) := by decide

theorem exNotQ : ¬ inTQ (exSt 7) 1 1 := by
  rintro ⟨tp, h1, h2⟩
  have h3 := exFinal.1
  rw [h1] at h3
  simp only [Option.map_some, Option.some.injEq, Prod.mk.injEq] at h3
  rw [h3.1] at h2; cases h2

theorem exFairPump : FairTopicPump exExec 1 1 := by
  intro hen
  exfalso
  obtain ⟨m, hm, tp, h1, h2, _⟩ := hen 7
  rw [exSt_late hm] at h1
  exact exNotQ ⟨tp, h1, h2⟩

theorem exNloc : nloc (exSt 7) 1 1 1 = none := by
  have h := exFinal.2
  unfold nloc
  cases hc : chanAt (exSt 7) 1 1 with
  | none => rfl
  | some ch => rw [hc] at h; simpa using (Prod.mk.inj (Option.some.inj h)).1

theorem exPumpEnabled : PumpEnabledInfOften exExec 1 := by
  intro n
  refine ⟨max n 7, by omega, ?_⟩
  rw [exSt_late (by omega)]
  have h := exFinal.1
  cases hf : findT (exSt 7).topics 1 with
  | none => rw [hf] at h; cases h
  | some tp => rw [hf] at h; exact ⟨tp, rfl, (Prod.mk.inj (Option.some.inj h)).2⟩

theorem exFairI : FairScanInFlightN exExec 1 1 1 := fun n =>
  ⟨max n 7, by omega, Or.inl (by rw [exSt_late (by omega)]; rintro ⟨k, p, d, h⟩; rw [exNloc] at h; cases h)⟩
theorem exFairD : FairScanDeferredN exExec 1 1 1 := fun n =>
  ⟨max n 7, by omega, Or.inl (by rw [exSt_late (by omega)]; rintro ⟨p, h⟩; rw [exNloc] at h; cases h)⟩
theorem exFairT : FairTakeN exExec 1 1 1 := by
  intro hen
  exfalso
  obtain ⟨m, hm, hq, _⟩ := hen 7
  rw [exSt_late hm, exNloc] at hq
  cases hq
theorem exReady : ReadyInfOftenN exExec 1 1 := by
  intro n
  refine ⟨max n 7, by omega, ?_⟩
  rw [exSt_late (by omega)]
  have h := exFinal.2
  cases hc : chanAt (exSt 7) 1 1 with
  | none => rw [hc] at h; cases h
  | some ch =>
    rw [hc] at h
    exact ⟨ch, hc, List.any_eq_true.1 (Prod.mk.inj (Option.some.inj h)).2⟩

/-- the composed theorem applied: the message published at step 3 (in the topic queue at time 4) is fanned out
to channel 1 and delivered there -/
example : ∃ m, 4 ≤ m ∧ PumpedAt exExec 1 1 m ∧ ∀ ch, chanAt (exExec.st m) 1 1 = some ch →
    ∃ j, m ≤ j ∧ (DeliveredAtN exExec 1 1 1 j ∨ nloc (exExec.st (j + 1)) 1 1 1 = none) := by
  obtain ⟨m, h1, h2, h3⟩ := acked_eventually_delivered exExec 1 1 exFairPump exPumpEnabled (n := 4) ⟨_, rfl, by decide⟩
  exact ⟨m, h1, h2, fun ch hc => (h3 1 ch hc).2 exFairI exFairD exFairT exReady⟩
/-- and what actually happens in it: fanned out by step 4, delivered by step 5, gone (FIN) after step 6 -/
example : PumpedAt exExec 1 1 4 := ⟨⟨_, rfl, by decide⟩, by
  rintro ⟨tp, h1, h2⟩
  have h3 : (findT (exExec.st 5).topics 1).map (fun tp => tp.queue.map (·.id)) = some [] := by decide
  rw [h1] at h3
  simp only [Option.map_some, Option.some.injEq] at h3
  rw [h3] at h2; simp at h2⟩
example : nloc (exExec.st 5) 1 1 1 = some .queued ∧ nloc (exExec.st 6) 1 1 1 = some (.inflight 5 100 0) ∧
    nloc (exExec.st 7) 1 1 1 = none := by decide
example : (chanAt (exExec.st 7) 1 1).map (fun ch => removed ch.hist 1) = some true := by decide

end Nsq.Props.C01Topic
