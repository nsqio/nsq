/-
C01.2 `fanout_complete` with channel creation split into `createRaw | refresh` — on the snapshot
model `Nsq.Model.TopicSnap`, for EVERY schedule (channels created and deleted while the pump is mid-backlog):

* `fanout_complete_raw` — every published id is still in the topic queue, or was handed to EVERY channel that had entered
  the pump's snapshot (`born = some b`: the refresh at which `GetChannel` — hence SUB — returned) no later than the id was
  issued (`b ≤ i`): a publish acknowledged after the SUB's OK reaches the new channel;
* `FanoutCompleteFull` / `fanout_complete_false_born_at_insert` — the same statement with `born` read as the moment of the
  MAP INSERT (first half of `GetChannel`) is false: the pump fans a message published in between to its old snapshot.
Tie: leg `busysub` (`corpus/C01/busy_pump_sub.ops`: the pump is held mid-message while a SUB creates the channel; the SUB
answers only after the pump took the update; a publish acknowledged after that OK reaches the channel — oracle
`fanout-missed`), facts `Tie.Chan.getChannel_eq` (map insert, then the blocking send), `topicPumpLoop_eq` (snapshot rebuilt from the
map on every `channelUpdateChan` event). For the atomic `createChan` of `ChanNsqd` (both halves in one step) this is `C01.fanout_complete`; with the two halves on `ChanNsqd`
itself, `C01Raw.fanout_complete_rawops`. Only this model has the deletion of a channel (`deleteRaw`).
-/
import Nsq.Model.TopicSnap
namespace Nsq.Props.C01Snap
open Nsq.Model.TopicSnap

def Served (s : St) (ch : SChan) : Prop :=
  ∀ b, ch.born = some b → ch.cid ∈ s.snap ∧ ∀ i ∈ s.pumped, b ≤ i → i ∈ ch.fanned

structure SInv (s : St) : Prop where
  served : ∀ ch ∈ s.chans, Served s ch
  ids    : ∀ i, i ∈ s.queue ∨ i ∈ s.pumped ↔ 0 < i ∧ i < s.nextId
  pos    : 0 < s.nextId

theorem sinv_init : SInv {} :=
  ⟨fun _ h => (by cases h), fun i => (by simp; omega), Nat.one_pos⟩

theorem step_sinv {s : St} (h : SInv s) (op : Op) : SInv (step false s op).1 := by
  obtain ⟨hs, hids, hpos⟩ := h
  cases op with
  | createRaw c =>
    simp only [step]
    split
    · exact ⟨hs, hids, hpos⟩
    · refine ⟨fun ch hch => ?_, hids, hpos⟩
      rcases List.mem_append.1 hch with hm | hm
      · exact hs ch hm
      · cases List.mem_singleton.1 hm; exact fun b hb => nomatch hb
  | deleteRaw c => exact ⟨fun ch hch => hs ch (List.mem_filter.1 hch).1, hids, hpos⟩
  | refresh =>
    refine ⟨?_, hids, hpos⟩
    simp only [step, List.forall_mem_map]
    intro ch hch b hb
    cases hcb : ch.born with
    | none =>
      -- born at this refresh: nothing pumped so far has an id from `nextId` on
      simp only [hcb, Option.some.injEq] at hb ⊢
      exact ⟨List.mem_map_of_mem hch, fun i hi hbi => absurd ((hids i).1 (Or.inr hi)).2 (by omega)⟩
    | some b0 =>
      simp only [hcb] at hb ⊢
      exact ⟨List.mem_map_of_mem hch, (hs ch hch b (hcb ▸ hb)).2⟩
  | pub =>
    refine ⟨hs, fun i => ?_, Nat.succ_pos _⟩
    simp only [step, List.mem_cons, or_assoc, hids]
    omega
  | pump i =>
    simp only [step]
    split
    · rename_i hq
      have hiq : i ∈ s.queue := by simpa using hq
      refine ⟨?_, fun j => ?_, hpos⟩
      · simp only [List.forall_mem_map]
        intro ch hch b hb
        -- a born channel is in the snapshot, so it takes the `then` branch
        have hsn : s.snap.contains ch.cid = true := by
          have hb0 : ch.born = some b := by split at hb <;> exact hb
          simpa using (hs ch hch b hb0).1
        simp only [hsn, ↓reduceIte, List.mem_cons] at hb ⊢
        have ⟨h1, h2⟩ := hs ch hch b hb
        exact ⟨h1, fun j hj hbj => hj.imp_right (h2 j · hbj)⟩
      · -- the id moves from the queue to `pumped`: the issued ids are the same set
        rw [← hids j]
        by_cases he : j = i
        · simp [he, hiq]
        · simp [List.mem_erase_of_ne he, he]
    · exact ⟨hs, hids, hpos⟩

theorem run_sinv {s : St} (h : SInv s) (ops : List Op) : SInv (run false s ops) := by
  induction ops generalizing s with
  | nil => exact h
  | cons op ops ih => exact ih (step_sinv h op)

/-- the statement, per reading of `born` -/
def FanoutCompleteFull (bornAtRaw : Bool) : Prop :=
  ∀ (ops : List Op) (i : Nat), 0 < i → i < (run bornAtRaw {} ops).nextId →
    i ∈ (run bornAtRaw {} ops).queue ∨
    ∀ ch ∈ (run bornAtRaw {} ops).chans, ∀ b, ch.born = some b → b ≤ i → i ∈ ch.fanned

/-- **fan-out completeness over every schedule with split channel creation** -/
theorem fanout_complete_raw : FanoutCompleteFull false := by
  intro ops i hp hl
  have h := run_sinv sinv_init ops
  rcases (h.ids i).2 ⟨hp, hl⟩ with a | a
  · exact Or.inl a
  · exact Or.inr (fun ch hch b hb hbi => (h.served ch hch b hb).2 i a hbi)

/-- after `refresh` the pump's snapshot is the channel map -/
theorem snapshot_after_refresh (b : Bool) (s : St) : (step b s .refresh).1.snap = (step b s .refresh).1.chans.map (·.cid) := by
  simp only [step, List.map_map]
  apply List.map_congr_left
  intro ch _
  simp only [Function.comp]
  cases ch.born <;> rfl

/-- with `born` = the moment of the map insert the statement is false: channel 1 is inserted, message 1 is published and
pumped to the OLD (empty) snapshot before the pump takes the update -/
theorem fanout_complete_false_born_at_insert : ¬ FanoutCompleteFull true := by
  intro h
  have := h [.createRaw 1, .pub, .pump 1, .refresh] 1 (by decide) (by decide)
  rcases this with a | a
  · exact absurd a (by decide)
  · have := a { cid := 1, born := some 1, fanned := [] } (by decide) 1 rfl (by decide)
    exact absurd this (by decide)

/-! non-vacuity: the busy-sub schedule — channel 1 in the snapshot, messages 1 2 published, 1 pumped, channel 2 inserted
(SUB in progress), 2 pumped to the OLD snapshot, refresh (SUB returns: born = 3), message 3 published and pumped -/
def bsOps : List Op := [.createRaw 1, .refresh, .pub, .pub, .pump 1, .createRaw 2, .pump 2, .refresh, .pub, .pump 3]
example : (run false {} bsOps).chans =
    [{ cid := 1, born := some 1, fanned := [3, 2, 1] }, { cid := 2, born := some 3, fanned := [3] }] := by decide
example : ∀ ch ∈ (run false {} bsOps).chans, ∀ b, ch.born = some b → b ≤ 3 → 3 ∈ ch.fanned :=
  (fanout_complete_raw bsOps 3 (by decide) (by decide)).resolve_left (by decide)

end Nsq.Props.C01Snap
