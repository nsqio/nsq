import Nsq.Proofs.ToNsqRefuse
/-!
# C20 — to_nsq when a destination refuses a record

`Nsq.Props.C20.to_nsq_records` is stated over `Split.deliver`, which assumes that **every publish succeeds**.
The real tool is fail-stop: the first refused `Publish` (e.g. a record above the destination's `--max-msg-size` →
`E_BAD_MESSAGE`, `E_PUB_FAILED`) ends in `log.Fatal` — exit status 1 — and nothing after it is read from stdin.
So "publishes each record to every destination" is true **only under the hypothesis that every destination accepts
every record**; stated here with the hypothesis explicit (`to_nsq_records_if_accepted`), refuted without it
(`to_nsq_records_unconditional_false`), and with what actually happens at a refusal
(`to_nsq_published_until_refusal`). Model: `Nsq.Model.ToNsqRefuse` (the Go map's iteration order is an input of every
iteration).
-/
namespace Nsq.Props.C20Refuse
open Nsq.Model.Split Nsq.Model.ToNsqRefuse Nsq.Proofs.ToNsqRefuse

/-- the iterations of the loop on `input`: its records, each with the map order of its iteration -/
def Iterations (n : Nat) (d : UInt8) (input : Bytes) (its : List (Bytes × List Nat)) : Prop :=
  its.map (·.1) = published trimFixed d input ∧ ∀ it ∈ its, ValidOrder n it.2

/-- **Hypothesis explicit.** If every destination accepts every record of the input, the tool exits 0 and every
destination has acknowledged exactly the records of the input, byte for byte, in order — whatever order the map
iteration took. (`to_nsq_records` is this statement with the hypothesis built into `deliver`.) -/
theorem to_nsq_records_if_accepted (acc : Nat → Bytes → Bool) (n : Nat) (d : UInt8) (input : Bytes)
    (its : List (Bytes × List Nat)) (hits : Iterations n d input its)
    (hacc : ∀ r ∈ records d input, ∀ i < n, acc i r = true) :
    (run acc its).2 = 0 ∧ ∀ i < n, received i (run acc its).1 = records d input := by
  have hrecs : its.map (·.1) = records d input := by rw [hits.1, Nsq.Proofs.Split.published_fixed]
  have hall : ∀ it ∈ its, (publishOne acc it.1 it.2).2 = true := fun it hit =>
    (publishOne_ok_iff (hits.2 it hit)).mpr (hacc _ (by rw [← hrecs]; exact List.mem_map_of_mem hit))
  refine ⟨run_accepted_exit acc its hall, fun i hi => ?_⟩
  rw [run_accepted_received acc n its hits.2 hall i hi, hrecs]

/-- the unconditional reading: whatever the destinations answer, every destination ends up with every record -/
def to_nsq_records_unconditional : Prop :=
  ∀ (acc : Nat → Bytes → Bool) (n : Nat) (d : UInt8) (input : Bytes) (its : List (Bytes × List Nat)),
    Iterations n d input its → ∀ i < n, received i (run acc its).1 = records d input

/-- … is **false**: one destination with a size limit of 1 byte, input `"a\nbb\nc\n"`: the tool stops at `bb`,
exit status 1, and `c` — which the destination would accept — is never published. -/
theorem to_nsq_records_unconditional_false : ¬ to_nsq_records_unconditional := by
  intro h
  have hp : published trimFixed 10 [97, 10, 98, 98, 10, 99, 10] = [[97], [98, 98], [99]] := by
    rw [Nsq.Proofs.Split.published_eq]; decide
  have hi : Iterations 1 10 [97, 10, 98, 98, 10, 99, 10] [([97], [0]), ([98, 98], [0]), ([99], [0])] := by
    refine ⟨by rw [hp]; rfl, ?_⟩
    intro it hit
    have : it.2 = [0] := by
      simp at hit
      rcases hit with rfl | rfl | rfl <;> rfl
    rw [this]
    exact ⟨by simp, fun i => by simp⟩
  have := h (sizeLimit 0 1) 1 10 _ _ hi 0 (by decide)
  rw [Nsq.Proofs.Split.published_fixed] at hp
  rw [hp] at this
  revert this
  decide

/-- **What happens at a refusal.** The records before the first refused one were accepted everywhere; record `r`
is refused by some destination. Then the exit status is 1, and every destination has acknowledged exactly the
records before `r`, plus `r` itself iff the map iteration visited it before the first refusing destination; nothing
after `r` reaches anybody. -/
theorem to_nsq_published_until_refusal (acc : Nat → Bytes → Bool) (n : Nat)
    (pre post : List (Bytes × List Nat)) (r : Bytes) (ord : List Nat)
    (hvpre : ∀ it ∈ pre, ValidOrder n it.2) (hvord : ValidOrder n ord)
    (hpre : ∀ it ∈ pre, ∀ i < n, acc i it.1 = true)
    (href : ∃ j < n, acc j r = false) :
    (run acc (pre ++ (r, ord) :: post)).2 = 1 ∧
    ∀ i < n, received i (run acc (pre ++ (r, ord) :: post)).1 =
      pre.map (·.1) ++ (if i ∈ ord.takeWhile (fun k => acc k r) then [r] else []) := by
  have hall : ∀ it ∈ pre, (publishOne acc it.1 it.2).2 = true := fun it hit =>
    (publishOne_ok_iff (hvpre it hit)).mpr (hpre it hit)
  have hfail : (publishOne acc r ord).2 = false := Bool.eq_false_iff.mpr fun h => by
    obtain ⟨j, hj, hacc⟩ := href
    rw [(publishOne_ok_iff hvord).mp h j hj] at hacc; cases hacc
  have hstep : run acc ((r, ord) :: post) = ((publishOne acc r ord).1, 1) := by simp [run, hfail]
  rw [run_append_accepted acc pre _ hall, hstep]
  refine ⟨rfl, fun i hi => ?_⟩
  simp only [Nsq.Proofs.Split.received_append]
  rw [run_accepted_received acc n pre hvpre hall i hi, received_publishOne acc r ord hvord.1 i]

/-- the refusing destinations themselves never hold the refused record: they hold exactly the records before it -/
theorem to_nsq_refuser_holds_prefix (acc : Nat → Bytes → Bool) (n : Nat)
    (pre post : List (Bytes × List Nat)) (r : Bytes) (ord : List Nat)
    (hvpre : ∀ it ∈ pre, ValidOrder n it.2) (hvord : ValidOrder n ord)
    (hpre : ∀ it ∈ pre, ∀ i < n, acc i it.1 = true) (j : Nat) (hj : j < n) (hrej : acc j r = false) :
    received j (run acc (pre ++ (r, ord) :: post)).1 = pre.map (·.1) := by
  rw [(to_nsq_published_until_refusal acc n pre post r ord hvpre hvord hpre ⟨j, hj, hrej⟩).2 j hj]
  have : j ∉ ord.takeWhile (fun k => acc k r) := by
    intro hmem
    have := List.all_eq_true.mp List.all_takeWhile j hmem
    simp [hrej] at this
  simp [this]

/-- every destination holds a prefix of the records that is at most one record longer than any other's -/
theorem to_nsq_refusal_prefix (acc : Nat → Bytes → Bool) (n : Nat)
    (pre post : List (Bytes × List Nat)) (r : Bytes) (ord : List Nat)
    (hvpre : ∀ it ∈ pre, ValidOrder n it.2) (hvord : ValidOrder n ord)
    (hpre : ∀ it ∈ pre, ∀ i < n, acc i it.1 = true) (href : ∃ j < n, acc j r = false) (i : Nat) (hi : i < n) :
    received i (run acc (pre ++ (r, ord) :: post)).1 = pre.map (·.1) ∨
    received i (run acc (pre ++ (r, ord) :: post)).1 = pre.map (·.1) ++ [r] := by
  rw [(to_nsq_published_until_refusal acc n pre post r ord hvpre hvord hpre href).2 i hi]
  by_cases h : i ∈ ord.takeWhile (fun k => acc k r)
  · right; simp [h]
  · left; simp [h]

/-! ### non-vacuity -/

/-- three destinations, destination 1 refuses bodies above 1 byte; in the iteration of `bb` the map order was
2, 1, 0: destination 2 got `bb`, destination 1 refused it, destination 0 was never asked; `c` is lost for all. -/
example : run (sizeLimit 1 1) [([97], [0, 1, 2]), ([98, 98], [2, 1, 0]), ([99], [0, 1, 2])] =
    ([(0, [97]), (1, [97]), (2, [97]), (2, [98, 98])], 1) := by decide
example : ValidOrder 3 [2, 1, 0] := ⟨by decide, fun i => by simp; omega⟩
example : (run (sizeLimit 1 1) [([97], [0, 1, 2]), ([99], [1, 0, 2])]).2 = 0 := by decide
example : ∃ j < 3, sizeLimit 1 1 j [98, 98] = false := ⟨1, by decide, by decide⟩
example : ∀ r ∈ records 10 [97, 10, 99, 10], ∀ i < 3, sizeLimit 1 1 i r = true := by decide

end Nsq.Props.C20Refuse
