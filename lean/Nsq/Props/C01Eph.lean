/-
C01 on `#ephemeral` TOPICS.

`C01.ack_implies_enqueued` ("PUB/DPUB/MPUB answer OK and the ids are then in the topic queue, whatever the topic's
state") is a theorem about `Nsq.Model.ChanNsqd`, which has no ephemeral topics. The real `Topic.put` of a topic
whose name ends in `#ephemeral` DROPS the message when the memory queue has no room (`dummyBackendQueue.Put` returns
nil) and `PutMessage` still returns nil: the publisher gets OK and `message_count` / `message_bytes` count the message.
It is the deliberate drop of the property's statement ("no message is lost except the documented drops"), on the
topic side. The theorems below are about the extension model `Nsq.Model.TopicEph` (`stepE` over `ES`):

* `AckImpliesEnqueuedEph` / `ack_implies_enqueued_false_ephemeral` — the statement of `ack_implies_enqueued` for an
  ephemeral topic is FALSE (mem-queue-size 1, second publish);
* `eph_ack_enqueued_or_dropped` — what holds instead, for EVERY state and every accepted `pubE`: the id is
  acknowledged and counted, and it is EITHER in the topic queue OR recorded in `dropped` — never both, never neither;
  `eph_ack_enqueued_or_dropped_mpub` for MPUB;
* `only_deliberate_drops_topic` — a step adds an entry to `dropped` only as `pubE` / `mpubE` on a topic in `eph` whose
  memory queue had no room at that moment (`no_room_iff`); `base_never_drops` / `durable_ack_implies_enqueued`: a step
  of the base model never adds one, and a publish to a durable topic is `ChanNsqd.step`'s, so
  `C01.ack_implies_enqueued` holds for it unchanged;
* `eph_counts_include_dropped` — after n publishes to a fresh ephemeral topic (nothing pumped): `message_count = n`,
  `message_bytes` = the sum of the sizes, kept + dropped = n, and with mem-queue-size m > 0 kept = min n m.
Tie: `Nsq.Tie.TopicEph` (`topicPutBody_eq`, `newTopicEphemeral_eq`, `dummyPut_eq`); leg `ephtopic`
(`harness/e2/e2_live_test.go doEphTopic`, `corpus/C01/ephemeral_topic.ops`, lines `teph` replayed by `drv_e2` through
`stepE`).
-/
import Nsq.Proofs.TopicEph
import Nsq.Props.C01
namespace Nsq.Props.C01Eph
open Nsq.Model.Chan (Env Out)
open Nsq.Model.ChanNsqd Nsq.Model.TopicEph Nsq.Proofs.TopicEph

/-- the statement of `C01.ack_implies_enqueued` for a publish to an ephemeral topic -/
def AckImpliesEnqueuedEph : Prop :=
  ∀ (es : ES) (t size delay : Nat) (env : Env) (taken : Bool) (id : Nat),
    (stepE es (.pubE t size delay env taken)).2 = .ids [id] →
    ∃ tp ∈ (stepE es (.pubE t size delay env taken)).1.s.topics, tp.tid = t ∧ id ∈ tp.queue.map (·.id)

/-- mem-queue-size 1, ephemeral topic 7 holding message 1 -/
def exFull : ES := runE (freshE 1 7) [.pubE 7 10 0 {} false]

/-- FALSE: the second publish is answered OK (`ids [2]`) and message 2 is nowhere in the topic queue -/
theorem ack_implies_enqueued_false_ephemeral : ¬ AckImpliesEnqueuedEph := by
  intro h
  exact absurd (h exFull 7 10 0 {} false 2 (by decide)) (by decide)

example : (stepE exFull (.pubE 7 10 0 {} false)).2 = .ids [2] ∧
    (stepE exFull (.pubE 7 10 0 {} false)).1.dropped = [(7, 2)] ∧
    ((stepE exFull (.pubE 7 10 0 {} false)).1.s.topics.map (fun tp => (tp.queue.map (·.id), tp.msgCount, tp.msgBytes, tp.acked)))
      = [([1], 2, 20, [2, 1])] := by decide

/-- **what holds instead** — for every state and every accepted `pubE` (PUB / DPUB to an ephemeral topic): the id
is the counter's, it is acknowledged (`acked`) and counted (`message_count + 1`, `message_bytes + size`), and the
step EITHER put the message at the head of the topic queue (ghost list of drops unchanged) OR left the queue alone
and recorded `(t, id)` in `dropped`. With ids issued by the counter (every id in the queue / in `dropped` is below
`nextId` — `Proofs.ChanNsqd.queued_lt` for the base model): in the queue ⇔ not in `dropped`. -/
theorem eph_ack_enqueued_or_dropped (es : ES) (t size delay : Nat) (env : Env) (taken : Bool) (l : List Nat)
    (h : (stepE es (.pubE t size delay env taken)).2 = .ids l) :
    l = [es.s.nextId] ∧ t ∈ es.eph ∧
    ∃ tp tp', findT es.s.topics t = some tp ∧ findT (stepE es (.pubE t size delay env taken)).1.s.topics t = some tp' ∧
      es.s.nextId ∈ tp'.acked ∧ tp'.msgCount = tp.msgCount + 1 ∧ tp'.msgBytes = tp.msgBytes + size ∧
      ((tp'.queue = ⟨es.s.nextId, size, delay, .mem, env⟩ :: tp.queue ∧
          (stepE es (.pubE t size delay env taken)).1.dropped = es.dropped) ∨
       (tp'.queue = tp.queue ∧
          (stepE es (.pubE t size delay env taken)).1.dropped = (t, es.s.nextId) :: es.dropped)) ∧
      ((∀ i ∈ tp.queue.map (·.id), i < es.s.nextId) → (∀ p ∈ es.dropped, p.2 < es.s.nextId) →
        (es.s.nextId ∈ tp'.queue.map (·.id) ↔ (t, es.s.nextId) ∉ (stepE es (.pubE t size delay env taken)).1.dropped)) := by
  obtain ⟨he, tp, hf⟩ := pubE_accepted h
  obtain ⟨ho, _, tp1, hf1, hmc, hmb, _, hack, hq⟩ := pubE_step he hf size delay env taken
  rw [ho] at h
  refine ⟨by injection h with h; exact h.symm, he, tp, tp1, hf, hf1, by simp [hack], hmc, hmb, ?_, ?_⟩
  · rcases hq with ⟨_, h1, h2⟩ | ⟨_, h1, h2⟩
    · exact Or.inl ⟨h1, h2⟩
    · exact Or.inr ⟨h1, h2⟩
  · intro hlt hdl
    rcases hq with ⟨_, h1, h2⟩ | ⟨_, h1, h2⟩
    · rw [h1, h2]
      constructor
      · intro _ hin
        exact absurd (hdl _ hin) (Nat.lt_irrefl _)
      · intro _; simp
    · rw [h1, h2]
      constructor
      · intro hin
        exact absurd (hlt _ hin) (Nat.lt_irrefl _)
      · intro hn; exact absurd List.mem_cons_self hn

/-- kept: mem-queue-size 1, first publish -/
example : (stepE (freshE 1 7) (.pubE 7 10 0 {} false)).2 = .ids [1] :=
  (pubE_step (freshE_spec 1 7).1 (freshE_spec 1 7).2.1 10 0 {} false).1
example : ∃ tp', findT (stepE (freshE 1 7) (.pubE 7 10 0 {} false)).1.s.topics 7 = some tp' ∧
    tp'.queue.map (·.id) = [1] ∧ (stepE (freshE 1 7) (.pubE 7 10 0 {} false)).1.dropped = [] := ⟨_, rfl, by decide, by decide⟩
/-- dropped: second publish; the hypotheses of the "never both" clause hold -/
example : (∀ i ∈ ([1] : List Nat), i < exFull.s.nextId) ∧ (∀ p ∈ exFull.dropped, p.2 < exFull.s.nextId) := by decide
example : [2] = [exFull.s.nextId] ∧ 7 ∈ exFull.eph :=
  have h := eph_ack_enqueued_or_dropped exFull 7 10 0 {} false [2] (by decide)
  ⟨h.1, h.2.1⟩
example : (7, 2) ∈ (stepE exFull (.pubE 7 10 0 {} false)).1.dropped := by decide
/-- mem-queue-size 0: kept iff the pump is receiving -/
example : (stepE (freshE 0 7) (.pubE 7 10 0 {} true)).1.dropped = [] ∧
    (stepE (freshE 0 7) (.pubE 7 10 0 {} false)).1.dropped = [(7, 1)] := by decide

/-- MPUB to an ephemeral topic: all ids acknowledged and counted; kept + dropped = published; every drop is one of
the ids of this MPUB -/
theorem eph_ack_enqueued_or_dropped_mpub (es : ES) (t : Nat) (sizes : List Nat) (envs : List Env) (tks : List Bool)
    (l : List Nat) (h : (stepE es (.mpubE t sizes envs tks)).2 = .ids l) :
    l = idsFrom es.s.nextId sizes.length ∧ t ∈ es.eph ∧
    ∃ tp tp' dr, findT es.s.topics t = some tp ∧ findT (stepE es (.mpubE t sizes envs tks)).1.s.topics t = some tp' ∧
      (∀ i ∈ l, i ∈ tp'.acked) ∧ tp'.msgCount = tp.msgCount + sizes.length ∧ tp'.msgBytes = tp.msgBytes + sizes.sum ∧
      (stepE es (.mpubE t sizes envs tks)).1.dropped = dr ++ es.dropped ∧
      tp'.queue.length + dr.length = tp.queue.length + sizes.length ∧
      (∀ p ∈ dr, p.1 = t ∧ p.2 ∈ l) := by
  obtain ⟨he, tp, hf⟩ := mpubE_accepted h
  obtain ⟨ho, hd, tp1, hf1, hmc, hmb, hack, hq⟩ := mpubE_step he hf sizes envs tks
  rw [ho] at h
  have hl : l = idsFrom es.s.nextId sizes.length := by injection h with h; exact h.symm
  refine ⟨hl, he, tp, tp1, _, hf, hf1, ?_, hmc, hmb, hd, ?_, ?_⟩
  · intro i hi; rw [hack]; simp [← hl, hi]
  · rw [hq]; exact putManyTE_count tp es.s.nextId sizes envs tks
  · intro p hp
    obtain ⟨j, hj, hpj, _⟩ := putManyTE_dropped tp es.s.nextId sizes envs tks p hp
    rw [hpj, hl]
    exact ⟨findT_tid hf, Nsq.Proofs.ChanNsqd.mem_idsFrom.2 ⟨by simp, by simp; omega⟩⟩

example : (stepE (freshE 2 7) (.mpubE 7 [5, 6, 7] [] [])).2 = .ids [1, 2, 3] ∧
    (stepE (freshE 2 7) (.mpubE 7 [5, 6, 7] [] [])).1.dropped = [(7, 3)] ∧
    (stepE (freshE 2 7) (.mpubE 7 [5, 6, 7] [] [])).1.s.topics.map (fun tp => (tp.queue.map (·.id), tp.msgCount, tp.msgBytes))
      = [([2, 1], 3, 18)] := by decide

/-- "no room", spelled out: a full memory queue, or mem-queue-size 0 and the pump not receiving -/
theorem no_room_iff (t : Topic) (taken : Bool) :
    roomTE t taken = false ↔ (0 < t.memCap ∧ t.memCap ≤ memLenT t) ∨ (t.memCap = 0 ∧ taken = false) := by
  unfold roomTE
  by_cases h : 0 < t.memCap
  · simp [h]; omega
  · have h0 : t.memCap = 0 := by omega
    simp [h0]

example : roomTE { tid := 7, memCap := 1, queue := [⟨1, 10, 0, .mem, {}⟩] } true = false := by decide

/-- a step of the base model (any op, on any topic) never adds a drop -/
theorem base_never_drops (es : ES) (op : Nsq.Model.ChanNsqd.Op) : (stepE es (.base op)).1.dropped = es.dropped := by
  simp only [stepE]; split <;> rfl

/-- **only deliberate drops** — a step adds an entry to `dropped` only as `pubE` on a topic in `eph` whose memory
queue had no room for it, or as message `j` of an `mpubE` on a topic in `eph` whose memory queue — after messages
`0 … j-1` of that MPUB were put — had no room. -/
theorem only_deliberate_drops_topic (es : ES) (eop : EOp) (p : Nat × Nat)
    (hp : p ∈ (stepE es eop).1.dropped) (hn : p ∉ es.dropped) :
    (∃ t size delay env taken tp, eop = .pubE t size delay env taken ∧ t ∈ es.eph ∧ findT es.s.topics t = some tp ∧
        p = (t, es.s.nextId) ∧ roomTE tp taken = false) ∨
    (∃ t sizes envs tks tp j, eop = .mpubE t sizes envs tks ∧ t ∈ es.eph ∧ findT es.s.topics t = some tp ∧
        j < sizes.length ∧ p = (t, es.s.nextId + j) ∧
        roomTE (putManyTE tp es.s.nextId (sizes.take j) envs tks).1 ((tks.drop j).headD false) = false) := by
  cases eop with
  | base op => rw [base_never_drops] at hp; exact absurd hp hn
  | createEphTopic t => rw [create_dropped] at hp; exact absurd hp hn
  | pubE t size delay env taken =>
    left
    by_cases he : t ∈ es.eph
    · cases hf : findT es.s.topics t with
      | none => simp [stepE, he, hf] at hp; exact absurd hp hn
      | some tp =>
        obtain ⟨_, _, _, _, _, _, _, _, hq⟩ := pubE_step he hf size delay env taken
        rcases hq with ⟨_, _, hd⟩ | ⟨hr, _, hd⟩
        · rw [hd] at hp; exact absurd hp hn
        · rw [hd] at hp
          rcases List.mem_cons.1 hp with hp | hp
          · exact ⟨t, size, delay, env, taken, tp, rfl, he, hf, hp, hr⟩
          · exact absurd hp hn
    · simp [stepE, he] at hp; exact absurd hp hn
  | mpubE t sizes envs tks =>
    right
    by_cases he : t ∈ es.eph
    · cases hf : findT es.s.topics t with
      | none => simp [stepE, he, hf] at hp; exact absurd hp hn
      | some tp =>
        obtain ⟨_, hd, _⟩ := mpubE_step he hf sizes envs tks
        rw [hd] at hp
        rcases List.mem_append.1 hp with hp | hp
        · obtain ⟨j, hj, hpj, hnr⟩ := putManyTE_dropped tp es.s.nextId sizes envs tks p hp
          rw [findT_tid hf] at hpj
          exact ⟨t, sizes, envs, tks, tp, j, rfl, he, hf, hj, hpj, hnr⟩
        · exact absurd hp hn
    · simp [stepE, he] at hp; exact absurd hp hn

example : (7, 2) ∈ (stepE exFull (.pubE 7 10 0 {} false)).1.dropped ∧ (7, 2) ∉ exFull.dropped := by decide
example : (7, 3) ∈ (stepE (freshE 2 7) (.mpubE 7 [5, 6, 7] [] [])).1.dropped ∧ (7, 3) ∉ (freshE 2 7).dropped := by decide

/-- a publish to a DURABLE topic is `ChanNsqd.step`'s: `C01.ack_implies_enqueued` holds for it unchanged -/
theorem durable_ack_implies_enqueued (es : ES) (t sz : Nat) (env : Env) (hd : t ∉ es.eph) :
    (stepE es (.base (.pub t sz env))).2 = .ids [es.s.nextId] ∧
    ∃ tp ∈ (stepE es (.base (.pub t sz env))).1.s.topics, tp.tid = t ∧
      es.s.nextId ∈ tp.queue.map (·.id) ∧ es.s.nextId ∈ tp.acked := by
  have hb : blocked es (.pub t sz env) = false := by simp [blocked, pubTopic, hd]
  have h := Nsq.Props.C01.ack_implies_enqueued es.s t sz 0 env
  simp only [stepE, hb, Bool.false_eq_true, ↓reduceIte]
  exact ⟨h.1, h.2.1⟩

/-- an ephemeral and a durable topic side by side, mem-queue-size 1: the durable one keeps its second message on disk -/
def exBoth : ES := runE (freshE 1 7) [.base (.createTopic 8), .pubE 7 10 0 {} false, .base (.pub 8 10)]
example : (stepE exBoth (.base (.pub 8 10))).2 = .ids [3] ∧ (stepE exBoth (.base (.pub 8 10))).1.dropped = [] ∧
    (stepE exBoth (.base (.pub 8 10))).1.s.topics.map (fun tp => (tp.tid, tp.queue.map (fun m => (m.id, m.place))))
      = [(7, [(1, .mem)]), (8, [(3, .disk), (2, .mem)])] := by decide
example : (8 : Nat) ∉ exBoth.eph := by decide
/-- the base publish ops are refused on the ephemeral topic, `pubE` on the durable one -/
example : (stepE exBoth (.base (.pub 7 10))).2 = .reject "ephemeral-topic" ∧
    (stepE exBoth (.pubE 8 10 0 {} false)).2 = .reject "not-ephemeral" := by decide

/-- **the counters include the drops** — n publishes (PUB / DPUB, any sizes, any runtime choices) to a fresh ephemeral
topic and nothing else: `message_count = n`, `message_bytes` = the sum of the sizes, queue length + drops = n; with
mem-queue-size m > 0 the queue holds min n m of them. -/
theorem eph_counts_include_dropped (memq t : Nat) (ps : List PubArg) :
    ∃ tp', findT (runE (freshE memq t) (pubOps t ps)).s.topics t = some tp' ∧
      tp'.msgCount = ps.length ∧ tp'.msgBytes = (ps.map (·.1)).sum ∧
      tp'.queue.length + nDropped (runE (freshE memq t) (pubOps t ps)) t = ps.length ∧
      (0 < memq → tp'.queue.length = min ps.length memq) := by
  obtain ⟨he, hf, hd⟩ := freshE_spec memq t
  obtain ⟨tp', h1, h2, h3, h4, h5⟩ := run_pubE _ t _ he hf ps
  have h4 : tp'.queue.length + nDropped (runE (freshE memq t) (pubOps t ps)) t = ps.length := by
    simpa [nDropped, hd] using h4
  refine ⟨tp', h1, by simpa using h2, by simpa using h3, h4, fun hm => ?_⟩
  obtain ⟨_, g2, g3⟩ := h5 hm (by simp [memLenT]) (by simp)
  replace g2 : tp'.queue.length ≤ memq := g2
  -- below the capacity nothing was dropped, so all were kept; at the capacity at least that many were offered
  by_cases hlt : tp'.queue.length < memq
  · rw [nDropped, g3 hlt, hd] at h4
    rw [← show tp'.queue.length = ps.length by simpa using h4, Nat.min_eq_left (Nat.le_of_lt hlt)]
  · rw [Nat.min_eq_right (by omega)]; omega

/-- the leg `ephtopic`: mem-queue-size 2, five publishes of 3 bytes -/
def exFive : List PubArg := List.replicate 5 (3, 0, {}, false)
example : (runE (freshE 2 7) (pubOps 7 exFive)).s.topics.map (fun tp => (tp.queue.map (·.id), tp.msgCount, tp.msgBytes))
    = [([2, 1], 5, 15)] ∧ (runE (freshE 2 7) (pubOps 7 exFive)).dropped = [(7, 5), (7, 4), (7, 3)] := by decide
example : ∃ tp', findT (runE (freshE 2 7) (pubOps 7 exFive)).s.topics 7 = some tp' ∧ tp'.msgCount = 5 ∧
    tp'.queue.length + nDropped (runE (freshE 2 7) (pubOps 7 exFive)) 7 = 5 :=
  let ⟨tp', h1, h2, _, h4, _⟩ := eph_counts_include_dropped 2 7 exFive
  ⟨tp', h1, h2, h4⟩

end Nsq.Props.C01Eph
