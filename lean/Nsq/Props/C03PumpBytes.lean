/-
C03 (output-buffer clause) for a BOUNDED `bufio.Writer`.

`Nsq.Model.Pump` keeps the connection's output side at FRAME granularity with an unbounded `buf`: bufio's automatic
flush when a `Write` does not fit, and `output_buffer_size = -1` (`bufio.NewWriterSize(conn, 1)`: every write goes
straight to the socket), are not in it. Here the same output history (`write f | flush`, in the order the frame-level
model produces them) is run through `Nsq.Model.Wire.bufWrite / bufFlush` — C07's byte-level model of `bufio.Writer`,
each frame written as any sequence of chunks (`SendFramedResponse` issues three `Write`s: size, type, data) — for ANY
capacity, and compared with the frame-level run:

* `bytes_are_the_frames` — socket ++ buffer = the encodings of the frames written, in order: nothing dropped, reordered
  or rewritten, whatever the buffer size (byte-level `C03Pump.append_only`);
* `never_later_than_frame_model` — the encoding of what the FRAME-level model has on the socket is a prefix of what the
  byte-level run has on the socket: an automatic flush only ADDS bytes to the socket earlier. The transfer of the
  `C03Pump` statements of the form "… is on the socket after …" (`flushed_by_next_tick`, `not_ready_flushes_and_disarms`,
  `respond_flushes`) to every buffer size is BY INSPECTION, not proved here: `frameRun` over `OAct` is a standalone fold
  with the same `write f | flush` discipline as the output side of `Model.Pump.step`, but no theorem equates the two,
  and no driver op runs `byteRun`;
* `flush_empties` / `buffer_bounded` — after a `Flush` nothing is buffered (`flushed_means_empty`), and the buffer never
  holds more than its capacity (for `output_buffer_size = -1`: at most one byte).
Not claimed: WHICH `Write` boundaries the socket sees with a small buffer (a frame may be split over several `Write`s);
the pump correspondence leg runs with buffers large enough that no automatic flush happens (16 KiB default), the
byte-level `bufio` model is tied by C07's wire leg.
-/
import Nsq.Proofs.PumpBytes
namespace Nsq.Props.C03PumpBytes
open Nsq.Model.Wire Nsq.Proofs.Wire Nsq.Proofs.PumpBytes

/-- **nothing dropped, reordered or rewritten, for any buffer size** -/
theorem bytes_are_the_frames {F : Type} (chunks : F → List Bytes) (cap : Nat) (as : List (OAct F)) :
    (byteRun chunks { cap := cap } as).sink ++ (byteRun chunks { cap := cap } as).buf =
      enc chunks ((frameRun ([], []) as).1 ++ (frameRun ([], []) as).2) :=
  (runs_agree chunks as _ _ (agree_fresh chunks cap)).1.stream

/-- **an automatic flush only puts bytes on the socket EARLIER**: whatever the frame-level model has on the socket
is (encoded) a prefix of the byte-level socket content -/
theorem never_later_than_frame_model {F : Type} (chunks : F → List Bytes) (cap : Nat) (as : List (OAct F)) :
    ∃ r, (byteRun chunks { cap := cap } as).sink = enc chunks (frameRun ([], []) as).1 ++ r :=
  (runs_agree chunks as _ _ (agree_fresh chunks cap)).1.sock

/-- the buffer never exceeds its capacity (`output_buffer_size = -1` ⇒ capacity 1) -/
theorem buffer_bounded {F : Type} (chunks : F → List Bytes) (cap : Nat) (as : List (OAct F)) :
    (byteRun chunks { cap := cap } as).buf.length ≤ cap :=
  let h := runs_agree chunks as _ _ (agree_fresh chunks cap)
  Nat.le_trans h.1.bounded (Nat.le_of_eq h.2)

/-- after a `Flush` nothing is buffered, at either level, and the socket holds exactly the frames written -/
theorem flush_empties {F : Type} (chunks : F → List Bytes) (cap : Nat) (as : List (OAct F)) :
    (byteRun chunks { cap := cap } (as ++ [.flush])).buf = [] ∧
    (frameRun ([], []) (as ++ [.flush])).2 = [] ∧
    (byteRun chunks { cap := cap } (as ++ [.flush])).sink = enc chunks (frameRun ([], []) (as ++ [.flush])).1 := by
  have key : ∀ (w : BufW) (s : List F × List F),
      (byteRun chunks w (as ++ [.flush])).buf = [] ∧ (frameRun s (as ++ [.flush])).2 = [] := by
    induction as with
    | nil => intro w s; obtain ⟨a, b⟩ := s; simp [byteRun, frameRun, bufFlush]
    | cons a as ih =>
      intro w s
      obtain ⟨x, y⟩ := s
      cases a <;> simp only [List.cons_append, byteRun, frameRun] <;> exact ih _ _
  have h := bytes_are_the_frames chunks cap (as ++ [.flush])
  have k := key { cap := cap } ([], [])
  refine ⟨k.1, k.2, ?_⟩
  rw [k.1, k.2] at h
  simpa using h

/-! non-vacuity: three 5-byte frames (chunks of 2 + 3 bytes) through a 4-byte buffer, a 1-byte buffer and a large one -/
def ch3 (n : Nat) : List Bytes := [[n.toUInt8, 0], [1, 2, 3]]
def acts : List (OAct Nat) := [.write 7, .write 8, .flush, .write 9]
example : (byteRun ch3 { cap := 4 } acts).sink = [7, 0, 1, 2, 3, 8, 0, 1, 2, 3, 9, 0, 1, 2] ∧
    (byteRun ch3 { cap := 4 } acts).buf = [3] := by decide +kernel
example : (byteRun ch3 { cap := 1 } acts).buf = [] := by decide +kernel
example : (byteRun ch3 { cap := 100 } acts).sink = [7, 0, 1, 2, 3, 8, 0, 1, 2, 3] ∧
    (frameRun ([], []) acts) = ([7, 8], [9]) := by decide +kernel
example : ∃ r, (byteRun ch3 { cap := 4 } acts).sink = enc ch3 [7, 8] ++ r := never_later_than_frame_model ch3 4 acts

end Nsq.Props.C03PumpBytes
