import Nsq.Proofs.BackedQueueFiles
import Nsq.Props.E9DiskQueue
/-
C08 × E9 — `delete_chan_effects` at FILE level.

`C08.delete_chan_effects` (atomic model `Model/Life.lean`) says `(t, some c) ∉ files` after a channel
deletion, where `files : List BName` lists the backends "that own at least one file under the data
path".  Here the backend is the go-diskqueue model (E9) and a file is a `DFile` (`….NNNNNN.dat`,
`….NNNNNN.dat.bad`, `….meta.dat`): after `Channel.Delete` (`BackedQueue.delete` = `c.Empty()` then
`c.backend.Delete()`) every data file and the metadata file are gone, whatever was queued in memory or
on disk — and the `.bad` files are exactly those that existed before.  So the Life-model statement is
TRUE for data + metadata files and FALSE for `.bad` files (`delete_leaves_no_file_full_false`, the open
C08 finding `diskqueue-bad-file-left-behind`); it holds when no `.bad` file existed
(`delete_leaves_no_file_partial`), and the theorems `bad_files_change_only_*` say exactly which
operations of a healthy queue can create one.
-/
namespace Nsq.Props.C08DQ
open Nsq.Model Nsq.Model.Wire
open Nsq.Model.BackedQueue (BQ Op Run stepRun openBQ)
open Nsq.Model.DiskQueue (St Cfg FS openQ)
open Nsq.Proofs.DiskQueue Nsq.Proofs.BackedQueue
open Nsq.Props.E9DiskQueue (cfgW cfgW_ok ra rb rc sBad)

/-- WHICH data files a live channel backend owns: every number from the read file to the write
file (the write file only once a byte was written to it) and no other; so these are exactly the files
a deletion has to remove -/
theorem data_files_of_backend (q : BQ) (disk : List Bytes) (h : Inv q disk) (i : Nat) :
    onDisk q.dq.fs (.dat i) ↔ (q.dq.rf ≤ i ∧ i < q.dq.wf) ∨ (i = q.dq.wf ∧ 0 < q.dq.wp) :=
  dat_exists_iff h i

/-- `Channel.Delete` at file level: no data file, no metadata file, the memory queue drained, the
backend closed — whatever was queued in memory or on disk; a `.bad` file is there afterwards iff it
was there before -/
theorem delete_chan_effects_files (q : BQ) (disk : List Bytes) (h : Inv q disk) :
    (∀ i, ¬ onDisk (BackedQueue.delete q).dq.fs (.dat i)) ∧
    ¬ onDisk (BackedQueue.delete q).dq.fs .metadata ∧
    (∀ i, onDisk (BackedQueue.delete q).dq.fs (.bad i) ↔ onDisk q.dq.fs (.bad i)) ∧
    (BackedQueue.delete q).mem = [] ∧ (BackedQueue.delete q).dq.exited = true := by
  obtain ⟨a1, a2, a3, a4, a5⟩ := delete_files h
  refine ⟨fun i hh => hh (a1 i), fun hh => hh a2, fun i => ?_, a4, a5⟩
  show (BackedQueue.delete q).dq.fs.bad i ≠ none ↔ q.dq.fs.bad i ≠ none
  rw [a3]

/-- the set of files a channel deletion leaves behind = the set of `.bad` files of that backend -/
theorem delete_leaves_exactly_bad (q : BQ) (disk : List Bytes) (h : Inv q disk) (f : DFile) :
    onDisk (BackedQueue.delete q).dq.fs f ↔ ∃ i, f = .bad i ∧ onDisk q.dq.fs (.bad i) := by
  obtain ⟨a1, a2, a3, _⟩ := delete_chan_effects_files q disk h
  cases f with
  | dat i => exact ⟨fun hh => absurd hh (a1 i), fun ⟨_, e, _⟩ => by cases e⟩
  | metadata => exact ⟨fun hh => absurd hh a2, fun ⟨_, e, _⟩ => by cases e⟩
  | bad i =>
    constructor
    · intro hh; exact ⟨i, rfl, (a3 i).1 hh⟩
    · rintro ⟨j, e, hj⟩
      cases e
      exact (a3 _).2 hj

/-- the file-level reading of `C08.delete_chan_effects` "`(t, some c) ∉ files` after deleteChan":
the deleted channel owns no file any more -/
def delete_leaves_no_file_full : Prop :=
  ∀ (q : BQ) (disk : List Bytes), Inv q disk → ∀ f, ¬ onDisk (BackedQueue.delete q).dq.fs f

/-- the channel of the finding: nothing in memory (`--mem-queue-size 0`), backend = `E9DiskQueue.sBad`
(put a, b; both received; put c — file 0 was renamed to `.bad`) -/
def qBad : BQ := { memCap := 0, dq := sBad }

theorem qBad_inv : Inv qBad [rc] :=
  (put_ok_Q Nsq.Props.E9DiskQueue.sBad_before.1 rc (by rw [Nsq.Props.E9DiskQueue.sBad_before.2]; decide)).2

/-- … is FALSE: a reachable healthy channel whose deletion leaves `….000000.dat.bad` behind
(finding `diskqueue-bad-file-left-behind`, replayed on the real package: corpus/E9) -/
theorem delete_leaves_no_file_full_false : ¬ delete_leaves_no_file_full := by
  intro h
  apply h qBad [rc] qBad_inv (.bad 0)
  show (BackedQueue.delete qBad).dq.fs.bad 0 ≠ none
  have : ((BackedQueue.delete qBad).dq.fs.bad 0).isSome = true := by decide +kernel
  intro e
  rw [e] at this
  exact absurd this (by decide)

/-- … and TRUE when the backend had no `.bad` file: then the deletion leaves no file at all -/
theorem delete_leaves_no_file_partial (q : BQ) (disk : List Bytes) (h : Inv q disk) (hb : NoBad q.dq.fs) (f : DFile) :
    ¬ onDisk (BackedQueue.delete q).dq.fs f := by
  intro hf
  obtain ⟨i, _, hi⟩ := (delete_leaves_exactly_bad q disk h f).1 hf
  exact hi (hb i)

/-- WHEN a healthy channel queue gets a `.bad` file, operation by operation
(`E9DiskQueue.bad_file_only_consumed`: the one loop pass that quarantines a file finds the reader at the
end of a completed file all of whose records are consumed).  (1) a `put`: only if it went to the backend
(memory full), the disk queue was EMPTY and this record rolls the writer to a new file -/
theorem bad_files_change_only_put (q : BQ) (disk : List Bytes) (h : Inv q disk) (b : Bytes)
    (hb : (BackedQueue.put q b).2.dq.fs.bad ≠ q.dq.fs.bad) :
    ¬ q.mem.length < q.memCap ∧ disk = [] ∧ DiskQueue.needRoll q.dq b = true := by
  by_cases hm : q.mem.length < q.memCap
  · rw [put_mem q b hm] at hb
    exact absurd rfl hb
  · rw [put_full q b hm] at hb
    by_cases hd : disk = []
    · cases hr : DiskQueue.needRoll q.dq b with
      | true => exact ⟨hm, hd, rfl⟩
      | false => exact absurd (put_frame h b (Or.inr hr)).1 hb
    · exact absurd (put_frame h b (Or.inl hd)).1 hb

/-- (2) a receive from the backend: only if, the pending record taken, the reader stands at the end of a
completed file (it had read that file to its end while it was still the write file, the writer rolled
afterwards); `takeMem` never touches a file -/
theorem bad_files_change_only_take (q : BQ) (disk : List Bytes) (h : Inv q disk) :
    (BackedQueue.takeMem q).2.dq = q.dq ∧
    ((BackedQueue.takeDisk q).2.dq.fs.bad ≠ q.dq.fs.bad →
      (DiskQueue.moveForward { q.dq with count := q.dq.count + 1 }).rf <
        (DiskQueue.moveForward { q.dq with count := q.dq.count + 1 }).wf ∧
      (DiskQueue.moveForward { q.dq with count := q.dq.count + 1 }).rp =
        ((DiskQueue.moveForward { q.dq with count := q.dq.count + 1 }).fs.content
          (DiskQueue.moveForward { q.dq with count := q.dq.count + 1 }).rf).length) := by
  refine ⟨?_, fun hb => recv_bad_changes h hb⟩
  unfold BackedQueue.takeMem
  split <;> rfl

/-- (3) `Empty` and `Close` + `New` (also with other file / sync parameters) never create or remove one -/
theorem bad_files_unchanged_empty_reopen (q : BQ) (disk : List Bytes) (h : Inv q disk) (cfg' : Cfg) (hok : CfgOk cfg')
    (hmin : cfg'.minMsgSize = q.dq.cfg.minMsgSize) (hmax : cfg'.maxMsgSize = q.dq.cfg.maxMsgSize) :
    (BackedQueue.empty q).2.dq.fs.bad = q.dq.fs.bad ∧
    (openQ cfg' (DiskQueue.close q.dq).fs).fs.bad = q.dq.fs.bad :=
  ⟨(empty_single h).2, (reopen_frame h cfg' hok hmin hmax).1⟩

/-- (4) THE SUFFICIENT CONDITION proved for whole histories: from a fresh data path, as long as no backend
`Put` (of `put` or of the `flush` in `Close`) rolls the writer to a new data file — the records queued on disk
since the creation / the last `Empty` fit into one file of `--max-bytes-per-file` (`NoRoll`) — whatever
the interleaving of puts, receives, restarts and empties, the reader never leaves the write file, NO `.bad`
file exists, and a deletion then leaves no file of that channel at all -/
theorem single_file_history_leaves_no_file (cfg : Cfg) (hok : CfgOk cfg) (memCap : Nat) (ops : List Op)
    (hn : NoRoll cfg (BackedQueue.fresh memCap cfg) ops) :
    NoBad (BackedQueue.run memCap cfg ops).q.dq.fs ∧
    (BackedQueue.run memCap cfg ops).q.dq.rf = (BackedQueue.run memCap cfg ops).q.dq.wf ∧
    ∀ f, ¬ onDisk (BackedQueue.delete (BackedQueue.run memCap cfg ops).q).dq.fs f := by
  have e0 : (BackedQueue.fresh memCap cfg).q.dq = { cfg := cfg, fs := FS.empty } := crash_nomd FS.empty rfl cfg hok
  obtain ⟨d, g, hl, x1, x2⟩ := single_file_foldl cfg memCap ops (BackedQueue.fresh memCap cfg) [] []
    (ledger_fresh cfg hok memCap) (by rw [e0]) hn
  have hb : NoBad (BackedQueue.run memCap cfg ops).q.dq.fs := by
    intro i
    show (ops.foldl (stepRun cfg) (BackedQueue.fresh memCap cfg)).q.dq.fs.bad i = none
    rw [x1, e0]; rfl
  exact ⟨hb, x2, fun f => delete_leaves_no_file_partial _ d hl.inv hb f⟩

/-- both ways are reachable from a fresh data path with a queue that is healthy throughout:
(a) `E9DiskQueue.bad_file_witness` — reader caught up, then the writer rolled (a `put` creates the file);
(b) put a (read ahead at once), put an 8-byte record that rolls the writer, receive a — the receive creates
the `.bad` file although the queue never ran empty; every record is still delivered, in order -/
def r8 : Bytes := [1, 2, 3, 4, 5, 6, 7, 8]
def sBad2 : St := (DiskQueue.put (DiskQueue.put (openQ cfgW FS.empty) ra).2 r8).2

theorem bad_file_two_ways :
    ((DiskQueue.recv (DiskQueue.recv (DiskQueue.put (DiskQueue.put (openQ cfgW FS.empty) ra).2 rb).2).2).2.fs.bad 0).isSome = false ∧
    (sBad.fs.bad 0).isSome = true ∧
    (sBad2.fs.bad 0).isSome = false ∧ sBad2.depth = 2 ∧
    ((DiskQueue.recv sBad2).2.fs.bad 0).isSome = true ∧ (DiskQueue.recv sBad2).1 = some ra ∧
    (DiskQueue.recv (DiskQueue.recv sBad2).2).1 = some r8 := by decide +kernel

/-- re-creating the channel after the deletion (`NewChannel` → `diskqueue.New` on the left-over data
path, which holds `.bad` files only): it starts EMPTY — nothing in memory, disk queue empty, `Depth()` 0,
nothing offered to a pump — at file 0, position 0; its state is that of a fresh data path with the `.bad`
files carried along untouched (no `.bad` file is opened or read) … -/
theorem recreate_after_delete (q : BQ) (disk : List Bytes) (h : Inv q disk) (memCap' : Nat) (cfg' : Cfg) (hok : CfgOk cfg') :
    Inv (openBQ memCap' cfg' (BackedQueue.delete q).dq.fs) [] ∧
    (openBQ memCap' cfg' (BackedQueue.delete q).dq.fs).mem = [] ∧
    BackedQueue.depth (openBQ memCap' cfg' (BackedQueue.delete q).dq.fs) = 0 ∧
    BackedQueue.takeDisk (openBQ memCap' cfg' (BackedQueue.delete q).dq.fs) =
      (none, openBQ memCap' cfg' (BackedQueue.delete q).dq.fs) ∧
    (openBQ memCap' cfg' (BackedQueue.delete q).dq.fs).dq =
      { openQ cfg' FS.empty with fs := { FS.empty with bad := q.dq.fs.bad } } := by
  obtain ⟨a1, a2, a3, _, _⟩ := delete_files h
  have hq := open_leftover cfg' hok (BackedQueue.delete q).dq.fs a1 a2
  have hi : Inv (openBQ memCap' cfg' (BackedQueue.delete q).dq.fs) [] := hq
  refine ⟨hi, rfl, ?_, takeDisk_nil hi, ?_⟩
  · show ((0 : Nat) : Int) + (openQ cfg' (BackedQueue.delete q).dq.fs).depth = 0
    rw [depth_Q hq]; rfl
  · show openQ cfg' (BackedQueue.delete q).dq.fs = _
    rw [crash_nomd _ a2 cfg' hok, crash_nomd FS.empty rfl cfg' hok,
      fs_ext (b := { FS.empty with bad := q.dq.fs.bad }) a1 a3 a2]

/-- … and from there on it is a correct queue again: every history of the re-created channel keeps the
ledger of `C01DQ.overflow_keeps_multiset` (backend = a FIFO, nothing lost, duplicated or invented) —
the left-over `.bad` files have no influence on what is delivered -/
theorem recreate_history (q : BQ) (disk : List Bytes) (h : Inv q disk) (memCap' : Nat) (cfg' : Cfg) (hok : CfgOk cfg')
    (ops : List Op) :
    ∃ disk' gone, Ledger cfg' memCap' (ops.foldl (stepRun cfg') { q := openBQ memCap' cfg' (BackedQueue.delete q).dq.fs }) disk' gone :=
  by
  obtain ⟨hi, _⟩ := recreate_after_delete q disk h memCap' cfg' hok
  obtain ⟨d, g, hl, _⟩ := ledger_foldl cfg' memCap' ops _ [] [] (ledger_open hi)
  exact ⟨d, g, hl⟩

/-! ### non-vacuity -/

/-- a channel with one message in memory and three on disk spread over two files, a read-ahead pending -/
def q2 : BQ := { memCap := 1, mem := [rc],
                 dq := (DiskQueue.put (DiskQueue.put (DiskQueue.put (openQ cfgW FS.empty) ra).2 rb).2 rc).2 }
theorem q2_inv : Inv q2 [ra, rb, rc] :=
  (Nsq.Props.E9DiskQueue.reachable_Q cfgW cfgW_ok [.put ra, .put rb, .put rc]).1

-- `data_files_of_backend`: files 0 and 1 exist, file 2 does not
example : q2.dq.rf = 0 ∧ q2.dq.wf = 1 ∧ q2.dq.wp = 8 := by decide +kernel
example : onDisk q2.dq.fs (.dat 0) ∧ onDisk q2.dq.fs (.dat 1) ∧ ¬ onDisk q2.dq.fs (.dat 2) :=
  ⟨(data_files_of_backend q2 _ q2_inv 0).2 (by decide), (data_files_of_backend q2 _ q2_inv 1).2 (by decide),
   fun h => absurd ((data_files_of_backend q2 _ q2_inv 2).1 h) (by decide)⟩
-- `delete_chan_effects_files` / `delete_leaves_exactly_bad` / `_partial` on a state with files, metadata and memory
example : onDisk q2.dq.fs .metadata := by show q2.dq.fs.md ≠ none; decide
theorem q2_nobad : NoBad q2.dq.fs := by
  have h0 := fresh_Q cfgW cfgW_ok
  have h1 := (put_ok_Q h0 ra (by decide)).2
  have h2 := (put_ok_Q h1 rb (by rw [put_cfg, openQ_cfg]; decide)).2
  have e0 : (openQ cfgW FS.empty).fs.bad = fun _ => none := by
    rw [crash_nomd FS.empty rfl cfgW cfgW_ok]; rfl
  have e1 := (put_frame h0 ra (Or.inr (by decide))).1
  have e2 := (put_frame h1 rb (Or.inl (List.cons_ne_nil _ _))).1
  have e3 := (put_frame h2 rc (Or.inl (List.cons_ne_nil _ _))).1
  intro i
  show (DiskQueue.put (DiskQueue.put (DiskQueue.put (openQ cfgW FS.empty) ra).2 rb).2 rc).2.fs.bad i = none
  rw [e3, e2, e1, e0]
example : ∀ f, ¬ onDisk (BackedQueue.delete q2).dq.fs f := fun f =>
  delete_leaves_no_file_partial q2 _ q2_inv q2_nobad f
-- the finding state: `Inv` holds, a `.bad` file exists before and after the deletion
example : Inv qBad [rc] ∧ onDisk qBad.dq.fs (.bad 0) ∧ onDisk (BackedQueue.delete qBad).dq.fs (.bad 0) :=
  ⟨qBad_inv, (by show sBad.fs.bad 0 ≠ none; decide),
   (delete_leaves_exactly_bad qBad _ qBad_inv (.bad 0)).2 ⟨0, rfl, by show sBad.fs.bad 0 ≠ none; decide⟩⟩
-- `bad_files_change_only_put`: the hypothesis is satisfiable (the last put of the witness)
example : (BackedQueue.put { memCap := 0, dq := (DiskQueue.recv (DiskQueue.recv (DiskQueue.put (DiskQueue.put (openQ cfgW FS.empty) ra).2 rb).2).2).2 } rc).2.dq.fs.bad 0
    ≠ (DiskQueue.recv (DiskQueue.recv (DiskQueue.put (DiskQueue.put (openQ cfgW FS.empty) ra).2 rb).2).2).2.fs.bad 0 := by decide +kernel
-- `bad_files_change_only_take`: hypothesis satisfiable (way (b))
example : (BackedQueue.takeDisk { memCap := 0, dq := sBad2 }).2.dq.fs.bad 0 ≠ sBad2.fs.bad 0 := by decide +kernel
-- `single_file_history_leaves_no_file`: `NoRoll` is satisfiable by a history that overflows to disk (two
-- records fill file 0 exactly), restarts with a record in memory (flushed to disk) and drains — and fails for the finding
example : NoRoll cfgW (BackedQueue.fresh 1 cfgW) [.put ra, .put rb, .takeDisk, .restart, .takeDisk] :=
  ⟨Or.inl (by decide), Or.inr (by decide), ⟨by decide, trivial⟩, trivial⟩
example : (BackedQueue.run 1 cfgW [.put ra, .put rb, .takeDisk, .restart, .takeDisk]).taken = [rb, ra] ∧
    (BackedQueue.run 1 cfgW [.put ra, .put rb, .takeDisk, .restart, .takeDisk]).q.dq.wp = 16 := by decide +kernel
example : ¬ NoRoll cfgW (BackedQueue.fresh 0 cfgW) [.put ra, .put rb, .takeDisk, .takeDisk, .put rc] :=
  fun h => absurd h.2.2.1 (by decide)
-- `recreate_after_delete` on the finding state: the re-created channel is empty and still has the `.bad` file
example : (openBQ 1 cfgW (BackedQueue.delete qBad).dq.fs).dq.depth = 0 ∧
    ((openBQ 1 cfgW (BackedQueue.delete qBad).dq.fs).dq.fs.bad 0).isSome = true ∧
    (BackedQueue.takeDisk (BackedQueue.put (BackedQueue.put (openBQ 1 cfgW (BackedQueue.delete qBad).dq.fs) ra).2 rb).2).1 = some rb := by decide +kernel

end Nsq.Props.C08DQ
