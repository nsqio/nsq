/-
C13 — the property's formula AS WRITTEN, its exact domain, and the three ways it fails.

The property says `message_count = depth + in flight + deferred + finished + emptied` for every channel. What is
proved for EVERY reachable channel state (`C13.channel_conservation`) has two more terms: `+ sampled out + dropped by a
full #ephemeral queue`. This module states the formula as written (`C13Formula`) and decides it:

* `C13_full_partial` — it HOLDS along every op list (micro-steps included) on a DURABLE channel in which no consumer's
  `sample_rate` dropped a message (hypothesis: no `sampleDrop` step; by `C01.only_deliberate_drops` such a step needs a
  connected consumer with `sample_rate ≠ 0`) — under the model's named assumption that channel backend writes succeed;
* `C13_full_false_sampling` — FALSE with a sampling consumer (the dropped message is in no term);
* `C13_full_false_ephemeral` — FALSE on an `#ephemeral` channel whose memory queue is full;
* `C13_full_false_put_fault` — FALSE on a durable channel, no sampling, when the channel's backend write fails in
  REQ 0 / the timeout scan / the deferred scan (`Nsq.Model.ChanFault`; open finding `chan-backend-write-fails`, replayed
  on the real code by `TestVerifE2PutFail`), and on the REQ path the consumer's counters are skewed for ever
  (`put_fault_skews_client`): `in_flight_count` one too high, channel `requeue_count` 1 vs client 0;
* `C13_full_false` — so the unrestricted statement `C13Full` is false (by the sampling witness; the ephemeral one refutes it as
  well, the fault witness refutes `C13FullWithFaults`).
-/
import Nsq.Props.C13
import Nsq.Model.ChanFault
namespace Nsq.Props.C13Full
open Nsq.Model.Chan Nsq.Model.ChanInv Nsq.Model.ChanFault Nsq.Proofs.Chan Nsq.Props.C13

/-- the property's formula as written -/
def C13Formula (c : Chan) : Prop :=
  c.messageCount = (c.memLen + c.dqLen) + nInflight c + nDeferred c + nEv isFin c.hist + nEmptied c.hist

instance (c : Chan) : Decidable (C13Formula c) := by unfold C13Formula; infer_instance

def NoSampleDrop (ops : List Op) : Prop := ∀ op ∈ ops, ∀ k id, op ≠ .sampleDrop k id

theorem no_sampled_events (conf : Conf) (ops : List Op) (h : NoSampleDrop ops) (c0 : Chan) :
    nEv isSampled (run conf c0 ops).hist = nEv isSampled c0.hist :=
  run_keeps (P := fun c => nEv isSampled c.hist = nEv isSampled c0.hist) conf ops (fun c op ho hc => by
    rw [← hc]
    apply Classical.byContradiction
    intro hne
    obtain ⟨k, id, _, rfl, _⟩ := sampled_only conf c op hne
    exact h _ ho k id rfl) rfl

/-- **the formula as written holds** on a durable channel without sampling drops (backend writes succeeding) -/
theorem C13_full_partial (conf : Conf) (cap : Nat) (ops : List Op) (h : NoSampleDrop ops) :
    C13Formula (run conf { ephemeral := false, memCap := cap } ops) := by
  have h1 := conservation_durable (conf := conf) (cap := cap) (ops := ops)
  have h2 := no_sampled_events conf ops h { ephemeral := false, memCap := cap }
  simp only [nEv, List.countP_nil] at h2
  unfold C13Formula
  have := h1.2
  simp only [nEv] at this ⊢
  omega

/-- the full statement: the formula as written in every reachable channel state -/
def C13Full : Prop :=
  ∀ (conf : Conf) (eph : Bool) (cap : Nat) (ops : List Op), C13Formula (run conf { ephemeral := eph, memCap := cap } ops)

/-- a consumer with `sample_rate 50` whose draw drops message 7 -/
def sampOps : List Op := [.put 7 {}, .addClient 1 60 50, .rdy 1 1, .sampleDrop 1 7]
theorem C13_full_false_sampling : ¬ C13Formula (run {} { ephemeral := false, memCap := 10 } sampOps) := by decide

/-- an `#ephemeral` channel with `mem-queue-size 1`: the second message is dropped by `Channel.put` -/
def ephOps : List Op := [.put 7 {}, .put 8 {}]
theorem C13_full_false_ephemeral : ¬ C13Formula (run {} { ephemeral := true, memCap := 1 } ephOps) := by decide

theorem C13_full_false : ¬ C13Full := fun h => C13_full_false_sampling (h {} false 10 sampOps)

def C13FullWithFaults : Prop :=
  ∀ (conf : Conf) (cap : Nat) (ops : List FOp), C13Formula (runF conf { ephemeral := false, memCap := cap } ops)

/-- `mem-queue-size 0`, message 7 delivered to consumer 1, `REQ 7 0`, the backend write fails -/
def faultOps : List FOp :=
  [.ok (.put 7 {}), .ok (.addClient 1 60 0), .ok (.rdy 1 1), .ok (.deliver 1 7 100), .putFailReq 1 7]
theorem C13_full_false_put_fault : ¬ C13FullWithFaults := by
  intro h
  exact absurd (h {} 0 faultOps) (by decide)

/-- … message_count 1, nothing queued / in flight / deferred / finished; the consumer still counts it in flight, and
the channel counted a requeue the consumer did not -/
theorem put_fault_skews_client :
    let c := runF {} { ephemeral := false, memCap := 0 } faultOps
    c.messageCount = 1 ∧ c.msgs = [] ∧ c.requeueCount = 1 ∧
    c.clients.map (fun cl => (cl.inFlight, cl.reqCount)) = [(1, 0)] ∧ heldBy c.msgs 1 = 0 := by decide

/-- the timeout-scan and deferred-scan paths lose the message too (counters stay consistent there) -/
theorem put_fault_scan_paths :
    ¬ C13Formula (runF {} { ephemeral := false, memCap := 0 }
        [.ok (.put 7 {}), .ok (.addClient 1 60 0), .ok (.rdy 1 1), .ok (.deliver 1 7 100), .putFailTimeout 7]) ∧
    ¬ C13Formula (runF {} { ephemeral := false, memCap := 0 } [.ok (.putDeferred 7 500 {}), .putFailDefer 7]) := by decide

/-- without fault steps `runF` is `run`: every theorem of C13 / C01 is about exactly these runs (the assumption
"channel backend writes succeed", named in the evidence) -/
theorem runF_ok (conf : Conf) (c : Chan) (ops : List Op) : runF conf c (ops.map .ok) = run conf c ops := by
  induction ops generalizing c with
  | nil => rfl
  | cons op ops ih => simp only [List.map_cons, runF, stepF, run, ih]

/-- a fault step is enabled only where the real `put` reaches the backend: durable channel, memory queue full -/
theorem put_fault_needs_backend (conf : Conf) (c : Chan) (op : FOp) (hop : ∀ o, op ≠ .ok o)
    (h : ∀ w, (stepF conf c op).2 ≠ .reject w) : c.ephemeral = false ∧ c.memCap ≤ c.memLen := by
  -- each of the three fault steps tests `putHitsBackend` first
  by_cases hb : putHitsBackend c = true
  · simpa [putHitsBackend] using hb
  · cases op with
    | ok o => exact absurd rfl (hop o)
    | _ => simp [stepF, hb] at h

/-! non-vacuity of `C13_full_partial`: a durable run with every kind of op but sampling -/
def okOps : List Op :=
  [.put 7 {}, .put 8 {}, .putDeferred 9 500 {}, .addClient 1 60 0, .rdy 1 2, .deliver 1 7 100, .deliver 1 8 101,
   .fin 1 7, .req 1 8 0 200, .scanDeferred 600, .pause, .unpause, .empty]
example : NoSampleDrop okOps := by
  intro op hop k id; simp [okOps] at hop
  rcases hop with h | h | h | h | h | h | h | h | h | h | h | h | h <;> subst h <;> simp
example : (run {} { ephemeral := false, memCap := 1 } okOps).messageCount = 3 := by decide
example : C13Formula (run {} { ephemeral := false, memCap := 1 } okOps) := by decide
example : (stepF {} (run {} { ephemeral := false, memCap := 0 } [.put 7 {}, .addClient 1 60 0, .rdy 1 1, .deliver 1 7 100])
    (.putFailReq 1 7)).2 = .err "E_REQ_FAILED" false := by decide
example : (stepF {} (run {} { ephemeral := false, memCap := 5 } [.put 7 {}, .addClient 1 60 0, .rdy 1 1, .deliver 1 7 100])
    (.putFailReq 1 7)).2 = .reject "not-enabled" := by decide

end Nsq.Props.C13Full
