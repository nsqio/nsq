import Nsq.Proofs.RelayN2NTool
import Nsq.Props.C20GiveUp
/-!
# C20 — nsq_to_nsq over whole histories, and as shipped

`Nsq.Props.C20.n2n_fin_only_after_accept` is a one-step statement: from an *arbitrary* state the model finishes
whatever id sits in `outstanding` (see the `example` at the end). Here the statements are about every history from
the tool's initial state `N2N.init = ⟨0, []⟩` and about **every occurrence** of `fin id` in the trace:
The `fin id` is immediately preceded by `accepted a id`, whose `publish a id b` was emitted by an earlier `HandleMessage`
delivery of that id — or a configured filter dropped such a delivery, or (the tool as shipped) go-nsq gave up on one;
without that third way the statement is false for `max_attempts = 5` and holds exactly for `max_attempts = 0`.
-/
namespace Nsq.Props.C20N2NTool
open Nsq.Model.Relay Nsq.Model.Relay.N2N Nsq.Proofs.RelayN2NTool

/-- the `fin id` at this position has an accepted transaction of a message of this history behind it:
`accepted a id` immediately before, `publish a id b` earlier, the publish caused by a `HandleMessage` event
with that id whose body is `b` (no filter) / whose filter result is `pass b` (filter configured) -/
def AcceptedBefore (c : Cfg) (evs : List Ev) (pre : List Out) (id : Nat) : Prop :=
  ∃ pre' a b, pre = pre' ++ [Out.accepted a id] ∧ Out.publish a id b ∈ pre' ∧
    ∃ m f p ae, Ev.msg m f p ae ∈ evs ∧ m.id = id ∧ (c.filterOn = false → b = m.body) ∧ (c.filterOn = true → f = .pass b)

/-- a configured filter dropped a message event with that id -/
def FilterDropped (c : Cfg) (evs : List Ev) (id : Nat) : Prop :=
  c.filterOn = true ∧ ∃ m pick ae, Ev.msg m .drop pick ae ∈ evs ∧ m.id = id

/-- the same for the tool as shipped; a third origin of `fin`: go-nsq gave up on a delivery of that id -/
def TAcceptedBefore (c : Cfg) (tevs : List TEv) (pre : List Out) (id : Nat) : Prop :=
  ∃ pre' a b, pre = pre' ++ [Out.accepted a id] ∧ Out.publish a id b ∈ pre' ∧
    ∃ t ∈ tevs, ∃ m f p ae, t.ev = .msg m f p ae ∧ m.id = id ∧ (c.filterOn = false → b = m.body) ∧ (c.filterOn = true → f = .pass b)

/-! ### "earlier in the history"

`AcceptedBefore` / `TAcceptedBefore` only assert that some `HandleMessage` event with that id occurs *somewhere* in the
history. The strengthened forms pin the position: the history splits as `es1 ++ e :: es2` with `e` the `HandleMessage`
event of that id; `outT` is the output of `e`'s own step (the trace of `es1 ++ [e]` is the trace of `es1` followed by
`outT`), the `publish a id b` sits in `outT`, and `trace es1 ++ outT` is a prefix of what precedes the `accepted a id` —
so the delivery and the publish it caused come BEFORE the acknowledgement, in this order. -/

def AcceptedEarlier (c : Cfg) (evs : List Ev) (pre : List Out) (id : Nat) : Prop :=
  ∃ pre' a b, pre = pre' ++ [Out.accepted a id] ∧
    ∃ es1 e es2 outT rest, evs = es1 ++ e :: es2 ∧
      run c init (es1 ++ [e]) = run c init es1 ++ outT ∧ Out.publish a id b ∈ outT ∧
      pre' = run c init es1 ++ outT ++ rest ∧
      ∃ m f p ae, e = Ev.msg m f p ae ∧ m.id = id ∧ (c.filterOn = false → b = m.body) ∧ (c.filterOn = true → f = .pass b)

def TAcceptedEarlier (c : Cfg) (k : Nat) (tevs : List TEv) (pre : List Out) (id : Nat) : Prop :=
  ∃ pre' a b, pre = pre' ++ [Out.accepted a id] ∧
    ∃ ts1 t ts2 outT rest, tevs = ts1 ++ t :: ts2 ∧
      consumeRun c k init (ts1 ++ [t]) = consumeRun c k init ts1 ++ outT ∧ Out.publish a id b ∈ outT ∧
      pre' = consumeRun c k init ts1 ++ outT ++ rest ∧
      ∃ m f p ae, t.ev = .msg m f p ae ∧ m.id = id ∧ (c.filterOn = false → b = m.body) ∧ (c.filterOn = true → f = .pass b)

theorem AcceptedEarlier.before {c : Cfg} {evs : List Ev} {pre : List Out} {id : Nat}
    (h : AcceptedEarlier c evs pre id) : AcceptedBefore c evs pre id := by
  obtain ⟨pre', a, b, hp, es1, e, es2, outT, rest, hev, _, hpub, hpre, m, f, p, ae, he, hrest⟩ := h
  refine ⟨pre', a, b, hp, ?_, m, f, p, ae, ?_, hrest⟩
  · rw [hpre]; simp [hpub]
  · rw [hev, ← he]; simp

theorem TAcceptedEarlier.before {c : Cfg} {k : Nat} {tevs : List TEv} {pre : List Out} {id : Nat}
    (h : TAcceptedEarlier c k tevs pre id) : TAcceptedBefore c tevs pre id := by
  obtain ⟨pre', a, b, hp, ts1, t, ts2, outT, rest, hev, _, hpub, hpre, hrest⟩ := h
  refine ⟨pre', a, b, hp, ?_, t, ?_, hrest⟩
  · rw [hpre]; simp [hpub]
  · rw [hev]; simp

/-- **FIN only after accept, the tool as shipped, with positions**: every `fin id` of every history is immediately
preceded by `accepted a id`, whose `publish a id b` was emitted by the step of an EARLIER `HandleMessage` delivery of
that id — or a filter dropped such a delivery, or go-nsq gave up on one. -/
theorem n2n_tool_fin_history_earlier (c : Cfg) (k : Nat) (tevs : List TEv) (id : Nat) (pre post : List Out)
    (h : consumeRun c k init tevs = pre ++ Out.fin id :: post) :
    TAcceptedEarlier c k tevs pre id ∨ Dropped c tevs id ∨ GaveUp k tevs id := by
  rcases fin_split_pos c k tevs init id pre post h with ⟨pre', a, b, hp, horig⟩ | hd | hg
  · left
    rcases horig with hin | hpos
    · simp [init] at hin
    · exact ⟨pre', a, b, hp, hpos⟩
  · exact Or.inr (Or.inl hd)
  · exact Or.inr (Or.inr hg)

/-- … and for the handler + responder alone (`n2n_fin_history` with the position). -/
theorem n2n_fin_history_earlier (c : Cfg) (evs : List Ev) (id : Nat) (pre post : List Out)
    (h : run c init evs = pre ++ Out.fin id :: post) :
    AcceptedEarlier c evs pre id ∨ FilterDropped c evs id := by
  have h' := h
  rw [run_eq_consumeRun] at h'
  rcases n2n_tool_fin_history_earlier c 0 _ id pre post h' with
    ⟨pre', a, b, hp, ts1, t, ts2, outT, rest, hev, hrun, hpub, hpre, m, f, p, ae, he, hrest⟩ |
    ⟨hf, t, ht, m, pick, ae, hev, hid⟩ | ⟨t, _, _, _, _, _, _, _, hs⟩
  · left
    obtain ⟨es1, es2', h1, h2, h3⟩ := List.map_eq_append_iff.mp hev
    obtain ⟨e, es2, rfl, h4, h5⟩ := List.map_eq_cons_iff.mp h3
    subst h2 h4
    refine ⟨pre', a, b, hp, es1, e, es2, outT, rest, h1, ?_, hpub, ?_, m, f, p, ae, by simpa using he, hrest⟩
    · have : (es1 ++ [e]).map (fun e => (⟨0, e⟩ : TEv)) = es1.map (fun e => ⟨0, e⟩) ++ [⟨0, e⟩] := by simp
      rw [run_eq_consumeRun, run_eq_consumeRun, this]
      exact hrun
    · rw [run_eq_consumeRun]; exact hpre
  · right
    obtain ⟨e, he, rfl⟩ := List.mem_map.mp ht
    exact ⟨hf, m, pick, ae, by simpa using hev ▸ he, hid⟩
  · simp [Http.shouldFail] at hs

/-- **FIN only after accept, over whole histories (nsq_to_nsq handler + responder).** For every configuration,
every event history from the initial state and *every occurrence* of `fin id` in the trace. -/
theorem n2n_fin_history (c : Cfg) (evs : List Ev) (id : Nat) (pre post : List Out)
    (h : run c init evs = pre ++ Out.fin id :: post) :
    AcceptedBefore c evs pre id ∨ FilterDropped c evs id := by
  rcases n2n_fin_history_earlier c evs id pre post h with h | h
  · exact Or.inl h.before
  · exact Or.inr h

/-- **… and for the tool as shipped** (`handlerLoop` in front of the handler): a third origin of a `fin id`, go-nsq gave
up on a delivery of that id. -/
theorem n2n_tool_fin_history (c : Cfg) (k : Nat) (tevs : List TEv) (id : Nat) (pre post : List Out)
    (h : consumeRun c k init tevs = pre ++ Out.fin id :: post) :
    TAcceptedBefore c tevs pre id ∨ Dropped c tevs id ∨ GaveUp k tevs id := by
  rcases n2n_tool_fin_history_earlier c k tevs id pre post h with h | h
  · exact Or.inl h.before
  · exact Or.inr h

/-- non-vacuity: deliver message 7 (published to destination 0), then the transaction result: the `fin 7` has the
delivery at position 0 of the history behind it. -/
example : AcceptedEarlier ⟨false, 1, false⟩ [.msg ⟨7, [1]⟩ .drop 0 false, .result 0 true]
    [Out.publish 0 7 [1], Out.accepted 0 7] 7 :=
  ⟨[Out.publish 0 7 [1]], 0, [1], rfl, [], .msg ⟨7, [1]⟩ .drop 0 false, [.result 0 true], [Out.publish 0 7 [1]], [],
    rfl, by decide, by decide, by decide, ⟨7, [1]⟩, .drop, 0, false, rfl, rfl, fun _ => rfl, fun h => by cases h⟩
example : run ⟨false, 1, false⟩ init [.msg ⟨7, [1]⟩ .drop 0 false, .result 0 true] =
    [Out.publish 0 7 [1], Out.accepted 0 7] ++ Out.fin 7 :: [] := by decide +kernel

/-- full tool-level statement: every `fin` has an accepted transaction or a filter drop behind it -/
def n2n_tool_fin_only_after_accept (k : Nat) : Prop :=
  ∀ (c : Cfg) (tevs : List TEv) (id : Nat) (pre post : List Out),
    consumeRun c k init tevs = pre ++ Out.fin id :: post → TAcceptedBefore c tevs pre id ∨ Dropped c tevs id

/-- with any positive `max_attempts = k` the delivery with `attempts = k + 1` is finished and nothing was published -/
theorem n2n_unsafe_with_giveup (k : Nat) (hk : 0 < k) : ¬ n2n_tool_fin_only_after_accept k := by
  intro h
  have hs : Http.shouldFail k (k + 1) = true := by simp [Http.shouldFail, hk]
  have hw : consumeRun ⟨true, 1, false⟩ k init [⟨k + 1, .msg ⟨7, [1]⟩ .drop 0 false⟩] = [] ++ Out.fin 7 :: [] := by
    simp [consumeRun, consume, hs]
  rcases h _ _ 7 [] [] hw with ⟨pre', a, b, hp, _⟩ | ⟨hf, _⟩
  · simp at hp
  · cases hf

/-- … is **false with the shipped `max_attempts = 5`** (open finding `gives-up-after-max-attempts`): the sixth
delivery of a message is finished although nothing was published and no filter is configured. -/
theorem n2n_tool_fin_only_after_accept_false : ¬ n2n_tool_fin_only_after_accept 5 :=
  n2n_unsafe_with_giveup 5 (by decide)

/-- … and holds when the library never gave up on a delivery of this history (`max_attempts = 0`, or every
delivered `attempts ≤ max_attempts`). -/
theorem n2n_tool_fin_only_after_accept_partial (c : Cfg) (k : Nat) (tevs : List TEv) (id : Nat) (pre post : List Out)
    (hno : ∀ t ∈ tevs, Http.shouldFail k t.attempts = false)
    (h : consumeRun c k init tevs = pre ++ Out.fin id :: post) :
    TAcceptedBefore c tevs pre id ∨ Dropped c tevs id := by
  rcases n2n_tool_fin_history c k tevs id pre post h with ha | hd | ⟨t, ht, _, _, _, _, _, _, hs⟩
  · exact Or.inl ha
  · exact Or.inr hd
  · rw [hno t ht] at hs; cases hs

/-- no `fin` for an id that was never delivered: every finished id is the id of a message event of this history
(the responder cannot finish a message the handler never saw) -/
theorem n2n_tool_response_has_delivery (c : Cfg) (k : Nat) (tevs : List TEv) (id : Nat)
    (h : Out.fin id ∈ consumeRun c k init tevs) :
    ∃ t ∈ tevs, ∃ m f p ae, t.ev = .msg m f p ae ∧ m.id = id := by
  obtain ⟨pre, post, hsplit⟩ := List.append_of_mem h
  rcases n2n_tool_fin_history c k tevs id pre post hsplit with ⟨_, _, _, _, _, t, ht, m, f, p, ae, hev, hid, _⟩ |
      ⟨_, t, ht, m, p, ae, hev, hid⟩ | ⟨t, ht, m, f, p, ae, hev, hid, _⟩
  · exact ⟨t, ht, m, f, p, ae, hev, hid⟩
  · exact ⟨t, ht, m, .drop, p, ae, hev, hid⟩
  · exact ⟨t, ht, m, f, p, ae, hev, hid⟩

/-! ### the decision of finding `gives-up-after-max-attempts`, nsq_to_nsq half -/

/-- nsq_to_nsq run with `max_attempts = k` acknowledges only after acceptance (or a filter drop) -/
def n2nSafeAt (k : Nat) : Prop := n2n_tool_fin_only_after_accept k

theorem n2n_safe_without_giveup : n2nSafeAt 0 := by
  intro c tevs id pre post h
  exact n2n_tool_fin_only_after_accept_partial c 0 tevs id pre post (fun _ _ => by simp [Http.shouldFail]) h

theorem n2n_safe_iff (k : Nat) : n2nSafeAt k ↔ k = 0 :=
  Nsq.Proofs.iff_zero_of n2n_safe_without_giveup n2n_unsafe_with_giveup k

/-- **both relays**: `Nsq.Props.C20GiveUp.relaySafeAt` is nsq_to_http's statement (`Http.consume`), `n2nSafeAt`
is nsq_to_nsq's; each holds iff the consumer never gives up, instantiated with the values regenerated from the two
`main()`s (tie `Nsq.Tie.ToolsRelay.relays_run_with_library_default`: both are 5). -/
theorem both_relays_safe_iff :
    (Nsq.Props.C20GiveUp.relaySafeAt Nsq.Gen.ToolsRelay.n2hMaxAttempts ↔ Nsq.Gen.ToolsRelay.n2hMaxAttempts = 0) ∧
    (n2nSafeAt Nsq.Gen.ToolsRelay.n2nMaxAttempts ↔ Nsq.Gen.ToolsRelay.n2nMaxAttempts = 0) :=
  ⟨Nsq.Props.C20GiveUp.relay_safe_iff _, n2n_safe_iff _⟩

/-! ### non-vacuity -/

/-- two transactions outstanding, completing out of order (the second first): round-robin over two destinations -/
example : run ⟨true, 2, false⟩ init
      [.msg ⟨5, [9]⟩ .drop 0 false, .msg ⟨6, [8]⟩ .drop 0 false, .result 1 true, .result 0 false] =
    [Out.publish 1 5 [9], Out.publish 0 6 [8], Out.accepted 0 6, Out.fin 6, Out.rejected 1 5, Out.req 5] := by decide +kernel

/-- `n2n_fin_history` applied to that trace: the occurrence of `fin 6` -/
example : AcceptedBefore ⟨true, 2, false⟩
    [.msg ⟨5, [9]⟩ .drop 0 false, .msg ⟨6, [8]⟩ .drop 0 false, .result 1 true, .result 0 false]
    [Out.publish 1 5 [9], Out.publish 0 6 [8], Out.accepted 0 6] 6 ∨ FilterDropped ⟨true, 2, false⟩
    [.msg ⟨5, [9]⟩ .drop 0 false, .msg ⟨6, [8]⟩ .drop 0 false, .result 1 true, .result 0 false] 6 :=
  n2n_fin_history _ _ 6 _ [Out.rejected 1 5, Out.req 5] (by decide +kernel)

/-- the filter-drop branch is reachable -/
example : run ⟨false, 2, true⟩ init [.msg ⟨5, [9]⟩ .drop 0 false] = [Out.fin 5] := by decide +kernel

/-- why the initial state matters: from an arbitrary state the one-step model finishes an id no event delivered -/
example : (step ⟨true, 2, false⟩ ⟨0, [⟨9, 42, [1]⟩]⟩ (.result 0 true)).2 = [Out.accepted 9 42, Out.fin 42] := by decide +kernel

/-- the give-up rule in front of the handler: attempts 5 → published, attempts 6 → bare `fin` -/
example : consumeRun ⟨true, 1, false⟩ 5 init [⟨5, .msg ⟨7, [1]⟩ .drop 0 false⟩, ⟨0, .result 0 false⟩] =
    [Out.publish 0 7 [1], Out.rejected 0 7, Out.req 7] := by decide +kernel
example : consumeRun ⟨true, 1, false⟩ 5 init [⟨6, .msg ⟨7, [1]⟩ .drop 0 false⟩] = [Out.fin 7] := by decide +kernel
example : consumeRun ⟨true, 1, false⟩ 0 init [⟨6, .msg ⟨7, [1]⟩ .drop 0 false⟩] = [Out.publish 0 7 [1]] := by decide +kernel
example : ¬ n2nSafeAt 5 := n2n_unsafe_with_giveup 5 (by decide +kernel)
example : (∀ t ∈ [(⟨5, .msg ⟨7, [1]⟩ .drop 0 false⟩ : TEv)], Http.shouldFail 5 t.attempts = false) := by decide +kernel

end Nsq.Props.C20N2NTool
