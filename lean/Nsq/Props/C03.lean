/-
C03 — RDY flow control, CLS and pause (channel level; topic pause follows with the nsqd-level
theorems). Most statements are about the atomic model: the delivery pump's guard evaluation and
its send are one step (`Op.deliver`), which is exactly what a serialised observer sees. The
one-message overshoot of the real pump (Go's `select` may pick the queue case although
`ReadyStateChan` is also ready) is stated on the micro-steps `guard | deliverArmed`
(`deliverArmed_needs_armed`, `overshoot_le_one`, `guard_arms_iff_ready`; history level: `Nsq.Props.C03Guard`).
-/
import Nsq.Props.C13
import Nsq.Props.C01
namespace Nsq.Props.C03
open Nsq.Model.Chan Nsq.Proofs.Chan
open Nsq.Props.C13 (ReachableA reachableA_invA)

/-- C03.1 `deliver_needs_guard` — at every delivery to connection `k` in any reachable history,
the guard held with respect to what that consumer itself did before: its last accepted RDY was
positive, its unanswered, unexpired messages numbered fewer than that RDY (`outstanding` is the
client-side bookkeeping sent − finished − requeued − timed out, reset by an Empty), and the
channel was not paused. This is C03's headline statement and also `chan_pause_blocks`. -/
theorem deliver_needs_guard {conf : Conf} (hconf : 0 ≤ conf.maxRdy) {c : Chan} (h : ReachableA conf c)
    {h2 h1 : List Ev} {k id a : Nat} (hs : c.hist = h2 ++ Ev.deliver k id a :: h1) :
    0 < rdyOf h1 k ∧ outstanding h1 k < rdyOf h1 k ∧ pausedOf h1 = false := by
  have := (okHist3_at (hs ▸ (reachableA_invA hconf h).okh3)).1
  simp only [okEv3, Bool.and_eq_true, decide_eq_true_eq, Bool.not_eq_true'] at this
  exact ⟨this.1.1, this.1.2, this.2⟩

/-- the step-level form: a delivery is accepted only when `IsReadyForMessages` holds -/
theorem deliver_only_if_ready (conf : Conf) (c : Chan) (k id : Nat) (now : Int) {a : Nat}
    (h : (step conf c (.deliver k id now)).2 = .msg a) :
    ∃ cl, findC c.clients k = some cl ∧ c.paused = false ∧ 0 < cl.rdy ∧ cl.inFlight < cl.rdy := by
  simp only [step] at h
  split at h
  · cases h
  · rename_i cl hf
    split at h
    · cases h
    · rename_i hr
      simp only [Bool.not_eq_true, Bool.not_eq_false'] at hr
      exact ⟨cl, hf, ready_iff.1 hr⟩

/-- C03.2 `inflight_le_rdy` — in every reachable state of the atomic model a connected consumer's
in-flight count is between 0 and the RDY value at its last delivery (`lgr`), hence at most
`max rdy lgr`; and when RDY has not been lowered since that delivery, at most the current RDY. -/
theorem inflight_le_rdy {conf : Conf} (hconf : 0 ≤ conf.maxRdy) {c : Chan} (h : ReachableA conf c)
    {cl : Client} (hcl : cl ∈ c.clients) :
    0 ≤ cl.inFlight ∧ cl.inFlight ≤ max cl.rdy cl.lgr ∧ (cl.decr = false → cl.inFlight ≤ cl.rdy) := by
  have ha := reachableA_invA hconf h
  have h2 := ha.clA cl hcl
  refine ⟨(ha.nonneg hcl).1, by have := h2.2.2.2.1; omega, ?_⟩
  intro hd
  have := h2.2.2.2.2 hd
  have := h2.2.2.2.1
  omega

/-! ### C03.2, micro-step granularity: the one-message overshoot

The real pump evaluates the guard at the top of its loop (`guard`), then blocks in `select`; a RDY
decrease / CLS / pause that is stored in between is seen only at the next iteration, so ONE more
message can be sent (`deliverArmed`: Go's `select` may pick the queue case although
`ReadyStateChan` is ready too). In the model a successful guard evaluation *arms* the connection
for exactly one delivery. -/

/-- a micro-step delivery needs an earlier successful guard evaluation … -/
theorem deliverArmed_needs_armed (conf : Conf) (c : Chan) (k id : Nat) (now : Int) {a : Nat}
    (h : (step conf c (.deliverArmed k id now)).2 = .msg a) :
    ∃ cl, findC c.clients k = some cl ∧ cl.armed = true := by
  simp only [step] at h
  split at h
  · cases h
  · rename_i cl hf
    split at h
    · cases h
    · rename_i ha
      exact ⟨cl, hf, by simpa using ha⟩

/-- … which it consumes: every delivery disarms the connection (step level only: this theorem says no more
than "`armed = false` after a delivery", its hypothesis is not used). The statement its name promises — at most one
message per guard evaluation, whatever happened to RDY / pause in between, as a property of EVERY history at micro-step
granularity — is `Nsq.Props.C03Guard.every_delivery_has_its_guard` / `deliveries_le_guards`. -/
theorem overshoot_le_one (conf : Conf) (c : Chan) (k id : Nat) (now : Int) {a : Nat}
    (h : (step conf c (.deliverArmed k id now)).2 = .msg a ∨ (step conf c (.deliver k id now)).2 = .msg a) :
    (∀ cl ∈ (step conf c (.deliverArmed k id now)).1.clients, cl.conn = k →
        (step conf c (.deliverArmed k id now)).2 = .msg a → cl.armed = false) ∧
    (∀ cl ∈ (step conf c (.deliver k id now)).1.clients, cl.conn = k →
        (step conf c (.deliver k id now)).2 = .msg a → cl.armed = false) := by
  clear h
  -- both operations end in `delivered`, whose update of connection `k` disarms it
  have key : ∀ op, op = .deliverArmed k id now ∨ op = .deliver k id now →
      ∀ cl ∈ (step conf c op).1.clients, cl.conn = k → (step conf c op).2 = .msg a → cl.armed = false := by
    intro op hop
    refine step_elim (motive := fun c' o => ∀ cl ∈ c'.clients, cl.conn = k → o = .msg a → cl.armed = false)
      (fun o hr _ _ _ ho => by rw [ho] at hr; exact hr.elim) (fun he => ?_)
    rcases hop with rfl | rfl <;> cases he <;>
      exact fun cl hcl hk _ => updC_at (Q := fun cl => cl.armed = false) (fun _ _ _ => rfl) cl hcl hk
  exact ⟨key _ (.inl rfl), key _ (.inr rfl)⟩

/-- the guard evaluation arms the connection iff `IsReadyForMessages` holds at that moment -/
theorem guard_arms_iff_ready (conf : Conf) (c : Chan) (k : Nat) {cl : Client} (hf : findC c.clients k = some cl) :
    ((step conf c (.guard k)).2 = .ok ↔ ready c.paused cl = true) ∧
    ∀ cl' ∈ (step conf c (.guard k)).1.clients, cl'.conn = k → cl'.armed = ready c.paused cl := by
  by_cases hr : ready c.paused cl = true
  · constructor
    · simp [step, hf, hr]
    simp only [step, hf, hr, ↓reduceIte]
    exact updC_at (fun _ _ _ => rfl)
  · have hr' : ready c.paused cl = false := by simpa using hr
    constructor
    · simp [step, hf, hr']
    simp only [step, hf, hr', Bool.false_eq_true, ↓reduceIte]
    exact updC_at (fun _ _ _ => rfl)

/-- the schedule: guard evaluated with RDY 1, then `RDY 0` is processed, then the select picks the
queue: message 7 is delivered although RDY is 0 — and a second one is not -/
def overshootOps : List Op :=
  [.put 7, .put 8, .addClient 1 60 0, .rdy 1 1, .guard 1, .rdy 1 0, .deliverArmed 1 7 100]

theorem overshoot_schedule_example :
    (run {} {} overshootOps).clients.map (fun cl => (cl.rdy, cl.inFlight, cl.armed)) = [(0, 1, false)] ∧
    (step {} (run {} {} overshootOps) (.deliverArmed 1 8 101)).2 = .reject "not-armed" ∧
    (step {} (run {} {} overshootOps) (.guard 1)).2 = .reject "guard" := by decide

/-- C03.3 `no_rdy_no_msg` — before the first RDY, after `RDY 0` and after CLS the history-derived
ready count is 0, so by `deliver_needs_guard` nothing is delivered; and CLS is sticky: a later
RDY is ignored (no `rdySet` event follows a `closed` event of the same connection). -/
theorem no_rdy_no_msg {conf : Conf} (hconf : 0 ≤ conf.maxRdy) {c : Chan} (h : ReachableA conf c)
    {h2 h1 : List Ev} {k id a : Nat} (hs : c.hist = h2 ++ Ev.deliver k id a :: h1) :
    rdyOf h1 k ≠ 0 ∧ closedOf h1 k = false := by
  have hg := deliver_needs_guard hconf h hs
  refine ⟨by omega, ?_⟩
  cases hc : closedOf h1 k
  · rfl
  · have := closed_rdy_zero (okHist3_at (hs ▸ (reachableA_invA hconf h).okh3)).2 hc
    omega

theorem rdyOf_initial (k : Nat) : rdyOf [] k = 0 := rfl
theorem rdyOf_after_zero (k : Nat) (h : List Ev) : rdyOf (.rdySet k 0 :: h) k = 0 := by simp [rdyOf]
theorem rdyOf_after_cls (k : Nat) (h : List Ev) : rdyOf (.closed k :: h) k = 0 := by simp [rdyOf]

/-- C03.4 `rdy_range` (the count as parsed; the parse itself is `countOfValue` below) — for a
subscribed, not closing consumer `RDY n` is accepted (and becomes the ready count) iff
`0 ≤ n ≤ max-rdy-count`, else it is the fatal `E_INVALID` and the connection is dropped. -/
theorem rdy_range (conf : Conf) (c : Chan) (k : Nat) (n : Int) {cl : Client}
    (hc : findC c.clients k = some cl) (hcl : cl.closing = false) :
    (0 ≤ n ∧ n ≤ conf.maxRdy →
      (step conf c (.rdy k n)).2 = .ok ∧
      ∀ cl' ∈ (step conf c (.rdy k n)).1.clients, cl'.conn = k → cl'.rdy = n) ∧
    (¬ (0 ≤ n ∧ n ≤ conf.maxRdy) →
      (step conf c (.rdy k n)).2 = .err "E_INVALID" true ∧ hasC (step conf c (.rdy k n)).1.clients k = false) := by
  constructor
  · intro hr
    have : ¬ (n < 0 ∨ n > conf.maxRdy) := by omega
    simp only [step, hc, hcl, Bool.false_eq_true, ↓reduceIte, Bool.or_eq_true, decide_eq_true_eq, this, true_and]
    exact updC_at (fun _ _ _ => rfl)
  · intro hr
    have : (n < 0 ∨ n > conf.maxRdy) := by omega
    simp only [step, hc, hcl, Bool.false_eq_true, ↓reduceIte, Bool.or_eq_true, decide_eq_true_eq, this, true_and]
    simp [hasC, removeC]

/-- the count on the wire: `protocol.ByteToBase10` (digits only; since fix 43ed751 a value
≥ 2^64 is a parse error instead of wrapping) followed by `int64(b10)` (values ≥ 2^63 wrap
negative). `v` is the mathematical value of the digit string. -/
def countOfValue (v : Nat) : Option Int :=
  if v ≥ 18446744073709551616 then none
  else if v ≥ 9223372036854775808 then some ((v : Int) - 18446744073709551616) else some v

/-- C03.4 full strength — a decimal count with value `v` (ANY number of digits) is accepted iff
`v ≤ max-rdy-count` (for the real option range `max-rdy-count < 2^63`). In particular
"18446744073709551621" (= 2^64 + 5) is refused. -/
theorem rdy_range_full (maxRdy : Int) (h0 : 0 ≤ maxRdy) (h1 : maxRdy < 9223372036854775808) (v : Nat) :
    (∃ n, countOfValue v = some n ∧ 0 ≤ n ∧ n ≤ maxRdy) ↔ (v : Int) ≤ maxRdy := by
  unfold countOfValue
  constructor
  · rintro ⟨n, hn, h2, h3⟩
    split at hn
    · cases hn
    · split at hn <;> (injection hn with hn; omega)
  · intro hv
    have hv' : v < 9223372036854775808 := by omega
    exact ⟨v, by simp; omega, by omega, hv⟩

example : countOfValue 18446744073709551621 = none := by decide
example : countOfValue 2500 = some 2500 := by decide

/-- C03.5 `resume` — after an unpause or an RDY raise, a queued message and a consumer whose guard
now holds make the delivery step enabled again (that the real pump re-evaluates the guard then is
the regenerated fact `Tie.Chan.readyStateCallers_eq`: every path that can turn the guard true calls
`tryUpdateReadyState`). -/
theorem resume {conf : Conf} {c : Chan} (h : C02.Reachable conf c) {e : Entry} (he : e ∈ c.msgs)
    (hq : e.loc = .queued) {k : Nat} {cl : Client} (hc : findC c.clients k = some cl)
    (h0 : 0 < cl.rdy) (h1 : cl.inFlight < cl.rdy) (now : Int) :
    (step conf (step conf c .unpause).1 (.deliver k e.id now)).2 = .msg (e.att + 1) := by
  -- `unpause` leaves messages and clients alone and clears the flag the guard reads
  exact (Nsq.Props.C01.deliver_of_nodup (c := (step conf c .unpause).1) (C02.reachable_inv h).core.nodup he hq hc
    (by simp [step, ready, h0, h1]) now).1

/-- C03.6 `counter_moves` — the in-flight counter of a connected consumer moves exactly with the
messages it holds: +1 by a delivery to it, −1 by its accepted FIN / REQ and by a timeout of a
message it holds, to 0 by an Empty (shared with C13.client_counters). -/
theorem counter_moves {conf : Conf} (hconf : 0 ≤ conf.maxRdy) {c : Chan} (h : ReachableA conf c)
    {cl : Client} (hcl : cl ∈ c.clients) :
    cl.inFlight = (heldBy c.msgs cl.conn : Int) ∧ cl.inFlight = outstanding c.hist cl.conn :=
  let r := C13.client_counters hconf h hcl
  ⟨r.2.2.2.2.2.1, r.2.2.2.2.2.2⟩

/-! non-vacuity -/
example : ReachableA {} (run {} {} [.put 7, .put 8, .addClient 1 60 0, .rdy 1 1, .deliver 1 7 100]) :=
  ⟨false, 0, _, by decide, rfl⟩
/-- with RDY 1 and one message outstanding the second delivery is refused by the guard -/
example : (step {} (run {} {} [.put 7, .put 8, .addClient 1 60 0, .rdy 1 1, .deliver 1 7 100]) (.deliver 1 8 101)).2
    = .reject "guard" := by decide
example : (step {} (run {} {} [.put 7, .addClient 1 60 0, .rdy 1 1, .pause]) (.deliver 1 7 100)).2
    = .reject "guard" := by decide

section Nsqd
open Nsq.Model.ChanNsqd Nsq.Proofs.ChanNsqd

/-- C03.5 `topic_pause_handshake` — once `pauseTopic` has returned (flag stored and the pump
hand-shaken: regenerated fact `Tie.Chan.topicDoPause_eq`), the fan-out step is refused and changes
nothing until `unpauseTopic`; meanwhile publishes are still acknowledged and enqueued
(`C01.ack_implies_enqueued` has no pause hypothesis).
In THIS model `pumpTopic` re-reads the flag (`pumpEnabled`), so the statement holds by the definition of
the step. The real pump caches the decision; the statement with the cached bit, the flag store and the hand-shake as
separate steps, over every schedule, is `Nsq.Props.C03Pause.topic_pause_handshake_micro` (+ `handshake_full_false_without_ack`:
false without the hand-shake), and `C03Pause.atomic_model_exact_at_quiescence` shows this model's `pumpEnabled` is the
cached bit whenever no `Pause()`/`UnPause()`/`GetChannel` call is in progress. -/
theorem topic_pause_handshake (s : State) (t id : Nat) (kept : Bool) (pris : List (Nat × Int))
    {tp : Topic} (hf : findT s.topics t = some tp) (hp : tp.paused = true) :
    Nsq.Model.ChanNsqd.step s (.pumpTopic t id kept pris) = (s, .reject "pump-disabled") := by
  simp [Nsq.Model.ChanNsqd.step, hf, pumpEnabled, hp]

/-- pausing really sets the flag the pump looks at, unpausing clears it -/
theorem pause_sets_flag (s : State) (t : Nat) {tp : Topic} (hf : findT s.topics t = some tp) :
    (∀ y ∈ (Nsq.Model.ChanNsqd.step s (.pauseTopic t)).1.topics, y.tid = t → y.paused = true) ∧
    (∀ y ∈ (Nsq.Model.ChanNsqd.step s (.unpauseTopic t)).1.topics, y.tid = t → y.paused = false) := by
  simp only [Nsq.Model.ChanNsqd.step, hf]
  exact ⟨updT_at (fun _ _ _ => rfl), updT_at (fun _ _ _ => rfl)⟩

/-- channel pause at the daemon level: every channel-level statement above holds for every channel
of every reachable daemon state (`C01.every_channel_inv`); in particular a paused channel's
delivery step is refused: -/
theorem chan_pause_blocks (conf : Conf) (c : Chan) (hp : c.paused = true) (k id : Nat) (now : Int) :
    (Nsq.Model.Chan.step conf c (.deliver k id now)).1 = c ∧ ∀ a, (Nsq.Model.Chan.step conf c (.deliver k id now)).2 ≠ .msg a := by
  simp only [Nsq.Model.Chan.step]
  split
  · exact ⟨rfl, fun _ h => by cases h⟩
  · simp [ready, hp]

/-! non-vacuity -/
example : (Nsq.Model.ChanNsqd.step (Nsq.Model.ChanNsqd.run {} [.createChan 1 1 false, .pauseTopic 1, .pub 1 10])
    (.pumpTopic 1 1 false [])).2 = .reject "pump-disabled" := by decide
example : (Nsq.Model.ChanNsqd.step (Nsq.Model.ChanNsqd.run {} [.createChan 1 1 false, .pauseTopic 1, .pub 1 10, .unpauseTopic 1])
    (.pumpTopic 1 1 false [])).2 = .ids [1] := by decide

end Nsqd

end Nsq.Props.C03
