import Nsq.Proofs.AggregateNames
import Nsq.Proofs.AggregateSafe
import Nsq.Proofs.AggregateSums
import Nsq.Proofs.AggregateMerge
import Nsq.Proofs.AggregateFetch
import Nsq.Proofs.AggregateProducers
import Nsq.Proofs.Fetch
import Nsq.Proofs.AggregateWrap
import Nsq.Proofs.Latency
import Nsq.Proofs.ViewOrder
import Nsq.Proofs.AggregateViews
import Nsq.Proofs.AggregateChannels
import Nsq.Proofs.AggregateInactive
import Nsq.Proofs.AggregateTree
/-!
# C18 — nsqadmin's cluster view equals the sum of its parts

Property theorems about the model `Nsq.Model.Aggregate` (tied to the code by the
correspondence harness `harness/e7/view_test.go`: generated clusters, every subset of failing
upstreams, malformed answers, both modes). They hold for every cluster: any number of
nsqlookupd / nsqd, any topics, channels, clients and counter values (counters are unbounded
integers: the sum statements are about the mathematical sums; what Go's int64 makes of them is
`int64_sum_wraps` … `counters_go_sum` below).

The fetch goroutines finish in any order; the model processes upstreams in list order and the
`_order` theorems show that what is claimed does not depend on that order.

Which tree. `Fixes.tree` is /repo as committed: the six guards (F4, null array elements, missing latency member, channel
not found, `nilPct` = F53 / commit 905ac51, `clearNodes` = F54 / commit 786fd8f) and NOT `inactiveErrs` = F58 (without it
`GET /api/topics?inactive=true` throws the errors of its per-topic fetches away: open finding
`view:inactive-drops-errors`, `inactive_drops_errors_this_tree`, replayed on every run). `Fixes.all` = `Fixes.tree` + that
switch: the proposal F58 (committed as 783e91a, reverted by 338c8a6 because it counted nsqlookupd's ordinary
`404 TOPIC_NOT_FOUND` as a failed upstream); `inactive_warning` and `inactive_view_lists` are theorems about the proposal.
The other ∀-theorems are stated for `Fixes.all`, and that suffices: only `topicsInactiveView` reads `inactiveErrs`, so
`tree_view_eq_all` (`view Fixes.tree w q = view Fixes.all w q` for every `q ≠ .topicsInactive`) and the function-level
equations of `Proofs.AggregateTree` carry each of them over to `Fixes.tree`; `view_no_panic_tree` and
`inactive_view_lists_tree` are the statements for the committed tree itself. The
`*_without_*` theorems are the Lean witnesses that the unguarded code misbehaves (each replayed on the real code by the check).
One clause of the property is false of the code *and* of `Fixes.all`: "502 only when none answers" with
zero known producers (`only_502_when_something_failed_false`, open finding, no patch).

What is a statement about the upstreams and what is not: `sum_fields`, `channels_merge` speak about
intermediate values (any list of reports / the reports GetNSQDStats returned); `topic_view_is_sum` and
`channel_view_is_merge` only *unfold the handler* (they hold by the definition of `topicView` / `channelView`).
The statements that tie a view to the `World` are those of the section "The views and what the
upstreams hold": `topic_view_from_upstreams`, `topic_view_channels_from_upstreams`, `channel_view_from_upstreams`, `counter_view_from_upstreams`,
`nodes_view_lookupd` / `_direct`, `node_view_from_upstream`, `topic_producers_direct`, `topic_view_shown_int64`,
`partial_warning_*_nsqd`, and `inactive_warning`, `inactive_view_lists` for `?inactive=true`.
-/
namespace Nsq.Props.C18
open Nsq.Model.Aggregate
open Nsq.Proofs.AggregateNames Nsq.Proofs.AggregateSafe Nsq.Proofs.AggregateSums
open Nsq.Proofs.AggregateMerge Nsq.Proofs.AggregateFetch Nsq.Proofs.AggregateDedup
open Nsq.Proofs.AggregateViews Nsq.Proofs.AggregateChannels Nsq.Proofs.AggregateTree

/-- **topics_union (nsqlookupd mode).** `/api/topics` lists a strictly increasing (sorted,
duplicate-free) list that contains exactly the topics some responding nsqlookupd reports. -/
theorem topics_union (ls : List Lookupd) (ts : List String) (f : Nat)
    (h : lookupdTopics ls = .got ts f) :
    ts.Pairwise (· < ·) ∧
    ∀ t, t ∈ ts ↔ ∃ l ∈ ls, ∃ names, l.topics = some names ∧ t ∈ names := by
  obtain ⟨h1, h2⟩ := unionNames_spec _ ts f (lookupdTopics_eq ls ▸ h)
  exact ⟨h1, fun t => (h2 t).trans exists_mem_map⟩

/-- … whatever the order in which the nsqlookupds answer. -/
theorem topics_union_order (ls ls' : List Lookupd) (h : ls.Perm ls') :
    lookupdTopics ls = lookupdTopics ls' := by
  unfold lookupdTopics
  have hp : (ls.map (·.topics)).Perm (ls'.map (·.topics)) := h.map _
  have hc : countFailed (ls.map (·.topics)) = countFailed (ls'.map (·.topics)) :=
    (hp.filter _).length_eq
  have hn := names_perm _ _ ((hp.filterMap id).flatten)
  simp only [hc, h.length_eq, hn]

/-- **topics_union (direct-nsqd mode).** The same for the topic names in the `/stats` answers
of the configured nsqds. -/
theorem topics_union_nsqd (w : World) (ts : List String) (f : Nat) (h : nsqdTopics w = .got ts f) :
    ts.Pairwise (· < ·) ∧
    ∀ t, t ∈ ts ↔ ∃ a ∈ w.nsqdAddrs, ∃ ans, statsOf w a "" "" true = some ans ∧ t ∈ topicNames ans := by
  obtain ⟨h1, h2⟩ := unionNames_spec _ ts f (nsqdTopics_eq w ▸ h)
  refine ⟨h1, fun t => (h2 t).trans (exists_mem_map.trans (exists_congr fun a => and_congr_right fun _ => ?_))⟩
  cases statsOf w a "" "" true <;> simp

example : (match lookupdTopics [⟨"L0", some ["b", "a", "b"], none, none⟩, ⟨"L1", none, none, none⟩,
      ⟨"L2", some ["c", "a"], none, none⟩] with
    | .got _ f => f
    | .allFailed => 9) = 1 := by decide +kernel

/-- **producers_dedup.** `/api/nodes` in nsqlookupd mode has exactly one entry per TCP address
mentioned by any responding nsqlookupd (null array elements are skipped). -/
theorem producers_dedup (ls : List Lookupd) (ps : List Producer) (f : Nat)
    (h : lookupdProducers Fixes.all ls = .ok (.got ps f)) :
    (ps.map (·.tcp)).Nodup ∧ ∀ k, k ∈ ps.map (·.tcp) ↔ k ∈ mentioned ls :=
  Nsq.Proofs.AggregateProducers.lookupdProducers_dedup rfl rfl ls ps f h

def pj (host addr tcp remote : String) : ProducerJSON :=
  { hostname := host, addr := addr, tcp := tcp, version := "1.3.0", ver := (1, 3, 0), remote := remote,
    topics := ["t"], tombstones := [false] }

/-- Non-vacuity: two nsqlookupds reporting the same node give one entry with both remote
addresses collected. -/
example : (match lookupdProducers Fixes.all
      [⟨"L0", none, some [some (pj "h" "N0" "N0:4150" "10.0.0.1:1")], none⟩,
       ⟨"L1", none, some [some (pj "h" "N0" "N0:4150" "10.0.0.2:2"), none], none⟩] with
    | .ok (.got ps _) => ps.map (fun p => (p.tcp, p.remotes))
    | _ => []) = [("N0:4150", ["L0/10.0.0.1:1", "L1/10.0.0.2:2"])] := by decide +kernel

/-- **sum_fields.** Folding `TopicStats.Add` over any list of node reports gives, for every
counter, the sum of the reports' counters; `paused` is the disjunction; the node list is the list
of reports. -/
theorem sum_fields (fx : Fixes) (name : String) (reports : List TopicNode) (t : TopicAgg)
    (h : TopicAgg.addAll fx reports { name := name } = .ok t) :
    t.nodes = reports ∧ t.paused = reports.any (·.paused) ∧
    t.cnt.depth = isum (reports.map (·.cnt.depth)) ∧
    t.cnt.memDepth = isum (reports.map (·.cnt.memDepth)) ∧
    t.cnt.backendDepth = isum (reports.map (·.cnt.backendDepth)) ∧
    t.cnt.msgCount = isum (reports.map (·.cnt.msgCount)) ∧
    t.cnt.delivery = isum (reports.map (·.cnt.delivery)) ∧
    t.cnt.zoneLocal = isum (reports.map (·.cnt.zoneLocal)) ∧
    t.cnt.regionLocal = isum (reports.map (·.cnt.regionLocal)) ∧
    t.cnt.globalMsg = isum (reports.map (·.cnt.globalMsg)) := by
  obtain ⟨h1, h2, h3⟩ := addAll_val fx reports _ t h
  have key : ∀ (π : Counters → Int), (∀ a b, π (a.add b) = π a + π b) → π ({} : Counters) = 0 →
      π t.cnt = isum (reports.map (fun r => π r.cnt)) := by
    intro π hadd hz
    rw [h1, sumFrom_proj π hadd, hz]
    simp [List.map_map, Function.comp_def]
  refine ⟨by simpa using h2, by simpa using h3, ?_, ?_, ?_, ?_, ?_, ?_, ?_, ?_⟩
  · exact key (·.depth) (fun _ _ => rfl) rfl
  · exact key (·.memDepth) (fun _ _ => rfl) rfl
  · exact key (·.backendDepth) (fun _ _ => rfl) rfl
  · exact key (·.msgCount) (fun _ _ => rfl) rfl
  · exact key (·.delivery) (fun _ _ => rfl) rfl
  · exact key (·.zoneLocal) (fun _ _ => rfl) rfl
  · exact key (·.regionLocal) (fun _ _ => rfl) rfl
  · exact key (·.globalMsg) (fun _ _ => rfl) rfl

/-- … and the sums do not depend on the order in which the node reports arrive. -/
theorem sum_fields_order (fx : Fixes) (name : String) (r₁ r₂ : List TopicNode) (t₁ t₂ : TopicAgg)
    (hp : r₁.Perm r₂) (h₁ : TopicAgg.addAll fx r₁ { name := name } = .ok t₁)
    (h₂ : TopicAgg.addAll fx r₂ { name := name } = .ok t₂) :
    t₁.cnt = t₂.cnt ∧ t₁.paused = t₂.paused := by
  obtain ⟨a1, _, a3⟩ := addAll_val fx r₁ _ t₁ h₁
  obtain ⟨b1, _, b3⟩ := addAll_val fx r₂ _ t₂ h₂
  refine ⟨?_, ?_⟩
  · rw [a1, b1]; exact sumFrom_perm (hp.map _) _
  · rw [a3, b3, hp.any_eq]

/-- The per-node fields nsqadmin recomputes: `memory_depth = depth - backend_depth`,
`delivery_msg_count` = the sum of the three locality counters. -/
theorem derived_fields (c : Counters) :
    c.derive.memDepth = c.depth - c.backendDepth ∧
    c.derive.delivery = c.zoneLocal + c.regionLocal + c.globalMsg := ⟨rfl, rfl⟩

def tn (node : String) (d m : Int) (p : Bool) : TopicNode :=
  { node := node, hostname := node, name := "t", cnt := { depth := d, msgCount := m }, paused := p,
    channels := [], e2e := true }

example : (match TopicAgg.addAll Fixes.all [tn "a" 3 10 false, tn "b" 0 5 true, tn "c" 1000000000000 0 false]
      { name := "t" } with
    | .ok t => (t.cnt.depth, t.cnt.msgCount, t.paused, t.nodes.length)
    | .error _ => (0, 0, false, 0)) = (1000000000003, 15, true, 3) := by decide +kernel

/-- **channels_merge.** The channel map GetNSQDStats builds has exactly one entry per key
(channel name, or "topic:channel" when no topic is selected) among the per-node channel reports it
returns, and that entry is the reports with that key merged: counters summed, clients
concatenated, the reports themselves as its node list, `paused` or-ed. -/
theorem channels_merge (fx : Fixes) (w : World) (ps : List Producer) (sel selc : String) (incl : Bool)
    (ts : List TopicNode) (m : ChanMap) (f : Nat)
    (h : nsqdStats fx w ps sel selc incl = .ok (.got (ts, m) f)) (k : String) :
    let reports := (chansOfTopics ts).filter (fun c => chanKey sel c == k)
    (reports = [] → lookup m k = none) ∧
    (reports ≠ [] → ∃ c, lookup m k = some c ∧
      c.cnt = sumFrom {} (reports.map (·.cnt)) ∧
      c.clients = reports.flatMap (·.clients) ∧
      c.nodes = reports ∧ c.paused = reports.any (·.paused)) := by
  intro reports
  have hg := nsqdStats_lookup h k
  constructor
  · intro he
    simp only [reports] at he
    simpa [he] using hg
  · intro hne
    cases hr : reports with
    | nil => exact absurd hr hne
    | cons a rest =>
      simp only [reports] at hr
      simp only [hr] at hg
      obtain ⟨h1, h2, h3, h4⟩ := fold_addPure_spec (a :: rest) (fresh a)
      refine ⟨_, hg, ?_, ?_, ?_, ?_⟩
      · simpa [fresh] using h1
      · simpa [fresh] using h2
      · simpa [fresh] using h3
      · simpa [fresh] using h4

/-- … and a channel's merged counters do not depend on the order of the node reports. -/
theorem channels_merge_order (c0 : Counters) (r₁ r₂ : List ChanNode) (hp : r₁.Perm r₂) :
    sumFrom c0 (r₁.map (·.cnt)) = sumFrom c0 (r₂.map (·.cnt)) :=
  sumFrom_perm (hp.map _) c0

/-- **partial_warning (`/api/topics`).** 502 iff no upstream answered; otherwise 200, with a
warning iff some upstream failed. -/
theorem partial_warning_topics (w : World) (hl : w.lookupds ≠ []) :
    ((topicsView w).status = 502 ↔ ∀ l ∈ w.lookupds, l.topics = none) ∧
    ((topicsView w).status = 200 ∨ (topicsView w).status = 502) ∧
    ((topicsView w).status = 200 →
      ((topicsView w).warn = true ↔ ∃ l ∈ w.lookupds, l.topics = none)) := by
  obtain ⟨h1, h2, h3, -⟩ := oneStage_rule (v := topicsView w)
    (by rw [topicsView_eq, if_pos (by simpa using hl), lookupdTopics_eq]; rfl)
  refine ⟨by simpa using h1, h2, fun h200 => ?_⟩
  rw [h3 h200, decide_eq_true_eq, gt_iff_lt, countFailed_pos]
  simp

/-- **partial_warning (`/api/topics/:t`, `/api/topics/:t/:c`, `/api/counter`).** Two stages:
the producers, then their `/stats`. 502 iff a stage got no answer at all (in particular when no
producer is known); otherwise the answer is built from what did answer and carries a warning iff
any answer of either stage failed. -/
theorem partial_warning_topic (w : World) (name : String) (v : View)
    (h : topicView Fixes.all w name = .ok v) :
    ∃ s1, getTopicProducers Fixes.all w name = .ok s1 ∧
      match s1 with
      | .allFailed => v.status = 502
      | .got ps f1 =>
        let answers := statsAnswers w ps name "" false
        ((∀ a ∈ answers, a = none) → v.status = 502) ∧
        ((∃ a ∈ answers, a ≠ none) →
          v.status = 200 ∧ v.warn = (decide (f1 > 0) || decide (countFailed answers > 0))) := by
  rw [topicView_eq] at h
  refine twoStage_rule h fun ps f1 ts m hs2 hfin => ?_
  simp only [addAll_eq Guards.all.nilE2e ts name (nsqdStats_clean Guards.all w ps name "" false ts m _ hs2),
    Except.ok.injEq] at hfin
  subst hfin
  exact ⟨rfl, rfl⟩

/-- The same two-stage rule for `/api/topics/:t/:c` (plus 404 when no node reports the channel). -/
theorem partial_warning_channel (w : World) (topic chan : String) (v : View)
    (h : channelView Fixes.all w topic chan = .ok v) :
    ∃ s1, getTopicProducers Fixes.all w topic = .ok s1 ∧
      match s1 with
      | .allFailed => v.status = 502
      | .got ps f1 =>
        let answers := statsAnswers w ps topic chan true
        ((∀ a ∈ answers, a = none) → v.status = 502) ∧
        ((∃ a ∈ answers, a ≠ none) →
          v.status = 404 ∨
          (v.status = 200 ∧ v.warn = (decide (f1 > 0) || decide (countFailed answers > 0)))) := by
  rw [channelView_eq] at h
  refine twoStage_rule h fun ps f1 ts m _ hfin => ?_
  split at hfin <;> cases Except.ok.inj hfin
  · exact Or.inl rfl
  · exact Or.inr ⟨rfl, rfl⟩

/-- … and for `/api/counter` (all producers, then all their `/stats`). -/
theorem partial_warning_counter (w : World) (v : View) (h : counterView Fixes.all w = .ok v) :
    ∃ s1, getProducers Fixes.all w = .ok s1 ∧
      match s1 with
      | .allFailed => v.status = 502
      | .got ps f1 =>
        let answers := statsAnswers w ps "" "" false
        ((∀ a ∈ answers, a = none) → v.status = 502) ∧
        ((∃ a ∈ answers, a ≠ none) →
          v.status = 200 ∧ v.warn = (decide (f1 > 0) || decide (countFailed answers > 0))) := by
  rw [counterView_eq] at h
  refine twoStage_rule h fun ps f1 ts m _ hfin => ?_
  cases Except.ok.inj hfin
  exact ⟨rfl, rfl⟩

/-- Unfolding lemma (holds by the definition of `topicView` / `channelView`; no statement about the upstreams — that
is `topic_view_from_upstreams` / `channel_view_from_upstreams`): what `/api/topics/:t` shows is `sum_fields` applied to
the node reports GetNSQDStats returned, and what `/api/topics/:t/:c` shows is the `channels_merge` entry of the channel. -/
theorem topic_view_is_sum (w : World) (name : String) (v : View)
    (h : topicView Fixes.all w name = .ok v) (h200 : v.status = 200) :
    ∃ ps f1 ts m f2 t, getTopicProducers Fixes.all w name = .ok (.got ps f1) ∧
      nsqdStats Fixes.all w ps name "" false = .ok (.got (ts, m) f2) ∧
      TopicAgg.addAll Fixes.all ts { name := name } = .ok t ∧ v.body = .topic t := by
  rw [topicView_eq] at h
  obtain ⟨ps, f1, ts, m, f2, hs1, hs2, hfin⟩ := twoStage_done h (by rw [h200]; decide)
  have ht := addAll_eq Guards.all.nilE2e ts name (nsqdStats_clean Guards.all w ps name "" false ts m f2 hs2)
  simp only [ht, Except.ok.injEq] at hfin
  subst hfin
  exact ⟨ps, f1, ts, m, f2, _, hs1, hs2, ht, rfl⟩

theorem channel_view_is_merge (w : World) (topic chan : String) (v : View)
    (h : channelView Fixes.all w topic chan = .ok v) (h200 : v.status = 200) :
    ∃ ps f1 ts m f2 c, getTopicProducers Fixes.all w topic = .ok (.got ps f1) ∧
      nsqdStats Fixes.all w ps topic chan true = .ok (.got (ts, m) f2) ∧
      lookup m chan = some c ∧ v.body = .channel c := by
  rw [channelView_eq] at h
  obtain ⟨ps, f1, ts, m, f2, hs1, hs2, hfin⟩ := twoStage_done h (by rw [h200]; decide)
  split at hfin <;> cases Except.ok.inj hfin
  next => cases h200
  next k c hfind => exact ⟨ps, f1, ts, m, f2, c, hs1, hs2, by simp [lookup, hfind], rfl⟩

/-- **partial_warning (`/api/nodes`, nsqlookupd mode).** -/
theorem partial_warning_nodes (w : World) (hl : w.lookupds ≠ []) (v : View)
    (h : nodesView Fixes.all w = .ok v) :
    (v.status = 502 ↔ ∀ l ∈ w.lookupds, l.nodes = none) ∧
    (v.status = 200 ∨ v.status = 502) ∧
    (v.status = 200 → v.warn = decide (countFailed (w.lookupds.map (·.nodes)) > 0)) := by
  obtain ⟨x, hg⟩ : ∃ x, getProducers Fixes.all w = .ok (fetched (w.lookupds.map (·.nodes)) x) :=
    ⟨_, by rw [getProducers, if_pos (by simpa using hl), Nsq.Proofs.AggregateProducers.lookupdProducers_eq rfl rfl]⟩
  obtain ⟨h1, h2, h3, -⟩ := oneStage_rule ((nodesView_eq hg).symm.trans h |> Except.ok.inj)
  exact ⟨by simpa using h1, h2, h3⟩

/-- **view_no_panic.** With every guard in place (`Fixes.all`; the committed tree: `view_no_panic_tree`) every view of every cluster —
including null array elements, short or long tombstone arrays, missing latency members, channels
no node reports — completes: no fetch goroutine panics (the process lives) and no handler goes
through the router's panic handler (no 500). -/
theorem view_no_panic (w : World) (req : Request) :
    ∃ v, view Fixes.all w req = .ok v ∧ v.status ≠ 500 :=
  view_ok Guards.all w req

/-- The statement for an arbitrary tree: false without the guards (the `view_no_panic_false_without_*` theorems). -/
def view_no_panic_for (fx : Fixes) : Prop :=
  ∀ (w : World) (req : Request), ∃ v, view fx w req = .ok v ∧ v.status ≠ 500

def faultOf (r : Except Fault View) : Option Fault :=
  match r with
  | .error f => some f
  | .ok _ => none

def info0 : Info := { hostname := "h", addr := "N0", tcp := "N0:4150", version := "1.3.0", ver := (1, 3, 0) }

/-- DESIGN F4: a `/nodes` reply with two topics and one tombstone. -/
def f4World : World :=
  { lookupds := [⟨"L0", some [], some [some { pj "h" "N0" "N0:4150" "r" with topics := ["t1", "t2"], tombstones := [false] }], none⟩],
    nsqdAddrs := [], nsqds := [] }

theorem view_panics_without_tombstone_bounds :
    faultOf (view { Fixes.all with tombBounds := false } f4World .nodes) =
      some (.indexOutOfRange "Producer.UnmarshalJSON tombstones[i]") := by decide +kernel

theorem view_no_panic_false_without_tombstone_bounds :
    ¬ view_no_panic_for { Fixes.all with tombBounds := false } := by
  intro h
  obtain ⟨v, hv, _⟩ := h f4World .nodes
  have := view_panics_without_tombstone_bounds
  rw [hv] at this
  cases this

def nullProducerWorld : World :=
  { lookupds := [⟨"L0", some [], some [none], none⟩], nsqdAddrs := [], nsqds := [] }

theorem view_panics_without_nil_guards :
    faultOf (view { Fixes.all with nilElems := false } nullProducerWorld .nodes) =
      some (.nilDeref "GetLookupdProducers producer.TCPAddress()") := by decide +kernel

def chan0 (e2e : Bool) : Chan := { name := "c1", cnt := {}, paused := false, clients := [], e2e := e2e }
def topic0 (e2e : Bool) : Topic :=
  { name := "t1", cnt := {}, paused := false, e2e := true, channels := [some (chan0 e2e)] }
def nsqd0 (e2e : Bool) : Nsqd :=
  { addr := "N0", info := some info0, filters := true, stats := some [some (topic0 e2e)] }
def chanWorld (e2e : Bool) : World := { lookupds := [], nsqdAddrs := ["N0"], nsqds := [nsqd0 e2e] }

theorem view_panics_without_e2e_guard :
    faultOf (view { Fixes.all with nilE2e := false } (chanWorld false) (.channel "t1" "c1")) =
      some (.nilDeref "ChannelStats.Add a.E2eProcessingLatency") := by decide +kernel

/-- A channel no node reports: a recovered panic (500) without the 404 guard. -/
theorem channel_500_without_guard :
    (match view { Fixes.all with chanNotFound := false } (chanWorld true) (.channel "t1" "nosuch") with
     | .ok v => v.status
     | .error _ => 0) = 500 := by decide +kernel

example : (match view Fixes.all (chanWorld true) (.channel "t1" "nosuch") with
    | .ok v => v.status | .error _ => 0) = 404 := by decide +kernel
example : (match view Fixes.all f4World .nodes with
    | .ok v => v.status | .error _ => 0) = 200 := by decide +kernel

/-! ## The views and what the upstreams hold

What each view returns, stated in terms of the answers the upstreams give (`statsOf`, `infoOf`, `Lookupd.nodes`).
`reportsOf w sel selc incl p` is producer `p`'s own `/stats` answer read the way nsqadmin reads it
(`Proofs.AggregateViews`: null entries dropped, the selected topic kept, `memory_depth` / `delivery_msg_count`
recomputed, `Node` / `Hostname` filled in from `p`) — empty when the request fails. -/

/-- **topic_view_from_upstreams.** What `/api/topics/:t` shows, in both modes: its node list is — producer by
producer, over the producers stage one returned — every topic object named `:t` in that producer's own `/stats`
answer (`mem_reports` spells the membership out on the answer); its counters are the sums over exactly those objects,
`paused` their disjunction. (Who the producers are: `topic_producers_direct`; nsqlookupd mode: the de-duplicated
`/lookup` answers, `lookupdTopicProducers`.) -/
theorem topic_view_from_upstreams (w : World) (name : String) (v : View)
    (h : topicView Fixes.all w name = .ok v) (h200 : v.status = 200) :
    ∃ ps f1 t, getTopicProducers Fixes.all w name = .ok (.got ps f1) ∧ v.body = .topic t ∧
      let reports := ps.flatMap (reportsOf w name "" false)
      t.nodes = reports ∧ t.paused = reports.any (·.paused) ∧
      t.cnt.depth = isum (reports.map (·.cnt.depth)) ∧
      t.cnt.memDepth = isum (reports.map (·.cnt.memDepth)) ∧
      t.cnt.backendDepth = isum (reports.map (·.cnt.backendDepth)) ∧
      t.cnt.msgCount = isum (reports.map (·.cnt.msgCount)) ∧
      t.cnt.delivery = isum (reports.map (·.cnt.delivery)) ∧
      t.cnt.zoneLocal = isum (reports.map (·.cnt.zoneLocal)) ∧
      t.cnt.regionLocal = isum (reports.map (·.cnt.regionLocal)) ∧
      t.cnt.globalMsg = isum (reports.map (·.cnt.globalMsg)) ∧
      ∀ r, r ∈ reports ↔ ∃ p ∈ ps, ∃ ans tp, statsOf w p.addr name "" false = some ans ∧
        some tp ∈ ans ∧ (name = "" ∨ tp.name = name) ∧ r = topicReport p tp := by
  obtain ⟨ps, f1, ts, m, f2, t, h1, h2, h3, h4⟩ := topic_view_is_sum w name v h h200
  have hts := nsqdStats_reports w ps name "" false ts m f2 h2
  subst hts
  obtain ⟨s1, s2, s3, s4, s5, s6, s7, s8, s9, s10⟩ := sum_fields Fixes.all name _ t h3
  refine ⟨ps, f1, t, h1, h4, s1, s2, s3, s4, s5, s6, s7, s8, s9, s10, fun r => ?_⟩
  simpa only [ite_self] using mem_reports w name "" false ps r

/-- Non-vacuity: two nsqds report `t1` (one of them also an unrelated topic), a third one fails. -/
def tvTopic (n : String) (d m : Int) : Topic :=
  { name := n, cnt := { depth := d, msgCount := m }, paused := false, channels := [], e2e := true }
def tvWorld : World :=
  { lookupds := [], nsqdAddrs := ["N0", "N1", "N2"],
    nsqds := [{ addr := "N0", info := some info0, filters := false, stats := some [some (tvTopic "t1" 3 10), some (tvTopic "zz" 100 100)] },
              { addr := "N1", info := some { info0 with addr := "N1" }, filters := true, stats := some [some (tvTopic "t1" 4 5)] },
              { addr := "N2", info := some { info0 with addr := "N2" }, filters := true, stats := none }] }
example : (match topicView Fixes.all tvWorld "t1" with
    | .ok { status := 200, warn := true, body := .topic t } => (t.cnt.depth, t.cnt.msgCount, t.nodes.map (·.node))
    | _ => (0, 0, [])) = (7, 15, ["N0", "N1"]) := by decide +kernel

/-- **channel_view_from_upstreams.** What `/api/topics/:t/:c` shows: the channel objects with the asked key among
the `/stats` answers of the producers — listed as its node reports, counters summed, clients concatenated, `paused`
or-ed. -/
theorem channel_view_from_upstreams (w : World) (topic chan : String) (v : View)
    (h : channelView Fixes.all w topic chan = .ok v) (h200 : v.status = 200) :
    ∃ ps f1 c, getTopicProducers Fixes.all w topic = .ok (.got ps f1) ∧ v.body = .channel c ∧
      let reports := (chansOfTopics (ps.flatMap (reportsOf w topic chan true))).filter (fun r => chanKey topic r == chan)
      reports ≠ [] ∧ c.nodes = reports ∧ c.cnt = sumFrom {} (reports.map (·.cnt)) ∧
      c.clients = reports.flatMap (·.clients) ∧ c.paused = reports.any (·.paused) := by
  obtain ⟨ps, f1, ts, m, f2, c, h1, h2, h3, h4⟩ := channel_view_is_merge w topic chan v h h200
  have hts := nsqdStats_reports w ps topic chan true ts m f2 h2
  subst hts
  have hm := channels_merge Fixes.all w ps topic chan true _ m f2 h2 chan
  simp only [] at hm
  refine ⟨ps, f1, c, h1, h4, ?_⟩
  by_cases hne : (chansOfTopics (ps.flatMap (reportsOf w topic chan true))).filter (fun r => chanKey topic r == chan) = []
  · have := hm.1 hne
    rw [h3] at this
    cases this
  · obtain ⟨c', hc', e1, e2, e3, e4⟩ := hm.2 hne
    rw [h3] at hc'
    cases hc'
    exact ⟨hne, e3, e1, e2, e4⟩

def cvChan (d : Int) (cl : List (Option Client)) : Chan :=
  { name := "c1", cnt := { depth := d }, paused := false, clients := cl, e2e := true }
def cvWorld : World :=
  { lookupds := [], nsqdAddrs := ["N0", "N1"],
    nsqds := [{ addr := "N0", info := some info0, filters := true,
                stats := some [some { tvTopic "t1" 0 0 with channels := [some (cvChan 3 [some ⟨"h", "a"⟩, none])] }] },
              { addr := "N1", info := some { info0 with addr := "N1" }, filters := true,
                stats := some [some { tvTopic "t1" 0 0 with channels := [some (cvChan 4 [some ⟨"h", "b"⟩]), none] }] }] }
example : (match channelView Fixes.all cvWorld "t1" "c1" with
    | .ok { status := 200, warn := false, body := .channel c } => (c.cnt.depth, c.clients.map (·.clientId), c.nodes.length)
    | _ => (0, [], 0)) = (7, ["a", "b"], 2) := by decide +kernel

/-- **topic_view_channels_from_upstreams.** The merged channel list of `/api/topics/:t`, in both modes: with `crs` the
channel objects of the topic objects named `:t` in the `/stats` answers of the stage-one producers (in order), the
list has exactly one entry per channel name occurring in `crs`, and the entry of a name is made of *all* reports with
that name: counters summed, clients concatenated, `paused` or-ed; its node list holds every report but the first
(whose object the entry is). No hypothesis on duplicates: a node that lists a channel twice contributes two reports. -/
theorem topic_view_channels_from_upstreams (w : World) (name : String) (v : View)
    (h : topicView Fixes.all w name = .ok v) (h200 : v.status = 200) :
    ∃ ps f1 t, getTopicProducers Fixes.all w name = .ok (.got ps f1) ∧ v.body = .topic t ∧
      let crs := chansOfTopics (ps.flatMap (reportsOf w name "" false))
      (t.channels.map (·.name)).Nodup ∧
      (∀ n, n ∈ t.channels.map (·.name) ↔ ∃ r ∈ crs, r.name = n) ∧
      ∀ c ∈ t.channels, ∃ a0 rest, crs.filter (fun r => r.name == c.name) = a0 :: rest ∧
        c.cnt = sumFrom {} ((a0 :: rest).map (·.cnt)) ∧ c.nodes = rest ∧
        c.clients = (a0 :: rest).flatMap (·.clients) ∧ c.paused = (a0 :: rest).any (·.paused) := by
  obtain ⟨ps, f1, ts, m, f2, t, h1, h2, h3, h4⟩ := topic_view_is_sum w name v h h200
  have hts := nsqdStats_reports w ps name "" false ts m f2 h2
  subst hts
  cases (addAll_eq Guards.all.nilE2e _ name (reports_clean w name "" false ps)).symm.trans h3
  exact ⟨ps, f1, _, h1, h4, merged_spec _ _ (foldl_addTopicPure _ _)⟩

/-- Non-vacuity: N0 reports `c1` twice (3, 1) and `c2`; N1 reports `c1` (4): `c1` = 8 with two further node entries. -/
def mcWorld : World :=
  { lookupds := [], nsqdAddrs := ["N0", "N1"],
    nsqds := [{ addr := "N0", info := some info0, filters := true,
                stats := some [some { tvTopic "t1" 0 0 with channels :=
                  [some (cvChan 3 []), some (cvChan 1 []), some { cvChan 5 [] with name := "c2" }, none] }] },
              { addr := "N1", info := some { info0 with addr := "N1" }, filters := true,
                stats := some [some { tvTopic "t1" 0 0 with channels := [some (cvChan 4 [])] }] }] }
example : (match topicView Fixes.all mcWorld "t1" with
    | .ok { status := 200, warn := false, body := .topic t } => t.channels.map (fun c => (c.name, c.cnt.depth, c.nodes.length))
    | _ => []) = [("c1", 8, 2), ("c2", 5, 0)] := by decide +kernel

/-- The (key, value) pairs of `/api/counter`, read off the upstreams' answers: for every key of GetNSQDStats'
channel map, one pair per channel object with that key — key `topic:channel:node` with the topic and channel name of
the *first* such object, value its `message_count`. (`channels_merge` says what the map holds: exactly the channel
objects of the reports, grouped by `topic:channel`.) -/
def counterPairs (m : ChanMap) : List (String × Int) := counterEntries m

/-- **counter_view_from_upstreams.** `/api/counter`: the channel map is the grouping (`channels_merge`) of the channel
objects in the `/stats` answers of the producers of `/api/nodes` (`reportsOf`); the view has exactly one entry per
distinct `topic:channel:node` among the pairs, holding the *sum* of the `message_count`s given under that key (a node
that lists a channel twice is counted twice). -/
theorem counter_view_from_upstreams (w : World) (v : View)
    (h : counterView Fixes.all w = .ok v) (h200 : v.status = 200) :
    ∃ ps f1 m f2 st, getProducers Fixes.all w = .ok (.got ps f1) ∧
      nsqdStats Fixes.all w ps "" "" false = .ok (.got (ps.flatMap (reportsOf w "" "" false), m) f2) ∧
      v.body = .counter st ∧ (st.map (·.1)).Nodup ∧
      (∀ k, k ∈ st.map (·.1) ↔ k ∈ (counterPairs m).map (·.1)) ∧
      (∀ k, valueAt st k = valueAt (counterPairs m) k) := by
  rw [counterView_eq] at h
  obtain ⟨ps, f1, ts, m, f2, hs1, hs2, hfin⟩ := twoStage_done h (by rw [h200]; decide)
  cases Except.ok.inj hfin
  have hts := nsqdStats_reports w ps "" "" false ts m f2 hs2
  subst hts
  obtain ⟨c1, c2, c3⟩ := counterFold_spec (counterEntries m)
  rw [← counterOf_eq] at c1 c2 c3
  exact ⟨ps, f1, m, f2, counterOf m, hs1, hs2, rfl, c1, c2, c3⟩

def ctWorld : World :=
  { lookupds := [], nsqdAddrs := ["N0", "N1"],
    nsqds := [{ addr := "N0", info := some info0, filters := true,
                stats := some [some { tvTopic "t1" 0 0 with channels :=
                  [some { cvChan 0 [] with cnt := { msgCount := 5 } }, some { cvChan 0 [] with cnt := { msgCount := 2 } }] }] },
              { addr := "N1", info := some { info0 with addr := "N1" }, filters := true,
                stats := some [some { tvTopic "t1" 0 0 with channels := [some { cvChan 0 [] with cnt := { msgCount := 9 } }] }] }] }
/-- Node N0 lists `c1` twice (5 + 2), N1 once. -/
example : (match counterView Fixes.all ctWorld with
    | .ok { status := 200, warn := false, body := .counter st } => st
    | _ => []) = [("t1:c1:N0", 7), ("t1:c1:N1", 9)] := by decide +kernel

/-- **nodes_view_lookupd.** `/api/nodes`, nsqlookupd mode: exactly one entry per TCP address that a responding
nsqlookupd mentions in a non-null element of its `/nodes` answer. -/
theorem nodes_view_lookupd (w : World) (hl : w.lookupds ≠ []) (v : View)
    (h : nodesView Fixes.all w = .ok v) (h200 : v.status = 200) :
    ∃ ps, v.body = .nodes ps ∧ (ps.map (·.tcp)).Nodup ∧ ∀ k, k ∈ ps.map (·.tcp) ↔ k ∈ mentioned w.lookupds := by
  have hne : (!w.lookupds.isEmpty) = true := by simpa using hl
  obtain ⟨r, hr⟩ : ∃ r, lookupdProducers Fixes.all w.lookupds = .ok r := ⟨_, Nsq.Proofs.AggregateProducers.lookupdProducers_eq rfl rfl _⟩
  have hg : getProducers Fixes.all w = .ok r := by rw [getProducers, if_pos hne, hr]
  cases (nodesView_eq hg).symm.trans h
  cases r with
  | allFailed => cases h200
  | got ps f => exact ⟨ps, rfl, producers_dedup w.lookupds ps f hr⟩

/-- **nodes_view_direct.** `/api/nodes`, direct mode: the configured nsqds whose `/info` *and*
`/stats?include_clients=false` both answer, in configuration order, each with the fields of its `/info` answer and
the topic names of its `/stats` answer (a null topic element gives the empty name); the others are counted as failed.
(No fall-back on the configured address when `/info` lacks `broadcast_address` — unlike the topic view,
`topic_producers_direct`.) -/
theorem nodes_view_direct (w : World) (hl : w.lookupds = []) (v : View)
    (h : nodesView Fixes.all w = .ok v) (h200 : v.status = 200) :
    ∃ ps, v.body = .nodes ps ∧ ps = w.nsqdAddrs.filterMap (nsqdProducer w) ∧
      v.warn = decide (countFailed (w.nsqdAddrs.map (nsqdProducer w)) > 0) ∧
      ∀ p, p ∈ ps ↔ ∃ a ∈ w.nsqdAddrs, ∃ i ans, infoOf w a = some i ∧ statsOf w a "" "" false = some ans ∧
        p = producerOfInfo i ans := by
  obtain ⟨-, -, h3, h4⟩ := oneStage_rule ((nodesView_eq (getProducers_direct hl)).symm.trans h |> Except.ok.inj)
  exact ⟨_, h4 h200, rfl, h3 h200, fun p => by simp only [List.mem_filterMap, nsqdProducer_eq]⟩

example : (match nodesView Fixes.all tvWorld with
    | .ok { status := 200, warn := true, body := .nodes ps } => ps.map (fun p => (p.addr, p.topics.map (·.topic)))
    | _ => []) = [("N0", ["t1", "zz"]), ("N1", ["t1"])] := by decide +kernel

/-- **topic_producers_direct.** Stage one of the topic and channel views in direct mode: the configured nsqds whose
`/stats?topic=:t` answers *and lists the topic* and whose `/info` answers; an nsqd that answers without the topic is
neither a producer nor a failure; a failing `/stats`, or a failing `/info` of an nsqd that has the topic, is one
failure each. -/
theorem topic_producers_direct (w : World) (hl : w.lookupds = []) (topic : String) :
    ∃ r, getTopicProducers Fixes.all w topic = .ok r ∧
      (r = .allFailed ↔ ∀ a ∈ w.nsqdAddrs, nsqdTopicProducer w topic a = none) ∧
      ∀ ps f, r = .got ps f →
        f = countFailed (w.nsqdAddrs.map (nsqdTopicProducer w topic)) ∧
        ∀ p, p ∈ ps ↔ ∃ a ∈ w.nsqdAddrs, nsqdTopicProducer w topic a = some (some p) := by
  refine ⟨_, by rw [getTopicProducers, hl, nsqdTopicProducers_fetched]; rfl, fetched_allFailed.trans (by simp), fun ps f hr => ?_⟩
  obtain ⟨rfl, rfl, -⟩ := fetched_got hr
  exact ⟨rfl, fun p => by simp [List.mem_filterMap]⟩

/-- The `/info` fall-back of GetNSQDTopicProducers (data.go, "for backwards compatibility"), which
GetNSQDProducers lacks: an nsqd whose `/info` has no `broadcast_address` is shown by the topic view under its
configured address (and its `/stats` is fetched there), while `/api/nodes` lists it under the address `:0` that
nobody answers on — so `/api/counter` and `/api/nodes/:n` cannot reach it (one failed upstream, a warning). -/
def oldInfoWorld : World :=
  { lookupds := [], nsqdAddrs := ["N0"],
    nsqds := [{ addr := "N0", filters := true, stats := some [some (tvTopic "t1" 3 10)],
                info := some { hostname := "", addr := ":0", tcp := ":4150", version := "0.2.16", ver := (0, 2, 16), noBcast := true } }] }
theorem info_fallback_asymmetry :
    (match topicView Fixes.all oldInfoWorld "t1" with
     | .ok { status := 200, warn := false, body := .topic t } => t.nodes.map (fun n => (n.node, n.hostname))
     | _ => []) = [("N0", "127.0.0.1")] ∧
    (match nodesView Fixes.all oldInfoWorld with
     | .ok { status := 200, warn := false, body := .nodes ps } => ps.map (fun p => (p.addr, p.hostname))
     | _ => []) = [(":0", "")] ∧
    (match counterView Fixes.all oldInfoWorld with | .ok v => v.status | .error _ => 0) = 502 := by decide +kernel

/-- **node_view_from_upstream.** `/api/nodes/:n`: 502 when no producer source answers or the node's own `/stats`
fails, 404 when the producer list has no node with that HTTP address; otherwise the topic objects of *that node's*
`/stats` answer, `total_messages` the sum of their `message_count`, `total_clients` the number of (non-null) client
objects in their channels; the warning is that of the producer stage only. -/
theorem node_view_from_upstream (w : World) (addr : String) (v : View)
    (h : nodeView Fixes.all w addr = .ok v) :
    ∃ s1, getProducers Fixes.all w = .ok s1 ∧
      match s1 with
      | .allFailed => v.status = 502
      | .got ps f =>
        match ps.find? (·.addr == addr) with
        | none => v.status = 404
        | some p =>
          (statsOf w p.addr "" "" true = none → v.status = 502) ∧
          (statsOf w p.addr "" "" true ≠ none →
            v.status = 200 ∧ v.warn = decide (f > 0) ∧
            let ts := reportsOf w "" "" true p
            v.body = .node addr ts (isum (ts.map (·.cnt.msgCount)))
              (isum (ts.map (fun t => isum (t.channels.map (fun c => (c.clients.length : Int))))))) := by
  unfold nodeView at h
  obtain ⟨r, hr⟩ := getProducers_ok Guards.all w
  refine ⟨r, hr, ?_⟩
  simp only [hr] at h
  cases r with
  | allFailed => simp only [Except.ok.injEq] at h; subst h; rfl
  | got ps f =>
    simp only [] at h ⊢
    cases hf : ps.find? (·.addr == addr) with
    | none => simp only [hf, Except.ok.injEq] at h; subst h; rfl
    | some p =>
      simp only [hf] at h ⊢
      -- one producer is asked: GetNSQDStats is its own reports, or nothing
      simp only [nsqdStats_eq Guards.all, statsFetched, statsAnswers, List.map_cons, List.map_nil, List.flatMap_cons,
        List.flatMap_nil, List.append_nil, ite_self] at h
      cases hst : statsOf w p.addr "" "" true with
      | none =>
        rw [hst] at h
        cases h
        exact ⟨fun _ => rfl, fun hne => absurd rfl hne⟩
      | some ans =>
        rw [hst] at h
        cases h
        exact ⟨fun hn => (nomatch hn), fun _ => ⟨rfl, rfl, rfl⟩⟩

/-- **partial_warning (`/api/nodes/:n`).** One producer is queried: its failure is "none
answered" (502); an unknown node is 404. -/
theorem partial_warning_node (w : World) (addr : String) (v : View)
    (h : nodeView Fixes.all w addr = .ok v) : v.status = 200 ∨ v.status = 404 ∨ v.status = 502 := by
  obtain ⟨s1, _, hm⟩ := node_view_from_upstream w addr v h
  cases s1 with
  | allFailed => exact .inr (.inr hm)
  | got ps f =>
    simp only [] at hm
    split at hm
    next => exact .inr (.inl hm)
    next p _ =>
      by_cases hst : statsOf w p.addr "" "" true = none
      · exact .inr (.inr (hm.1 hst))
      · exact .inl (hm.2 hst).1

example : (match nodeView Fixes.all ctWorld "N0" with
    | .ok { status := 200, warn := false, body := .node "N0" ts tm tc } => (ts.length, tm, tc)
    | _ => (0, 0, 0)) = (1, 0, 0) := by decide +kernel
example : (match nodeView Fixes.all cvWorld "N0" with
    | .ok { status := 200, body := .node _ _ _ tc, .. } => tc
    | _ => 0) = 1 := by decide +kernel

/-- **partial_warning (`/api/topics`, direct mode).** 502 iff no configured nsqd answers `/stats`; otherwise 200
with a warning iff some does not. -/
theorem partial_warning_topics_nsqd (w : World) (hl : w.lookupds = []) :
    let answers := w.nsqdAddrs.map (fun a => statsOf w a "" "" true)
    ((topicsView w).status = 502 ↔ ∀ a ∈ answers, a = none) ∧
    ((topicsView w).status = 200 ∨ (topicsView w).status = 502) ∧
    ((topicsView w).status = 200 → (topicsView w).warn = decide (countFailed answers > 0)) := by
  obtain ⟨h1, h2, h3, -⟩ := oneStage_rule (v := topicsView w) (by rw [topicsView_eq, hl, nsqdTopics_fetched]; rfl)
  exact ⟨h1, h2, h3⟩

/-- **partial_warning (`/api/nodes`, direct mode).** An nsqd counts as failed when its `/info` or its `/stats` fails. -/
theorem partial_warning_nodes_nsqd (w : World) (hl : w.lookupds = []) (v : View)
    (h : nodesView Fixes.all w = .ok v) :
    (v.status = 502 ↔ ∀ a ∈ w.nsqdAddrs, infoOf w a = none ∨ statsOf w a "" "" false = none) ∧
    (v.status = 200 ∨ v.status = 502) ∧
    (v.status = 200 → v.warn = decide (countFailed (w.nsqdAddrs.map (nsqdProducer w)) > 0)) := by
  have hnone : ∀ a, nsqdProducer w a = none ↔ (infoOf w a = none ∨ statsOf w a "" "" false = none) := by
    intro a
    unfold nsqdProducer
    cases infoOf w a <;> cases statsOf w a "" "" false <;> simp
  obtain ⟨h1, h2, h3, -⟩ := oneStage_rule ((nodesView_eq (getProducers_direct hl)).symm.trans h |> Except.ok.inj)
  exact ⟨by simpa [hnone] using h1, h2, h3⟩

/-! ### The numbers a view shows are Go's int64 sums of the numbers the upstreams sent

`AggregateWire` (the driver) prints `wrap64 x` for every integer `x` of a view body, and the correspondence compares
that with the int64 nsqadmin prints. `shown x` names this rendering; the theorem says that for the topic view it is the
running int64 sum (`goSum`: `+=` with wrap-around at every step) over the producers' own numbers — and the exact sum
exactly when that fits. -/

def shown (x : Int) : Int := Nsq.Model.Int64.wrap64 x

open Nsq.Model.Int64 in
theorem topic_view_shown_int64 (w : World) (name : String) (v : View)
    (h : topicView Fixes.all w name = .ok v) (h200 : v.status = 200) :
    ∃ ps f1 t, getTopicProducers Fixes.all w name = .ok (.got ps f1) ∧ v.body = .topic t ∧
      let reports := ps.flatMap (reportsOf w name "" false)
      shown t.cnt.depth = goSum (reports.map (·.cnt.depth)) ∧
      shown t.cnt.backendDepth = goSum (reports.map (·.cnt.backendDepth)) ∧
      shown t.cnt.msgCount = goSum (reports.map (·.cnt.msgCount)) ∧
      shown t.cnt.memDepth = goSum (reports.map (·.cnt.memDepth)) ∧
      (shown t.cnt.depth = isum (reports.map (·.cnt.depth)) ↔ inRange (isum (reports.map (·.cnt.depth)))) := by
  obtain ⟨ps, f1, t, h1, h2, _, _, d1, d2, d3, d4, _⟩ := topic_view_from_upstreams w name v h h200
  refine ⟨ps, f1, t, h1, h2, shown_sum _ _ d1, shown_sum _ _ d3, shown_sum _ _ d4, shown_sum _ _ d2, ?_⟩
  unfold shown
  rw [d1]
  exact Nsq.Proofs.Int64.wrap64_eq_iff _

/-- Two nodes at 2^62 each: the view shows -2^63 (and the real handler does: clusters of this kind are in the views stream). -/
example : (match topicView Fixes.all
      { tvWorld with nsqds := [{ addr := "N0", info := some info0, filters := true, stats := some [some (tvTopic "t1" 4611686018427387904 0)] },
                               { addr := "N1", info := some { info0 with addr := "N1" }, filters := true, stats := some [some (tvTopic "t1" 4611686018427387904 0)] }] } "t1" with
    | .ok { body := .topic t, .. } => shown t.cnt.depth
    | _ => 0) = -9223372036854775808 := by decide +kernel

/-! ## `/api/topics?inactive=true` (`fixes/F58` — committed 783e91a, reverted 338c8a6: a proposal again)

With `?inactive=true` topicsHandler asks, for every topic of the list, every nsqlookupd for the producers
(`/lookup?topic=`) and — for a topic without producers — for the channels (`/channels?topic=`). The unchanged code
throws both errors away (`Fixes.tree`; tie `Tie.AdminAgg.topics_inactive_discards_errors`). `Fixes.inactiveErrs` is the
handler as F58 proposed it (partial error → warning, total → 502) — not in /repo. -/

def inaP : ProducerJSON := pj "h" "N0" "N0:4150" "r"
/-- Two nsqlookupds list `t1`. L0 knows no producer of it; L1 — the one that would know one — fails `/lookup?topic=t1`. -/
def inactiveWorld : World :=
  { lookupds := [⟨"L0", some ["t1"], some [], some []⟩, ⟨"L1", some ["t1"], some [some inaP], some [some inaP]⟩],
    nsqdAddrs := [], nsqds := [],
    perTopic := [⟨"L0", "t1", some [], some ["c2", "c1"]⟩, ⟨"L1", "t1", none, some ["c1"]⟩] }
/-- Both fail `/lookup?topic=t1`. -/
def inactiveWorldTotal : World :=
  { inactiveWorld with perTopic := [⟨"L0", "t1", none, some ["c1"]⟩, ⟨"L1", "t1", none, some ["c1"]⟩] }

def statusWarn (r : Except Fault View) : Nat × Bool :=
  match r with
  | .ok v => (v.status, v.warn)
  | .error _ => (0, false)

theorem inactiveWorld_topics : lookupdTopics inactiveWorld.lookupds = .got ["t1"] 0 := by
  simp [lookupdTopics, inactiveWorld, countFailed, uniq, sortNames]

/-- **The defect is genuine on the tree without F58**: an nsqlookupd fails one of the per-topic
requests and the view is a 200 *without* warning (listing as inactive a topic whose producer only the failing
nsqlookupd knows); all of them fail and it is still a 200, every topic "inactive". With F58: 200 *with* warning, and 502. -/
theorem inactive_drops_errors_without_F58 :
    statusWarn (view { Fixes.all with inactiveErrs := false } inactiveWorld .topicsInactive) = (200, false) ∧
    statusWarn (view { Fixes.all with inactiveErrs := false } inactiveWorldTotal .topicsInactive) = (200, false) ∧
    statusWarn (view Fixes.all inactiveWorld .topicsInactive) = (200, true) ∧
    statusWarn (view Fixes.all inactiveWorldTotal .topicsInactive) = (502, false) := by
  have ht : lookupdTopics inactiveWorldTotal.lookupds = .got ["t1"] 0 := inactiveWorld_topics
  rw [inactive_view_eq _ inactiveWorld ["t1"] 0 rfl inactiveWorld_topics,
      inactive_view_eq _ inactiveWorldTotal ["t1"] 0 rfl ht,
      inactive_view_eq _ inactiveWorld ["t1"] 0 rfl inactiveWorld_topics,
      inactive_view_eq _ inactiveWorldTotal ["t1"] 0 rfl ht]
  decide

/-- The property's clause for this view, for an arbitrary tree: a 200 carries a warning as soon as some nsqlookupd
failed to answer `/lookup?topic=` for one of the listed topics. -/
def inactive_warning_for (fx : Fixes) : Prop :=
  ∀ (w : World) (v : View) (ts : List String) (f : Nat), w.lookupds ≠ [] →
    view fx w .topicsInactive = .ok v → v.status = 200 → lookupdTopics w.lookupds = .got ts f →
    (∃ t ∈ ts, ∃ l ∈ w.lookupds, lookupFor w l t = none) → v.warn = true

theorem inactive_warning_false_without_F58 : ¬ inactive_warning_for { Fixes.all with inactiveErrs := false } := by
  intro h
  have hw := inactive_drops_errors_without_F58.1
  cases hv : view { Fixes.all with inactiveErrs := false } inactiveWorld .topicsInactive with
  | error e => rw [hv] at hw; simp [statusWarn] at hw
  | ok v =>
    rw [hv] at hw
    simp only [statusWarn, Prod.mk.injEq] at hw
    have := h inactiveWorld v ["t1"] 0 (by decide) hv hw.1 inactiveWorld_topics
      ⟨"t1", by simp, ⟨"L1", some ["t1"], some [some inaP], some [some inaP]⟩, by simp [inactiveWorld], by decide⟩
    rw [hw.2] at this
    cases this

/-- The same defect stated for `Fixes.tree`, the model the driver replays (`{ Fixes.all with inactiveErrs := false }` is
`Fixes.tree` by definition). -/
theorem inactive_drops_errors_this_tree :
    statusWarn (view Fixes.tree inactiveWorld .topicsInactive) = (200, false) ∧
    statusWarn (view Fixes.tree inactiveWorldTotal .topicsInactive) = (200, false) ∧
    ¬ inactive_warning_for Fixes.tree :=
  ⟨inactive_drops_errors_without_F58.1, inactive_drops_errors_without_F58.2.1, inactive_warning_false_without_F58⟩

/-- **partial_warning (`/api/topics?inactive=true`), with the PROPOSAL F58** (reverted in /repo; see the file header). -/
theorem inactive_warning : inactive_warning_for Fixes.all := by
  intro w v ts f hl hv h200 hts hex
  rcases inactive_view_spec rfl rfl hl hv with ⟨h502, -⟩ | ⟨ts', f', m, wn, hts', rfl, -, -, hw⟩
  · rw [h502] at h200; cases h200
  · cases hts.symm.trans hts'
    simp [hw rfl hex]

/-- **inactive_view_lists.** What `/api/topics?inactive=true` lists (nsqlookupd mode, with F58): exactly the topics of
the topic list (`topics_union`: the union over the responding nsqlookupds) for which no responding nsqlookupd's
`/lookup?topic=` answer holds a (non-null) producer, in the order of the list, each with the strictly sorted union of
the channels the responding nsqlookupds report for it (`/channels?topic=`). -/
theorem inactive_view_lists (w : World) (hl : w.lookupds ≠ []) (v : View)
    (h : view Fixes.all w .topicsInactive = .ok v) (h200 : v.status = 200) :
    ∃ ts f m, lookupdTopics w.lookupds = .got ts f ∧ v.body = .inactive m ∧
      m.map (·.1) = ts.filter (fun t => !anyProducer (lookupdsFor w t)) ∧
      ∀ t cs, (t, cs) ∈ m → cs.Pairwise (· < ·) ∧
        ∀ c, c ∈ cs ↔ ∃ l ∈ w.lookupds, ∃ names, channelsFor w l t = some names ∧ c ∈ names := by
  rcases inactive_view_spec rfl rfl hl h with ⟨h502, -⟩ | ⟨ts, f, m, wn, hts, rfl, hls, -⟩
  · rw [h502] at h200; cases h200
  · exact ⟨ts, f, m, hts, rfl, hls⟩

/-- Non-vacuity: in `inactiveWorld` no responding nsqlookupd lists a producer of `t1` (L1, which would, fails). -/
example : anyProducer (lookupdsFor inactiveWorld "t1") = false := by decide +kernel
example : anyProducer inactiveWorld.lookupds = true := by decide +kernel

/-- Direct mode: every topic an nsqd reports is live on it — the map is empty; the warning is that of the topic list. -/
example : (match view Fixes.all tvWorld .topicsInactive with
    | .ok { status := 200, warn := true, body := .inactive m } => m.length
    | _ => 9) = 0 := by decide +kernel

/-! ## The committed tree `Fixes.tree` -/

/-- **Carry-over.** For every cluster and every request other than `GET /api/topics?inactive=true` the committed tree
answers exactly what `Fixes.all` answers: every theorem above whose hypothesis is `view Fixes.all w q = .ok v` (or
`topicView` / `channelView` / `nodesView` / `nodeView` / `counterView Fixes.all …`: `topicView_tree` …) holds verbatim
with `Fixes.tree` after rewriting with this equation. -/
theorem tree_view_eq_all (w : World) (req : Request) (h : req ≠ .topicsInactive) :
    view Fixes.tree w req = view Fixes.all w req := by
  cases req with
  | topics => rfl
  | topic n => exact topicView_tree w n
  | channel t c => exact channelView_tree w t c
  | nodes => exact nodesView_tree w
  | node a => exact nodeView_tree w a
  | counter => exact counterView_tree w
  | topicsInactive => exact absurd rfl h

/-- **view_no_panic on the committed tree** (`Fixes.tree` = /repo: the six guards, F58 reverted): every view of every
cluster, `?inactive=true` included, completes — no fetch goroutine panics and no handler answers 500. -/
theorem view_no_panic_tree : view_no_panic_for Fixes.tree :=
  fun w req => view_ok Guards.tree w req

/-- **inactive_view_lists on the committed tree.** `/api/topics?inactive=true` of /repo as committed (nsqlookupd mode):
the answer is a 502 iff no nsqlookupd answered `/topics`; otherwise it is a 200 whose warning is that of the topic list
ALONE (the errors of the per-topic fetches are dropped: open finding `view:inactive-drops-errors`), and it lists — in the
order of the topic list — exactly the topics for which no responding nsqlookupd's `/lookup?topic=` answer holds a
(non-null) producer (a topic for which NO nsqlookupd answered `/lookup` is therefore listed), each with the strictly
sorted union of the `/channels?topic=` answers that arrived (none arrived: no channel). The listing is the one
`inactive_view_lists` states for the proposal whenever that one answers 200. -/
theorem inactive_view_lists_tree (w : World) (hl : w.lookupds ≠ []) (v : View)
    (h : view Fixes.tree w .topicsInactive = .ok v) :
    (v.status = 502 ∧ lookupdTopics w.lookupds = .allFailed) ∨
    (v.status = 200 ∧ ∃ ts f m, lookupdTopics w.lookupds = .got ts f ∧ v.warn = decide (f > 0) ∧ v.body = .inactive m ∧
      m.map (·.1) = ts.filter (fun t => !anyProducer (lookupdsFor w t)) ∧
      ∀ t cs, (t, cs) ∈ m → cs.Pairwise (· < ·) ∧
        ∀ c, c ∈ cs ↔ ∃ l ∈ w.lookupds, ∃ names, channelsFor w l t = some names ∧ c ∈ names) := by
  rcases inactive_view_spec rfl rfl hl h with ⟨h502, hall | hi⟩ | ⟨ts, f, m, wn, hts, rfl, hls, hw, -⟩
  · exact .inl ⟨h502, hall⟩
  · cases hi
  · cases wn with
    | true => cases hw rfl
    | false => exact .inr ⟨rfl, ts, f, m, hts, by simp only [Bool.or_false], rfl, hls⟩

/-- Non-vacuity: on the committed tree `inactiveWorld` (L1 fails the per-topic fetches) answers 200 without warning and
lists `t1`; a panic-free 200 on the cluster of the F4 witness. -/
example : ∃ m, view Fixes.tree inactiveWorld .topicsInactive = .ok { status := 200, warn := false, body := .inactive m } ∧
    m.map (·.1) = ["t1"] := by
  obtain ⟨v, hv, -⟩ := view_no_panic_tree inactiveWorld .topicsInactive
  rcases inactive_view_spec rfl rfl (by decide) hv with ⟨-, hall | hi⟩ | ⟨ts, f, m, wn, hts, rfl, ⟨hls, -⟩, hw, -⟩
  · cases inactiveWorld_topics.symm.trans hall
  · cases hi
  · cases inactiveWorld_topics.symm.trans hts
    cases wn with
    | true => cases hw rfl
    | false => exact ⟨m, hv, by rw [hls]; decide⟩
example : (match view Fixes.tree f4World .nodes with
    | .ok v => v.status | .error _ => 0) = 200 := by decide +kernel
example : Request.topic "t1" ≠ .topicsInactive := nofun

/-! ## The latency document: shape of `e2e_processing_latency.percentiles` (`fixes/F53`) -/

section Latency
open Nsq.Model.Latency Nsq.Proofs.Latency

/-- A channel whose latency document is `{"count":…,"percentiles":[null]}`. -/
def pctChan : Chan := { name := "c1", cnt := {}, paused := false, clients := [], e2e := true, pct := [none] }
def pctNsqd (filters : Bool) (extra : List (Option Topic)) : Nsqd :=
  { addr := "N0", info := some info0, filters := filters,
    stats := some ([some { name := "t1", cnt := {}, paused := false, e2e := true, channels := [some (chan0 true)] }] ++ extra) }
def pctTopic : Topic := { name := "zz", cnt := {}, paused := false, e2e := true, channels := [some pctChan] }
/-- The null percentile sits in a topic `zz` that the request does not ask for, on an nsqd (old, or
behind a proxy) that does not honour `topic=`. -/
def pctWorld : World := { lookupds := [], nsqdAddrs := ["N0"], nsqds := [pctNsqd false [some pctTopic]] }

/-- **The defect is genuine on the tree without F53**: one `null` inside
`percentiles` anywhere in an nsqd's `/stats` answer makes `UnmarshalJSON` write to a nil map inside the
GetNSQDStats fetch goroutine — process death, for the topic, channel, node and counter views alike
(here: the view of topic `t1`, while the `null` is in another topic). -/
theorem view_panics_without_pct_guard :
    faultOf (view { Fixes.all with nilPct := false } pctWorld (.topic "t1")) =
      some (.nilMapWrite "E2eProcessingLatencyAggregate.UnmarshalJSON p[\"min\"]") := by decide +kernel

theorem view_no_panic_false_without_pct_guard :
    ¬ view_no_panic_for { Fixes.all with nilPct := false } := by
  intro h
  obtain ⟨v, hv, _⟩ := h pctWorld (.topic "t1")
  have := view_panics_without_pct_guard
  rw [hv] at this
  cases this

example : faultOf (view { Fixes.all with nilPct := false } pctWorld .counter) =
    some (.nilMapWrite "E2eProcessingLatencyAggregate.UnmarshalJSON p[\"min\"]") := by decide +kernel
example : (match view Fixes.all pctWorld (.topic "t1") with
    | .ok v => v.status | .error _ => 0) = 200 := by decide +kernel
/-- The list views of direct mode decode `/stats` into `struct{Name}` only: they never see the document. -/
example : (match view { Fixes.all with nilPct := false } pctWorld .topics with
    | .ok v => v.status | .error _ => 0) = 200 := by decide +kernel

/-- **latency_unmarshal.** `UnmarshalJSON` on the tree without F53 faults exactly on the documents with a
`null` element; with F53 it never faults and returns the non-null entries in order. -/
theorem latency_unmarshal (l : List Pct) :
    ((∃ e, unmarshal false l = .error e) ↔ none ∈ l) ∧
    unmarshal true l = .ok (l.filter (·.isSome)) ∧ AllSome (l.filter (·.isSome)) := by
  obtain ⟨e, he⟩ := unmarshal_unfixed
  refine ⟨?_, unmarshal_fixed l, filter_allSome l⟩
  rw [he]
  split
  · exact ⟨fun _ => ‹_›, fun _ => ⟨e, rfl⟩⟩
  · exact ⟨fun ⟨_, h'⟩ => (nomatch h'), fun h' => absurd h' ‹_›⟩

example : unmarshal false [some 99, none] =
    .error (.nilMapWrite "E2eProcessingLatencyAggregate.UnmarshalJSON p[\"min\"]") := rfl
example : unmarshal true [some 99, none, some 95] = .ok [some 99, some 95] := rfl

/-- **latency_add_total.** `e.Add(e2)` never writes to a nil map when `e` holds none — whatever `e2` holds:
its entries are only read, entries without a "quantile" member are found (or appended) under 0.0 — and
afterwards `e` still holds no nil map; its keys are the old ones followed by the new ones of `e2`, without
repetition if there was none. (Covers both ways an aggregate starts: fresh, in `GetNSQDStats`' channel map and in
the handlers, or as the first node's own document, in the channel list of `TopicStats.Add`.) -/
theorem latency_add_total (p e2 : List Pct) (h : AllSome p) :
    ∃ r, add p e2 = .ok r ∧ AllSome r ∧
      (∀ k, k ∈ r.map key ↔ k ∈ p.map key ∨ k ∈ e2.map key) ∧
      ((p.map key).Nodup → (r.map key).Nodup) ∧
      (∃ ext, r.map key = p.map key ++ ext) :=
  add_spec e2 p h

example : add [some 99, some 95] [some 50, none, some 99, some 0] = .ok [some 99, some 95, some 50, some 0] := rfl

/-- **latency_aggregate_no_panic.** With F53, for any number of nodes reporting percentile lists of any
lengths, with repeated, missing or `null` entries: decoding and aggregating never faults, and the aggregate
has exactly one entry per distinct "quantile" reported in a non-null entry by some node. -/
theorem latency_aggregate_no_panic (docs : List (List Pct)) :
    ∃ r, aggregate true docs = .ok r ∧ AllSome r ∧ (r.map key).Nodup ∧
      ∀ k, k ∈ r.map key ↔ ∃ d ∈ docs, some k ∈ d := by
  obtain ⟨r, hr, hs, hm, hn⟩ :=
    addAll_spec (docs.map (fun d => d.filter (·.isSome))) [] allSome_nil
  refine ⟨r, by simp [aggregate, decodeAll_fixed, hr], hs, hn (by simp), ?_⟩
  intro k
  rw [hm k]
  constructor
  · rintro (h | ⟨d', hd', hk⟩)
    · cases h
    · obtain ⟨d, hd, rfl⟩ := List.mem_map.mp hd'
      exact ⟨d, hd, (mem_keys_filter d k).mp hk⟩
  · rintro ⟨d, hd, hk⟩
    exact Or.inr ⟨_, List.mem_map.mpr ⟨d, hd, rfl⟩, (mem_keys_filter d k).mpr hk⟩

example : aggregate true [[some 99, some 95, some 50], [none, some 50], [], [some 1, some 99, none]] =
    .ok [some 99, some 95, some 50, some 1] := rfl

/-- Without F53 a `null` entry in any node's document is fatal. -/
theorem latency_aggregate_panics_without_guard (docs : List (List Pct)) (h : ∃ d ∈ docs, none ∈ d) :
    ∃ e, aggregate false docs = .error e := by
  obtain ⟨e, he⟩ := decodeAll_unfixed
  exact ⟨e, by rw [aggregate, he, if_pos (List.mem_flatten.mpr h)]⟩

example : ∃ e, aggregate false [[some 99], [none]] = .error e :=
  latency_aggregate_panics_without_guard _ ⟨[none], by simp, by simp⟩

/-- Why F53 *drops* the nil maps instead of merely skipping them in `UnmarshalJSON`'s loop
(`if p == nil { continue }`): a nil map left in the first node's document — which `TopicStats.Add` takes over
as the aggregate of the channel — is written to by the next node's `Add` as soon as that node reports an
entry whose "quantile" reads 0.0 (member missing). `latency_add_total`'s hypothesis is necessary. -/
theorem latency_skip_only_repair_insufficient :
    add [none] [some 0] = .error (.nilMapWrite "E2eProcessingLatencyAggregate.Add p[i][\"max\"]") := rfl

end Latency

/-! ## A `nodes` member sent by the upstream (`fixes/F54`) -/

/-- A channel object that carries `"nodes":[null]`. -/
def junkChan : Chan :=
  { name := "c1", cnt := {}, paused := false, clients := [], e2e := true, upNodes := [false] }
def junkNsqd (addr host : String) (c : Chan) : Nsqd :=
  { addr := addr, info := some { info0 with addr := addr, hostname := host, tcp := addr ++ ":4150" }, filters := true,
    stats := some [some { name := "t1", cnt := {}, paused := false, e2e := true, channels := [some c] }] }
/-- Two nsqds (hostnames `a` < `b`: list order = the order `sort.Sort(TopicStatsByHost)` gives) report
`t1/c1`; the first one's channel object carries `"nodes":[null]`. -/
def junkWorld : World :=
  { lookupds := [], nsqdAddrs := ["N0", "N1"], nsqds := [junkNsqd "N0" "a" junkChan, junkNsqd "N1" "b" (chan0 true)] }

/-- On the tree without F54: `TopicStats.Add` takes the first node's channel
object — `NodeStats` decoded from the upstream included — as the aggregate; the second node's `ChannelStats.Add`
appends to it and sorts: `ChannelStatsByHost.Less` dereferences the nil. In the handler: a 500 although every
upstream answered. -/
theorem topic_500_without_nodes_guard :
    (match view { Fixes.all with clearNodes := false } junkWorld (.topic "t1") with
     | .ok v => v.status
     | .error _ => 0) = 500 := by decide +kernel

theorem view_no_panic_false_without_nodes_guard :
    ¬ view_no_panic_for { Fixes.all with clearNodes := false } := by
  intro h
  obtain ⟨v, hv, h500⟩ := h junkWorld (.topic "t1")
  have := topic_500_without_nodes_guard
  rw [hv] at this
  exact h500 this

example : (match view Fixes.all junkWorld (.topic "t1") with
    | .ok v => v.status | .error _ => 0) = 200 := by decide +kernel
/-- One reporter only: nothing is sorted, no 500 even without the guard. -/
example : (match view { Fixes.all with clearNodes := false }
      { junkWorld with nsqdAddrs := ["N0"] } (.topic "t1") with
    | .ok v => v.status | .error _ => 0) = 200 := by decide +kernel
/-- The channel map of GetNSQDStats (channel and counter views) starts from an aggregate nsqadmin creates. -/
example : (match view { Fixes.all with clearNodes := false } junkWorld (.channel "t1" "c1") with
    | .ok v => v.status | .error _ => 0) = 200 := by decide +kernel

/-! ## Order of the lists the views return -/

section Order
open Nsq.Model.ViewOrder Nsq.Proofs.ViewOrder

/-- **order_by_host.** `ChannelStatsByHost`, `ClientsByHost`, `TopicStatsByHost`, `ProducersByHost` (and
`ProducerTopics`, by topic name) compare one string key with `<`: a strict weak order, which is what `sort.Sort`
needs to promise a sorted result; and for such a comparator the sorted result is determined up to the exchange of
elements with equal keys: two sorted arrangements of the same reports show the same key sequence. (That
`sort.Sort` returns a sorted permutation when `Less` is a strict weak order is the library's contract —
trusted; the harness' order oracle `vfE7SortCheck` checks it on every answer.) -/
theorem order_by_host {α : Type} (f : α → String) :
    StrictWeakOrder (fun a b : α => hostLess (f a) (f b)) ∧
    ∀ l₁ l₂ : List α, l₁.Perm l₂ →
      SortedBy (fun a b => hostLess (f a) (f b)) l₁ → SortedBy (fun a b => hostLess (f a) (f b)) l₂ →
      l₁.map f = l₂.map f :=
  ⟨swo_on hostLess_swo f, sortedBy_host_determined f⟩

example : SortedBy (fun a b : String × Nat => hostLess a.1 b.1) [("alpha", 2), ("alpha", 1), ("beta", 0)] := by
  unfold SortedBy; decide

/-- **order_clients_by_topology.** `ClientStatsByNodeTopology.Less` (the client list of the channel view) is
*not* a strict weak order — it is not even irreflexive: two clients of one node that are equally close to it
(both in the node's zone, or both only in its region) are each "less" than the other, so `sort.Sort` promises
nothing about their relative order, nor — strictly by its contract — about the rest. What does hold: across
different nodes the comparator is the strict order on `Node` (asymmetric); and `sort.Sort` only swaps, so
the list stays a permutation of the clients (`channels_merge`), which is all the check compares. -/
theorem order_clients_by_topology :
    ¬ StrictWeakOrder topoLess ∧
    (∀ a b : ClientKey, a.node = b.node → a.nodeRegion = b.nodeRegion → a.nodeZone = b.nodeZone →
      cls a = cls b → cls a ≤ 1 → topoLess a b = true ∧ topoLess b a = true) ∧
    (∀ a b : ClientKey, a.node ≠ b.node → topoLess a b = true → topoLess b a = false) :=
  ⟨topoLess_not_swo, topoLess_both_of_close, topoLess_asymm_across_nodes⟩

example : topoLess ⟨"N0", "r", "z", "r", "z"⟩ ⟨"N0", "r", "z", "r", "z"⟩ = true := by decide +kernel
example : topoLess ⟨"N0", "r", "z", "r", "y"⟩ ⟨"N0", "r", "z", "r", "x"⟩ = true ∧
    topoLess ⟨"N0", "r", "z", "r", "x"⟩ ⟨"N0", "r", "z", "r", "y"⟩ = true := by decide +kernel
example : topoLess ⟨"N0", "r", "z", "q", "y"⟩ ⟨"N1", "r", "z", "r", "z"⟩ = true := by decide +kernel

end Order

/-! ## "502 only when none answers" and zero producers -/

/-- One nsqlookupd that answers every question — and knows no producer of `t1`. -/
def healthyEmptyWorld : World :=
  { lookupds := [⟨"L0", some ["t1"], some [], some []⟩], nsqdAddrs := [], nsqds := [] }

/-- **The clause "502 only when none answers" is false of the code (and of this model of it) when no producer is
known**: every upstream that is asked answers, yet the topic, channel and counter views are 502 — GetNSQDStats
tests `len(errs) == len(producers)`, which is `0 == 0`. The `partial_warning_*` theorems state the rule the code
follows ("some stage got no answer", which includes the stage that asked nobody); the property's reading is
checked by the python oracle and recorded as the open finding `view:502-without-producers`. -/
theorem view_502_although_every_upstream_answered :
    (match view Fixes.all healthyEmptyWorld (.topic "t1") with | .ok v => v.status | .error _ => 0) = 502 ∧
    (match view Fixes.all healthyEmptyWorld (.channel "t1" "c1") with | .ok v => v.status | .error _ => 0) = 502 ∧
    (match view Fixes.all healthyEmptyWorld .counter with | .ok v => v.status | .error _ => 0) = 502 ∧
    (match view Fixes.all healthyEmptyWorld .nodes with | .ok v => v.status | .error _ => 0) = 200 := by decide +kernel

/-- The property's clause as a statement about the model: a 502 implies that some upstream answer failed. -/
def only_502_when_something_failed : Prop :=
  ∀ (w : World) (req : Request) (v : View), view Fixes.all w req = .ok v → v.status = 502 →
    (∃ l ∈ w.lookupds, l.topics = none ∨ l.nodes = none ∨ l.lookup = none) ∨
    (∃ n ∈ w.nsqds, n.info = none ∨ n.stats = none) ∨ (∃ a ∈ w.nsqdAddrs, nsqdAt w a = none)

theorem only_502_when_something_failed_false : ¬ only_502_when_something_failed := by
  intro h
  have h502 : ∃ v, view Fixes.all healthyEmptyWorld (.topic "t1") = .ok v ∧ v.status = 502 := by
    refine ⟨{ status := 502 }, rfl, rfl⟩
  obtain ⟨v, hv, hs⟩ := h502
  rcases h healthyEmptyWorld (.topic "t1") v hv hs with ⟨l, hl, h1⟩ | ⟨n, hn, _⟩ | ⟨a, ha, _⟩
  · simp only [healthyEmptyWorld, List.mem_singleton] at hl
    subst hl
    simp at h1
  · simp [healthyEmptyWorld] at hn
  · simp [healthyEmptyWorld] at ha

open Nsq.Model.Fetch Nsq.Proofs.Fetch in
/-- **fetch_terminates.** The upstream request loop (`GETV1` / `POSTV1`) always ends, whatever the upstream
answers on whatever port: it sends at most two requests — at most one on plain HTTP and at most one on HTTPS (the
scheme upgrade on `403 {"https_port": N}` happens at most once) — the first one to the given endpoint. (No fuel:
`getV1` is accepted by Lean with the measure "is the current endpoint plain".) So an upstream that answers 403 on
both ports is one failed answer, and the view is built from the others (`partial_warning_*`). -/
theorem fetch_terminates (srv : Endpoint → Resp) (e : Endpoint) :
    (getV1 srv e).2.length ≤ 2 ∧
    ((getV1 srv e).2.filter (fun x => x.https)).length ≤ 1 ∧
    ((getV1 srv e).2.filter (fun x => !x.https)).length ≤ 1 ∧
    (getV1 srv e).2.head? = some e := by
  cases h : e.https with
  | true =>
    have := (getV1_https srv e h).1
    simp [this, h]
  | false =>
    rcases getV1_plain srv e h with h1 | ⟨port, _, h2, _⟩
    · simp [h1, h]
    · simp [h2, h]

open Nsq.Model.Fetch Nsq.Proofs.Fetch in
/-- The five stub behaviours of the harness: the normal upgrade answers; 403 again on the TLS port, a closed TLS
port, a 403 without or with an unusable `https_port` are one failed answer each, after 2, 2, 2 and 1 requests. -/
theorem fetch_stub_outcomes :
    getV1 (stub 7) ⟨false, 1⟩ = (.ok, [⟨false, 1⟩, ⟨true, 2⟩]) ∧
    getV1 (stub 8) ⟨false, 1⟩ = (.failed, [⟨false, 1⟩, ⟨true, 2⟩]) ∧
    getV1 (stub 9) ⟨false, 1⟩ = (.failed, [⟨false, 1⟩, ⟨true, 3⟩]) ∧
    getV1 (stub 10) ⟨false, 1⟩ = (.failed, [⟨false, 1⟩, ⟨true, 0⟩]) ∧
    getV1 (stub 11) ⟨false, 1⟩ = (.failed, [⟨false, 1⟩]) ∧
    getV1 (stub 8) ⟨true, 2⟩ = (.failed, [⟨true, 2⟩]) := by
  decide +kernel

open Nsq.Model.Fetch Nsq.Proofs.Fetch in
/-- Witness for the loop with the upgrade condition computed once before the loop: against an upstream that
answers `403 {"https_port": N}` on both ports it sends as many requests as it is given passes — it never stops. -/
theorem fetch_with_stale_condition_never_stops (fuel : Nat) :
    (getV1Stale (fun _ => .forbidden (some 2)) true fuel ⟨false, 1⟩).2.length = fuel :=
  stale_uses_all_fuel 2 fuel _

/-! ## Integers: where Go's int64 sums can wrap, and when they cannot

The model above computes with `Int`. nsqadmin computes every counter with int64 `+`, `-`, `+=`:
`TopicStats.Add` (8 fields), `ChannelStats.Add` (13 fields + `ClientCount int`), GetNSQDStats
(`MemoryDepth = Depth - BackendDepth`, `DeliveryMsgCount = Zone + Region + Global`), nodeHandler
(`totalMessages`, `totalClients`) and counterHandler (`MessageCount +=`). These are *all* the places
(the regenerated `+=` tables `Tie.AdminAgg.*_counters_summed_once` list the fields). -/

section Int64
open Nsq.Model.Int64 Nsq.Proofs.Int64 Nsq.Proofs.AggregateWrap

/-- **int64_sum_wraps.** A running int64 sum is the exact sum reduced into [-2^63, 2^63) — whatever happens
to intermediate results. -/
theorem int64_sum_wraps (l : List Int) : goSum l = wrap64 l.sum := goSum_eq l

/-- **int64_wrap_exact.** The shown sum equals the exact sum *iff* the exact sum fits into int64. -/
theorem int64_wrap_exact (l : List Int) : goSum l = l.sum ↔ inRange l.sum := by
  rw [goSum_eq]; exact wrap64_eq_iff _

/-- **int64_no_wrap_sufficient.** The side condition under which `sum_fields` / `channels_merge` speak about
what nsqadmin shows: counters are non-negative (as nsqd reports them) and their exact sum is below 2^63. -/
theorem int64_no_wrap_sufficient (l : List Int) (hpos : ∀ x ∈ l, 0 ≤ x) (h : l.sum < two63) :
    goSum l = l.sum := by
  rw [goSum_eq]
  apply wrap64_id
  have := sum_nonneg l hpos
  unfold inRange two63 at *
  omega

/-- The condition is needed: two nodes reporting 2^62 each already show a negative depth. -/
theorem int64_sum_can_wrap : goSum [4611686018427387904, 4611686018427387904] = -9223372036854775808 := by
  decide

example : ∀ x ∈ [(3 : Int), 4], 0 ≤ x := by decide +kernel
example : goSum [3, 4] = 7 := by decide +kernel

/-- **counters_go_sum.** All 13 counters at once: aggregating node reports with Go's arithmetic gives the
model's (`Int`) aggregate wrapped field by field; with every exact field in range, exactly the model's. -/
theorem counters_go_sum (l : List Counters) (acc : Counters) :
    l.foldl Counters.goAdd (Counters.wrap acc) = Counters.wrap (l.foldl Counters.add acc) ∧
    (Counters.fits (l.foldl Counters.add acc) →
      l.foldl Counters.goAdd (Counters.wrap acc) = l.foldl Counters.add acc) := by
  refine ⟨foldl_add64_wrap l acc, fun h => ?_⟩
  rw [foldl_add64_wrap, wrap_of_inRange _ h]

/-- **derived_fields_go.** `memory_depth` / `delivery_msg_count` recomputed in int64 from wrapped inputs are
the wrapped `derive` of the model. -/
theorem derived_fields_go (c : Counters) :
    Counters.wrap (Counters.goDerive (Counters.wrap c)) = Counters.wrap c.derive := by
  simp only [Counters.wrap, Counters.goDerive, Counters.derive, sub64, add64, wrap64_idem, wrap64_sub,
    wrap64_add_left, wrap64_add_right]

example : (Counters.goDerive { depth := 5, backendDepth := 2, zoneLocal := 1, regionLocal := 1, globalMsg := 1 }).memDepth = 3 := by decide +kernel

end Int64

end Nsq.Props.C18
