import Nsq.Model.Life
import Nsq.Model.InFlight
import Nsq.Model.Restart
import Nsq.Proofs.Life
import Nsq.Proofs.InFlight
import Nsq.Proofs.InFlightEmpty
import Nsq.Proofs.InFlightQuiesce
import Nsq.Proofs.LifeLock
import Nsq.Tie.Life
/-
C08 — delete, empty and ephemeral semantics, safe under concurrency.
Atomic semantics over Model/Life.lean; micro-step safety over Model/InFlight.lean; the lock nesting of nsqd/ has no
cycle (Model/LifeLock.lean). `Model.Restart` is imported for one counter-example (`orphanState`).
-/
namespace Nsq.Props.C08
open Nsq.Model

/-! ## micro-step model (`removeFromInFlightPQ` and the heap) -/

/-- the full claim for the code as it is on the unchanged tree (`fixed = false`) -/
def NoFaultFull : Prop :=
  ∀ (q : List Nat) (sched : List InFlight.Step), (InFlight.run false (InFlight.initSt q) sched).isPanic = false

/-- F7: FIN has left the in-flight map, `Empty` resets the heap, FIN removes by the stale index -/
def f7Schedule : List InFlight.Step :=
  [.startMapPush 1 1 100, .startPQPush 1, .finPop 1 1, .emptyResetInflight, .finRemove 1]

theorem f7_panics : (InFlight.run false (InFlight.initSt [1]) f7Schedule).isPanic = true := by decide +kernel

theorem no_fault_full_false : ¬ NoFaultFull := by
  intro h
  have := h [1] f7Schedule
  rw [f7_panics] at this
  cases this

/-- F7 variant: after the reset another message is delivered into heap slot 0; the parked FIN
removes *that* message from the heap.  No panic — but message 2 is in the in-flight map and in
no heap, so no scan ever times it out. -/
def f7VariantSchedule : List InFlight.Step :=
  [.startMapPush 1 1 100, .startPQPush 1, .finPop 1 1,
   .emptyResetInflight, .emptyResetDeferred, .emptyRest,
   .put 2, .startMapPush 2 2 200, .startPQPush 2, .finRemove 1]

/-- quiescent state in which `o` is in the in-flight map but the heap is empty -/
def lostFromHeap (r : InFlight.Res) (o : Nat) : Bool :=
  match r with
  | InFlight.Res.ok s => decide (o ∈ s.map) && s.h.pq.isEmpty && s.conts.isEmpty
  | _ => false

theorem f7_variant_unrelated_removed :
    lostFromHeap (InFlight.run false (InFlight.initSt [1]) f7VariantSchedule) 2 = true := by decide +kernel

/-- the same schedule on the patched code keeps message 2 in the heap -/
theorem f7_variant_fixed :
    (match InFlight.run true (InFlight.initSt [1]) f7VariantSchedule with
     | InFlight.Res.ok s => decide (s.map = [2]) && decide (s.h.pq = [2]) && s.conts.isEmpty
     | _ => false) = true := by decide +kernel

/-- with fixes/F7_stale_index.patch no schedule of micro-steps, from any state, panics -/
theorem no_fault (s : InFlight.St) (sched : List InFlight.Step) :
    (InFlight.run true s sched).isPanic = false :=
  Nsq.Proofs.InFlight.run_fixed_no_panic sched s

/-- non-vacuity: the F7 schedule is enabled step by step and ends in a real state under the fix -/
example : (match InFlight.run true (InFlight.initSt [1]) f7Schedule with
    | InFlight.Res.ok s => s.map.isEmpty && s.h.pq.isEmpty && s.conts == [InFlight.Cont.emptyAfterInflightReset]
    | _ => false) = true := by decide +kernel

/-- even with the patch `MapHeapAgree` at quiescence does not hold for every schedule: `Empty`
between the map insert and the heap insert of StartInFlightTimeout leaves a heap entry without a map
entry (replayed on the real code: corpus/C08/known/empty_races_delivery.sched) -/
def zombieSchedule : List InFlight.Step :=
  [.put 1, .startMapPush 1 1 100, .emptyResetInflight, .emptyResetDeferred, .emptyRest, .startPQPush 1]

theorem map_heap_agree_full_false :
    (match InFlight.run true (InFlight.initSt []) zombieSchedule with
     | InFlight.Res.ok s => s.conts.isEmpty && !(InFlight.mapHeapAgreeB s) && decide (s.h.pq = [1]) && s.map.isEmpty
     | _ => false) = true := by decide +kernel

/-- `IndexOK` along **every** schedule of the patched code in which no object is pushed onto the heap
while it is already there (`NoDupPush`): pending continuations, Empty, late answers — none of them can
make an index field wrong; only a double push can (next theorem) -/
theorem index_ok_invariant (sched : List InFlight.Step) (s s' : InFlight.St) (ok : InFlight.IndexOK s.h)
    (hnd : Nsq.Proofs.InFlight.NoDupPush s sched) (hr : InFlight.run true s sched = InFlight.Res.ok s') :
    InFlight.IndexOK s'.h := by
  fun_induction InFlight.run true s sched with
  | case1 => cases hr; exact ok
  | case2 s a as s1 hs ih =>
    obtain ⟨h1, h2⟩ := hnd
    rw [hs] at h2
    exact ih (Nsq.Proofs.InFlight.trans_indexOK ok (Nsq.Proofs.InFlight.step_trans hs) h1) h2 hr
  | case3 | case4 => cases hr

/-- the remaining counter-example for `IndexOK` at quiescence: an answer (REQ 0) naming an id whose
(re)delivery is between map insert and heap insert puts the object back on the queue while the parked
delivery still pushes it; the next delivery pushes it a second time → two heap slots, one index -/
def duplicateSchedule : List InFlight.Step :=
  [.put 1, .startMapPush 1 1 10, .reqPop 1 1 0, .reqRemove 1, .reqPut 1, .startPQPush 1,
   .startMapPush 1 1 20, .startPQPush 1]

theorem index_ok_full_false :
    (match InFlight.run true (InFlight.initSt []) duplicateSchedule with
     | InFlight.Res.ok s => s.conts.isEmpty && decide (s.h.pq = [1, 1]) && decide (s.map = [1]) && !(InFlight.indexOkB s.h)
     | _ => false) = true := by decide +kernel

/-- the second remaining counter-example for `MapHeapAgree` (besides `zombieSchedule`): a FIN naming an
id whose delivery is between map insert and heap insert — the heap keeps an entry the map has lost -/
def lateAnswerSchedule : List InFlight.Step :=
  [.put 1, .startMapPush 1 1 10, .finPop 1 1, .finRemove 1, .startPQPush 1]

theorem map_heap_agree_late_answer :
    (match InFlight.run true (InFlight.initSt []) lateAnswerSchedule with
     | InFlight.Res.ok s => s.conts.isEmpty && s.map.isEmpty && decide (s.h.pq = [1]) && InFlight.indexOkB s.h
     | _ => false) = true := by decide +kernel

example : Nsq.Proofs.InFlight.NoDupPush (InFlight.initSt []) zombieSchedule := by
  simp [Nsq.Proofs.InFlight.NoDupPush, Nsq.Proofs.InFlight.pushes, zombieSchedule, InFlight.step, InFlight.initSt,
    InFlight.okH, InFlight.push, InFlight.up, InFlight.dropCont, InFlight.contObjs]

/-! ### the positive theorem: `IndexOK` always, `MapHeapAgree` at quiescence — EVERY schedule of the committed shape

With F48 (`pushAtomic`: map insert and heap push are one critical section), F16 (`scanAtomic`) and F7 (`fixed`) the three
schedules above (`zombieSchedule`, `lateAnswerSchedule`, `duplicateSchedule` — all three live in the window between
the map insert and the heap push) end in agreement (`former_counterexamples_agree`), and the statement holds with NO
schedule hypothesis (`NoDupPush` is not assumed).  Invariant `Proofs.InFlightQuiesce.QInv` (index fields; map ⊆ heap; heap ⊆ map ∪ answers in progress; every id
has at most one owner).  Whether the tree has F27 (`ansLock`) does not matter. -/

/-- a channel of the committed shape whose queue holds the distinct ids `q`, nothing in flight -/
def committedInit (q : List Nat) (ansLock : Bool) : InFlight.St :=
  { InFlight.initSt q with scanAtomic := true, pushAtomic := true, ansLock := ansLock }

/-- every reachable state, whatever operations are in progress: every heap slot's object carries that slot's index -/
theorem index_ok_every_schedule (q : List Nat) (hq : q.Nodup) (al : Bool) (sched : List InFlight.Step) (s : InFlight.St)
    (h : InFlight.run true (committedInit q al) sched = InFlight.Res.ok s) : InFlight.IndexOK s.h :=
  (Nsq.Proofs.InFlightQuiesce.qinv_reachable q hq al sched s h).ok

/-- every reachable state with no operation in progress (no goroutine between two of its critical sections): the deadline
heap is a permutation of the in-flight map — no message in flight without a timeout entry, no timeout entry without a
message in flight, none twice -/
theorem map_heap_agree_at_quiescence (q : List Nat) (hq : q.Nodup) (al : Bool) (sched : List InFlight.Step) (s : InFlight.St)
    (h : InFlight.run true (committedInit q al) sched = InFlight.Res.ok s) (hquiet : s.conts = []) :
    InFlight.MapHeapAgree s ∧ InFlight.IndexOK s.h := by
  have inv := Nsq.Proofs.InFlightQuiesce.qinv_reachable q hq al sched s h
  exact ⟨Nsq.Proofs.InFlightQuiesce.qinv_quiescent s inv hquiet, inv.ok⟩

/-- … and while operations ARE in progress: every in-flight message has its heap entry, and a heap entry without an
in-flight message belongs to a FIN / REQ / TOUCH that has popped the message and is about to remove the entry -/
theorem map_heap_agree_in_progress (q : List Nat) (hq : q.Nodup) (al : Bool) (sched : List InFlight.Step) (s : InFlight.St)
    (h : InFlight.run true (committedInit q al) sched = InFlight.Res.ok s) :
    (∀ o ∈ s.map, o ∈ s.h.pq) ∧ (∀ o ∈ s.h.pq, o ∈ s.map ∨ o ∈ Nsq.Proofs.InFlightQuiesce.answering s.conts) ∧
    s.h.pq.Nodup ∧ s.map.Nodup := by
  have inv := Nsq.Proofs.InFlightQuiesce.qinv_reachable q hq al sched s h
  exact ⟨inv.mp, inv.pm, Nsq.Proofs.InFlight.indexOK_nodup inv.ok, inv.map_nodup⟩

/-- the same statement about the instance of the micro-step model that the regenerated facts of the CURRENT TREE select
(`Tie.Life.treeFixed / treeScanAtomic / treePushAtomic / treeAnsLock`; a tree that reverts F7, F16, F48 or F27
changes these parameters, the ties `tree_fixed`, `tree_scan_atomic`, `tree_push_atomic`, `tree_ans_lock` fail and this is no
longer a statement about it) -/
theorem map_heap_agree_tree (q : List Nat) (hq : q.Nodup) (sched : List InFlight.Step) (s : InFlight.St)
    (h : InFlight.run Nsq.Tie.Life.treeFixed
      { InFlight.initSt q with scanAtomic := Nsq.Tie.Life.treeScanAtomic, pushAtomic := Nsq.Tie.Life.treePushAtomic,
                               ansLock := Nsq.Tie.Life.treeAnsLock } sched = InFlight.Res.ok s) :
    InFlight.IndexOK s.h ∧ (s.conts = [] → InFlight.MapHeapAgree s) := by
  rw [Nsq.Tie.Life.tree_fixed, Nsq.Tie.Life.tree_scan_atomic, Nsq.Tie.Life.tree_push_atomic] at h
  exact ⟨index_ok_every_schedule q hq _ sched s h, fun hq' => (map_heap_agree_at_quiescence q hq _ sched s h hq').1⟩

/-- the three counter-examples of the pre-F48 shape (`map_heap_agree_full_false`, `map_heap_agree_late_answer`,
`index_ok_full_false` above), run on the committed shape, end in agreement -/
theorem former_counterexamples_agree :
    (match InFlight.run true (committedInit [] false) zombieSchedule with
     | InFlight.Res.ok s => s.conts.isEmpty && InFlight.mapHeapAgreeB s && InFlight.indexOkB s.h | _ => false) = true ∧
    (match InFlight.run true (committedInit [] false) lateAnswerSchedule with
     | InFlight.Res.ok s => s.conts.isEmpty && InFlight.mapHeapAgreeB s && InFlight.indexOkB s.h | _ => false) = true ∧
    -- the double push: the REQ now removes the heap entry the delivery has already pushed; one slot in the end
    (match InFlight.run true (committedInit [] false) duplicateSchedule with
     | InFlight.Res.ok s => s.conts.isEmpty && decide (s.h.pq = [1]) && decide (s.map = [1]) && InFlight.indexOkB s.h
     | _ => false) = true := by decide +kernel

/-- non-vacuity: three messages, deliveries, a deferred REQ, a TOUCH, a FIN, a timeout scan and an Empty racing one another;
at the end nothing is in progress, two messages are in flight and the heap holds exactly those two -/
example : (match InFlight.run true (committedInit [1, 2, 3] false)
      [.startMapPush 1 1 10, .startMapPush 1 2 20, .reqPop 1 1 5, .startPQPush 1, .touchPop 1 2, .reqRemove 1, .touchRemove 2,
       .startPQPush 2, .reqPut 1, .touchMapPush 2 30, .deferPQPush 1 50, .touchPQPush 2, .startMapPush 2 3 15, .scanPeek 16,
       .startPQPush 3, .scanPop 3, .dscanPeek 60, .dscanPop 1, .startMapPush 2 1 40, .startPQPush 1, .finPop 2 1, .finRemove 1,
       .startMapPush 1 3 70, .startPQPush 3] with
    | InFlight.Res.ok s => s.conts.isEmpty && decide (s.map = [3, 2]) && decide (s.h.pq = [2, 3]) && InFlight.mapHeapAgreeB s
    | _ => false) = true := by decide +kernel

/-! ### Empty racing an answer in progress -/

/-- everything the channel is responsible for: queued, in flight, deferred, or in the hands of an operation in progress -/
def heldBy (s : InFlight.St) : List Nat := s.map ++ s.queued ++ s.dmap ++ InFlight.contObjs s.conts

def noPut (l : List InFlight.Step) : Bool := Nsq.Proofs.InFlightEmpty.noPut l

/-- objects held when `Empty` begins (after `pre`) that are in flight again after `Empty` (all three critical
sections) and the continuation `post`; `none` = the schedule is not executable -/
def survivors (pre post : List InFlight.Step) : Option (List Nat) :=
  match InFlight.run true { InFlight.initSt [] with scanAtomic := true } pre with
  | InFlight.Res.ok s1 =>
    match InFlight.run true s1 ([.emptyResetInflight, .emptyResetDeferred, .emptyRest] ++ post) with
    | InFlight.Res.ok s2 => some ((heldBy s1).filter (fun o => decide (o ∈ s2.map)))
    | _ => none
  | _ => none

/-- the claim "nothing the channel held when `Empty` began is delivered after `Empty` has finished" (unless it is
published again), at micro granularity, for the patched code -/
def EmptyDiscardsHeldFull : Prop :=
  ∀ (pre post : List InFlight.Step), noPut post = true → survivors pre post = none ∨ survivors pre post = some []

/-- message 1 is in flight; REQ 0 has taken it out of the in-flight map (`chan.req.afterPop`) when `Empty` runs —
all three of its critical sections; REQ then puts the message back on the (emptied) queue and it is delivered
again.  No sequential order of REQ and Empty explains "REQ answered OK and the message delivered after Empty".
`Channel.Empty` takes the channel's RWMutex, REQ/TOUCH do not (they hold `exitMutex.RLock` since F18, which Empty
does not take).  Replayed on the real code: `empty_races_req_survives`. -/
def emptySurvivorSchedule : List InFlight.Step :=
  [.reqPop 1 1 0, .emptyResetInflight, .emptyResetDeferred, .emptyRest, .reqRemove 1, .reqPut 1,
   .startMapPush 2 1 20, .startPQPush 1]

theorem empty_survivor_redelivered :
    (match InFlight.run true { InFlight.initSt [] with scanAtomic := true }
        ([.put 1, .startMapPush 1 1 10, .startPQPush 1] ++ emptySurvivorSchedule) with
     | InFlight.Res.ok s => s.conts.isEmpty && decide (s.map = [1]) && decide (s.h.pq = [1]) && s.queued.isEmpty
     | _ => false) = true := by decide +kernel

/-- `EmptyDiscardsHeldFull` is false: the REQ of `emptySurvivorSchedule`, parked across the `Empty`, leaves message 1 in
flight.  `survivors` starts from `{ initSt [] with scanAtomic := true }`, i.e. `pushAtomic = false` — the shape
BEFORE F48 (and before F27).  The same witness on the tree just before F27 (`committedTree`: F7 + F16 + F48) is
`empty_survivor_variants`. -/
theorem empty_discards_held_full_false : ¬ EmptyDiscardsHeldFull := by
  intro h
  have := h [.put 1, .startMapPush 1 1 10, .startPQPush 1, .reqPop 1 1 0]
    [.reqRemove 1, .reqPut 1, .startMapPush 2 1 20, .startPQPush 1] (by decide +kernel)
  revert this
  decide +kernel

/-- what does hold (`Props.C08.empty_chan_snapshot` in the atomic model; here per critical section): the three
sections of `Empty` leave map, heap, deferred structures and queue empty — what survives is only what an operation
in progress held outside every container -/
theorem empty_sections_clear (s s1 s2 s3 : InFlight.St)
    (h1 : InFlight.step true s .emptyResetInflight = InFlight.Res.ok s1)
    (h2 : InFlight.step true s1 .emptyResetDeferred = InFlight.Res.ok s2)
    (h3 : InFlight.step true s2 .emptyRest = InFlight.Res.ok s3) :
    s3.map = [] ∧ s3.h.pq = [] ∧ s3.dmap = [] ∧ s3.dpq = [] ∧ s3.queued = [] := by
  have h : InFlight.run true s [.emptyResetInflight, .emptyResetDeferred, .emptyRest] = InFlight.Res.ok s3 := by
    simp only [InFlight.run, h1, h2, h3]
  cases (Nsq.Proofs.InFlight.empty_sections h).2
  exact ⟨rfl, rfl, rfl, rfl, rfl⟩

example : survivors [.put 1, .startMapPush 1 1 10, .startPQPush 1] [.scanPeek 50] = some [] := by decide +kernel

/-! #### F27 (/repo ebb5df3, committed): REQ / TOUCH hold the channel's read lock (`St.ansLock`, tie `answers_channel_lock_shape`) -/

/-- `committedTree`: the tree BEFORE F27 (F7, F16, F48 only: despite its name not the tree as committed);
`f27Tree`: with F27 on top — the tree as committed (`tree_is_f27Tree` below: the parameters the regenerated facts
compute are exactly these) -/
def committedTree : InFlight.St := { InFlight.initSt [] with scanAtomic := true, pushAtomic := true }
def f27Tree : InFlight.St := { InFlight.initSt [] with scanAtomic := true, pushAtomic := true, ansLock := true }

/-- `survivors` from an arbitrary initial parameter choice -/
def survivorsOn (s0 : InFlight.St) (pre post : List InFlight.Step) : Option (List Nat) :=
  match InFlight.run true s0 pre with
  | InFlight.Res.ok s1 =>
    match InFlight.run true s1 ([.emptyResetInflight, .emptyResetDeferred, .emptyRest] ++ post) with
    | InFlight.Res.ok s2 => some ((heldBy s1).filter (fun o => decide (o ∈ s2.map)))
    | _ => none
  | _ => none

/-- the state in which `Empty` begins has no timeout scan between its heap+map pop and its `put` -/
def noScanHeldAfter (s0 : InFlight.St) (pre : List InFlight.Step) : Bool :=
  match InFlight.run true s0 pre with
  | InFlight.Res.ok s1 => Nsq.Proofs.InFlightEmpty.noScanHeld s1.conts
  | _ => true

/-- TOUCH variant of `emptySurvivorSchedule` (committed tree): the TOUCH re-registers the message after the Empty -/
def emptyTouchSurvivorSchedule : List InFlight.Step :=
  [.touchPop 1 1, .emptyResetInflight, .emptyResetDeferred, .emptyRest, .touchRemove 1, .touchMapPush 1 30, .touchPQPush 1]

/-- scan variant: the timeout scan holds the message (out of heap and map, F16) while Empty runs, then requeues it -/
def emptyScanSurvivorSchedule : List InFlight.Step :=
  [.scanPeek 50, .emptyResetInflight, .emptyResetDeferred, .emptyRest, .scanPop 1, .startMapPush 2 1 20, .startPQPush 1]

/-- on the tree BEFORE F27 (F48 shape) all three variants leave message 1 in flight after the Empty (replays
`empty_races_{req,touch,scan}_survives`; the first two are listed `fixed` since ebb5df3, the scan variant is open) -/
theorem empty_survivor_variants :
    survivorsOn committedTree [.put 1, .startMapPush 1 1 10, .startPQPush 1, .reqPop 1 1 0]
      [.reqRemove 1, .reqPut 1, .startMapPush 2 1 20, .startPQPush 1] = some [1] ∧
    survivorsOn committedTree [.put 1, .startMapPush 1 1 10, .startPQPush 1, .touchPop 1 1]
      [.touchRemove 1, .touchMapPush 1 30, .touchPQPush 1] = some [1] ∧
    survivorsOn committedTree [.put 1, .startMapPush 1 1 10, .startPQPush 1, .scanPeek 50]
      [.scanPop 1, .startMapPush 2 1 20, .startPQPush 1] = some [1] := by decide +kernel

/-- with F27 the REQ and TOUCH witnesses are no schedules any more: `Empty` cannot begin while the answer holds the read
lock (the answer finishes first, then Empty discards what it re-inserted), and an answer cannot begin while Empty runs -/
theorem f27_witnesses_impossible :
    survivorsOn f27Tree [.put 1, .startMapPush 1 1 10, .startPQPush 1, .reqPop 1 1 0]
      [.reqRemove 1, .reqPut 1, .startMapPush 2 1 20, .startPQPush 1] = none ∧
    survivorsOn f27Tree [.put 1, .startMapPush 1 1 10, .startPQPush 1, .touchPop 1 1]
      [.touchRemove 1, .touchMapPush 1 30, .touchPQPush 1] = none ∧
    -- the same operations in the order the lock forces: nothing survives
    survivorsOn f27Tree [.put 1, .startMapPush 1 1 10, .startPQPush 1, .reqPop 1 1 0, .reqRemove 1, .reqPut 1]
      [.startMapPush 2 1 20] = none ∧
    survivorsOn f27Tree [.put 1, .startMapPush 1 1 10, .startPQPush 1, .reqPop 1 1 0, .reqRemove 1, .reqPut 1] [] = some [] ∧
    survivorsOn f27Tree [.put 1, .startMapPush 1 1 10, .startPQPush 1, .touchPop 1 1, .touchRemove 1, .touchMapPush 1 30,
      .touchPQPush 1] [.scanPeek 100] = some [] ∧
    -- an answer arriving while Empty runs waits (disabled) until `emptyRest` has run
    (match InFlight.run true f27Tree [.put 1, .startMapPush 1 1 10, .startPQPush 1, .emptyResetInflight, .reqPop 1 1 0] with
     | InFlight.Res.disabled => true | _ => false) = true := by decide +kernel

/-- **`empty_discards_held_fixed`** — tree with F27 (/repo ebb5df3), EVERY schedule `pre` before and `post` after the Empty (no new
publish in `post`), provided no timeout scan holds a message when Empty begins: nothing the channel held when `Empty` began
— indeed nothing at all — is in flight after it.  (Hypothesis forced: `empty_discards_held_scan_false`.) -/
theorem empty_discards_held_fixed (pre post : List InFlight.Step) (hp : noPut post = true)
    (hs : noScanHeldAfter f27Tree pre = true) :
    survivorsOn f27Tree pre post = none ∨ survivorsOn f27Tree pre post = some [] := by
  unfold survivorsOn
  unfold noScanHeldAfter at hs
  cases h1 : InFlight.run true f27Tree pre with
  | panic => exact Or.inl rfl
  | disabled => exact Or.inl rfl
  | ok s1 =>
    rw [h1] at hs
    simp only []
    cases h2 : InFlight.run true s1 ([.emptyResetInflight, .emptyResetDeferred, .emptyRest] ++ post) with
    | panic => exact Or.inl rfl
    | disabled => exact Or.inl rfl
    | ok s2 =>
      right
      have hpar := Nsq.Proofs.InFlight.run_params true pre f27Tree s1 h1
      have hm := Nsq.Proofs.InFlightEmpty.empty_then_nothing_in_flight true s1 s2 (by rw [hpar.1]; rfl) (by rw [hpar.2.2]; rfl)
        hs post hp h2
      simp [hm]

/-- the micro-step parameters of THIS tree, computed from the regenerated facts (`Tie.Life`) -/
def treeSt : InFlight.St :=
  { InFlight.initSt [] with scanAtomic := Nsq.Tie.Life.treeScanAtomic, pushAtomic := Nsq.Tie.Life.treePushAtomic,
                            ansLock := Nsq.Tie.Life.treeAnsLock }

/-- the facts decide all three `true` (F16, F48, F27 are committed; the ties accept only their shapes) -/
theorem tree_is_f27Tree : treeSt = f27Tree := by
  simp [treeSt, f27Tree, Nsq.Tie.Life.tree_scan_atomic, Nsq.Tie.Life.tree_push_atomic, Nsq.Tie.Life.tree_ans_lock]

/-- **THIS tree**: `empty_discards_held_fixed` stated over the computed parameters. A tree that reverts F27 fails
`Tie.Life.tree_ans_lock` and this theorem with it. -/
theorem empty_discards_held_this_tree (pre post : List InFlight.Step) (hp : noPut post = true)
    (hs : noScanHeldAfter treeSt pre = true) :
    survivorsOn treeSt pre post = none ∨ survivorsOn treeSt pre post = some [] := by
  rw [tree_is_f27Tree] at hs ⊢
  exact empty_discards_held_fixed pre post hp hs

/-- non-vacuity: on this tree the REQ witness is no schedule any more -/
example : survivorsOn treeSt [.put 1, .startMapPush 1 1 10, .startPQPush 1, .reqPop 1 1 0]
    [.reqRemove 1, .reqPut 1, .startMapPush 2 1 20, .startPQPush 1] = none := by
  rw [tree_is_f27Tree]; decide +kernel

/-- the full claim for the F27 tree (without the scan hypothesis) is false: the timeout scan's window is not covered by
F27 (it holds `exitMutex.RLock` only).  Replayed on the real code: `empty_races_scan_survives`; open finding
`empty-races-timeout-scan-message-survives`. -/
def EmptyDiscardsHeldF27Full : Prop :=
  ∀ (pre post : List InFlight.Step), noPut post = true → survivorsOn f27Tree pre post = none ∨ survivorsOn f27Tree pre post = some []

theorem empty_discards_held_scan_false : ¬ EmptyDiscardsHeldF27Full := by
  intro h
  have := h [.put 1, .startMapPush 1 1 10, .startPQPush 1, .scanPeek 50] [.scanPop 1, .startMapPush 2 1 20, .startPQPush 1]
    (by decide +kernel)
  revert this
  decide +kernel

/-- non-vacuity of `empty_discards_held_fixed`: a history with a deferred REQ, a TOUCH, a FIN and a delivery in progress,
then Empty, then everything that was parked runs to its end -/
example : noScanHeldAfter f27Tree [.put 1, .put 2, .put 3, .startMapPush 1 1 10, .startPQPush 1, .startMapPush 1 2 20,
      .reqPop 1 1 5, .reqRemove 1, .reqPut 1, .deferPQPush 1 99, .touchPop 1 2, .touchRemove 2, .touchMapPush 2 30, .touchPQPush 2,
      .finPop 1 2, .startMapPush 2 3 40] = true ∧
    survivorsOn f27Tree [.put 1, .put 2, .put 3, .startMapPush 1 1 10, .startPQPush 1, .startMapPush 1 2 20,
      .reqPop 1 1 5, .reqRemove 1, .reqPut 1, .deferPQPush 1 99, .touchPop 1 2, .touchRemove 2, .touchMapPush 2 30, .touchPQPush 2,
      .finPop 1 2, .startMapPush 2 3 40]
      [.finRemove 2, .startPQPush 2, .startPQPush 3, .dscanPeek 100, .scanPeek 100] = some [] := by decide +kernel

/-! ### shape of the timeout scan (`St.scanAtomic`, tie `scan_shape_known`) -/

/-- with heap pop and map pop in **two** critical sections a REQ plus a redelivery of the same message
in between makes the scan take the *fresh* delivery out of the in-flight map at once (and leaves its
heap entry behind); with one critical section (fixes/scan_pop_atomic.patch) the REQ finds nothing to
requeue and the message simply times out -/
def scanWindowSchedule : List InFlight.Step :=
  [.put 1, .startMapPush 1 1 10, .startPQPush 1, .scanPeek 50,
   .reqPop 1 1 0, .reqRemove 1, .reqPut 1, .startMapPush 2 1 1000, .startPQPush 1, .scanPop 1]

theorem scan_two_sections_times_out_fresh_delivery :
    (match InFlight.run true (InFlight.initSt []) scanWindowSchedule with
     | InFlight.Res.ok s => s.conts.isEmpty && s.map.isEmpty && decide (s.h.pq = [1]) && decide (s.queued = [1]) &&
         decide ((s.h.objs 1).pri = 1000)
     | _ => false) = true := by decide +kernel

theorem scan_one_section_safe :
    (match InFlight.run true { InFlight.initSt [] with scanAtomic := true }
        [.put 1, .startMapPush 1 1 10, .startPQPush 1, .scanPeek 50, .reqPop 1 1 0, .scanPop 1] with
     | InFlight.Res.ok s => s.conts.isEmpty && s.map.isEmpty && s.h.pq.isEmpty && decide (s.queued = [1])
     | _ => false) = true ∧
    (InFlight.step true
      (match InFlight.run true { InFlight.initSt [] with scanAtomic := true }
          [.put 1, .startMapPush 1 1 10, .startPQPush 1, .scanPeek 50, .reqPop 1 1 0] with
       | InFlight.Res.ok s => s
       | _ => InFlight.initSt []) (.reqRemove 1)).isPanic = false := by decide +kernel

/-! ### the heap code maintains its index fields (all heaps, all arguments) -/

/-- `Push(x)` of an object not in the heap: afterwards every slot's object carries that slot's index -/
theorem heap_push_index_ok (h h' : InFlight.HS) (x : Nat) (ok : InFlight.IndexOK h) (hx : x ∉ h.pq)
    (hp : InFlight.push h x = some h') : InFlight.IndexOK h' :=
  (Nsq.Proofs.InFlight.of_some (Nsq.Proofs.InFlight.push_spec h x) hp).2 ok hx

/-- `Remove(i)` (any in-range i): the indices stay right, the removed object gets `index = -1` and is gone -/
theorem heap_remove_index_ok (h : InFlight.HS) (i : Int) (r : InFlight.HS × Nat) (ok : InFlight.IndexOK h)
    (hr : InFlight.remove h i = some r) :
    InFlight.IndexOK r.1 ∧ (r.1.objs r.2).index = -1 ∧ r.2 ∉ r.1.pq :=
  have hb : ¬ (i < 0 ∨ (h.pq.length : Int) ≤ i) := fun hn => by simp [InFlight.remove, hn] at hr
  have hs := Nsq.Proofs.InFlight.of_some (Nsq.Proofs.InFlight.remove_spec h i (by omega) (by omega)) hr ok
  ⟨hs.ok, hs.idx, hs.gone⟩

theorem heap_pop_index_ok (h : InFlight.HS) (r : InFlight.HS × Nat) (ok : InFlight.IndexOK h)
    (hr : InFlight.pop h = some r) :
    InFlight.IndexOK r.1 ∧ (r.1.objs r.2).index = -1 ∧ r.2 ∉ r.1.pq :=
  have hb : ¬ h.pq.length = 0 := fun hn => by simp [InFlight.pop, hn] at hr
  have hs := Nsq.Proofs.InFlight.of_some (Nsq.Proofs.InFlight.pop_spec h (by omega)) hr ok
  ⟨hs.ok, hs.idx, hs.gone⟩

/-- non-vacuity: a three-element heap built by Push satisfies IndexOK, and a state with a stale
index does not -/
example : InFlight.indexOkB { objs := fun k => { pri := 10 - k, index := if k = 3 then 0 else if k = 2 then 1 else 2, client := 0 },
                              pq := [3, 2, 1] } = true := by decide +kernel
example : InFlight.indexOkB { objs := fun _ => { pri := 0, index := 0, client := 0 }, pq := [1, 2] } = false := by decide +kernel

/-! ## deadlock freedom (lock part) -/

/-- no set of goroutines can wait for each other in a cycle purely on the mutexes of nsqd/: the lock-nesting relation
regenerated from the current tree is acyclic.
What this is and is not: a GRAPH fact (`no_deadlock_cycle` holds for any acyclic relation, the empty one included).
It says something about the tree only through the ties: `Tie.Life.lock_order_acyclic` (`decide` on the regenerated relation),
`must_hold_edges` (the nestings the models rely on ARE in the relation — deleting an acquisition would otherwise just shrink it),
`unresolved_calls_pinned` (the 8 call sites through function-typed fields that the extractor cannot follow: pinned, reviewed by
hand, a new one breaks the tie) and `no_recursive_lock` (no lock is re-acquired while held).  There is no "lift" to an
operational semantics of goroutines: "a goroutine waits for B while holding A ⇒ (A, B) is in the relation" is the extractor's
specification (trusted; conservative approximations listed in tools/go2lean/kind_life.go). -/
theorem lock_only_deadlock_free (hs : List String) :
    ¬ LifeLock.DeadlockCycle Nsq.Gen.Life.lockEdges hs :=
  Nsq.Proofs.LifeLock.no_deadlock_cycle Nsq.Tie.Life.lock_order_acyclic hs

/-- non-vacuity: an inverted order is rejected by the check and does admit a deadlock cycle -/
example : LifeLock.acyclicB [("Topic.RWMutex", "Channel.RWMutex"), ("Channel.RWMutex", "Topic.RWMutex")] = false := by decide +kernel
example : LifeLock.DeadlockCycle [("a", "b"), ("b", "a")] ["a", "b"] := by
  simp [LifeLock.DeadlockCycle, LifeLock.IsChain]
example : ("Channel.RWMutex", "Channel.inFlightMutex") ∈ Nsq.Gen.Life.lockEdges := by decide +kernel

/-! ## atomic semantics (Model/Life.lean) -/
section atomic
open Nsq.Model.Life Nsq.Proofs.Life

/-- deleting a channel (`Channel.Delete()`, then the unlink): every consumer it had is closed, the name is free again and
its disk-queue file is gone -/
theorem delete_chan_effects (s : St) (t c : String) (C : Chan)
    (h : getChan s t c = some C) (hx : C.exiting = false) :
    (∀ k ∈ C.clients, k.id ∈ (deleteChan s t c).closed) ∧
    getChan (deleteChan s t c) t c = none ∧
    (t, some c) ∉ (deleteChan s t c).files := by
  obtain ⟨T, hT, hC⟩ := getChan_some h
  -- the state between `Channel.Delete()` and the unlink
  have e1 := step_deleteChanBegin h hx
  unfold deleteChan
  generalize (step s (.deleteChanBegin t c)).1 = s1 at e1 ⊢
  have hT1 : getTopic s1 t = some (T.modChan c Chan.deleteBegin) := by
    rw [e1]; exact getTopic_modTopic (fun T => modChan_name T c _) hT
  have hC1 := getChan_modChan_topic deleteBegin_name hC
  have hcl : ∀ k ∈ C.clients, k.id ∈ s1.closed := fun k hk => by
    rw [e1]; exact List.mem_append_right _ (List.mem_map_of_mem hk)
  have hfl : (t, some c) ∉ s1.files := by rw [e1]; exact mem_removeFiles _ _
  rw [step_deleteChanUnlink hT1 hC1 rfl]
  split
  · exact ⟨hcl, by unfold getChan; rw [getTopic_filter_ne s1 t _ rfl], fun hm => hfl (List.mem_filter.mp hm).1⟩
  · refine ⟨hcl, ?_, hfl⟩
    unfold getChan
    rw [getTopic_modTopic (f := fun T => T.dropChan c) (fun _ => rfl) hT1]
    exact getChan_filter_ne _ c

/-- a (re-)created channel starts empty, with no consumers and zeroed counters — provided no
orphaned disk queue of that name lies under the data path (see `recreate_empty_full_false`) -/
theorem recreate_empty_partial (s : St) (t c : String) (e : Bool) (T : Topic)
    (hT : getTopic s t = some T) (hC : T.getChan c = none)
    (hno : e = true ∨ orphanOf s.orphans (t, some c) = []) :
    ∃ C, getChan (step s (.createChan t c e)).1 t c = some C ∧
    C.located = [] ∧ C.clients = [] ∧ C.msgCount = 0 ∧ C.eph = e := by
  -- without an orphan of that name the channel opened is the new channel
  have hopen : openChan s.orphans t c e = newChan c e := by
    unfold openChan
    cases e with
    | true => rfl
    | false => rw [hno.resolve_left Bool.false_ne_true]; rfl
  refine ⟨newChan c e, ?_, rfl, rfl, rfl, rfl⟩
  simp only [step, hT, hC, hopen]
  unfold getChan
  show (match getTopic (modTopic s t (fun T => T.addChan (newChan c e))) t with
        | none => none | some T => T.getChan c) = _
  rw [getTopic_modTopic (f := fun T => T.addChan (newChan c e)) (fun _ => rfl) hT]
  exact find_append_new _ _ _ hC (beq_self_eq_true c)

/-- the unconditional claim: after a delete (or for a name never used in this process) a created
channel is empty -/
def RecreateEmptyFull : Prop :=
  ∀ (s : St) (t c : String) (e : Bool) (T : Topic), getTopic s t = some T → T.getChan c = none →
    ∀ C, getChan (step s (.createChan t c e)).1 t c = some C → C.located = []

def mX : Msg := { id := 31, ts := 1, attempts := 0, body := [7] }

/-- an ephemeral topic with a durable channel holding one message; graceful restart; the topic is
created again -/
def orphanState : St :=
  (step (Restart.cycle (run (init 1) [.createTopic "e#" true, .createChan "e#" "c" false, .pub "e#" mX, .pump "e#"]))
    (.createTopic "e#" true)).1

theorem recreate_empty_full_false : ¬ RecreateEmptyFull := by
  intro h
  have hT : getTopic orphanState "e#" = some { name := "e#", eph := true } := by decide +kernel
  have hC : ({ name := "e#", eph := true } : Topic).getChan "c" = none := by decide +kernel
  have hg : getChan (step orphanState (.createChan "e#" "c" false)).1 "e#" "c" =
      some { name := "c", eph := false, queue := [mX] } := by decide +kernel
  have := h orphanState "e#" "c" false _ hT hC _ hg
  simp [Chan.located] at this

/-- deleting a topic: its name and every channel name under it are free, every consumer of every channel is closed and
none of its files is left -/
theorem delete_topic_effects (s : St) (t : String) (T : Topic) (hT : getTopic s t = some T) :
    getTopic (step s (.deleteTopic t)).1 t = none ∧
    (∀ c, getChan (step s (.deleteTopic t)).1 t c = none) ∧
    (∀ C ∈ T.chans, ∀ k ∈ C.clients, k.id ∈ (step s (.deleteTopic t)).1.closed) ∧
    (∀ b ∈ T.filesOf, b ∉ (step s (.deleteTopic t)).1.files) := by
  have h1 : getTopic (step s (.deleteTopic t)).1 t = none := getTopic_filter_ne s t _ (by simp only [step, hT])
  refine ⟨h1, fun c => by unfold getChan; rw [h1], ?_, ?_⟩ <;> simp only [step, hT]
  · intro C hC k hk
    simp only [List.mem_append, List.mem_flatten, List.mem_map]
    exact Or.inr ⟨_, ⟨C, hC, rfl⟩, List.mem_map.mpr ⟨k, hk, rfl⟩⟩
  · intro b hb hmem
    simp only [List.mem_filter] at hmem
    have : T.filesOf.contains b = true := by simpa using hb
    simp at hmem
    exact hmem.2 hb

/-- `Channel.Empty`: exactly what the channel held at that moment is discarded; its consumers stay
subscribed with in-flight count 0; every other channel is untouched; a later publish is kept -/
theorem empty_chan_snapshot (s : St) (t c : String) (C : Chan)
    (h : getChan s t c = some C) (hx : C.exiting = false) :
    getChan (step s (.emptyChan t c)).1 t c = some (Chan.empty C) ∧
    (Chan.empty C).located = [] ∧
    (Chan.empty C).clients.map (·.id) = C.clients.map (·.id) ∧
    (∀ k ∈ (Chan.empty C).clients, k.inFlight = 0) ∧
    (∀ t' c', ¬ (t' = t ∧ c' = c) → getChan (step s (.emptyChan t c)).1 t' c' = getChan s t' c') ∧
    (∀ m, 0 < s.memCap → (Chan.putMessage s.memCap (Chan.empty C) m).located = [m]) := by
  rw [step_emptyChan h hx]
  refine ⟨?_, rfl, (empty_clients C).1, (empty_clients C).2, ?_, ?_⟩
  · exact getChan_modChan empty_name h
  · exact fun t' c' hne => getChan_modChan_other s t c t' c' _ empty_name hne
  · intro m hm
    simp [Chan.putMessage, hx, Chan.put, Chan.empty, hm, Chan.located]

/-- `Topic.Empty` discards only what has not been fanned out yet: the channels are untouched -/
theorem empty_topic_only_queue (s : St) (t : String) (T : Topic) (hT : getTopic s t = some T) :
    getTopic (step s (.emptyTopic t)).1 t = some T.clearQueue ∧
    T.clearQueue.chans = T.chans ∧ T.clearQueue.queue = [] ∧
    (∀ c, getChan (step s (.emptyTopic t)).1 t c = getChan s t c) := by
  have e1 : (step s (.emptyTopic t)).1 =
      { modTopic s t Topic.clearQueue with
          files := removeFiles s.files (t, none) } := by
    simp [step, hT]
  have h1 : getTopic (step s (.emptyTopic t)).1 t = some T.clearQueue := by
    rw [e1]; exact getTopic_modTopic (fun _ => rfl) hT
  refine ⟨h1, rfl, rfl, ?_⟩
  intro c
  unfold getChan
  rw [h1, hT]
  rfl

/-- SUB / AddClient never attaches a consumer to a channel that has started exiting -/
theorem sub_retry (s : St) (t c : String) (k : Nat) (C : Chan)
    (h : getChan s t c = some C) (hx : C.exiting = true) :
    step s (.sub t c k) = (s, Ans.exiting) := by
  simp [step, h, hx]

/-- while a channel is being deleted (between `Channel.Delete()` and the unlink from the map) a
GetChannel / create of the same name finds the exiting channel: no second channel is made on the same
disk-queue name (replayed on the real code: corpus/C08/delete_races_getchannel.sched; tie
`delete_chan_calls`: `Delete` before `delete`) -/
theorem create_during_delete (s : St) (t c : String) (e : Bool) (C : Chan)
    (h : getChan s t c = some C) : (step s (.createChan t c e)).1 = s := by
  obtain ⟨T, hT, hC⟩ := getChan_some h
  simp [step, hT, hC]

/-- the last consumer leaving an ephemeral channel starts its deletion exactly once: the channel
is marked exiting with no consumers and nothing located, one auto-delete is logged, and any further
`RemoveClient` / `AddClient` on it changes nothing -/
theorem ephemeral_autodelete_once (s : St) (t c : String) (k : Nat) (C : Chan)
    (h : getChan s t c = some C) (hx : C.exiting = false) (he : C.eph = true)
    (hk : hasClient C k = true) (hlast : (C.clients.filter (fun x => x.id != k)).isEmpty = true) :
    let s' := (step s (.unsub t c k)).1
    s'.autoDeleted = s.autoDeleted ++ [(t, c)] ∧
    (∃ C', getChan s' t c = some C' ∧ C'.exiting = true ∧ C'.clients = [] ∧ C'.located = []) ∧
    (∀ k', step s' (.unsub t c k') = (s', Ans.ok)) ∧
    (∀ k', step s' (.sub t c k') = (s', Ans.exiting)) := by
  have e1 : (step s (.unsub t c k)).1 =
      { modChan s t c Chan.deleteBegin with
          files := removeFiles s.files (t, some c), autoDeleted := s.autoDeleted ++ [(t, c)] } := by
    simp [step, h, hx, he, hk, hlast]
  have hg : getChan (step s (.unsub t c k)).1 t c = some (Chan.deleteBegin C) := by
    rw [e1]; exact getChan_modChan deleteBegin_name h
  have ha : (step s (.unsub t c k)).1.autoDeleted = s.autoDeleted ++ [(t, c)] := by rw [e1]
  generalize (step s (.unsub t c k)).1 = s' at *
  exact ⟨ha, ⟨_, hg, rfl, rfl, rfl⟩, fun _ => step_unsub_exiting hg rfl, fun k' => sub_retry s' t c k' _ hg rfl⟩

/-- a consumer leaving a durable channel, or not the last one, deletes nothing -/
theorem no_autodelete_otherwise (s : St) (t c : String) (k : Nat) (C : Chan)
    (h : getChan s t c = some C)
    (hno : C.eph = false ∨ (C.clients.filter (fun x => x.id != k)).isEmpty = false) :
    (step s (.unsub t c k)).1.autoDeleted = s.autoDeleted := by
  by_cases hx : C.exiting = true
  · rw [step_unsub_exiting h hx]
  · by_cases hk : hasClient C k = true
    · cases hno with
      | inl he => simp [step, h, hx, hk, he, modChan, modTopic]
      | inr hl => simp [step, h, hx, hk, hl, modChan, modTopic]
    · simp [step, h, hx, hk]

/-- what `PersistMetadata` writes lists only durable topics and, under them, only durable channels -/
theorem persisted_only_durable (s : St) :
    ∀ e ∈ persisted s, ∃ T ∈ s.topics, T.eph = false ∧ e.1 = T.name ∧ e.2.1 = T.paused ∧
      ∀ ce ∈ e.2.2, ∃ C ∈ T.chans, C.eph = false ∧ ce.1 = C.name ∧ ce.2 = C.paused := by
  intro e he
  unfold persisted at he
  simp only [List.mem_map, List.mem_filter] at he
  obtain ⟨T, ⟨hT, hTe⟩, rfl⟩ := he
  refine ⟨T, hT, by simpa using hTe, rfl, rfl, ?_⟩
  intro ce hce
  simp only [List.mem_map, List.mem_filter] at hce
  obtain ⟨C, ⟨hC, hCe⟩, rfl⟩ := hce
  exact ⟨C, hC, by simpa using hCe, rfl, rfl⟩

/-- an ephemeral channel's queue write never reaches a disk queue: on overflow the message is dropped -/
theorem ephemeral_put_no_disk (cap : Nat) (C : Chan) (m : Msg) (he : C.eph = true) :
    Chan.putWrites cap C = false ∧ (Chan.put cap C m).diskLen = C.diskLen := by
  constructor
  · simp [Chan.putWrites, he]
  · unfold Chan.put Chan.diskLen
    by_cases h : C.memLen < cap
    · simp [h]
    · simp [h, he]

/-- files are only ever created for durable owners: an ephemeral topic or channel never reaches
the disk, whatever the operation and the state (`DurableOwner`: a non-ephemeral topic / channel of
that name exists) -/
theorem ephemeral_no_disk (s : St) (o : Op) (b : BName) (hb : b ∈ (step s o).1.files) :
    b ∈ s.files ∨ DurableOwner s b := by
  have chanFile : ∀ {t c : String} {C : Chan}, getChan s t c = some C →
      b ∈ (if C.putWrites s.memCap then addFile s.files (t, some c) else s.files) →
      b ∈ s.files ∨ DurableOwner s b := by
    intro t c C hC hb'
    rcases mem_addFile_if hb' with h | ⟨hw, rfl⟩
    · exact Or.inl h
    · obtain ⟨T, hT, hn, hCm, hcn⟩ := getChan_mem hC
      simp [Chan.putWrites] at hw
      exact Or.inr ⟨T, hT, hn, C, hCm, hcn, hw.2⟩
  -- only `pub`, `pump`, `req` onto the queue and `release` add files
  revert hb
  fun_cases step s o
  all_goals intro hb
  case case26 t m T hT =>
    rcases mem_addFile_if (w := T.putWrites s.memCap) hb with h | ⟨hw, rfl⟩
    · exact Or.inl h
    · simp [Topic.putWrites] at hw
      exact Or.inr ⟨T, (getTopic_mem hT).1, (getTopic_mem hT).2, hw.2⟩
  case case29 t T hT _ =>
    rcases fanoutFiles_mem t s.memCap T.queue T.chans s.files b hb with h | ⟨C, hC, he, rfl⟩
    · exact Or.inl h
    · exact Or.inr ⟨T, (getTopic_mem hT).1, (getTopic_mem hT).2, C, hC, rfl, he⟩
  case case50 hC _ _ _ => exact chanFile hC hb
  case case53 hC _ _ _ => exact chanFile hC hb
  -- `deleteTopic`, `deleteChanBegin`, `deleteChanUnlink`, `emptyTopic`, `emptyChan`, `unsub` filter the files
  case case7 | case10 | case14 | case17 | case20 | case37 => exact Or.inl (List.mem_filter.mp hb).1
  all_goals exact Or.inl hb

/-- … and along any history from an empty daemon every backend that owns files was, at the moment
its first file was written, a durable topic or channel -/
theorem ephemeral_no_disk_history (cap : Nat) : ∀ (ops : List Op) (b : BName), b ∈ (run (init cap) ops).files →
    ∃ pre o post, ops = pre ++ o :: post ∧ DurableOwner (run (init cap) pre) b := by
  intro ops
  have gen : ∀ (ops : List Op) (s : St) (b : BName), b ∈ (run s ops).files → b ∈ s.files ∨
      ∃ pre o post, ops = pre ++ o :: post ∧ DurableOwner (run s pre) b := by
    intro ops
    induction ops with
    | nil => intro s b hb; exact Or.inl hb
    | cons o os ih =>
      intro s b hb
      rcases ih (step s o).1 b hb with h | ⟨pre, o', post, he, hd⟩
      · rcases ephemeral_no_disk s o b h with h1 | h1
        · exact Or.inl h1
        · exact Or.inr ⟨[], o, os, rfl, h1⟩
      · exact Or.inr ⟨o :: pre, o', post, by rw [he]; rfl, hd⟩
  intro b hb
  rcases gen ops (init cap) b hb with h | h
  · simp [init] at h
  · exact h

/-- **no delivery after discard**: once `Channel.Empty` has run, an id `x` that is not waiting in the
topic's own queue (it had been fanned out) nor in an orphaned disk queue is never accepted for delivery
on that channel again — whatever history follows (any operations on any objects, including deleting
and re-creating the channel or the topic), as long as `x` is not published to the topic again (ids
are fresh, C12) -/
theorem no_delivery_after_discard (s : St) (t c : String) (x : Nat) (C : Chan)
    (hC : getChan s t c = some C) (hx : C.exiting = false)
    (hq : ∀ T ∈ s.topics, T.name = t → ∀ m ∈ T.queue, m.id ≠ x)
    (ho : ∀ e ∈ s.orphans, ∀ m ∈ e.2, m.id ≠ x)
    (ops : List Op) (hno : ∀ o ∈ ops, NoPub o t x) (k : Nat) (fm : Bool) :
    (step (run (step s (.emptyChan t c)).1 ops) (.deliver t c k fm x)).2 ≠ Ans.ok := by
  apply deliver_absent
  apply absent_run ops _ t c x _ hno
  rw [step_emptyChan hC hx]
  exact absent_after_clear s t c x Chan.empty (fun _ => rfl) hq ho

/-- the same after a delete (`Channel.Delete()`, then the unlink, then anything — e.g. re-creation) -/
theorem no_delivery_after_delete (s : St) (t c : String) (x : Nat) (C : Chan)
    (hC : getChan s t c = some C) (hx : C.exiting = false)
    (hq : ∀ T ∈ s.topics, T.name = t → ∀ m ∈ T.queue, m.id ≠ x)
    (ho : ∀ e ∈ s.orphans, ∀ m ∈ e.2, m.id ≠ x)
    (ops : List Op) (hno : ∀ o ∈ ops, NoPub o t x) (k : Nat) (fm : Bool) :
    (step (run (step s (.deleteChanBegin t c)).1 ops) (.deliver t c k fm x)).2 ≠ Ans.ok := by
  apply deliver_absent
  apply absent_run ops _ t c x _ hno
  rw [step_deleteChanBegin hC hx]
  exact absent_after_clear s t c x Chan.deleteBegin (fun _ => rfl) hq ho

/-- the unlink of a deleted channel decides the ephemeral topic's fate from the channels that are left
**at that moment**: none left → the topic goes (its once-only callback); otherwise the topic stays with
exactly the other channels.  (Replayed: corpus/C08/ephemeral_topic_*.sched; tie `delete_chan_calls`.) -/
theorem unlink_last_channel_deletes_ephemeral_topic (s : St) (t c : String) (T : Topic) (C : Chan)
    (hT : getTopic s t = some T) (hC : T.getChan c = some C) (hx : C.exiting = true) (he : T.eph = true) :
    ((T.chans.filter (fun X => X.name != c)).isEmpty = true →
        getTopic (step s (.deleteChanUnlink t c)).1 t = none) ∧
    ((T.chans.filter (fun X => X.name != c)).isEmpty = false →
        getTopic (step s (.deleteChanUnlink t c)).1 t = some (T.dropChan c)) := by
  rw [step_deleteChanUnlink hT hC hx, he, Bool.true_and]
  constructor
  · intro hl
    rw [if_pos hl]
    exact getTopic_filter_ne s t _ rfl
  · intro hl
    rw [if_neg (Bool.eq_false_iff.1 hl)]
    exact getTopic_modTopic (fun _ => rfl) hT

/-! ### non-vacuity: one concrete history exercises every hypothesis above -/

def m1 : Msg := { id := 11, ts := 5, attempts := 0, body := [1, 2] }
def m2 : Msg := { id := 12, ts := 6, attempts := 0, body := [] }

/-- topic `t` with durable `c` (consumer 7 holds m1 in flight, m2 queued on disk) and ephemeral `e#` (consumer 8) -/
def demo : St :=
  run (init 1) [.createTopic "t" false, .createChan "t" "c" false, .createChan "t" "e#" true,
    .sub "t" "c" 7, .sub "t" "e#" 8, .pub "t" m1, .pump "t", .pub "t" m2, .pump "t",
    .deliver "t" "c" 7 true 11]

example : (getChan demo "t" "c").map (fun C => (C.located.map (·.id), C.clients, C.diskLen, C.exiting)) =
    some ([12, 11], [{ id := 7, inFlight := 1 }], 1, false) := by decide +kernel
example : ("t", some "c") ∈ demo.files ∧ ("t", some "e#") ∉ demo.files := by decide +kernel
example : (getChan (deleteChan demo "t" "c") "t" "c") = none ∧ 7 ∈ (deleteChan demo "t" "c").closed ∧
    ("t", some "c") ∉ (deleteChan demo "t" "c").files := by decide +kernel
example : (getChan (step demo (.emptyChan "t" "c")).1 "t" "c").map (fun C => (C.located, C.clients)) =
    some ([], [{ id := 7, inFlight := 0 }]) := by decide +kernel
example : (getChan (step demo (.unsub "t" "e#" 8)).1 "t" "e#").map (·.exiting) = some true ∧
    (step demo (.unsub "t" "e#" 8)).1.autoDeleted = [("t", "e#")] := by decide +kernel
example : persisted demo = [("t", false, [("c", false)])] := by decide +kernel
example : (getTopic (step demo (.deleteTopic "t")).1 "t") = none ∧
    (step demo (.deleteTopic "t")).1.closed = [7, 8] ∧ (step demo (.deleteTopic "t")).1.files = [] := by decide +kernel

/-- non-vacuity: in `demo` id 11 is in flight on t:c, the topic queue is empty, no orphans -/
example : (step demo (.deliver "t" "c" 7 false 12)).2 = Ans.ok ∧
    (step (run (step demo (.emptyChan "t" "c")).1 [.pub "t" m2, .pump "t", .deleteChanBegin "t" "c", .deleteChanUnlink "t" "c",
      .createChan "t" "c" false, .sub "t" "c" 9]) (.deliver "t" "c" 9 true 11)).2 = Ans.notAllowed := by decide +kernel

/-- both interleavings of deleting the last two channels of an ephemeral topic end without the topic; a
channel created while the last one is going away keeps the topic -/
example :
    let s0 := run (init 2) [.createTopic "e#" true, .createChan "e#" "a" false, .createChan "e#" "b" false]
    getTopic (run s0 [.deleteChanBegin "e#" "a", .deleteChanBegin "e#" "b", .deleteChanUnlink "e#" "a", .deleteChanUnlink "e#" "b"]) "e#" = none ∧
    getTopic (run s0 [.deleteChanBegin "e#" "a", .deleteChanBegin "e#" "b", .deleteChanUnlink "e#" "b", .deleteChanUnlink "e#" "a"]) "e#" = none ∧
    (getTopic (run s0 [.deleteChanBegin "e#" "a", .deleteChanUnlink "e#" "a", .deleteChanBegin "e#" "b", .createChan "e#" "c" false,
        .deleteChanUnlink "e#" "b"]) "e#").map (fun T => T.chans.map (·.name)) = some ["c"] := by decide +kernel

end atomic

end Nsq.Props.C08
