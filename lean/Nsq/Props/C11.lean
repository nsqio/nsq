import Nsq.Proofs.Gate
/-!
# C11 — TLS-required and AUTH policies cannot be bypassed

Property theorems only (helper lemmas: `Nsq.Proofs.Gate`; the model: `Nsq.Model.Gate`; its tie to
the source: `Nsq.Tie.Gate` (regenerated order-of-statements facts) and the correspondence harness
`harness/gate/gate_test.go`).

Every theorem holds for every configuration `cfg`, every regular-expression engine `M`
(`compiles`, `isMatch` arbitrary), every behaviour `E` of FIN/REQ/TOUCH, every auth-server behaviour
`ans` (an arbitrary function of the request, which may be a different function at every step of a
history: errors, changes of mind, empty grants), every clock reading `now` (no monotonicity), every
broker content and every interleaved interference by the environment (`Ev.env`).
-/
namespace Nsq.Props.C11
open Nsq.Model.Gate Nsq.Proofs.Gate

/-! ## 1. TLS gate -/

/-- `tls_gate` (one command): with TLS required, on a connection that has not completed a TLS
handshake every command other than IDENTIFY is answered by the fatal `E_INVALID`, the connection is
closed, nothing is asked of the auth server, and neither the broker nor the connection changes. -/
theorem tls_gate (E : Ext) (cfg : Config) (M : Matcher) (ans : Request → Option Resp) (now : Int)
    (c : Conn) (b : Broker) (cmd : Cmd)
    (hreq : cfg.tlsRequired ≠ .no) (htls : c.tls = false) (hopen : c.closed = false)
    (hcmd : cmd.isIdentify = false) :
    step E cfg M ans now c b cmd =
      { conn := c, broker := b, replies := [.err "E_INVALID" true], close := true, query := none } := by
  rw [step_open hopen, exec_tls_blocked (by simp [tlsBlocked, hreq, htls]) hcmd]; rfl

example : (step exE (exCfg .yes .none false) exM exDown 0 (Conn.fresh 1) [] (.pub ["t"] 3)).replies =
    [.err "E_INVALID" true] := by decide +kernel
example : (step exE (exCfg .exceptHTTP .none false) exM exDown 0 (Conn.fresh 1) [] .nop).close = true := by decide +kernel
/-- (without the requirement the same command goes through) -/
example : (step exE (exCfg .no .none false) exM exDown 0 (Conn.fresh 1) [] (.pub ["t"] 3)).replies = [.ok] := by decide +kernel

/-- `tls_only_by_handshake`: the TLS flag of a connection goes from false to true only inside an
IDENTIFY issued in the initial state that negotiates features, asks for `tls_v1`, on a server
that has a TLS configuration, and whose handshake the server side completed (under the configured
client-certificate policy); the reply sequence is then the negotiation JSON followed by `OK`. -/
theorem tls_only_by_handshake (E : Ext) (cfg : Config) (M : Matcher) (ans : Request → Option Resp)
    (now : Int) (c : Conn) (b : Broker) (cmd : Cmd)
    (hbefore : c.tls = false) (hafter : (after (step E cfg M ans now c b cmd)).conn.tls = true) :
    ∃ d, cmd = .identify d ∧ c.state = .init ∧ d.featureNegotiation = true ∧ d.tlsv1 = true ∧
      cfg.hasTls = true ∧ (∃ cn, handshake cfg.certPolicy d.cert = some cn) ∧
      (step E cfg M ans now c b cmd).replies = [.identify true cfg.authEnabled, .ok] := by
  rw [after_conn] at hafter
  rcases (step_effect E cfg M ans now c b cmd).link with ⟨ht, _⟩ | ⟨d, hd, _, _, hu⟩
  · rw [ht, hbefore] at hafter; cases hafter
  · exact ⟨d, hd, hu⟩

example : (after (step exE (exCfg .yes .require true) exM exDown 0 (Conn.fresh 1) []
    (exIdentify (.untrusted "cn")))).conn.tls = true := by decide +kernel
example : (after (step exE (exCfg .yes .requireVerify true) exM exDown 0 (Conn.fresh 1) []
    (exIdentify (.untrusted "cn")))).conn.tls = false := by decide +kernel

/-- `client_cert_gate`: what the handshake demands of the client under each policy. -/
theorem client_cert_gate (cert : ClientCert) (cn : String) :
    (handshake .requireVerify cert = some cn → cert = .trusted cn) ∧
    (handshake .require cert = some cn → cert = .trusted cn ∨ cert = .untrusted cn) ∧
    (handshake .none cert = some cn → cert ≠ .noHandshake ∧ cn = "") := by
  cases cert <;> simp [handshake] <;> intro h <;> exact h.symm

/-- `flags_have_causes`: in every history of a fresh connection the three facts the gates read
each have exactly one possible cause earlier in the same history — the TLS flag a completed
handshake inside IDENTIFY, held authorizations a successful AUTH, a non-initial state an accepted
SUB. (The oracle of the correspondence harness, `harness/gate/gate_test.go`, evaluates exactly these three
implications on the traces of the real server.) -/
theorem flags_have_causes (E : Ext) (cfg : Config) (M : Matcher) (id : Nat) (b0 : Broker)
    (evs : List Ev) (pre : List Rec) (r : Rec) (post : List Rec)
    (h : trace E cfg M { conn := Conn.fresh id, broker := b0 } evs = pre ++ r :: post) :
    (r.pre.conn.tls = true → ∃ q ∈ pre, IsTlsUpgrade cfg q) ∧
    (hasAuthorizations r.pre.conn = true → ∃ q ∈ pre, IsAuthSuccess q) ∧
    (r.pre.conn.state ≠ .init → ∃ q ∈ pre, IsSubSuccess q) :=
  ⟨fun ht => ((caused h).tls ht).2, (caused h).auth, fun ht => ((caused h).state ht).1⟩

/-- `tls_gate_history`: in every history of a connection that started without TLS, under a
TLS-required configuration, a command other than IDENTIFY can change the broker only if (1) an
earlier IDENTIFY of the same history completed a TLS handshake, **and** (2) the bytes of that
command were received by the reader that is current at that moment, which is not the plaintext
reader (`rd ≠ 0`): they came out of the decrypted stream. Bytes that crossed the wire in the clear
— even if they were already sitting in the server's buffer when the handshake started — are never
executed with an effect. -/
theorem tls_gate_history (E : Ext) (cfg : Config) (M : Matcher) (id : Nat) (b0 : Broker)
    (evs : List Ev) (pre : List Rec) (r : Rec) (post : List Rec)
    (h : trace E cfg M { conn := Conn.fresh id, broker := b0 } evs = pre ++ r :: post)
    (hreq : cfg.tlsRequired ≠ .no)
    (rd : Nat) (now : Int) (ans : Request → Option Resp) (cmd : Cmd)
    (hev : r.ev = .cmd rd now ans cmd) (hcmd : cmd.isIdentify = false)
    (heff : r.res.broker ≠ r.pre.broker) :
    (∃ q ∈ pre, IsTlsUpgrade cfg q) ∧ rd = r.pre.conn.rd ∧ rd ≠ 0 := by
  obtain ⟨hrd, L⟩ := effect_licensed h hev heff
  obtain ⟨h0, hu⟩ := (caused h).tls (L.tls hreq)
  exact ⟨hu, hrd, hrd ▸ h0⟩

/-- `plaintext_bytes_never_executed`: with TLS required, a command line (other than IDENTIFY) whose
bytes were received in the clear (`rd = 0`: before any handshake, whenever it is that the server
gets round to them) has no effect on the broker and is never answered with success: it is either
answered by the fatal `E_INVALID` of the TLS gate, or — if a handshake has replaced the reader in
the meantime, or the connection is gone — it is not answered at all: the plaintext reader's
leftover buffer is discarded, not replayed into the TLS session. -/
theorem plaintext_bytes_never_executed (E : Ext) (cfg : Config) (M : Matcher) (id : Nat) (b0 : Broker)
    (evs : List Ev) (pre : List Rec) (r : Rec) (post : List Rec)
    (h : trace E cfg M { conn := Conn.fresh id, broker := b0 } evs = pre ++ r :: post)
    (hreq : cfg.tlsRequired ≠ .no)
    (now : Int) (ans : Request → Option Resp) (cmd : Cmd)
    (hev : r.ev = .cmd 0 now ans cmd) (hcmd : cmd.isIdentify = false) :
    r.res.broker = r.pre.broker ∧ r.res.conn = r.pre.conn ∧ r.res.query = none ∧
    (r.res.replies = [] ∨ r.res.replies = [.err "E_INVALID" true]) := by
  rcases trace_cmd h hev with ⟨_, e⟩ | ⟨hrd, e⟩ <;> rw [e]
  · exact ⟨rfl, rfl, rfl, .inl rfl⟩
  have ht : r.pre.conn.tls = false := by
    cases ht : r.pre.conn.tls with
    | false => rfl
    | true => exact absurd hrd.symm ((caused h).tls ht).1
  cases hcl : r.pre.conn.closed with
  | true => rw [step_closed hcl]; exact ⟨rfl, rfl, rfl, .inl rfl⟩
  | false => rw [tls_gate E cfg M ans now _ _ cmd hreq ht hcl hcmd]; exact ⟨rfl, rfl, rfl, .inr rfl⟩

/-- the injection attempt: `PUB` sent in the clear right behind the TLS-negotiating IDENTIFY (it is
in the plaintext reader's buffer when the handshake runs), then a legitimate `PUB` inside TLS:
the injected one is dropped — no reply, no topic —, the legitimate one is executed. -/
example :
    ((trace exE (exCfg .yes .none false) exM { conn := Conn.fresh 3, broker := [] }
      [.cmd 0 0 exDown (exIdentify .noCert),
       .cmd 0 0 exDown (.pub ["injected"] 3),
       .cmd 1 0 exDown (.pub ["legit"] 3)]).map (fun r => (r.res.replies, r.post.broker.map (·.name)))) =
    [([.identify true false, .ok], []), ([], []), ([.ok], ["legit"])] := by decide +kernel
/-- without the upgrade the same plaintext line is read next and refused by the gate -/
example :
    ((trace exE (exCfg .yes .none false) exM { conn := Conn.fresh 3, broker := [] }
      [.cmd 0 0 exDown (.pub ["injected"] 3)]).map (fun r => r.res.replies)) =
    [[.err "E_INVALID" true]] := by decide +kernel

/-- `http_tls_gate`: a request on the plaintext HTTP listener is refused with 403 exactly when
`tls-required` is `true` (not for `tcp-https`); the TLS listener never refuses on these grounds. -/
theorem http_tls_gate (cfg : Config) :
    (httpGate cfg false = .forbidden403 ↔ cfg.tlsRequired = .yes) ∧ httpGate cfg true = .routed := by
  constructor
  · cases h : cfg.tlsRequired <;> simp [httpGate, serveHTTP, httpTlsRequired, h]
  · simp [httpGate, serveHTTP, httpTlsRequired]

/-- `tls_config`: the effective setting — a client-certificate policy forces `tls-required`, and a
TLS-required server always has a TLS configuration (otherwise `New` refuses to start). -/
theorem tls_config (o : Options) (cfg : Config) (h : mkConfig o = some cfg) :
    (cfg.tlsRequired ≠ .no ↔ (o.tlsRequired ≠ .no ∨ o.clientAuthPolicy ≠ "")) ∧
    (cfg.tlsRequired ≠ .no → cfg.hasTls = true) ∧
    (cfg.authEnabled = true ↔ o.authAddrs ≠ 0) := by
  unfold mkConfig at h
  split at h
  · simp at h
  · rename_i hn
    simp only [Option.some.injEq] at h
    subst h
    simp only []
    refine ⟨?_, ?_, by simp⟩
    · unfold effTlsRequired
      by_cases hp : o.clientAuthPolicy = "" <;> by_cases hr : o.tlsRequired = .no <;> simp [hp, hr]
    · intro hne
      cases hc : o.hasCert
      · exact absurd ⟨hc, hne⟩ hn
      · rfl

example : mkConfig (exOpts .no "require" true 1) = some (exCfg .yes .require true) := by decide +kernel
example : mkConfig (exOpts .exceptHTTP "" false 0) = none := by decide +kernel

/-! ## 2. AUTH gate -/

/-- `auth_gate` (one command): with an auth server configured, a PUB / MPUB / DPUB / SUB changes the
broker only if the connection holds authorizations and the grants in force at this instant — the
cached answer while `now ≤ expires`, otherwise the validated answer to the re-query made now —
allow the needed permission on that topic and channel. -/
theorem auth_gate (E : Ext) (cfg : Config) (M : Matcher) (ans : Request → Option Resp) (now : Int)
    (c : Conn) (b : Broker) (cmd : Cmd)
    (hg : cmd.isGated = true) (hauth : cfg.authEnabled = true)
    (heff : (step E cfg M ans now c b cmd).broker ≠ b) :
    hasAuthorizations c = true ∧
    ∃ g, inForce M ans now c = some g ∧ isAllowed M (subject cmd).1 (subject cmd).2 g = true :=
  (step_licensed heff).auth hg hauth

/-- `auth_gate_history`: over every command history of a connection (starting fresh), every
auth-server behaviour and every interference: a PUB / MPUB / DPUB / SUB has a broker effect at some
step only if a successful AUTH occurred at an earlier step of the same history and the grants in
force at that step allow it. -/
theorem auth_gate_history (E : Ext) (cfg : Config) (M : Matcher) (id : Nat) (b0 : Broker)
    (evs : List Ev) (pre : List Rec) (r : Rec) (post : List Rec)
    (h : trace E cfg M { conn := Conn.fresh id, broker := b0 } evs = pre ++ r :: post)
    (hauth : cfg.authEnabled = true)
    (rd : Nat) (now : Int) (ans : Request → Option Resp) (cmd : Cmd)
    (hev : r.ev = .cmd rd now ans cmd) (hg : cmd.isGated = true)
    (heff : r.res.broker ≠ r.pre.broker) :
    (∃ q ∈ pre, IsAuthSuccess q) ∧
    ∃ g, inForce M ans now r.pre.conn = some g ∧ isAllowed M (subject cmd).1 (subject cmd).2 g = true := by
  obtain ⟨ha, hg'⟩ := (effect_licensed h hev heff).2.auth hg hauth
  exact ⟨(caused h).auth ha, hg'⟩

/-- `requery_after_ttl`: when a PUB / MPUB / DPUB / SUB reaches the auth check (it is not rejected
for its arguments) on a connection holding a cached answer `a`: the auth server is asked again —
with the connection's TLS state, certificate name and AUTH secret — exactly when `a.expires < now`;
the answer it gives then replaces the cached one; an unexpired answer is used as it is, without a
query. -/
theorem requery_after_ttl (E : Ext) (cfg : Config) (M : Matcher) (ans : Request → Option Resp)
    (now : Int) (c : Conn) (b : Broker) (cmd : Cmd) (a : AuthState)
    (hg : cmd.isGated = true) (hauth : cfg.authEnabled = true)
    (hopen : c.closed = false) (hgate : tlsBlocked cfg c = false)
    (hca : c.auth = some a) (hne : a.grants.length ≠ 0)
    (hargs : ∀ code, ¬ authCode code → step E cfg M ans now c b cmd ≠ fatalRes c b code) :
    (step E cfg M ans now c b cmd).query = (if a.expires < now then some (requestOf c) else none) ∧
    (a.expires < now → ∀ a', validate M now (ans (requestOf c)) = some a' →
        (step E cfg M ans now c b cmd).conn.auth = some a') ∧
    (¬ a.expires < now → (step E cfg M ans now c b cmd).conn.auth = some a) := by
  rw [step_open hopen, exec_open hgate (isGated_not_identify hg)] at hargs ⊢
  have hqa : (dispatch E cfg M ans now c b cmd).query = (checkAuth cfg M ans now c (subject cmd).1 (subject cmd).2).query ∧
      (dispatch E cfg M ans now c b cmd).conn.auth = (checkAuth cfg M ans now c (subject cmd).1 (subject cmd).2).conn.auth := by
    rcases dispatch_gated_cases E cfg M ans now c b cmd hg with ⟨code, hnc, hr⟩ | ⟨code, _, hr⟩ | hp
    · exact absurd hr (hargs code hnc)
    · rw [hr]; exact ⟨rfl, rfl⟩
    · exact ⟨hp.2.1, hp.conn_auth⟩
  rw [hqa.1, hqa.2]
  exact checkAuth_requery cfg M ans now c _ _ a hauth hca hne

/-- non-vacuity of `auth_gate` / `requery_after_ttl`: a publish allowed by the cached grants goes
through without a query; past the TTL the server is asked again and its new answer decides. -/
example : (step exE (exCfg .no .none true) exM exDown 5 exAuthed [] (.pub ["orders"] 3)).broker =
    [{ name := "orders", msgs := [{ size := 3, deferNs := 0 }], chans := [] }] := by decide +kernel
example : (step exE (exCfg .no .none true) exM exDown 5 exAuthed [] (.pub ["orders"] 3)).query = none := by decide +kernel
example : (step exE (exCfg .no .none true) exM (exAns 60 exGrants) 11 exAuthed [] (.pub ["orders"] 3)).query =
    some { tls := false, cn := "", secret := "s" } := by decide +kernel
/-- the server changed its mind: the grant is gone after the TTL -/
example : (step exE (exCfg .no .none true) exM (exAns 60 []) 11 exAuthed [] (.pub ["orders"] 3)).replies =
    [.err "E_UNAUTHORIZED" true] := by decide +kernel
/-- … or is down: the stale cached grant is not used -/
example : (step exE (exCfg .no .none true) exM exDown 11 exAuthed [] (.pub ["orders"] 3)).replies =
    [.err "E_AUTH_FAILED" true] := by decide +kernel
/-- the boundary: at `now = expires` the cached answer still counts (`Expires.Before(now)` is strict) -/
example : (step exE (exCfg .no .none true) exM exDown 10 exAuthed [] (.pub ["orders"] 3)).replies = [.ok] := by decide +kernel
/-- grants differ per channel: `c0` may be subscribed, `c1` may not -/
example : (step exE (exCfg .no .none true) exM exDown 5 exAuthed [] (.sub ["orders", "c0"])).replies = [.ok] := by decide +kernel
example : (step exE (exCfg .no .none true) exM exDown 5 exAuthed [] (.sub ["orders", "c1"])).replies =
    [.err "E_UNAUTHORIZED" true] := by decide +kernel
example : (step exE (exCfg .no .none true) exM exDown 5 (Conn.fresh 1) [] (.sub ["orders", "c0"])).replies =
    [.err "E_AUTH_FIRST" true] := by decide +kernel

/-- `deny_no_trace`: if a PUB / MPUB / DPUB / SUB is answered with one of the auth denial codes, the
command has not touched the broker at all (the check precedes topic / channel creation and the
enqueue), nothing but the cached authorization changed on the connection, and after the connection
is torn down the topics, channels and messages are still exactly those from before. -/
theorem deny_no_trace (E : Ext) (cfg : Config) (M : Matcher) (ans : Request → Option Resp) (now : Int)
    (c : Conn) (b : Broker) (cmd : Cmd) (code : String) (fatal : Bool)
    (hg : cmd.isGated = true) (hcode : authCode code)
    (hrep : (step E cfg M ans now c b cmd).replies = [.err code fatal]) :
    (step E cfg M ans now c b cmd).broker = b ∧
    content (after (step E cfg M ans now c b cmd)).broker = content b := by
  have hb : (step E cfg M ans now c b cmd).broker = b := by
    rcases step_not_identify E cfg M ans now c b cmd (isGated_not_identify hg) with e | e | ⟨_, _, e⟩
    · rw [e]; rfl
    · rw [e]; rfl
    rw [e] at hrep ⊢
    rcases dispatch_gated_cases E cfg M ans now c b cmd hg with ⟨_, _, e⟩ | ⟨_, _, e⟩ | ⟨_, _, ⟨_, hr⟩ | ⟨_, code', hn, hr⟩⟩
    · rw [e]; rfl
    · rw [e]; rfl
    · rw [hr] at hrep; cases hrep
    · rw [hr] at hrep; cases hrep; exact absurd hcode hn
  exact ⟨hb, by rw [after_content, hb]⟩

/-- `deny_is_fatal`: a PUB / MPUB / DPUB / SUB that reaches the auth check (not rejected for TLS or
its arguments) and is not let through is answered with exactly one error frame, carrying the
documented code for the reason — `E_AUTH_FIRST` (no successful AUTH so far), `E_AUTH_FAILED` (the
cached answer expired and the re-query gave no valid answer), `E_UNAUTHORIZED` (the grants in force
do not allow it) — and the error is fatal: the connection is closed. -/
theorem deny_is_fatal (E : Ext) (cfg : Config) (M : Matcher) (ans : Request → Option Resp) (now : Int)
    (c : Conn) (b : Broker) (cmd : Cmd)
    (hg : cmd.isGated = true) (hauth : cfg.authEnabled = true)
    (hopen : c.closed = false) (hgate : tlsBlocked cfg c = false)
    (hargs : ∀ code, ¬ authCode code → step E cfg M ans now c b cmd ≠ fatalRes c b code) :
    let r := step E cfg M ans now c b cmd
    (hasAuthorizations c = false → r.replies = [.err "E_AUTH_FIRST" true] ∧ r.close = true) ∧
    (hasAuthorizations c = true → inForce M ans now c = none →
        r.replies = [.err "E_AUTH_FAILED" true] ∧ r.close = true) ∧
    (hasAuthorizations c = true → ∀ g, inForce M ans now c = some g →
        isAllowed M (subject cmd).1 (subject cmd).2 g = false →
        r.replies = [.err "E_UNAUTHORIZED" true] ∧ r.close = true) := by
  intro r
  have hr : r = dispatch E cfg M ans now c b cmd := by
    rw [← exec_open hgate (isGated_not_identify hg)]
    exact step_open hopen
  have key : ∀ code, (checkAuth cfg M ans now c (subject cmd).1 (subject cmd).2).deny = some code →
      r.replies = [.err code true] ∧ r.close = true := by
    intro code hd
    rcases dispatch_gated_cases E cfg M ans now c b cmd hg with ⟨code', hn, h'⟩ | ⟨code', hd', h'⟩ | ⟨hd', _⟩
    · exact absurd (hr.trans h') (hargs code' hn)
    · cases hd.symm.trans hd'
      rw [hr, h']; exact ⟨rfl, rfl⟩
    · cases hd.symm.trans hd'
  have hd := checkAuth_deny cfg M ans now c (subject cmd).1 (subject cmd).2 hauth
  refine ⟨fun h0 => key _ ?_, fun h0 hf => key _ ?_, fun h0 g hf hal => key _ ?_⟩
  · rw [hd, if_pos h0]
  · rw [hd, if_neg (by simp [h0]), hf]
  · rw [hd, if_neg (by simp [h0]), hf]; simp [hal]

/-- a denial closes the connection: a publish to a topic outside the grants -/
example : (step exE (exCfg .no .none true) exM exDown 5 exAuthed [] (.pub ["other"] 3)).close = true := by decide +kernel

/-- `isAllowed_spec`: `State.IsAllowed(topic, channel)` holds iff some grant has the needed
permission — `subscribe` if a channel is named, `publish` otherwise —, its topic pattern matches the
topic and one of its channel patterns matches the channel. -/
theorem isAllowed_spec (M : Matcher) (topic channel : String) (gs : List Grant) :
    isAllowed M topic channel gs = true ↔
      ∃ g ∈ gs, (if channel ≠ "" then "subscribe" else "publish") ∈ g.perms ∧
        M.isMatch g.topic topic = true ∧ ∃ p ∈ g.channels, M.isMatch p channel = true := by
  induction gs with
  | nil => simp [isAllowed]
  | cons g gs ih =>
    rw [isAllowed]
    simp only [List.mem_cons, exists_eq_or_imp]
    rw [← ih, ← grantAllowed_iff]
    cases grantAllowed M g topic channel <;> simp

example : isAllowed exM "orders" "c0" exGrants = true ∧ isAllowed exM "orders" "c1" exGrants = false ∧
    isAllowed exM "orders" "" exGrants = true ∧ isAllowed exM "other" "" exGrants = false := by decide +kernel
/-- a grant without channel patterns allows nothing, not even publishing -/
example : isAllowed exM "orders" "" [{ topic := "orders", channels := [], perms := ["publish"] }] = false := by decide +kernel

/-! ## 3. AUTH itself -/

/-- `auth_command`: AUTH never touches the broker; it is refused when auth is not configured
(`E_AUTH_DISABLED`) and when authorizations are already held (`E_INVALID`, "AUTH already set"); when
it succeeds, the answer the auth server gave to *this* secret (with the connection's TLS state) is
what is cached, it has at least one grant, and it expires `ttl` after now. -/
theorem auth_command (E : Ext) (cfg : Config) (M : Matcher) (ans : Request → Option Resp) (now : Int)
    (c : Conn) (b : Broker) (args : List String) (size : Int) (secret : String) :
    let r := step E cfg M ans now c b (.auth args size secret)
    r.broker = b ∧
    (isAuthOk r.replies →
      cfg.authEnabled = true ∧ hasAuthorizations c = false ∧ r.close = false ∧
      r.query = some { tls := c.tls, cn := if c.tls then c.cn else "", secret := secret } ∧
      ∃ resp, ans { tls := c.tls, cn := if c.tls then c.cn else "", secret := secret } = some resp ∧
        resp.ttl > 0 ∧ resp.grants ≠ [] ∧ r.conn.secret = secret ∧
        r.conn.auth = some { grants := resp.grants, expires := now + resp.ttl, identity := resp.identity, url := resp.url }) := by
  intro r
  refine ⟨step_broker_eq rfl rfl, ?_⟩
  rcases step_not_identify E cfg M ans now c b (.auth args size secret) rfl with e | e | ⟨_, _, e⟩
  · rw [show r = _ from e]; exact fun ⟨_, _, _, h⟩ => nomatch h
  · rw [show r = _ from e]; exact fun ⟨_, _, _, h⟩ => nomatch h
  rw [show r = execAuth cfg M ans now c b args size secret from e]
  intro hok
  obtain ⟨h6, h5, a, hv, h0, e2⟩ := execAuth_ok hok
  obtain ⟨resp, hans, httl, rfl⟩ := validate_some hv
  rw [e2]
  exact ⟨h6, h5, rfl, rfl, resp, hans, httl, fun he => h0 (congrArg List.length he), rfl, rfl⟩

example : (step exE (exCfg .no .none true) exM (exAns 10 exGrants) 0 (Conn.fresh 7) [] (.auth [] 1 "s")).replies =
    [.auth "bob" "" 2] := by decide +kernel
example : (after (step exE (exCfg .no .none true) exM (exAns 10 exGrants) 0 (Conn.fresh 7) [] (.auth [] 1 "s"))).conn.auth =
    exAuthed.auth := by decide +kernel
example : (step exE (exCfg .no .none true) exM (exAns 10 []) 0 (Conn.fresh 7) [] (.auth [] 1 "s")).replies =
    [.err "E_UNAUTHORIZED" true] := by decide +kernel
example : (step exE (exCfg .no .none true) exM (exAns 0 exGrants) 0 (Conn.fresh 7) [] (.auth [] 1 "s")).replies =
    [.err "E_AUTH_FAILED" true] := by decide +kernel
example : (step exE (exCfg .no .none false) exM (exAns 10 exGrants) 0 (Conn.fresh 7) [] (.auth [] 1 "s")).replies =
    [.err "E_AUTH_DISABLED" true] := by decide +kernel
example : (step exE (exCfg .no .none true) exM (exAns 10 exGrants) 0 exAuthed [] (.auth [] 1 "s")).replies =
    [.err "E_INVALID" true] := by decide +kernel

/-- `auth_off_no_gate`: without an auth server configured `CheckAuth` lets everything through and
asks nobody (the property's AUTH clauses are conditional on "an auth server is configured"). -/
theorem auth_off_no_gate (cfg : Config) (M : Matcher) (ans : Request → Option Resp) (now : Int)
    (c : Conn) (t ch : String) (h : cfg.authEnabled = false) :
    checkAuth cfg M ans now c t ch = { conn := c, query := none, deny := none } := by
  simp [checkAuth, h]

/-! ## 4. no command at all gets around the gates -/

/-- `identify_no_broker_effect`: IDENTIFY — the one command in front of the TLS gate — and AUTH
never change the broker, whatever they answer. -/
theorem identify_no_broker_effect (E : Ext) (cfg : Config) (M : Matcher) (ans : Request → Option Resp)
    (now : Int) (c : Conn) (b : Broker) (d : IdentifyData) :
    (step E cfg M ans now c b (.identify d)).broker = b :=
  step_broker_eq rfl rfl

/-- `no_effect_before_auth`: on an auth-enabled server, in every history of a connection, *no*
command whatsoever — not only the four gated ones, also FIN / REQ / TOUCH whatever they do, and
every other or unknown command — changes the broker before a successful AUTH occurred earlier in
that history; and with TLS required, not before a completed TLS handshake either. -/
theorem no_effect_before_auth (E : Ext) (cfg : Config) (M : Matcher) (id : Nat) (b0 : Broker)
    (evs : List Ev) (pre : List Rec) (r : Rec) (post : List Rec)
    (h : trace E cfg M { conn := Conn.fresh id, broker := b0 } evs = pre ++ r :: post)
    (rd : Nat) (now : Int) (ans : Request → Option Resp) (cmd : Cmd)
    (hev : r.ev = .cmd rd now ans cmd) (heff : r.res.broker ≠ r.pre.broker) :
    (cfg.authEnabled = true → ∃ q ∈ pre, IsAuthSuccess q) ∧
    (cfg.tlsRequired ≠ .no → ∃ q ∈ pre, IsTlsUpgrade cfg q) := by
  have L := (effect_licensed h hev heff).2
  refine ⟨fun hauth => ?_, fun hreq => ((caused h).tls (L.tls hreq)).2⟩
  rcases L.kind with hg | ⟨_, hs⟩
  · exact (caused h).auth (L.auth hg hauth).1
  · exact ((caused h).state hs).2 hauth

/-- a complete session on a TLS-required, auth-enabled server: TLS, AUTH, an allowed publish, a change of the
broker by the environment, and past the TTL an allowed subscribe. -/
example :
    ((trace exE (exCfg .yes .none true) exM { conn := Conn.fresh 3, broker := [] }
      [.cmd 0 0 exDown (exIdentify .noCert),
       .cmd 1 0 (exAns 10 exGrants) (.auth [] 1 "s"),
       .cmd 1 5 exDown (.pub ["orders"] 3),
       .env [{ name := "orders", msgs := [{ size := 3, deferNs := 0 }], chans := [] }],
       .cmd 1 20 (exAns 10 exGrants) (.sub ["orders", "c0"])]).map (fun r => r.res.replies)) =
    [[.identify true true, .ok], [.auth "bob" "" 2], [.ok], [], [.ok]] := by decide +kernel

end Nsq.Props.C11
