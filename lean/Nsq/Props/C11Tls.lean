import Nsq.Props.C11
/-!
# C11 — the first clause read literally, and AUTH's error codes

The property's first clause says "when TLS is required, no command other than the IDENTIFY that
negotiates TLS is executed on a plaintext connection". `Props.C11.tls_gate` proves it for every
command that is not an IDENTIFY, and `tls_gate_history` reads "executed" as "changed the broker".
Read literally the clause is FALSE of the code (and of the model): IDENTIFY is dispatched in front
of `enforceTLSPolicy`, so an IDENTIFY that does NOT negotiate TLS is executed on the plaintext
connection — it is answered `OK` and changes the connection's own negotiation settings (here: the
heartbeat switch; in the field-by-field model `Nsq.Model.Identify` also output buffer, sample
rate, msg timeout, client metadata, and — second IDENTIFY — snappy / deflate). This module states
the literal clause with its counter-example and proves exactly what such an IDENTIFY can change.
-/
namespace Nsq.Props.C11Tls
open Nsq.Model.Gate Nsq.Proofs.Gate

/-- the IDENTIFY "that negotiates TLS" -/
def negotiatesTls (cmd : Cmd) : Prop :=
  ∃ d, cmd = .identify d ∧ d.bodyOk = true ∧ d.featureNegotiation = true ∧ d.tlsv1 = true

/-- The first clause as written: with TLS required, on a plaintext connection, every command other
than the IDENTIFY that negotiates TLS is refused without any effect. -/
def TlsClauseLiteral : Prop :=
  ∀ (E : Ext) (cfg : Config) (M : Matcher) (ans : Request → Option Resp) (now : Int)
    (c : Conn) (b : Broker) (cmd : Cmd),
    cfg.tlsRequired ≠ .no → c.tls = false → c.closed = false → ¬ negotiatesTls cmd →
    (step E cfg M ans now c b cmd).conn = c ∧ (step E cfg M ans now c b cmd).close = true

/-- FALSE: `IDENTIFY {"heartbeat_interval":-1}` without feature negotiation on a plaintext connection
of a `--tls-required` daemon is answered `OK`, the connection stays open and its heartbeat setting
has changed (witness replayed by corpus/C11/plain_identify_under_tls_required.ops). -/
theorem tls_clause_literal_false : ¬ TlsClauseLiteral := by
  intro h
  have := h exE (exCfg .yes .none false) exM exDown 0 (Conn.fresh 1) []
    (.identify { bodyOk := true, featureNegotiation := false, tlsv1 := false, hbOff := true, cert := .noCert })
    (by decide) rfl rfl (by
      rintro ⟨d, hd, _, hfn, _⟩
      injection hd with hd
      subst hd
      simp at hfn)
  exact absurd this.2 (by decide)

/-- What ANY IDENTIFY can do, on any connection under any policy (so in particular before TLS):
the broker is untouched, the auth server is not asked, and of the connection only the heartbeat
switch and — through a completed handshake — the TLS flag, the peer's common name and the reader
generation can differ afterwards; state, secret, authorizations, subscription are what they were. -/
theorem identify_effect_exact (E : Ext) (cfg : Config) (M : Matcher) (ans : Request → Option Resp) (now : Int)
    (c : Conn) (b : Broker) (d : IdentifyData) :
    let r := step E cfg M ans now c b (.identify d)
    r.broker = b ∧ r.query = none ∧
    r.conn = { c with hbOff := r.conn.hbOff, tls := r.conn.tls, cn := r.conn.cn, rd := r.conn.rd } ∧
    (r.conn.tls ≠ c.tls ∨ r.conn.cn ≠ c.cn ∨ r.conn.rd ≠ c.rd →
      d.bodyOk = true ∧ d.featureNegotiation = true ∧ d.tlsv1 = true ∧ cfg.hasTls = true ∧
      ∃ cn, handshake cfg.certPolicy d.cert = some cn) ∧
    (r.conn.hbOff ≠ c.hbOff → c.state = .init ∧ d.bodyOk = true ∧ r.conn.hbOff = hbAfter c d) := by
  intro r
  have same : ∀ {p : Prop}, c.tls ≠ c.tls ∨ c.cn ≠ c.cn ∨ c.rd ≠ c.rd → p :=
    fun h => by rcases h with h | h | h <;> exact absurd rfl h
  rcases step_cases E cfg M ans now c b (.identify d) with e | e <;> rw [show r = _ from e]
  · exact ⟨rfl, rfl, rfl, same, fun h => absurd rfl h⟩
  · rw [exec_identify]
    rcases execIdentify_cases cfg c b d with ⟨cn, h1, h2, h3, h4, h5, hh, e⟩ | ⟨_, _, e⟩ | ⟨h1, h2, _, _, e⟩ <;>
      rw [e]
    · exact ⟨rfl, rfl, rfl, fun _ => ⟨h2, h3, h5, h4, cn, hh⟩, fun _ => ⟨h1, h2, rfl⟩⟩
    · exact ⟨rfl, rfl, rfl, same, fun h => absurd rfl h⟩
    · exact ⟨rfl, rfl, rfl, same, fun _ => ⟨h1, h2, rfl⟩⟩

/-- The first clause, as far as it is true (*partial*: "executed" is weakened to "has an effect outside
the connection's own negotiation settings"): with TLS required, a command on a plaintext connection
never changes the broker, never asks the auth server, never changes the connection's state, secret,
authorizations or subscription; a command other than IDENTIFY changes nothing at all and is fatal. -/
theorem tls_clause_partial (E : Ext) (cfg : Config) (M : Matcher) (ans : Request → Option Resp) (now : Int)
    (c : Conn) (b : Broker) (cmd : Cmd)
    (hreq : cfg.tlsRequired ≠ .no) (htls : c.tls = false) (hopen : c.closed = false) :
    let r := step E cfg M ans now c b cmd
    r.broker = b ∧ r.query = none ∧
    r.conn.state = c.state ∧ r.conn.secret = c.secret ∧ r.conn.auth = c.auth ∧ r.conn.sub = c.sub ∧
    (cmd.isIdentify = false → r.conn = c ∧ r.replies = [.err "E_INVALID" true] ∧ r.close = true) := by
  intro r
  cases hc : cmd.isIdentify with
  | false =>
    simp only [r, C11.tls_gate E cfg M ans now c b cmd hreq htls hopen hc]
    simp
  | true =>
    cases cmd with
    | identify d =>
      obtain ⟨a1, a2, a3, _, _⟩ := identify_effect_exact E cfg M ans now c b d
      exact ⟨a1, a2, by rw [a3], by rw [a3], by rw [a3], by rw [a3], nofun⟩
    | _ => simp [Cmd.isIdentify] at hc

/-- the checks of `protocolV2.AUTH` in front of the query -/
def AuthGuards (cfg : Config) (c : Conn) (args : List String) (size : Int) : Prop :=
  c.state = .init ∧ args.length = 0 ∧ 0 < size ∧ size ≤ cfg.maxBodySize ∧ hasAuthorizations c = false

/-- AUTH's documented error codes, each with its exact cause (`C11.auth_command` speaks about
the success side only). For an open connection that is past the TLS gate. -/
theorem auth_error_codes (E : Ext) (cfg : Config) (M : Matcher) (ans : Request → Option Resp) (now : Int)
    (c : Conn) (b : Broker) (args : List String) (size : Int) (secret : String)
    (hopen : c.closed = false) (hgate : tlsBlocked cfg c = false) :
    let r := step E cfg M ans now c b (.auth args size secret)
    (r.replies = [.err "E_INVALID" true] ↔
      c.state ≠ .init ∨ args.length ≠ 0 ∨ (0 < size ∧ size ≤ cfg.maxBodySize ∧ hasAuthorizations c = true)) ∧
    (r.replies = [.err "E_BAD_BODY" true] ↔
      c.state = .init ∧ args.length = 0 ∧ (size > cfg.maxBodySize ∨ size ≤ 0)) ∧
    (r.replies = [.err "E_AUTH_DISABLED" true] ↔ AuthGuards cfg c args size ∧ cfg.authEnabled = false) ∧
    (r.replies = [.err "E_AUTH_FAILED" true] ↔ AuthGuards cfg c args size ∧ cfg.authEnabled = true ∧
      validate M now (ans (requestOf { c with secret := secret })) = none) ∧
    (r.replies = [.err "E_UNAUTHORIZED" true] ↔ AuthGuards cfg c args size ∧ cfg.authEnabled = true ∧
      ∃ a, validate M now (ans (requestOf { c with secret := secret })) = some a ∧ a.grants.length = 0) ∧
    (∀ code f, r.replies = [.err code f] → f = true ∧ r.close = true) := by
  intro r
  rw [show r = execAuth cfg M ans now c b args size secret from
    (step_open hopen).trans (exec_open hgate rfl)]
  -- the guards of `execAuth` in its order; under those passed so far `simp` evaluates the reply and the six right sides
  unfold execAuth AuthGuards
  by_cases h1 : c.state ≠ .init
  · simp [h1, fatalRes]
  by_cases h2 : args.length ≠ 0
  · simp [h1, h2, fatalRes]
  have e1 : c.state = .init := by simpa using h1
  have e2 : args = [] := by simpa using h2
  by_cases h3 : size > cfg.maxBodySize
  · simp [e1, e2, h3, Int.not_le.2 h3, fatalRes]
  by_cases h4 : size ≤ 0
  · simp [e1, e2, h4, Int.not_lt.2 h4, fatalRes]
  have h3' : size ≤ cfg.maxBodySize := by omega
  have h4' : 0 < size := by omega
  by_cases h5 : hasAuthorizations c = true
  · simp [e1, e2, h3, h4, h3', h4', h5, fatalRes]
  by_cases h6 : cfg.authEnabled = false
  · simp [e1, e2, h3, h4, h3', h4', h5, h6, fatalRes]
  cases hv : validate M now (ans (requestOf { c with secret := secret })) with
  | none => simp [e1, e2, h3, h4, h3', h4', h5, h6]
  | some a =>
    by_cases hl : a.grants.length = 0
    · have hl' : a.grants = [] := List.length_eq_zero_iff.mp hl
      simp [e1, e2, h3, h4, h3', h4', h5, h6, hl']
    · have hl' : a.grants ≠ [] := fun h => hl (by simp [h])
      simp [e1, e2, h3, h4, h3', h4', h5, h6, hl, hl']

/-- the witness of `tls_clause_literal_false`: answered OK, stays open, heartbeat switch changed -/
example : (step exE (exCfg .yes .none false) exM exDown 0 (Conn.fresh 1) []
    (.identify { bodyOk := true, featureNegotiation := false, tlsv1 := false, hbOff := true, cert := .noCert })).replies = [.ok] ∧
    (step exE (exCfg .yes .none false) exM exDown 0 (Conn.fresh 1) []
    (.identify { bodyOk := true, featureNegotiation := false, tlsv1 := false, hbOff := true, cert := .noCert })).conn.hbOff = true := by decide +kernel
/-- heartbeats disabled, then re-enabled by a positive interval: SUB is accepted again -/
example : hbAfter { Conn.fresh 1 with hbOff := true } { bodyOk := true, featureNegotiation := false, tlsv1 := false, hbOff := false, hbOn := true, cert := .noCert } = false ∧
    hbAfter { Conn.fresh 1 with hbOff := true } { bodyOk := true, featureNegotiation := false, tlsv1 := false, hbOff := false, cert := .noCert } = true := by decide +kernel
/-- `tls_clause_partial` is not vacuous: a PUB on a plaintext connection under tls-required -/
example : (step exE (exCfg .yes .none false) exM exDown 0 (Conn.fresh 1) [] (.pub ["t"] 3)).replies = [.err "E_INVALID" true] := by decide +kernel
/-- `auth_error_codes`: the five codes on concrete inputs -/
example : (step exE (exCfg .no .none true) exM (exAns 10 exGrants) 0 (Conn.fresh 7) [] (.auth ["x"] 1 "s")).replies = [.err "E_INVALID" true] ∧
    (step exE (exCfg .no .none true) exM (exAns 10 exGrants) 0 (Conn.fresh 7) [] (.auth [] 0 "s")).replies = [.err "E_BAD_BODY" true] ∧
    (step exE (exCfg .no .none false) exM (exAns 10 exGrants) 0 (Conn.fresh 7) [] (.auth [] 1 "s")).replies = [.err "E_AUTH_DISABLED" true] ∧
    (step exE (exCfg .no .none true) exM exDown 0 (Conn.fresh 7) [] (.auth [] 1 "s")).replies = [.err "E_AUTH_FAILED" true] ∧
    (step exE (exCfg .no .none true) exM (exAns 10 []) 0 (Conn.fresh 7) [] (.auth [] 1 "s")).replies = [.err "E_UNAUTHORIZED" true] := by decide +kernel
/-- `hgate` of `auth_error_codes` holds of these inputs -/
example : tlsBlocked (exCfg .no .none true) (Conn.fresh 7) = false := by decide +kernel

end Nsq.Props.C11Tls
