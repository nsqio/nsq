import Nsq.Proofs.HttpConc
import Nsq.Proofs.HttpApi
/-!
# C10 — concurrently served requests (seeded defect C10-m9)

"Every HTTP request gets a well-formed response with the documented status … for every history": a history
may answer several requests at the same time. In `HttpFull.serve` the answer is a function of (options,
health, broker, request), so the model cannot express one request's answer being damaged by another — and
the correspondence legs serve one request at a time. What is **assumed** there is made explicit here:

* `Nsq.Model.HttpConc`: histories of micro steps `encode i` (handler + rendering) / `write i` (status and
  body to the client); between the two a request keeps its rendered answer in the slot `slot i`.
* **Hypothesis** `inj`: different requests use different slots (the encoded answer is request-local — a fresh
  `[]byte` from `json.Marshal`). Under it, `concurrent_answers_own` / `concurrent_equals_alone` hold for every
  schedule. Without it they are false: `pooled_slot_full_false` (one pooled buffer; the witness is the
  seeded defect: `/info` parked between encode and write while a 404 is served receives the 404's body).
* The hypothesis is tied to the code by `Nsq.Tie.HttpShared` (regenerated: `internal/http_api` and the
  handlers of nsqd/http.go refer to no mutable package-level variable — no pool, buffer, map or slice that a
  function writes) and by the concurrency leg of the check (`harness/e3/concur_core.go.tmpl`,
  `concur_nsqd_test.go`: oracle "the answer received = the answer served alone", deterministic parked-writer
  pairs over all request kinds, concurrent `ServeHTTP`, keep-alive clients on the real listener).
  Neither is a proof that the Go code is free of shared state below the package level (e.g. inside
  `encoding/json` or `net/http`): those are trusted.
-/
namespace Nsq.Props.C10Conc
open Nsq.Model.HttpConc Nsq.Model.HttpFull Nsq.Model.HttpApi Nsq.Model.ProtoV2 Nsq.Model.Names Nsq.Model
open Nsq.Proofs.HttpConc Nsq.Proofs.HttpApi

/-- With request-local slots, whatever the interleaving of the encode / write steps of any number of
requests: what client `i` receives is `serve` of request `i` on one of the broker states the history went
through — never (a piece of) another request's answer. -/
theorem concurrent_answers_own (hc : HConf) (healthy : Bool) (reqs : List Request) (slot : Nat → Nat)
    (inj : ∀ i j, slot i = slot j → i = j) (b0 : Broker) (sched : List CStep) :
    ∀ p ∈ (run hc healthy reqs slot b0 sched).out,
      ∃ rq b, reqs[p.1]? = some rq ∧ b ∈ (run hc healthy reqs slot b0 sched).seen ∧
        p.2 = (HttpFull.serve hc healthy b rq).1 :=
  (inv_run hc healthy reqs slot inj sched (init b0) (inv_init hc healthy reqs slot b0)).out

/-- the statement the concurrency leg checks on the real server -/
def OwnAnswers (slot : Nat → Nat) : Prop :=
  ∀ (hc : HConf) (healthy : Bool) (reqs : List Request) (b0 : Broker) (sched : List CStep),
    ReadOnly hc healthy b0 reqs →
    ∀ p ∈ (run hc healthy reqs slot b0 sched).out,
      ∃ rq, reqs[p.1]? = some rq ∧ p.2 = (HttpFull.serve hc healthy b0 rq).1

/-- Requests that leave the broker as it is (the leg's request list: GETs, every error answer, idempotent
creations): each client receives exactly the answer its request gets when it is served alone. -/
theorem concurrent_equals_alone (slot : Nat → Nat) (inj : ∀ i j, slot i = slot j → i = j) : OwnAnswers slot := by
  intro hc healthy reqs b0 sched ro p hp
  obtain ⟨rq, b, h1, h2, h3⟩ := concurrent_answers_own hc healthy reqs slot inj b0 sched p hp
  have hs := still_run hc healthy reqs slot b0 ro sched (init b0) ⟨rfl, by simp [init]⟩
  have hb : b = b0 := hs.seen b h2
  exact ⟨rq, h1, by rw [h3, hb]⟩

theorem serve_info : HttpFull.serve Examples.hconf true [] ⟨ascii "GET", ascii "/info", [], 0, []⟩ =
    (⟨.s200, true, true, .json .info⟩, []) := by decide +kernel

theorem serve_unknown_path : HttpFull.serve Examples.hconf true [] ⟨ascii "GET", ascii "/no/such/path", [], 0, []⟩ =
    (⟨.notFoundOrRedirect, true, true, .errJson "NOT_FOUND"⟩, []) := by decide +kernel

theorem witness_readOnly : ReadOnly Examples.hconf true []
    [⟨ascii "GET", ascii "/info", [], 0, []⟩, ⟨ascii "GET", ascii "/no/such/path", [], 0, []⟩] := by
  intro rq h
  simp only [List.mem_cons, List.not_mem_nil, or_false] at h
  rcases h with rfl | rfl
  · rw [serve_info]
  · rw [serve_unknown_path]

/-- Without the hypothesis the statement is false: one shared (pooled) slot. `GET /info` encodes, a request
for an unknown path encodes into the same buffer, then `/info`'s write delivers `{"message":"NOT_FOUND"}`
under `/info`'s status line. This is the seeded defect C10-m9. -/
theorem pooled_slot_full_false : ¬ OwnAnswers (fun _ => 0) := by
  intro h
  obtain ⟨rq, hrq, hw⟩ := h Examples.hconf true _ [] [.encode 0, .encode 1, .write 0] witness_readOnly
    (0, ⟨.notFoundOrRedirect, true, true, .errJson "NOT_FOUND"⟩)
    (by rw [run_two_shared _ rfl serve_info serve_unknown_path]; exact List.mem_singleton.mpr rfl)
  cases hrq
  rw [serve_info] at hw
  cases hw

/-! Non-vacuity: the hypotheses are satisfiable (`id` is injective; the two requests are read-only), the
history below delivers both answers, each its own, in the order opposite to the encodes. -/
example : (run Examples.hconf true
    [⟨ascii "GET", ascii "/info", [], 0, []⟩, ⟨ascii "GET", ascii "/no/such/path", [], 0, []⟩] id []
    [.encode 0, .encode 1, .write 0, .write 1]).out =
    [(1, ⟨.notFoundOrRedirect, true, true, .errJson "NOT_FOUND"⟩), (0, ⟨.s200, true, true, .json .info⟩)] :=
  run_two_own id (by decide) serve_info serve_unknown_path
example : ReadOnly Examples.hconf true []
    [⟨ascii "GET", ascii "/info", [], 0, []⟩, ⟨ascii "GET", ascii "/no/such/path", [], 0, []⟩] := witness_readOnly
/-- the same history with the pooled slot: client 0 receives client 1's answer -/
example : (run Examples.hconf true
    [⟨ascii "GET", ascii "/info", [], 0, []⟩, ⟨ascii "GET", ascii "/no/such/path", [], 0, []⟩] (fun _ => 0) []
    [.encode 0, .encode 1, .write 0]).out = [(0, ⟨.notFoundOrRedirect, true, true, .errJson "NOT_FOUND"⟩)] :=
  run_two_shared _ rfl serve_info serve_unknown_path
/-- a history in which the broker changes between two encodes (`/topic/create` in between): `/stats` is answered
on one of the two states — `concurrent_answers_own` says which states are possible, not which one -/
example : ((run Examples.hconf true
    [⟨ascii "GET", ascii "/stats", ascii "format=json", 0, []⟩, ⟨ascii "POST", ascii "/topic/create", ascii "topic=t", 0, []⟩] id []
    [.encode 1, .encode 0, .write 0, .write 1]).out.map (fun p => (p.1, p.2.status))) = [(1, .s200), (0, .s200)] := by decide +kernel

end Nsq.Props.C10Conc
