/-
C03 — the output-buffer clause: "Only messages already written to the connection's output buffer
when a RDY decrease, CLS or pause takes effect may still arrive (within the output-buffer timeout);
nothing newer is sent."  Model: `Nsq.Model.Pump` (one connection's `messagePump` at loop-iteration
granularity with `flushed`, `flusherChan`, the one-shot `SubEventChan` / `IdentifyEventChan`, the
heartbeat, the `sample_rate` draw, `ReadyStateChan`, and the bufio writer / socket of the
connection, shared with the IOLoop's responses).

"Takes effect" = the pump's next evaluation of `IsReadyForMessages` at the head of its loop (`top`);
between the change of the atomics and that evaluation at most ONE message can still be received
(`one_recv_per_guard`; the overshoot of `Nsq.Props.C03.overshoot_le_one`).
All theorems: every reachable state (`Reachable` = any op list from the initial pump state; steps of
the IOLoop and of whoever changes RDY / in-flight count / pause interleave freely).
-/
import Nsq.Proofs.Pump
namespace Nsq.Props.C03Pump
open Nsq.Model.Pump Nsq.Proofs.Pump

def Reachable (s : PState) : Prop := ∃ ops, s = run {} ops

theorem reachable_inv {s : PState} (h : Reachable s) : PInv s := by
  obtain ⟨ops, rfl⟩ := h
  exact run_inv {} inv_init ops

/-- `flushed = true` really means "nothing buffered": the bufio writer is empty -/
theorem flushed_means_empty {s : PState} (h : Reachable s) (hf : s.flushed = true) : s.buf = [] :=
  (reachable_inv h).empty hf

/-- the stream of frames written on the connection is append-only: every step appends at most one
frame (`recv`: the next message; `heartbeat`; `respond`) and never drops, reorders or rewrites what was
written — flushing only moves the boundary between socket and buffer -/
theorem append_only (s : PState) (op : Op) : written (step s op).1 = written s ++ appended s op := by
  rw [appended_eq]
  fun_cases step s op
  case case3 | case8 => exact (flush_written s).trans (List.append_nil _).symm
  case case19 => exact (flush_written _).trans (written_push s .hb)
  case case22 => exact written_push s (.msg s.sent)
  case case29 => exact (flush_written _).trans (written_push s .resp)
  all_goals exact (List.append_nil _).symm

/-- a message is written only by a `recv` step, which needs the queue cases armed … -/
theorem recv_needs_armed (s : PState) (h : (step s .recv).2 = .ok) : s.inSelect = true ∧ s.qArmed = true :=
  ⟨(step_recv s h).1, (step_recv s h).2.1⟩

/-- … and they are armed only by an evaluation of the guard that found the consumer subscribed
and ready (`IsReadyForMessages`: not paused, RDY > 0, in flight < RDY) -/
theorem armed_iff_guard (s : PState) (h : (step s .top).2 = .ok) :
    (step s .top).1.qArmed = (s.sub && ready s) := by
  obtain ⟨hx, hs⟩ := top_ok h
  rw [top_eq hx hs]
  cases s.sub && ready s <;> rfl

/-- one message per guard evaluation: after a `recv` the pump is back at the head of its loop -/
theorem one_recv_per_guard (s : PState) (h : (step s .recv).2 = .ok) :
    (step (step s .recv).1 .recv).2 ≠ .ok := by
  obtain ⟨h1, h2⟩ := recv_needs_armed s h
  intro h'
  have := (recv_needs_armed _ h').1
  simp [step, h1, h2] at this

/-- **when the decrease takes effect**: the evaluation of the guard that finds "not ready"
(RDY 0 / CLS / RDY ≤ in flight / pause / not subscribed) switches the queue cases and the flusher
off and force-flushes: everything written before is on the socket, the buffer is empty -/
theorem not_ready_flushes_and_disarms (s : PState) (h : (step s .top).2 = .ok)
    (hg : (s.sub && ready s) = false) :
    (step s .top).1.qArmed = false ∧ (step s .top).1.fArmed = false ∧ (step s .top).1.buf = [] ∧
    (step s .top).1.wire.flatten = written s := by
  obtain ⟨hx, hs⟩ := top_ok h
  rw [top_eq hx hs, hg]
  exact ⟨rfl, rfl, flush_buf s, flush_wire s⟩

/-- **nothing newer is sent**: from a state in which the queue cases are off (e.g. right after
`not_ready_flushes_and_disarms`), along ANY continuation in which every evaluation of the guard
finds "not ready" — whatever else happens: responses, heartbeats, flusher ticks, identify, RDY /
pause changes that keep it not ready at those moments — no message frame is written: the message
frames on socket + buffer are exactly those from before -/
theorem nothing_newer (s : PState) (ops : List Op) (hd : Disarmed s) (hq : quietRun s ops) :
    (run s ops).sent = s.sent ∧
    (written (run s ops)).filter Frame.isMsg = (written s).filter Frame.isMsg := by
  induction ops generalizing s with
  | nil => exact ⟨rfl, rfl⟩
  | cons op ops ih =>
    obtain ⟨h1, h2, h3⟩ := quiet_step s hd op hq.1
    obtain ⟨r1, r2⟩ := ih _ h1 hq.2
    refine ⟨by show (run (step s op).1 ops).sent = _; rw [r1, h2], ?_⟩
    show (written (run (step s op).1 ops)).filter Frame.isMsg = _
    rw [r2, append_only, List.filter_append, h3, List.append_nil]

/-- **flushed by the next flusher tick or earlier**: a frame sitting in the buffer of a reachable
state is on the socket after the pump's next guard evaluation (not ready ⇒ forced flush), or the pump
sits in its `select` with the flusher case armed — then, if the output-buffer ticker runs
(`output_buffer_timeout` not disabled), its tick is accepted and puts the frame on the socket.
(Earlier flushes: any response / error frame of the IOLoop and the heartbeat flush too —
`respond_flushes`.) -/
theorem flushed_by_next_tick {s : PState} (h : Reachable s) {f : Frame} (hf : f ∈ s.buf) (hx : s.exited = false) :
    let s1 := if s.inSelect then s else (step s .top).1
    f ∈ s1.wire.flatten ∨
    (s1.inSelect = true ∧ s1.fArmed = true ∧ f ∈ s1.buf ∧
      (s1.tickOn = true → (step s1 .flushTick).2 = .ok ∧ f ∈ (step s1 .flushTick).1.wire.flatten ∧
        (step s1 .flushTick).1.buf = [])) := by
  intro s1
  have h1 : PInv s1 ∧ s1.inSelect = true ∧ f ∈ written s1 := by
    cases hs : s.inSelect
    · rw [show s1 = (step s .top).1 from if_neg (Bool.eq_false_iff.1 hs)]
      refine ⟨step_inv s (reachable_inv h) .top, ?_, ?_⟩
      · rw [top_eq hx hs]; split <;> rfl
      · rw [append_only]; exact List.mem_append_left _ (List.mem_append_right _ hf)
    · rw [show s1 = s from if_pos hs]
      exact ⟨reachable_inv h, hs, List.mem_append_right _ hf⟩
  obtain ⟨hi, hs, hw⟩ := h1
  refine (List.mem_append.1 hw).imp_right fun hb => ?_
  -- something is buffered in the `select`: the invariant says the flusher case is armed
  have ha := hi.armed hs (List.ne_nil_of_mem hb)
  refine ⟨hs, ha, hb, fun ht => ?_⟩
  simp only [step, hs, ha, ht, Bool.not_true, Bool.false_eq_true, ↓reduceIte, Bool.and_self, true_and]
  exact ⟨by rw [flush_wire]; exact List.mem_append_right _ hb, flush_buf s1⟩

/-- any response / error frame of the IOLoop flushes everything written before it, in order,
together with itself (one `Write`) -/
theorem respond_flushes (s : PState) :
    (step s .respond).1.buf = [] ∧ (step s .respond).1.wire.flatten = written s ++ [.resp] := by
  simp only [step]
  refine ⟨flush_buf _, ?_⟩
  rw [flush_wire]; simp [written]

/-- subscribe, RDY 2, one message received and buffered (in the select, flusher armed) -/
def ex1 : PState := run {} [.top, .subEvent, .setRdy 2, .top, .recv, .top]
example : Reachable ex1 := ⟨_, rfl⟩
example : ex1.buf = [.msg 0] ∧ ex1.wire = [] ∧ ex1.inSelect = true ∧ ex1.fArmed = true ∧ ex1.flushed = false := by decide +kernel
/-- the tick flushes it -/
example : (step ex1 .flushTick).1.wire = [[.msg 0]] ∧ (step ex1 .flushTick).1.buf = [] := by decide +kernel
/-- RDY 0 arrives while the message is buffered: the next guard evaluation force-flushes and disarms;
afterwards a publish cannot be received (`recv` rejected), responses still go out -/
def ex2 : PState := run ex1 [.readyState, .setRdy 0, .top]
example : ex2.wire = [[.msg 0]] ∧ ex2.buf = [] ∧ ex2.qArmed = false ∧ (step ex2 .recv).2 = .reject "queues-off" := by decide +kernel
example : Disarmed ex2 ∧ quietRun ex2 [.respond, .readyState, .top, .heartbeat, .top] := by
  refine ⟨fun _ => by decide, ?_⟩
  simp only [quietRun]
  decide +kernel
example : (written (run ex2 [.respond, .readyState, .top, .heartbeat, .top])).filter Frame.isMsg = [.msg 0] := by decide +kernel
/-- overshoot: the guard was evaluated true, RDY 0 arrives, the select still picks the queue: one
message, then the guard fails -/
example : (run {} [.top, .subEvent, .setRdy 1, .top, .setRdy 0, .recv]).sent = 1 ∧
    (step (run {} [.top, .subEvent, .setRdy 1, .top, .setRdy 0, .recv]) .recv).2 = .reject "not-in-select" := by decide +kernel
/-- `output_buffer_timeout` disabled (−1): the flusher is armed but never ticks; a response flushes -/
def ex3 : PState := run {} [.top, .identify false false 0, .top, .subEvent, .setRdy 5, .top, .recv, .top, .recv, .top]
example : ex3.buf = [.msg 0, .msg 1] ∧ (step ex3 .flushTick).2 = .reject "flusher-off" ∧
    (step ex3 .respond).1.wire = [[.msg 0, .msg 1, .resp]] := by decide +kernel
example :
    let s1 := if ex1.inSelect then ex1 else (step ex1 .top).1
    Frame.msg 0 ∈ s1.wire.flatten ∨
    (s1.inSelect = true ∧ s1.fArmed = true ∧ Frame.msg 0 ∈ s1.buf ∧
      (s1.tickOn = true → (step s1 .flushTick).2 = .ok ∧ Frame.msg 0 ∈ (step s1 .flushTick).1.wire.flatten ∧
        (step s1 .flushTick).1.buf = [])) :=
  flushed_by_next_tick ⟨_, rfl⟩ (by decide) (by decide)

end Nsq.Props.C03Pump
