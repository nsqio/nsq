import Nsq.Proofs.RegistryProto
import Nsq.Proofs.RegistryAdmin
import Nsq.Tie.Registry
import Nsq.Tie.RegistryProto
/-!
# C15 — nsqlookupd survives arbitrary input

Property theorems only (helpers: `Nsq.Proofs.RegistryProto`, `RegistryAdmin`). The model
`Nsq.Model.RegistryProto.handle v decode r p now inp` is everything one TCP connection `p` does
with an arbitrary byte stream `inp` on an arbitrary registry `r` (magic, `ReadString('\n')`,
`TrimSpace`, split on blanks, dispatch, `getTopicChan`, IDENTIFY size + body + required fields,
exit path); `decode` (encoding/json into `PeerInfo`) is an arbitrary function. `httpStep` is the
route table plus the handlers' argument checks. Tied to the code by `Nsq.Tie.RegistryProto` /
`Nsq.Tie.Registry` (regenerated facts: size check present, error sites and codes, command
words, route table) and by the hostile-stream / HTTP-sweep correspondence of harness/e4.
-/
namespace Nsq.Props.C15
open Nsq.Model.Registry Nsq.Model.Registry.AMap Nsq.Model.RegistryProto Nsq.Proofs.RegistryProto
open Nsq.Spec.RegistrySpec Nsq.Proofs.RegistryDB Nsq.Proofs.RegistryRefine Nsq.Proofs.RegistryMap Nsq.Proofs.RegistryAdmin

/-- "No byte sequence on the TCP port can crash nsqlookupd", for a given shape of IDENTIFY. -/
def lookup_no_panic_stmt (v : Variant) : Prop :=
  ∀ (decode : List UInt8 → Option Info) (wf : Nat → Bool) (r : Registry) (p : Nat) (now : Int) (inp : List UInt8),
    (handleW v decode wf r p now inp).fin ≠ .panic

/-- The code with fix F2 (size range check before `make`): no input panics. -/
theorem lookup_no_panic : lookup_no_panic_stmt fixedV :=
  fun decode wf r p now inp => handleW_fixed_no_panic decode wf r p now inp

/-- The code before fix F2: FALSE. Witness: magic, `IDENTIFY\n`, size `FF FF FF FF`
(13 bytes after the magic) reaches `make([]byte, -1)`; connection goroutines have no
`recover`, the process dies. -/
theorem lookup_no_panic_unfixed_false : ¬ lookup_no_panic_stmt unfixedV := by
  intro h
  exact h (fun _ => none) (fun _ => true) init 1 0 (magicV1 ++ cmdIDENTIFY ++ [10, 255, 255, 255, 255]) (by decide +kernel)

/-- non-vacuity: on the same witness the fixed code answers `E_BAD_BODY` and closes -/
example : (handle fixedV (fun _ => none) init 1 0 (magicV1 ++ cmdIDENTIFY ++ [10, 255, 255, 255, 255])).fin = .fatal := by
  decide +kernel

/-- Malformed input gets one of the documented errors, and every error ends the connection:
the replies a peer receives are successes (`OK` / the IDENTIFY response) followed — exactly when
the loop ended on an error — by one `E_INVALID / E_BAD_TOPIC / E_BAD_CHANNEL / E_BAD_BODY` reply
(unless the peer stopped reading: `wf`); a wrong magic gets `E_BAD_PROTOCOL` only; fewer than
four bytes get nothing. -/
theorem errors_documented (decode : List UInt8 → Option Info) (wf : Nat → Bool) (r : Registry) (p : Nat)
    (now : Int) (inp : List UInt8) :
    let res := handleW fixedV decode wf r p now inp
    (res.fin = .shortMagic ∧ res.replies = []) ∨
    (res.fin = .badMagic ∧ res.replies = [ascii "E_BAD_PROTOCOL"]) ∨
    ∃ oks, (∀ b ∈ oks, okReply b) ∧
      ((res.fin = .eof ∧ res.replies = oks) ∨
       (res.fin = .fatal ∧ ∃ e, errReply e ∧ (res.replies = oks ++ [e] ∨ res.replies = oks)) ∨
       (res.fin = .writeFail ∧ res.replies = oks)) := by
  intro res
  exact handleW_rec (fun res => (res.fin = .shortMagic ∧ res.replies = []) ∨
      (res.fin = .badMagic ∧ res.replies = [ascii "E_BAD_PROTOCOL"]) ∨ ReplyShape res [])
    (fun body => Or.inr (Or.inr (ioLoop_shape fixedV decode wf p now _ r body [] (ioLoop_fixed_no_panic decode wf p now _ r body []))))
    (Or.inr (Or.inl ⟨rfl, rfl⟩)) (Or.inl ⟨rfl, rfl⟩) inp

/-- non-vacuity: a stream with two good commands and a bad one -/
example : (handle fixedV (fun _ => none) init 1 0
    (magicV1 ++ cmdPING ++ [10] ++ cmdPING ++ [10] ++ [88, 10] ++ cmdPING ++ [10])).replies.length = 3 := by decide +kernel

/-- Nonsensical body sizes are refused (size ≤ 0 or above the limit): `E_BAD_BODY`, nothing read,
nothing changed. -/
theorem nonsense_size_refused (decode : List UInt8 → Option Info) (r : Registry) (p : Nat) (now : Int)
    (a b c d : UInt8) (body : List UInt8) (hi : identifiedB r p = false)
    (hs : be32 a b c d ≤ 0 ∨ be32 a b c d > maxIdentifyBody) :
    ∃ m, execIdentify fixedV decode r p now (a :: b :: c :: d :: body) = .reply r (.err .badBody m) body := by
  unfold execIdentify
  simp only [hi, Bool.false_eq_true, if_false, fixedV, Bool.true_and]
  by_cases h1 : be32 a b c d > maxIdentifyBody
  · refine ⟨ascii "IDENTIFY body too big " ++ intDec (be32 a b c d) ++ ascii " > " ++ intDec maxIdentifyBody, ?_⟩
    simp only [h1, decide_true, if_true]
  · have h2 : be32 a b c d ≤ 0 := by cases hs with
      | inl h => exact h
      | inr h => exact absurd h h1
    refine ⟨ascii "IDENTIFY invalid body size " ++ intDec (be32 a b c d), ?_⟩
    simp only [h1, h2, decide_true, decide_false, Bool.false_eq_true, if_true, if_false]

example : be32 255 255 255 255 ≤ 0 ∧ be32 127 255 255 255 > maxIdentifyBody ∧ be32 0 0 0 0 ≤ 0 := by decide +kernel

/-- The JSON decoder sees exactly the declared `bodyLen` bytes, and only white space may follow the
document: an IDENTIFY whose declared body has any other byte after the first JSON value is
refused with `E_BAD_BODY`, nothing is changed — and, accepted or not, the command loop continues
with the bytes AFTER the declared body (`body.drop n`): no byte of a body is ever read as a
command line. `value` (the parser of the first JSON value) is arbitrary. -/
theorem identify_trailing_garbage_refused (value : List UInt8 → Option (Info × Nat)) (r : Registry) (p : Nat)
    (now : Int) (a b c d : UInt8) (rest : List UInt8) (i : Info) (used : Nat)
    (hi : identifiedB r p = false)
    (hsz : 0 < be32 a b c d ∧ be32 a b c d ≤ maxIdentifyBody) (hlen : (be32 a b c d).toNat ≤ rest.length)
    (hv : value (rest.take (be32 a b c d).toNat) = some (i, used))
    (hg : ∃ x ∈ (rest.take (be32 a b c d).toNat).drop used, jsonWS x = false) :
    ∃ m, execIdentify fixedV (unmarshal value) r p now (a :: b :: c :: d :: rest) =
      .reply r (.err .badBody m) (rest.drop (be32 a b c d).toNat) := by
  have hu : unmarshal value (rest.take (be32 a b c d).toNat) = none := by
    unfold unmarshal
    simp only [hv]
    obtain ⟨x, hx, hws⟩ := hg
    have : ((rest.take (be32 a b c d).toNat).drop used).all jsonWS = false := by
      rw [List.all_eq_false]; exact ⟨x, hx, by simp [hws]⟩
    simp [this]
  unfold execIdentify
  have h1 : ¬ be32 a b c d > maxIdentifyBody := by omega
  have h2 : ¬ be32 a b c d ≤ 0 := by omega
  have h3 : ¬ be32 a b c d < 0 := by omega
  have h4 : ¬ rest.length < (be32 a b c d).toNat := by omega
  refine ⟨ascii "IDENTIFY failed to decode JSON body", ?_⟩
  simp only [hi, Bool.false_eq_true, if_false, fixedV, Bool.true_and, h1, h2, h3, h4, decide_false, hu]

/-- non-vacuity: `{…}}` (one byte of garbage after a 2-byte document) is refused, `{…} ` is accepted, and in
both cases `PING` after the body is the next command -/
example :
    let value : List UInt8 → Option (Info × Nat) := fun b => if b.take 2 = [123, 125] then some (⟨[104], [110], [118], 1, 2⟩, 2) else none
    (handle fixedV (unmarshal value) init 1 0 (magicV1 ++ cmdIDENTIFY ++ [10, 0, 0, 0, 3, 123, 125, 125] ++ cmdPING ++ [10])).replies.length = 1 ∧
    (handle fixedV (unmarshal value) init 1 0 (magicV1 ++ cmdIDENTIFY ++ [10, 0, 0, 0, 3, 123, 125, 32] ++ cmdPING ++ [10])).replies.length = 2 := by
  decide +kernel

/-- IDENTIFY bodies with a missing field (`broadcast_address`, `tcp_port`, `http_port`,
`version`) are refused and change nothing. -/
theorem identify_requires_fields (r : Registry) (p : Nat) (info : Info) (now : Int)
    (hi : identifiedB r p = false) (hm : missingFields info = true) :
    ∃ m, identify r p info now = (r, .err .badBody m) := by
  unfold identify; simp [hi, hm]

example : missingFields ⟨[104], [110], [], 1, 2⟩ = true ∧ missingFields ⟨[104], [], [118], 1, 2⟩ = false := by decide +kernel

/-- REGISTER / UNREGISTER before IDENTIFY are refused and change nothing. -/
theorem register_before_identify_rejected (r : Registry) (p : Nat) (params : List Name)
    (hi : identifiedB r p = false) :
    (∃ m, register r p params = (r, .err .invalid m)) ∧ (∃ m, unregister r p params = (r, .err .invalid m)) := by
  unfold register unregister; simp [hi]

/-- Invalid names are refused (TCP: `E_BAD_TOPIC` / `E_BAD_CHANNEL`, HTTP: 400) — including
names of 65 bytes and `#ephemeral` alone. -/
theorem invalid_names_refused (r : Registry) (p : Nat) (t ch : Name) (rest : List Name)
    (hi : identifiedB r p = true) :
    (validName t = false → ∃ m, (register r p (t :: rest)).2 = .err .badTopic m) ∧
    (validName t = true → ch ≠ [] → validName ch = false →
        ∃ m, (register r p (t :: ch :: rest)).2 = .err .badChannel m) ∧
    (validName t = false → (createTopic r ⟨false, some t, none, none⟩) = (r, .err 400 "INVALID_ARG_TOPIC")) := by
  refine ⟨?_, ?_, ?_⟩
  · intro hv; unfold register getTopicChan; simp [hi, hv]
  · intro hv hne hvc; unfold register getTopicChan; simp [hi, hv, hvc, hne, chanParam]
  · intro hv; unfold createTopic; simp [hv]

example : validName (List.replicate 65 110) = false ∧ validName (List.replicate 64 110) = true ∧
    validName ephSuffix = false ∧ validName ([97] ++ ephSuffix) = true ∧ validName [] = false ∧
    validName [97, 32, 98] = false ∧ validName star = false := by decide +kernel

/-- Isolation, PER TCP CONNECTION and for handler calls that do not overlap: whatever bytes connection `p`
sends, on whatever registry, every entry whose peer is another connection `q` is unchanged — its producer entries
under every key (hence its topics, channels, tombstones; the key of an entry it holds cannot be
garbage-collected) and its peer record (last ping, identity).
Scope: (1) `handleW` runs the whole stream of `p` as ONE sequential run; in the daemon each
`RegistrationDB` method is its own critical section and `UNREGISTER topic` is several
(`FindRegistrations`, one `RemoveProducer` per channel, `RemoveProducerAndPrune`; lookup_protocol_v1.go:180-191),
so steps of other connections can fall in between. Every one of these sections removes only `p`'s own entry
(`Handled.frame` reads it off `getP_unregisterDB`, which is put together from `getP_removeProducerAll_find` / `getP_removeAndGC`; these hold for each
section on any intermediate DB), so the frame property is preserved by every interleaving of sections; the
statement about interleavings of whole handlers is `Nsq.Props.C14`, section "Concurrency". (2) The HTTP admin API
is outside this theorem: it is the operator's interface and acts on everybody's registrations — see
`admin_call_touches_only`. -/
theorem tcp_isolation (v : Variant) (decode : List UInt8 → Option Info) (wf : Nat → Bool) (r : Registry) (p : Nat)
    (now : Int) (inp : List UInt8) (q : Nat) (hq : q ≠ p) :
    let r' := (handleW v decode wf r p now inp).reg
    (∀ k, getP r'.db k q = getP r.db k q) ∧ mget r'.peers q = mget r.peers q ∧
    (∀ k, (getP r.db k q).isSome = true → has r'.db k = true) := by
  intro r'
  have hf := frame_handleW v decode wf r p now inp
  refine ⟨fun k => hf.1 k q hq, hf.2 q hq, ?_⟩
  intro k hk
  apply has_of_getP r'.db k q
  rw [hf.1 k q hq]; exact hk

/-- … in terms of the answers: the bystander's view in the plain registry is unchanged. -/
theorem tcp_isolation_spec (v : Variant) (decode : List UInt8 → Option Info) (wf : Nat → Bool) (r : Registry)
    (p : Nat) (now : Int) (inp : List UInt8) (q : Nat) (hq : q ≠ p) :
    let s' := abs (handleW v decode wf r p now inp).reg
    (∀ t, s'.topicReg q t ↔ (abs r).topicReg q t) ∧ (∀ t c, s'.chanReg q t c ↔ (abs r).chanReg q t c) ∧
    (∀ t τ, s'.tomb q t τ ↔ (abs r).tomb q t τ) ∧ (s'.live q ↔ (abs r).live q) ∧ s'.peer q = (abs r).peer q ∧
    (∀ t, (abs r).topicReg q t → s'.knownTopic t) ∧ (∀ t c, (abs r).chanReg q t c → s'.knownChan t c) := by
  intro s'
  have h := tcp_isolation v decode wf r p now inp q hq
  refine ⟨?_, ?_, ?_, ?_, ?_, ?_, ?_⟩
  · intro t; simp only [s', abs, h.1]
  · intro t c; simp only [s', abs, h.1]
  · intro t τ; simp only [s', abs, h.1]
  · simp only [s', abs, h.1]
  · simp only [s', abs, h.2.1]
  · intro t ht; exact h.2.2 _ ht
  · intro t c hc; exact h.2.2 _ hc

/-- non-vacuity: a hostile connection 2 identifies, unregisters the bystander's ephemeral
channel and topic and dies; bystander 1 keeps its entries and the ephemeral keys survive -/
example :
    let r0 := run init [.identify 1 ⟨[104], [110], [118], 1, 2⟩ 0, .register 1 [[101] ++ ephSuffix, [100] ++ ephSuffix]]
    let res := handle fixedV (fun _ => some ⟨[120], [110], [118], 3, 4⟩) r0 2 5
      (magicV1 ++ cmdIDENTIFY ++ [10, 0, 0, 0, 1, 123] ++ cmdUNREGISTER ++ [32, 101] ++ ephSuffix ++ [32, 100] ++ ephSuffix ++ [10]
        ++ cmdUNREGISTER ++ [32, 101] ++ ephSuffix ++ [10] ++ [88, 10])
    res.fin = .fatal ∧ res.replies.length = 4 ∧ qTopics res.reg = [[101] ++ ephSuffix] ∧
      qChannels res.reg ([101] ++ ephSuffix) = [[100] ++ ephSuffix] := by decide +kernel

/-- HTTP, every method and EVERY path string (canonical or not), every argument combination: whatever the daemon
is allowed to answer (`httpOutcomes`: one answer, or a set for the `net/http/pprof` rows), an answer other than
200 changes nothing — unknown path 404, wrong method 405, a path that only matches after cleaning / case folding /
trailing-slash repair 301 (GET) or 307 (other methods, httprouter's redirects), malformed query / missing /
invalid argument 400, unknown channel 404 — and the only 5xx is the documented pprof-busy case: `GET
/debug/pprof/profile` answers 500 while another CPU profile is running. -/
theorem http_malformed_noop (c : Conf) (r : Registry) (method path : String) (a : HttpArgs) (now : Int) :
    ∀ o ∈ httpOutcomes c r method path a now,
      (o.2 ≠ 200 → o.1 = r) ∧
      (o.2 ∈ [200, 301, 307, 400, 404, 405] ∨ (o.2 = 500 ∧ path = "/debug/pprof/profile")) := by
  intro o ho
  unfold httpOutcomes at ho
  split at ho
  · simp only [List.mem_map] at ho
    obtain ⟨st, hst, rfl⟩ := ho
    refine ⟨fun _ => rfl, ?_⟩
    unfold pprofStatuses at hst
    split at hst
    · rename_i hp
      simp only [List.mem_cons, List.not_mem_nil, or_false] at hst
      rcases hst with rfl | rfl
      · left; simp
      · right; exact ⟨rfl, hp⟩
    · split at hst <;> (left; simp only [List.mem_cons, List.not_mem_nil, or_false] at hst ⊢; omega)
  · simp only [List.mem_singleton] at ho
    subst ho
    exact ⟨(httpStep_noop c r method path a now).1, Or.inl (httpStep_noop c r method path a now).2⟩

/-- the answer the driver replays (`httpStep`) is one of the allowed ones -/
theorem http_step_allowed (c : Conf) (r : Registry) (method path : String) (a : HttpArgs) (now : Int) :
    httpStep c r method path a now ∈ httpOutcomes c r method path a now := by
  unfold httpOutcomes
  split
  · rename_i h
    have : httpStep c r method path a now = (r, 200) := by unfold httpStep; rw [h]
    rw [this]
    simp only [List.mem_map]
    refine ⟨200, ?_, rfl⟩
    unfold pprofStatuses; split <;> (try split) <;> simp
  · simp

/-- A redirect is answered only for a path that is NOT registered for that method but is a registered path of the
same method after `CleanPath`, ASCII lower-casing and adding/removing one trailing slash; it is 301 for GET and 307
otherwise; a registered (method, path) pair always reaches its handler. -/
theorem redirect_characterised (method path : String) :
    (∀ code, route method path = .redirect code →
      routes.find? (fun e => e.1 = method && e.2.1 = path) = none ∧ fixMatches routes method path = true ∧
      path ≠ "/" ∧ code = (if method = "GET" then 301 else 307)) ∧
    (∀ e, routes.find? (fun e => e.1 = method && e.2.1 = path) = some e → route method path = .found e.2.2) := by
  refine ⟨fun code h => route_redirect h, fun e h => ?_⟩
  unfold route; rw [h]

/-- non-vacuity: trailing slash, case, doubled slash and dot segments redirect; a method without that path, and `/`, do not -/
example : route "GET" "/lookup/" = .redirect 301 ∧ route "GET" "/LOOKUP" = .redirect 301 ∧
    route "GET" "//lookup" = .redirect 301 ∧ route "POST" "/topic/create/" = .redirect 307 ∧
    route "GET" "/debug/pprof/" = .redirect 301 ∧ route "GET" "/a/../lookup/." = .redirect 301 ∧
    route "OPTIONS" "*" = .options ∧ route "PUT" "/lookup/" = .notFound ∧ route "POST" "/LOOKUP" = .notFound ∧
    route "GET" "/" = .notFound ∧ route "GET" "/Topic/Create" = .notFound ∧
    cleanPath "/a/b/../c//./d/".toList = "/a/c/d/".toList := by decide +kernel

example : httpOutcomes ⟨0, 0⟩ init "GET" "/debug/pprof/profile" ⟨false, none, none, none⟩ 0 = [(init, 200), (init, 500)] ∧
    httpOutcomes ⟨0, 0⟩ init "GET" "/debug/pprof/heap" ⟨false, none, none, none⟩ 0 = [(init, 200), (init, 400)] ∧
    httpOutcomes ⟨0, 0⟩ init "GET" "/lookup/" ⟨false, none, none, none⟩ 0 = [(init, 301)] := by decide +kernel

/-- non-vacuity: the five kinds of answers of the route table -/
example : route "GET" "/lookup" = .found .lookup ∧ route "POST" "/lookup" = .methodNotAllowed ∧
    route "OPTIONS" "/lookup" = .options ∧ route "GET" "/nope" = .notFound ∧
    route "POST" "/topic/tombstone" = .found .tombstone := by decide +kernel

/-- The error table is a CHARACTERISATION, not only a shape: whatever `Exec` answers to a command
line, the error code of the answer (or its absence) is exactly the one `expectedErr` — the protocol's error table,
spelled out condition by condition — names. A model that answers `OK` to everything does not satisfy this. -/
theorem errors_characterised (decode : List UInt8 → Option Info) (r r' : Registry) (p : Nat) (now : Int)
    (params : List Name) (rest rest' : List UInt8) (out : TcpOut)
    (h : exec fixedV decode r p now params rest = .reply r' out rest') :
    errCodeOf out = expectedErr decode r p params rest := by
  rw [← exec_code decode r p now params rest, h]; rfl

/-- … lifted to the byte stream: `inp` is ANY stream whose next line — as `ReadString('\n')`,
`TrimSpace` and `Split(" ")` cut it — is `line`. If the table names an error for it, the connection ends right
there: the error (with that code) is the last reply, the clean-up has run; if it names none, the command is
answered with a success and the loop goes on with the bytes after it. -/
theorem stream_line_characterised (decode : List UInt8 → Option Info) (wf : Nat → Bool) (p : Nat) (now : Int)
    (fuel : Nat) (r : Registry) (inp : List UInt8) (acc : List (List UInt8)) (line rest : List UInt8)
    (hl : readLine inp = some (line, rest)) :
    match expectedErr decode r p (splitSp (trimSpace line)) rest with
    | some code =>
      (ioLoop fixedV decode wf p now (fuel + 1) r inp acc).fin = .fatal ∧
      (wf acc.length = true → ∃ m, (ioLoop fixedV decode wf p now (fuel + 1) r inp acc).replies =
        acc ++ [ascii (codeName code) ++ [32] ++ m]) ∧
      ∃ r', (ioLoop fixedV decode wf p now (fuel + 1) r inp acc).reg = disconnect r' p
    | none =>
      ∃ r' out rest', exec fixedV decode r p now (splitSp (trimSpace line)) rest = .reply r' out rest' ∧
        okReply (replyBytes out) ∧
        (wf acc.length = true → ioLoop fixedV decode wf p now (fuel + 1) r inp acc =
          ioLoop fixedV decode wf p now fuel r' rest' (acc ++ [replyBytes out])) := by
  rw [ioLoop_line fixedV decode wf p now fuel r inp acc line rest hl]
  cases hx : exec fixedV decode r p now (splitSp (trimSpace line)) rest with
  | panic w => exact absurd hx (exec_fixed_no_panic decode r p now _ rest (splitSp_ne_nil _) w)
  | reply r' out rest' =>
    -- the table names the code of `out`, and none when `out` is a success
    rw [← errors_characterised decode r r' p now _ rest rest' out hx]
    cases out with
    | err c m => exact ⟨rfl, fun hw => ⟨m, by simp [hw, replyBytes, TcpOut.isErr]⟩, r', rfl⟩
    | ok | identified =>
      exact ⟨r', _, rest', rfl, (exec_reply hx).reply.2 rfl, fun hw => by simp [TcpOut.isErr, hw]⟩

/-- non-vacuity, on bytes through `handle`: after a valid IDENTIFY (reply 1), `REGISTER bad$name` /
`UNREGISTER t bad$name` / `REGISTER` alone end the connection with a second, last reply, and the table names
`E_BAD_TOPIC` / `E_BAD_CHANNEL` / `E_INVALID` for exactly those lines; `REGISTER t` does not end it -/
example :
    let dec : List UInt8 → Option Info := fun _ => some ⟨[104], [110], [118], 1, 2⟩
    let idf := magicV1 ++ cmdIDENTIFY ++ [10, 0, 0, 0, 1, 123]
    let bad : List UInt8 := [98, 97, 100, 36, 110, 97, 109, 101]
    let r1 := (identify init 1 ⟨[104], [110], [118], 1, 2⟩ 0).1
    ((handle fixedV dec init 1 0 (idf ++ cmdREGISTER ++ [32] ++ bad ++ [10] ++ cmdPING ++ [10])).fin = .fatal ∧
     (handle fixedV dec init 1 0 (idf ++ cmdREGISTER ++ [32] ++ bad ++ [10] ++ cmdPING ++ [10])).replies.length = 2 ∧
     expectedErr dec r1 1 (splitSp (trimSpace (cmdREGISTER ++ [32] ++ bad ++ [10]))) (cmdPING ++ [10]) = some .badTopic) ∧
    ((handle fixedV dec init 1 0 (idf ++ cmdUNREGISTER ++ [32, 116, 32] ++ bad ++ [10])).fin = .fatal ∧
     expectedErr dec r1 1 (splitSp (trimSpace (cmdUNREGISTER ++ [32, 116, 32] ++ bad ++ [10]))) [] = some .badChannel) ∧
    ((handle fixedV dec init 1 0 (idf ++ cmdREGISTER ++ [10])).fin = .fatal ∧
     expectedErr dec r1 1 (splitSp (trimSpace (cmdREGISTER ++ [10]))) [] = some .invalid) ∧
    ((handle fixedV dec init 1 0 (idf ++ cmdREGISTER ++ [32, 116, 10])).fin = .eof ∧
     expectedErr dec r1 1 (splitSp (trimSpace (cmdREGISTER ++ [32, 116, 10]))) [] = none ∧
     expectedErr dec init 1 (splitSp (trimSpace (cmdREGISTER ++ [32, 116, 10]))) [] = some .invalid) := by decide +kernel

/-- A second IDENTIFY, on the path the code really takes: the stream-level loop dispatches on the
command word, and `IDENTIFY` on an identified connection is refused BEFORE any size or body byte is read
(`execIdentify`'s first test) — whatever follows the command word on the line and in the stream. The
connection is closed and everything it registered is gone. -/
theorem reidentify_rejected (v : Variant) (decode : List UInt8 → Option Info) (wf : Nat → Bool) (p : Nat) (now : Int)
    (fuel : Nat) (r : Registry) (inp : List UInt8) (acc : List (List UInt8)) (line rest : List UInt8) (args : List Name)
    (hl : readLine inp = some (line, rest)) (hw : splitSp (trimSpace line) = cmdIDENTIFY :: args)
    (hi : identifiedB r p = true) :
    ioLoop v decode wf p now (fuel + 1) r inp acc =
      ⟨disconnect (disconnect r p) p,
       if wf acc.length then acc ++ [ascii "E_INVALID" ++ [32] ++ ascii "cannot IDENTIFY again"] else acc, .fatal⟩ := by
  rw [ioLoop_line v decode wf p now fuel r inp acc line rest hl, hw]
  have hne : cmdIDENTIFY ≠ cmdPING := by decide +kernel
  simp [exec, hne, execIdentify, hi, TcpOut.isErr, replyBytes, codeName]

/-- the clean-up is idempotent: after it nothing of `p` is left (so `disconnect (disconnect r p) p` above is
`disconnect r p`) -/
theorem disconnect_idem (r : Registry) (p : Nat) : disconnect (disconnect r p) p = disconnect r p :=
  disconnect_not_identified (Nsq.Proofs.RegistryWF.identifiedB_disconnect_self r p)

/-- non-vacuity through `handle` on bytes: IDENTIFY, REGISTER t, then `IDENTIFY junk` + 4 size bytes: three
replies, closed, topic `t` has no producer left (the key stays, as after any disconnect) -/
example :
    let dec : List UInt8 → Option Info := fun _ => some ⟨[104], [110], [118], 1, 2⟩
    let res := handle fixedV dec init 1 0 (magicV1 ++ cmdIDENTIFY ++ [10, 0, 0, 0, 1, 123] ++ cmdREGISTER ++ [32, 116, 10] ++
      cmdIDENTIFY ++ [32, 120, 10, 0, 0, 0, 1, 123] ++ cmdPING ++ [10])
    res.fin = .fatal ∧ res.replies.length = 3 ∧ identifiedB res.reg 1 = false ∧ getP res.reg.db (topicKey [116]) 1 = none ∧
      qTopics res.reg = [[116]] := by decide +kernel

/-- Which commands and routes validate names, and which do not.
TCP: `UNREGISTER` validates exactly like `REGISTER` (`getTopicChan`): an invalid topic gets `E_BAD_TOPIC`, an
invalid non-empty channel `E_BAD_CHANNEL`, and the connection is cleaned up.
HTTP: `/topic/create`, `/channel/create`, `/channel/delete` validate both names (400, nothing changed).
`/topic/delete`, `/topic/tombstone`, `/lookup`, `/channels` do NOT validate (`doDeleteTopic`,
`doTombstoneTopicProducer`, `doLookup`, `doChannels` pass the argument straight to the DB): any byte string is
accepted — 200 for the two POST routes and `/channels`, 200/404 for `/lookup` — including `*`, which the DB
methods treat as a wild card. -/
theorem name_validation_by_route (c : Conf) (r : Registry) (p : Nat) (t ch : Name) (rest : List Name) (node : Name) (now : Int)
    (hi : identifiedB r p = true) :
    (validName t = false → ∃ m, unregister r p (t :: rest) = (disconnect r p, .err .badTopic m)) ∧
    (validName t = true → ch ≠ [] → validName ch = false →
        ∃ m, unregister r p (t :: ch :: rest) = (disconnect r p, .err .badChannel m)) ∧
    (validName t = false ∨ validName ch = false →
        (∃ m, createChannel r ⟨false, some t, some ch, none⟩ = (r, .err 400 m)) ∧
        (∃ m, deleteChannel r ⟨false, some t, some ch, none⟩ = (r, .err 400 m))) ∧
    ((deleteTopic r ⟨false, some t, none, none⟩).2 = .ok ∧ (tombstone r ⟨false, some t, none, some node⟩ now).2 = .ok ∧
      httpStep c r "GET" "/channels" ⟨false, some t, none, none⟩ now = (r, 200) ∧
      (httpStep c r "GET" "/lookup" ⟨false, some t, none, none⟩ now = (r, 200) ∨
       httpStep c r "GET" "/lookup" ⟨false, some t, none, none⟩ now = (r, 404))) := by
  refine ⟨?_, ?_, ?_, ?_⟩
  · intro hv; unfold unregister getTopicChan; simp [hi, hv]
  · intro hv hne hvc; unfold unregister getTopicChan; simp [hi, hv, hvc, hne, chanParam]
  · intro hv
    -- both routes hand the arguments to `GetTopicChannelArgs`, which accepts two valid names only
    rcases getTopicChannelArgs_cases ⟨false, some t, some ch, none⟩ with ⟨_, _, ⟨⟩, ⟨⟩, ht, hc, _⟩ | ⟨m, e⟩
    · rw [ht, hc] at hv; simp at hv
    · exact ⟨⟨m, by simp [createChannel, e]⟩, m, by simp [deleteChannel, e]⟩
  · refine ⟨rfl, rfl, rfl, ?_⟩
    have hr : route "GET" "/lookup" = .found .lookup := by decide +kernel
    unfold httpStep
    simp only [hr, Bool.false_eq_true, if_false]
    by_cases hs : t = star
    · simp only [hs, if_true]
      cases (findRegistrations r.db .topic star []).isEmpty <;> simp
    · simp only [hs, if_false]
      cases (qLookup c r t now).isNone <;> simp

/-- non-vacuity: an invalid name handed to `/topic/delete` is accepted (200) and — no key has such a name — changes
nothing; `*` is accepted and removes every topic and channel, also those a connection holds -/
example :
    let r0 := run init [.identify 1 ⟨[104], [110], [118], 1, 2⟩ 0, .register 1 [[116], [99]], .register 1 [[117]]]
    deleteTopic r0 ⟨false, some [98, 97, 100, 36], none, none⟩ = (r0, .ok) ∧
    (deleteTopic r0 ⟨false, some star, none, none⟩).2 = .ok ∧ qTopics (deleteTopic r0 ⟨false, some star, none, none⟩).1 = [] ∧
    qTopics r0 = [[116], [117]] ∧ identifiedB (deleteTopic r0 ⟨false, some star, none, none⟩).1 1 = true := by decide +kernel

/-- The HTTP admin API is the operator's interface: it is unauthenticated and acts on registrations of
EVERY connection. Isolation (`tcp_isolation`) is per TCP connection only. This theorem says exactly which entries
an ACCEPTED admin call touches, for every registry and every argument:
* no admin call changes a peer record;
* `/topic/create`, `/channel/create`: no producer entry changes, no key disappears, the only keys that can appear
  are the named topic key / the named channel key and its topic key;
* `/topic/delete?topic=t`: exactly the keys in `delTouched t` go (with every producer entry under them, of
  whatever connection); everything else is as before — for `t = "*"` that is every topic and channel;
* `/channel/delete`: exactly the named channel key goes;
* `/topic/tombstone`: no key appears or disappears, no producer entry appears or disappears; the only change is
  the tombstone flag/time of entries in `tombTouched` (producers at `node` under that topic). -/
theorem admin_call_touches_only (r : Registry) (a : HttpArgs) (now : Int) :
    ((createTopic r a).1.peers = r.peers ∧ (deleteTopic r a).1.peers = r.peers ∧ (createChannel r a).1.peers = r.peers ∧
      (deleteChannel r a).1.peers = r.peers ∧ (tombstone r a now).1.peers = r.peers) ∧
    (∀ k q, getP (createTopic r a).1.db k q = getP r.db k q ∧ getP (createChannel r a).1.db k q = getP r.db k q) ∧
    (∀ k, (has r.db k = true → has (createTopic r a).1.db k = true ∧ has (createChannel r a).1.db k = true) ∧
      (has (createTopic r a).1.db k = true → has r.db k = true ∨ ∃ t, a.topic = some t ∧ k = topicKey t) ∧
      (has (createChannel r a).1.db k = true →
        has r.db k = true ∨ ∃ t c, a.topic = some t ∧ a.channel = some c ∧ (k = topicKey t ∨ k = chanKey t c))) ∧
    (∀ t, (deleteTopic r a).2 = .ok → a.topic = some t → ∀ k,
      (has (deleteTopic r a).1.db k = true ↔ has r.db k = true ∧ delTouched t k = false) ∧
      ∀ q, getP (deleteTopic r a).1.db k q = if delTouched t k then none else getP r.db k q) ∧
    (∀ t c, (deleteChannel r a).2 = .ok → a.topic = some t → a.channel = some c → ∀ k,
      has (deleteChannel r a).1.db k = (decide (k ≠ chanKey t c) && has r.db k) ∧
      ∀ q, getP (deleteChannel r a).1.db k q = if k = chanKey t c then none else getP r.db k q) ∧
    (∀ t node, (tombstone r a now).2 = .ok → a.topic = some t → a.node = some node → ∀ k,
      has (tombstone r a now).1.db k = has r.db k ∧
      ∀ q, getP (tombstone r a now).1.db k q = getP r.db k q ∨
        (tombTouched r t node k q = true ∧ getP (tombstone r a now).1.db k q = (getP r.db k q).map (fun _ => ⟨true, now⟩))) := by
  refine ⟨admin_peers r a now, fun k q => create_getP r a k q, fun k => ?_, ?_, ?_, ?_⟩
  · exact ⟨fun hk => ⟨(createTopic_has r a k).2 (.inl hk), (createChannel_has r a k).2 (.inl hk)⟩,
      fun hk => ((createTopic_has r a k).1 hk).imp_right (·.2), fun hk => ((createChannel_has r a k).1 hk).imp_right (·.2)⟩
  · intro t hok ht k; exact deleteTopic_touches r a t hok ht k
  · intro t c hok ht hc k; exact deleteChannel_touches r a t c hok ht hc k
  · intro t node hok ht hn k; exact tombstone_touches r a now t node hok ht hn k

/-- "A connection can make nsqlookupd hold only a bounded number of bytes before it is answered or
closed" — the statement that would be needed for the resource side of "no byte sequence can stop it answering
others". -/
def line_buffer_bounded_stmt : Prop := ∃ N, ∀ inp : List UInt8, lineBuffered inp ≤ N

/-- FALSE for the code as it is: `reader.ReadString('\n')` (lookup_protocol_v1.go:41) has no maximum line length;
`N + 1` bytes without a newline are all buffered. Open known finding `unbounded-line-read` (replayed on every run:
harness `TestVerifE4Unbounded`). The HTTP sibling `unbounded-http-body-read` (`io.ReadAll(req.Body)` in the former
`internal/http_api.NewReqParams`) is FIXED by /repo 894b9eb (F33: `NewReqParams` only calls `url.ParseQuery`); the same
harness replays it and a reproduction is a VIOLATION. Note that `lineBuffered` is the model's definition of "bytes held":
this theorem is a statement about the model, the daemon's memory growth is test evidence. -/
theorem line_buffer_bounded_false : ¬ line_buffer_bounded_stmt := by
  intro ⟨N, h⟩
  have hr : ∀ n, readLine (List.replicate n (65 : UInt8)) = none := by
    intro n
    induction n with
    | zero => rfl
    | succ n ih => simp [List.replicate_succ, readLine, ih]
  have := h (List.replicate (N + 1) 65)
  simp [lineBuffered, hr] at this
  omega

/-- What does hold (`_partial`): the daemon never buffers more than the connection sent (growth is linear with
factor one — what the replay observes), and a stream whose first line ends within `L` bytes buffers at most `L`. -/
theorem line_buffer_partial (inp : List UInt8) :
    lineBuffered inp ≤ inp.length ∧ ∀ line rest, readLine inp = some (line, rest) → lineBuffered inp = line.length := by
  unfold lineBuffered
  refine ⟨?_, fun line rest h => by rw [h]⟩
  cases h : readLine inp with
  | none => exact Nat.le_refl _
  | some lr => rw [← readLine_append h]; simp

example : lineBuffered (List.replicate 100 65) = 100 ∧ lineBuffered (cmdPING ++ [10] ++ List.replicate 100 65) = 5 := by decide +kernel

end Nsq.Props.C15
