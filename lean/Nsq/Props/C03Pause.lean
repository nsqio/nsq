/-
C03.5 (topic pause) at micro-step granularity.

`Props.C03.topic_pause_handshake` is a statement about `Nsq.Model.ChanNsqd`, whose `pumpTopic` step re-reads the
pause flag (`pumpEnabled`): there it holds BY DEFINITION. The real pump caches its decision (`memoryMsgChan = nil`)
and re-evaluates only on a `pauseChan` / `channelUpdateChan` event. The theorems below are about
`Nsq.Model.TopicPause`, which has the cached bit, the flag store and the hand-shake as separate steps, and
quantify over EVERY schedule of them (any number of concurrent `Pause()` / `UnPause()` / `GetChannel` calls):

* `cached_bit_exact` — whenever no `Pause()`/`UnPause()` call is in progress (each has returned) the pump's cached
  bit is `len(chans) > 0 ∧ ¬paused` for the CURRENT flag; before `Start()` it is off;
* `topic_pause_handshake_micro` — so once every `Pause()` has returned and the flag says paused, the fan-out step
  is refused and changes nothing (publishes are still accepted: `publish_while_paused`);
* `fan_needs_unpaused_or_pending` — a fan-out step is accepted only while the flag is clear or a pause call has not
  yet returned (the messages the pump still hands over BEFORE `Pause()` returns — the `busypause` leg does not judge them);
* `resume` — after `UnPause()` returned, with a channel, nothing outstanding: the fan-out step is accepted;
* `atomic_model_exact_at_quiescence` — at quiescence the cached bit equals `ChanNsqd.pumpEnabled` of the topic: the
  atomic model (and `topic_pause_handshake`, `C01Topic`'s `PumpEnabledInfOften`) is exact there;
* `HandshakeFull` / `handshake_full_false_without_ack` — the statement is FALSE when `doPause` does not wait for
  the pump (seeded defect C03-m7: non-blocking send): the flag is set, the call has returned, the pump still fans out.
Tie (behavioural): leg `busypause` (`harness/e2/e2_live_test.go doBusyPause`, `corpus/C03/busy_pause.ops`): the pump is
held mid-message, `Pause()` is issued and must WAIT for the pump (`sched:busypause:pause-waited-for-pump`), and from its
return on nothing is handed to the channel (`topic-pause`); `pausedrestart` (flag set before `Start()`); `busysub`
(`GetChannel`'s hand-shake). Textual: `Tie.Chan.topicDoPause_eq`, `topicDoPauseSelect_eq` (no `default:` arm),
`topicPumpArm_eq`, `topicFanout_eq` (the two re-evaluation sites), `getChannel_eq`.
-/
import Nsq.Proofs.TopicPause
import Nsq.Model.ChanNsqd
namespace Nsq.Props.C03Pause
open Nsq.Model.TopicPause Nsq.Proofs.TopicPause

/-- the cached enable bit is exact whenever no pause call is in progress; off before `Start()` -/
theorem cached_bit_exact (ops : List Op) :
    let s := run true {} ops
    (s.started = false → s.armed = false) ∧
    (s.started = true → s.pendP = 0 → s.armed = (decide (0 < s.snap) && !s.paused)) ∧
    (s.started = true → s.pendU = 0 → s.snap = s.nchan) :=
  let h := run_pinv pinv_init ops
  ⟨h.pre, h.arm, h.snapOk⟩

/-- **C03.5 at micro granularity**: every `Pause()`/`UnPause()` has returned and the flag says paused ⇒ the
fan-out step is refused and changes nothing — along EVERY schedule -/
theorem topic_pause_handshake_micro (ops : List Op) (id : Nat)
    (hp : (run true {} ops).pendP = 0) (hf : (run true {} ops).paused = true) :
    step true (run true {} ops) (.fan id) = (run true {} ops, false) := by
  have h := run_pinv pinv_init ops
  have ha : (run true {} ops).armed = false := by
    cases hs : (run true {} ops).started with
    | false => exact h.pre hs
    | true => rw [h.arm hs hp, evalArm, hf]; simp
  simp [step, ha]

/-- a fan-out step is accepted only while the flag is clear or a pause call has not returned yet -/
theorem fan_needs_unpaused_or_pending (ops : List Op) (id : Nat)
    (hok : (step true (run true {} ops) (.fan id)).2 = true) :
    (run true {} ops).paused = false ∨ 0 < (run true {} ops).pendP := by
  cases hf : (run true {} ops).paused with
  | false => exact Or.inl rfl
  | true =>
    right
    apply Nat.pos_of_ne_zero
    intro hp
    rw [topic_pause_handshake_micro ops id hp hf] at hok
    cases hok

/-- a paused topic keeps accepting publishes -/
theorem publish_while_paused (s : St) (id : Nat) :
    (step true s (.pub id)).2 = true ∧ id ∈ (step true s (.pub id)).1.queue := by
  simp [step]

/-- resume: `UnPause()` returned, the topic has a channel, no hand-shake outstanding ⇒ the fan-out of any queued
message is accepted -/
theorem resume (ops : List Op) (id : Nat)
    (hs : (run true {} ops).started = true) (hp : (run true {} ops).pendP = 0) (hu : (run true {} ops).pendU = 0)
    (hf : (run true {} ops).paused = false) (hc : 0 < (run true {} ops).nchan) (hq : id ∈ (run true {} ops).queue) :
    (step true (run true {} ops) (.fan id)).2 = true := by
  have h := run_pinv pinv_init ops
  have ha : (run true {} ops).armed = true := by
    rw [h.arm hs hp, h.snapOk hs hu, evalArm, hf]; simp [hc]
  simp [step, ha, hq]

/-- at quiescence the cached bit is the atomic model's `pumpEnabled` (flag re-read per message): the atomic model,
`Props.C03.topic_pause_handshake` and `C01Topic`'s hypotheses are exact there -/
theorem atomic_model_exact_at_quiescence (ops : List Op) (tp : Nsq.Model.ChanNsqd.Topic)
    (hs : (run true {} ops).started = true) (hp : (run true {} ops).pendP = 0) (hu : (run true {} ops).pendU = 0)
    (hpa : tp.paused = (run true {} ops).paused) (hch : tp.pump.length = (run true {} ops).nchan) :
    (run true {} ops).armed = Nsq.Model.ChanNsqd.pumpEnabled tp := by
  have h := run_pinv pinv_init ops
  rw [h.arm hs hp, h.snapOk hs hu, evalArm, Nsq.Model.ChanNsqd.pumpEnabled, hpa, ← hch]
  cases tp.pump <;> simp [Bool.and_comm]

/-- the full statement, parametrised by whether `doPause` waits for the pump -/
def HandshakeFull (handshake : Bool) : Prop :=
  ∀ (ops : List Op) (id : Nat), (run handshake {} ops).pendP = 0 → (run handshake {} ops).paused = true →
    (step handshake (run handshake {} ops) (.fan id)).2 = false

theorem handshake_full : HandshakeFull true := by
  intro ops id hp hf; rw [topic_pause_handshake_micro ops id hp hf]

/-- seeded defect C03-m7 (`select { case t.pauseChan <- 1: default: }`): `Pause()` returns without the pump having
re-evaluated; message 7, published AFTER the pause returned, is fanned out -/
def m7Ops : List Op := [.mapChange 1, .updAck, .start, .storeFlag true, .pub 7]
theorem handshake_full_false_without_ack : ¬ HandshakeFull false := by
  intro h
  have := h m7Ops 7 (by decide) (by decide)
  exact absurd this (by decide)

/-- the busy-pause schedule: channel, start, publish 1 2, pump fans 1, `Pause()` stores the flag (pending), the pump
still fans 2 (allowed: the call has not returned), takes the notification; 3 is published and refused -/
def bpOps : List Op := [.mapChange 1, .updAck, .start, .pub 1, .pub 2, .fan 1, .storeFlag true, .fan 2, .pauseAck, .pub 3]
example : (run true {} bpOps).pendP = 0 ∧ (run true {} bpOps).paused = true ∧ (run true {} bpOps).queue = [3] ∧
    (run true {} bpOps).hist = [.ret, .fan 2, .store true, .fan 1] := by decide
example : step true (run true {} bpOps) (.fan 3) = (run true {} bpOps, false) :=
  topic_pause_handshake_micro bpOps 3 (by decide) (by decide)
example : (step true (run true {} (bpOps ++ [.storeFlag false, .pauseAck])) (.fan 3)).2 = true :=
  resume _ 3 (by decide) (by decide) (by decide) (by decide) (by decide) (by decide)
example : (run true {} [.mapChange 1, .updAck, .start, .pub 1, .storeFlag true]).paused = true ∧
    (step true (run true {} [.mapChange 1, .updAck, .start, .pub 1, .storeFlag true]) (.fan 1)).2 = true := by decide
example : 0 < (run true {} [.mapChange 1, .updAck, .start, .pub 1, .storeFlag true]).pendP :=
  (fan_needs_unpaused_or_pending _ 1 (by decide)).resolve_left (by decide)
/-- paused before `Start()` (restart leg): the pump starts disarmed -/
example : (run true {} [.mapChange 1, .storeFlag true, .pauseAck, .start, .pub 1]).armed = false := by decide
example : (run true {} bpOps).armed = Nsq.Model.ChanNsqd.pumpEnabled { tid := 1, paused := true, pump := [5] } :=
  atomic_model_exact_at_quiescence bpOps _ (by decide) (by decide) (by decide) rfl rfl
example : (cached_bit_exact bpOps).2.1 (by decide) (by decide) = (cached_bit_exact bpOps).2.1 (by decide) (by decide) := rfl

end Nsq.Props.C03Pause
