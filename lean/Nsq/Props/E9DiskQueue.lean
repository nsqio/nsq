import Nsq.Proofs.DiskQueueApi
/-
Engine E9 — go-diskqueue v1.1.0 inside the model (serves C01, C05, C07, C08).
Model: `Nsq.Model.DiskQueue` (files, metadata file, positions, two-phase read, roll, sync, Empty,
Close, Delete, re-open, read-error path with `.bad` files; tied to the real package on every run by
`Nsq.Tie.DiskQueue` + harness/e9).  `Q s q` ("the live queue `s` holds exactly the records `q`")
is `Nsq.Proofs.DiskQueue.Q`; all theorems hold for every state with `Q`, i.e. after ANY history of
puts / receives / empties / close–re-open cycles from a fresh data path (`reachable_Q`).
-/
namespace Nsq.Props.E9DiskQueue
open Nsq.Model.Wire Nsq.Model.DiskQueue Nsq.Proofs.DiskQueue

/-- What `C05.restart_preserves` (a named disk queue hands back after the restart exactly what was
flushed into it: `Restart.lookupDQ`) and `C07.dq_roundtrip` ("the file I/O of go-diskqueue is an
assumption") assume about the disk queue. -/
structure DQLaw (σ : Type) where
  rep : σ → List Bytes → Prop
  valid : Bytes → Prop
  put : σ → Bytes → σ
  recv : σ → Option Bytes × σ
  depth : σ → Int
  /-- `Close()` followed by `New(...)` on the same data path -/
  reopen : σ → σ
  put_law : ∀ s q d, rep s q → valid d → rep (put s d) (q ++ [d])
  recv_law : ∀ s q d, rep s (d :: q) → (recv s).1 = some d ∧ rep (recv s).2 q
  recv_empty : ∀ s, rep s [] → (recv s).1 = none
  depth_law : ∀ s q, rep s q → depth s = (q.length : Int)
  reopen_law : ∀ s q, rep s q → rep (reopen s) q

theorem DQLaw.foldl_put {σ : Type} (L : DQLaw σ) (l : List Bytes) : ∀ (s : σ) (q : List Bytes), L.rep s q →
    (∀ d ∈ l, L.valid d) → L.rep (l.foldl L.put s) (q ++ l) := by
  induction l with
  | nil => intro s q h _; simpa using h
  | cons d l ih =>
    intro s q h hv
    have := ih (L.put s d) (q ++ [d]) (L.put_law s q d h (hv d (by simp))) (fun x hx => hv x (by simp [hx]))
    simpa using this

/-- consequences used by C05 / C07: whatever was written comes back, in order, byte-identical, also
across any number of Close/New cycles in between -/
theorem DQLaw.flush_then_restart {σ : Type} (L : DQLaw σ) (s : σ) (q l : List Bytes) (h : L.rep s q)
    (hv : ∀ d ∈ l, L.valid d) : L.rep (L.reopen (l.foldl L.put s)) (q ++ l) :=
  L.reopen_law _ _ (L.foldl_put l s q h hv)

def DQLaw.drain {σ : Type} (L : DQLaw σ) : Nat → σ → List Bytes
  | 0, _ => []
  | n + 1, s =>
    match (L.recv s).1 with
    | some d => d :: L.drain n (L.recv s).2
    | none => []

/-- `R`: `rep` itself, or the depth-free `QD` -/
theorem DQLaw.drain_of {σ : Type} (L : DQLaw σ) (R : σ → List Bytes → Prop)
    (hcons : ∀ s d q, R s (d :: q) → (L.recv s).1 = some d ∧ R (L.recv s).2 q)
    (hnil : ∀ s, R s [] → (L.recv s).1 = none)
    (q : List Bytes) (s : σ) (h : R s q) (n : Nat) (hn : q.length ≤ n) : L.drain n s = q := by
  induction n generalizing s q with
  | zero =>
    cases q with
    | nil => rfl
    | cons _ _ => simp at hn
  | succ n ih =>
    cases q with
    | nil => simp [DQLaw.drain, hnil s h]
    | cons d q =>
      obtain ⟨a, b⟩ := hcons s d q h
      simp only [DQLaw.drain, a]
      rw [ih q _ b (by simpa using hn)]

theorem DQLaw.drain_all {σ : Type} (L : DQLaw σ) (q : List Bytes) (s : σ) (h : L.rep s q) (n : Nat) (hn : q.length ≤ n) :
    L.drain n s = q :=
  L.drain_of L.rep (fun s d q => L.recv_law s q d) L.recv_empty q s h n hn

/-- the abstraction relation for a fixed configuration (only the record-size bounds matter;
`maxBytesPerFile` and `syncEvery` may change across a restart) -/
def RepFor (minSz maxSz : Nat) (s : St) (q : List Bytes) : Prop :=
  Q s q ∧ s.cfg.minMsgSize = minSz ∧ s.cfg.maxMsgSize = maxSz

/-- 1. THE MODEL SATISFIES THE LAW (refinement to a plain FIFO of records): this discharges the
go-diskqueue assumption of `C05.restart_preserves` and `C07.dq_roundtrip`. -/
def diskqueue_law (cfg' : Cfg) (hok : CfgOk cfg') : DQLaw St where
  rep := RepFor cfg'.minMsgSize cfg'.maxMsgSize
  valid := fun d => cfg'.minMsgSize ≤ d.length ∧ d.length ≤ cfg'.maxMsgSize
  put := fun s d => (Nsq.Model.DiskQueue.put s d).2
  recv := Nsq.Model.DiskQueue.recv
  depth := fun s => s.depth
  reopen := fun s => openQ cfg' (close s).fs
  put_law := by
    intro s q d h hv
    refine ⟨(put_ok_Q h.1 d (by unfold ValidRec; rw [h.2.1, h.2.2]; exact hv)).2, ?_, ?_⟩
    · rw [put_cfg]; exact h.2.1
    · rw [put_cfg]; exact h.2.2
  recv_law := by
    intro s q d h
    refine ⟨(recv_head_Q h.1).1, (recv_head_Q h.1).2, ?_, ?_⟩
    · rw [recv_cfg]; exact h.2.1
    · rw [recv_cfg]; exact h.2.2
  recv_empty := by
    intro s h
    rw [recv_none_Q h.1]
  depth_law := fun s q h => depth_Q h.1
  reopen_law := by
    intro s q h
    refine ⟨reopen_Q h.1 cfg' hok h.2.1.symm h.2.2.symm, ?_, ?_⟩
    · rw [openQ_cfg]
    · rw [openQ_cfg]

theorem fresh_empty (cfg : Cfg) (hok : CfgOk cfg) : (diskqueue_law cfg hok).rep (openQ cfg FS.empty) [] :=
  ⟨fresh_Q cfg hok, by rw [openQ_cfg], by rw [openQ_cfg]⟩

/-- 2. `Put` of a record of valid size succeeds and appends it -/
theorem put_appends (s : St) (q : List Bytes) (d : Bytes) (h : Q s q) (hv : ValidRec s.cfg d) :
    (put s d).1 = .ok ∧ Q (put s d).2 (q ++ [d]) := put_ok_Q h d hv

/-- 3. a record outside `[minMsgSize, maxMsgSize]` is rejected and the queue is unchanged -/
theorem invalid_size_rejected (s : St) (q : List Bytes) (d : Bytes) (h : Q s q) (hv : ¬ ValidRec s.cfg d) :
    (put s d).1 = .invalid ∧ Q (put s d).2 q := put_invalid_Q h d hv

/-- 4. the consumer receives exactly the oldest record, byte-identical; nothing is offered when empty -/
theorem recv_is_fifo (s : St) (d : Bytes) (q : List Bytes) (h : Q s (d :: q)) :
    (recv s).1 = some d ∧ Q (recv s).2 q := recv_head_Q h

theorem recv_nothing_when_empty (s : St) (h : Q s []) : recv s = (none, s) := recv_none_Q h

/-- 5. `Depth()` is the number of queued records -/
theorem depth_is_length (s : St) (q : List Bytes) (h : Q s q) : s.depth = (q.length : Int) := depth_Q h

/-- 6. `Close` then `New` on the same path preserves the queue exactly — also when
`--max-bytes-per-file` / `--sync-every` changed in between, and with a read-ahead pending at `Close` -/
theorem close_reopen_preserves (s : St) (q : List Bytes) (h : Q s q) (cfg' : Cfg) (hok : CfgOk cfg')
    (hmin : cfg'.minMsgSize = s.cfg.minMsgSize) (hmax : cfg'.maxMsgSize = s.cfg.maxMsgSize) :
    Q (openQ cfg' (close s).fs) q := reopen_Q h cfg' hok hmin hmax

/-- 7. `Empty` leaves the empty queue, NO data file and no metadata file; it never touches `.bad` files -/
theorem empty_leaves_no_data_file (s : St) (q : List Bytes) (h : Q s q) :
    (empty s).1 = true ∧ Q (empty s).2 [] ∧ (∀ i, (empty s).2.fs.dat i = none) ∧ (empty s).2.fs.md = none ∧
      (empty s).2.fs.bad = s.fs.bad := empty_Q h

/-- `Delete` (= `exit(true)`) removes nothing at all: nsqd relies on the `Empty` it calls first -/
theorem delete_removes_nothing (s : St) : (delete s).fs.dat = s.fs.dat ∧ (delete s).fs.bad = s.fs.bad ∧
    (delete s).fs.md = s.fs.md := ⟨rfl, rfl, rfl⟩

/-- so after `Empty` + `Delete` every data file and the metadata are gone, and every `.bad` file is still there -/
theorem empty_delete_leaves_exactly_bad (s : St) (q : List Bytes) (h : Q s q) :
    (∀ i, (delete (empty s).2).fs.dat i = none) ∧ (delete (empty s).2).fs.md = none ∧
      (delete (empty s).2).fs.bad = s.fs.bad :=
  (empty_Q h).2.2

/-- 8. when a `.bad` file is produced in a healthy queue: exactly one loop pass does it — the reader
stands at the end of a completed file (`readFileNum < writeFileNum`, every record of it consumed:
it caught up with the writer, which then rolled), reads EOF, and the file — holding only consumed
bytes — is renamed.  No queued record is ever quarantined. -/
theorem bad_file_only_consumed (s : St) (pre : Bytes) (recs : Nat → List Bytes) (h : Rep s pre recs)
    (hc : (settleStep s).1 = true) :
    recs s.rf = [] ∧ s.rf < s.wf ∧ s.fs.content s.rf = pre ∧ s.rp = pre.length ∧
      absQ (settleStep s).2 recs = absQ s recs := by
  obtain ⟨a, _⟩ := settleStep_rep h
  obtain ⟨a1, a2, a3, a4, a5, _⟩ := a hc
  refine ⟨a5, a4, by rw [h.crf, a5, enc_nil, List.append_nil], h.rp, ?_⟩
  unfold absQ
  rw [a2, a3]
  exact qFrom_skip_nil recs a4 a5

/-- 9. a process kill when the metadata is current (right after a sync) loses and duplicates nothing -/
theorem kill_after_sync_preserves (s : St) (q : List Bytes) (h : Q s q) (hmd : s.fs.md = some s.metaNow)
    (cfg' : Cfg) (hok : CfgOk cfg') (hmin : cfg'.minMsgSize = s.cfg.minMsgSize) (hmax : cfg'.maxMsgSize = s.cfg.maxMsgSize) :
    Q (openQ cfg' (crash s)) q := by
  obtain ⟨pre, recs, a, _, c⟩ := h
  rw [← c]
  exact reopen_cur_Q a cfg' hok hmin hmax hmd

/-! ### witnesses (each is replayed on the real package: corpus/E9/*.ops) -/

def cfgW : Cfg := { maxBytesPerFile := 16, minMsgSize := 1, maxMsgSize := 8, syncEvery := 2 }
def cfgW100 : Cfg := { maxBytesPerFile := 16, minMsgSize := 1, maxMsgSize := 8, syncEvery := 100 }
def ra : Bytes := [0xa1, 0xa2, 0xa3, 0xa4]
def rb : Bytes := [0xb1, 0xb2, 0xb3, 0xb4]
def rc : Bytes := [0xc1, 0xc2, 0xc3, 0xc4]

theorem cfgW_ok : CfgOk cfgW := ⟨by decide, by decide⟩
theorem cfgW100_ok : CfgOk cfgW100 := ⟨by decide, by decide⟩

/-- the open C08 finding `diskqueue-bad-file-left-behind`: put a, b (file 0 full), receive both (reader
at the end of file 0), put c (writer rolls to file 1) → file 0 becomes `.bad`; `Empty` + `Delete` leave it -/
def sBad : St := (put (recv (recv (put (put (openQ cfgW FS.empty) ra).2 rb).2).2).2 rc).2

theorem bad_file_witness :
    (sBad.fs.bad 0).isSome = true ∧ ((delete (empty sBad).2).fs.bad 0).isSome = true ∧
      (recv sBad).1 = some rc := by decide +kernel

/-- a healthy queue is not always free of `.bad` files: the statement "no `.bad` file is ever produced
without corruption" is false -/
def never_bad_full : Prop :=
  ∀ s q d, Q s q → ValidRec s.cfg d → (put s d).2.fs.bad = s.fs.bad

theorem sBad_before : Q (recv (recv (put (put (openQ cfgW FS.empty) ra).2 rb).2).2).2 [] ∧
    (recv (recv (put (put (openQ cfgW FS.empty) ra).2 rb).2).2).2.cfg = cfgW := by
  have h1 := (put_ok_Q (fresh_Q cfgW cfgW_ok) ra (by decide)).2
  have h2 := (put_ok_Q h1 rb (by rw [put_cfg, openQ_cfg]; decide)).2
  exact ⟨(recv_head_Q (recv_head_Q h2).2).2, by rw [recv_cfg, recv_cfg, put_cfg, put_cfg, openQ_cfg]⟩

theorem never_bad_full_false : ¬ never_bad_full := by
  intro h
  have := h _ [] rc sBad_before.1 (by rw [sBad_before.2]; decide)
  have e := congrFun this 0
  have : ((put (recv (recv (put (put (openQ cfgW FS.empty) ra).2 rb).2).2).2 rc).2.fs.bad 0).isSome = true := bad_file_witness.1
  rw [e] at this
  exact absurd this (by decide)

/-! what a process kill BETWEEN syncs can do (metadata older than the data) — witnesses, replayed on the
real package; the general statement over every history is `Nsq.Props.E9Kill.kill_after_any_history` -/

/-- (a) records received since the last sync are delivered AGAIN after the kill (duplicates), in order,
followed by everything still queued: put a, b (sync at count 2), receive a (not synced), kill →
a again, then b -/
theorem kill_between_syncs_redelivers :
    (recv (openQ cfgW (crash (recv (put (put (openQ cfgW FS.empty) ra).2 rb).2).2))).1 = some ra ∧
    (recv (recv (openQ cfgW (crash (recv (put (put (openQ cfgW FS.empty) ra).2 rb).2).2))).2).1 = some rb := by decide +kernel

/-- (b) records put since the last sync SURVIVE the kill when a metadata file exists (the writer skips
to a new file, the reader salvages the old one up to its size) — but `Depth()` is stale: put a, b
(sync), put c (not synced), kill → a, b, c are all delivered while depth said 2 -/
theorem kill_between_syncs_salvages_puts :
    (openQ cfgW (crash (put (put (put (openQ cfgW FS.empty) ra).2 rb).2 rc).2)).depth = 2 ∧
    (DQLaw.drain (diskqueue_law cfgW cfgW_ok) 5
      (openQ cfgW (crash (put (put (put (openQ cfgW FS.empty) ra).2 rb).2 rc).2))) = [ra, rb, rc] := by decide +kernel

/-- (c) records put before the FIRST sync of a queue (no metadata file yet) are LOST by a kill: the
new process starts at file 0 / position 0 with depth 0 and its first `Put` overwrites them -/
theorem kill_before_first_sync_loses :
    (put (openQ cfgW100 FS.empty) ra).1 = .ok ∧
    (recv (openQ cfgW100 (crash (put (openQ cfgW100 FS.empty) ra).2))).1 = none ∧
    (openQ cfgW100 (crash (put (openQ cfgW100 FS.empty) ra).2)).depth = 0 := by decide +kernel

/-- (d) the same after `Empty` (it removes the metadata file): a record put after `Empty` and before the
next sync is lost by a kill -/
theorem kill_after_empty_loses :
    (recv (openQ cfgW100 (crash (put (empty (put (openQ cfgW100 FS.empty) ra).2).2 rb).2))).1 = none := by decide +kernel

/-- so "an acknowledged `Put` survives a process kill" is false for go-diskqueue v1.1.0 -/
def kill_loses_nothing_full : Prop :=
  ∀ (cfg : Cfg) (hok : CfgOk cfg) (s : St) (q : List Bytes), s.cfg = cfg → Q s q → ∀ d ∈ q,
    ∃ n, d ∈ DQLaw.drain (diskqueue_law cfg hok) n (openQ cfg (crash s))

theorem kill_loses_nothing_full_false : ¬ kill_loses_nothing_full := by
  intro h
  have hq : Q (put (openQ cfgW100 FS.empty) ra).2 [ra] := (put_ok_Q (fresh_Q cfgW100 cfgW100_ok) ra (by decide)).2
  obtain ⟨n, hn⟩ := h cfgW100 cfgW100_ok _ [ra] (by rw [put_cfg, openQ_cfg]) hq ra (by simp)
  have e : ∀ n, DQLaw.drain (diskqueue_law cfgW100 cfgW100_ok) n (openQ cfgW100 (crash (put (openQ cfgW100 FS.empty) ra).2)) = [] := by
    intro n
    cases n with
    | zero => rfl
    | succ n =>
      have : (recv (openQ cfgW100 (crash (put (openQ cfgW100 FS.empty) ra).2))).1 = none := kill_before_first_sync_loses.2.1
      simp only [DQLaw.drain, diskqueue_law, this]
  rw [e n] at hn
  exact absurd hn (by simp)

/-! ### every history from a fresh data path has `Q` -/

inductive Op
  | put (d : Bytes) | recv | empty | reopen
deriving Repr

def stepOp (cfg : Cfg) (s : St) : Op → St
  | .put d => (put s d).2
  | .recv => (recv s).2
  | .empty => (empty s).2
  | .reopen => openQ cfg (close s).fs

def specOp (cfg : Cfg) (q : List Bytes) : Op → List Bytes
  | .put d => if cfg.minMsgSize ≤ d.length ∧ d.length ≤ cfg.maxMsgSize then q ++ [d] else q
  | .recv => q.tail
  | .empty => []
  | .reopen => q

/-- `f`: the whole configuration, or one of the record-size bounds -/
theorem stepOp_cfg {α : Type} (f : Cfg → α) (cfg : Cfg) (s : St) (o : Op) (hc : f s.cfg = f cfg) :
    f (stepOp cfg s o).cfg = f cfg := by
  cases o with
  | put d => exact (congrArg f (put_cfg s d)).trans hc
  | recv => exact (congrArg f (recv_cfg s)).trans hc
  | empty => exact (congrArg f (empty_cfg s)).trans hc
  | reopen => exact congrArg f (openQ_cfg _ _)

theorem stepOp_rep (cfg : Cfg) (hok : CfgOk cfg) (s : St) (q : List Bytes) (o : Op)
    (h : RepFor cfg.minMsgSize cfg.maxMsgSize s q) :
    RepFor cfg.minMsgSize cfg.maxMsgSize (stepOp cfg s o) (specOp cfg q o) := by
  refine ⟨?_, stepOp_cfg (·.minMsgSize) cfg s o h.2.1, stepOp_cfg (·.maxMsgSize) cfg s o h.2.2⟩
  cases o with
  | put d =>
    have hv := validRec_iff h.2.1 h.2.2 d
    show Q (put s d).2 (if _ then q ++ [d] else q)
    split
    · exact (put_ok_Q h.1 d (hv.2 ‹_›)).2
    · exact (put_invalid_Q h.1 d (mt hv.1 ‹_›)).2
  | recv =>
    cases q with
    | nil => show Q (recv s).2 []; rw [recv_none_Q h.1]; exact h.1
    | cons d q => exact (recv_head_Q h.1).2
  | empty => exact (empty_Q h.1).2.1
  | reopen => exact reopen_Q h.1 cfg hok h.2.1.symm h.2.2.symm

theorem run_rep (cfg : Cfg) (hok : CfgOk cfg) (ops : List Op) (s : St) (q : List Bytes)
    (h : RepFor cfg.minMsgSize cfg.maxMsgSize s q) :
    RepFor cfg.minMsgSize cfg.maxMsgSize (ops.foldl (stepOp cfg) s) (ops.foldl (specOp cfg) q) := by
  induction ops generalizing s q with
  | nil => exact h
  | cons o ops ih => exact ih _ _ (stepOp_rep cfg hok s q o h)

theorem foldl_stepOp_cfg (cfg : Cfg) (ops : List Op) (s : St) (hc : s.cfg = cfg) :
    (ops.foldl (stepOp cfg) s).cfg = cfg := by
  induction ops generalizing s with
  | nil => exact hc
  | cons o ops ih => exact ih _ (stepOp_cfg id cfg s o hc)

/-- 10. REFINEMENT: after any sequence of puts (valid or not), receives, empties and close/re-open cycles
from a fresh data path, the disk queue holds exactly what a plain list-FIFO holds -/
theorem reachable_Q (cfg : Cfg) (hok : CfgOk cfg) (ops : List Op) :
    Q (ops.foldl (stepOp cfg) (openQ cfg FS.empty)) (ops.foldl (specOp cfg) []) ∧
      (ops.foldl (stepOp cfg) (openQ cfg FS.empty)).cfg = cfg :=
  ⟨(run_rep cfg hok ops _ [] (fresh_empty cfg hok)).1, foldl_stepOp_cfg cfg ops _ (openQ_cfg _ _)⟩

/-! ### non-vacuity -/

example : (diskqueue_law cfgW cfgW_ok).rep (openQ cfgW FS.empty) [] := fresh_empty cfgW cfgW_ok
example : ValidRec cfgW ra ∧ ¬ ValidRec cfgW [] := by decide +kernel
example : (put (openQ cfgW FS.empty) []).1 = .invalid ∧ (put (openQ cfgW FS.empty) ra).1 = .ok := by decide +kernel
-- a state with `Q` that spans two files, has a read-ahead pending and a non-trivial queue
example : Q (put (put (put (openQ cfgW FS.empty) ra).2 rb).2 rc).2 [ra, rb, rc] :=
  (reachable_Q cfgW cfgW_ok [.put ra, .put rb, .put rc]).1
example : (put (put (put (openQ cfgW FS.empty) ra).2 rb).2 rc).2.wf = 1 ∧
    (put (put (put (openQ cfgW FS.empty) ra).2 rb).2 rc).2.nrp = 8 := by decide +kernel
-- `Q` is not `True`: it rejects a state whose depth disagrees
example : ¬ Q { (openQ cfgW FS.empty) with depth := 3 } [] := fun h => by
  have := depth_Q h
  exact absurd this (by decide)
-- close/re-open with a pending read-ahead and a changed maxBytesPerFile
example : DQLaw.drain (diskqueue_law cfgW cfgW_ok) 9
    (openQ { cfgW with maxBytesPerFile := 100 } (close (put (put (put (openQ cfgW FS.empty) ra).2 rb).2 rc).2).fs) = [ra, rb, rc] := by decide +kernel
example : (settleStep (recv (recv (put (put (openQ cfgW FS.empty) ra).2 rb).2).2).2).1 = false := by decide +kernel
-- `kill_after_sync_preserves`: syncEvery = 2, two puts → metadata current
example : (put (put (openQ cfgW FS.empty) ra).2 rb).2.fs.md = some (put (put (openQ cfgW FS.empty) ra).2 rb).2.metaNow := by decide +kernel

end Nsq.Props.E9DiskQueue
