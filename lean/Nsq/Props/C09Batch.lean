import Nsq.Proofs.Mpub
/-!
# C09: the MPUB batch reader against a declarative description of the wire

`Spec.ProtoSpec` judges an MPUB batch with the model's own `Mpub.readMPUB`. This module states what a
well-formed batch IS without the reader — `WellFormedBatch`: 1 … (max-body-size − 4)/5 messages, each
of 1 … max-msg-size bytes, written as `count ‖ (size ‖ body)*` in big-endian 32-bit fields — and
proves the reader accepts exactly those (soundness alone is `C09.mpub_decodes_the_wire`).
-/
namespace Nsq.Props.C09Batch
open Nsq.Model.ProtoV2 Nsq.Model.Mpub Nsq.Proofs.Mpub

def WellFormedBatch (maxMsg maxBody : Int) (bodies : List Bytes) : Prop :=
  1 ≤ bodies.length ∧ (bodies.length : Int) ≤ maxMessages maxBody ∧
    ∀ b ∈ bodies, 1 ≤ b.length ∧ (b.length : Int) ≤ maxMsg

/-- Completeness: every well-formed batch on the wire is accepted, decoded to exactly its messages,
and what follows it is left unread (hypothesis: the two limits fit the signed 32-bit size fields,
which the options' types and `readLen` force anyway). -/
theorem well_formed_batch_accepted (maxMsg maxBody : Int) (bodies : List Bytes) (r : Bytes)
    (h31 : maxMsg < 2147483648) (hc31 : maxMessages maxBody < 2147483648)
    (h : WellFormedBatch maxMsg maxBody bodies) :
    readMPUB maxMsg maxBody (encode bodies ++ r) = .ok bodies r :=
  readMPUB_complete maxMsg maxBody bodies r h.1 h.2.1 (by have := h.2.1; omega)
    fun b hb => ⟨h.2.2 b hb, by have := (h.2.2 b hb).2; omega⟩

/-- The reader accepts EXACTLY the well-formed batches: `readMPUB bs = ok bodies r` iff `bs` is the
encoding of the well-formed batch `bodies` followed by `r`. -/
theorem readMPUB_ok_iff_well_formed (maxMsg maxBody : Int) (bs : Bytes) (bodies : List Bytes) (r : Bytes)
    (h31 : maxMsg < 2147483648) (hc31 : maxMessages maxBody < 2147483648) :
    readMPUB maxMsg maxBody bs = .ok bodies r ↔ bs = encode bodies ++ r ∧ WellFormedBatch maxMsg maxBody bodies := by
  constructor
  · intro h
    obtain ⟨a, b, c, hw⟩ := readMPUB_ok maxMsg maxBody bs bodies r h
    exact ⟨hw, a, b, c⟩
  · rintro ⟨rfl, h⟩
    exact well_formed_batch_accepted maxMsg maxBody bodies r h31 hc31 h

example : WellFormedBatch 8 64 [[97], [98, 99]] := by
  refine ⟨by decide, by decide, ?_⟩
  intro b hb
  simp only [List.mem_cons, List.not_mem_nil, or_false] at hb
  rcases hb with rfl | rfl <;> decide
example : readMPUB 8 64 (encode [[97], [98, 99]] ++ [7]) = .ok [[97], [98, 99]] [7] := by decide
example : ¬ WellFormedBatch 8 64 [[]] := by
  intro h; have := h.2.2 [] (by simp); simp at this

end Nsq.Props.C09Batch
