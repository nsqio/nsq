import Nsq.Proofs.ToFileDisc
import Nsq.Model.ToFile
import Nsq.Model.ToFileMain
/-!
C19, topic discovery of nsq_to_file (`TopicDiscoverer`): for every pattern, every answer of the
regexp library, every outcome of `NewFileLogger`, every sequence of lookupd polls (lists or errors),
SIGHUPs and SIGTERMs. Tie: `isTopicAllowed` by translation (`Nsq.Tie.ToolsToFileFn.isTopicAllowed_fn_eq`),
`updateTopics`/`run` by statement skeleton (`Nsq.Tie.ToolsToFile`) and by correspondence of the real
`TopicDiscoverer.run()` against a scripted lookupd (`harness/e8/tofile_disc_test.go`).
-/
namespace Nsq.Props.C19Disc
open Nsq.Model.Str Nsq.Model.ToFileDisc Nsq.Proofs.ToFileDisc

/-- **one FileLogger per topic**: whatever the polls return (duplicates inside a list, the same topic in
many polls), no topic ever has two loggers (two routers appending to the same file) -/
theorem one_logger_per_topic (e : Env) (polling : Bool) (explicit : List Str) (evs : List Ev) :
    (run e polling (start e explicit) evs).topics.Nodup :=
  (inv_run e polling evs _ (inv_start e explicit)).nodup

/-- exactly the wanted topics get a logger: after one `updateTopics(list)` a topic has a logger iff it had
one before, or it is in the list, the pattern allows it and its logger could be created -/
theorem logger_iff_wanted (e : Env) (ts l : List Str) (t : Str) :
    t ∈ updateTopics e ts l ↔ t ∈ ts ∨ (t ∈ l ∧ isTopicAllowed e.pattern (e.matched t) = true ∧ e.create t = true) := by
  induction l generalizing ts with
  | nil => simp [updateTopics]
  | cons x rest ih =>
    rw [updateTopics_cons, ih]
    split
    · rename_i h
      simp only [List.mem_append, List.mem_cons, List.not_mem_nil, or_false]
      constructor
      · rintro ((h1 | rfl) | ⟨h1, w⟩)
        · exact Or.inl h1
        · exact Or.inr ⟨Or.inl rfl, h.2⟩
        · exact Or.inr ⟨Or.inr h1, w⟩
      · rintro (h1 | ⟨rfl | h1, w⟩)
        · exact Or.inl (Or.inl h1)
        · exact Or.inl (Or.inr rfl)
        · exact Or.inr ⟨h1, w⟩
    · rename_i h
      constructor
      · rintro (h1 | ⟨h1, w⟩)
        · exact Or.inl h1
        · exact Or.inr ⟨List.mem_cons_of_mem _ h1, w⟩
      · rintro (h1 | ⟨h1, w⟩)
        · exact Or.inl h1
        · rcases List.mem_cons.mp h1 with rfl | h1
          · exact Or.inl (Decidable.byContradiction fun hn => h ⟨hn, w⟩)
          · exact Or.inr ⟨h1, w⟩

/-- a logger is never dropped: a topic that disappears from lookupd keeps its logger; creation order is kept -/
theorem loggers_only_grow (e : Env) (polling : Bool) (s : St) (evs : List Ev) :
    s.topics <+: (run e polling s evs).topics := by
  induction evs generalizing s with
  | nil => exact List.prefix_refl _
  | cons ev evs ih => exact List.IsPrefix.trans (step_prefix e polling s ev) (ih _)

/-- a failed poll (`GetLookupdTopics` error) changes nothing -/
theorem failed_poll_is_noop (e : Env) (polling : Bool) (s : St) : step e polling s (.tick none) = s := by
  simp only [step]; split <;> rfl

/-- **termination of all loggers on TERM**: once `run()` has left its loop, every logger that was ever
created had its `termChan` closed — exactly once (closing a closed channel would panic) — and no
logger is created afterwards, so none is left running without a termination request -/
theorem term_reaches_every_logger (e : Env) (polling : Bool) (explicit : List Str) (evs : List Ev)
    (h : (run e polling (start e explicit) evs).looping = false) :
    (run e polling (start e explicit) evs).termed = (run e polling (start e explicit) evs).topics
    ∧ (run e polling (start e explicit) evs).termed.Nodup
    ∧ ∀ more, run e polling (run e polling (start e explicit) evs) more = run e polling (start e explicit) evs := by
  have hi := inv_run e polling evs _ (inv_start e explicit)
  refine ⟨hi.done h, ?_, fun more => run_stopped e polling more _ h⟩
  rw [hi.done h]; exact hi.nodup

/-- a TERM always ends the loop -/
theorem term_ends_loop (e : Env) (polling : Bool) (s : St) : (step e polling s .term).looping = false := by
  simp only [step]
  by_cases h : s.looping = false
  · rw [if_pos h]; exact h
  · rw [if_neg h]

/-- before TERM no logger is terminated by the discoverer -/
theorem no_term_while_looping (e : Env) (polling : Bool) (explicit : List Str) (evs : List Ev)
    (h : (run e polling (start e explicit) evs).looping = true) :
    (run e polling (start e explicit) evs).termed = [] :=
  (inv_run e polling evs _ (inv_start e explicit)).live h

/-- what a terminated logger does (router model `Nsq.Model.ToFile`): after `term` and the consumer's
`StopChan`, its router is no longer running — it ended (`done`) or stopped on an I/O fault; by
`C19.fin_implies_durable` everything it finished is durable either way -/
theorem terminated_router_ends (c : Nsq.Model.ToFile.Cfg) (io : Nat → Nsq.Model.ToFile.Fault) (st : Nsq.Model.ToFile.St)
    (b1 b2 : Bool) :
    (Nsq.Model.ToFile.run c io st [(.term, b1), (.stopped, b2)]).status ≠ .running := by
  simp only [Nsq.Model.ToFile.run]
  generalize Nsq.Model.ToFile.step c io st .term b1 = s1
  simp only [Nsq.Model.ToFile.step]
  by_cases h : s1.status ≠ .running
  · rw [if_pos h]; exact h
  · rw [if_neg h]
    simp only [Nsq.Model.ToFile.finishRun]
    split
    · assumption
    · simp

/-- **what a started nsq_to_file can rely on** (`main()`'s start-up checks, translated from the source): a non-empty
channel, positive HTTP timeouts, exactly one of nsqd / lookupd addresses, a gzip level in 1..9, and either
explicit topics or — discovery mode — a pattern *and* a lookupd to poll -/
theorem started_iff (o : Nsq.Model.ToFileMain.MainOpts) :
    Nsq.Model.ToFileMain.refuses o = false ↔
      (o.channel ≠ [] ∧ 0 < o.connectTimeout ∧ 0 < o.requestTimeout ∧ (o.nNsqd = 0 ↔ o.nLookupd ≠ 0)
       ∧ 1 ≤ o.gzipLevel ∧ o.gzipLevel ≤ 9 ∧ (o.nTopics = 0 → o.pattern ≠ [] ∧ o.nLookupd ≠ 0)) := by
  unfold Nsq.Model.ToFileMain.refuses
  simp only [Bool.or_eq_false_iff, Bool.and_eq_false_iff, decide_eq_false_iff_not]
  constructor
  · rintro ⟨⟨⟨⟨⟨⟨⟨h1, h2⟩, h3⟩, h4⟩, h5⟩, h6, h7⟩, h8⟩, h9⟩
    refine ⟨h1, by omega, by omega, ?_, by omega, by omega, ?_⟩
    · constructor
      · intro hn; cases h4 with
        | inl h => exact absurd hn h
        | inr h => exact h
      · intro hl; cases h5 with
        | inl h => exact Decidable.not_not.mp h
        | inr h => exact absurd hl h
    · intro ht
      refine ⟨?_, ?_⟩
      · cases h8 with
        | inl h => exact absurd ht h
        | inr h => exact h
      · cases h9 with
        | inl h => exact absurd ht h
        | inr h => exact h
  · rintro ⟨h1, h2, h3, h4, h5, h6, h7⟩
    refine ⟨⟨⟨⟨⟨⟨⟨h1, by omega⟩, by omega⟩, ?_⟩, ?_⟩, by omega, by omega⟩, ?_⟩, ?_⟩
    · by_cases hn : o.nNsqd = 0
      · exact Or.inr (h4.mp hn)
      · exact Or.inl hn
    · by_cases hn : o.nNsqd = 0
      · exact Or.inl (by simpa using hn)
      · exact Or.inr (fun hl => hn (h4.mpr hl))
    · by_cases ht : o.nTopics = 0
      · exact Or.inr (h7 ht).1
      · exact Or.inl ht
    · by_cases ht : o.nTopics = 0
      · exact Or.inr (h7 ht).2
      · exact Or.inl ht

/-- discovery mode (no `--topic`) always has something to poll: the ticker of `run()` is never pointed at an
empty lookupd list, and the pattern is never empty -/
theorem discovery_mode_has_lookupd (o : Nsq.Model.ToFileMain.MainOpts)
    (h : Nsq.Model.ToFileMain.refuses o = false) (ht : o.nTopics = 0) :
    o.nLookupd ≠ 0 ∧ o.nNsqd = 0 ∧ o.pattern ≠ [] := by
  obtain ⟨_, _, _, hnsqd, _, _, hdisc⟩ := (started_iff o).mp h
  exact ⟨(hdisc ht).2, hnsqd.mpr (hdisc ht).2, (hdisc ht).1⟩

/-! ### non-vacuity -/

example : Nsq.Model.ToFileMain.refuses ⟨[99], 1, 1, 0, 1, 0, [94], 6⟩ = false := by decide
example : Nsq.Model.ToFileMain.refuses ⟨[99], 1, 1, 1, 0, 0, [94], 6⟩ = true := by decide

private def eAll : Env := { pattern := [], matched := fun _ => .ok false, create := fun t => t ≠ [120] }
private def ePat : Env := { pattern := [94, 97], matched := fun t => .ok (t.head? == some 97), create := fun _ => true }

-- duplicates and an uncreatable topic ("x"): one logger each for "a", "b"
example : (start eAll [[97], [98], [97], [120]]).topics = [[97], [98]] := by decide
-- pattern "^a": only "a…" topics; a failed poll is skipped; TERM terminates both loggers; later polls are ignored
example : (run ePat true (start ePat []) [.tick (some [[97], [98]]), .tick none, .tick (some [[97, 98]]), .hup, .term,
    .tick (some [[97, 99]])]).termed = [[97], [97, 98]] := by decide
example : (run ePat true (start ePat []) [.tick (some [[97]]), .term]).looping = false := by decide
example : (run ePat true (start ePat []) [.tick (some [[97]])]).looping = true := by decide
-- an invalid pattern (regexp error) allows nothing; an empty pattern allows everything
example : isTopicAllowed [91] (.error []) = false := by decide
example : isTopicAllowed [] (.error []) = true := by decide

end Nsq.Props.C19Disc
