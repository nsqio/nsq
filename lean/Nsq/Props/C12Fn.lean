import Nsq.Props.C12
import Nsq.Tie.GuidHex
/-!
# C12 — the id text, stated on the TRANSLATED `guid.Hex()`

`Nsq.Props.C12.hex_*` are about the model `Nsq.Model.Guid.hex`. Here the same facts are stated on
the definition the translator re-derives from nsqd/guid.go on every run
(`Nsq.Gen.GuidHexFn.guidHex`), through `Nsq.Tie.GuidHex.guidHex_eq`.
-/
namespace Nsq.Props.C12Fn
open Nsq.Model.ByteOps Nsq.Model.Guid Nsq.Gen.GuidHexFn

/-- The translated `Hex()` never panics and yields 16 characters of `[0-9a-f]`, for every int64. -/
theorem translated_hex_shape (g : BitVec 64) :
    ∃ h, guidHex g = .ret h ∧ h.length = 16 ∧
      ∀ c ∈ h, (48 ≤ c.toNat ∧ c.toNat ≤ 57) ∨ (97 ≤ c.toNat ∧ c.toNat ≤ 102) :=
  ⟨hex g, Nsq.Tie.GuidHex.guidHex_eq g, Nsq.Props.C12.hex_length g, Nsq.Props.C12.hex_charset g⟩

/-- Different ids never share a text: the translated `Hex()` is injective. -/
theorem translated_hex_injective (a b : BitVec 64) (h : guidHex a = guidHex b) : a = b := by
  rw [Nsq.Tie.GuidHex.guidHex_eq, Nsq.Tie.GuidHex.guidHex_eq] at h
  exact Nsq.Props.C12.hex_injective a b (by simpa using h)

/-- The texts of the ids handed out by one factory (any start state, any clock readings), as the
translated `Hex()` renders them, are pairwise different. -/
theorem translated_hex_ids_nodup (f : St) (clock : List (BitVec 64)) :
    ((run f clock).map guidHex).Nodup :=
  Nsq.Proofs.Keyed.nodup_map_of_inj_on (Nsq.Props.C12.ids_nodup f clock) fun a _ b _ => translated_hex_injective a b

example : guidHex 255#64 = .ret [48, 48, 48, 48, 48, 48, 48, 48, 48, 48, 48, 48, 48, 48, 102, 102] := by decide +kernel
example := translated_hex_shape (-2#64)
example : guidHex 1#64 ≠ guidHex 2#64 := fun h => absurd (translated_hex_injective _ _ h) (by decide)
example := translated_hex_ids_nodup Nsq.Props.C12.demoSt Nsq.Props.C12.demoClock

end Nsq.Props.C12Fn
