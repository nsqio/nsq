import Nsq.Proofs.WireStack
import Nsq.Tie.WireStack
/-!
# C07 (and C11) — every output byte goes to the negotiated transport

`Props.C07.upgrade_loses_nothing` says the plaintext handed to the successive transports is the
frame stream; it cannot say that a writer was re-created on the WRONG transport, and its model
(`connStep .setOutputBuffer` keeps the stack) is the tree with fix F30 only. On the tree before
F30 a second IDENTIFY with an `output_buffer_size`, sent after a TLS / snappy / deflate upgrade
(IDENTIFY is guarded by `State == stateInit` alone), re-creates the writer on the raw TCP
connection: every later frame — the OK, after SUB the message bodies — leaves in cleartext,
also under `--tls-required`, and the client, decoding with the negotiated stack, loses them.

Model `Nsq.Model.WireStack` (segments tagged with the transport written to and the transport
the client reads), tree selected by `Nsq.Tie.WireStack.treeFixed` (regenerated; F30 = /repo d6aa4e3 is committed,
the tie accepts only its shape and decides `treeFixed = true`: `this_tree_full`), white-box leg
`stack` and the double-IDENTIFY class of the end-to-end oracle (harness/e1).
-/
namespace Nsq.Props.C07Stack
open Nsq.Model.Wire Nsq.Model.WireStack Nsq.Proofs.WireStack Nsq.Proofs.Wire

def okFrame : Frame := ⟨0#32, [79, 75]⟩

/-- The literal clause, for a tree `fixed`: after EVERY sequence of protocol actions from a fresh
connection, every output byte was handed to the transport the client decodes with. -/
def OutputOnNegotiatedTransport (fixed : Bool) : Prop :=
  ∀ (cap : Nat) (ops : List ConnOp), (trun fixed (tconn0 cap) ops).OnNegotiated

/-- With F30: full strength. For every action sequence (responses, messages, flushes, any number
of IDENTIFYs with buffer changes and upgrades in any order, SUB): all output is on the negotiated
transport, nothing reaches the raw connection once an upgrade has completed, and what the client
decodes transport by transport (plus what is still buffered) is exactly the frames sent. -/
theorem output_on_negotiated_transport (cap : Nat) (ops : List ConnOp) :
    let c := trun true (tconn0 cap) ops
    c.OnNegotiated ∧ c.leaked = [] ∧ c.seen ++ c.w.buf = (c.sent.map encodeFrame).flatten :=
  good_spec _ (good_run true _ ops (good_tconn0 cap) (.inl rfl)) (streamInv_run true _ ops (streamInv_tconn0 cap))

theorem output_on_negotiated_transport_full : OutputOnNegotiatedTransport true :=
  fun cap ops => (output_on_negotiated_transport cap ops).1

/-- the witness schedule: IDENTIFY (negotiation document), upgrade, OK; a second
IDENTIFY with output_buffer_size; its OK; SUB; a message; flush -/
def secondIdentify (body : Bytes) : List ConnOp :=
  [.sendResponse ⟨0#32, [123, 125]⟩, .upgrade 16384, .sendResponse okFrame,
   .setOutputBuffer 128, .sendResponse okFrame, .subscribe, .sendMessage ⟨2#32, body⟩, .flush]

/-- Before F30 the clause is FALSE: on the witness schedule the second OK and the message frame
are handed to transport 0 (the raw TCP connection) while the client decodes stack 1; the client
recovers neither. -/
theorem output_on_negotiated_transport_false : ¬ OutputOnNegotiatedTransport false := by
  intro h
  exact absurd (h 16384 (secondIdentify [83, 69, 67, 82, 69, 84])) (by decide)

theorem second_identify_leaks_cleartext :
    (trun false (tconn0 16384) (secondIdentify [83, 69, 67, 82, 69, 84])).leaked =
      encodeFrame okFrame ++ encodeFrame ⟨2#32, [83, 69, 67, 82, 69, 84]⟩ ∧
    (trun false (tconn0 16384) (secondIdentify [83, 69, 67, 82, 69, 84])).seen =
      encodeFrame ⟨0#32, [123, 125]⟩ ++ encodeFrame okFrame := by decide +kernel

/-- Before F30, what still holds (*partial*; forced hypothesis: the connection never changes its
output buffer after an upgrade — the only shape go-nsq produces: one IDENTIFY per connection). -/
theorem output_on_negotiated_transport_partial (cap : Nat) (ops : List ConnOp)
    (h : NoRebufferAfterUpgrade ops = true) :
    let c := trun false (tconn0 cap) ops
    c.OnNegotiated ∧ c.leaked = [] ∧ c.seen ++ c.w.buf = (c.sent.map encodeFrame).flatten :=
  good_spec _ (good_run_unfixed _ ops (good_tconn0 cap) rfl h) (streamInv_run false _ ops (streamInv_tconn0 cap))

/-- The statement parametrised by the tree (`Tie.WireStack.treeFixed` is computed from the regenerated
`SetOutputBuffer` statements): full with F30, the partial one before. For the checked tree see `this_tree_full`. -/
theorem this_tree (cap : Nat) (ops : List ConnOp)
    (h : Nsq.Tie.WireStack.treeFixed = true ∨ NoRebufferAfterUpgrade ops = true) :
    (trun Nsq.Tie.WireStack.treeFixed (tconn0 cap) ops).OnNegotiated ∧
    (trun Nsq.Tie.WireStack.treeFixed (tconn0 cap) ops).leaked = [] := by
  cases hf : Nsq.Tie.WireStack.treeFixed with
  | true => exact ⟨(output_on_negotiated_transport cap ops).1, (output_on_negotiated_transport cap ops).2.1⟩
  | false =>
    rcases h with h | h
    · rw [hf] at h; exact absurd h (by decide)
    · exact ⟨(output_on_negotiated_transport_partial cap ops h).1, (output_on_negotiated_transport_partial cap ops h).2.1⟩

/-- THIS tree, FRAME bytes only (the sync markers of `c.flateWriter` are `this_tree_k`; F30 = /repo d6aa4e3 is committed): `Tie.WireStack.setOutputBuffer_shape` accepts only the
F30 shape, the facts decide `treeFixed = true`, and the clause holds for EVERY schedule with no hypothesis. A tree that
reverts F30 fails `tree_fixed` and this theorem with it. -/
theorem this_tree_full (cap : Nat) (ops : List ConnOp) :
    (trun Nsq.Tie.WireStack.treeFixed (tconn0 cap) ops).OnNegotiated ∧
    (trun Nsq.Tie.WireStack.treeFixed (tconn0 cap) ops).leaked = [] :=
  this_tree cap ops (Or.inl Nsq.Tie.WireStack.tree_fixed)

/-- … and on THIS tree the client decodes exactly the frames sent (`this_tree_full` is `OnNegotiated ∧ leaked = []`
only; the decode conjunct of `output_on_negotiated_transport` is stated over `trun true`, here it is transported to
the tree the facts select): what the client has seen, transport by transport, plus what is still
buffered, is the concatenation of the encodings of the frames sent. -/
theorem this_tree_decodes (cap : Nat) (ops : List ConnOp) :
    (trun Nsq.Tie.WireStack.treeFixed (tconn0 cap) ops).seen ++ (trun Nsq.Tie.WireStack.treeFixed (tconn0 cap) ops).w.buf =
      (((trun Nsq.Tie.WireStack.treeFixed (tconn0 cap) ops).sent).map encodeFrame).flatten := by
  rw [Nsq.Tie.WireStack.tree_fixed]
  exact (output_on_negotiated_transport cap ops).2.2

/-- In BOTH trees no byte is lost, duplicated or reordered on the server side: the defect is where
the bytes go, not which bytes. -/
theorem no_byte_lost_either_tree (fixed : Bool) (cap : Nat) (ops : List ConnOp) :
    (trun fixed (tconn0 cap) ops).stream = (((trun fixed (tconn0 cap) ops).sent).map encodeFrame).flatten :=
  tstream fixed cap ops

/-- The connection model of `Props.C07.upgrade_loses_nothing` (`Model.Wire.Conn`) is exactly the F30 tree with the
transport tags forgotten — so that theorem speaks about the fixed tree only. -/
theorem fixed_tree_is_round6_model (cap : Nat) (ops : List ConnOp) :
    (trun true (tconn0 cap) ops).forget = connRun (conn0 cap) ops :=
  forget_run (tconn0 cap) ops

/-- the same schedule on the fixed tree: two segments (plain, then stack 1), nothing leaked, the
client sees all four frames -/
example : let c := trun true (tconn0 16384) (secondIdentify [83, 69, 67, 82, 69, 84])
    c.segs.map (fun s => (s.dest, s.want)) = [(0, 0), (1, 1)] ∧ c.leaked = [] ∧ c.sent.length = 4 ∧
    c.seen = (c.sent.map encodeFrame).flatten := by decide +kernel
/-- unfixed: three segments, the last one on the raw connection while the client reads stack 1 -/
example : (trun false (tconn0 16384) (secondIdentify [1])).segs.map (fun s => (s.dest, s.want, s.data.length)) =
    [(0, 0, 10), (1, 1, 10), (0, 1, 19)] := by decide +kernel
/-- the partial theorem's hypothesis is satisfiable by a schedule with a buffer change AND an upgrade -/
example : NoRebufferAfterUpgrade [.setOutputBuffer 64, .sendResponse okFrame, .upgrade 64, .sendResponse okFrame,
    .subscribe, .sendMessage ⟨2#32, [1]⟩] = true := by decide +kernel
example : NoRebufferAfterUpgrade (secondIdentify [1]) = false := by decide +kernel
/-- two upgrades (TLS, then snappy) and a re-buffer in between, fixed tree -/
example : let c := trun true (tconn0 8) [.upgrade 8, .sendResponse okFrame, .setOutputBuffer 64, .upgrade 64,
      .sendResponse okFrame, .setOutputBuffer 1, .sendResponse okFrame]
    c.segs.map (fun s => (s.dest, s.want, s.data.length)) = [(0, 0, 0), (1, 1, 10), (2, 2, 20)] := by decide +kernel
/-- the tree's model on the second-IDENTIFY schedule: nothing leaked -/
example : (trun Nsq.Tie.WireStack.treeFixed (tconn0 16384) (secondIdentify [83, 69, 67, 82, 69, 84])).leaked = [] :=
  (this_tree_full 16384 _).2
/-- … and the client decodes the frames sent (non-trivially: frames were sent) -/
example : (trun Nsq.Tie.WireStack.treeFixed (tconn0 16384) (secondIdentify [83, 69, 67, 82, 69, 84])).seen ++
      (trun Nsq.Tie.WireStack.treeFixed (tconn0 16384) (secondIdentify [83, 69, 67, 82, 69, 84])).w.buf =
    (((trun Nsq.Tie.WireStack.treeFixed (tconn0 16384) (secondIdentify [83, 69, 67, 82, 69, 84])).sent).map encodeFrame).flatten :=
  this_tree_decodes 16384 _
example : (trun true (tconn0 16384) (secondIdentify [83, 69, 67, 82, 69, 84])).sent ≠ [] := by decide +kernel

/-! ## The sync markers of `c.flateWriter` — F30 is incomplete, F30b completes it

The theorems above speak about the bytes of the FRAMES. `clientV2.Flush` also flushes `c.flateWriter`, and a flate
writer left over from an earlier IDENTIFY writes its sync marker underneath the stack the client decodes. /repo
d6aa4e3 (F30) drops it in `UpgradeSnappy` only: IDENTIFY{deflate} followed by IDENTIFY{tls_v1} leaves it in place.
Model `kstep` (upgrade kinds, `c.tlsConn`, `c.flateWriter`, stray markers), tree `Tie.WireStack.tree`. -/

/-- The literal clause including the markers, for a tree: after EVERY sequence of protocol actions from a fresh
connection, every output byte — frame or marker of a flate writer that is not part of the client's stack — was handed
to the transport the client decodes with. -/
def OutputOnNegotiatedTransportK (tr : Tree) : Prop :=
  ∀ (cap : Nat) (ops : List KOp), (krun tr (kconn0 cap) ops).OnNegotiated

/-- With F30 + F30b: full strength. For every action sequence (any number of IDENTIFYs negotiating TLS, snappy,
deflate in ANY order, buffer changes, responses, messages, flushes, SUB): `c.flateWriter` is never stale, no stray
marker is ever written, all frame bytes are on the negotiated transport, nothing reaches the raw connection once an
upgrade has completed, and the client decodes exactly the frames sent. -/
theorem output_on_negotiated_transport_k (cap : Nat) (ops : List KOp) :
    let c := krun treeF30b (kconn0 cap) ops
    c.OnNegotiated ∧ ¬ c.Stale ∧ c.stray = [] ∧ c.t.leaked = [] ∧
      c.seen ++ c.t.w.buf = (c.t.sent.map encodeFrame).flatten := by
  intro c
  have ht : c.t = trun true (tconn0 cap) (ops.map KOp.forget) := krun_t treeF30b (kconn0 cap) ops
  exact clean_spec c (clean_run treeF30b rfl _ ops (clean_kconn0 cap) (.inl rfl))
    (ht ▸ good_run true _ _ (good_tconn0 cap) (.inl rfl)) (ht ▸ streamInv_run true _ _ (streamInv_tconn0 cap))

theorem output_on_negotiated_transport_k_full : OutputOnNegotiatedTransportK treeF30b :=
  fun cap ops => (output_on_negotiated_transport_k cap ops).1

/-- the witness schedule for the markers: IDENTIFY{deflate} (document, upgrade, OK); IDENTIFY{tls_v1} (document, handshake,
OK); SUB; a message; flush -/
def tlsAfterDeflate (body : Bytes) : List KOp :=
  [.sendResponse ⟨0#32, [123, 125]⟩, .upgrade .deflate 16384, .sendResponse okFrame,
   .sendResponse ⟨0#32, [123, 125]⟩, .upgrade .tls 16384, .sendResponse okFrame,
   .subscribe, .sendMessage ⟨2#32, body⟩, .flush]

/-- On /repo d6aa4e3 (F30 alone) the clause is FALSE. -/
theorem output_on_negotiated_transport_k_false : ¬ OutputOnNegotiatedTransportK treeF30 := by
  intro h
  exact absurd (h 16384 (tlsAfterDeflate [83, 69, 67, 82, 69, 84])) (by decide)

/-- … what happens on the witness: the flate writer of upgrade 1 (writing to layer 0, the raw connection) is still
in `c.flateWriter` while the client decodes stack 2 (TLS); the `Flush` of the OK after the handshake and the later
flush each write its marker to the RAW connection; the client recovers the frames up to that OK (40 bytes) and loses
the message — although every frame byte went to the right transport. -/
theorem tls_after_deflate_garbles :
    let c := krun treeF30 (kconn0 16384) (tlsAfterDeflate [83, 69, 67, 82, 69, 84])
    c.fw = some ⟨1, 0⟩ ∧ c.Stale ∧ c.stray = [⟨0, 2, 40⟩, ⟨0, 2, 54⟩] ∧ c.t.OnNegotiated ∧
    c.seen = encodeFrame ⟨0#32, [123, 125]⟩ ++ encodeFrame okFrame ++ encodeFrame ⟨0#32, [123, 125]⟩ ++ encodeFrame okFrame ∧
    c.seen ≠ (c.t.sent.map encodeFrame).flatten := by decide +kernel

/-- In EVERY tree a stray marker goes to a layer strictly below the client's stack: the clause with markers is the
frame clause plus "no stale flate writer was ever flushed". -/
theorem stray_never_on_the_clients_stack (tr : Tree) (cap : Nat) (ops : List KOp) :
    let c := krun tr (kconn0 cap) ops
    (∀ s ∈ c.stray, s.dest < s.want) ∧ (c.OnNegotiated ↔ c.t.OnNegotiated ∧ c.stray = []) := by
  intro c
  have hl : Layered c := layered_run tr _ ops (layered_kconn0 cap)
  exact ⟨hl.2.2, kOnNegotiated_iff c hl⟩

/-- WHICH orders leave a stale flate writer on /repo d6aa4e3, for every action sequence: exactly those whose
performed upgrades satisfy `staleAfter` … -/
theorem stale_exactly (cap : Nat) (ops : List KOp) :
    let c := krun treeF30 (kconn0 cap) ops
    c.Stale ↔ staleAfter c.kinds = true := by
  intro c
  exact stale_iff_of_tracks c (fwTracks_run _ ops rfl)

/-- … and `staleAfter` in closed form (every list of kinds is of exactly one of the four shapes): stale iff the
last upgrade that was not TLS is a deflate AND at least one TLS upgrade followed it. deflate→tls, snappy→deflate→tls,
tls→deflate→tls, deflate→tls→tls are stale; snappy→tls, deflate→snappy→tls, deflate→tls→snappy, deflate→tls→deflate
are not. -/
theorem stale_orders (ks : List UKind) (n : Nat) :
    staleAfter (ks ++ [.deflate] ++ List.replicate (n + 1) .tls) = true ∧
    staleAfter (ks ++ [.deflate]) = false ∧
    staleAfter (ks ++ [.snappy] ++ List.replicate n .tls) = false ∧
    staleAfter (List.replicate n .tls) = false :=
  ⟨staleAfter_deflate_tls ks n, staleAfter_deflate_last ks, staleAfter_snappy ks n, staleAfter_only_tls n⟩

/-- /repo d6aa4e3, what still holds (*partial*; forced hypothesis: no IDENTIFY negotiates TLS once one has negotiated
deflate — go-nsq sends one IDENTIFY per connection, and within one IDENTIFY the server performs TLS first). -/
theorem output_on_negotiated_transport_k_partial (cap : Nat) (ops : List KOp) (h : NoTlsAfterDeflate ops = true) :
    let c := krun treeF30 (kconn0 cap) ops
    c.OnNegotiated ∧ c.stray = [] ∧ c.t.leaked = [] ∧ c.seen ++ c.t.w.buf = (c.t.sent.map encodeFrame).flatten := by
  intro c
  have ht : c.t = trun true (tconn0 cap) (ops.map KOp.forget) := krun_t treeF30 (kconn0 cap) ops
  have := clean_spec c (clean_run_noTls treeF30 rfl _ ops (clean_kconn0 cap) rfl h)
    (ht ▸ good_run true _ _ (good_tconn0 cap) (.inl rfl)) (ht ▸ streamInv_run true _ _ (streamInv_tconn0 cap))
  exact ⟨this.1, this.2.2.1, this.2.2.2.1, this.2.2.2.2⟩

/-- Every schedule on the checked tree (`Tie.WireStack.tree`, computed from the regenerated `Upgrade*` bodies):
F30b is committed (/repo d424240) and `Tie.WireStack.tree_is_F30b` decides `tree = treeF30b`, so there is no hypothesis. -/
theorem this_tree_k_full (cap : Nat) (ops : List KOp) :
    (krun Nsq.Tie.WireStack.tree (kconn0 cap) ops).OnNegotiated ∧
    (krun Nsq.Tie.WireStack.tree (kconn0 cap) ops).stray = [] := by
  rw [Nsq.Tie.WireStack.tree_is_F30b]
  exact ⟨(output_on_negotiated_transport_k cap ops).1, (output_on_negotiated_transport_k cap ops).2.2.1⟩

/-- The statement with a disjunctive hypothesis (`tree = treeF30b`, or a schedule inside
`NoTlsAfterDeflate` — what d6aa4e3 alone guarantees: `output_on_negotiated_transport_k_partial`): with
`Tie.WireStack.tree_is_F30b` the hypothesis is not needed (`this_tree_k_full`). -/
theorem this_tree_k (cap : Nat) (ops : List KOp)
    (_h : Nsq.Tie.WireStack.tree = treeF30b ∨ NoTlsAfterDeflate ops = true) :
    (krun Nsq.Tie.WireStack.tree (kconn0 cap) ops).OnNegotiated ∧
    (krun Nsq.Tie.WireStack.tree (kconn0 cap) ops).stray = [] :=
  this_tree_k_full cap ops

/-- the frame-level connection of the kinded model is the tagged model: the theorems above it apply unchanged -/
theorem kinded_model_refines (tr : Tree) (cap : Nat) (ops : List KOp) :
    (krun tr (kconn0 cap) ops).t = trun tr.rebufferKeeps (tconn0 cap) (ops.map KOp.forget) :=
  krun_t tr (kconn0 cap) ops

/-- the witness schedule on the F30b tree: no flate writer after the TLS upgrade, nothing stray, all four
responses and (after the flush) the message decoded -/
example : let c := krun treeF30b (kconn0 16384) (tlsAfterDeflate [83, 69, 67, 82, 69, 84])
    c.fw = none ∧ c.stray = [] ∧ c.kinds = [.deflate, .tls] ∧ c.seen = (c.t.sent.map encodeFrame).flatten := by decide +kernel
/-- tls → deflate → tls on d6aa4e3: the stale writer writes into the FIRST TLS session (layer 1) while the client
decodes the second (stack 3) -/
example : (krun treeF30 (kconn0 64) [.upgrade .tls 64, .sendResponse okFrame, .upgrade .deflate 64, .sendResponse okFrame,
    .upgrade .tls 64, .sendResponse okFrame]).stray = [⟨1, 3, 30⟩] := by decide +kernel
/-- snappy → tls and deflate → tls → snappy / deflate on d6aa4e3: nothing stale at the end (but deflate → tls → snappy
wrote one marker while the TLS-only stack was current: the OK after the handshake) -/
example : (krun treeF30 (kconn0 64) [.upgrade .snappy 64, .sendResponse okFrame, .upgrade .tls 64, .sendResponse okFrame]).stray = [] := by decide +kernel
example : let c := krun treeF30 (kconn0 64) [.upgrade .deflate 64, .sendResponse okFrame, .upgrade .tls 64, .sendResponse okFrame,
    .upgrade .snappy 64, .sendResponse okFrame]
    ¬ c.Stale ∧ c.stray = [⟨0, 2, 20⟩] := by decide +kernel
/-- `snappyClears = false`, as before F30: deflate → snappy, the finding `snappy-after-deflate-garbled` -/
example : (krun ⟨true, false, false⟩ (kconn0 64) [.upgrade .deflate 64, .sendResponse okFrame, .upgrade .snappy 64,
    .sendResponse okFrame]).stray = [⟨0, 2, 20⟩] := by decide +kernel
/-- a `SetOutputBuffer` on the stale connection writes no marker (`c.Writer.Flush()` only), the next response does -/
example : (krun treeF30 (kconn0 64) [.upgrade .deflate 64, .upgrade .tls 64, .setOutputBuffer 128]).stray = [] ∧
    (krun treeF30 (kconn0 64) [.upgrade .deflate 64, .upgrade .tls 64, .setOutputBuffer 128, .sendResponse okFrame]).stray
      = [⟨0, 2, 10⟩] := by decide +kernel
/-- the partial theorem's hypothesis: satisfied by TLS, then deflate, then re-buffers; violated by the witness -/
example : NoTlsAfterDeflate [.upgrade .tls 64, .sendResponse okFrame, .upgrade .deflate 64, .setOutputBuffer 128,
    .sendResponse okFrame, .subscribe, .sendMessage ⟨2#32, [1]⟩] = true := by decide +kernel
example : NoTlsAfterDeflate (tlsAfterDeflate [1]) = false := by decide +kernel
example : staleAfter [.deflate, .tls] = true ∧ staleAfter [.snappy, .deflate, .tls] = true ∧
    staleAfter [.tls, .deflate, .tls] = true ∧ staleAfter [.deflate, .tls, .tls] = true ∧
    staleAfter [.snappy, .tls] = false ∧ staleAfter [.deflate, .snappy, .tls] = false ∧
    staleAfter [.deflate, .tls, .snappy] = false ∧ staleAfter [.deflate, .tls, .deflate] = false := by decide +kernel
/-- the checked tree on a schedule within `NoTlsAfterDeflate` -/
example : (krun Nsq.Tie.WireStack.tree (kconn0 64) [.upgrade .tls 64, .sendResponse okFrame, .upgrade .deflate 64,
    .sendResponse okFrame]).stray = [] := (this_tree_k 64 _ (Or.inr (by decide))).2
/-- the checked tree on the witness schedule (OUTSIDE `NoTlsAfterDeflate`): nothing stray, no stale writer -/
example : (krun Nsq.Tie.WireStack.tree (kconn0 16384) (tlsAfterDeflate [83, 69, 67, 82, 69, 84])).stray = [] :=
  (this_tree_k_full 16384 _).2
example : (krun Nsq.Tie.WireStack.tree (kconn0 16384) (tlsAfterDeflate [83, 69, 67, 82, 69, 84])).fw = none := by
  rw [Nsq.Tie.WireStack.tree_is_F30b]; decide +kernel

end Nsq.Props.C07Stack
