/-
C13.3 / C13.4 at the nsqd level: the client-counter theorems of `Nsq.Props.C13` are stated for
a STANDALONE channel reachable by atomic ops (`ReachableA`). Here they hold for every consumer of every channel of every
topic of every daemon state reachable from an empty nsqd by nsqd-level operations — publishes over any topic, fan-out by
the topic pump, SUB / disconnect incl. the self-deletion of `#ephemeral` channels, channel creation (also its raw halves),
pause, Empty, scans, RDY / CLS / FIN / REQ / TOUCH through the subscription registry — everything except the four
micro-steps that open the FIN and pump windows (`finChan | finClient`, `guard | deliverArmed`; for those:
`C13.inflight_exact_full`, `C13Windows`).
-/
import Nsq.Proofs.ChanNsqdA
namespace Nsq.Props.C13Nsqd
open Nsq.Model.Chan Nsq.Model.ChanInv Nsq.Model.ChanNsqd Nsq.Proofs.Chan Nsq.Proofs.ChanNsqdA

def NReachableA (s : State) : Prop :=
  ∃ (conf : NConf) (ops : List Nsq.Model.ChanNsqd.Op), 0 ≤ conf.chan.maxRdy ∧ (∀ op ∈ ops, chanAtomic op = true) ∧
    s = Nsq.Model.ChanNsqd.run { conf := conf } ops

theorem every_channel_invA {s : State} (h : NReachableA s) {t : Topic} (ht : t ∈ s.topics) {nc : NChan}
    (hnc : nc ∈ t.chans) : InvA s.conf.chan nc.ch ∧ 0 ≤ s.conf.chan.maxRdy := by
  obtain ⟨conf, ops, hconf, hat, rfl⟩ := h
  have := nrun_ainv (s := { conf := conf }) hconf (by intro t ht; cases ht) ops hat
  rw [this.2]
  exact ⟨this.1 t ht nc hnc, hconf⟩

/-- **C13.3 / C13.4 for every consumer of a reachable daemon**: `ready_count` = its last accepted RDY (0 after CLS),
`message_count` / `finish_count` / `requeue_count` = its deliveries / accepted FINs / accepted REQs, `in_flight_count` =
the messages it holds = sent − finished − requeued − timed out -/
theorem client_counters_nsqd {s : State} (h : NReachableA s) {t : Topic} (ht : t ∈ s.topics) {nc : NChan}
    (hnc : nc ∈ t.chans) {cl : Client} (hcl : cl ∈ nc.ch.clients) :
    cl.rdy = rdyOf nc.ch.hist cl.conn ∧ (cl.closing = true → cl.rdy = 0) ∧
    cl.msgCount = nDeliverBy nc.ch.hist cl.conn ∧ cl.finCount = nFinBy nc.ch.hist cl.conn ∧
    cl.reqCount = nReqBy nc.ch.hist cl.conn ∧
    cl.inFlight = (heldBy nc.ch.msgs cl.conn : Int) ∧ cl.inFlight = outstanding nc.ch.hist cl.conn :=
  (every_channel_invA h ht hnc).1.counters hcl

/-- no reported number is negative, RDY within range — for every consumer of a reachable daemon -/
theorem nonneg_nsqd {s : State} (h : NReachableA s) {t : Topic} (ht : t ∈ s.topics) {nc : NChan}
    (hnc : nc ∈ t.chans) {cl : Client} (hcl : cl ∈ nc.ch.clients) :
    0 ≤ cl.inFlight ∧ 0 ≤ cl.rdy ∧ cl.rdy ≤ s.conf.chan.maxRdy :=
  (every_channel_invA h ht hnc).1.nonneg hcl

/-! non-vacuity: two topics, a consumer on each, publishes, fan-out, deliveries, FIN, REQ, a timeout scan, Empty -/
def exOps : List Nsq.Model.ChanNsqd.Op :=
  [.sub 1 1 1 false 60 0, .sub 2 2 1 false 60 0, .pub 1 10, .pub 1 11, .pub 2 12, .pumpTopic 1 1 false [], .pumpTopic 1 2 false [],
   .pumpTopic 2 3 false [], .rdy 1 (some 2), .rdy 2 (some 1), .deliver 1 1 100, .deliver 1 2 101, .deliver 2 3 102, .fin 1 1,
   .req 1 2 0 200, .scanInFlight 2 1 1000000, .emptyChan 1 1]
theorem exReach : NReachableA (Nsq.Model.ChanNsqd.run {} exOps) := ⟨{}, exOps, by decide, by decide, rfl⟩
example : ((Nsq.Model.ChanNsqd.run {} exOps).topics.flatMap (fun t => t.chans.flatMap (fun nc => nc.ch.clients.map
    (fun cl => [(cl.conn : Int), cl.rdy, cl.inFlight, cl.msgCount, cl.finCount, cl.reqCount])))) =
    [[1, 2, 0, 2, 1, 1], [2, 1, 0, 1, 0, 0]] := by decide
example : ∀ t ∈ (Nsq.Model.ChanNsqd.run {} exOps).topics, ∀ nc ∈ t.chans, ∀ cl ∈ nc.ch.clients, 0 ≤ cl.inFlight :=
  fun _ ht _ hnc _ hcl => (nonneg_nsqd exReach ht hnc hcl).1

end Nsq.Props.C13Nsqd
