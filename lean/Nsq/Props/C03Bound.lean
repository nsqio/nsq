/-
C03.2 — the in-flight BOUND over micro schedules.

`C03Guard` counts licences (one successful guard evaluation per delivery).  Here the bound the property is about, at
EVERY state of EVERY run of `Nsq.Model.Chan.step` — any op list: the pump's micro-steps `guard k | deliverArmed k id`,
the atomic `deliver`, RDY, CLS, pause, FIN (atomic or split), REQ, TOUCH, scans, Empty, (dis)connects, sampling drops,
in any order.  The two ghosts are pure instrumentation (`grun_is_run`: the channel component of `grun` is `run`):

* `gr k`   = `rdy` of connection `k` at its last SUCCESSFUL guard evaluation (0 at SUB);
* `base k` = `inFlight` of `k` when its last `RDY` / `CLS` command was accepted (0 at SUB).

* `inflight_le_guard_rdy` — `inFlight(k) ≤ gr k`, and `< gr k` while the pump is armed (a delivery is still licensed).
  NO "+ 1": the guard's strict `inFlight < rdy` absorbs the one delivery it licenses.
* `inflight_le_rdy_or_one_over` — `inFlight(k) ≤ max (rdy k now) (base k + 1)`: after a RDY change / CLS the consumer
  holds at most ONE message more than it held when the command was accepted — unless the new RDY itself allows more.
  This is the "+ 1" of the property, measured against the consumer's own view (what it held when it sent RDY).
* `old_bound_false` — the tempting form `inFlight ≤ max rdy lgr + 1` with `lgr` = `rdy` at the SEND (the
  ghost field of `Client`), is FALSE at micro granularity: RDY 2, one in flight, guard, RDY 0, armed delivery
  ⇒ `inFlight = 2`, `rdy = lgr = 0`.  Against the CURRENT rdy alone no bound `rdy + const` exists even atomically
  (RDY n, n deliveries, RDY 0).
-/
import Nsq.Proofs.ChanBound
namespace Nsq.Props.C03Bound
open Nsq.Model.Chan Nsq.Proofs.ChanBound

theorem grun_is_run (conf : Conf) (c : Chan) (g : Gh) (ops : List Op) : (grun conf (c, g) ops).1 = run conf c ops :=
  grun_fst conf (c, g) ops

/-- **bound 1**: at every state of every run, a connected consumer's in-flight count is at most the RDY value its
pump saw at its last successful guard evaluation; strictly less while a delivery is still licensed -/
theorem inflight_le_guard_rdy (conf : Conf) (eph : Bool) (cap : Nat) (ops : List Op) (k : Nat) (cl : Client)
    (hcl : findC (run conf { ephemeral := eph, memCap := cap } ops).clients k = some cl) :
    cl.inFlight ≤ (grun conf ({ ephemeral := eph, memCap := cap }, {}) ops).2.gr k ∧
    (cl.armed = true → cl.inFlight < (grun conf ({ ephemeral := eph, memCap := cap }, {}) ops).2.gr k) := by
  have h := grun_binv conf (binv_init eph cap) ops k cl (by rw [grun_fst]; exact hcl)
  exact ⟨h.le_gr, h.armed_lt⟩

/-- **bound 2** (the one-message overshoot): at every state of every run, `inFlight ≤ max rdy (base + 1)` where `base`
is what the consumer held when its last RDY / CLS was accepted; and an armed pump has either not yet used the one
overshoot (`inFlight ≤ base`) or is licensed by the CURRENT rdy -/
theorem inflight_le_rdy_or_one_over (conf : Conf) (eph : Bool) (cap : Nat) (ops : List Op) (k : Nat) (cl : Client)
    (hcl : findC (run conf { ephemeral := eph, memCap := cap } ops).clients k = some cl) :
    cl.inFlight ≤ max cl.rdy ((grun conf ({ ephemeral := eph, memCap := cap }, {}) ops).2.base k + 1) ∧
    (cl.armed = true →
      cl.inFlight ≤ (grun conf ({ ephemeral := eph, memCap := cap }, {}) ops).2.base k ∨ cl.inFlight < cl.rdy) := by
  have h := grun_binv conf (binv_init eph cap) ops k cl (by rw [grun_fst]; exact hcl)
  exact ⟨by have := h.le_base; omega, h.armed_or⟩

/-- corollary in state-only terms: a consumer whose RDY is 0 (RDY 0 or CLS) holds at most one message more than it
held when that command was accepted -/
theorem after_rdy0_one_more (conf : Conf) (eph : Bool) (cap : Nat) (ops : List Op) (k : Nat) (cl : Client)
    (hcl : findC (run conf { ephemeral := eph, memCap := cap } ops).clients k = some cl) (h0 : cl.rdy = 0)
    (hb : 0 ≤ (grun conf ({ ephemeral := eph, memCap := cap }, {}) ops).2.base k) :
    cl.inFlight ≤ (grun conf ({ ephemeral := eph, memCap := cap }, {}) ops).2.base k + 1 := by
  have h := (inflight_le_rdy_or_one_over conf eph cap ops k cl hcl).1
  omega

/-! ### non-vacuity: a run that reaches both bounds with equality, and refutes the `lgr` form -/

/-- RDY 2; one delivery; guard (sees rdy 2, one in flight); RDY 0 (accepted with one in flight); the armed delivery -/
def tightOps : List Op :=
  [.put 7 {}, .put 8 {}, .put 9 {}, .addClient 1 60 0, .rdy 1 2, .guard 1, .deliverArmed 1 7 100,
   .guard 1, .rdy 1 0, .deliverArmed 1 8 101]

def tightEnd : Chan × Gh := grun {} ({}, {}) tightOps

example : (findC tightEnd.1.clients 1).map (fun cl => (cl.inFlight, cl.rdy, cl.lgr, cl.armed)) = some (2, 0, 0, false) := by
  decide
example : tightEnd.2.gr 1 = 2 ∧ tightEnd.2.base 1 = 1 := by decide
/-- bound 1 reached: `inFlight = gr` -/
example : ∃ cl, findC (run {} {} tightOps).clients 1 = some cl ∧ cl.inFlight = (grun {} ({}, {}) tightOps).2.gr 1 := by
  decide
/-- bound 2 reached: `inFlight = max rdy (base + 1) = base + 1` with `rdy = 0` -/
example : ∃ cl, findC (run {} {} tightOps).clients 1 = some cl ∧
    cl.inFlight = max cl.rdy ((grun {} ({}, {}) tightOps).2.base 1 + 1) ∧ cl.rdy = 0 := by
  decide
/-- a third delivery is refused: the bound is not exceeded -/
example : (step {} (run {} {} tightOps) (.deliverArmed 1 9 102)).2 = .reject "not-armed" ∧
    (step {} (run {} {} tightOps) (.guard 1)).2 = .reject "guard" := by decide
example : ∀ cl, findC (run {} {} tightOps).clients 1 = some cl → cl.inFlight ≤ 2 := by
  intro cl h
  have := (inflight_le_guard_rdy {} false 0 tightOps 1 cl h).1
  have e : (grun {} ({ ephemeral := false, memCap := 0 }, {}) tightOps).2.gr 1 = 2 := by decide
  rw [e] at this; exact this
/-- while armed (before the last delivery) the strict half holds non-trivially: `1 < 2` -/
example : ∃ cl, findC (run {} {} (tightOps.take 9)).clients 1 = some cl ∧ cl.armed = true ∧ cl.inFlight = 1 ∧
    (grun {} ({}, {}) (tightOps.take 9)).2.gr 1 = 2 ∧ (grun {} ({}, {}) (tightOps.take 9)).2.base 1 = 1 := by decide

/-- the tempting form `inFlight ≤ max rdy lgr + 1` (`lgr` = rdy at the send) is FALSE over micro schedules -/
theorem old_bound_false : ¬ (∀ (ops : List Op) (cl : Client), cl ∈ (run {} {} ops).clients →
    cl.inFlight ≤ max cl.rdy cl.lgr + 1) := by
  intro h
  have := h tightOps { conn := 1, rdy := 0, inFlight := 2, msgCount := 2, msgTimeout := 60 } (by decide)
  revert this; decide

end Nsq.Props.C03Bound
