import Nsq.Proofs.SafeAt
import Nsq.Props.C20
import Nsq.Gen.ToolsRelay
/-!
C20, decision of finding `gives-up-after-max-attempts` for the relays: behind go-nsq's `handlerLoop` the
statement "a Finish always has an accepted request (or sampling) behind it" holds **iff** the consumer runs with
`max_attempts = 0`. The value `main()` of nsq_to_http / nsq_to_nsq runs with is regenerated from the source
(`Nsq.Gen.ToolsRelay.n2hMaxAttempts`, `n2nMaxAttempts`; tie `Nsq.Tie.ToolsRelay.relays_run_with_library_default`).
No repair is proposed for the relays (see docs/C20.md): unlike nsq_to_file their handlers do fail messages
(REQ with back-off), so `max_attempts = 0` would turn one poison message into a permanent back-off of the
whole consumer; giving up after N attempts is go-nsq's documented policy and `--consumer-opt max_attempts,0`
is the operator's switch.
-/
namespace Nsq.Props.C20GiveUp
open Nsq.Model.Relay Nsq.Model.Relay.Http

/-- tool-level statement for a consumer configured with `max_attempts = k` — **nsq_to_http** (`Http.consume`). The
nsq_to_nsq half (`N2N.consume`, over whole histories) is `Nsq.Props.C20N2NTool.n2nSafeAt` / `n2n_safe_iff`; both together:
`Nsq.Props.C20N2NTool.both_relays_safe_iff`. -/
def relaySafeAt (k : Nat) : Prop :=
  ∀ (c : Cfg), c.naddr ≠ 0 → ∀ (attempts counter : Nat) (m : Msg) (so : Bool) (pick : Nat) (resp : Nat → Option Nat),
    Out.fin m.id ∈ (consume c k attempts counter m so pick resp).2 →
      (c.sampling = true ∧ so = true) ∨ ∃ a, Out.request a m.body true ∈ (consume c k attempts counter m so pick resp).2

theorem relay_safe_without_giveup : relaySafeAt 0 := by
  intro c hn attempts counter m so pick resp hfin
  exact Nsq.Props.C20.tool_fin_only_after_accept_partial c hn 0 attempts counter m so pick resp (by simp [shouldFail]) hfin

/-- **decision**: the relay acknowledges only after acceptance iff the library never gives up -/
theorem relay_safe_iff (k : Nat) : relaySafeAt k ↔ k = 0 :=
  Nsq.Proofs.iff_zero_of relay_safe_without_giveup Nsq.Props.C20.consume_unsafe_with_giveup k

/-- instantiated with the regenerated configuration of the shipped tools (the second conjunct instantiates the
*nsq_to_http* statement with nsq_to_nsq's regenerated `max_attempts`; the statement about nsq_to_nsq's own handler is
`Nsq.Props.C20N2NTool.both_relays_safe_iff`) -/
theorem shipped_relays_safe_iff :
    (relaySafeAt Nsq.Gen.ToolsRelay.n2hMaxAttempts ↔ Nsq.Gen.ToolsRelay.n2hMaxAttempts = 0)
    ∧ (relaySafeAt Nsq.Gen.ToolsRelay.n2nMaxAttempts ↔ Nsq.Gen.ToolsRelay.n2nMaxAttempts = 0) :=
  ⟨relay_safe_iff _, relay_safe_iff _⟩

example : ¬ relaySafeAt 5 := Nsq.Props.C20.consume_unsafe_with_giveup 5 (by decide)
example : (consume ⟨.roundRobin, 1, true, false⟩ 0 6 0 ⟨7, [1]⟩ false 0 (fun _ => some 500)).2
    = [Out.request 0 [1] false, Out.req 7] := by decide

end Nsq.Props.C20GiveUp
