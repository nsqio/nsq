import Nsq.Props.C16More
/-!
# C16 — the quiescence hypothesis discharged: drain count + two ticks

`C16Ticks.in_sync_within_two_ticks` assumes `Quiescent` at the end; `C16More.bag_drains` counts the pending
notifications. Here the two are composed (`in_sync_after_last_churn_and_fault`), the count is proved in both directions
(`notify_count_le_bag`), and such a schedule is ENABLED from every state (`drain_and_two_ticks_enabled`: `lookupLoop` never
blocks on a pending notification): after the last churn step and the last fault, `|bag| + 2` iterations of `lookupLoop`
suffice (`in_sync_after_bag_plus_two_iterations`).
-/
namespace Nsq.Props.C16Drain
open Nsq.Model.LookupSync Nsq.Proofs.LookupSync Nsq.Proofs.LookupTicks Nsq.Props.C16 Nsq.Props.C16More

/-- Over `lookupLoop` iterations at most `|bag|` are notifications; the bag is drained iff exactly `|bag|` were. -/
theorem notify_count_le_bag (steps : List Step) (s s' : State) (hr : run s steps = some s')
    (hloop : steps.all loopOnly = true) :
    (steps.filter isNotify).length ≤ s.bag.length ∧
    (s'.bag = [] ↔ (steps.filter isNotify).length = s.bag.length) := by
  obtain ⟨e1, _, _⟩ := bag_drains steps s s' hr hloop
  refine ⟨by omega, ⟨fun h => ?_, fun h => List.eq_nil_of_length_eq_zero (by omega)⟩⟩
  rw [h] at e1; simpa using e1

/-- After the last churn step (`hnd`: nothing is half-deleted; `hloop`: only `lookupLoop` iterations and lookupd faults
follow) and the last fault of the lookupd at `a` (`hok`), once the bag has drained (`hbag`) and two ticks have passed
(`h2`), that lookupd is connected and lists exactly nsqd's objects; the drain took exactly `|bag|` notify iterations. -/
theorem in_sync_after_last_churn_and_fault (a : Nat) (pre steps : List Step) (s0 s' : State)
    (h0 : run State.init pre = some s0) (hnd : ∀ r ∈ s0.objs, r ∉ s0.dead) (hr : run s0 steps = some s')
    (hloop : steps.all loopOnly = true) (hok : OkRun a s0 steps) (h2 : 2 ≤ ticks steps) (hbag : s'.bag = []) :
    (∀ p ∈ s'.peers, p.addr = a → p.conn = .up ∧ ∀ k, k ∈ p.regs ↔ ∃ r ∈ s'.objs, r.key = k) ∧
    (steps.filter isNotify).length = s0.bag.length ∧ s'.objs = s0.objs := by
  have hn := (notify_count_le_bag steps s0 s' hr hloop).2.mp hbag
  exact ⟨in_sync_after_drain_and_two_ticks a pre steps s0 s' h0 hnd hr hloop hok h2 hn, hn,
    (bag_drains steps s0 s' hr hloop).2.1⟩

def okOuts (n : Nat) : List Outcome := List.replicate n .ok

/-- receive the pending notifications `bag` in order, then tick twice; every `Command` of every round succeeds -/
def drainSched (n : Nat) : List Ref → List Step
  | [] => [.tick (okOuts n), .tick (okOuts n)]
  | r :: rest => .notify r (okOuts n) :: drainSched n rest

theorem okOuts_ok (a : Nat) (peers : List Peer) : outsOkFor a peers (okOuts peers.length) := by
  intro i p hp _
  obtain ⟨hi, _⟩ := List.getElem?_eq_some_iff.mp hp
  simp [okOuts, hi]

theorem drainSched_shape (n : Nat) (bag : List Ref) :
    (drainSched n bag).length = bag.length + 2 ∧ (drainSched n bag).all loopOnly = true ∧
    ticks (drainSched n bag) = 2 := by
  induction bag with
  | nil => exact ⟨rfl, rfl, rfl⟩
  | cons r rest ih =>
    obtain ⟨h1, h2, h3⟩ := ih
    simp only [ticks] at h3
    exact ⟨by simp [drainSched, h1], by simp [drainSched, loopOnly, h2], by simp [drainSched, ticks, isTick, h3]⟩

theorem drain_runs (a : Nat) : ∀ (bag : List Ref) (s : State), s.bag = bag →
    ∃ s', run s (drainSched s.peers.length bag) = some s' ∧ s'.bag = [] ∧
      OkRun a s (drainSched s.peers.length bag) := by
  intro bag
  induction bag with
  | nil =>
    intro s hb
    refine ⟨_, rfl, ?_, ?_⟩
    · simpa [step] using hb
    · refine ⟨okOuts_ok a s.peers, fun s1 h1 => ⟨?_, fun _ _ => trivial⟩⟩
      obtain rfl : s1 = _ := step_some h1
      simp only [OkFor]
      have hl := length_mapOutcomes (command s.objs s.dead id) s.peers (okOuts s.peers.length)
      have := okOuts_ok a (mapOutcomes (command s.objs s.dead id) s.peers (okOuts s.peers.length))
      rw [hl] at this; exact this
  | cons r rest ih =>
    intro s hb
    have hmem : s.bag.contains r = true := by rw [hb]; simp
    let apply : List Key → List Key :=
      if nameLive s.objs s.dead r.topic r.chan then register r.topic r.chan else unregister r.topic r.chan
    let s1 : State :=
      { s with bag := s.bag.erase r, peers := mapOutcomes (command s.objs s.dead apply) s.peers (okOuts s.peers.length) }
    have hstep : step s (.notify r (okOuts s.peers.length)) = some s1 := by
      simp only [step, hmem, Bool.not_true, Bool.false_eq_true, if_false]; rfl
    have hb1 : s1.bag = rest := by simp [s1, hb]
    -- the schedule carries `s.peers.length` outcomes per round; a round keeps the number of peers
    have hl1 : s1.peers.length = s.peers.length := length_mapOutcomes _ _ _
    obtain ⟨s', hr', hbag', hok'⟩ := ih s1 hb1
    rw [hl1] at hr' hok'
    refine ⟨s', ?_, hbag', ?_⟩
    · exact run_cons.mpr ⟨s1, hstep, hr'⟩
    · refine ⟨okOuts_ok a s.peers, fun s2 h2 => ?_⟩
      rw [hstep] at h2; cases h2; exact hok'

/-- `lookupLoop` drains the bag and ticks twice in exactly `|bag| + 2` iterations, none of them blocked. -/
theorem drain_and_two_ticks_enabled (a : Nat) (s : State) :
    ∃ steps s', run s steps = some s' ∧ steps.length = s.bag.length + 2 ∧ steps.all loopOnly = true ∧
      OkRun a s steps ∧ ticks steps = 2 ∧ s'.bag = [] := by
  obtain ⟨s', hr, hb, hok⟩ := drain_runs a s.bag s rfl
  obtain ⟨h1, h2, h3⟩ := drainSched_shape s.peers.length s.bag
  exact ⟨_, s', hr, h1, h2, hok, h3, hb⟩

/-- `pre` is ANY history (churn, faults, restarts, reconfiguration) after which nothing is
half-deleted. Then `|bag| + 2` iterations of `lookupLoop` — the pending notifications and two heartbeat ticks, with no
fault of the lookupd at `a` — are enabled and leave that lookupd connected and listing exactly nsqd's topics and
channels (which are those at the end of `pre`). -/
theorem in_sync_after_bag_plus_two_iterations (a : Nat) (pre : List Step) (s0 : State)
    (h0 : run State.init pre = some s0) (hnd : ∀ r ∈ s0.objs, r ∉ s0.dead) :
    ∃ steps s', run s0 steps = some s' ∧ steps.length = s0.bag.length + 2 ∧ steps.all loopOnly = true ∧
      s'.objs = s0.objs ∧
      ∀ p ∈ s'.peers, p.addr = a → p.conn = .up ∧ ∀ k, k ∈ p.regs ↔ ∃ r ∈ s'.objs, r.key = k := by
  obtain ⟨steps, s', hr, hlen, hloop, hok, ht, hb⟩ := drain_and_two_ticks_enabled a s0
  obtain ⟨hs, _, ho⟩ := in_sync_after_last_churn_and_fault a pre steps s0 s' h0 hnd hr hloop hok (by omega) hb
  exact ⟨steps, s', hr, hlen, hloop, ho, hs⟩

/-! ## non-vacuity -/

/-- two notifications pending, the lookupd restarted and nsqd has not noticed: 2 + 2 iterations, in sync -/
def pre : List Step := [.addPeer 0 .ok, .createTopic "t", .createChan "t" "c", .lookupdDrop 0]

example : ((run State.init pre).map (fun s => (s.bag.length, s.peers.map (fun p => (p.conn == .up, p.regs))))) =
    some (2, [(false, [])]) := by decide +kernel
example : ((run State.init pre).map (fun s => drainSched s.peers.length s.bag)) =
    some [.notify c1 [.ok], .notify t0 [.ok], .tick [.ok], .tick [.ok]] := by rfl
example : ((run State.init (pre ++ [.notify c1 [.ok], .notify t0 [.ok], .tick [.ok], .tick [.ok]])).map
    (fun s => (s.bag.length, s.peers.map (fun p => (p.conn == .up, p.regs))))) =
    some (0, [(true, [("t", "c"), ("t", "")])]) := by decide +kernel
/-- the hypothesis `hnd` is needed and not always true: a half-deleted topic -/
example : ((run State.init [.createTopic "t", .delBegin t0]).map (fun s => decide (∀ r ∈ s.objs, r ∉ s.dead))) =
    some false := by decide +kernel
/-- the bound of `notify_count_le_bag` is attained and the drain is not vacuous: a third notification is refused -/
example : (run State.init (pre ++ [.notify c1 [.ok], .notify t0 [.ok], .notify t0 [.ok]])).isNone = true := by decide +kernel

end Nsq.Props.C16Drain
