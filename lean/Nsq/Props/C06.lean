import Nsq.Proofs.MetaIdle
import Nsq.Proofs.MetaCut
import Nsq.Model.MetaOrder
/-!
# C06 — Hard-kill consistency of persisted metadata

Model: `Nsq.Model.Meta` — one `Step` per
critical section / system call of `PersistMetadata`, `writeSyncFile`, `GetMetadata`, `Notify`,
the create / delete / pause paths, `kill` (SIGKILL) and `start` (flock + `LoadMetadata`).
`Reach cd fix s`: `s` is reachable by *some* list of steps from the empty data path — every
interleaving, every kill point, any number of restarts. `fix = true` is the tree with
`fixes/F6_persist_after_delete.patch`; theorems stated for an arbitrary `fix` hold for both trees.
The byte-string type `β` and the JSON codec are parameters (`encoding/json` is trusted to round-trip).
-/
namespace Nsq.Props.C06
open Nsq.Model.FS Nsq.Model.Meta Nsq.Proofs.Meta

variable {β : Type}

/-- At every instant `nsqd.dat` is absent or is the complete serialisation of a snapshot that a
`PersistMetadata` call actually took (never a prefix, never a temporary file's content). -/
theorem dat_absent_or_complete (cd : Codec β) (fix : Bool) (s : Sys β) (h : Reach cd fix s) :
    s.fs.dat = none ∨ ∃ d ∈ s.taken, s.fs.dat = some (cd.marshal d) := by
  have hA := reach_invA h
  cases hl : s.renamed.getLast? with
  | none => left; simp [hA.datEq, hl]
  | some d =>
    right
    refine ⟨d, hA.sub.subset (List.mem_of_getLast? hl), ?_⟩
    simp [hA.datEq, hl]

/-- After a kill at any point (or on an empty data path) the daemon starts: `LoadMetadata` succeeds
and the live maps are exactly the last snapshot that was renamed onto `nsqd.dat`. -/
theorem start_after_kill_ok (cd : Codec β) (hc : cd.RoundTrip) (fix : Bool) (s : Sys β)
    (h : Reach cd fix s) (hdead : s.alive = false) :
    ∃ s', step cd fix s .start = some s' ∧ s'.lastStart = .ok ∧ s'.alive = true ∧
      s'.mem = (match s.renamed.getLast? with | none => [] | some d => loadDoc d) := by
  have hA := reach_invA h
  cases hl : s.renamed.getLast? with
  | none =>
    have hd : s.fs.dat = none := by simp [hA.datEq, hl]
    exact ⟨boot s [], by simp [step, hdead, hd], rfl, rfl, rfl⟩
  | some d =>
    have hd : s.fs.dat = some (cd.marshal d) := by simp [hA.datEq, hl]
    exact ⟨boot s (loadDoc d), by simp [step, hdead, hd, hc d], rfl, rfl, rfl⟩

/-- Restart, then persist, is the identity on the document: loading loses nothing. -/
theorem load_then_snapshot (d : Doc) : snap (loadDoc d) = d := by
  -- the idealised loader creates nothing ephemeral, so the snapshot drops nothing
  induction d with
  | nil => rfl
  | cons t ts ih =>
    have hc : ∀ cs : List ChanM, ((cs.map loadChan).filter (fun c => !c.eph)).map snapChan = cs := by
      intro cs; induction cs with
      | nil => rfl
      | cons c cs ih => simp_all [loadChan, snapChan]
    have : snap (loadDoc (t :: ts)) = snapTopic (loadTopic t) :: snap (loadDoc ts) := by
      simp [snap, loadDoc, loadTopic]
    rw [this, ih]
    simp [snapTopic, loadTopic, hc]

/-- The file never goes back in time: `nsqd.dat` is the most recently renamed snapshot, and the
renamed snapshots are a subsequence of the snapshots in the order they were taken (all persists
run inside the same critical section). -/
theorem file_is_latest_snapshot (cd : Codec β) (fix : Bool) (s : Sys β) (h : Reach cd fix s) :
    s.fs.dat = s.renamed.getLast?.map cd.marshal ∧ s.renamed.Sublist s.taken :=
  ⟨(reach_invA h).datEq, (reach_invA h).sub⟩

/-- `Quiet`: the daemon runs, no `Notify` continuation or synchronous persist is queued or
running, and no topic deletion is half-way. -/
def Quiet (s : Sys β) : Prop := Idle s ∧ ¬ exitingNE s.mem

/-- The full idle clause: whenever the daemon is quiet, `nsqd.dat` is exactly the snapshot of the
live maps — it lists every completed creation and no completed deletion. -/
def C06_deletion_full (fix : Bool) : Prop :=
  ∀ (β : Type) (cd : Codec β) (s : Sys β), Reach cd fix s → Quiet s →
    s.fs.dat = some (cd.marshal (snap s.mem))

/-- With `fixes/F6_persist_after_delete.patch` the full clause holds. -/
theorem deletion_full : C06_deletion_full true := by
  intro β cd s h ⟨⟨ha, hp, hh, hn⟩, hx⟩
  rcases reach_invI h ha with h1 | h1 | h1 | h1
  · exact absurd hp (Nat.ne_of_gt h1)
  · exact absurd hh h1
  · rw [hn] at h1; exact h1
  · exact absurd h1 hx

/-- Every completed creation of a persisted topic / channel is in the file once the daemon is quiet. -/
theorem creation_persisted_when_idle (cd : Codec β) (s : Sys β) (h : Reach cd true s) (hq : Quiet s) :
    ∃ D, s.fs.dat = some (cd.marshal D) ∧ ∀ t ∈ s.mem, t.eph = false → snapTopic t ∈ D :=
  ⟨snap s.mem, deletion_full β cd s h hq, fun t ht he => mem_snap.mpr ⟨t, ht, he, rfl⟩⟩

/-- Every entry of the file of a quiet daemon is a live, persisted topic with exactly its live,
persisted channels and flags: nothing deleted is listed. -/
theorem deletion_excluded_when_idle (cd : Codec β) (s : Sys β) (h : Reach cd true s) (hq : Quiet s) :
    ∃ D, s.fs.dat = some (cd.marshal D) ∧ ∀ e ∈ D, ∃ t ∈ s.mem, t.eph = false ∧ e = snapTopic t :=
  ⟨snap s.mem, deletion_full β cd s h hq, fun _ he => mem_snap.mp he⟩

/-- A toy codec (a document and how many bytes of it are present) for the counter-example. -/
def toyCodec : Codec (Doc × Option Nat) :=
  { marshal := fun d => (d, none), parse := fun b => if b.2.isNone then some b.1 else none,
    cut := fun k b => (b.1, some k) }

/-- The schedule `start; (startup persist); create topic t; (its Notify persist); delete topic t:
Notify at the start of exit(true), that persist runs while t is still in the map; unlink`. -/
def f6Schedule : List Step :=
  let persistAll : List Step := [.persist .read, .persist .read, .persist (.openTmp 7), .persist .writeRest,
    .persist .sync, .persist .rename, .persist .finish]
  [.start, .persist (.beginHandler 0), .persist .read, .persist (.openTmp 1), .persist .writeRest,
   .persist .sync, .persist .rename, .persist .finish,
   .mem (.createTopic "t" false), .persist .beginNotify] ++ persistAll ++
  [.mem (.delTopicBegin "t"), .persist .beginNotify] ++ persistAll ++
  [.mem (.delTopicUnlink "t")]

def f6Check (o : Option (Sys (Doc × Option Nat))) : Bool :=
  match o with
  | some s => s.alive && s.pending == 0 && s.handlers.isEmpty && s.persist.isNone && s.mem.isEmpty &&
      (match s.fs.dat with | some (d, none) => d == [⟨"t", false, []⟩] | _ => false)
  | none => false

/-- Without the fix the full clause is false: after `create t; delete t` the daemon is quiet, `t`
is gone from the live maps and `nsqd.dat` still lists it (a SIGKILL + restart resurrects it). -/
theorem deletion_full_false_without_fix : ¬ C06_deletion_full false := by
  intro hfull
  have hc : f6Check (run toyCodec false Sys.init f6Schedule) = true := by decide +kernel
  cases hr : run toyCodec false Sys.init f6Schedule with
  | none => rw [hr] at hc; cases hc
  | some s =>
    rw [hr] at hc
    simp only [f6Check, Bool.and_eq_true, beq_iff_eq, List.isEmpty_iff, Option.isNone_iff_eq_none] at hc
    obtain ⟨⟨⟨⟨⟨ha, hp⟩, hh⟩, hn⟩, hm⟩, hd⟩ := hc
    have hq : Quiet s := ⟨⟨ha, hp, hh, hn⟩, by rintro ⟨t, ht, -⟩; rw [hm] at ht; cases ht⟩
    -- the clause would make the file the document of the empty maps, but it still lists `t`
    rw [hfull _ toyCodec s ⟨_, hr⟩ hq, hm] at hd
    revert hd
    decide

/-- The same schedule on the tree with the fix ends with a `del` persist queued (not quiet yet). -/
example : ((run toyCodec true Sys.init f6Schedule).map (fun s => s.handlers.length)) = some 1 := by decide +kernel

/-- Every snapshot ever taken (hence every content `nsqd.dat` ever has, by `dat_absent_or_complete`) is a
cut of the daemon's history: its topic list is the persisted topic list of one state the live maps passed
through, and each entry is the persisted entry (pause flag + channel set with flags) of that topic in
some state passed through. (The cut is per topic: `GetMetadata` locks one topic at a time.) -/
theorem snapshot_cut (cd : Codec β) (fix : Bool) (s : Sys β) (h : Reach cd fix s) :
    ∀ D ∈ s.taken, (∃ M ∈ s.hist, names D = names (snap M)) ∧
      ∀ e ∈ D, ∃ M ∈ s.hist, e ∈ snap M :=
  (reach_invC h).taken

/-- Observation: the cut is not global. Two channel creations in different topics can straddle a snapshot
(`a` read before `c1` is added to it, `b` read after `c2` was added): the document `a:[] b:[c2]` is taken
although the daemon never was in a state with `c2` but without `c1`. The next persist heals it. -/
def cutSchedule : List Step :=
  [.start, .mem (.createTopic "a" false), .mem (.createTopic "b" false), .persist .beginNotify, .persist .read,
   .mem (.createChan "a" "c1" false), .mem (.createChan "b" "c2" false), .persist .read, .persist .read]

def cutCheck (o : Option (Sys (Doc × Option Nat))) : Bool :=
  match o with
  | some s => s.taken == [[⟨"a", false, []⟩, ⟨"b", false, [⟨"c2", false⟩]⟩]] &&
      !(s.hist.map snap).contains [⟨"a", false, []⟩, ⟨"b", false, [⟨"c2", false⟩]⟩]
  | none => false

theorem cutCheck_run (fix : Bool) : cutCheck (run toyCodec fix Sys.init cutSchedule) = true := by
  cases fix <;> decide +kernel

example : cutCheck (run toyCodec false Sys.init cutSchedule) = true := cutCheck_run false

/-- The clause "after a restart the set of topics and channels is one the daemon actually passed through",
read GLOBALLY (the whole document equals the persisted view of ONE live state): every snapshot ever taken — hence, by
`dat_absent_or_complete`, every content `nsqd.dat` ever has, hence (by `start_after_kill_ok`) every state a restart after
a kill can load — is `snap M` for some state `M` of the history. -/
def C06_cut_full (fix : Bool) : Prop :=
  ∀ (β : Type) (cd : Codec β) (s : Sys β), Reach cd fix s → ∀ D ∈ s.taken, ∃ M ∈ s.hist, D = snap M

/-- … is FALSE on both trees (witness `cutSchedule`: `GetMetadata` locks one topic at a time, and `Topic.GetChannel` does not
take the NSQD lock that `PersistMetadata` holds).  Replayed on the real code: `TestVerifMetaCutSteered` (this very schedule,
forced by parking the persist on `b`'s topic lock; `corpus/C06/known/global_cut_two_topics.ops`) and, unsteered,
`TestVerifMetaCutObservation` (`restart_from_that_file=loaded-never-passed-state`); open known finding
`restart-state-never-passed-through`. -/
theorem cut_full_false (fix : Bool) : ¬ C06_cut_full fix := by
  intro hfull
  have hc := cutCheck_run fix
  cases hr : run toyCodec fix Sys.init cutSchedule with
  | none => rw [hr] at hc; cases hc
  | some s =>
    simp only [hr, cutCheck, Bool.and_eq_true, beq_iff_eq, Bool.not_eq_true', List.contains_eq_mem,
      decide_eq_false_iff_not, List.mem_map, not_exists, not_and] at hc
    obtain ⟨ht, hn⟩ := hc
    obtain ⟨M, hM, hD⟩ := hfull _ toyCodec s ⟨_, hr⟩ _ (by rw [ht]; exact List.mem_singleton.mpr rfl)
    exact hn M hM hD.symm

/-- `C06_cut_partial` — what does hold (= `snapshot_cut`): the cut is per topic.  The topic LIST of every document is that of
one live state, and every topic ENTRY (pause flag + channel set with flags) is that topic's entry in one live state; the
entries of different topics may come from different states between the persist's first and last read.  Forced weakening:
`cut_full_false`.  The next completed persist heals it (`creation_persisted_when_idle`, `deletion_excluded_when_idle`: at
quiescence the file IS the live state). -/
theorem C06_cut_partial (cd : Codec β) (fix : Bool) (s : Sys β) (h : Reach cd fix s) :
    ∀ D ∈ s.taken, (∃ M ∈ s.hist, names D = names (snap M)) ∧ ∀ e ∈ D, ∃ M ∈ s.hist, e ∈ snap M :=
  snapshot_cut cd fix s h

theorem ack_entry {cd : Codec β} {fix : Bool} {s : Sys β} (h : Reach cd fix s) {p : Persist} {hd : Handler}
    (hp : s.persist = some p) (ho : p.owner = some hd) {e : TopicM} (he : e ∈ p.done) :
    ∃ i M, hd.stamp ≤ i ∧ s.hist[i]? = some M ∧ e ∈ snap M :=
  have hC := (reach_invC h).run p hp
  (hC.done e he).weaken (hC.owner hd ho)

/-- When a synchronous persist (pause/unpause handler, startup, post-delete persist) returns — the instant
the HTTP answer is produced — `nsqd.dat` is the complete document of the caller's *own* snapshot, and every
entry of it was read from a live state at or after the caller's own state change (`hd.stamp`). -/
theorem pause_ack_persisted (cd : Codec β) (fix : Bool) (s s' : Sys β) (h : Reach cd fix s)
    (p : Persist) (hd : Handler) (hp : s.persist = some p) (ho : p.owner = some hd)
    (hs : step cd fix s (.persist .finish) = some s') :
    s'.fs.dat = some (cd.marshal p.done) ∧ s'.acks = s.acks ++ [⟨hd, p.done⟩] ∧
    ∀ e ∈ p.done, ∃ i M, hd.stamp ≤ i ∧ s.hist[i]? = some M ∧ e ∈ snap M := by
  have hA := reach_invA h
  cases step_inv hs with
  | persist _ ht =>
    cases ht with
    | advance _ had => cases had
    | finish hp' hph =>
      cases hp.symm.trans hp'
      exact ⟨(hA.run p hp).datDone hph, by rw [ho], fun _ => ack_entry h hp ho⟩

/-- …so, unless another pause/unpause of the same topic raced with the handler (every live state from the
handler's store on has the topic with the requested flag), the file the answer is based on has that flag. -/
theorem pause_ack_flag (cd : Codec β) (fix : Bool) (s : Sys β) (h : Reach cd fix s)
    (p : Persist) (hd : Handler) (hp : s.persist = some p) (ho : p.owner = some hd)
    (t : String) (flag : Bool)
    (hquiet : ∀ i M T, hd.stamp ≤ i → s.hist[i]? = some M → T ∈ M → T.name = t → T.paused = flag) :
    ∀ e ∈ p.done, e.name = t → e.paused = flag := by
  intro e he hn
  obtain ⟨i, M, hi, hM, hm⟩ := ack_entry h hp ho he
  obtain ⟨T, hT, -, rfl⟩ := mem_snap.mp hm
  exact hquiet i M T hi hM hT hn

/-- The channel corollary of `pause_ack_flag` (`/channel/pause`, `/channel/unpause`): unless another
pause/unpause of the same channel (or a deletion / re-creation of it) raced with the handler — every live state from the
handler's store on has channel `t:cn`, whenever it lists it, with the requested flag — every entry for `t:cn` in the file
the answer is based on carries that flag. -/
theorem pause_ack_chan_flag (cd : Codec β) (fix : Bool) (s : Sys β) (h : Reach cd fix s)
    (p : Persist) (hd : Handler) (hp : s.persist = some p) (ho : p.owner = some hd)
    (t cn : String) (flag : Bool)
    (hquiet : ∀ i M T C, hd.stamp ≤ i → s.hist[i]? = some M → T ∈ M → T.name = t → C ∈ T.chans → C.name = cn →
      C.paused = flag) :
    ∀ e ∈ p.done, e.name = t → ∀ c ∈ e.chans, c.name = cn → c.paused = flag := by
  intro e he hn c hc hcn
  obtain ⟨i, M, hi, hM, hm⟩ := ack_entry h hp ho he
  obtain ⟨T, hT, -, rfl⟩ := mem_snap.mp hm
  obtain ⟨C, hCm, -, rfl⟩ := mem_snapTopic_chans.mp hc
  exact hquiet i M T C hi hM hT hn hCm hcn

/-- A second nsqd on a data path that is in use refuses to start and disturbs nothing.
(In the MODEL this holds by definition of `step … .start` — the model's `alive` flag IS the flock.  The content
of the clause is carried by (i) the ties `Tie.Meta.flock_first` (flock before the first `Listen`, `LOCK_EX|LOCK_NB`) and `exit_releases_dirlock_last`, (ii) the
assumption that flock(2) excludes a second holder, and (iii) the legs that start a real second daemon process and a second
`New()` on a held path.  The theorem only records that the model refuses and changes nothing.) -/
theorem second_instance_refused (cd : Codec β) (fix : Bool) (s : Sys β) (h : s.alive = true) :
    step cd fix s .start = some { s with lastStart := .locked } := by
  simp [step, h]

/-- "In use" lasts until `Exit` has finished writing: from the moment `Exit` starts (listeners closed) the daemon
still holds the flock, so a second nsqd is refused … -/
theorem second_instance_refused_during_exit (cd : Codec β) (fix : Bool) (s s' : Sys β)
    (h : step cd fix s .exitBegin = some s') :
    s'.exiting = true ∧ step cd fix s' .start = some { s' with lastStart := .locked } := by
  cases step_inv h with
  | exitBegin ha _ => exact ⟨rfl, second_instance_refused cd fix _ ha⟩

/-- … and the flock is released (`exitEnd`) only when Exit's own `PersistMetadata` is no longer queued or running
(tie `exit_releases_dirlock_last`: `n.dl.Unlock()` is the last effect of `Exit`, after the persist, the topic
flushes and the join of the background goroutines). -/
theorem lock_released_only_after_exit_persist (cd : Codec β) (fix : Bool) (s s' : Sys β)
    (h : step cd fix s .exitEnd = some s') :
    s.alive = true ∧ s.exiting = true ∧ s.persist = none ∧ (∀ hd ∈ s.handlers, hd.kind ≠ .exit) ∧
      s'.alive = false ∧ s'.fs = s.fs := by
  cases step_inv h with
  | exitEnd ha he hp hh => exact ⟨ha, he, hp, hh, rfl, rfl⟩

/-- non-vacuity: a graceful exit whose persist is parked after its snapshot (a second start is refused), then
completes, the lock is released and the next start loads what Exit wrote -/
def exitSchedule : List Step :=
  [.start, .persist (.beginHandler 0), .persist .read, .persist (.openTmp 1), .persist .writeRest, .persist .sync,
   .persist .rename, .persist .finish, .mem (.createTopic "t" false), .exitBegin,
   .persist (.beginHandler 0), .persist .read, .persist .read, .start,          -- second instance while Exit is parked
   .persist (.openTmp 2), .persist .writeRest, .persist .sync, .persist .rename, .persist .finish, .exitEnd, .start]

def exitCheck (o : Option (Sys (Doc × Option Nat))) : Bool :=
  match o with
  | some s => s.alive && !s.exiting && s.mem == [⟨"t", false, false, false, []⟩] && s.lastStart == .ok
  | none => false

example : exitCheck (run toyCodec true Sys.init exitSchedule) = true := by decide +kernel
example : ((run toyCodec true Sys.init (exitSchedule.take 14)).map (fun s => s.lastStart)) = some .locked := by decide +kernel
-- the lock cannot be released while Exit's persist is still running
example : run toyCodec true Sys.init (exitSchedule.take 14 ++ [.exitEnd]) = none := by decide +kernel

/-! ### why the lock must be exclusive

`file_is_latest_snapshot` rests on every `PersistMetadata` running under the nsqd *write* lock (in `Model.Meta` at most
one `Persist` exists; tie `pause_persists_before_answer`, `notify_order`, `delete_persists_after_unlink`: `Lock`, not
`RLock`). The abstraction below keeps only what matters for the order — snapshots taken, snapshots renamed — and
lets several persists be in flight, as a shared (read) lock would. -/

/-- With a shared lock the file goes back in time: persist 1 takes its document, persist 2 takes a newer one and
renames it (its caller is answered), then persist 1 renames the older document over it. The renamed documents are
no longer a subsequence of the taken ones and `nsqd.dat` (the last renamed) is not the latest snapshot. This is the
schedule the harness steers on the real code (`race`, hook `meta.persist.afterSnapshot`). -/
theorem shared_lock_breaks_file_order :
    ∃ s, orun true {} [.snap 1, .snap 2, .rename 1, .rename 0] = some s ∧
      ¬ s.renamed.Sublist s.taken ∧ s.renamed.getLast? ≠ s.taken.getLast? := by
  refine ⟨{ taken := [1, 2], renamed := [2, 1], inflight := [] }, rfl, ?_, by decide⟩
  decide

/-- The same schedule is not a schedule under the exclusive lock (the second `snap` is not enabled)… -/
example : orun false {} [.snap 1, .snap 2, .rename 1, .rename 0] = none := rfl

/-- …and under the exclusive lock the order is kept along every schedule (the abstract counterpart of
`file_is_latest_snapshot`). -/
theorem exclusive_lock_keeps_file_order (steps : List OStep) (s : OSt)
    (h : orun false {} steps = some s) :
    s.renamed.Sublist s.taken ∧ s.inflight.length ≤ 1 ∧
      (∀ d ∈ s.inflight, s.taken.getLast? = some d ∧ s.renamed.Sublist s.taken.dropLast) :=
  orderInv_orun steps {} ⟨List.Sublist.refl _, Nat.zero_le 1, List.forall_mem_nil _⟩ h

/-- non-vacuity: a concrete schedule with a kill in the middle of a write, a restart, a pause -/
def lifeSchedule : List Step :=
  [.start, .persist (.beginHandler 0), .persist .read, .persist (.openTmp 1), .persist .writeRest, .persist .sync,
   .persist .rename, .persist .finish,
   .mem (.createTopic "t" false), .mem (.createChan "t" "c" false), .persist .beginNotify, .persist .read,
   .persist .read, .persist (.openTmp 2), .persist .writeRest, .persist .sync, .persist .rename, .persist .finish,
   .mem (.createTopic "u" false), .persist .beginNotify, .persist .read, .persist .read, .persist .read,
   .persist (.openTmp 3), .persist (.writePart 5), .kill,          -- SIGKILL in the middle of the write of tmp_3
   .start, .mem (.pauseTopic "t" true), .persist (.beginHandler 1), .persist .read, .persist .read,
   .persist (.openTmp 4), .persist .writeRest, .persist .sync, .persist .rename]

def lifeCheck (o : Option (Sys (Doc × Option Nat))) : Bool :=
  match o with
  | some s => s.alive && s.taken.length == 4 && s.renamed.length == 3 && s.acks.length == 1 &&
      (s.fs.tmp 3 == some ([⟨"t", false, [⟨"c", false⟩]⟩, ⟨"u", false, []⟩], some 5)) &&   -- the partial file is still there
      (s.fs.dat == some ([⟨"t", true, [⟨"c", false⟩]⟩], none)) &&     -- restarted from the last complete file (no "u")
      (s.mem == [⟨"t", true, false, false, [⟨"c", false, false, false⟩]⟩]) &&
      (match s.persist with
       | some p => p.phase == .renamedP && p.done == [⟨"t", true, [⟨"c", false⟩]⟩] &&
                   p.owner == some ⟨.pause "t" none true, 5⟩
       | none => false)
  | none => false

/-- the hypotheses of the theorems above are met by a non-trivial reachable state (kill during a partial
write, restart from the previous complete file, a pause handler about to answer) -/
example : lifeCheck (run toyCodec true Sys.init lifeSchedule) = true := by decide +kernel

example : toyCodec.RoundTrip := fun d => by simp [toyCodec]

/-- non-vacuity of `pause_ack_chan_flag`: a `/channel/pause` handler about to answer; the document it wrote
lists `t:c` paused -/
def chanPauseSchedule : List Step :=
  [.start, .persist (.beginHandler 0), .persist .read, .persist (.openTmp 1), .persist .writeRest, .persist .sync,
   .persist .rename, .persist .finish,
   .mem (.createTopic "t" false), .mem (.createChan "t" "c" false), .persist .beginNotify, .persist .read,
   .persist .read, .persist (.openTmp 2), .persist .writeRest, .persist .sync, .persist .rename, .persist .finish,
   .persist .beginNotify, .persist .read, .persist .read, .persist (.openTmp 3), .persist .writeRest, .persist .sync,
   .persist .rename, .persist .finish,
   .mem (.pauseChan "t" "c" true), .persist (.beginHandler 0), .persist .read, .persist .read,
   .persist (.openTmp 4), .persist .writeRest, .persist .sync, .persist .rename]

example : (match run toyCodec true Sys.init chanPauseSchedule with
    | some s => (match s.persist with
                 | some p => p.phase == .renamedP && p.done == [⟨"t", false, [⟨"c", true⟩]⟩] && p.owner.isSome
                 | none => false) && (s.fs.dat == some ([⟨"t", false, [⟨"c", true⟩]⟩], none))
    | none => false) = true := by decide +kernel

/-- non-vacuity of `cut_full_false` / `C06_cut_partial`: the witness document is a per-topic cut (both entries occur in
live states of the history) and no global one -/
example : (match run toyCodec true Sys.init cutSchedule with
    | some s => s.taken.all (fun D => D.all (fun e => s.hist.any (fun M => (snap M).contains e))) &&
                !(s.hist.map snap).contains [⟨"a", false, []⟩, ⟨"b", false, [⟨"c2", false⟩]⟩]
    | none => false) = true := by decide +kernel

def quietCheck (o : Option (Sys (Doc × Option Nat))) : Bool :=
  match o with
  | some s => s.alive && s.pending == 0 && s.handlers.isEmpty && s.persist.isNone &&
      s.mem.all (fun t => !t.exiting) && s.fs.dat == some ([⟨"t", false, []⟩], none)
  | none => false

/-- `Quiet` is satisfiable by a reachable state with a non-empty file -/
example : ∃ s, Reach toyCodec true s ∧ Quiet s ∧ s.fs.dat = some ([⟨"t", false, []⟩], none) := by
  have hc : quietCheck (run toyCodec true Sys.init (f6Schedule.take 17)) = true := by decide +kernel
  cases hr : run toyCodec true Sys.init (f6Schedule.take 17) with
  | none => rw [hr] at hc; cases hc
  | some s =>
    rw [hr] at hc
    simp only [quietCheck, Bool.and_eq_true, beq_iff_eq, List.isEmpty_iff, Option.isNone_iff_eq_none,
      List.all_eq_true] at hc
    obtain ⟨⟨⟨⟨⟨h1, h2⟩, h3⟩, h4⟩, h5⟩, h6⟩ := hc
    refine ⟨s, ⟨_, hr⟩, ⟨⟨h1, h2, h3, h4⟩, ?_⟩, h6⟩
    rintro ⟨t, ht, hex, -⟩
    have := h5 t ht
    rw [hex] at this
    cases this

end Nsq.Props.C06
