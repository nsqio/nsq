import Nsq.Props.C07
import Nsq.Props.E9DiskQueue
import Nsq.Proofs.DQGlue
/-!
# C07 on top of engine E9 — the disk-queue leg of the message path WITHOUT the I/O assumption

`C07.dq_roundtrip` proves the record codec only ("the file I/O of go-diskqueue itself is an
assumption").  Here the disk queue is the E9 model `Model.DiskQueue` (files, metadata file,
positions, bufio read buffer, roll, sync, `Close`, `New`; tied to go-diskqueue v1.1.0 by
`Tie.DiskQueue` + harness/e9) and the theorems go from `Message.WriteTo` through `Put`, the files,
any number of `Close`/`New` cycles, `ReadChan()` to `decodeMessage`.  The only facts used about the
disk queue are those of `Props.E9DiskQueue`: `diskqueue_law`, `run_rep` (every history keeps the law's `rep`;
`reachable_Q` is the case of a fresh data path) and, where `Put`'s answer is part of the statement,
`put_appends` / `recv_is_fifo` (all proved).

Parameters (no assumptions): `cfg` is what nsqd passes to `diskqueue.New` (`nsqdCfg`:
`minMsgSize = 26 = minValidMsgLength`, `maxMsgSize = --max-msg-size + 26`), `0 < syncEvery` and
`maxMsgSize < 2^31` (`CfgOk`, as in E9).
-/
namespace Nsq.Props.C07DQ
open Nsq.Model Nsq.Model.Wire Nsq.Model.DiskQueue Nsq.Proofs.DiskQueue Nsq.Props.E9DiskQueue
open Nsq.Model.RestartDQ Nsq.Proofs.DQGlue

/-- `decodeMessage` on every record, all or nothing -/
def decodeAll (l : List Bytes) : Option (List Wire.Msg) := decAll decode l

def recvN : Nat → St → St
  | 0, s => s
  | n + 1, s => recvN n (recv s).2

/-- 1. with the configuration nsqd passes, the encoding of every message with a 16-byte id and a
body within `--max-msg-size` is a record of valid size … -/
theorem msg_record_valid (maxBody maxBytesPerFile syncEvery : Nat) (m : Wire.Msg)
    (hid : m.id.length = 16) (hb : m.body.length ≤ maxBody) :
    ValidRec (nsqdCfg maxBody maxBytesPerFile syncEvery) (encode m) :=
  encode_valid maxBody m hid hb

/-- … so `Put` accepts it, whatever the queue holds, and appends exactly these bytes -/
theorem put_accepts_msg (maxBody : Nat) (s : St) (q : List Bytes) (h : Q s q)
    (hmin : s.cfg.minMsgSize = 26) (hmax : s.cfg.maxMsgSize = maxBody + 26) (m : Wire.Msg)
    (hid : m.id.length = 16) (hb : m.body.length ≤ maxBody) :
    (put s (encode m)).1 = .ok ∧ Q (put s (encode m)).2 (q ++ [encode m]) :=
  put_appends s q (encode m) h ((validRec_iff hmin hmax _).mpr (encode_valid maxBody m hid hb))

/-- 2. END TO END, no I/O assumption.  `s` is any live disk queue that holds the encodings of the
messages `q` (by `reachable_Q`: after ANY history).  The messages `ms` are written (`Put` of
`Message.WriteTo`), the queue is closed and re-opened, everything is received and decoded: exactly
`q ++ ms` comes back — every timestamp, attempts count, id and body identical, in order, nothing
lost, nothing invented. -/
theorem dq_roundtrip_e9 (cfg : Cfg) (hok : CfgOk cfg) (maxBody : Nat)
    (hmin : cfg.minMsgSize = 26) (hmax : cfg.maxMsgSize = maxBody + 26)
    (s : St) (q ms : List Wire.Msg)
    (hs : (diskqueue_law cfg hok).rep s (q.map encode))
    (hq : ∀ m ∈ q, m.id.length = 16)
    (hms : ∀ m ∈ ms, m.id.length = 16 ∧ m.body.length ≤ maxBody)
    (n : Nat) (hn : q.length + ms.length ≤ n) :
    decodeAll (DQLaw.drain (diskqueue_law cfg hok) n
      ((diskqueue_law cfg hok).reopen ((ms.map encode).foldl (diskqueue_law cfg hok).put s))) = some (q ++ ms) := by
  have hv : ∀ d ∈ ms.map encode, (diskqueue_law cfg hok).valid d := by
    intro d hd
    show cfg.minMsgSize ≤ _ ∧ _ ≤ cfg.maxMsgSize
    rw [hmin, hmax]
    exact enc_valid_all (wireCodec maxBody) ms hms d hd
  have h1 := DQLaw.flush_then_restart (diskqueue_law cfg hok) s (q.map encode) (ms.map encode) hs hv
  rw [DQLaw.drain_all (diskqueue_law cfg hok) _ _ h1 n (by simp only [List.length_append, List.length_map]; exact hn),
    ← List.map_append]
  -- decoding: only the 16-byte ids matter
  have hall : ∀ m ∈ q ++ ms, m.id.length = 16 := List.forall_mem_append.2 ⟨hq, fun m h => (hms m h).1⟩
  exact decAll_map decode encode (q ++ ms) (fun m hm => C07.decode_encode m (hall m hm))

/-- the same, one message and receive by receive: `Put` of `encode m` succeeds; after the `|q|`
earlier records have been received, the next receive hands out bytes that decode to `m` -/
theorem dq_roundtrip_e9_recv (maxBody : Nat) (s : St) (q : List Bytes) (h : Q s q)
    (hmin : s.cfg.minMsgSize = 26) (hmax : s.cfg.maxMsgSize = maxBody + 26) (m : Wire.Msg)
    (hid : m.id.length = 16) (hb : m.body.length ≤ maxBody) :
    (put s (encode m)).1 = .ok ∧
    ∃ b, (recv (recvN q.length (put s (encode m)).2)).1 = some b ∧ decode b = some m ∧
      Q (recv (recvN q.length (put s (encode m)).2)).2 [] := by
  obtain ⟨h1, h2⟩ := put_accepts_msg maxBody s q h hmin hmax m hid hb
  refine ⟨h1, encode m, ?_⟩
  have gen : ∀ (q : List Bytes) (t : St), Q t (q ++ [encode m]) →
      (recv (recvN q.length t)).1 = some (encode m) ∧ Q (recv (recvN q.length t)).2 [] := by
    intro q
    induction q with
    | nil => intro t ht; exact recv_is_fifo t (encode m) [] ht
    | cons d q ih => intro t ht; exact ih (recv t).2 (recv_is_fifo t d (q ++ [encode m]) ht).2
  exact ⟨(gen q _ h2).1, C07.decode_encode m hid, (gen q _ h2).2⟩

/-- … and across ANY history in between — publishes, consumer receives, `Empty`, any number of
`Close`/`New` cycles (`HOp`), starting from any queue that holds `q`: what a drain hands out
decodes to exactly what a plain list of messages would hold (`specH`) -/
theorem dq_roundtrip_e9_history (cfg : Cfg) (hok : CfgOk cfg) (maxBody : Nat)
    (hmin : cfg.minMsgSize = 26) (hmax : cfg.maxMsgSize = maxBody + 26)
    (s : St) (q : List Wire.Msg)
    (hs : (diskqueue_law cfg hok).rep s (q.map encode))
    (hq : ∀ m ∈ q, m.id.length = 16 ∧ m.body.length ≤ maxBody)
    (h : List (HOp Wire.Msg)) (hv : ∀ m, HOp.pub m ∈ h → m.id.length = 16 ∧ m.body.length ≤ maxBody)
    (n : Nat) (hn : (h.foldl specH q).length ≤ n) :
    decodeAll (DQLaw.drain (diskqueue_law cfg hok) n
      ((h.map (HOp.toOp (wireCodec maxBody))).foldl (stepOp cfg) s)) = some (h.foldl specH q) := by
  have hr := run_rep cfg hok (h.map (HOp.toOp (wireCodec maxBody))) s (q.map encode) hs
  have e : (h.map (HOp.toOp (wireCodec maxBody))).foldl (specOp cfg) (q.map encode) = (h.foldl specH q).map encode :=
    spec_map cfg hmin hmax (wireCodec maxBody) h hv q
  rw [e] at hr
  rw [DQLaw.drain_all (diskqueue_law cfg hok) _ _ hr n (by rw [List.length_map]; exact hn)]
  apply decAll_dec_enc (wireCodec maxBody)
  intro m hm
  rcases specH_mem h q m hm with h1 | h1
  · exact hq m h1
  · exact hv m h1

/-- 3. from a FRESH data path (`reachable_Q`): any history of publishes (messages of valid size),
consumer receives, `Empty`s and `Close`/`New` cycles leaves a disk queue whose drain decodes to
exactly the messages a plain FIFO would hold; in particular (no receive, no `Empty`) every
published message, in order. -/
theorem history_roundtrip (cfg : Cfg) (hok : CfgOk cfg) (maxBody : Nat)
    (hmin : cfg.minMsgSize = 26) (hmax : cfg.maxMsgSize = maxBody + 26)
    (h : List (HOp Wire.Msg)) (hv : ∀ m, HOp.pub m ∈ h → m.id.length = 16 ∧ m.body.length ≤ maxBody)
    (n : Nat) (hn : (h.foldl specH []).length ≤ n) :
    decodeAll (DQLaw.drain (diskqueue_law cfg hok) n
      ((h.map (HOp.toOp (wireCodec maxBody))).foldl (stepOp cfg) (openQ cfg FS.empty))) = some (h.foldl specH []) :=
  dq_roundtrip_e9_history cfg hok maxBody hmin hmax (openQ cfg FS.empty) [] (fresh_empty cfg hok)
    (fun _ hm => nomatch hm) h hv n hn

/-- publishes and re-opens only: everything published comes back, in publish order -/
theorem published_all_come_back (cfg : Cfg) (hok : CfgOk cfg) (maxBody : Nat)
    (hmin : cfg.minMsgSize = 26) (hmax : cfg.maxMsgSize = maxBody + 26)
    (h : List (Option Wire.Msg))   -- `some m` = publish m, `none` = `Close` + `New`
    (hv : ∀ m, some m ∈ h → m.id.length = 16 ∧ m.body.length ≤ maxBody)
    (n : Nat) (hn : h.length ≤ n) :
    decodeAll (DQLaw.drain (diskqueue_law cfg hok) n
      ((h.map (fun o => match o with | some m => Op.put (encode m) | none => Op.reopen)).foldl (stepOp cfg)
        (openQ cfg FS.empty))) = some (h.filterMap id) := by
  let f : Option Wire.Msg → HOp Wire.Msg := fun o => match o with | some m => .pub m | none => .reopen
  have e1 : h.map (fun o => match o with | some m => Op.put (encode m) | none => Op.reopen) =
      (h.map f).map (HOp.toOp (wireCodec maxBody)) := by
    rw [List.map_map]
    apply List.map_congr_left
    intro o _
    cases o <;> rfl
  have e2 : ∀ (l : List (Option Wire.Msg)) (q : List Wire.Msg), (l.map f).foldl specH q = q ++ l.filterMap id := by
    intro l
    induction l with
    | nil => intro q; simp
    | cons o l ih =>
      intro q
      cases o with
      | none =>
        show (l.map f).foldl specH q = _
        rw [ih]; rfl
      | some m =>
        show (l.map f).foldl specH (q ++ [m]) = _
        rw [ih]
        simp
  have e3 := e2 h []
  rw [List.nil_append] at e3
  have hlen : (h.filterMap id).length ≤ n := Nat.le_trans (List.length_filterMap_le _ _) hn
  rw [e1, ← e3]
  apply history_roundtrip cfg hok maxBody hmin hmax (h.map f)
  · intro m hm
    obtain ⟨o, ho, e⟩ := List.mem_map.mp hm
    cases o with
    | none => cases e
    | some x =>
      have : x = m := by injection e
      subst this
      exact hv x ho
  · rw [e3]; exact hlen

/-! ### non-vacuity -/

/-- a small configuration of nsqd's shape: `--max-msg-size 4`, files of at most 40 bytes -/
def cfgN : Cfg := nsqdCfg 4 40 2
theorem cfgN_ok : CfgOk cfgN := ⟨by decide, by decide⟩

def id16 (x : UInt8) : Bytes := List.replicate 16 x
def m1 : Wire.Msg := { ts := 0x0102030405060708#64, attempts := 3#16, id := id16 0x61, body := [1, 2, 3] }
def m2 : Wire.Msg := { ts := 0xFFFFFFFFFFFFFFFF#64, attempts := 65535#16, id := id16 0x62, body := [] }
def m3 : Wire.Msg := { ts := 7#64, attempts := 0#16, id := id16 0x63, body := [9, 9, 9, 9] }

-- the codec parameter of `Proofs.DQGlue` / `C05DQ` is met by the real wire format
example : Codec Wire.Msg cfgN.minMsgSize cfgN.maxMsgSize := wireCodec 4
example : (wireCodec 4).ok m1 ∧ (wireCodec 4).ok m2 ∧ (wireCodec 4).ok m3 :=
  ⟨⟨rfl, by decide⟩, ⟨rfl, by decide⟩, ⟨rfl, by decide⟩⟩
example : ValidRec cfgN (encode m1) ∧ ValidRec cfgN (encode m2) ∧ ValidRec cfgN (encode m3) :=
  ⟨msg_record_valid 4 40 2 m1 rfl (by decide), msg_record_valid 4 40 2 m2 rfl (by decide),
   msg_record_valid 4 40 2 m3 rfl (by decide)⟩
-- … and a body over `--max-msg-size` is not a valid record (the hypothesis is needed)
example : ¬ ValidRec cfgN (encode { m1 with body := [1, 2, 3, 4, 5] }) := by decide +kernel
-- the hypotheses of `dq_roundtrip_e9`: a live queue that holds [m1] (33 of 40 bytes used: m2 rolls to file 1)
example : (diskqueue_law cfgN cfgN_ok).rep (put (openQ cfgN FS.empty) (encode m1)).2 ([m1].map encode) :=
  put_fresh cfgN cfgN_ok (encode m1) (msg_record_valid 4 40 2 m1 rfl (by decide))
-- the conclusion computed on the E9 model itself: three messages, two files, a restart with another file size
example : (put (put (put (openQ cfgN FS.empty) (encode m1)).2 (encode m2)).2 (encode m3)).2.wf = 2 := by decide +kernel
example : decodeAll (DQLaw.drain (diskqueue_law cfgN cfgN_ok) 5
    (openQ { cfgN with maxBytesPerFile := 1000 }
      (close (put (put (put (openQ cfgN FS.empty) (encode m1)).2 (encode m2)).2 (encode m3)).2).fs)) = some [m1, m2, m3] := by decide +kernel
-- `dq_roundtrip_e9_recv` on the model: put m2 behind m1, receive once, the next receive is m2
example : ((recv (recvN 1 (put (put (openQ cfgN FS.empty) (encode m1)).2 (encode m2)).2)).1).bind decode = some m2 := by decide +kernel
-- a history with a receive, a restart and an Empty in the middle
example : [HOp.pub m1, .pub m2, .recv, .reopen, .pub m3].foldl specH [] = [m2, m3] ∧
    [HOp.pub m1, .empty, .pub m3].foldl specH [] = [m3] := by decide +kernel
example : decodeAll (DQLaw.drain (diskqueue_law cfgN cfgN_ok) 5
    (([HOp.pub m1, .pub m2, .recv, .reopen, .pub m3].map (HOp.toOp (wireCodec 4))).foldl (stepOp cfgN) (openQ cfgN FS.empty))) =
    some [m2, m3] :=
  history_roundtrip cfgN cfgN_ok 4 rfl rfl _ (by
    intro m hm
    simp only [List.mem_cons, HOp.pub.injEq, List.mem_nil_iff, or_false, reduceCtorEq, false_or] at hm
    rcases hm with rfl | rfl | rfl <;> decide) 5 (by decide)
-- decoding is not trivially successful: a torn record does not decode
example : decodeAll [encode m1, (encode m2).take 20] = none := by decide +kernel

end Nsq.Props.C07DQ
