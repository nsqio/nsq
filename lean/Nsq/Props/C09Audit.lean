import Nsq.Proofs.ProtoSpec
import Nsq.Proofs.ProtoAgree
import Nsq.Tie.ProtoAudit
/-!
# C09 with its real inputs: broker, environment, authorization state

Property theorems about `Nsq.Model.ProtoEnv` — the TCP protocol model in which the answer to a
command may depend on the BROKER (`--max-channel-consumers`: E_SUB_FAILED), on the ENVIRONMENT (a
failing backend write: E_PUB_FAILED / E_MPUB_FAILED / E_DPUB_FAILED) and on the connection's
AUTHORIZATION STATE (the gate is state written by AUTH, not a constant of the configuration).
Each step of that model is a step of `Nsq.Model.ProtoV2.exec` under the configuration `stepConf`
computed from the state, so the theorems of `Nsq.Props.C09` apply to every step.

Tie: `Nsq.Tie.ProtoAudit` (regenerated text of `Topic.PutMessages`, `Channel.AddClient`, `CheckAuth`,
the tail of `AUTH`, the two `time.NewTicker` calls of `messagePump`, the option checks of `nsqd.New`)
and the correspondence leg `iox` of `harness/e3/audit09_test.go` (consumer limit reached by
connections held open, a write-failing topic backend, a real auth server).
-/
namespace Nsq.Props.C09Audit
open Nsq.Model.ProtoV2 Nsq.Model.Names Nsq.Model.ProtoEnv Nsq.Model Nsq.Spec.ProtoSpec
open Nsq.Proofs.ProtoV2 Nsq.Proofs.ProtoEnv

namespace Examples
open Nsq.Proofs.ProtoV2.Examples

def xlimit : XConf := { base := conf, maxChanConsumers := 1, authEnabled := false, authd := fun _ => .failed }

def xauth : XConf :=
  { base := conf, maxChanConsumers := 0, authEnabled := true,
    authd := fun s =>
      if s = ascii "good" then .state 1 (fun t _ => t == ascii "t")
      else if s = ascii "none" then .state 0 (fun _ _ => false)
      else .failed }

def x0 : XState := freshX conn

def busy : Broker :=
  [{ name := ascii "t", paused := false, count := 0, msgs := [],
     chans := [{ name := ascii "c", paused := false, clients := 1, msgs := [] }] }]

def batch4 : Bytes := [0, 0, 0, 24] ++ Mpub.encode [[97], [98], [99], [100]]

end Examples

/-! ## MPUB is all-or-nothing only when no backend write fails -/

def AllOrNothing (b : Broker) (stp : Step) : Prop :=
  (∃ t ms, stp.reply = some .ok ∧ stp.ctl = .cont ∧ stp.broker = publish b t ms ∧ stp.eff = [.enq t ms]) ∨
  (∃ c, stp.reply = some (.err c) ∧ Untouched b stp.broker ∧ stp.eff = [])

/-- The full statement: whatever the environment does. FALSE on the current tree (open finding
`mpub-partial-on-backend-fault`): see `mpub_all_or_nothing_full_false`. -/
def MpubAllOrNothingFull : Prop :=
  ∀ (xc : XConf) (x : XState) (b : Broker) (tl : List Bytes) (rest : Bytes),
    AllOrNothing b (execX xc x b (cMPUB :: tl) rest).1

/-- HYPOTHESIS `x.putsOk = none` (no backend write fails during this command): MPUB either enqueues
the whole batch, in order, and answers OK, or answers an error and enqueues nothing. -/
theorem mpub_all_or_nothing_partial (xc : XConf) (x : XState) (b : Broker) (tl : List Bytes) (rest : Bytes)
    (hnf : x.putsOk = none) : AllOrNothing b (execX xc x b (cMPUB :: tl) rest).1 := by
  have hbase : AllOrNothing b (baseStep xc x b (cMPUB :: tl) rest) := by
    unfold baseStep
    rw [exec_eq, classify_mpub]
    split
    · right; exact ⟨_, rfl, Or.inl rfl, rfl⟩
    · rcases mpub_cases (stepConf xc x (cMPUB :: tl) rest) x.conn b (cMPUB :: tl) rest with
        ⟨t, n, r, bodies, r2, _, _, _, _, _, h1, h2, h3, h4, _⟩ | ⟨c, h1, _, h3, h4⟩
      · left; exact ⟨t, toMsgs bodies, h1, h2, h3, h4⟩
      · right; exact ⟨c, h1, h3, h4⟩
  rcases execX_cases xc x b (cMPUB :: tl) rest with ⟨t, c, he, _, _⟩ | ⟨t, ms, k, _, hk, _, _⟩ | h
  · -- an MPUB never has a SUB effect
    rcases hbase with ⟨t', ms', _, _, _, h4⟩ | ⟨c', _, _, h4⟩ <;> (rw [he] at h4; simp at h4)
  · rw [hnf] at hk; simp at hk
  · rw [h]; exact hbase

/-- With a backend fault the statement is false: the third write of a batch of four fails, the
answer is the fatal E_MPUB_FAILED and two messages stay enqueued (`message_count` 2). -/
theorem mpub_all_or_nothing_full_false : ¬ MpubAllOrNothingFull := by
  intro h
  have hr : (execX Examples.xlimit { Examples.x0 with putsOk := some 2 } [] [cMPUB, ascii "t"] Examples.batch4).1.reply =
      some (.err .E_MPUB_FAILED) := by decide +kernel
  have hb : (execX Examples.xlimit { Examples.x0 with putsOk := some 2 } [] [cMPUB, ascii "t"] Examples.batch4).1.broker =
      [{ name := ascii "t", paused := false, count := 2, msgs := [⟨[97], 0⟩, ⟨[98], 0⟩], chans := [] }] := by decide +kernel
  rcases h Examples.xlimit { Examples.x0 with putsOk := some 2 } [] [ascii "t"] Examples.batch4 with
    ⟨t, ms, h1, _⟩ | ⟨c, _, hu, _⟩
  · rw [hr] at h1; simp at h1
  · rw [hb] at hu
    rcases hu with hu | ⟨t, _, _, hu⟩
    · simp at hu
    · simp [emptyTopic] at hu

/-- Exactly what a failing write does (nsqd/topic.go `PutMessages` / `PutMessage`): when the base
step accepted the publish of `ms` and only `k < |ms|` further writes succeed, the answer is the fatal
E_PUB_FAILED / E_MPUB_FAILED / E_DPUB_FAILED, the connection state is unchanged and exactly the first
`k` messages are enqueued (and counted). -/
theorem publish_fault_prefix_exact (xc : XConf) (x : XState) (b : Broker) (ps : List Bytes) (rest : Bytes)
    (t : Bytes) (ms : List Msg) (k : Nat) (he : (baseStep xc x b ps rest).eff = [.enq t ms])
    (hk : x.putsOk = some k) (hlt : k < ms.length) :
    (execX xc x b ps rest).1 = pubFailed x b ps t ms k ∧
      (execX xc x b ps rest).1.broker = publish b t (ms.take k) ∧
      (execX xc x b ps rest).1.reply = some (.err (pubFailCode ps)) ∧ (execX xc x b ps rest).1.ctl = .close := by
  have h : execX xc x b ps rest = (pubFailed x b ps t ms k, { x with putsOk := some 0 }) := by
    simp only [execX, show _ = _ from he, hk, hlt, if_true]
  rw [h]
  exact ⟨rfl, rfl, rfl, rfl⟩

/-- A publish of a single message (PUB, DPUB) that hits the fault enqueues nothing. -/
theorem single_publish_fault_enqueues_nothing (xc : XConf) (x : XState) (b : Broker) (ps : List Bytes)
    (rest : Bytes) (t : Bytes) (m : Msg) (k : Nat) (he : (baseStep xc x b ps rest).eff = [.enq t [m]])
    (hk : x.putsOk = some k) (hlt : k < 1) :
    (execX xc x b ps rest).1.broker = publish b t [] ∧ (execX xc x b ps rest).1.eff = [] := by
  have h := (publish_fault_prefix_exact xc x b ps rest t [m] k he hk (by simpa using hlt)).1
  have hk0 : k = 0 := by omega
  subst hk0
  rw [h]; simp [pubFailed]

/-- Writes that still succeed for the whole batch leave the step as it is. -/
theorem publish_without_fault_is_base (xc : XConf) (x : XState) (b : Broker) (ps : List Bytes) (rest : Bytes)
    (t : Bytes) (ms : List Msg) (he : (baseStep xc x b ps rest).eff = [.enq t ms])
    (hk : ∀ k, x.putsOk = some k → ms.length ≤ k) :
    (execX xc x b ps rest).1 = baseStep xc x b ps rest ∧
      (execX xc x b ps rest).1.broker = publish b t ms ∧ (execX xc x b ps rest).1.reply = some .ok := by
  have hb := exec_enq (stepConf xc x ps rest) x.conn b ps rest t ms he
  have h : (execX xc x b ps rest).1 = baseStep xc x b ps rest := by
    simp only [execX, show _ = _ from he]
    cases hp : x.putsOk with
    | none => rfl
    | some k => simp only [Nat.not_lt.mpr (hk k hp), if_false]
  rw [h]; exact ⟨rfl, hb⟩

example : (execX Examples.xlimit { Examples.x0 with putsOk := some 2 } [] [cMPUB, ascii "t"] Examples.batch4).1.ctl = .close := by
  decide +kernel
example : (execX Examples.xlimit { Examples.x0 with putsOk := some 4 } [] [cMPUB, ascii "t"] Examples.batch4).1.reply = some .ok := by
  decide +kernel
-- the hypothesis of the partial theorem is satisfiable and its conclusion non-trivial
example : (execX Examples.xlimit Examples.x0 [] [cMPUB, ascii "t"] Examples.batch4).1.broker =
    [{ name := ascii "t", paused := false, count := 4, msgs := [⟨[97], 0⟩, ⟨[98], 0⟩, ⟨[99], 0⟩, ⟨[100], 0⟩], chans := [] }] := by
  decide +kernel
example : (execX Examples.xlimit { Examples.x0 with putsOk := some 0 } [] [cPUB, ascii "t"] [0, 0, 0, 1, 97]).1.reply =
    some (.err .E_PUB_FAILED) ∧
    (execX Examples.xlimit { Examples.x0 with putsOk := some 0 } [] [cPUB, ascii "t"] [0, 0, 0, 1, 97]).1.broker =
      [emptyTopic (ascii "t")] := by decide +kernel

/-! ## Which answers depend on the broker, and exactly how -/

/-- SUB and the consumer limit (nsqd/channel.go `AddClient`): a SUB the connection's own bytes and
state would get accepted is refused with the fatal E_SUB_FAILED exactly when the option is not 0 and
the channel already has that many clients; the topic and the channel exist afterwards, no client is
added, the connection's state is unchanged. Otherwise the step is the base step and answers OK. -/
theorem sub_limit_exact (xc : XConf) (x : XState) (b : Broker) (ps : List Bytes) (rest : Bytes) (t c : Bytes)
    (he : (baseStep xc x b ps rest).eff = [.sub t c]) :
    (limitHit xc b t c = true →
      execX xc x b ps rest = (subRefused x b t c, x) ∧
      (execX xc x b ps rest).1.reply = some (.err .E_SUB_FAILED) ∧ (execX xc x b ps rest).1.ctl = .close ∧
      (execX xc x b ps rest).1.broker = getChannel (getTopic b t) t c) ∧
    (limitHit xc b t c = false →
      (execX xc x b ps rest).1 = baseStep xc x b ps rest ∧ (execX xc x b ps rest).1.reply = some .ok) := by
  have hx : execX xc x b ps rest = if limitHit xc b t c then (subRefused x b t c, x)
      else (baseStep xc x b ps rest, advance xc x ps rest (baseStep xc x b ps rest)) := by
    simp only [execX, show _ = _ from he]
  rw [hx]
  refine ⟨fun h => ?_, fun h => ?_⟩
  · rw [if_pos h]; exact ⟨rfl, rfl, rfl, rfl⟩
  · rw [h]; exact ⟨rfl, exec_sub_ok _ _ _ _ _ t c he⟩

/-- E_SUB_FAILED is answered for no other reason. -/
theorem sub_failed_iff_limit (xc : XConf) (x : XState) (b : Broker) (ps : List Bytes) (rest : Bytes) :
    (execX xc x b ps rest).1.reply = some (.err .E_SUB_FAILED) ↔
      ∃ t c, (baseStep xc x b ps rest).eff = [.sub t c] ∧ limitHit xc b t c = true := by
  constructor
  · intro hr
    rcases execX_cases xc x b ps rest with ⟨t, c, he, hl, _⟩ | ⟨t, ms, k, _, _, _, h⟩ | h
    · exact ⟨t, c, he, hl⟩
    · rw [h] at hr
      simp [pubFailed, pubFailCode_ne_sub] at hr
    · rw [h] at hr
      rcases exec_codes _ _ _ _ _ _ (gate_ok xc x ps rest) hr with ⟨_, hm⟩ | ⟨_, hm⟩
      · simp [modelFatal] at hm
      · simp [modelNonFatal] at hm
  · rintro ⟨t, c, he, hl⟩
    exact ((sub_limit_exact xc x b ps rest t c he).1 hl).2.1

/-- What a command is answered, its accepted effects, the next state of the connection and of its
authorization read the broker ONLY through "is the consumer limit of this channel reached": two
brokers that agree on that give the same answer. -/
theorem answer_reads_broker_only_through_limit (xc : XConf) (x : XState) (b b' : Broker) (ps : List Bytes)
    (rest : Bytes) (hl : ∀ t c, limitHit xc b t c = limitHit xc b' t c) :
    viewX (execX xc x b ps rest) = viewX (execX xc x b' ps rest) :=
  execX_view_at xc x b b' ps rest fun t c _ => hl t c

/-- The full statement "what a connection is answered does not depend on the broker, hence not on
what other connections did". FALSE when a consumer limit is configured. -/
def AnswersIndependentOfBroker (xc : XConf) : Prop :=
  ∀ (x : XState) (b b' : Broker) (bs : Bytes), rview (serveX xc x b bs) = rview (serveX xc x b' bs)

/-- HYPOTHESIS `--max-channel-consumers = 0` (the default): the whole run of a connection — frames,
end, final state, accepted effects — is the same against every broker. -/
theorem answers_independent_of_broker_partial (xc : XConf) (h0 : xc.maxChanConsumers = 0) :
    AnswersIndependentOfBroker xc := by
  intro x b b' bs
  unfold serveX
  split
  · split
    · rw [disconnect_rview, disconnect_rview]
      exact Nsq.Proofs.ProtoAgree.loopX_indep xc h0 _ x b b' _
    · rfl
  · rfl

/-- With `--max-channel-consumers 1` the same bytes are answered OK against an empty broker and
E_SUB_FAILED (and closed) when another connection already consumes the channel. -/
theorem answers_independent_of_broker_full_false : ¬ AnswersIndependentOfBroker Examples.xlimit := by
  intro h
  have h1 : (serveX Examples.xlimit Examples.x0 [] (magicV2 ++ ascii "SUB t c\n")).replies = [.ok] := by decide +kernel
  have h2 : (serveX Examples.xlimit Examples.x0 Examples.busy (magicV2 ++ ascii "SUB t c\n")).replies =
      [.err .E_SUB_FAILED] := by decide +kernel
  have := h Examples.x0 [] Examples.busy (magicV2 ++ ascii "SUB t c\n")
  simp only [rview, Prod.mk.injEq] at this
  rw [h1, h2] at this
  simp at this

example : (serveX Examples.xlimit Examples.x0 Examples.busy (magicV2 ++ ascii "SUB t c\n")).fin = .closed := by decide +kernel
example : (serveX Examples.xlimit Examples.x0 Examples.busy (magicV2 ++ ascii "SUB t c\n")).broker = Examples.busy := by decide +kernel
-- the other channel of the same topic is not affected
example : (serveX Examples.xlimit Examples.x0 Examples.busy (magicV2 ++ ascii "SUB t d\n")).replies = [.ok] := by decide +kernel
example : limitHit Examples.xlimit Examples.busy (ascii "t") (ascii "c") = true := by decide +kernel
example : limitHit { Examples.xlimit with maxChanConsumers := 0 } Examples.busy (ascii "t") (ascii "c") = false := by decide +kernel

/-! ## The option values `messagePump` hands to `time.NewTicker` -/

/-- The full statement "no option value lets a connection kill the daemon", parameterised by whether
`nsqd.New` checks the two options (`fixes/F31_validate_ticker_options.patch`). -/
def OptionsNeverKill (checked : Bool) : Prop := ∀ o : Opts, firstConnection checked o ≠ some .panic

/-- `messagePump` panics at its first two statements exactly for these values. -/
theorem pump_panics_iff (hb obt : Int) : pumpStart hb obt = .panic ↔ obt ≤ 0 ∨ hb ≤ 0 := by
  unfold pumpStart
  by_cases h1 : obt ≤ 0
  · simp [h1]
  · by_cases h2 : hb ≤ 0 <;> simp [h1, h2]

/-- With the checks of F31 every option value either makes `New` refuse to start or lets every
connection's pump start. -/
theorem options_never_kill_checked : OptionsNeverKill true := by
  intro o
  unfold firstConnection
  split
  · rename_i h
    simp only [newAccepts, Bool.not_true, Bool.false_or, Bool.and_eq_true, decide_eq_true_eq] at h
    rw [Ne, Option.some.injEq, pump_panics_iff]
    omega
  · simp

/-- THIS tree (F31 = /repo a24e9f3 is committed): `Tie.ProtoAudit.newTickerOptionChecks_shape_known` accepts
only the two checks and the facts decide `treeChecksTickerOptions = true`; a tree that reverts F31 fails that and this
theorem with it. -/
theorem options_never_kill_this_tree : OptionsNeverKill Nsq.Tie.ProtoAudit.treeChecksTickerOptions := by
  rw [Nsq.Tie.ProtoAudit.tree_checks_ticker_options]; exact options_never_kill_checked

example : firstConnection Nsq.Tie.ProtoAudit.treeChecksTickerOptions ⟨60000000000, 0⟩ = none := by
  rw [Nsq.Tie.ProtoAudit.tree_checks_ticker_options]; decide

/-- Without them (the tree before F31) `--output-buffer-timeout=0` is accepted and the first
connection panics the process. -/
theorem options_never_kill_unchecked_false : ¬ OptionsNeverKill false := by
  intro h
  exact h ⟨60000000000, 0⟩ (by decide)

/-- The hypothesis under which the protocol theorems speak about a live daemon, spelled out. -/
theorem accepted_iff (o : Opts) :
    newAccepts true o = true ↔ 0 < o.outputBufferTimeoutNs ∧ 2 ≤ o.clientTimeoutNs := by
  have ht := tdiv2_pos o.clientTimeoutNs
  simp only [newAccepts, heartbeatOf, Bool.not_true, Bool.false_or, Bool.and_eq_true, decide_eq_true_eq, gt_iff_lt]
  rw [ht]

example : firstConnection true ⟨60000000000, 250000000⟩ = some .running := by decide
example : firstConnection true ⟨60000000000, 0⟩ = none := by decide
example : firstConnection false ⟨1, 250000000⟩ = some .panic := by decide
example : firstConnection true ⟨1, 250000000⟩ = none := by decide

/-! ## Totality, limits and the table for the model with its real inputs -/

/-- No command panics, whatever the broker, the authorization state and the environment do. -/
theorem execX_no_panic (xc : XConf) (x : XState) (b : Broker) (ps : List Bytes) (rest : Bytes) :
    (execX xc x b ps rest).1.ctl ≠ .panic := (execX_ok xc x b ps rest).1

/-- Every connection ends by EOF, by the server closing it, or at a negotiated upgrade. -/
theorem serveX_total_no_panic (xc : XConf) (x : XState) (b : Broker) (bs : Bytes) :
    (serveX xc x b bs).fin = .eof ∨ (serveX xc x b bs).fin = .closed ∨ (serveX xc x b bs).fin = .upgraded := by
  fun_cases serveX xc x b bs
  case case1 =>
    rw [disconnect_fin]
    exact loopX_fin xc _ x b _ (Nat.lt_succ_self _)
  case case2 => exact .inr (.inl rfl)
  case case3 => exact .inl rfl

/-- Everything accepted — including the prefix of a batch that a failing write left enqueued —
respects the limits of the options. -/
theorem limits_env (xc : XConf) (x : XState) (b : Broker) (bs : Bytes) :
    ∀ e ∈ (serveX xc x b bs).eff, EffOk xc.base e := by
  fun_cases serveX xc x b bs
  case case1 =>
    rw [disconnect_eff]
    exact loopX_eff xc _ _ _ _
  all_goals exact fun _ => nofun

/-- Each command is answered as the declarative table says for the configuration of THAT step (the
gate being what `CheckAuth` gives for the connection's current authorization state and the command's
topic / channel) — or, the two answers that do not come from the connection's own input, with
E_SUB_FAILED at the consumer limit or E_*PUB_FAILED at a failing write; both close the connection. -/
theorem answers_refine_spec_env (xc : XConf) (x : XState) (b : Broker) (ps : List Bytes) (rest : Bytes)
    (hps : ps ≠ []) :
    answer (stepConf xc x ps rest) x.conn ps rest (execX xc x b ps rest).1.reply
        (decide ((execX xc x b ps rest).1.ctl = .close)) ∨
    ((execX xc x b ps rest).1.reply = some (.err .E_SUB_FAILED) ∧ (execX xc x b ps rest).1.ctl = .close ∧
        ∃ t c, limitHit xc b t c = true) ∨
    ((execX xc x b ps rest).1.reply = some (.err (pubFailCode ps)) ∧ (execX xc x b ps rest).1.ctl = .close ∧
        ∃ k, x.putsOk = some k) := by
  rcases execX_cases xc x b ps rest with ⟨t, c, _, hl, h⟩ | ⟨t, ms, k, _, hk, _, h⟩ | h
  · right; left; rw [h]; exact ⟨rfl, rfl, t, c, hl⟩
  · right; right; rw [h]; exact ⟨rfl, rfl, k, hk⟩
  · left; rw [h]; exact Nsq.Proofs.ProtoSpec.exec_refines _ _ _ _ _ hps

/-- The gate is a function of the connection's authorization state: with an auth server configured a
connection that has not authorized is answered E_AUTH_FIRST, an authorized one E_UNAUTHORIZED exactly
for the topic / channel pairs its authorizations do not allow; without an auth server the gate is open. -/
theorem gate_by_state (xc : XConf) (x : XState) (t c : Bytes) :
    (xc.authEnabled = false → gate xc x t c = none) ∧
    (xc.authEnabled = true → hasAuthz x = false → gate xc x t c = some .E_AUTH_FIRST) ∧
    (∀ a, xc.authEnabled = true → x.auth = some a → a.n ≠ 0 →
      gate xc x t c = if a.allow t c then none else some .E_UNAUTHORIZED) := by
  refine ⟨fun h => by simp [gate, h], fun h hz => ?_, fun a h ha hn => by simp [gate, h, ha, hn]⟩
  unfold hasAuthz at hz
  unfold gate
  split at hz
  · rename_i a ha; simp [h, ha]; simpa using hz
  · rename_i ha; simp [h, ha]

/-- AUTH on a connection that already holds authorizations is E_INVALID ("AUTH already set")
whatever the secret; the state the gate reads is written by a successful AUTH only. -/
theorem auth_outcome_by_state (xc : XConf) (x : XState) (secret : Bytes) :
    (hasAuthz x = true → authOutcome xc x secret = .alreadySet) ∧
    (hasAuthz x = false → xc.authEnabled = false → authOutcome xc x secret = .disabled) := by
  refine ⟨fun h => by simp [authOutcome, h], fun h1 h2 => by simp [authOutcome, h1, h2]⟩

-- a trace no constant gate produces
example : (serveX Examples.xauth Examples.x0 []
    (magicV2 ++ ascii "AUTH\n" ++ [0, 0, 0, 4] ++ ascii "good" ++ ascii "PUB t\n" ++ [0, 0, 0, 1, 97] ++
      ascii "AUTH\n" ++ [0, 0, 0, 4] ++ ascii "good")).replies = [.json, .ok, .err .E_INVALID] := by decide +kernel
-- the gate differs per topic on one connection
example : (serveX Examples.xauth Examples.x0 []
    (magicV2 ++ ascii "AUTH\n" ++ [0, 0, 0, 4] ++ ascii "good" ++ ascii "PUB t\n" ++ [0, 0, 0, 1, 97] ++
      ascii "PUB u\n" ++ [0, 0, 0, 1, 97])).replies = [.json, .ok, .err .E_UNAUTHORIZED] := by decide +kernel
example : (serveX Examples.xauth Examples.x0 [] (magicV2 ++ ascii "PUB t\n" ++ [0, 0, 0, 1, 97])).replies =
    [.err .E_AUTH_FIRST] := by decide +kernel
example : (serveX Examples.xauth Examples.x0 [] (magicV2 ++ ascii "AUTH\n" ++ [0, 0, 0, 4] ++ ascii "none")).replies =
    [.err .E_UNAUTHORIZED] := by decide +kernel
example : (serveX Examples.xauth Examples.x0 [] (magicV2 ++ ascii "AUTH\n" ++ [0, 0, 0, 3] ++ ascii "bad")).replies =
    [.err .E_AUTH_FAILED] := by decide +kernel

end Nsq.Props.C09Audit
