import Nsq.Proofs.RegistryStar
import Nsq.Tie.Registry
/-!
# C14, wild-card part — nondeterministic operations as a SET of allowed results

`Nsq.Props.C14` carries the hypothesis `Op.modelled` (no `POST /topic/tombstone?topic=*`) and
`t ≠ "*"` on the `/channels` and `/lookup` answers, because `FindProducers("topic","*","")`
depends on Go's map iteration order. Here the order is a parameter (`pick`, constrained by
`PickValid` only) and every theorem quantifies over ALL admissible picks:

* `StepSet` / `RunSet` (model) and `Spec.StepSet` / `Spec.RunSet` (plain registry) are relations;
  `refines_set`, `refines_set_exact`: the model's set of results after ANY history — no
  `modelled` hypothesis — is, through `abs`, exactly the plain registry's set;
* `history_answers_all`: after any history, in any allowed state, all answers including
  `/channels?topic=*` and `/lookup?topic=*` are the plain registry's;
* `tombstone_star_one_topic_per_node`, `lookup_star_bounds`: what the sets look like.

Two further groups need no `modelled` hypothesis either and stand here for that reason: what the answers are for the
edge values of the two options (`tombstone_lifetime_nonpositive_disables`, `inactive_timeout_negative_hides_all`, …),
and the argument-free read routes (`read_routes_total`).
-/
namespace Nsq.Props.C14Star
open Nsq.Model.Registry Nsq.Model.Registry.AMap Nsq.Spec.RegistrySpec
open Nsq.Proofs.RegistryRefine Nsq.Proofs.RegistryWF Nsq.Proofs.RegistryQuery Nsq.Proofs.RegistryStar

/-- One step: every result the model allows is one the plain registry allows (and `WF` is kept);
every result the plain registry allows is realised by the model. No operation is excluded. -/
theorem refines_step_set (r : Registry) (op : Op) (hw : WF r) :
    (∀ r', StepSet r op r' → (abs r).StepSet op (abs r') ∧ WF r') ∧
    (∀ s', (abs r).StepSet op s' → ∃ r', StepSet r op r' ∧ abs r' = s') :=
  StepSet_abs r op hw

/-- Histories of any length over ALL operations: every reachable model state abstracts to a
reachable state of the plain registry and is well-formed … -/
theorem refines_set (ops : List Op) (r : Registry) (h : RunSet init ops r) :
    Spec.init.RunSet ops (abs r) ∧ WF r := by
  have := RunSet_sound init ops r WF_init h
  rw [abs_init] at this
  exact this

/-- … and conversely every state the plain registry can reach is the abstraction of a model state. -/
theorem refines_set_exact (ops : List Op) (s : Spec) (h : Spec.init.RunSet ops s) :
    ∃ r, RunSet init ops r ∧ abs r = s := by
  apply RunSet_complete ops init s WF_init
  rw [abs_init]; exact h

/-- The deterministic `run` of `Nsq.Props.C14` (list-order iteration) is one element of the set;
for histories without a wild-card tombstone it is the only one. -/
theorem run_is_allowed (ops : List Op) : RunSet init ops (run init ops) := run_mem_RunSet ops init

theorem modelled_deterministic (ops : List Op) (hm : ∀ op ∈ ops, op.starNode = none) (r0 r : Registry)
    (h : RunSet r0 ops r) : r = run r0 ops := by
  induction h with
  | nil r => rfl
  | @cons ra rb rc op ops' hs _ ih =>
    have hn := hm op List.mem_cons_self
    unfold StepSet at hs
    simp only [hn] at hs
    subst hs
    exact ih (fun o ho => hm o (List.mem_cons_of_mem _ ho))

/-- The property without exclusions: after EVERY history (wild-card tombstones included, resolved
in any admissible way) the answers are the plain registry's answers in the corresponding state —
including the two `topic=*` queries, for every admissible resolution `pick` of `/lookup?topic=*`. -/
theorem history_answers_all (c : Conf) (ops : List Op) (r : Registry) (h : RunSet init ops r) (now : Int) :
    ∃ s, Spec.init.RunSet ops s ∧ abs r = s ∧
    (∀ t, t ∈ qTopics r ↔ s.topics t) ∧
    (∀ t ch, t ≠ star → (ch ∈ qChannels r t ↔ s.channels t ch)) ∧
    (∀ ch, ch ∈ qChannels r star ↔ s.channelsStar ch) ∧
    (∀ t, t ≠ star → (qLookup c r t now = none ↔ ¬ s.lookupFound t)) ∧
    (∀ t a p, qLookup c r t now = some a → (p ∈ a.producers.map (·.1) ↔ s.producers c t now p)) ∧
    (∀ pick, qLookupStar c r pick now = none ↔ ¬ s.lookupStarFound) ∧
    (∀ pick a p, qLookupStar c r pick now = some a →
        (a.channels = qChannels r star ∧ (p ∈ a.producers.map (·.1) ↔ s.lookupStarProducers c pick now p))) ∧
    (∀ p, p ∈ (qNodes c r now).map (·.id) ↔ s.nodes c now p) := by
  obtain ⟨hrun, hw⟩ := refines_set ops r h
  exact ⟨abs r, hrun, rfl, mem_qTopics r, fun t ch ht => mem_qChannels r t ch ht, mem_qChannels_star r,
    fun t ht => qLookup_none_iff c r t now ht, fun t a p hq => mem_lookup_producer_ids c r t now a hw hq p,
    fun pick => qLookupStar_none_iff c r pick now,
    fun pick a p hq => ⟨by rw [qLookupStar_some c r pick now a hq], mem_lookupStar_producer_ids c r pick now a hw hq p⟩,
    mem_qNodes_ids c r now hw⟩

/-- What the set of results of `POST /topic/tombstone?topic=*&node=N` looks like: an nsqd at
address `N` that registered at least one topic is tombstoned (at `now`) for EXACTLY ONE of its
topics — one it really registered —, its tombstones for its other topics and everything about
nsqds at other addresses are unchanged, and nothing but tombstones changes. -/
theorem tombstone_star_one_topic_per_node (s : Spec) (pick : Pick) (node : Name) (now : Int)
    (hv : s.PickValid pick) :
    let s' := s.tombstoneStar pick node now
    (∀ q, s.nodeIs q node → (∃ t, s.topicReg q t) →
        s.topicReg q (pick q) ∧ s'.tomb q (pick q) now ∧
        (∀ t τ, t ≠ pick q → (s'.tomb q t τ ↔ s.tomb q t τ))) ∧
    (∀ q t τ, ¬ s.nodeIs q node → (s'.tomb q t τ ↔ s.tomb q t τ)) ∧
    s'.topicReg = s.topicReg ∧ s'.chanReg = s.chanReg ∧ s'.knownTopic = s.knownTopic ∧
    s'.knownChan = s.knownChan ∧ s'.live = s.live ∧ s'.peer = s.peer := by
  intro s'
  refine ⟨?_, ?_, rfl, rfl, rfl, rfl, rfl, rfl⟩
  · intro q hn hex
    have hr := hv q hex
    refine ⟨hr, Or.inl ⟨rfl, hr, hn, rfl⟩, ?_⟩
    intro t τ hne
    show ((t = pick q ∧ _) ∨ (s.tomb q t τ ∧ ¬ (t = pick q ∧ s.nodeIs q node))) ↔ _
    simp [hne]
  · intro q t τ hn
    show ((t = pick q ∧ s.topicReg q t ∧ s.nodeIs q node ∧ τ = now) ∨
          (s.tomb q t τ ∧ ¬ (t = pick q ∧ s.nodeIs q node))) ↔ _
    simp [hn]

/-- What the set of answers of `GET /lookup?topic=*` looks like: whatever the iteration order, an
nsqd that is listed is connected, pinged recently and has a topic for which it is not tombstoned;
and an nsqd that is connected, pinged recently, registered some topic and is tombstoned for NONE
of its topics is listed. (Between the two bounds the answer depends on the order.) -/
theorem lookup_star_bounds (s : Spec) (c : Conf) (pick : Pick) (now : Int) (hv : s.PickValid pick) (p : Nat) :
    (s.lookupStarProducers c pick now p →
        s.live p ∧ s.recent c now p ∧ ∃ t, s.topicReg p t ∧ ¬ s.tombActive c now p t) ∧
    (s.live p → s.recent c now p → (∃ t, s.topicReg p t) → (∀ t, s.topicReg p t → ¬ s.tombActive c now p t) →
        s.lookupStarProducers c pick now p) := by
  constructor
  · intro h
    exact ⟨h.2.1, h.2.2.1, pick p, h.1, h.2.2.2⟩
  · intro hl hr hex hall
    have := hv p hex
    exact ⟨this, hl, hr, hall _ this⟩

/-! ## Option edge values: `--inactive-producer-timeout`, `--tombstone-lifetime` zero or negative

`Conf` is universally quantified in every theorem of C14, so 0 and negative durations are covered; these
corollaries say what the answers then ARE. Times are never in the future of the query (`lastUpdate ≤ now`,
`τ ≤ now`: both are `time.Now()` readings taken before the query's). -/

/-- `--tombstone-lifetime ≤ 0` disables tombstones: no tombstone is ever in force, so `/lookup` lists every
connected, recently-pinged nsqd that registered the topic and every `/nodes` flag is false. -/
theorem tombstone_lifetime_nonpositive_disables (s : Spec) (c : Conf) (now : Int) (hc : c.tombLife ≤ 0)
    (hpast : ∀ p t τ, s.tomb p t τ → τ ≤ now) (p : Nat) (t : Name) :
    ¬ s.tombActive c now p t ∧ (s.producers c t now p ↔ s.topicReg p t ∧ s.live p ∧ s.recent c now p) := by
  have h : ¬ s.tombActive c now p t := by
    intro ⟨τ, hτ, hlt⟩
    have := hpast p t τ hτ
    omega
  exact ⟨h, by simp [Spec.producers, h]⟩

/-- `--inactive-producer-timeout < 0` hides every nsqd from `/lookup` and `/nodes` (PINGs cannot help). -/
theorem inactive_timeout_negative_hides_all (s : Spec) (c : Conf) (now : Int) (hc : c.inactive < 0)
    (hpast : ∀ p pr, s.peer p = some pr → pr.lastUpdate ≤ now) (p : Nat) :
    ¬ s.recent c now p ∧ (∀ t, ¬ s.producers c t now p) ∧ ¬ s.nodes c now p := by
  have h : ¬ s.recent c now p := by
    intro ⟨pr, hp, hle⟩
    have := hpast p pr hp
    omega
  exact ⟨h, fun t hp => h hp.2.2.1, fun hn => h hn.2⟩

/-- `--inactive-producer-timeout = 0`: an nsqd is listed only at the very instant of its last PING / IDENTIFY
(in a real run: never, the query reads the clock later — this boundary is tied by the regenerated strict `>` only). -/
theorem inactive_timeout_zero_only_same_instant (s : Spec) (c : Conf) (now : Int) (hc : c.inactive = 0)
    (hpast : ∀ p pr, s.peer p = some pr → pr.lastUpdate ≤ now) (p : Nat) :
    s.recent c now p ↔ ∃ pr, s.peer p = some pr ∧ pr.lastUpdate = now := by
  unfold Spec.recent
  constructor
  · intro ⟨pr, hp, hle⟩; exact ⟨pr, hp, by have := hpast p pr hp; omega⟩
  · intro ⟨pr, hp, he⟩; exact ⟨pr, hp, by omega⟩

/-- the same on the model's answers: with a non-positive tombstone lifetime every `/nodes` flag is `false` … -/
theorem nodes_flags_false_when_lifetime_nonpositive (c : Conf) (r : Registry) (h : WF r) (now : Int)
    (hc : c.tombLife ≤ 0) (hpast : ∀ p t τ, (abs r).tomb p t τ → τ ≤ now) (p : Nat) :
    ∀ t b, (t, b) ∈ nodeTopics c r p now → b = false := by
  intro t b hm
  have := (mem_nodeTopics c r p now h t b).mp hm
  cases b with
  | false => rfl
  | true => exact absurd (this.2.mp rfl) (tombstone_lifetime_nonpositive_disables (abs r) c now hc hpast p t).1

/-- … and with a negative inactivity timeout `/nodes` is empty and every `/lookup` producer list is empty. -/
theorem answers_empty_when_inactive_negative (c : Conf) (r : Registry) (h : WF r) (now : Int)
    (hc : c.inactive < 0) (hpast : ∀ p pr, (abs r).peer p = some pr → pr.lastUpdate ≤ now) :
    qNodes c r now = [] ∧ ∀ t a, qLookup c r t now = some a → a.producers = [] := by
  constructor
  · exact List.eq_nil_iff_forall_not_mem.mpr fun n hm =>
      (inactive_timeout_negative_hides_all (abs r) c now hc hpast n.id).2.2 ((mem_qNodes c r now h n).mp hm).1
  · intro t a ha
    exact List.eq_nil_iff_forall_not_mem.mpr fun e hm =>
      (inactive_timeout_negative_hides_all (abs r) c now hc hpast e.1).2.1 t
        ((mem_lookup_producers c r t now a h ha e.1 e.2).mp hm).1

def cfE : Conf := ⟨2500, 1500⟩
def r2E : Registry := run init [.identify 1 ⟨[104], [110], [118], 1, 2⟩ 0, .register 1 [[116]]]

/-- `GET /ping`, `/info`, `/debug`, `/topics`, `/nodes` answer 200 whatever the query string (even an unparsable
one) and whatever the registry, and change nothing. (`/ping` = "OK" and `/info` = `{"version": …}`: tie
`ping_info_shape`, compared byte-wise / key-wise by the HTTP sweep.) -/
theorem read_routes_total (c : Conf) (r : Registry) (a : HttpArgs) (now : Int) (path : String)
    (hp : path ∈ ["/ping", "/info", "/debug", "/topics", "/nodes"]) :
    Nsq.Model.RegistryProto.httpStep c r "GET" path a now = (r, 200) := by
  simp only [List.mem_cons, List.not_mem_nil, or_false] at hp
  rcases hp with rfl | rfl | rfl | rfl | rfl <;> rfl

example : Nsq.Model.RegistryProto.httpStep cfE r2E "GET" "/ping" ⟨true, none, none, none⟩ 0 = (r2E, 200) := rfl

/-! ## Non-vacuity: the sets really have more than one element -/

section Examples
def infoA : Info := ⟨[104, 65], [110, 65], [118, 49], 4150, 4151⟩
def nodeA : Name := [104, 65, 58, 52, 49, 53, 49]   -- "hA:4151"
def tT : Name := [116]
def tU : Name := [117]
def cf : Conf := ⟨2500, 1500⟩
/-- one nsqd registered for the topics `t` (with channel `c`) and `u` (with channel `c` too) -/
def r2 : Registry := run init [.identify 1 infoA 0, .register 1 [tT, [99]], .register 1 [tU, [99]]]
theorem wf_r2 : WF r2 := WF_run init _ WF_init
def starOp : Op := .tombstone ⟨false, some star, none, some nodeA⟩ 100

example : starOp.modelled = false ∧ starOp.starNode = some (nodeA, 100) := by decide +kernel
/-- both picks are admissible, a pick outside the nsqd's topics is not -/
example : pickValidB r2.db (fun _ => tT) = true ∧ pickValidB r2.db (fun _ => tU) = true ∧
    pickValidB r2.db (fun _ => [120]) = false := by decide +kernel
/-- the two admissible picks give two DIFFERENT allowed results; the list-order `step` is one of them -/
example : tombstoneStar r2 (fun _ => tT) nodeA 100 ≠ tombstoneStar r2 (fun _ => tU) nodeA 100 := by decide +kernel
example : (step r2 starOp).1 = tombstoneStar r2 (fun _ => tT) nodeA 100 := by decide +kernel
/-- `/nodes` afterwards: exactly one of the two topics carries the flag -/
example : (qNodes cf (tombstoneStar r2 (fun _ => tU) nodeA 100) 200).map (·.topics) = [[(tT, false), (tU, true)]] := by
  decide +kernel
/-- `/lookup?topic=*` after tombstoning for `u` only: listed under the pick `t`, hidden under the pick `u`;
the channel list has `c` twice (once per topic) -/
example : (qLookupStar cf (tombstoneStar r2 (fun _ => tU) nodeA 100) (fun _ => tT) 200).map
    (fun a => (a.channels, a.producers.map (·.1))) = some ([[99], [99]], [1]) := by decide +kernel
example : (qLookupStar cf (tombstoneStar r2 (fun _ => tU) nodeA 100) (fun _ => tU) 200).map
    (fun a => a.producers.map (·.1)) = some [] := by decide +kernel
example : qLookupStar cf init (fun _ => tT) 0 = none := by decide +kernel
/-- option edge values on a concrete history: tombstoned for `u`, lifetime 0 ⇒ still listed and flag false; inactivity −1 ⇒ gone -/
example : ((qLookup ⟨2500, 0⟩ (tombstoneStar r2 (fun _ => tU) nodeA 100) tU 100).map (fun a => a.producers.map (·.1)),
           (qNodes ⟨2500, 0⟩ (tombstoneStar r2 (fun _ => tU) nodeA 100) 100).map (·.topics)) =
    (some [1], [[(tT, false), (tU, false)]]) := by decide +kernel
example : ((qLookup ⟨-1, 1500⟩ r2 tT 0).map (fun a => a.producers.map (·.1)), qNodes ⟨-1, 1500⟩ r2 0) = (some [], []) := by
  decide +kernel
/-- a history through the relation: IDENTIFY, two REGISTERs, the wild-card tombstone resolved to `u` -/
example : RunSet init [.identify 1 infoA 0, .register 1 [tT, [99]], .register 1 [tU, [99]], starOp]
    (tombstoneStar r2 (fun _ => tU) nodeA 100) :=
  RunSet.cons rfl (RunSet.cons rfl (RunSet.cons rfl (RunSet.cons
    ⟨fun _ => tU, show PickValid r2.db (fun _ => tU) from (pickValidB_iff r2.db _ wf_r2.db).mp (by decide), rfl⟩
    (RunSet.nil _))))
end Examples

end Nsq.Props.C14Star
