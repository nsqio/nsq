import Nsq.Proofs.Identify
/-!
# C09 — IDENTIFY field by field

`Nsq.Model.Identify.identifyFull` models `identifyDataV2` → `clientV2.Identify` (metadata, four
setters with their partial effect) → feature negotiation → the response document. Tied by the
correspondence leg `idn` (`harness/e3/identify_test.go`: decoded fields in, outcome + every client
field + the document out), by `Nsq.Tie.ProtoFunc` (the four setters *translated* from the Go source
and proved equal to the model) and by the regenerated facts in `Nsq.Tie.Proto` and `Nsq.Tie.ProtoIdentify`. `encoding/json` is
outside (the fields are its result).
-/
namespace Nsq.Props.C09Identify
open Nsq.Model.Identify Nsq.Model.ProtoV2 Nsq.Model.Names Nsq.Model Nsq.Proofs.Identify

def conf0 : Conf :=
  { maxMsgSize := 1024, maxBodySize := 4096, maxRdy := 2500, maxReqTimeoutNs := 3600000000000, maxHeartbeatMs := 60000,
    minObtMs := 25, maxObtMs := 30000, maxObSize := 65536, maxMsgTimeoutMs := 900000, tlsGate := true, authGate := none,
    authCmd := .disabled, tlsConfigured := false, deflateEnabled := true, snappyEnabled := true, decode := fun _ => none }
def nc0 : NConf := { maxDeflateLevel := 6, maxMsgTimeoutMs := 900000, authRequired := false }
def c0 : Client := ⟨⟨[], [], [], [], []⟩, freshConn 30000000000 250000000 60000000000⟩
def d0 : IdentifyData :=
  { heartbeat := 0, outBufSize := 0, outBufTimeout := 0, msgTimeout := 0, sampleRate := 0, featureNegotiation := true,
    tlsv1 := false, deflate := false, snappy := false }

/-- The coarse model used by every other C09 theorem is the projection of this one: same reply class,
same connection state, and an upgrade follows exactly when one was negotiated. -/
theorem refines_protocol_model (conf : Conf) (nc : NConf) (s : ConnState) (b : Broker) (rest body r : Bytes)
    (x : IdFull) (info : Meta) (hst : s.st = .init) (hb : readBody conf.maxBodySize rest = .ok body r)
    (hd : conf.decode body = some x.d) :
    (identify conf s b rest).reply = some (replyOf (identifyFull conf nc ⟨info, s⟩ x)) ∧
    ((identify conf s b rest).ctl = .upgraded ↔ upgrades (identifyFull conf nc ⟨info, s⟩ x) = true) ∧
    (replyOf (identifyFull conf nc ⟨info, s⟩ x) ≠ .err .E_BAD_BODY →
      (identify conf s b rest).st = (clientOf (identifyFull conf nc ⟨info, s⟩ x)).conn) :=
  identify_agrees conf nc s b rest body r x info hst hb hd

/-- IDENTIFY is answered `E_BAD_BODY` exactly when a negotiable value is outside its documented
range (heartbeat −1 | 0 | 1000…max, output buffer timeout −1 | 0 | min…max, size −1 | 0 | 64…max,
sample rate 0…99, msg timeout 0 | 1000…max) — for every value. -/
theorem rejected_iff_out_of_range (conf : Conf) (nc : NConf) (c : Client) (x : IdFull) :
    (∃ c', identifyFull conf nc c x = .badBody c') ↔ ¬ InRange conf x.d := by
  rw [← seq_ok_iff conf c x]
  unfold identifyFull
  by_cases h : (identifySeq conf c x).2 = true
  · simp only [h, Bool.true_eq_false, if_false, not_true_eq_false, iff_false]
    rintro ⟨c', hc⟩
    split at hc
    · cases hc
    · split at hc <;> cases hc
  · have h' : (identifySeq conf c x).2 = false := by simpa using h
    simp [h']

/-- The client's metadata is stored whatever the outcome; when the very first setter (heartbeat)
rejects, nothing else of the connection was touched. -/
theorem metadata_and_partial_effect (conf : Conf) (nc : NConf) (c : Client) (x : IdFull) :
    (clientOf (identifyFull conf nc c x)).info = x.info ∧
    (¬ HbOK conf x.d.heartbeat → identifyFull conf nc c x = .badBody ⟨x.info, c.conn⟩) := by
  constructor
  · rw [clientOf_identifyFull]; exact (identifySeq_agrees conf c x).1
  · intro hhb
    have : setHeartbeat conf c.conn.hbNs x.d.heartbeat = none := by
      cases hs : setHeartbeat conf c.conn.hbNs x.d.heartbeat with
      | none => rfl
      | some v => exact absurd ((setHeartbeat_isSome conf c.conn.hbNs _).mp (by simp [hs])) hhb
    simp [identifyFull, identifySeq, this]

/-- **The response reflects exactly what was applied.** For a negotiating IDENTIFY that is accepted:
the document is computed from the connection state the setters produced and from the negotiated
features, nothing else: its `msg_timeout`, `output_buffer_size`, `output_buffer_timeout`, `sample_rate`
are the connection's values (ms, truncating), `tls_v1` / `deflate` / `snappy` / `deflate_level` are what
will be installed, the three `max_*` and `auth_required` are the options. -/
theorem response_reflects_applied (conf : Conf) (nc : NConf) (c c' : Client) (x : IdFull) (r : Resp) (n : Negot)
    (h : identifyFull conf nc c x = .doc c' r n) :
    c' = (identifySeq conf c x).1 ∧ InRange conf x.d ∧ n = negotiate conf nc x ∧
    r.msgTimeout = Int.tdiv c'.conn.msgTimeoutNs 1000000 ∧ r.outputBufferSize = c'.conn.obSize ∧
    r.outputBufferTimeout = Int.tdiv c'.conn.obtNs 1000000 ∧ r.sampleRate = c'.conn.sampleRate ∧
    r.tlsv1 = n.tlsv1 ∧ r.deflate = n.deflate ∧ r.snappy = n.snappy ∧ r.deflateLevel = n.deflateLevel ∧
    r.maxRdyCount = conf.maxRdy ∧ r.maxMsgTimeout = nc.maxMsgTimeoutMs ∧ r.maxDeflateLevel = nc.maxDeflateLevel ∧
    r.authRequired = nc.authRequired := by
  obtain ⟨hok, _, rfl, rfl, rfl⟩ := identifyFull_doc h
  exact ⟨rfl, (seq_ok_iff conf c x).mp hok, rfl, rfl, rfl, rfl, rfl, rfl, rfl, rfl, rfl, rfl, rfl, rfl, rfl⟩

/-- Features: announced exactly when enabled on the server and asked for; never snappy and deflate
together (asking for both, both enabled, is `E_IDENTIFY_FAILED`); the deflate level is within
1 … max-deflate-level (which `nsqd.New` keeps within 1 … 9, the range `flate.NewWriter` accepts), is
the requested one when that is permitted, and min(max, 6) when none was requested. -/
theorem negotiation (conf : Conf) (nc : NConf) (x : IdFull) (hmax : 1 ≤ nc.maxDeflateLevel) :
    (negotiate conf nc x).tlsv1 = (conf.tlsConfigured && x.d.tlsv1) ∧
    (negotiate conf nc x).deflate = (conf.deflateEnabled && x.d.deflate) ∧
    (negotiate conf nc x).snappy = (conf.snappyEnabled && x.d.snappy) ∧
    1 ≤ (negotiate conf nc x).deflateLevel ∧ (negotiate conf nc x).deflateLevel ≤ nc.maxDeflateLevel ∧
    ((negotiate conf nc x).deflate = true → 1 ≤ x.deflateLevel → x.deflateLevel ≤ nc.maxDeflateLevel →
      (negotiate conf nc x).deflateLevel = x.deflateLevel) ∧
    ((negotiate conf nc x).deflate = false ∨ x.deflateLevel ≤ 0 →
      (negotiate conf nc x).deflateLevel = if nc.maxDeflateLevel < 6 then nc.maxDeflateLevel else 6) := by
  refine ⟨rfl, rfl, rfl, (clampLevel_bounds _ _ _ hmax).1, (clampLevel_bounds _ _ _ hmax).2, ?_, ?_⟩
  · intro hd h1 h2
    simp only [negotiate] at hd ⊢
    rw [hd]; exact clampLevel_granted _ _ h1 h2
  · intro h
    simp only [negotiate] at h ⊢
    exact clampLevel_default _ _ _ h

theorem snappy_deflate_exclusive (conf : Conf) (nc : NConf) (c c' : Client) (x : IdFull) (r : Resp) (n : Negot)
    (h : identifyFull conf nc c x = .doc c' r n) : ¬ (r.deflate = true ∧ r.snappy = true) := by
  obtain ⟨_, hboth, rfl, rfl, rfl⟩ := identifyFull_doc h
  intro hh
  exact hboth (by simpa [respDoc] using hh)

/-- Echo: a permitted `msg_timeout` is returned as sent; 0 returns the server default unchanged. -/
theorem msg_timeout_echo (conf : Conf) (nc : NConf) (c c' : Client) (x : IdFull) (r : Resp) (n : Negot)
    (h : identifyFull conf nc c x = .doc c' r n) :
    (x.d.msgTimeout = 0 ∧ r.msgTimeout = Int.tdiv c.conn.msgTimeoutNs 1000000) ∨
    (x.d.msgTimeout ≠ 0 ∧ r.msgTimeout = x.d.msgTimeout) := by
  obtain ⟨hc, hr, _, hm, _⟩ := response_reflects_applied conf nc c c' x r n h
  have hsome := (applyIdentify_isSome conf c.conn x.d).mpr hr
  cases ha : applyIdentify conf c.conn x.d with
  | none => simp [ha] at hsome
  | some s' =>
    have hs' : c'.conn = s' := hc ▸ (identifySeq_agrees conf c x).2.2 s' ha
    rcases msgTimeout_echo conf _ _ _ (applyIdentify_msgTimeout conf c.conn s' x.d ha) with ⟨h0, hcur⟩ | ⟨hn0, hdiv⟩
    · left; refine ⟨h0, ?_⟩; rw [hm, hs', hcur]
    · right; refine ⟨hn0, ?_⟩; rw [hm, hs']; exact hdiv

example : identifyFull conf0 nc0 c0 ⟨{ d0 with deflate := true, msgTimeout := 5000, sampleRate := 7 }, 9, ⟨[99], [], [], [], []⟩⟩ =
    .doc ⟨⟨[99], [], [], [], []⟩, { c0.conn with msgTimeoutNs := 5000000000, sampleRate := 7 }⟩
      { maxRdyCount := 2500, maxMsgTimeout := 900000, msgTimeout := 5000, tlsv1 := false, deflate := true, deflateLevel := 6,
        maxDeflateLevel := 6, snappy := false, sampleRate := 7, authRequired := false, outputBufferSize := 16384,
        outputBufferTimeout := 250 }
      ⟨false, true, 6, false⟩ := by decide
example : identifyFull conf0 nc0 c0 ⟨{ d0 with deflate := true, snappy := true }, 0, c0.info⟩ = .failed c0 := by decide
example : identifyFull conf0 nc0 c0 ⟨{ d0 with heartbeat := 999 }, 0, ⟨[1], [], [], [], []⟩⟩ =
    .badBody ⟨⟨[1], [], [], [], []⟩, c0.conn⟩ := by decide
-- partial effect: the output buffer timeout was already written when the size is rejected
example : identifyFull conf0 nc0 c0 ⟨{ d0 with outBufTimeout := 100, outBufSize := 63 }, 0, c0.info⟩ =
    .badBody ⟨c0.info, { c0.conn with obtNs := 100000000 }⟩ := by decide
example : identifyFull conf0 nc0 c0 ⟨{ d0 with featureNegotiation := false, outBufSize := -1 }, 0, c0.info⟩ =
    .ok ⟨c0.info, { c0.conn with obSize := 1, obtNs := 0 }⟩ := by decide
example : InRange conf0 d0 := by simp [InRange, HbOK, ObtOK, ObsOK, SrOK, MtOK, d0]
example : ¬ InRange conf0 { d0 with sampleRate := 100 } := by simp [InRange, SrOK, d0]
example : (negotiate conf0 { nc0 with maxDeflateLevel := 4 } ⟨{ d0 with deflate := true }, 9, c0.info⟩).deflateLevel = 4 := by decide

end Nsq.Props.C09Identify
