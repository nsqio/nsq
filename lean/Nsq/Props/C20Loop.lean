import Nsq.Proofs.ToNsqLoop
/-!
# C20, to_nsq main loop — `--rate` throttle, EOF / `Stop` ordering, SIGTERM

Model: `Nsq/Model/ToNsqLoop.lean` (ticker, reader and main goroutines of `main()`; the schedule is universally
quantified). `records` is the specification of `to_nsq_records` (`Props/C20.lean`): the non-empty
delimiter-separated pieces of stdin. `acked i tr` = the bodies producer `i` acknowledged, in order.
-/
namespace Nsq.Props.C20Loop
open Nsq.Model.Split Nsq.Model.ToNsqLoop Nsq.Proofs.ToNsqLoop

/-- Whatever the rate, the tick / sleep / goroutine schedule, the map iteration orders and signals: what a
producer has acknowledged is always a prefix of the records of stdin (byte-exact, in order, no duplicates). -/
theorem to_nsq_loop_prefix (c : Cfg) (input : Bytes) (s : List Ev) (i : Nat) (hi : i < c.n) :
    acked i (run c (init input) s).trace <+: records c.d input := by
  have h := invRec_run c input s
  rw [← Nsq.Proofs.Split.published_fixed, h.split, h.recv i hi]
  exact (List.prefix_append_right_inj _).2 (inflight_prefix i c _ _)

/-- Once the reader has seen EOF (`close(stopChan)`), EVERY producer has acknowledged exactly `records` —
the same sequence for every `--rate` (throttled or not, ticker or not) and every schedule. -/
theorem to_nsq_loop_records (c : Cfg) (input : Bytes) (s : List Ev) (i : Nat) (hi : i < c.n)
    (heof : (run c (init input) s).phase = .closed) :
    acked i (run c (init input) s).trace = records c.d input := by
  rw [← Nsq.Proofs.Split.published_fixed]
  exact closed_all c input _ (invRec_run c input s) heof i hi

/-- EOF path (no signal): every `producer.Stop()` happens after every record was acknowledged by every
producer (`b` = the history before that Stop; the trace is newest first), and the process exits 0. -/
theorem to_nsq_eof_flushed_before_stop (c : Cfg) (input : Bytes) (s : List Ev) (hs : Ev.r .sigterm ∉ s) :
    (∀ a b j, (run c (init input) s).trace = a ++ Out.stop j :: b →
        ∀ i, i < c.n → acked i b = records c.d input) ∧
    (∀ k, (run c (init input) s).main = .exited k →
        k = 0 ∧ ∀ i, i < c.n → acked i (run c (init input) s).trace = records c.d input) := by
  have hst := invStop_run c input s hs
  rw [← Nsq.Proofs.Split.published_fixed]
  refine ⟨fun a b j e => stopsAfter_split (e ▸ hst.ord), fun k hk => ?_⟩
  have hm : _ ∧ k = 0 := hk ▸ hst.m
  exact ⟨hm.2, closed_all c input _ (invRec_run c input s) hm.1⟩

/-- Full statement "when the process exits 0 with stdin consumed, every record was acknowledged by every
producer" — FALSE on the signal path. -/
def to_nsq_exit_flushed : Prop :=
  ∀ (c : Cfg) (input : Bytes) (s : List Ev), (run c (init input) s).main = .exited 0 →
    (run c (init input) s).unread = [] → ∀ i, i < c.n → acked i (run c (init input) s).trace = records c.d input

/-- witness: stdin `"a\n"`, two producers; the record is read and acknowledged by producer 0, then SIGTERM:
main stops both producers and exits 0 — producer 1 never got the record although it was consumed from stdin. -/
theorem to_nsq_exit_flushed_false : ¬ to_nsq_exit_flushed := by
  intro h
  have := h (cfgOf 10 2 0) [97, 10] [.r .read, .r (.pub 0), .r .sigterm, .r (.stop 0), .r (.stop 1)]
    (by decide) (by decide) 1 (by decide +kernel)
  revert this
  decide

/-- the provable part: without a signal (forced hypothesis) exit 0 implies everything flushed. -/
theorem to_nsq_exit_flushed_partial (c : Cfg) (input : Bytes) (s : List Ev) (hs : Ev.r .sigterm ∉ s)
    (hx : (run c (init input) s).main = .exited 0) (i : Nat) (hi : i < c.n) :
    acked i (run c (init input) s).trace = records c.d input :=
  ((to_nsq_eof_flushed_before_stop c input s hs).2 0 hx).2 i hi

/-- what a signal can cost: at any moment two producers differ by at most the one record in flight. -/
theorem to_nsq_sigterm_loss_bounded (c : Cfg) (input : Bytes) (s : List Ev) (i j : Nat) (hi : i < c.n) (hj : j < c.n) :
    (acked i (run c (init input) s).trace).length ≤ (acked j (run c (init input) s).trace).length + 1 := by
  have h := invRec_run c input s
  rw [h.recv i hi, h.recv j hj]
  simp only [List.length_append]
  have := (inflight_length_le i (run c (init input) s).phase).2
  omega

/-- Throttle, counting form. For schedules in which the ticker's `AddInt64` and its capping `StoreInt64` are
not separated by another goroutine (`expand`): loop iterations ≤ 1 + ticks + sleeps, and a producer has
acknowledged at most that many records. -/
theorem to_nsq_throttle_count_partial (c : Cfg) (ht : c.throttle = true) (input : Bytes) (ms : List MEv)
    (i : Nat) (hi : i < c.n) :
    (run c (init input) (expand ms)).loads ≤
        1 + (run c (init input) (expand ms)).ticks + (run c (init input) (expand ms)).sleeps ∧
    (acked i (run c (init input) (expand ms)).trace).length ≤
        1 + (run c (init input) (expand ms)).ticks + (run c (init input) (expand ms)).sleeps := by
  have hc := invCount_run c ht ms _ (invCount_init input)
  have hr := invRec_run c input (expand ms)
  refine ⟨hc.k, ?_⟩
  rw [hr.recv i hi]
  have hm := hc.m
  have hk := hc.k
  have := (inflight_length_le i (run c (init input) (expand ms)).phase).1
  simp only [List.length_append]
  omega

/-- the same bound for ALL schedules — FALSE: the ticker's Add and Store are two atomic actions. -/
def to_nsq_throttle_count : Prop :=
  ∀ (c : Cfg) (input : Bytes) (s : List Ev), c.throttle = true →
    (run c (init input) s).loads ≤ 1 + (run c (init input) s).ticks + (run c (init input) s).sleeps

/-- witness (`--rate 1`): the ticker adds (balance 2 > rate), the reader publishes twice (balance 0), the ticker
then stores `rate` = 1 over it — a decrement is lost and a third iteration runs without sleeping: 3 > 1 + 1 + 0. -/
theorem to_nsq_throttle_count_false : ¬ to_nsq_throttle_count := by
  intro h
  have := h (cfgOf 10 1 1) [97, 10, 98, 10, 99, 10]
    [.tickAdd, .r .load, .r .read, .r (.pub 0), .r .dec, .r .load, .r .read, .r (.pub 0), .r .dec, .tickStore, .r .load]
    (by decide +kernel)
  revert this
  decide

/-! ### non-vacuity -/

/-- `--rate 2`, two producers, "a\nb" (unterminated): a throttled run to completion — both producers acknowledge
`a`, `b` before the first Stop, exit 0, one sleep -/
example :
    let st := run (cfgOf 10 2 2) (init [97, 10, 98])
      (expand [.r .load, .r .read, .r (.pub 1), .r (.pub 0), .r .dec, .r .load, .r .read, .tick, .r (.pub 0), .r (.pub 1),
               .r .dec, .r .wake, .r (.stop 1), .r (.stop 0)])
    st.hist = [.pub 1 [97], .pub 0 [97], .pub 0 [98], .pub 1 [98], .stop 1, .stop 0, .exit 0] ∧
      st.phase = .closed ∧ st.loads = 2 ∧ st.ticks = 1 ∧ st.sleeps = 1 := by decide +kernel
example : cfgOf 10 2 2 = ⟨10, 2, true, 2, true⟩ ∧ cfgOf 10 1 0 = ⟨10, 1, false, 0, false⟩ ∧
    (cfgOf 10 1 2000000000).ticker = false ∧ intervalNs 3 = 333333333 := by decide +kernel
/-- `--rate` above 10^9: interval 0, no ticker, sleeps of length 0 — the count still holds, no time bound follows -/
example : (run (cfgOf 10 1 2000000000) (init [97, 10, 98, 10])
    (expand [.tick, .r .load, .r .read, .r (.pub 0), .r .dec, .tick, .r .load])).sleeps = 1 := by decide +kernel
/-- SIGTERM while a record is in flight, then the reader publishes on a stopped producer: exit 1 -/
example : (run (cfgOf 10 2 0) (init [97, 10])
    [.r .read, .r (.pub 0), .r .sigterm, .r (.stop 1), .r (.pub 1)]).main = .exited 1 := by decide +kernel
example : Ev.r .sigterm ∉ expand [.r .load, .tick] := by decide +kernel

end Nsq.Props.C20Loop
