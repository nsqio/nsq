/-
C02 — exclusive in-flight ownership; redelivery only after REQ/timeout; FIN is final.

Every theorem is about `Nsq.Model.Chan.step` (one `nsqd.Channel` with its consumers) and holds in
every state satisfying the invariant `Inv 0`, which (`reachable_inv`) is every state reachable
from a fresh channel by ANY list of operations — atomic operations and the micro-steps of FIN and
of the pump alike, any number of consumers, any timing inputs.
-/
import Nsq.Proofs.ChanHist
import Nsq.Proofs.ChanInvA
namespace Nsq.Props.C02
open Nsq.Model.Chan Nsq.Proofs.Chan

def Reachable (conf : Conf) (c : Chan) : Prop :=
  ∃ (eph : Bool) (cap : Nat) (ops : List Op), c = run conf { ephemeral := eph, memCap := cap } ops

theorem reachable_inv {conf : Conf} {c : Chan} (h : Reachable conf c) : Inv 0 c := by
  obtain ⟨eph, cap, ops, rfl⟩ := h
  exact run_inv conf ops (inv_init eph cap)

theorem inv_step (conf : Conf) {c : Chan} (h : Inv 0 c) (op : Op) : Inv 0 (step conf c op).1 :=
  step_inv conf h op

/-- DESIGN 3.8 — the executable invariant the driver evaluates (`inv` lines; `rchan` lines rebuild a
real state) holds in every reachable state: a state on which it fails is outside what is proved. -/
theorem invOk_sound {conf : Conf} {c : Chan} (h : Reachable conf c) : invOk c = true :=
  invOk_of_inv (reachable_inv h)

/-- C02.1 — every message of the channel is in exactly one of: the queue (memory or disk), the
in-flight set, the deferred set; no id occurs twice. (`msgs` holds each message once with its
location tag, so "one place" is: ids are pairwise distinct.) -/
theorem single_location {conf : Conf} {c : Chan} (h : Reachable conf c) :
    (c.msgs.map (·.id)).Nodup ∧
    ∀ e1 ∈ c.msgs, ∀ e2 ∈ c.msgs, e1.id = e2.id → e1 = e2 :=
  ⟨(reachable_inv h).core.nodup, fun _ h1 _ h2 hid => eq_of_id_eq (reachable_inv h).core.nodup h1 h2 hid⟩

/-- C02.2 — an id has at most one in-flight entry, and the connection recorded on it is the
connection of the latest `deliver` event of that id. -/
theorem holder_unique {conf : Conf} {c : Chan} (h : Reachable conf c) {e : Entry} (he : e ∈ c.msgs)
    {k : Nat} {p d : Int} (hl : e.loc = .inflight k p d) :
    lastDeliver c.hist e.id = some k ∧ ∀ e' ∈ c.msgs, e'.id = e.id → e' = e := by
  have hi := reachable_inv h
  exact ⟨held_is_last_deliver (inflight_status hi he hl), fun e' he' hid => eq_of_id_eq hi.core.nodup he' he hid⟩

/-- C02.3 — between two deliveries of an id on the channel (to anyone) there is an accepted REQ
or a timeout of that id … -/
theorem redelivery_justified {conf : Conf} {c : Chan} (h : Reachable conf c)
    {h3 h2 h1 : List Ev} {k1 k2 id a1 a2 : Nat}
    (hs : c.hist = h3 ++ Ev.deliver k2 id a2 :: (h2 ++ Ev.deliver k1 id a1 :: h1)) :
    ∃ ev ∈ h2, releases ev id = true := by
  exact hist_redelivery_justified (reachable_inv h).okh hs

/-- … and that REQ was sent by — that timeout was of — the connection holding it then:
an accepted FIN / REQ / TOUCH by `k`, or a timeout attributed to `k`, happens only while the
latest delivery of the id was to `k`. -/
theorem answer_by_holder {conf : Conf} {c : Chan} (h : Reachable conf c) {h2 h1 : List Ev} {ev : Ev} {k id : Nat}
    (hs : c.hist = h2 ++ ev :: h1)
    (hev : ev = .finOk k id ∨ (∃ d, ev = .reqOk k id d) ∨ ev = .touchOk k id ∨ ev = .timeout id k) :
    lastDeliver h1 id = some k := by
  exact hist_answer_by_holder (reachable_inv h).okh hs hev

/-- C02.4 — the n-th delivery of an id on the channel carries attempts n (as a natural number;
the wire field is `wireAttempts n`, equal to n for n < 65536). -/
theorem attempts_consecutive {conf : Conf} {c : Chan} (h : Reachable conf c) {h2 h1 : List Ev} {k id a : Nat}
    (hs : c.hist = h2 ++ Ev.deliver k id a :: h1) :
    a = nDeliver h1 id + 1 ∧ (a < 65536 → wireAttempts a = nDeliver h1 id + 1) := by
  exact hist_attempts_consecutive (reachable_inv h).okh hs

/-- F11: the 65 536-th delivery carries 0 on the wire — a limit of the frame format (`uint16`),
stated rather than assumed away. -/
theorem attempts_wrap_example : wireAttempts (65535 + 1) = 0 := by decide

/-- C02.5 — once a FIN is accepted, no delivery of that id ever follows on the channel
(indeed no event at all mentions it again). -/
theorem fin_final {conf : Conf} {c : Chan} (h : Reachable conf c) {h2 h1 : List Ev} {k id : Nat}
    (hs : c.hist = h2 ++ Ev.finOk k id :: h1) :
    ∀ ev ∈ h2, concerns ev id = false ∧ ∀ k' a, ev ≠ .deliver k' id a := by
  exact hist_fin_final (reachable_inv h).okh hs

def Holds (c : Chan) (k id : Nat) : Prop :=
  ∃ e ∈ c.msgs, e.id = id ∧ ∃ p d, e.loc = .inflight k p d

/-- C02.6 — FIN / REQ / TOUCH by a consumer for an id it does not hold (never issued, already
answered, timed out and handed to someone else, held by another connection) is answered with
the non-fatal `E_FIN_FAILED` / `E_REQ_FAILED` / `E_TOUCH_FAILED` and the state is unchanged. -/
theorem foreign_answer_noop {conf : Conf} {c : Chan} (h : Reachable conf c) {k id : Nat}
    (hk : hasC c.clients k = true) (hno : ¬ Holds c k id) (delay : Nat) (now : Int) :
    step conf c (.fin k id) = (c, .err "E_FIN_FAILED" false) ∧
    step conf c (.req k id delay now) = (c, .err "E_REQ_FAILED" false) ∧
    step conf c (.touch k id now) = (c, .err "E_TOUCH_FAILED" false) := by
  have hcl : ∃ cl, findC c.clients k = some cl := by
    cases hf : findC c.clients k
    · have := findC_none hf
      obtain ⟨cl, hcl, hc⟩ := hasC_iff.1 hk
      exact absurd hc (this cl hcl)
    · exact ⟨_, rfl⟩
  obtain ⟨cl, hcl⟩ := hcl
  cases hf : findE c.msgs id with
  | none => simp [step, hk, finChanPart, hf, hcl]
  | some e =>
    obtain ⟨he, hid⟩ := findE_some hf
    cases hl : e.loc with
    | queued => simp [step, hk, finChanPart, hf, hcl, hl]
    | deferred p => simp [step, hk, finChanPart, hf, hcl, hl]
    | inflight k' p d =>
      have hne : k' ≠ k := by
        intro heq
        subst heq
        exact hno ⟨e, he, hid, p, d, hl⟩
      simp [step, hk, finChanPart, hf, hcl, hl, hne]

/-! ### non-vacuity: a concrete history in which every hypothesis above is met -/

def exConf : Conf := {}
def exOps : List Op :=
  [.put 7, .addClient 1 60 0, .addClient 2 60 0, .rdy 1 1, .deliver 1 7 100, .touch 1 7 110,
   .scanInFlight 1000, .rdy 2 2, .deliver 2 7 1100, .fin 1 7, .fin 2 7, .fin 2 7]
def exChan : Chan := run exConf {} exOps

example : Reachable exConf exChan := ⟨false, 0, exOps, rfl⟩
/-- delivered to 1 (attempt 1), touched, timed out, delivered to 2 (attempt 2), the late FIN of 1
refused, FIN of 2 accepted, duplicate FIN of 2 refused -/
example : exChan.hist = [.finOk 2 7, .deliver 2 7 2, .rdySet 2 2, .timeout 7 1, .touchOk 1 7, .deliver 1 7 1,
    .rdySet 1 1, .joined 2, .joined 1, .fanout 7 false] := by decide
example : exChan.msgs = [] ∧ exChan.messageCount = 1 ∧ exChan.timeoutCount = 1 := by decide
example : (step exConf (run exConf {} (exOps.take 9)) (.fin 1 7)).2 = .err "E_FIN_FAILED" false := by decide
/-- the invariant is not `True`: it rejects a state with one id in two places -/
example : ¬ Inv 0 { msgs := [{ id := 1, att := 0, loc := .queued }, { id := 1, att := 0, loc := .deferred 5 }] } := by
  intro h; have := h.core.nodup; simp at this
example : ¬ Holds (run exConf {} (exOps.take 9)) 1 7 := by
  intro ⟨e, he, _, p, d, hl⟩
  have : (run exConf {} (exOps.take 9)).msgs = [{ id := 7, att := 2, loc := .inflight 2 (1100 + 60) 1100 }] := by decide
  rw [this] at he
  simp at he
  subst he
  simp at hl

end Nsq.Props.C02
