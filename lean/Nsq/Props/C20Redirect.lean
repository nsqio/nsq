import Nsq.Props.C20
import Nsq.Model.RelayRedirect
import Nsq.Proofs.RelayRedirect
import Nsq.Tie.ToolsRelayRedirect
/-!
# C20 — nsq_to_http and HTTP redirects

`Nsq.Props.C20.http_fin_only_after_accept` speaks about the status *the publisher sees*. On the wire
that status may come from another request than the one that carried the message: an `http.Client`
follows redirects, and net/http repeats a POST answered 301/302/303 as a GET **without the body**.
The statements here are about the wire (`Nsq.Model.RelayRedirect`): `Delivered … a body` = some request of
the chain that starts at address `a` carried the message bytes, with the publisher's method, and was
answered with an accepted status (2xx for POST, 200 for GET). The client is a parameter: a `Check` =
what its `CheckRedirect` decides (`checkSameMethod` = fix F45b = /repo 833e42b, the committed and only accepted client;
`checkNever` = fix F45 alone; `checkDefault` = no `CheckRedirect`, the tree before F45).

What the client guarantees (`Nsq.Proofs.RelayRedirect`): `MethodPreserving check` — a follow-up request is sent
only if net/http kept the method of the first request; `Limited` — at most ten requests; `NoError` — the caller
always gets the last answer. All three are proved for `checkNever` and `checkSameMethod`
(`sameMethod_follows_exactly`: it follows EXACTLY the method-preserving redirects below the limit).

POST publisher: the full statement holds for every method-preserving client. GET publisher: the message travels in the query
string, so it holds when every `Location` repeats the query (`KeepsQuery`) and is false otherwise; what holds regardless is
`AcceptedByChain`. The client without `CheckRedirect` is refuted by "302 → elsewhere → 200". Which client a tree has is
translated from `noRedirect` (`Nsq.Tie.ToolsRelayRedirect`) and probed on the real binary.
-/
namespace Nsq.Props.C20Redirect
open Nsq.Model.Relay Nsq.Model.Relay.Http Nsq.Model.RelayRedirect Nsq.Proofs.RelayRedirect

/-- the conclusion shared by the statements: sampling dropped the message, or every request the
handler made was `Delivered`, every configured address was asked in mode *all*, and at least one
address was asked otherwise -/
def FinJustified (check : Check) (c : Cfg) (m : Msg) (so : Bool) (w : World) (out : List Out) : Prop :=
  (c.sampling = true ∧ so = true) ∨
  ((∀ a b ok, Out.request a b ok ∈ out → Delivered check c.post w a m.body) ∧
   (c.mode = .all → ∀ a < c.naddr, Out.request a m.body true ∈ out) ∧
   (c.mode ≠ .all → ∃ a, Out.request a m.body true ∈ out))

theorem fin_via (check : Check) (c : Cfg) (counter : Nat) (m : Msg) (so : Bool) (pick : Nat) (w : World) (D : Nat → Prop)
    (hD : ∀ a, accepts c.post (seenBy check c.post w m.body a) = true → D a)
    (hfin : Out.fin m.id ∈ (stepVia check c counter m so pick w).2) :
    (c.sampling = true ∧ so = true) ∨
    ((∀ a b ok, Out.request a b ok ∈ (stepVia check c counter m so pick w).2 → D a) ∧
     (c.mode = .all → ∀ a < c.naddr, Out.request a m.body true ∈ (stepVia check c counter m so pick w).2) ∧
     (c.mode ≠ .all → ∃ a, Out.request a m.body true ∈ (stepVia check c counter m so pick w).2)) :=
  (Nsq.Props.C20.http_fin_only_after_accept c counter m so pick _ hfin).imp_right fun h =>
    ⟨fun a b ok hreq => hD a (h.1 a b ok hreq).2, h.2⟩

/-- the common core: a client whose chains keep the message (for this publisher, this world, this body) -/
theorem fin_justified_of_chainKeeps (check : Check) (c : Cfg) (counter : Nat) (m : Msg) (so : Bool) (pick : Nat)
    (w : World) (hk : ChainKeeps check w c.post m.body)
    (hfin : Out.fin m.id ∈ (stepVia check c counter m so pick w).2) :
    FinJustified check c m so w (stepVia check c counter m so pick w).2 :=
  fin_via check c counter m so pick w _ (fun a => delivered_of_keeps check c.post w a m.body hk) hfin

/-- **FIN only after a destination accepted the body (POST publisher, method-preserving client).** With a client that
follows only redirects which keep the method — the client of fix F45 and the client of fix F45b — a `Finish` means:
sampling dropped the message, or for each request that the handler made some request of its redirect chain carried the
body as a POST and was itself answered 2xx — at every configured address in mode *all*, at the chosen one otherwise.
Every world: any status, any `Location`, chains, loops, transport errors. -/
theorem http_fin_only_after_body_accepted (check : Check) (hmp : MethodPreserving check) (c : Cfg) (hpost : c.post = true)
    (counter : Nat) (m : Msg) (so : Bool) (pick : Nat) (w : World)
    (hfin : Out.fin m.id ∈ (stepVia check c counter m so pick w).2) :
    FinJustified check c m so w (stepVia check c counter m so pick w).2 :=
  fin_justified_of_chainKeeps check c counter m so pick w (by rw [hpost]; exact chainKeeps_post check hmp w m.body) hfin

/-- the client of fix F45b follows EXACTLY the redirects that keep the method, while fewer than ten requests were made -/
theorem sameMethod_follows_exactly (reqPost via0Post : Bool) (nvia : Nat) :
    checkSameMethod reqPost via0Post nvia = .follow ↔ reqPost = via0Post ∧ nvia < 10 :=
  sameMethod_follows_iff reqPost via0Post nvia

/-- … hence it is method-preserving, limited, and never fails `Do` (and so is the client of F45) -/
theorem accepted_clients_guarantee :
    (MethodPreserving checkSameMethod ∧ Limited checkSameMethod ∧ NoError checkSameMethod) ∧
    (MethodPreserving checkNever ∧ Limited checkNever ∧ NoError checkNever) :=
  ⟨⟨methodPreserving_sameMethod, limited_sameMethod, noError_sameMethod⟩,
   ⟨methodPreserving_never, limited_never, noError_never⟩⟩

/-- **client of fix F45 (follows nothing), POST and GET**: full statement -/
theorem http_fin_only_after_body_accepted_never (c : Cfg) (counter : Nat) (m : Msg) (so : Bool) (pick : Nat) (w : World)
    (hfin : Out.fin m.id ∈ (stepVia checkNever c counter m so pick w).2) :
    FinJustified checkNever c m so w (stepVia checkNever c counter m so pick w).2 :=
  fin_justified_of_chainKeeps checkNever c counter m so pick w (chainKeeps_never w c.post m.body) hfin

/-- **GET publisher, any client** — under the hypothesis that the destinations' `Location`s repeat the query of the GET
they answer (`KeepsQuery`) -/
theorem http_fin_only_after_body_accepted_get_partial (check : Check) (c : Cfg) (hget : c.post = false)
    (counter : Nat) (m : Msg) (so : Bool) (pick : Nat) (w : World) (hq : KeepsQuery w)
    (hfin : Out.fin m.id ∈ (stepVia check c counter m so pick w).2) :
    FinJustified check c m so w (stepVia check c counter m so pick w).2 :=
  fin_justified_of_chainKeeps check c counter m so pick w (by rw [hget]; exact chainKeeps_get check w hq m.body) hfin

/-- the statement without `KeepsQuery` for the client of fix F45b -/
def http_fin_only_after_body_accepted_get : Prop :=
  ∀ (c : Cfg) (_ : c.post = false) (counter : Nat) (m : Msg) (so : Bool) (pick : Nat) (w : World),
    Out.fin m.id ∈ (stepVia checkSameMethod c counter m so pick w).2 →
      FinJustified checkSameMethod c m so w (stepVia checkSameMethod c counter m so pick w).2

/-- the configured address answers `302 Location: /elsewhere` (the query is not repeated), `elsewhere` answers 200 -/
def wMoved : World := fun ep _ _ => if ep = 0 then .status 302 (some ⟨1, false⟩) else .status 200 none
/-- the same redirect with the query repeated in the `Location` -/
def wMovedQ : World := fun ep _ _ => if ep = 0 then .status 302 (some ⟨1, true⟩) else .status 200 none

/-- `wMoved` refutes `FinJustified` for a handling that asked address 0, finished, and whose chain was
"302, then elsewhere without the message": no request that carried `"p"` was accepted -/
theorem wMoved_not_justified (check : Check) (post : Bool) (out : List Out) (hout : out = [Out.request 0 [112] true, Out.fin 7])
    (hwire : wireOf check post wMoved 0 [112] = [⟨0, post, some [112], some 302⟩, ⟨1, false, none, some 200⟩]) :
    ¬ FinJustified check ⟨.roundRobin, 1, post, false⟩ ⟨7, [112]⟩ false wMoved out := by
  rintro (h | h)
  · cases h.1
  · obtain ⟨x, hx, hp, _, hacc⟩ := h.1 0 [112] true (by rw [hout]; simp)
    rw [hwire] at hx
    simp at hx
    rcases hx with rfl | rfl
    · cases post <;> simp [accepts] at hacc
    · simp at hp

/-- … is **false**: GET `?d=p` → 302 → GET elsewhere without the message → 200 → `Finish`; no request that carried
`"p"` was answered 200. -/
theorem http_fin_only_after_body_accepted_get_false : ¬ http_fin_only_after_body_accepted_get := by
  intro h
  have hstep : (stepVia checkSameMethod ⟨.roundRobin, 1, false, false⟩ 0 ⟨7, [112]⟩ false 0 wMoved).2 =
      [Out.request 0 [112] true, Out.fin 7] := by decide +kernel
  exact wMoved_not_justified checkSameMethod false _ hstep (by decide +kernel)
    (h ⟨.roundRobin, 1, false, false⟩ rfl 0 ⟨7, [112]⟩ false 0 wMoved (by rw [hstep]; simp))

/-- what the chain of one request guarantees whatever the `Location`s say: the first request went to the configured
address with the message, every request of the chain had the publisher's method, the answer to the last one was accepted -/
def AcceptedByChain (check : Check) (post : Bool) (w : World) (a : Nat) (body : Bytes) : Prop :=
  (∃ st, (wireOf check post w a body).head? = some ⟨a, post, some body, st⟩) ∧
  (∀ x ∈ wireOf check post w a body, x.post = post) ∧
  accepts post ((wireOf check post w a body).getLast?.bind (·.status)) = true

/-- **Method-preserving client, POST or GET, every world**: a `Finish` means sampling dropped the message, or every
request the handler made was `AcceptedByChain` (at every address in mode *all*, at one otherwise): the destination
received the message, was never asked with another method than the publisher's, and the chain it directed the client
through ended in an accepted status. For the GET publisher this is all that is claimed without `KeepsQuery`. -/
theorem http_fin_chain_accepted (check : Check) (hmp : MethodPreserving check) (c : Cfg) (counter : Nat) (m : Msg)
    (so : Bool) (pick : Nat) (w : World)
    (hfin : Out.fin m.id ∈ (stepVia check c counter m so pick w).2) :
    (c.sampling = true ∧ so = true) ∨
    ((∀ a b ok, Out.request a b ok ∈ (stepVia check c counter m so pick w).2 → AcceptedByChain check c.post w a m.body) ∧
     (c.mode = .all → ∀ a < c.naddr, Out.request a m.body true ∈ (stepVia check c counter m so pick w).2) ∧
     (c.mode ≠ .all → ∃ a, Out.request a m.body true ∈ (stepVia check c counter m so pick w).2)) :=
  fin_via check c counter m so pick w _ (fun a ha =>
    ⟨⟨_, doReq_head check w c.post _ 0 a c.post (some m.body)⟩, doReq_method check hmp c.post w _ 0 a _,
      accepted_last check c.post w a m.body ha⟩) hfin

/-- the `Check` of THIS tree (translated from its `noRedirect`) is method-preserving, limited, and never an error -/
theorem tree_check_guarantees : MethodPreserving Nsq.Tie.ToolsRelayRedirect.treeCheck ∧
    Limited Nsq.Tie.ToolsRelayRedirect.treeCheck ∧ NoError Nsq.Tie.ToolsRelayRedirect.treeCheck := by
  rw [Nsq.Tie.ToolsRelayRedirect.n2hClient_shape]
  exact ⟨methodPreserving_sameMethod, limited_sameMethod, noError_sameMethod⟩

/-- the client of F45 alone and the accepted one (F45b) differ -/
theorem never_ne_sameMethod : checkNever ≠ checkSameMethod := by
  intro h
  have := congrFun (congrFun (congrFun h true) true) 1
  simp [checkNever, checkSameMethod] at this

/-- **THIS tree**: the client is the `Check` translated from the tree's `noRedirect`, which the tie decides
to be `checkSameMethod` (F45b = /repo 833e42b, committed; nothing else is accepted). POST publisher: no hypothesis.
GET publisher: `KeepsQuery` (every `Location` answered to a GET repeats its query) — forced:
`http_fin_only_after_body_accepted_get_false`. A tree that reverts F45b or F45, or whose `noRedirect` decides anything
else, fails `n2hClient_shape` and this theorem with it. -/
theorem http_fin_only_after_body_accepted_this_tree (c : Cfg) (counter : Nat) (m : Msg) (so : Bool) (pick : Nat)
    (w : World)
    (hget : c.post = false → KeepsQuery w)
    (hfin : Out.fin m.id ∈ (stepVia Nsq.Tie.ToolsRelayRedirect.treeCheck c counter m so pick w).2) :
    FinJustified Nsq.Tie.ToolsRelayRedirect.treeCheck c m so w
      (stepVia Nsq.Tie.ToolsRelayRedirect.treeCheck c counter m so pick w).2 := by
  cases hp : c.post with
  | true => exact http_fin_only_after_body_accepted _ tree_check_guarantees.1 c hp counter m so pick w hfin
  | false => exact http_fin_only_after_body_accepted_get_partial _ c hp counter m so pick w (hget hp) hfin

/-- … and whatever the `Location`s say (GET publisher included) -/
theorem http_fin_chain_accepted_this_tree (c : Cfg) (counter : Nat) (m : Msg) (so : Bool) (pick : Nat) (w : World)
    (hfin : Out.fin m.id ∈ (stepVia Nsq.Tie.ToolsRelayRedirect.treeCheck c counter m so pick w).2) :
    (c.sampling = true ∧ so = true) ∨
    ((∀ a b ok, Out.request a b ok ∈ (stepVia Nsq.Tie.ToolsRelayRedirect.treeCheck c counter m so pick w).2 →
        AcceptedByChain Nsq.Tie.ToolsRelayRedirect.treeCheck c.post w a m.body) ∧
     (c.mode = .all → ∀ a < c.naddr, Out.request a m.body true ∈ (stepVia Nsq.Tie.ToolsRelayRedirect.treeCheck c counter m so pick w).2) ∧
     (c.mode ≠ .all → ∃ a, Out.request a m.body true ∈ (stepVia Nsq.Tie.ToolsRelayRedirect.treeCheck c counter m so pick w).2)) :=
  http_fin_chain_accepted _ tree_check_guarantees.1 c counter m so pick w hfin

/-- non-vacuity: this tree's client on `wMoved` (POST → 302): one request, requeue -/
example : (stepVia Nsq.Tie.ToolsRelayRedirect.treeCheck ⟨.roundRobin, 1, true, false⟩ 0 ⟨7, [112]⟩ false 0 wMoved).2 =
    [Out.request 0 [112] false, Out.req 7] := by
  rw [Nsq.Tie.ToolsRelayRedirect.n2hClient_shape]; decide

/-! ### the ten-request limit -/

/-- a `Limited` client (the client of the tree, the one of F45, and net/http's default) makes at most ten requests per `Publish`;
the `fuel` of the model is never what ends a chain -/
theorem at_most_ten_requests (check : Check) (hl : Limited check) (post : Bool) (w : World) (a : Nat) (body : Bytes) :
    (wireOf check post w a body).length ≤ 10 ∧
    ∀ fuel, 10 ≤ fuel → doReq check w post fuel 0 a post (some body) = doReq check w post redirectFuel 0 a post (some body) :=
  ⟨doReq_length check hl w post redirectFuel 0 a post (some body) (by omega),
   fun fuel hf => doReq_fuel_irrelevant check hl w post fuel 0 a post (some body) (by omega) (by omega)⟩

/-- a client that is `Limited` and `NoError` (the client of the tree, and the one of F45) hands the publisher the answer to the last request it
made — after ten requests the tenth answer, whatever it is -/
theorem seen_is_last_answer (check : Check) (hl : Limited check) (he : NoError check) (post : Bool) (w : World) (a : Nat)
    (body : Bytes) :
    seenBy check post w body a = (wireOf check post w a body).getLast?.bind (·.status) :=
  doReq_seen_is_last check hl he w post redirectFuel 0 a post (some body) (by omega) (by decide +kernel)

/-- **A POST answered 301/302/303 is a failed delivery (client of fix F45b)**: net/http would repeat it as a GET without
the body; the client hands the 3xx back, the publisher does not accept it, exactly one request is made. -/
theorem method_changing_redirect_requeues (w : World) (body : Bytes) (a code : Nat) (loc : Option Loc)
    (hans : w a true (some body) = .status code loc) (h3 : code = 301 ∨ code = 302 ∨ code = 303) :
    seenBy checkSameMethod true w body a = some code ∧ accepts true (seenBy checkSameMethod true w body a) = false ∧
    wireOf checkSameMethod true w a body = [⟨a, true, some body, some code⟩] := by
  have hd : doReq checkSameMethod w true redirectFuel 0 a true (some body) =
      ([⟨a, true, some body, some code⟩], some code) := by
    unfold redirectFuel doReq
    rw [hans]
    cases loc with
    | none => simp [followUp, finalOf]
    | some l =>
      have hk : redirectKind code = some false := by
        rcases h3 with h | h | h <;> subst h <;> decide +kernel
      simp [followUp, hk, checkSameMethod, finalOf]
  unfold seenBy wireOf
  rw [hd]
  refine ⟨rfl, ?_, rfl⟩
  rcases h3 with h | h | h <;> subst h <;> simp [accepts]

/-- a redirect loop that keeps the method (307 to itself): ten requests, each with the body; the publisher sees the
tenth 307 and requeues (net/http's default client reports an error instead — a requeue as well) -/
theorem redirect_loop_requeues :
    (wireOf checkSameMethod true (fun _ _ _ => .status 307 (some ⟨0, false⟩)) 0 [112]).length = 10 ∧
    (∀ x ∈ wireOf checkSameMethod true (fun _ _ _ => .status 307 (some ⟨0, false⟩)) 0 [112], x.payload = some [112]) ∧
    seenBy checkSameMethod true (fun _ _ _ => .status 307 (some ⟨0, false⟩)) [112] 0 = some 307 ∧
    accepts true (seenBy checkSameMethod true (fun _ _ _ => .status 307 (some ⟨0, false⟩)) [112] 0) = false ∧
    seenBy checkDefault true (fun _ _ _ => .status 307 (some ⟨0, false⟩)) [112] 0 = none := by decide +kernel

/-- an eleven-step chain (endpoint `k` redirects to `k+1`, endpoint 10 would accept): the client of F45b asks
endpoints 0 … 9 and requeues, endpoint 10 is never asked; a ten-step chain (endpoint 9 accepts) is finished after
endpoint 9 accepted the body -/
example : ((wireOf checkSameMethod true (fun ep _ _ => if ep < 10 then .status 308 (some ⟨ep + 1, false⟩) else .status 200 none) 0 [112]).map (·.ep)
      = [0, 1, 2, 3, 4, 5, 6, 7, 8, 9]) ∧
    seenBy checkSameMethod true (fun ep _ _ => if ep < 10 then .status 308 (some ⟨ep + 1, false⟩) else .status 200 none) [112] 0 = some 308 ∧
    seenBy checkSameMethod true (fun ep _ _ => if ep < 9 then .status 308 (some ⟨ep + 1, false⟩) else .status 200 none) [112] 0 = some 200 := by
  decide

/-! ### the client without `CheckRedirect` (tree before fix F45) -/

/-- the same statement for the client that follows every redirect (net/http's default) -/
def http_fin_only_after_body_accepted_following : Prop :=
  ∀ (c : Cfg) (counter : Nat) (m : Msg) (so : Bool) (pick : Nat) (w : World),
    Out.fin m.id ∈ (stepVia checkDefault c counter m so pick w).2 →
      FinJustified checkDefault c m so w (stepVia checkDefault c counter m so pick w).2

/-- … is **false**: POST `"p"` → 302 → GET (no body) elsewhere → 200 → `Finish`; nobody accepted `"p"`. -/
theorem http_fin_only_after_body_accepted_following_false : ¬ http_fin_only_after_body_accepted_following := by
  intro h
  have hstep : (stepVia checkDefault ⟨.roundRobin, 1, true, false⟩ 0 ⟨7, [112]⟩ false 0 wMoved).2 =
      [Out.request 0 [112] true, Out.fin 7] := by decide +kernel
  exact wMoved_not_justified checkDefault true _ hstep (by decide +kernel)
    (h ⟨.roundRobin, 1, true, false⟩ 0 ⟨7, [112]⟩ false 0 wMoved (by rw [hstep]; simp))

/-- … and holds when no endpoint answers with a redirect that makes that client drop the message
(only 307/308, only for the POST publisher; the 10-redirect stop is an error, i.e. a requeue). With fix F45b this
hypothesis on the destinations is, for the POST publisher, what the client itself guarantees
(`http_fin_only_after_body_accepted`). -/
theorem http_fin_only_after_body_accepted_following_partial (c : Cfg) (counter : Nat) (m : Msg) (so : Bool)
    (pick : Nat) (w : World) (hw : NoLossyRedirect c.post w)
    (hfin : Out.fin m.id ∈ (stepVia checkDefault c counter m so pick w).2) :
    FinJustified checkDefault c m so w (stepVia checkDefault c counter m so pick w).2 :=
  fin_justified_of_chainKeeps checkDefault c counter m so pick w (chainKeeps_noLossy checkDefault c.post w hw m.body) hfin

/-- **A redirect answer is a failed delivery (client of fix F45).** Whatever the `Location` says, whatever the
redirect target would answer: if the address that is asked answers 3xx, the publisher sees that 3xx and
does not accept it. -/
theorem redirect_answer_requeues (post : Bool) (w : World) (body : Bytes) (a code : Nat) (loc : Option Loc)
    (hans : w a post (some body) = .status code loc) (h3 : 300 ≤ code ∧ code < 400) :
    seenBy checkNever post w body a = some code ∧ accepts post (seenBy checkNever post w body a) = false ∧
    wireOf checkNever post w a body = [⟨a, post, some body, some code⟩] := by
  unfold seenBy wireOf redirectFuel
  rw [doReq_never, hans]
  refine ⟨rfl, ?_, rfl⟩
  unfold accepts finalOf
  cases post <;> simp <;> omega

/-! ### non-vacuity -/

/-- the three clients on `wMoved` (POST → 302): only the default client shows the publisher the target's 200 -/
example : seenBy checkDefault true wMoved [112] 0 = some 200 ∧ seenBy checkNever true wMoved [112] 0 = some 302 ∧
    seenBy checkSameMethod true wMoved [112] 0 = some 302 := by decide +kernel
/-- F45 / F45b client on `wMoved`: one request, requeue -/
example : (stepVia checkNever ⟨.roundRobin, 1, true, false⟩ 0 ⟨7, [112]⟩ false 0 wMoved).2 =
    [Out.request 0 [112] false, Out.req 7] ∧
    (stepVia checkSameMethod ⟨.roundRobin, 1, true, false⟩ 0 ⟨7, [112]⟩ false 0 wMoved).2 =
    [Out.request 0 [112] false, Out.req 7] := by decide +kernel
/-- accepting destination: `http_fin_only_after_body_accepted` applies (hypotheses satisfiable) -/
example : Out.fin 7 ∈ (stepVia checkSameMethod ⟨.all, 2, true, false⟩ 0 ⟨7, [112]⟩ false 0 (fun _ _ _ => .status 204 none)).2 := by decide +kernel
example : Out.fin 7 ∈ (stepVia checkNever ⟨.all, 2, true, false⟩ 0 ⟨7, [112]⟩ false 0 (fun _ _ _ => .status 204 none)).2 := by decide +kernel
/-- F45b client, 307 keeps method and body: finished, and the body did arrive at endpoint 1 (F45 client: requeue) -/
example : (stepVia checkSameMethod ⟨.roundRobin, 1, true, false⟩ 0 ⟨7, [112]⟩ false 0
      (fun ep _ _ => if ep = 0 then .status 307 (some ⟨1, false⟩) else .status 200 none)).2 = [Out.request 0 [112] true, Out.fin 7]
    ∧ wireOf checkSameMethod true (fun ep _ _ => if ep = 0 then .status 307 (some ⟨1, false⟩) else .status 200 none) 0 [112] =
      [⟨0, true, some [112], some 307⟩, ⟨1, true, some [112], some 200⟩]
    ∧ (stepVia checkNever ⟨.roundRobin, 1, true, false⟩ 0 ⟨7, [112]⟩ false 0
      (fun ep _ _ => if ep = 0 then .status 307 (some ⟨1, false⟩) else .status 200 none)).2 = [Out.request 0 [112] false, Out.req 7] := by
  decide
/-- F45b client: POST → 307 → endpoint 1 → 302: the method would change at the second hop; the 302 is handed back, both
requests carried the body, none was accepted: requeue -/
example : wireOf checkSameMethod true (fun ep _ _ => if ep = 0 then .status 307 (some ⟨1, false⟩) else .status 302 (some ⟨2, false⟩)) 0 [112] =
      [⟨0, true, some [112], some 307⟩, ⟨1, true, some [112], some 302⟩] ∧
    seenBy checkSameMethod true (fun ep _ _ => if ep = 0 then .status 307 (some ⟨1, false⟩) else .status 302 (some ⟨2, false⟩)) [112] 0 = some 302 := by
  decide
/-- GET publisher, F45b client, the `Location` repeats the query: finished after endpoint 1 answered 200 to a GET that
carried the message (`KeepsQuery` is satisfiable by a world that redirects) -/
example : wireOf checkSameMethod false wMovedQ 0 [112] = [⟨0, false, some [112], some 302⟩, ⟨1, false, some [112], some 200⟩] := by decide +kernel
example : KeepsQuery wMovedQ := by
  intro ep pl lk h
  by_cases he : ep = 0
  · simp [wMovedQ, he, followUp, redirectKind] at h; subst h; rfl
  · simp [wMovedQ, he, followUp] at h
example : ¬ KeepsQuery wMoved := by
  intro h
  have := h 0 none (⟨1, false⟩, false) (by decide +kernel)
  simp at this
/-- … the `Location` drops the query: finished with `AcceptedByChain` only (first request carried the message, all GET, last 200) -/
example : wireOf checkSameMethod false wMoved 0 [112] = [⟨0, false, some [112], some 302⟩, ⟨1, false, none, some 200⟩] := by decide +kernel
/-- `NoLossyRedirect` is satisfiable by a world with a (307) redirect, and violated by `wMoved` -/
example : NoLossyRedirect true (fun ep _ _ => if ep = 0 then .status 307 (some ⟨1, false⟩) else .status 200 none) := by
  intro ep p pl lk h
  by_cases he : ep = 0
  · simp [he, followUp, redirectKind] at h; subst h; exact ⟨rfl, rfl⟩
  · simp [he, followUp] at h
example : ¬ NoLossyRedirect true wMoved := by
  intro h
  have := h 0 true none (⟨1, false⟩, false) (by decide +kernel)
  simp at this
/-- the default client in a redirect loop: ten requests, then an error (requeue) -/
example : (doReq checkDefault (fun _ _ _ => .status 302 (some ⟨0, false⟩)) true redirectFuel 0 0 true (some [112])).1.length = 10
    ∧ (doReq checkDefault (fun _ _ _ => .status 302 (some ⟨0, false⟩)) true redirectFuel 0 0 true (some [112])).2 = none := by decide +kernel
/-- `at_most_ten_requests` / `seen_is_last_answer` apply to the clients of F45 and F45b, hence to this tree's client -/
example : Limited checkSameMethod ∧ NoError checkSameMethod ∧ Limited checkNever ∧ NoError checkNever :=
  ⟨limited_sameMethod, noError_sameMethod, limited_never, noError_never⟩

end Nsq.Props.C20Redirect
