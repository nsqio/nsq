import Nsq.Proofs.PubCounts
import Nsq.Tie.PubCounts
/-! C13 "stats account for every message", producers: the `pub_counts` of a producer connection in
`/stats`. Model `Nsq.Model.PubCounts` (`pubCountsOf fixed m filter` = the loop of `clientV2.Stats`, `publish` =
`clientV2.PublishedMessage`), tie `Nsq.Tie.PubCounts` (F49 = /repo 6fb5d96 is committed: ONLY its loop shape is accepted,
`treeFixed = true` is computed from the facts, `pub_counts_full_this_tree`; the unconditional `break` = `fixed := false` is
the tree before it), replay on the real code `harness/e2/e2_pubcounts_test.go`.

`m` is ONE iteration order of the Go map; every statement about a publish history `h` holds for EVERY order
(`order : m.Perm (mapOf h)`), because the order of `range` over a map is the runtime's choice. -/
namespace Nsq.Props.C13Pub
open Nsq.Model.PubCounts

/-- F49 shape, no filter: the answer is the whole map in iteration order — for every publish history `h` of the
connection (PUB / DPUB: `(topic, 1)`, MPUB: `(topic, len)`) and every iteration order `m` of its map the keys are
distinct, a pair `(t, c)` is listed iff `t` was published to and `c` is the number of messages published to `t`,
and the counts add up to the messages of the history. -/
theorem pub_counts_complete_fixed (h m : List (String × Nat)) (order : m.Perm (mapOf h)) :
    pubCountsOf true m "" = m
    ∧ (keys (pubCountsOf true m "")).Nodup
    ∧ (∀ t c, (t, c) ∈ pubCountsOf true m "" ↔ (t ∈ keys h ∧ c = publishedTo h t))
    ∧ total (pubCountsOf true m "") = total h := by
  obtain ⟨hnd, hk, hc, ht⟩ := Nsq.Proofs.PubCounts.order_spec order
  rw [Nsq.Proofs.PubCounts.unfiltered_fixed]
  exact ⟨rfl, hnd, fun t c => by rw [Nsq.Proofs.PubCounts.mem_iff_publishedTo m hnd t c, hk, hc], ht⟩

/-- non-vacuity: PUB a, MPUB(3) b, PUB a, DPUB c — three topics, 6 messages, in an order other than `mapOf`'s. -/
example :
    let h := [("a", 1), ("b", 3), ("a", 1), ("c", 1)]
    let m := [("c", 1), ("a", 2), ("b", 3)]
    m.Perm (mapOf h) ∧ pubCountsOf true m "" = [("c", 1), ("a", 2), ("b", 3)] ∧ total h = 6
      ∧ publishedTo h "a" = 2 := by
  refine ⟨?_, by decide, by decide, by decide⟩
  show [("c", 1), ("a", 2), ("b", 3)].Perm [("a", 2), ("b", 3), ("c", 1)]
  exact (List.perm_cons_append_cons _ (l₁ := [("a", 2), ("b", 3)]) (l₂ := []) (List.Perm.refl _)).trans (by simp)

/-- BOTH shapes, topic filter `t`: the answer is `[(t, count)]` when the connection published to `t`, `[]` otherwise
— first for any association list (the first entry under `t`), then for every iteration order of the map of a
history: the count is the number of messages the connection published to `t`. -/
theorem pub_counts_filtered (fixed : Bool) (t : String) (ht : t ≠ "") :
    (∀ m : List (String × Nat),
        pubCountsOf fixed m t = match m.lookup t with | some c => [(t, c)] | none => [])
    ∧ (∀ h m : List (String × Nat), m.Perm (mapOf h) →
        pubCountsOf fixed m t = if t ∈ keys h then [(t, publishedTo h t)] else []) := by
  refine ⟨fun m => Nsq.Proofs.PubCounts.filtered_lookup fixed m t ht, fun h m order => ?_⟩
  obtain ⟨hnd, hk, hc, _⟩ := Nsq.Proofs.PubCounts.order_spec order
  rw [Nsq.Proofs.PubCounts.filtered_lookup fixed m t ht, Nsq.Proofs.PubCounts.lookup_eq m hnd t, hc]
  by_cases hm : t ∈ keys h
  · simp [(hk t).2 hm, hm]
  · simp [mt (hk t).1 hm, hm]

/-- non-vacuity: both shapes, a published and an unpublished topic. -/
example :
    pubCountsOf false [("c", 1), ("a", 2), ("b", 3)] "b" = [("b", 3)]
    ∧ pubCountsOf true [("c", 1), ("a", 2), ("b", 3)] "b" = [("b", 3)]
    ∧ pubCountsOf false [("c", 1), ("a", 2), ("b", 3)] "z" = []
    ∧ pubCountsOf true [("c", 1), ("a", 2), ("b", 3)] "z" = [] := by decide

/-- F49 shape: the unfiltered answer is the concatenation, over the connection's topics in iteration order, of the
filtered answers (topic names are never empty) — filtered and unfiltered `/stats` agree. In fact the right-hand side
is `m` in both shapes; only the fixed loop returns it. -/
theorem pub_counts_unfiltered_is_union_fixed (m : List (String × Nat)) (hm : (keys m).Nodup) (hne : "" ∉ keys m) :
    pubCountsOf true m "" = (keys m).flatMap (pubCountsOf true m)
    ∧ (keys m).flatMap (pubCountsOf false m) = m := by
  rw [Nsq.Proofs.PubCounts.unfiltered_fixed, Nsq.Proofs.PubCounts.union_of_filtered true m hm hne]
  exact ⟨rfl, Nsq.Proofs.PubCounts.union_of_filtered false m hm hne⟩

example : (keys [("c", 1), ("a", 2)]).Nodup ∧ "" ∉ keys [("c", 1), ("a", 2)]
    ∧ (keys [("c", 1), ("a", 2)]).flatMap (pubCountsOf true [("c", 1), ("a", 2)]) = [("c", 1), ("a", 2)] := by decide

/-- The property for producers, as a statement about a loop shape: whatever the iteration order of the map
(distinct keys), the unfiltered answer lists every topic the connection published to. -/
def PubCountsFull (fixed : Bool) : Prop :=
  ∀ m : List (String × Nat), (keys m).Nodup → ∀ k ∈ keys m, k ∈ keys (pubCountsOf fixed m "")

/-- The loop with the unconditional `break` (the tree before F49) does NOT have it: a connection that published to
two topics reports one — the first of the iteration order, i.e. an arbitrary one. -/
theorem pub_counts_full_false_with_break : ¬ PubCountsFull false := by
  intro h
  have := h [("a", 1), ("b", 2)] (by decide) "b" (by decide)
  revert this; decide

/-- the witness, spelled out: unfiltered lists `a` only, 1 of the 3 messages; the filtered view of the same
connection has `b`; in the other iteration order the unfiltered view lists `b` only. -/
example :
    pubCountsOf false [("a", 1), ("b", 2)] "" = [("a", 1)]
    ∧ pubCountsOf false [("a", 1), ("b", 2)] "b" = [("b", 2)]
    ∧ pubCountsOf false [("b", 2), ("a", 1)] "" = [("b", 2)]
    ∧ total (pubCountsOf false [("a", 1), ("b", 2)] "") = 1 ∧ total (mapOf [("a", 1), ("b", 2)]) = 3 := by decide

/-- The F49 shape has it. -/
theorem pub_counts_full_fixed : PubCountsFull true := by
  intro m _ k hk
  rw [Nsq.Proofs.PubCounts.unfiltered_fixed]; exact hk

example : (keys [("a", 1), ("b", 2)]).Nodup ∧ "b" ∈ keys (pubCountsOf true [("a", 1), ("b", 2)] "") := by decide

/-- THIS tree: the parameter is computed from the regenerated loop of `clientV2.Stats` and the tie decides it
`true`; a tree that reverts F49 fails `Tie.PubCounts.tree_fixed` and this theorem with it. -/
theorem pub_counts_full_this_tree : PubCountsFull Nsq.Tie.PubCounts.treeFixed := by
  rw [Nsq.Tie.PubCounts.tree_fixed]; exact pub_counts_full_fixed

example : pubCountsOf Nsq.Tie.PubCounts.treeFixed [("a", 1), ("b", 2)] "" = [("a", 1), ("b", 2)] := by
  rw [Nsq.Tie.PubCounts.tree_fixed]; decide

end Nsq.Props.C13Pub
