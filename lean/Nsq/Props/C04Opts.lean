import Nsq.Proofs.Timing
import Nsq.Model.TimingOpts
import Nsq.Tie.TimingOpts
/-!
# C04 — "never beyond max-msg-timeout after delivery" and the option pair

`Props.C04.touch_cap` needs "every delivery starts with a timeout ≤ MaxMsgTimeout". A negotiated
`msg_timeout` satisfies it (`setMsgTimeout_range`); the DEFAULT is the option `--msg-timeout`
(`Tie.TimingOpts.client_msgTimeout_used_by`), which `nsqd.New` did not compare with `--max-msg-timeout`:
finding `msg-timeout-above-max` (replayed on the real daemon by harness/e1/opts_timeout_test.go),
fix F40 = /repo bedf305, committed (`New` lowers `MsgTimeout` to `MaxMsgTimeout` when it is above; a refusal to start
would stop every daemon started with a low `--max-msg-timeout` and the default `--msg-timeout`). `fixed` below = `Tie.TimingOpts.treeFixed`,
which the regenerated facts decide to be `true` (`tree_fixed`): `deadline_cap_this_tree` is the statement about the checked tree.
-/
namespace Nsq.Props.C04Opts
open Nsq.Model.PQ Nsq.Model.Timing Nsq.Model.TimingOpts Nsq.Proofs.PQ Nsq.Proofs.Timing

/-- the statement's clause for a daemon started with ANY option pair: whatever the history of deliveries
(each with the daemon default as `New` left it, or with a negotiated timeout in `[1 s, MaxMsgTimeout]`),
TOUCHes, FINs, REQs, deferrals and scans, every in-flight deadline is `≤ deliveryTS + MaxMsgTimeout` -/
def DeadlineCap (fixed : Bool) : Prop :=
  ∀ (msgTimeout maxMsgTimeout : Int) (ops : List Op),
      (∀ op ∈ ops, ∀ now id client timeout, op = .inflight now id client timeout →
        timeout = effectiveMsgTimeout fixed msgTimeout maxMsgTimeout ∨
        (1000000000 ≤ timeout ∧ timeout ≤ maxMsgTimeout)) →
      ∀ r ∈ (run maxMsgTimeout {} ops).ifmap, ∀ p, (r.id, p) ∈ keys (run maxMsgTimeout {} ops).ifpq →
        p ≤ r.dts + maxMsgTimeout

/-- **With fix F40 the clause holds in full**: no hypothesis on the options at all. -/
theorem deadline_cap_fixed : DeadlineCap true := by
  intro mt max ops hops
  have hle : effectiveMsgTimeout true mt max ≤ max := by
    unfold effectiveMsgTimeout
    by_cases h : mt > max <;> simp [h] <;> omega
  refine cap_run max {} ops inv_init (cap_init max) ?_
  intro op hop now id client timeout he
  rcases hops op hop now id client timeout he with h | h <;> omega

/-- **THIS tree**: the parameter is the Bool computed from the regenerated statements of `nsqd.New`; the tie
accepts only the shape with the guard, so a tree that reverts F40 fails `tree_fixed` and this theorem with it. -/
theorem deadline_cap_this_tree : DeadlineCap Nsq.Tie.TimingOpts.treeFixed := by
  rw [Nsq.Tie.TimingOpts.tree_fixed]; exact deadline_cap_fixed

example : effectiveMsgTimeout Nsq.Tie.TimingOpts.treeFixed 1200 900 = 900 := by
  rw [Nsq.Tie.TimingOpts.tree_fixed]; decide +kernel

/-- **Without it the clause is false** (the tree before F40): with `--msg-timeout 120 --max-msg-timeout 60`
the first delivery's deadline is `deliveryTS + 120`. -/
theorem deadline_cap_unfixed_false : ¬ DeadlineCap false := by
  intro h
  have := h 120 60 [.inflight 0 1 1 120]
    (by
      intro op hop now id client timeout he
      simp only [List.mem_cons, List.not_mem_nil, or_false] at hop
      subst hop
      cases he
      exact Or.inl (by decide +kernel))
    ({ id := 1, client := 1, dts := 0 } : InF) (by decide +kernel) 120 (by decide +kernel)
  simp at this

/-- What holds on BOTH trees: every deadline is `≤ deliveryTS + max(MaxMsgTimeout, M)` (the statement's `B`) when `M` bounds
the timeouts deliveries start with (`M` = the larger of `--msg-timeout` and `--max-msg-timeout`) … -/
theorem deadline_cap_general (B maxMsgTimeout : Int) (hle : maxMsgTimeout ≤ B) (ops : List Op)
    (hops : ∀ op ∈ ops, ∀ now id client timeout, op = .inflight now id client timeout → timeout ≤ B) :
    ∀ r ∈ (run maxMsgTimeout {} ops).ifmap, ∀ p, (r.id, p) ∈ keys (run maxMsgTimeout {} ops).ifpq →
      p ≤ r.dts + B :=
  cap_run_le B maxMsgTimeout hle {} ops inv_init (cap_init B) hops

/-- … and a TOUCH always brings the message back under the cap (so the excess is confined to deliveries
that were never TOUCHed): after an accepted TOUCH the deadline is `min(now + msgTimeout, deliveryTS + max)`. -/
theorem touch_restores_cap (c : Chan) (h : ChanInv c) (now client : Int) (id : Nat) (mt max : Int)
    (hok : (touch c now client id mt max).2 = .ok) :
    ∃ r, lookup c.ifmap id = some r ∧
      (id, min (now + mt) (r.dts + max)) ∈ keys (touch c now client id mt max).1.ifpq ∧
      min (now + mt) (r.dts + max) ≤ r.dts + max := by
  obtain ⟨r, h1, _, h3, _⟩ := touch_sets_deadline c now client id mt max hok
  exact ⟨r, h1, h3, Int.min_le_right _ _⟩

/-- The scenario of the driver op `optcheck` (one delivery at `dts` with the default timeout — first
deadline `dts + msgTimeout` —, then its TOUCH at any `now ≥ dts`): the TOUCHed deadline is `≤ dts + max`, and
it is EARLIER than the first one exactly when `msgTimeout > max`: on the unfixed tree a TOUCH can shorten a
message's life. The answer does not depend on when the TOUCH arrives (the driver evaluates `now = dts`). -/
theorem touch_answer_any_time (mt max dts now : Int) (hnow : dts ≤ now) :
    touchDeadline now dts mt max ≤ dts + max ∧
    (touchDeadline now dts mt max < dts + mt ↔ max < mt) := by
  rw [touchDeadline_eq_min]
  constructor
  · exact Int.min_le_right _ _
  · omega

example : effectiveMsgTimeout true 60 900 = 60 ∧ effectiveMsgTimeout true 1200 900 = 900 ∧
    effectiveMsgTimeout false 1200 900 = 1200 := by decide +kernel
example : (touchDeadline 5 0 1200 900 < 0 + 1200) := (touch_answer_any_time 1200 900 0 5 (by decide +kernel)).2.mpr (by decide +kernel)
example : deadlineOf (startInFlight {} 0 1 1 1200).1 1 = some 1200 ∧ deadlineOf (deliverThenTouch 1200 900 0 5) 1 = some 900 := by
  decide +kernel

/-- a history with a default delivery, a negotiated one and a TOUCH, under accepted options -/
example : ∀ r ∈ (run 900 {} [.inflight 0 1 1 60, .inflight 1 2 2 2000000000, .touch 50 1 1 60]).ifmap,
    ∀ p, (r.id, p) ∈ keys (run 900 {} [.inflight 0 1 1 60, .inflight 1 2 2 2000000000, .touch 50 1 1 60]).ifpq →
      p ≤ r.dts + 2000000000 :=
  deadline_cap_general 2000000000 900 (by decide +kernel) _ (by
    intro op hop now id client timeout he
    simp only [List.mem_cons, List.not_mem_nil, or_false] at hop
    rcases hop with rfl | rfl | rfl <;> cases he <;> omega)

end Nsq.Props.C04Opts
