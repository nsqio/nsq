import Nsq.Props.C15
/-!
# C15 — which entries an accepted admin call changes, EXACTLY

`Nsq.Props.C15.admin_call_touches_only` is exact for `/topic/delete` and `/channel/delete`; for the two create calls it
is an upper bound ("the only keys that CAN appear") and for `/topic/tombstone` a disjunction ("unchanged, or in
`tombTouched` and marked"). Here the remaining three are characterised exactly, for every registry and every accepted
argument:

* `createTopic_exact` / `createChannel_exact`: the key set after the call is the old one plus the named topic key
  (plus the named channel key), no producer entry changes; `create…_changes_iff`: a key's presence CHANGES iff it is one
  of the named keys and was absent;
* `tombstone_exact`: every producer entry after the call is given by ONE formula — marked `⟨true, now⟩` iff
  `tombMarked` (the entry is under the topic key of `t` and its peer carries the node string; for `t = *`: under the
  topic key the run-time pick of `FindProducers("topic","*","")` chose for that peer — the step function of the model
  uses `firstPick`, `Nsq.Props.C14Star` quantifies over all admissible picks), else unchanged; no key appears or
  disappears; `tombstone_changes_iff`: an entry CHANGES iff it is marked, exists and is not already `⟨true, now⟩`;
* `tombMarked_touched`: the exact set lies inside the bound `tombTouched` of `admin_call_touches_only`; `tombTouched_not_exact`: strictly, for
  `t = *`.
* `admin_call_touches_exactly`: the five calls together (the two deletes re-exported from `admin_call_touches_only`).
-/
namespace Nsq.Props.C15Admin
open Nsq.Model.Registry Nsq.Model.Registry.AMap Nsq.Model.RegistryProto
open Nsq.Proofs.RegistryDB Nsq.Proofs.RegistryRefine Nsq.Proofs.RegistryStar Nsq.Proofs.RegistryAdmin Nsq.Spec.RegistrySpec

theorem createTopic_exact (r : Registry) (a : HttpArgs) (t : Name) (hok : (createTopic r a).2 = .ok)
    (ht : a.topic = some t) (k : Key) :
    has (createTopic r a).1.db k = (decide (k = topicKey t) || has r.db k) ∧
    ∀ q, getP (createTopic r a).1.db k q = getP r.db k q := by
  refine ⟨?_, fun q => (create_getP r a k q).1⟩
  rw [Bool.eq_iff_iff, createTopic_has, or_comm]
  simp only [hok, ht, Option.some.injEq, true_and, exists_eq_left', Bool.or_eq_true, decide_eq_true_eq]

theorem createChannel_exact (r : Registry) (a : HttpArgs) (t c : Name) (hok : (createChannel r a).2 = .ok)
    (ht : a.topic = some t) (hc : a.channel = some c) (k : Key) :
    has (createChannel r a).1.db k = (decide (k = topicKey t) || decide (k = chanKey t c) || has r.db k) ∧
    ∀ q, getP (createChannel r a).1.db k q = getP r.db k q := by
  refine ⟨?_, fun q => (create_getP r a k q).2⟩
  rw [Bool.eq_iff_iff, createChannel_has, or_comm]
  simp only [hok, ht, hc, Option.some.injEq, true_and, exists_and_left, exists_eq_left', Bool.or_eq_true, decide_eq_true_eq]

/-- presence of a key CHANGES by an accepted `/topic/create` iff it is the named topic key and was absent -/
theorem createTopic_changes_iff (r : Registry) (a : HttpArgs) (t : Name) (hok : (createTopic r a).2 = .ok)
    (ht : a.topic = some t) (k : Key) :
    has (createTopic r a).1.db k ≠ has r.db k ↔ k = topicKey t ∧ has r.db k = false := by
  rw [(createTopic_exact r a t hok ht k).1]
  by_cases hk : k = topicKey t <;> cases has r.db k <;> simp [hk]

/-- … by an accepted `/channel/create` iff it is the named channel key or its topic key and was absent -/
theorem createChannel_changes_iff (r : Registry) (a : HttpArgs) (t c : Name) (hok : (createChannel r a).2 = .ok)
    (ht : a.topic = some t) (hc : a.channel = some c) (k : Key) :
    has (createChannel r a).1.db k ≠ has r.db k ↔ (k = topicKey t ∨ k = chanKey t c) ∧ has r.db k = false := by
  rw [(createChannel_exact r a t c hok ht hc k).1]
  by_cases hk : k = topicKey t <;> by_cases hk2 : k = chanKey t c <;> cases has r.db k <;> simp [hk, hk2]

/-- EXACTLY the entries `/topic/tombstone?topic=t&node=n` marks, `pick` = the outcome of `FindProducers("topic","*","")`
(used only for `t = *`) -/
def tombMarked (r : Registry) (pick : Pick) (t node : Name) (k : Key) (q : Nat) : Bool :=
  if t = star then isMatch k .topic star [] && decide (pick q = k.key) && nodeMatches r q node
  else decide (k = topicKey t) && nodeMatches r q node

theorem tombMarked_iff (r : Registry) (pick : Pick) (t node : Name) (k : Key) (q : Nat) :
    tombMarked r pick t node k q = true ↔ Marked r pick t node k q := by
  unfold tombMarked Marked; split <;> simp [and_assoc]

theorem tombstone_exact (r : Registry) (a : HttpArgs) (now : Int) (t node : Name) (hok : (tombstone r a now).2 = .ok)
    (ht : a.topic = some t) (hn : a.node = some node) (k : Key) :
    has (tombstone r a now).1.db k = has r.db k ∧
    ∀ q, getP (tombstone r a now).1.db k q =
      if tombMarked r (firstPick r.db) t node k q then (getP r.db k q).map (fun _ => ⟨true, now⟩) else getP r.db k q := by
  obtain ⟨h1, h2⟩ := tombstone_getP r a now t node hok ht hn k
  exact ⟨h1, fun q => by rw [h2 q]; simp only [tombMarked_iff]⟩

/-- a producer entry CHANGES by an accepted tombstone call iff it is marked, exists, and is not already `⟨true, now⟩` -/
theorem tombstone_changes_iff (r : Registry) (a : HttpArgs) (now : Int) (t node : Name)
    (hok : (tombstone r a now).2 = .ok) (ht : a.topic = some t) (hn : a.node = some node) (k : Key) (q : Nat) :
    getP (tombstone r a now).1.db k q ≠ getP r.db k q ↔
      tombMarked r (firstPick r.db) t node k q = true ∧ ∃ tb, getP r.db k q = some tb ∧ tb ≠ ⟨true, now⟩ := by
  rw [(tombstone_exact r a now t node hok ht hn k).2 q]
  by_cases hm : tombMarked r (firstPick r.db) t node k q = true
  · simp only [hm, if_true, true_and]
    cases hg : getP r.db k q with
    | none => simp
    | some tb =>
      simp only [Option.map_some, ne_eq, Option.some.injEq, exists_eq_left']
      exact ⟨fun h e => h e.symm, fun h e => h e.symm⟩
  · simp [hm]

/-- the exact set lies inside the bound of `admin_call_touches_only` … -/
theorem tombMarked_touched (r : Registry) (pick : Pick) (t node : Name) (k : Key) (q : Nat)
    (h : tombMarked r pick t node k q = true) : tombTouched r t node k q = true :=
  touched_of_marked ((tombMarked_iff ..).mp h)

/-- … strictly for `t = *`: a peer registered for two topics is marked under the picked one only -/
theorem tombTouched_not_exact :
    ∃ (r : Registry) (node : Name) (k : Key) (q : Nat),
      tombTouched r star node k q = true ∧ tombMarked r (firstPick r.db) star node k q = false ∧
      getP (tombstone r ⟨false, some star, none, some node⟩ 7).1.db k q = getP r.db k q ∧ (getP r.db k q).isSome = true := by
  refine ⟨run init [.identify 1 ⟨[104], [110], [118], 1, 2⟩ 0, .register 1 [[116]], .register 1 [[117]]],
    nodeOf ⟨[104], [110], [118], 1, 2⟩, topicKey [117], 1, ?_⟩
  decide +kernel

/-- **Exactly** which entries each ACCEPTED admin call changes (every registry, every argument; no call changes a peer
record — `admin_call_touches_only`, first conjunct). -/
theorem admin_call_touches_exactly (r : Registry) (a : HttpArgs) (now : Int) :
    (∀ t, (createTopic r a).2 = .ok → a.topic = some t → ∀ k,
      has (createTopic r a).1.db k = (decide (k = topicKey t) || has r.db k) ∧
      ∀ q, getP (createTopic r a).1.db k q = getP r.db k q) ∧
    (∀ t c, (createChannel r a).2 = .ok → a.topic = some t → a.channel = some c → ∀ k,
      has (createChannel r a).1.db k = (decide (k = topicKey t) || decide (k = chanKey t c) || has r.db k) ∧
      ∀ q, getP (createChannel r a).1.db k q = getP r.db k q) ∧
    (∀ t, (deleteTopic r a).2 = .ok → a.topic = some t → ∀ k,
      (has (deleteTopic r a).1.db k = true ↔ has r.db k = true ∧ delTouched t k = false) ∧
      ∀ q, getP (deleteTopic r a).1.db k q = if delTouched t k then none else getP r.db k q) ∧
    (∀ t c, (deleteChannel r a).2 = .ok → a.topic = some t → a.channel = some c → ∀ k,
      has (deleteChannel r a).1.db k = (decide (k ≠ chanKey t c) && has r.db k) ∧
      ∀ q, getP (deleteChannel r a).1.db k q = if k = chanKey t c then none else getP r.db k q) ∧
    (∀ t node, (tombstone r a now).2 = .ok → a.topic = some t → a.node = some node → ∀ k,
      has (tombstone r a now).1.db k = has r.db k ∧
      ∀ q, getP (tombstone r a now).1.db k q =
        if tombMarked r (firstPick r.db) t node k q then (getP r.db k q).map (fun _ => ⟨true, now⟩)
        else getP r.db k q) := by
  obtain ⟨_, _, _, hdt, hdc, _⟩ := Nsq.Props.C15.admin_call_touches_only r a now
  exact ⟨fun t hok ht k => createTopic_exact r a t hok ht k,
    fun t c hok ht hc k => createChannel_exact r a t c hok ht hc k, hdt, hdc,
    fun t node hok ht hn k => tombstone_exact r a now t node hok ht hn k⟩

/-! ## non-vacuity -/

def infoA : Info := ⟨[104], [110], [118], 1, 2⟩
def r0 : Registry := run init [.identify 1 infoA 0, .register 1 [[116], [99]], .identify 2 ⟨[105], [110], [118], 1, 2⟩ 0,
  .register 2 [[116]]]

/-- the calls are accepted on `r0`, a key appears, an entry is marked and another one under the same key is not -/
example : (createTopic r0 ⟨false, some [117], none, none⟩).2 = .ok ∧
    has (createTopic r0 ⟨false, some [117], none, none⟩).1.db (topicKey [117]) = true ∧ has r0.db (topicKey [117]) = false ∧
    (createChannel r0 ⟨false, some [117], some [100], none⟩).2 = .ok ∧
    has (createChannel r0 ⟨false, some [117], some [100], none⟩).1.db (chanKey [117] [100]) = true := by decide +kernel
example : (tombstone r0 ⟨false, some [116], none, some (nodeOf infoA)⟩ 7).2 = .ok ∧
    tombMarked r0 (firstPick r0.db) [116] (nodeOf infoA) (topicKey [116]) 1 = true ∧
    tombMarked r0 (firstPick r0.db) [116] (nodeOf infoA) (topicKey [116]) 2 = false ∧
    getP (tombstone r0 ⟨false, some [116], none, some (nodeOf infoA)⟩ 7).1.db (topicKey [116]) 1 = some ⟨true, 7⟩ ∧
    getP (tombstone r0 ⟨false, some [116], none, some (nodeOf infoA)⟩ 7).1.db (topicKey [116]) 2 = some fresh ∧
    getP (tombstone r0 ⟨false, some [116], none, some (nodeOf infoA)⟩ 7).1.db (chanKey [116] [99]) 1 = some fresh := by decide +kernel
/-- marking twice at the same time changes nothing the second time (the `tb ≠ ⟨true, now⟩` clause is needed) -/
example : (tombstone (tombstone r0 ⟨false, some [116], none, some (nodeOf infoA)⟩ 7).1
      ⟨false, some [116], none, some (nodeOf infoA)⟩ 7).1.db =
    (tombstone r0 ⟨false, some [116], none, some (nodeOf infoA)⟩ 7).1.db := by decide +kernel

end Nsq.Props.C15Admin
