import Nsq.Model.TopicDelete
import Nsq.Proofs.TopicDelete
/-
C08 — "deleting a topic disconnects its consumers … a later re-creation starts empty", under every
interleaving of `DeleteExistingTopic` (HTTP delete or the ephemeral topic's `deleteCallback`) with SUB,
disconnects, re-creation of the name and another deletion of the same name.
Model: Model/TopicDelete.lean; `{}` = the tree without fixes/F19 + F20, `fixedTree` = with both.
-/
namespace Nsq.Props.C08TopicDelete
open Nsq.Model.TopicDelete Nsq.Proofs.TopicDelete

/-- the full claim for the unrepaired tree: no schedule leaves a consumer attached to an object that no
map holds, and no object is unlinked without having been deleted -/
def DeleteDisconnectsFull : Prop :=
  ∀ (sched : List DStep) (s : DSt), drun {} sched = some s → zombies s = [] ∧ leaked s = []

/-- consumer 1 subscribed; the deletion has deleted every channel (1 closed) and is about to unlink; consumer 2
subscribes: `GetTopic` returns the dead object, `GetChannel` creates a channel inside it, SUB is answered OK;
the unlink removes the object: 2 stays connected to a channel nothing can reach (`topic_delete_races_sub`) -/
def witnessZombie : List DStep := [.sub 1 false, .delBegin, .delChannels 0, .sub 2 false, .delUnlink 0]

/-- a second deletion loses the CAS and unlinks the name at once; the name is re-created (object 1, consumer 2);
the first deletion finishes and unlinks the *name*: the fresh object leaves the map although nobody deleted it
(`topic_double_delete_unlinks_fresh`) -/
def witnessDouble : List DStep :=
  [.sub 1 false, .delBegin, .delBegin, .loserUnlink, .sub 2 false, .delChannels 0, .delUnlink 0]

theorem witnessZombie_zombie :
    (drun {} witnessZombie).map (fun s => (zombies s, s.closed, s.okSub, s.map)) = some ([2], [1], [(2, 0), (1, 0)], none) := by
  decide +kernel

theorem witnessDouble_leaks :
    (drun {} witnessDouble).map (fun s => (zombies s, leaked s, s.closed, s.map)) = some ([2], [1], [1], none) := by
  decide +kernel

theorem delete_disconnects_full_false : ¬ DeleteDisconnectsFull := by
  intro h
  have := (h witnessZombie _ rfl).1
  revert this
  decide +kernel

/-- each repair alone leaves the other window open -/
theorem each_fix_alone_insufficient :
    (drun { ownUnlink := true } witnessZombie).map zombies = some [2] ∧
    (drun { subGuard := true } witnessDouble).map leaked = some [1] := by decide +kernel

/-- the same interleavings on the repaired tree: the late SUB is refused and its connection closed; the
second deletion returns without unlinking, so the name is not re-created underneath the running deletion
(consumer 2 is refused as well) -/
theorem repaired_witnesses :
    (drun fixedTree witnessZombie).map (fun s => (zombies s, leaked s, s.closed, s.okSub)) = some ([], [], [2, 1], [(1, 0)]) ∧
    drun fixedTree witnessDouble = none ∧
    (drun fixedTree [.sub 1 false, .delBegin, .delBegin, .sub 2 false, .delChannels 0, .delUnlink 0, .sub 3 false]).map
      (fun s => (zombies s, leaked s, s.closed, s.okSub, s.map.map (fun T => (T.id, T.subs)))) =
      some ([], [], [1, 2], [(3, 1), (1, 0)], some (1, [3])) := ⟨rfl, rfl, rfl⟩

/-- **F19 + F20**: on the repaired tree no schedule of subscriptions, disconnects, deletions (any number,
concurrent, incl. the ephemeral callback) and re-creations produces a consumer attached to an unreachable
object, and an object leaves the map only after it was deleted -/
theorem no_zombie_fixed (sched : List DStep) (s : DSt) (h : drun fixedTree sched = some s) :
    zombies s = [] ∧ leaked s = [] := by
  have inv := (fixedInv_run sched fixedTree s fixedInv_init h).inv
  exact ⟨inv.flatten_nil (·.subs) (fun _ h => h), List.map_eq_nil_iff.2 inv.filter_not_exiting⟩

/-- every tree: the channel-deletion stage of a topic deletion closes every consumer attached to the object
at that moment (what `delete_topic_effects` says in the atomic model) -/
theorem delete_topic_closes_attached (s s' : DSt) (id : Nat) (T : TObj) (hf : findObj s id = some T)
    (h : dstep s (.delChannels id) = some s') : ∀ k ∈ T.subs, k ∈ s'.closed := by
  simp only [dstep] at h
  split at h
  · rw [hf] at h
    simp only [] at h
    split at h
    · cases h
    · cases h
      intro k hk
      simp [hk]
  · cases h

/-! ### non-vacuity -/
example : (drun fixedTree [.sub 1 true, .sub 2 true, .leave 1, .delBegin, .sub 3 true, .delChannels 0, .delUnlink 0, .sub 4 false,
    .delBegin, .delBegin, .delChannels 1, .delUnlink 1]).map (fun s => (s.unlinked.map (fun T => (T.id, T.exiting, T.subs)), s.closed, s.left, s.map)) =
    some ([(1, true, []), (0, true, [])], [4, 2, 3], [1], none) := by decide +kernel
example : ∃ s T, findObj s 0 = some T ∧ T.subs = [2, 1] ∧ (dstep s (.delChannels 0)).map (·.closed) = some [2, 1] :=
  ⟨{ map := some { id := 0, exiting := true, subs := [2, 1] }, deleters := [0], nextId := 1 }, _, rfl, rfl, rfl⟩

end Nsq.Props.C08TopicDelete
