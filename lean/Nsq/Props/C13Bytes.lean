/-
C13.2 — `message_bytes` as a RUN-level statement (`TInv` does not mention `msgBytes`, so
`C13.topic_bytes` alone is a step-level fact connected to no invariant).

* `step_message_bytes` — EVERY nsqd-level step (all 30 ops, the raw halves of channel creation and the FIN / pump
  micro-steps included) changes the sum of the topics' `message_bytes` by exactly the body bytes it enqueued
  (`added op`: PUB / DPUB the message, MPUB all messages, a failed MPUB the prefix before the failing write; 0 for
  everything else: fan-out, deliveries, answers, scans, pause, Empty, channel creation / deletion, (dis)connects);
* `message_bytes_is_sum_of_sizes` — hence in every state reachable from an empty daemon by API-level ops
  `Σ_topics message_bytes = Σ over the run of the sizes enqueued`, i.e. the bytes of every acknowledged message plus
  the enqueued prefixes of failed MPUBs — nothing else ever writes the counter.
Per topic the step-level statement is `C13.topic_bytes`; the real counter is compared with the model at every `tdump`
line (`mb=`) and in the `statsq json` rows (`b=`).
-/
import Nsq.Proofs.TopicBytes
namespace Nsq.Props.C13Bytes
open Nsq.Model.ChanNsqd Nsq.Proofs.ChanNsqd Nsq.Proofs.TopicBytes

theorem step_message_bytes {s : State} (hi : NInv s) (op : Nsq.Model.ChanNsqd.Op) :
    bytesL (Nsq.Model.ChanNsqd.step s op).1.topics = bytesL s.topics + added op :=
  step_bytes hi.tnodup op

/-- Σ message_bytes = Σ sizes enqueued along the run -/
theorem message_bytes_is_sum_of_sizes (conf : NConf) (ops : List Nsq.Model.ChanNsqd.Op)
    (hapi : ∀ op ∈ ops, Op.api op = true) :
    bytesL (Nsq.Model.ChanNsqd.run { conf := conf } ops).topics = (ops.map added).sum := by
  simpa [bytesL] using run_bytes (s := { conf := conf }) (by simp) ops

/-! non-vacuity: PUB 10, MPUB [3,4], a failed MPUB [5,6,7] whose third write fails, DPUB 2, fan-out and delivery in between -/
def exOps : List Nsq.Model.ChanNsqd.Op :=
  [.createChan 1 1 false, .sub 9 1 1 false 60 0, .pub 1 10, .mpub 1 [3, 4], .pumpTopic 1 1 false [], .rdy 9 (some 1),
   .deliver 9 1 100, .mpubFail 1 [5, 6, 7] 2, .dpub 2 2 50, .fin 9 1]
example : (exOps.map added).sum = 10 + 7 + 11 + 2 := by decide
example : bytesL (Nsq.Model.ChanNsqd.run {} exOps).topics = 30 :=
  (message_bytes_is_sum_of_sizes {} exOps (by decide)).trans (by decide)
example : ((Nsq.Model.ChanNsqd.run {} exOps).topics.map (fun t => (t.tid, t.msgBytes))) = [(1, 28), (2, 2)] := by decide

end Nsq.Props.C13Bytes
