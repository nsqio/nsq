import Nsq.Props.E9DiskQueue
import Nsq.Proofs.DiskQueueDepthFree
import Nsq.Proofs.DiskQueueKill
/-
Engine E9 — the general hard-kill statement for go-diskqueue v1.1.0.

A process kill leaves only the files (`crash s = s.fs`); the new process reads the metadata file
(`openQ` = `New`).  The metadata file is written by `sync` only: every `syncEvery` operations, at a roll of
the write file, after the reader moved to another file or skipped a bad one, on the sync ticker, at
`Close`; `Empty` REMOVES it.  Between two syncs the file lags behind the live state by
  `dup` = the records handed to the consumer since it was written, and
  `new` = the records appended since it was written
(`Proofs.DiskQueue.Lag`, an invariant of every clean history: `reachable_lag`).  The true statement:

  * a metadata file exists  ⇒  after the kill the queue is exactly `dup ++ q` (`q` = the queue at the kill):
    the records received since the last metadata write are delivered AGAIN, in order, first; NOTHING is lost —
    the records put since then are salvaged from the data file, the writer skips to a fresh file; only
    `Depth()` is wrong (too small by `|new|`) until the reader reaches the tail; every later operation
    behaves like a healthy FIFO (`QD`, the depth-free invariant);
  * no metadata file (fresh queue before its first sync, or after `Empty` before the next sync)  ⇒  the new
    process starts at file 0 / position 0 / depth 0: EVERY queued record is lost.
  * the first clause is about ONE kill after a clean history: a SECOND kill before the next sync loses the
    records put in between (`second_kill_before_sync_loses`: the writer skips to the same "fresh" file again).

Kill points are the rest points of `ioLoop` (parked in `select`); a kill inside one loop pass is not modelled.
-/
namespace Nsq.Props.E9Kill
open Nsq.Model.Wire Nsq.Model.DiskQueue Nsq.Proofs.DiskQueue Nsq.Props.E9DiskQueue

/-- 1. THE GENERAL HARD-KILL THEOREM (state level).  `s` at rest holds `q`; its metadata file `m` lags by
`dup` / `new`.  Kill, then `New` with any configuration that keeps the record-size bounds: the new queue
holds exactly `dup ++ q` (depth-free sense: every future operation behaves like a healthy FIFO with that
content), `retrieveMetaData` restores the stale `depth = m.depth`, which is short by `|new|`. -/
theorem kill_general (s : St) (q dup new : List Bytes) (m : Meta) (h : QL s q dup new) (hmd : s.fs.md = some m)
    (cfg' : Cfg) (hok : CfgOk cfg') (hmin : cfg'.minMsgSize = s.cfg.minMsgSize) (hmax : cfg'.maxMsgSize = s.cfg.maxMsgSize) :
    QD (openQ cfg' (crash s)) (dup ++ q) ∧ (retrieve cfg' (crash s)).depth = m.depth ∧
      m.depth + (new.length : Int) = ((dup ++ q).length : Int) := by
  obtain ⟨pre, recs, a, _, c, l⟩ := h
  have L := l m hmd
  obtain ⟨wf', wp', hcase, hr⟩ := retrieve_lag a hmd L cfg'
  obtain ⟨pre0, r1, r2⟩ := crash_rep a L cfg' hok hmin hmax wf' wp' hcase
  have hQ := Q_of_rep r1
  rw [r2, c] at hQ
  refine ⟨⟨_, ?_, hQ⟩, ?_, ?_⟩
  · unfold openQ crash
    apply E_settle
    rw [hr]
    exact ⟨m.depth, false, 0, s.fs.md, rfl⟩
  · unfold crash; rw [hr]; rfl
  · have := L.depth
    rw [a.depth] at this
    unfold absQ at c
    rw [c] at this
    simp only [List.length_append]
    omega

/-- 2. without a metadata file EVERYTHING is lost, whatever the data files hold: the new process offers
nothing and reports depth 0 (and will overwrite file 0 from position 0) -/
theorem kill_without_metadata_loses_all (s : St) (hmd : s.fs.md = none) (cfg' : Cfg) (hok : CfgOk cfg') :
    openQ cfg' (crash s) = { cfg := cfg', fs := s.fs } ∧ (recv (openQ cfg' (crash s))).1 = none ∧
      (openQ cfg' (crash s)).depth = 0 := by
  have e := crash_nomd s.fs hmd cfg' hok
  unfold crash
  rw [e]
  exact ⟨rfl, rfl, rfl⟩

/-- ghost: the records handed to the consumer so far, oldest first -/
def delivered (cfg : Cfg) : List Op → List Bytes → List Bytes
  | [], _ => []
  | .recv :: ops, q => (match q with | [] => [] | d :: _ => [d]) ++ delivered cfg ops (specOp cfg q .recv)
  | o :: ops, q => delivered cfg ops (specOp cfg q o)

/-- ghost: the records `Put` accepted so far, oldest first -/
def accepted (cfg : Cfg) : List Op → List Bytes
  | [] => []
  | .put d :: ops => (if cfg.minMsgSize ≤ d.length ∧ d.length ≤ cfg.maxMsgSize then [d] else []) ++ accepted cfg ops
  | _ :: ops => accepted cfg ops

theorem delivered_cons (cfg : Cfg) (o : Op) (ops : List Op) (q : List Bytes) :
    delivered cfg (o :: ops) q = delivered cfg [o] q ++ delivered cfg ops (specOp cfg q o) := by
  cases o <;> simp [delivered]

theorem accepted_cons (cfg : Cfg) (o : Op) (ops : List Op) :
    accepted cfg (o :: ops) = accepted cfg [o] ++ accepted cfg ops := by
  cases o <;> simp [accepted]

theorem stepOp_lag (cfg : Cfg) (hok : CfgOk cfg) {s : St} {q dup new : List Bytes} (o : Op) (h : QL s q dup new)
    (hc : s.cfg = cfg) :
    QLe (stepOp cfg s o) (specOp cfg q o) (dup ++ delivered cfg [o] q) (new ++ accepted cfg [o]) := by
  subst hc
  cases o with
  | put d =>
    simp only [delivered, accepted, List.append_nil]
    show QLe (put s d).2 (if ValidRec s.cfg d then q ++ [d] else q) _ (new ++ if ValidRec s.cfg d then [d] else [])
    by_cases hv : ValidRec s.cfg d
    · rw [if_pos hv, if_pos hv]
      exact put_ok_QL h d hv
    · rw [if_neg hv, if_neg hv, List.append_nil]
      exact put_invalid_QL h d hv
  | recv =>
    simp only [accepted, List.append_nil]
    cases q with
    | nil =>
      simp only [delivered, List.append_nil]
      show QLe (recv s).2 [] dup new
      rw [recv_none_Q h.toQ]
      exact h.le
    | cons d q =>
      simp only [delivered, List.append_nil]
      exact recv_head_QL h
  | empty => exact (empty_QL h).2.1.le.mono List.nil_suffix List.nil_suffix
  | reopen => exact (reopen_QL h _ hok rfl rfl).mono List.nil_suffix List.nil_suffix

theorem run_lag (cfg : Cfg) (hok : CfgOk cfg) (ops : List Op) : ∀ (s : St) (q dup new : List Bytes), QLe s q dup new →
    s.cfg = cfg →
    QLe (ops.foldl (stepOp cfg) s) (ops.foldl (specOp cfg) q) (dup ++ delivered cfg ops q) (new ++ accepted cfg ops) := by
  induction ops with
  | nil => intro s q dup new h _; simpa [delivered, accepted] using h
  | cons o ops ih =>
    intro s q dup new h hc
    have := ih _ _ _ _ (h.step (fun _ _ h0 => stepOp_lag cfg hok o h0 hc)) (stepOp_cfg id cfg s o hc)
    rwa [List.append_assoc, List.append_assoc, ← delivered_cons, ← accepted_cons] at this

/-- 3. the lag invariant holds after ANY list of puts (valid or not), receives, empties and close/re-open
cycles from a fresh data path; `dup` is a suffix of what was delivered, `new` a suffix of what was accepted -/
theorem reachable_lag (cfg : Cfg) (hok : CfgOk cfg) (ops : List Op) :
    ∃ dup new, QL (ops.foldl (stepOp cfg) (openQ cfg FS.empty)) (ops.foldl (specOp cfg) []) dup new ∧
      dup <:+ delivered cfg ops [] ∧ new <:+ accepted cfg ops ∧
      (ops.foldl (stepOp cfg) (openQ cfg FS.empty)).cfg = cfg := by
  have h0 : QL (openQ cfg FS.empty) [] [] [] := by
    obtain ⟨pre, recs, a, b, c⟩ := fresh_Q cfg hok
    refine ⟨pre, recs, a, b, c, fun m hm => ?_⟩
    rw [crash_nomd FS.empty rfl cfg hok] at hm
    exact absurd hm (by simp [FS.empty])
  obtain ⟨dup, new, a, b, c⟩ := run_lag cfg hok ops _ [] [] [] h0.le (openQ_cfg _ _)
  exact ⟨dup, new, a, b, c, foldl_stepOp_cfg cfg ops _ (openQ_cfg _ _)⟩

/-- 4. THE GENERAL HARD-KILL THEOREM (history level): after any clean history, a kill at rest and `New`
either find no metadata file — the new process starts empty at file 0, everything queued is lost — or
the new queue is `dup ++ q` with `dup` a suffix of the delivered records (re-delivered, in order, before
everything still queued), nothing is lost, and `Depth()` is short by `|new|`, `new` a suffix of the accepted
records. -/
theorem kill_after_any_history (cfg : Cfg) (hok : CfgOk cfg) (ops : List Op) (cfg' : Cfg) (hok' : CfgOk cfg')
    (hmin : cfg'.minMsgSize = cfg.minMsgSize) (hmax : cfg'.maxMsgSize = cfg.maxMsgSize) :
    ((ops.foldl (stepOp cfg) (openQ cfg FS.empty)).fs.md = none ∧
      openQ cfg' (crash (ops.foldl (stepOp cfg) (openQ cfg FS.empty))) =
        { cfg := cfg', fs := (ops.foldl (stepOp cfg) (openQ cfg FS.empty)).fs }) ∨
    (∃ m dup new, (ops.foldl (stepOp cfg) (openQ cfg FS.empty)).fs.md = some m ∧
      dup <:+ delivered cfg ops [] ∧ new <:+ accepted cfg ops ∧
      QD (openQ cfg' (crash (ops.foldl (stepOp cfg) (openQ cfg FS.empty)))) (dup ++ ops.foldl (specOp cfg) []) ∧
      (retrieve cfg' (crash (ops.foldl (stepOp cfg) (openQ cfg FS.empty)))).depth = m.depth ∧
      m.depth + (new.length : Int) = ((dup ++ ops.foldl (specOp cfg) []).length : Int)) := by
  obtain ⟨dup, new, a, b, c, d⟩ := reachable_lag cfg hok ops
  cases hm : (ops.foldl (stepOp cfg) (openQ cfg FS.empty)).fs.md with
  | none => exact Or.inl ⟨rfl, (kill_without_metadata_loses_all _ hm cfg' hok').1⟩
  | some m =>
    obtain ⟨x, y, z⟩ := kill_general _ _ dup new m a hm cfg' hok' (by rw [d]; exact hmin) (by rw [d]; exact hmax)
    exact Or.inr ⟨m, dup, new, rfl, b, c, x, y, z⟩

/-! ### 5. the depth-free invariant: after the kill the queue is a FIFO for every future operation -/

theorem stale_depth_put (s : St) (q : List Bytes) (d : Bytes) (h : QD s q) (hv : ValidRec s.cfg d) :
    (put s d).1 = .ok ∧ QD (put s d).2 (q ++ [d]) := by
  obtain ⟨s0, e, hq⟩ := h
  obtain ⟨a, b⟩ := put_ok_Q hq d (by rw [← (E_pos e).cfg]; exact hv)
  obtain ⟨c1, c2⟩ := E_put e d
  exact ⟨by rw [c1]; exact a, _, c2, b⟩

theorem stale_depth_put_invalid (s : St) (q : List Bytes) (d : Bytes) (h : QD s q) (hv : ¬ ValidRec s.cfg d) :
    (put s d).1 = .invalid ∧ QD (put s d).2 q := by
  obtain ⟨s0, e, hq⟩ := h
  obtain ⟨a, b⟩ := put_invalid_Q hq d (by rw [← (E_pos e).cfg]; exact hv)
  obtain ⟨c1, c2⟩ := E_put e d
  exact ⟨by rw [c1]; exact a, _, c2, b⟩

theorem stale_depth_recv (s : St) (d : Bytes) (q : List Bytes) (h : QD s (d :: q)) :
    (recv s).1 = some d ∧ QD (recv s).2 q := by
  obtain ⟨s0, e, hq⟩ := h
  obtain ⟨a, b⟩ := recv_head_Q hq
  obtain ⟨c1, c2⟩ := E_recv e
  exact ⟨by rw [c1]; exact a, _, c2, b⟩

theorem stale_depth_recv_empty (s : St) (h : QD s []) : (recv s).1 = none ∧ QD (recv s).2 [] := by
  obtain ⟨s0, e, hq⟩ := h
  have a := recv_none_Q hq
  obtain ⟨c1, c2⟩ := E_recv e
  refine ⟨by rw [c1, a], _, c2, ?_⟩
  rw [a]; exact hq

theorem stale_depth_empty (s : St) (q : List Bytes) (h : QD s q) :
    (empty s).1 = true ∧ QD (empty s).2 [] ∧ (∀ i, (empty s).2.fs.dat i = none) := by
  obtain ⟨s0, e, hq⟩ := h
  obtain ⟨a, b, c, _⟩ := empty_Q hq
  obtain ⟨c1, c2⟩ := E_empty e
  refine ⟨by rw [c1]; exact a, ⟨_, c2, b⟩, ?_⟩
  intro i
  rw [(E_pos c2).dat]
  exact c i

theorem stale_depth_reopen (s : St) (q : List Bytes) (h : QD s q) (cfg' : Cfg) (hok : CfgOk cfg')
    (hmin : cfg'.minMsgSize = s.cfg.minMsgSize) (hmax : cfg'.maxMsgSize = s.cfg.maxMsgSize) :
    QD (openQ cfg' (close s).fs) q := by
  obtain ⟨s0, e, hq⟩ := h
  have hc := (E_pos e).cfg
  exact ⟨_, E_reopen e cfg', reopen_Q hq cfg' hok (by rw [hmin, hc]) (by rw [hmax, hc])⟩

/-- … and it is fully healthy again as soon as `Depth()` is right and no sync is pending -/
theorem stale_depth_healed (s : St) (q : List Bytes) (h : QD s q) (hd : s.depth = (q.length : Int))
    (hn : s.needSync = false) : Q s q := by
  obtain ⟨s0, e, pre, recs, a, b, c⟩ := h
  obtain ⟨dp, ns, ct, md, rfl⟩ := e
  have hd0 : dp = s0.depth := by
    have : (upd s0 dp ns ct md).depth = dp := rfl
    rw [this] at hd
    rw [hd, a.depth, ← c]; rfl
  have hn0 : ns = false := hn
  subst hd0 hn0
  exact ⟨pre, recs, a.upd false ct md, ⟨rfl, fun hcr => b.2 hcr⟩, c⟩

/-- everything the consumer gets after the kill, in order, is exactly `dup ++ q` -/
theorem drain_after_kill (cfg : Cfg) (hok : CfgOk cfg) (s : St) (q : List Bytes) (h : QD s q) (n : Nat) (hn : q.length ≤ n) :
    DQLaw.drain (diskqueue_law cfg hok) n s = q :=
  (diskqueue_law cfg hok).drain_of QD stale_depth_recv (fun s h => (stale_depth_recv_empty s h).1) q s h n hn

/-! ### witnesses and non-vacuity -/

def cfgK : Cfg := { maxBytesPerFile := 100, minMsgSize := 1, maxMsgSize := 8, syncEvery := 3 }
theorem cfgK_ok : CfgOk cfgK := ⟨by decide, by decide⟩
def rd : Bytes := [0xd1, 0xd2, 0xd3, 0xd4]
def re : Bytes := [0xe1, 0xe2, 0xe3, 0xe4]

/-- history: put a, b, c (sync at count 3), receive a, put d — metadata lags by dup = [a], new = [d] -/
def opsK : List Op := [.put ra, .put rb, .put rc, .recv, .put rd]
def sK : St := opsK.foldl (stepOp cfgK) (openQ cfgK FS.empty)

example : sK.fs.md = some { depth := 3, rf := 0, rp := 0, wf := 0, wp := 24 } ∧ sK.rp = 8 ∧ sK.wp = 32 ∧ sK.depth = 3 := by decide +kernel
example : delivered cfgK opsK [] = [ra] ∧ accepted cfgK opsK = [ra, rb, rc, rd] ∧ opsK.foldl (specOp cfgK) [] = [rb, rc, rd] := by decide +kernel
/-- the instance of `kill_after_any_history` on that history, evaluated: a is delivered again, then b, c, d;
the writer skipped to file 1; `Depth()` says 3 while 4 records are queued -/
example : (openQ cfgK (crash sK)).wf = 1 ∧ (openQ cfgK (crash sK)).depth = 3 ∧
    DQLaw.drain (diskqueue_law cfgK cfgK_ok) 6 (openQ cfgK (crash sK)) = [ra, rb, rc, rd] := by decide +kernel
/-- `Depth()` is repaired when the reader reaches the tail -/
example : ((recv (recv (recv (recv (openQ cfgK (crash sK))).2).2).2).2).depth = 0 := by decide +kernel
/-- on that history the theorem's second alternative is the one that holds -/
example : sK.fs.md ≠ none := by decide +kernel

/-- the hypothesis of `kill_general` is met by a state with a real lag (via `reachable_lag`) and `QD` is not
`True`: a depth-stale queue still refuses a wrong content -/
example : ∃ dup new, QL sK [rb, rc, rd] dup new := by
  obtain ⟨dup, new, h, _⟩ := reachable_lag cfgK cfgK_ok opsK
  exact ⟨dup, new, h⟩
example : ¬ QD (openQ cfgK (crash sK)) [] := fun h => by
  have := (stale_depth_recv_empty _ h).1
  exact absurd this (by decide)

/-- 6. the limit of clause 1: it speaks about ONE kill after a clean history.  put a, b, c (sync), put d, KILL,
restart (writer skips to file 1; a … d are there), put e (acknowledged, into file 1, no sync yet), KILL
again, restart: the stale metadata sends the writer to "fresh" file 1 at position 0 once more — e is never
delivered and the next `Put` overwrites it. -/
def sOnce : St := openQ cfgK (crash (put (put (put (put (openQ cfgK FS.empty) ra).2 rb).2 rc).2 rd).2)
def sTwice : St := openQ cfgK (crash (put sOnce re).2)

theorem second_kill_before_sync_loses :
    (put sOnce re).1 = .ok ∧
    (recv sTwice).1 = some ra ∧ (recv (recv sTwice).2).1 = some rb ∧ (recv (recv (recv sTwice).2).2).1 = some rc ∧
    (recv (recv (recv (recv sTwice).2).2).2).1 = some rd ∧
    (recv (recv (recv (recv (recv sTwice).2).2).2).2).1 = none ∧ (sTwice.fs.dat 1).isSome = true := by decide +kernel

/-- so "a metadata file exists ⇒ an acknowledged `Put` survives a kill" is false without "clean history" -/
def kill_loses_nothing_with_metadata_full : Prop :=
  ∀ (s : St) (d : Bytes), (s.fs.md).isSome = true → (put s d).1 = .ok →
    ∃ n, d ∈ DQLaw.drain (diskqueue_law cfgK cfgK_ok) n (openQ cfgK (crash (put s d).2))

theorem kill_loses_nothing_with_metadata_full_false : ¬ kill_loses_nothing_with_metadata_full := by
  intro h
  obtain ⟨n, hn⟩ := h sOnce re (by decide +kernel) second_kill_before_sync_loses.1
  obtain ⟨_, e1, e2, e3, e4, e5, _⟩ := second_kill_before_sync_loses
  change re ∈ DQLaw.drain (diskqueue_law cfgK cfgK_ok) n sTwice at hn
  -- the first four receives hand out ra … rd and the fifth nothing: a drain of any length is a prefix of these four
  rcases n with _ | _ | _ | _ | _ | n <;>
    simp only [DQLaw.drain, diskqueue_law, e1, e2, e3, e4, e5] at hn <;> exact absurd hn (by decide)

/-- `kill_without_metadata_loses_all` is not vacuous: after one put (no sync yet) there is no metadata file -/
example : (put (openQ cfgW100 FS.empty) ra).2.fs.md = none ∧ Q (put (openQ cfgW100 FS.empty) ra).2 [ra] :=
  ⟨by decide, (put_ok_Q (fresh_Q cfgW100 cfgW100_ok) ra (by decide)).2⟩

end Nsq.Props.E9Kill
