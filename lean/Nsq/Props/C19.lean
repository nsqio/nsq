import Nsq.Proofs.ToFile
import Nsq.Proofs.ToFileNoOverwrite
import Nsq.Proofs.ToFileTrace
/-!
# C19 — nsq_to_file never acknowledges what it has not safely written

Property theorems about the router model `Nsq.Model.ToFile` (helper lemmas: `Nsq.Proofs.ToFile`).
Every statement quantifies over every configuration `c` (gzip, rotate-size, rotate-interval,
work-dir, skip-empty-files, max-in-flight, with/without `<REV>`), every initial directory content
`fs0` (pre-existing colliding files), every event list (messages, ticks, HUP, TERM, stop; with
arbitrary clock readings, file names and `IsStarved` answers) and every fault schedule `io`
(which system call fails → `os.Exit(1)`, before which system call or `Finish` a SIGKILL lands).

The model is tied to apps/nsq_to_file by `Nsq.Tie.ToolsToFile` (regenerated statement skeletons)
and by the correspondence harness (real `FileLogger.router()` on an owned clock).
-/
namespace Nsq.Props.C19
open Nsq.Model.ToFile Nsq.Proofs.ToFile

/-- `l` is a segment of the part of `f` that survives a power loss (the fsynced prefix of the
decodable bytes; for gzip output: of the payload of closed members). This is an *infix* claim: it does not say
that `l` starts a line, nor that two messages use different bytes — the line-level statement
(one record per FINished occurrence, at a line start, pairwise disjoint) is `Nsq.Props.C19Lines.LinesSafe`. -/
def SurvivesIn (f : File) (l : Bytes) : Prop := ∃ a b, f.data.take f.durable = a ++ l ++ b

def Safe (fs : FS) (l : Bytes) : Prop := ∃ p f, fs.get p = some f ∧ SurvivesIn f l

theorem safe_of_durS {fs : FS} {l : Bytes} (h : DurS fs l) : Safe fs l := by
  obtain ⟨p, f, hg, a, b, hab, hlen⟩ := h
  refine ⟨p, f, hg, a, b.take (f.durable - (a ++ l).length), ?_⟩
  rw [hab, List.take_append]
  have : (a ++ l).take f.durable = a ++ l := List.take_of_length_le hlen
  rw [this]

/-- **FIN implies durable.** In every reachable state every message that has been FINished has
`body ++ "\n"` inside the fsynced prefix of a named file (gzip: inside a closed member inside the
fsynced prefix). Infix statement; the stronger line-level statement and its status on the current tree
(false in plain append mode behind a torn tail: `fin_owns_line_full_false`) are in `Nsq.Props.C19Lines`. -/
theorem fin_implies_durable (c : Cfg) (io : Nat → Fault) (fs0 : FS) (evs : List (Ev × Bool)) :
    ∀ m ∈ (run c io (init fs0) evs).finished, Safe (run c io (init fs0) evs).fs (line m) :=
  fun m hm => safe_of_durS ((inv_run io evs _ (inv_init c fs0)).fin m hm)

/-- The same from any state satisfying the invariant (e.g. in the middle of a run). -/
theorem fin_implies_durable_from (c : Cfg) (io : Nat → Fault) (st : St) (h : Inv c st) (evs : List (Ev × Bool)) :
    ∀ m ∈ (run c io st evs).finished, Safe (run c io st evs).fs (line m) :=
  fun m hm => safe_of_durS ((inv_run io evs _ h).fin m hm)

/-- **Kill anywhere.** The fault schedule can stop the process (SIGKILL, or a failing call →
`os.Exit(1)`) before any system call and before any single `Finish` of any event. Once stopped,
nothing changes any more, and everything that was FINished before the stop is safe on disk.
(Un-FINished messages are still owed by nsqd: C01.) -/
theorem kill_anywhere (c : Cfg) (io : Nat → Fault) (fs0 : FS) (before after : List (Ev × Bool))
    (hstop : (run c io (init fs0) before).status ≠ .running) :
    run c io (init fs0) (before ++ after) = run c io (init fs0) before ∧
    ∀ m ∈ (run c io (init fs0) before).finished, Safe (run c io (init fs0) before).fs (line m) :=
  ⟨by rw [run_append]; exact run_stopped c io _ after hstop, fin_implies_durable c io fs0 before⟩

/-- **Rotation keeps pending messages.** `updateFile()` closes the old file durably (gzip close,
fsync) before the new file is opened: if the tool is still running after a rotation, every message
written so far and not yet FINished is already safe — so the FINs issued after the next `Sync()`
of the *new* file never acknowledge bytes that sit un-synced in the old one. -/
theorem rotation_keeps_pending (c : Cfg) (io : Nat → Fault) (st : St) (h : Inv c st) (now : Int) (fn : String)
    (hrun : (updateFile c io st now fn).status = .running) :
    ∀ m ∈ (updateFile c io st now fn).pending, Safe (updateFile c io st now fn).fs (line m) :=
  fun m hm => safe_of_durS ((inv_updateFile io st now fn h).2 hrun m hm)

/-- `Close()` alone (HUP, stop): same guarantee. -/
theorem close_keeps_pending (c : Cfg) (io : Nat → Fault) (st : St) (h : Inv c st)
    (hrun : (closeOut c io st).status = .running) :
    ∀ m ∈ (closeOut c io st).pending, Safe (closeOut c io st).fs (line m) :=
  fun m hm => safe_of_durS ((inv_closeOut io st h).2 hrun m hm)

/-- **No overwrite.** Whatever the directories contained before the tool started (`fs0`) is never
overwritten, truncated or re-pointed: every pre-existing file in the output dir (and, without a
separate work dir, every pre-existing file) still has its name, and its old bytes are a prefix of
its current bytes (`O_APPEND`); with `O_EXCL` (gzip or rotate-interval) *every* pre-existing file —
work dir included — is byte-identical. Holds along every run, for every fault schedule, also when
other processes create new files in between (`Ev.ext`). The statement is anchored at `fs0` only: files that
appear later (dropped by other processes, created and closed by the tool itself) are covered by the step-wise
version `Nsq.Props.C19Mono.no_overwrite_stepwise`; a pre-existing file in a *separate work dir* in append mode
is not covered by the first part (the tool may append to it and move it to the output dir): for those see
`Nsq.Props.C19Mono.files_grow_or_move` (same name or moved work → output, old bytes a prefix). -/
theorem no_overwrite (c : Cfg) (hwf : c.WF) (io : Nat → Fault) (fs0 : FS) (hdom : DomOk fs0)
    (evs : List (Ev × Bool)) (p : Path) (f0 : File) (hp : fs0.get p = some f0) :
    (p.out = true ∨ c.workDir = false →
      ∃ f, (run c io (init fs0) evs).fs.get p = some f ∧ (∃ x, f.data = f0.data ++ x) ∧ f0.durable ≤ f.durable) ∧
    (c.excl = true → (run c io (init fs0) evs).fs.get p = some f0) := by
  exact ⟨(Nsq.Proofs.ToFileTrack.tracked_run evs _ (wd_init c fs0)).2.keep hp,
    fun hx => (noOv_run hwf io evs _ (noOv_init c fs0 hdom)).excl hx p f0 hp⟩

/-- **The revision searches terminate.** The `for ; ; rev++` loops of `updateFile` and `Close` end:
with as many iterations as one more than the highest revision that ever existed, a free name is
found. (`Cfg.WF` is what `computeFilenameFormat` enforces: `<REV>` is present whenever a loop can
`continue`.) -/
theorem rev_terminates (c : Cfg) (hwf : c.WF) (fs : FS) (hdom : DomOk fs) (fn : String) (r : Nat) :
    search (taken c fs fn) (fuel fs) r ≠ none ∧
    (c.hasRev = true → search (takenDst c fs fn) (fuel fs) r ≠ none) :=
  ⟨search_terminates fs hdom _ r (fun i hi => taken_witness c hwf fs fn i hi),
   fun hrev => search_terminates fs hdom _ r (fun i hi => takenDst_witness c hrev fs fn i hi)⟩

/-- … so the model's `diverged` status (search fuel exhausted) is unreachable. -/
theorem never_diverges (c : Cfg) (hwf : c.WF) (io : Nat → Fault) (fs0 : FS) (hdom : DomOk fs0) (evs : List (Ev × Bool)) :
    (run c io (init fs0) evs).status ≠ .diverged :=
  (noOv_run hwf io evs _ (noOv_init c fs0 hdom)).nodiv

def cfgPlain : Cfg := ⟨false, 0, 0, false, false, 2, true, false, false, false, false⟩

/-! ### the tool as shipped (router behind go-nsq's `handlerLoop` with its `max_attempts` give-up) -/

/-- with any positive `max_attempts = k` the delivery with `attempts = k + 1` never reaches `HandleMessage`: started on the
empty directory the tool has FINished the message and there is no file -/
theorem toolStep_unsafe_with_giveup (k : Nat) (hk : 0 < k) :
    ¬ ∀ x ∈ (toolStep cfgPlain (fun _ => .ok) k (init FS.empty) ⟨1, [104]⟩ (k + 1) 0 "t" false).finished,
      Safe (toolStep cfgPlain (fun _ => .ok) k (init FS.empty) ⟨1, [104]⟩ (k + 1) 0 "t" false).fs (line x) := by
  intro h
  have hs : shouldFail k (k + 1) = true := by simp [shouldFail, hk]
  obtain ⟨p, f, hg, _⟩ := h ⟨1, [104]⟩ (by simp [toolStep, hs, init])
  simp [toolStep, hs, init, FS.empty] at hg

/-- full statement for the tool: whatever is finished is safe on disk -/
def tool_fin_implies_durable : Prop :=
  ∀ (c : Cfg) (io : Nat → Fault) (maxAttempts : Nat) (fs0 : FS) (m : Msg) (attempts : Nat) (now : Int) (fn : String),
    ∀ x ∈ (toolStep c io maxAttempts (init fs0) m attempts now fn false).finished,
      Safe (toolStep c io maxAttempts (init fs0) m attempts now fn false).fs (line x)

/-- … is **false on the current tree** (open finding): with go-nsq's default `max_attempts = 5` the sixth
delivery of a message is finished by the consumer library without ever reaching `HandleMessage` — if the
five earlier attempts ended before the write (the tool was killed or took `os.Exit(1)`, e.g. disk full,
while the message was in flight), the message is acknowledged and in no file. -/
theorem tool_fin_implies_durable_false : ¬ tool_fin_implies_durable :=
  fun h => toolStep_unsafe_with_giveup 5 (by decide) (h _ _ 5 FS.empty _ 6 0 "t")

/-- … and holds whenever the library does not give up (`max_attempts = 0`, or attempts ≤ max_attempts):
then the tool step *is* the router step. -/
theorem tool_fin_implies_durable_partial (c : Cfg) (io : Nat → Fault) (maxAttempts : Nat) (st : St) (hinv : Inv c st)
    (m : Msg) (attempts : Nat) (now : Int) (fn : String) (starved : Bool)
    (hno : shouldFail maxAttempts attempts = false) :
    ∀ x ∈ (toolStep c io maxAttempts st m attempts now fn starved).finished,
      Safe (toolStep c io maxAttempts st m attempts now fn starved).fs (line x) := by
  rw [toolStep_eq_step c io maxAttempts st m attempts now fn starved hno]
  exact fun x hx => safe_of_durS ((inv_step io st _ starved hinv).fin x hx)

/-- **Syscall leg.** The checker run over the `strace` log of the real process is sound: a trace it
accepts has an `fsync` of the file between every `write` to an output file and every later FIN. -/
theorem fin_after_fsync_checker_sound (tr pre mid post : List Nsq.Model.ToFileTrace.Sys) (f id : Nat)
    (h : Nsq.Model.ToFileTrace.checkTrace tr = true)
    (hs : tr = pre ++ .write f :: mid ++ .fin id :: post) : .fsync f ∈ mid := by
  subst hs
  rw [Nsq.Model.ToFileTrace.checkTrace, List.append_assoc] at h
  -- the scan reaches the write with some files dirty; the write adds `f`
  obtain ⟨d, hd⟩ := Nsq.Proofs.ToFileTrace.checkFrom_suffix [] pre _ h
  exact Nsq.Proofs.ToFileTrace.checkFrom_dirty (f :: d) mid post id hd f (List.mem_cons_self ..)

/-- **Syscall leg, end to end.** For the real binary (FIN commands are written to the socket by
go-nsq's write loop, asynchronously) the per-message checker is sound: in a trace it accepts, before
every `FIN id` the record of message `id` was written to a file and that file was fsynced after it. -/
theorem fin_after_fsync_msg_checker_sound (tr pre post : List Nsq.Model.ToFileTrace.MSys) (id : Nat)
    (h : Nsq.Model.ToFileTrace.checkMsgTrace tr = true) (hs : tr = pre ++ .fin id :: post) :
    ∃ a1 a2 a3 f, pre = a1 ++ .wmsg f id :: a2 ++ .fsync f :: a3 :=
  Nsq.Proofs.ToFileTrace.checkMsgTrace_sound tr pre post id h hs

/-! ### non-vacuity -/

def cfgGzWork : Cfg := ⟨true, 10, 0, true, false, 2, true, false, false, false, false⟩
def noFault : Nat → Fault := fun _ => .ok
def m1 : Msg := ⟨1, [104, 105]⟩
def m2 : Msg := ⟨2, [120]⟩
def evs2 : List (Ev × Bool) := [(.msg m1 100 "t<REV>.log", false), (.msg m2 200 "t<REV>.log", false), (.hup, false)]

/-- messages do get finished: two messages, max-in-flight 2 → both FINished (newest first) -/
example : ((run cfgPlain noFault (init FS.empty) evs2).finished.map (·.id)) = [2, 1] := by decide +kernel
example : ((run cfgGzWork noFault (init FS.empty) evs2).finished.map (·.id)) = [2, 1] := by decide +kernel
/-- the file really holds the bytes, durably -/
example : (run cfgPlain noFault (init FS.empty) evs2).fs.get ⟨true, "t<REV>.log", 0⟩ =
    some ⟨[104, 105, 10, 120, 10], [], 5⟩ := by decide +kernel
/-- gzip + work dir: the finished file was moved to the output dir -/
example : ((run cfgGzWork noFault (init FS.empty) evs2).fs.get ⟨true, "t<REV>.log", 0⟩).isSome = true
    ∧ ((run cfgGzWork noFault (init FS.empty) evs2).fs.get ⟨false, "t<REV>.log", 0⟩).isNone = true := by decide +kernel
def killAt (n : Nat) : Nat → Fault := fun k => if k = n then .kill else .ok
/-- a SIGKILL between the fsync and the first Finish: stopped, nothing finished, bytes are on disk -/
example : (run cfgPlain (killAt 4) (init FS.empty) evs2).status = .killed
    ∧ (run cfgPlain (killAt 4) (init FS.empty) evs2).finished = [] := by decide +kernel
def m3 : Msg := ⟨3, [121]⟩
def evs3 : List (Ev × Bool) :=
  [(.msg m1 100 "t<REV>.log", false), (.msg m2 200 "t<REV>.log", false), (.msg m3 300 "t<REV>.log", false), (.hup, false)]
/-- a SIGKILL between the two Finish calls of one batch: exactly one of the two is finished -/
example : ((run { cfgPlain with maxInFlight := 3 } (killAt 11) (init FS.empty) evs3).finished.map (·.id)) = [3, 1]
    ∧ (run { cfgPlain with maxInFlight := 3 } (killAt 11) (init FS.empty) evs3).status = .killed := by decide +kernel
/-- the invariant is not `True`: a state claiming a FIN for bytes that are nowhere is rejected -/
example : ¬ Inv cfgPlain { init FS.empty with finished := [m1] } := by
  intro h
  obtain ⟨p, f, hg, _⟩ := h.fin m1 (List.mem_cons_self ..)
  simp [init, FS.empty] at hg
/-- `Safe` is not `True` either: written-but-not-fsynced bytes are not safe -/
example : ¬ SurvivesIn ⟨[104, 105, 10], [], 0⟩ (line m1) := by
  intro ⟨a, b, h⟩
  have := congrArg List.length h
  simp [line, m1] at this

/-- pre-existing colliding file in the output dir, O_EXCL mode: untouched, the tool's data goes to rev 1 -/
def fsPre : FS := FS.empty.set ⟨true, "t<REV>.log", 0⟩ ⟨[1, 2, 3], [], 3⟩
example : DomOk fsPre := by
  intro p hp
  by_cases e : p = ⟨true, "t<REV>.log", 0⟩
  · subst e; simp [fsPre, FS.set]
  · simp [fsPre, FS.set, FS.empty, e] at hp
example : cfgGzWork.WF := Or.inl rfl
example : (run cfgGzWork noFault (init fsPre) evs2).fs.get ⟨true, "t<REV>.log", 0⟩ = some ⟨[1, 2, 3], [], 3⟩
    ∧ ((run cfgGzWork noFault (init fsPre) evs2).fs.get ⟨true, "t<REV>.log", 1⟩).isSome = true := by decide +kernel
/-- a file appearing in the output dir while the work file is open: `Close` bumps the revision -/
example : ((run cfgGzWork noFault (init FS.empty)
      [(.msg m1 100 "t<REV>.log", false), (.ext ⟨true, "t<REV>.log", 0⟩ [9], false), (.hup, false)]).fs.get
        ⟨true, "t<REV>.log", 1⟩).isSome = true := by decide +kernel

end Nsq.Props.C19
