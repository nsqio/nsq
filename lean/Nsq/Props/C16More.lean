import Nsq.Proofs.LookupMore
import Nsq.Props.C16Ticks
import Nsq.Tie.LookupSync
/-!
# C16 — refused commands, overlapping channel deletions, pre-creation, draining the notifications, removed peers

Models: `Nsq.Model.LookupMore` (two layers over the base model whose fixed shapes ARE the base model) and the
pre-creation part of `Nsq.Model.LookupSync` (`Lookupd`, `precreateG`).
-/
namespace Nsq.Props.C16More
open Nsq.Model.LookupSync Nsq.Proofs.LookupSync Nsq.Proofs.LookupMore Nsq.Proofs.LookupTicks Nsq.Props.C16

/-! ## a lookupd that answers a command with a framed `E_…` error -/

/-- the convergence clause when a `Command` may also be *refused* (`Outcome3.rejected`: every round trip worked, the
reply was `E_…`), for the tree with (`true`; /repo abf2660) / without (`false`) F36 — which one the checked
tree is, is computed from the regenerated facts: `Tie.LookupSync.treeF36` -/
def C16_converges_rejections (f36 : Bool) : Prop :=
  ∀ (steps : List StepR) (s : State), runR f36 State.init steps = some s → Quiescent s → InSync s

/-- With F36 a refused command is a failed command (`Command` closes the connection, the next one reconnects and
re-registers everything): EVERY schedule with refusals anywhere is a schedule of the base model, so `converges`
holds for it. -/
theorem converges_with_rejections : C16_converges_rejections true := by
  intro steps s hr hq
  rw [runR_fixed] at hr
  exact inSync_of_inv (inv_run inv_init hr) hq

/-- THIS tree: `Tie.LookupSync.command_shape` accepts only the shape with F36 and the facts decide
`treeF36 = true`; a tree that reverts F36 fails `tree_f36` and this theorem with it. -/
theorem converges_with_rejections_this_tree : C16_converges_rejections Nsq.Tie.LookupSync.treeF36 := by
  rw [Nsq.Tie.LookupSync.tree_f36]; exact converges_with_rejections

/-- with F36 a refusal on an established connection closes it (it is a *fault* in the sense of `C16Ticks`: the
tick-count theorems count from the last one) -/
theorem rejected_closes (objs dead : List Ref) (apply : List Key → List Key) (p : Peer) :
    commandR true objs dead apply p .rejected = { p with conn := .down, regs := [] } := by
  rw [commandR_fixed]; exact garbage_is_contained objs dead apply p

/-- the witness: the lookupd (connected, healthy before and after) refuses the one REGISTER of topic `t` -/
def rejectedRegister : List StepR := [.addPeer 0 .ok, .base (.createTopic "t"), .notify t0 [.rejected]]

/-- Without F36 (the tree before abf2660) the clause is false: the REGISTER is refused, `lp.state` stays connected, every later PING succeeds,
nothing ever repeats the REGISTER — nsqd is quiescent, the lookupd is connected and does not list `t`
(replayed on the real code: corpus/C16/fixed/register_rejected.ops). -/
theorem converges_false_without_F36 : ¬ C16_converges_rejections false := by
  intro h
  have hc : endsWith (runR false State.init rejectedRegister) [("t", "")] [] = true := by decide +kernel
  obtain ⟨s, hr, hq, hn⟩ := not_in_sync_of_endsWith hc ("t", "") (by simp)
  exact hn (h _ s hr hq)

-- with F36 the same schedule leaves the peer disconnected, and the next heartbeat reconnects and registers `t`
example : endsWith (runR true State.init (rejectedRegister ++ [.tick [.ok]])) [("t", "")] [("t", "")] = true := by decide +kernel
-- … and that is what THIS tree does (parameter computed from the facts)
example : endsWith (runR Nsq.Tie.LookupSync.treeF36 State.init (rejectedRegister ++ [.tick [.ok]])) [("t", "")] [("t", "")] = true := by
  rw [Nsq.Tie.LookupSync.tree_f36]; decide +kernel
-- any number of further good heartbeats do not help the tree without F36
example : endsWith (runR false State.init (rejectedRegister ++ [.tick [.ok], .tick [.ok], .tick [.ok]]))
    [("t", "")] [] = true := by decide +kernel

/-! ## overlapping deletions of one channel -/

/-- the convergence clause over schedules that also contain the deleter threads of `Topic.DeleteExistingChannel`
(`delStart` = lookup + `channel.Delete()`, `delFinish` = the unlink), for the tree with (`true`, /repo c687824) /
without (`false`) F22 -/
def C16_converges_deleters (f22 : Bool) : Prop :=
  ∀ (steps : List StepD) (d : DelState), runD f22 DelState.init steps = some d → Quiescent d.s → InSync d.s

/-- With F22 (the unlink removes the looked-up OBJECT or nothing) every step of a deleter thread is a step of the base
model or changes nothing, whatever the number of overlapping deleters: `converges` holds for every such schedule. -/
theorem converges_overlapping_deletions : C16_converges_deleters true := by
  intro steps d hr hq
  exact inSync_of_inv (runD_fixed_inv delsDead_init inv_init hr) hq

def c2 : Ref := ⟨"t", "c", 2⟩

/-- the witness: deleters D1 and D2 both look up channel `c` (object `c1`); D1 wins `Delete()`, D2 gets
"exiting"; D2 unlinks; `c` is created again (object `c2`, REGISTERed); D1 unlinks — by name: `c2` disappears from the
map without a notification. -/
def doubleDelete : List StepD :=
  [.base (.addPeer 0 .ok), .base (.createTopic "t"), .base (.notify t0 [.ok]), .base (.createChan "t" "c"),
   .base (.notify c1 [.ok]), .delStart c1, .delStart c1, .base (.notify c1 [.ok]), .delFinish c1,
   .base (.createChan "t" "c"), .base (.notify c2 [.ok]), .delFinish c1]

/-- Without F22 (unlink by NAME, /repo before c687824) the clause is false: nsqd ends quiescent WITHOUT channel `c`,
the connected, healthy lookupd lists `t/c` for ever (replayed on the real code with the hook
`chan.delete.beforeUnlink`: corpus/C16/fixed/double_delete_channel.ops). -/
theorem converges_false_without_F22 : ¬ C16_converges_deleters false := by
  intro h
  have hc : endsWith ((runD false DelState.init doubleDelete).map (·.s)) [("t", "")] [("t", "c"), ("t", "")] = true := by
    decide +kernel
  obtain ⟨s, hr, hq, hn⟩ := not_in_sync_of_endsWith hc ("t", "c") (by simp)
  obtain ⟨d, hd, rfl⟩ := Option.map_eq_some_iff.mp hr
  exact hn (h _ d hd hq)

-- with F22 the same schedule keeps `c2` and ends in sync
example : endsWith ((runD true DelState.init doubleDelete).map (·.s)) [("t", ""), ("t", "c")] [("t", "c"), ("t", "")] = true := by
  decide +kernel

/-! ## pre-creation -/

/-- `GetTopic` on a new topic creates, before `t.Start()` (tie `getTopic_precreate_before_start`), exactly the
channels that (1) are returned by a lookupd that nsqd ASKS — one whose IDENTIFY has succeeded at some time since the
peer was added (`lookupdHTTPAddrs()` needs the cached broadcast address; the state of the TCP connection now is
irrelevant) — and whose HTTP query succeeded, (2) are not `#ephemeral`, (3) are valid channel names (F35). The union
is over the lookupds that were asked and answered, whatever happened to the others (tie
`getTopic_loop_not_guarded_by_err`); nothing is invented. -/
theorem precreate_exact (ls : List Lookupd) (c : String) :
    c ∈ precreate ls ↔
      (∃ l ∈ ls, l.identified = true ∧ ∃ a, l.answer = some a ∧ c ∈ a) ∧ ephName c = false ∧ validName c = true := by
  simp [precreate, precreateG_exact]

/-- the same for the tree without F35: no name test -/
theorem precreate_exact_unfixed (ls : List Lookupd) (c : String) :
    c ∈ precreateG false ls ↔
      (∃ l ∈ ls, l.identified = true ∧ ∃ a, l.answer = some a ∧ c ∈ a) ∧ ephName c = false := by
  simp [precreateG_exact]

/-- The literal clause of the property — "every non-ephemeral channel its nsqlookupds already know" — for ALL configured
lookupds that answer over HTTP, identified or not. -/
def C16_precreate_full : Prop :=
  ∀ (ls : List Lookupd) (c : String), (∃ l ∈ ls, ∃ a, l.answer = some a ∧ c ∈ a) → ephName c = false →
    validName c = true → c ∈ precreate ls

/-- … is false: a lookupd whose IDENTIFY has not succeeded yet (nsqd just started, the peer was just
added, its TCP port is unreachable while its HTTP port answers) is not asked, so a channel only it knows is not
created and misses the topic's first messages (replayed: harness case `win3`). -/
theorem precreate_full_false : ¬ C16_precreate_full := by
  intro h
  have := h [⟨false, some ["c"]⟩] "c" ⟨_, List.mem_cons_self, _, rfl, List.mem_cons_self⟩ (by decide +kernel) (by decide +kernel)
  rw [precreate_exact] at this
  obtain ⟨⟨l, hl, hid, _⟩, _⟩ := this
  simp only [List.mem_singleton] at hl
  subst hl
  simp at hid

/-- the provable part, hypothesis spelled out: the lookupd that knows the channel has been IDENTIFIED -/
theorem precreate_partial (ls : List Lookupd) (c : String) (l : Lookupd) (a : List String) (hl : l ∈ ls)
    (hid : l.identified = true) (ha : l.answer = some a) (hc : c ∈ a) (he : ephName c = false)
    (hv : validName c = true) : c ∈ precreate ls :=
  (precreate_exact ls c).mpr ⟨⟨l, hl, hid, a, ha, hc⟩, he, hv⟩

/-- a failing or an unidentified lookupd never removes a channel from the result -/
theorem precreate_ignores_failures (ls : List Lookupd) (c : String) (pre post : List Lookupd)
    (hpre : ∀ l ∈ pre, l.answer = none ∨ l.identified = false)
    (hpost : ∀ l ∈ post, l.answer = none ∨ l.identified = false) :
    c ∈ precreate (pre ++ ls ++ post) ↔ c ∈ precreate ls := by
  simp only [precreate_exact]
  constructor
  · rintro ⟨⟨l, hl, hid, a, ha, hc⟩, he⟩
    refine ⟨⟨l, ?_, hid, a, ha, hc⟩, he⟩
    simp only [List.mem_append] at hl
    rcases hl with (h | h) | h
    · rcases hpre l h with h' | h'
      · rw [h'] at ha; simp at ha
      · rw [h'] at hid; simp at hid
    · exact h
    · rcases hpost l h with h' | h'
      · rw [h'] at ha; simp at ha
      · rw [h'] at hid; simp at hid
  · rintro ⟨⟨l, hl, hid, a, ha, hc⟩, he⟩
    exact ⟨⟨l, by simp [hl], hid, a, ha, hc⟩, he⟩

/-- when no asked lookupd answers nothing is pre-created (the topic starts empty, as the code logs) -/
theorem precreate_all_failed (ls : List Lookupd) (h : ∀ l ∈ ls, l.answer = none ∨ l.identified = false) :
    precreate ls = [] := by
  apply List.eq_nil_iff_forall_not_mem.mpr
  intro c hc
  obtain ⟨⟨l, hl, hid, a, ha, _⟩, _⟩ := (precreate_exact ls c).mp hc
  rcases h l hl with h' | h'
  · rw [h'] at ha; simp at ha
  · rw [h'] at hid; simp at hid

/-- No command injection, tree with F35 (/repo d2805fe): a pre-created channel name contains neither a newline nor a
blank, whatever the lookupds answered … -/
theorem precreate_names_have_no_separator (ls : List Lookupd) (c : String) (h : c ∈ precreate ls) :
    '\n' ∉ c.toList ∧ ' ' ∉ c.toList :=
  validName_no_sep c ((precreate_exact ls c).mp h).2.2

/-- … so the line nsqd later writes to every lookupd for it, `REGISTER topic channel\n`, is ONE command with exactly
two parameters (topic names are validated where topics are created: PUB / SUB / HTTP / metadata). -/
theorem register_line_is_one_command (t c : String) (ht : validName t = true) (hc : validName c = true) :
    (registerLine t c).count '\n' = 1 ∧ (registerLine t c).count ' ' = 2 := by
  obtain ⟨t1, t2⟩ := validName_no_sep t ht
  obtain ⟨c1, c2⟩ := validName_no_sep c hc
  have e1 := List.count_eq_zero.mpr t1
  have e2 := List.count_eq_zero.mpr t2
  have e3 := List.count_eq_zero.mpr c1
  have e4 := List.count_eq_zero.mpr c2
  simp only [registerLine, List.count_append, e1, e2, e3, e4]
  constructor <;> simp

/-- the injection clause for a tree: nothing a lookupd answers makes nsqd create a channel whose name has a newline -/
def C16_no_injection (f35 : Bool) : Prop :=
  ∀ (ls : List Lookupd) (c : String), c ∈ precreateG f35 ls → '\n' ∉ c.toList

theorem no_injection : C16_no_injection true :=
  fun ls c h => (precreate_names_have_no_separator ls c h).1

/-- THIS tree: the facts decide `Tie.LookupSync.treeF35 = true` (`getTopic_precreate_before_start` accepts
only the shape with the name test); a tree that reverts F35 fails `tree_f35` and this theorem with it. -/
theorem no_injection_this_tree : C16_no_injection Nsq.Tie.LookupSync.treeF35 := by
  rw [Nsq.Tie.LookupSync.tree_f35]; exact no_injection

/-- non-vacuity: on this tree's pre-creation a hostile name is dropped, a valid one kept -/
example : precreateG Nsq.Tie.LookupSync.treeF35 [⟨true, some ["x\nUNREGISTER other", "ok"]⟩] = ["ok"] := by
  rw [Nsq.Tie.LookupSync.tree_f35]; decide +kernel

/-- Without F35 (the tree before d2805fe) it is false: one lookupd answering `/channels` with the name `x⏎UNREGISTER other` makes nsqd create
that channel and announce it to EVERY lookupd as `REGISTER t x⏎UNREGISTER other⏎` — two commands (replayed on the real
code against the real nsqlookupd: harness case `bad1`, finding `precreate-unvalidated-channel-name`). -/
theorem no_injection_false_without_F35 : ¬ C16_no_injection false := by
  intro h
  have hm : "x\nUNREGISTER other" ∈ precreateG false [⟨true, some ["x\nUNREGISTER other"]⟩] :=
    (precreate_exact_unfixed _ _).mpr ⟨⟨_, List.mem_cons_self, rfl, _, rfl, List.mem_cons_self⟩, by decide +kernel⟩
  exact h _ _ hm (by decide +kernel)

example : (registerLine "t" "x\nUNREGISTER other").count '\n' = 2 := by decide +kernel
example : validName "x\nUNREGISTER other" = false ∧ validName "a b" = false ∧ validName "" = false ∧
    validName "ok.chan-1" = true ∧ validName "tmp#ephemeral" = true := by decide +kernel
example : "ok" ∈ precreate [⟨true, some ["x\nUNREGISTER other", "ok", "e#ephemeral", ""]⟩, ⟨false, some ["unid"]⟩] :=
  (precreate_exact _ _).mpr ⟨⟨_, List.mem_cons_self, rfl, _, rfl, by simp⟩, by decide +kernel, by decide +kernel⟩
example : "unid" ∉ precreate [⟨true, some ["ok"]⟩, ⟨false, some ["unid"]⟩] := by
  intro h
  obtain ⟨⟨l, hl, hid, a, ha, hc⟩, _⟩ := (precreate_exact _ _).mp h
  simp only [List.mem_cons, List.not_mem_nil, or_false] at hl
  rcases hl with rfl | rfl
  · simp at ha; subst ha; simp at hc
  · simp at hid

/-! ## how long until quiescent; removed peers -/

def isNotify : Step → Bool
  | .notify _ _ => true
  | _ => false

/-- only iterations of `lookupLoop` (no local churn, no reconfiguration) -/
def loopOnly : Step → Bool
  | .notify _ _ | .tick _ | .lookupdDrop _ => true
  | _ => false

/-- Every notification `lookupLoop` receives removes exactly one pending `Notify` goroutine, and nothing but local
churn adds one: over a schedule of `lookupLoop` iterations (and lookupd faults) the number of pending notifications
drops by the number of `notify` iterations. So `Quiescent`'s "no notification pending" is reached after exactly
`|bag|` notify iterations once churn has stopped — the hypothesis of `in_sync_within_two_ticks` is not open-ended. -/
theorem bag_drains (steps : List Step) : ∀ (s s' : State), run s steps = some s' → steps.all loopOnly = true →
    s'.bag.length + (steps.filter isNotify).length = s.bag.length ∧ s'.objs = s.objs ∧ s'.dead = s.dead := by
  induction steps with
  | nil => intro s s' h _; simp only [run, Option.some.injEq] at h; subst h; simp
  | cons st rest ih =>
    intro s s' h hall
    simp only [List.all_cons, Bool.and_eq_true] at hall
    obtain ⟨s1, h1, h⟩ := run_cons.mp h
    obtain ⟨e1, e2, e3⟩ := ih s1 s' h hall.2
    cases st with
    | notify r outs =>
      obtain ⟨hm, rfl⟩ := step_some h1
      have hl := List.length_erase_of_mem hm
      have hpos : 0 < s.bag.length := List.length_pos_of_mem hm
      simp only [List.filter_cons, isNotify, if_true, List.length_cons] at e1 ⊢
      exact ⟨by omega, e2, e3⟩
    | tick outs =>
      obtain rfl : s1 = _ := step_some h1
      simpa [List.filter_cons, isNotify] using ⟨e1, e2, e3⟩
    | lookupdDrop a =>
      obtain rfl : s1 = _ := step_some h1
      simpa [List.filter_cons, isNotify] using ⟨e1, e2, e3⟩
    | createTopic t => simp [loopOnly] at hall
    | createChan t c => simp [loopOnly] at hall
    | delBegin r => simp [loopOnly] at hall
    | delUnlink r => simp [loopOnly] at hall
    | addPeer a o => simp [loopOnly] at hall
    | removePeer a => simp [loopOnly] at hall

/-- The convergence clause with BOTH counts: after ANY history that leaves nothing half-deleted, `lookupLoop`
iterations that are fault-free for the lookupd at `a`, contain as many `notify` iterations as notifications were
pending and two heartbeat ticks leave that lookupd connected and listing exactly nsqd's topics and channels. -/
theorem in_sync_after_drain_and_two_ticks (a : Nat) (pre steps : List Step) (s0 s' : State)
    (h0 : run State.init pre = some s0) (hnd : ∀ r ∈ s0.objs, r ∉ s0.dead) (hr : run s0 steps = some s')
    (hloop : steps.all loopOnly = true) (hok : OkRun a s0 steps) (h2 : 2 ≤ ticks steps)
    (hn : (steps.filter isNotify).length = s0.bag.length) :
    ∀ p ∈ s'.peers, p.addr = a → p.conn = .up ∧ ∀ k, k ∈ p.regs ↔ ∃ r ∈ s'.objs, r.key = k := by
  obtain ⟨e1, e2, e3⟩ := bag_drains steps s0 s' hr hloop
  have hq : Quiescent s' := by
    refine ⟨List.eq_nil_of_length_eq_zero (by omega), ?_⟩
    rw [e2, e3]; exact hnd
  exact C16Ticks.in_sync_within_two_ticks a pre steps s0 s' h0 hr hok h2 hq

/-- a lookupd removed from the configuration has no peer entry any more: nothing is sent to it (its connection was
closed by `lp.Close()`; it drops the registrations of the closed connection — C14 `disconnect_immediate`) -/
theorem removed_peer_gone (s s' : State) (a : Nat) (h : step s (.removePeer a) = some s') :
    ∀ p ∈ s'.peers, p.addr ≠ a := by
  obtain rfl : s' = _ := step_some h
  intro p hp
  simp only [List.mem_filter, bne_iff_ne] at hp
  exact hp.2

example : ((run State.init [.addPeer 0 .ok, .addPeer 1 .ok, .removePeer 0]).map (fun s => s.peers.map (·.addr))) = some [1] := by
  decide +kernel
example : ((run State.init [.addPeer 0 .ok, .createTopic "t", .createChan "t" "c", .tick [.ok], .notify t0 [.ok],
    .notify c1 [.ok]]).map (fun s => s.bag.length)) = some 0 := by decide +kernel

example : (commandR true [] [] id ⟨0, .up, [("t", "")]⟩ .rejected).conn = .down ∧
    (commandR true [] [] id ⟨0, .up, [("t", "")]⟩ .rejected).regs = [] ∧
    (commandR false [] [] id ⟨0, .up, [("t", "")]⟩ .rejected).conn = .up := by decide +kernel
example : precreate [⟨true, none⟩, ⟨false, some ["x"]⟩] = [] :=
  precreate_all_failed _ (by intro l hl; simp at hl; rcases hl with rfl | rfl <;> simp)
example : "c" ∈ precreate ([⟨true, none⟩] ++ [⟨true, some ["c"]⟩] ++ [⟨false, some ["x"]⟩]) :=
  (precreate_ignores_failures [⟨true, some ["c"]⟩] "c" [⟨true, none⟩] [⟨false, some ["x"]⟩]
    (by intro l hl; simp at hl; subst hl; simp) (by intro l hl; simp at hl; subst hl; simp)).mpr
    (precreate_partial _ "c" ⟨true, some ["c"]⟩ ["c"] (by simp) rfl rfl (by simp) (by decide +kernel) (by decide +kernel))

/-- hypotheses of `in_sync_after_drain_and_two_ticks` on a concrete history: one notification pending, the lookupd restarted -/
def drainPre : List Step := [.addPeer 0 .ok, .createTopic "t", .lookupdDrop 0]
def drainSteps : List Step := [.notify t0 [.ok], .tick [.ok], .tick [.ok]]
example : drainSteps.all loopOnly = true ∧ ticks drainSteps = 2 ∧ (drainSteps.filter isNotify).length = 1 ∧
    ((run State.init drainPre).map (fun s => s.bag.length)) = some 1 := by decide +kernel
example : ((run State.init (drainPre ++ drainSteps)).map (fun s => (s.bag.length, s.peers.map (fun p => (p.conn == .up, p.regs))))) =
    some (0, [(true, [("t", "")])]) := by decide +kernel

end Nsq.Props.C16More
