import Nsq.Proofs.SafeAt
import Nsq.Props.C19
import Nsq.Gen.ToolsToFileFn
/-!
C19, the tool around the router: (a) the decision of finding `gives-up-after-max-attempts` — the tool-level
statement "whatever is FINished is safe on disk" holds **iff** the consumer library runs with `max_attempts = 0`;
the value the shipped `main()` runs with is regenerated from the source (`Nsq.Gen.ToolsToFileFn.toFileMaxAttempts`:
go-nsq's struct-tag default unless `main()` assigns `cfg.MaxAttempts` before the operator's `--consumer-opt`s);
(b) a work dir on another device than the output dir: the `link(2)` of the final move fails (EXDEV is not EEXIST),
the tool stops right there — nothing moved, nothing removed, nothing acknowledged that was not already safe;
(c) `Close()` after a successful move out of the work dir: whether it leaves a descriptor in `f.out` (fix F44).
-/
namespace Nsq.Props.C19Ops
open Nsq.Model.ToFile Nsq.Proofs.ToFile Nsq.Props.C19

/-- the tool-level safety statement for a consumer configured with `max_attempts = k` -/
def toolSafeAt (k : Nat) : Prop :=
  ∀ (c : Cfg) (io : Nat → Fault) (st : St), Inv c st →
    ∀ (m : Msg) (attempts : Nat) (now : Int) (fn : String) (starved : Bool),
      ∀ x ∈ (toolStep c io k st m attempts now fn starved).finished,
        Safe (toolStep c io k st m attempts now fn starved).fs (line x)

/-- with `max_attempts = 0` the library never gives up: the tool is exactly as safe as the router -/
theorem tool_safe_without_giveup : toolSafeAt 0 := by
  intro c io st hinv m attempts now fn starved
  exact tool_fin_implies_durable_partial c io 0 st hinv m attempts now fn starved (by simp [shouldFail])

/-- with any positive `max_attempts` it is refuted: delivery number `k+1` of a message that was never written
is FINished by the library -/
theorem tool_unsafe_with_giveup (k : Nat) (hk : 0 < k) : ¬ toolSafeAt k :=
  fun h => toolStep_unsafe_with_giveup k hk (h _ _ (init FS.empty) (inv_init _ _) _ (k + 1) 0 "t" false)

/-- **decision of the finding**: safe iff the library is configured never to give up -/
theorem tool_safe_iff (k : Nat) : toolSafeAt k ↔ k = 0 :=
  Nsq.Proofs.iff_zero_of tool_safe_without_giveup tool_unsafe_with_giveup k

/-- … instantiated with the value regenerated from the current `main()`: the shipped tool is safe iff
`main()` sets `cfg.MaxAttempts = 0` (fix F43); on a tree without the fix this is the open finding -/
theorem shipped_tool_safe_iff :
    toolSafeAt Nsq.Gen.ToolsToFileFn.toFileMaxAttempts ↔ Nsq.Gen.ToolsToFileFn.toFileMaxAttempts = 0 :=
  tool_safe_iff _

/-- **the shipped tool is safe** (fix F43 is in the tree: the regenerated default is 0): whatever the tool as built from
the current `main()` FINishes — with the operator passing no `max_attempts` option — is safe on disk. Fails to build on
a tree without the fix. -/
theorem shipped_tool_safe : toolSafeAt Nsq.Gen.ToolsToFileFn.toFileMaxAttempts :=
  shipped_tool_safe_iff.mpr (by decide)

/-- the operator's `--consumer-opt max_attempts,N` keeps the last word either way (it re-enables the give-up) -/
theorem operator_can_reenable_giveup (n : Nat) (hn : 0 < n) : ¬ toolSafeAt n := tool_unsafe_with_giveup n hn

/-- **cross-device work dir**: when the `link(2)` of the move out of the work dir fails (`io` says `err` at the
primitive the move starts with), `Close()` stops the tool (`os.Exit(1)`): the file system, the FIN log and the
pending batch are exactly as before the move — the finished file stays, complete and fsynced, in the work dir -/
theorem xdev_move_is_fail_stop (c : Cfg) (io : Nat → Fault) (st : St) (hrun : st.status = .running)
    (hfail : io st.tick = .err) :
    (moveOut c io st).status ≠ .running ∧ (moveOut c io st).fs.get = st.fs.get
      ∧ (moveOut c io st).finished = st.finished ∧ (moveOut c io st).pending = st.pending := by
  -- the link fails: the first primitive of `exclusiveRename` exits, the second sees a stopped process
  have hren : ∀ src dst, renameP io st src dst = { st with status := .fatalExit } := by
    intro src dst; simp [renameP, Nsq.Model.ToFile.guard, hrun, hfail]
  apply moveOut_elim (P := fun s => s.status ≠ .running ∧ s.fs.get = st.fs.get ∧ s.finished = st.finished ∧
    s.pending = st.pending)
  · intro _; exact ⟨by simp, rfl, rfl, rfl⟩
  · intro dst _ _; rw [hren]; exact ⟨by simp, rfl, rfl, rfl⟩
  · intro s hs; unfold clearOut; rw [if_pos hs.1]; exact hs

/-! ### `Close()` after a successful move out of the work dir (defect fixed by F44) -/

/-- full statement: whenever `Close()` returns with the tool still running, no descriptor is left in `f.out` -/
def close_leaves_no_descriptor (c : Cfg) : Prop :=
  ∀ (io : Nat → Fault) (st : St), (closeOut c io st).status = .running → (closeOut c io st).hasOut = false

/-- … holds for the tree with fix F44 (`closeClears = true`): every path of `Close()` that keeps running ends in
`f.out = nil` — also the successful work-dir → output-dir move -/
theorem close_leaves_no_descriptor_fixed (c : Cfg) (hcc : c.closeClears = true) : close_leaves_no_descriptor c := by
  intro io st
  apply closeOut_elim (P := fun s => s.status = .running → s.hasOut = false)
  · intro hho _; exact hho
  · intro hr h; exact absurd h hr
  · intro _ _; exact clearOut_closed _
  · intro _ _
    -- with F44 both paths of the move end in `clearOut`; a search out of fuel is not `running`
    unfold moveOut
    simp only [hcc, if_true]
    split
    · exact clearOut_closed _
    · split
      · intro h; simp at h
      · exact clearOut_closed _

/-- … and is **false for the tree before F44** (`closeClears = false`, work dir in use): after one message and a
SIGHUP the finished file has been moved, the tool is running, and `f.out` still holds the closed descriptor … -/
theorem close_leaves_no_descriptor_false : ¬ close_leaves_no_descriptor cfgGzWork := by
  intro h
  have := h (fun _ => .ok) (step cfgGzWork (fun _ => .ok) (init FS.empty) (.msg ⟨1, [104]⟩ 0 "t<REV>") false)
  revert this
  decide

/-- … so the next message hits it and the tool takes its `os.Exit(1)` (fail-stop: the message is not finished).
Each SIGHUP therefore costs a restart and one more attempt of the in-flight messages — together with the library's
`max_attempts` give-up (finding above) a realistic path to an acknowledged-but-unwritten message. -/
theorem hup_then_message_kills_tool_before_F26 :
    (run cfgGzWork (fun _ => .ok) (init FS.empty)
      [(.msg ⟨1, [104]⟩ 0 "t<REV>", false), (.hup, false), (.msg ⟨2, [105]⟩ 1 "t<REV>", false)]).status = .fatalExit
    ∧ (run cfgGzWork (fun _ => .ok) (init FS.empty)
      [(.msg ⟨1, [104]⟩ 0 "t<REV>", false), (.hup, false), (.msg ⟨2, [105]⟩ 1 "t<REV>", false)]).finished.map (·.id) = [1] := by
  decide

/-- with F44 the same history keeps the tool running and finishes both messages -/
theorem hup_then_message_survives_with_F26 :
    (run { cfgGzWork with closeClears := true } (fun _ => .ok) (init FS.empty)
      [(.msg ⟨1, [104]⟩ 0 "t<REV>", false), (.hup, false), (.msg ⟨2, [105]⟩ 1 "t<REV>", false)]).status = .running
    ∧ (run { cfgGzWork with closeClears := true } (fun _ => .ok) (init FS.empty)
      [(.msg ⟨1, [104]⟩ 0 "t<REV>", false), (.hup, false), (.msg ⟨2, [105]⟩ 1 "t<REV>", false)]).finished.map (·.id) = [2, 1] := by
  decide

/-! ### non-vacuity -/

example : close_leaves_no_descriptor { cfgGzWork with closeClears := true } := close_leaves_no_descriptor_fixed _ rfl
example : ¬ toolSafeAt 5 := tool_unsafe_with_giveup 5 (by decide)
example : (toolStep cfgPlain (fun _ => .ok) 5 (init FS.empty) ⟨1, [104]⟩ 6 0 "t" false).finished = [⟨1, [104]⟩] := by decide
example : ((toolStep cfgPlain (fun _ => .ok) 0 (init FS.empty) ⟨1, [104]⟩ 6 0 "t" false).fs.get ⟨true, "t", 0⟩).isSome = true := by
  decide
-- a running state whose next primitive is the failing link
example : (moveOut cfgGzWork (fun _ => .err) { init FS.empty with hasOut := true, outPath := ⟨false, "t<REV>", 0⟩ }).status
    = .fatalExit := by decide

end Nsq.Props.C19Ops
