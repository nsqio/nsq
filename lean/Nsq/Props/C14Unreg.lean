import Nsq.Proofs.RegistrySched
import Nsq.Proofs.RegistryDB
/-!
# C14 — UNREGISTER without a channel: several critical sections in the COMMITTED tree

`UNREGISTER topic` (no channel) is, also after F12, `FindRegistrations("channel", topic, "*")`, one `RemoveProducer` per
channel key found, then `RemoveProducerAndPrune(topic key)` — each takes the lock by itself (`Tie.Registry.unregister_shape`
pins exactly this call list). The history model treats it as one step (`unregisterDB`). Here:

* `unregisterTopic_sections_compose`: running alone, the section list computes `unregisterDB db p ⟨t, ""⟩`;
* `readers_blind_to_channel_remove`: a `RemoveProducer` on a CHANNEL key changes nothing `GET /lookup` or `GET /nodes` read
  from the registry (`lookupDB`, `nodesDB`: they read key sets, the producers of topic keys and of the `client` key);
* `unregisterTopic_reader_linearizable`: hence for EVERY schedule of the (one-section, F37) reader with these sections, what
  the reader has read is `rd db` or `rd (unregisterDB db p ⟨t, ""⟩)` — the intermediate states are not observable through
  `/lookup` and `/nodes` (they are through `/debug`, which lists the producers of channel keys), and the registry ends in
  `unregisterDB db p ⟨t, ""⟩`.

Writers overlapping with this handler are NOT covered (the general statement needs commutation of the other handler with
each `RemoveProducer`; no counter-example is known): `C14Sched` does not list this handler.
-/
namespace Nsq.Props.C14Unreg
open Nsq.Model.Registry Nsq.Model.Registry.AMap Nsq.Proofs.RegistryMap Nsq.Proofs.RegistryDB Nsq.Proofs.RegistrySched

/-- the critical sections of `UNREGISTER t` when section 1 (`FindRegistrations`) returned the channel keys `ks` -/
def unregisterTopicSecs (p : Nat) (t : Name) (ks : List Key) : List Section :=
  (fun db => db) :: (ks.map (fun k db => removeProducer db k p) ++
    [fun db => removeAndGC db (topicKey t) p (isEphemeral t)])

theorem runSecs_removes (p : Nat) (ks : List Key) (db : DB) :
    runSecs db (ks.map (fun k db => removeProducer db k p)) = removeProducerAll db ks p :=
  List.foldl_map

theorem unregisterTopic_sections_compose (db : DB) (p : Nat) (t : Name) :
    runSecs db (unregisterTopicSecs p t (findRegistrations db .channel t star)) = unregisterDB db p ⟨t, []⟩ := by
  simp only [unregisterTopicSecs]
  rw [runSecs_cons, runSecs_append, runSecs_removes]
  simp [runSecs, unregisterDB]

/-- ONE `RemoveProducer` on a channel key is invisible to `GET /lookup` (any topic) and `GET /nodes` -/
theorem readers_blind_to_channel_remove (db : DB) (k : Key) (p : Nat) (hk : k.cat = .channel) :
    (∀ t, lookupDB (removeProducer db k p) t = lookupDB db t) ∧ nodesDB (removeProducer db k p) = nodesDB db := by
  have hkt : ∀ t, k ≠ topicKey t := by intro t e; rw [e] at hk; simp [topicKey] at hk
  have hkc : k ≠ clientKey := by intro e; rw [e] at hk; simp [clientKey] at hk
  constructor
  · intro t
    simp only [lookupDB, findRegistrations_removeProducer, producersOf_removeProducer db k _ p (hkt t)]
  · simp only [nodesDB, nodeDB, producersOf_removeProducer db k _ p hkc]
    congr 1
    apply List.map_congr_left
    intro e _
    simp only [topicsOf_removeProducer db k p e.1 hk]
    congr 1
    apply List.map_congr_left
    intro t _
    rw [producersOf_removeProducer db k _ p (hkt t)]

theorem readers_blind_to_removes (p : Nat) (ks : List Key) (hks : ∀ k ∈ ks, k.cat = .channel) (db : DB) :
    (∀ t, lookupDB (removeProducerAll db ks p) t = lookupDB db t) ∧ nodesDB (removeProducerAll db ks p) = nodesDB db := by
  induction ks generalizing db with
  | nil => exact ⟨fun _ => rfl, rfl⟩
  | cons k ks ih =>
    have h1 := readers_blind_to_channel_remove db k p (hks k List.mem_cons_self)
    have h2 := ih (fun k' hk' => hks k' (List.mem_cons_of_mem _ hk')) (removeProducer db k p)
    exact ⟨fun t => (h2.1 t).trans (h1.1 t), h2.2.trans h1.2⟩

theorem channel_keys_found (db : DB) (t : Name) : ∀ k ∈ findRegistrations db .channel t star, k.cat = .channel :=
  fun k hk => cat_of_isMatch ((mem_findRegistrations db .channel t star k).mp hk).2

/-- A reader `rd` that is blind to channel removals, running as ONE critical section against the sections of `UNREGISTER t`:
it has read `rd db` or `rd (final)`; the registry ends in the sequential result. -/
theorem unregisterTopic_reader_linearizable {α : Type} (rd : DB → α) (db : DB) (p : Nat) (t : Name) (o : α)
    (hblind : ∀ (d : DB) (ks : List Key), (∀ k ∈ ks, k.cat = .channel) → rd (removeProducerAll d ks p) = rd d) :
    ∀ s ∈ interleave ((unregisterTopicSecs p t (findRegistrations db .channel t star)).map wsec) [rsec rd],
      runSecsO (db, o) s = (unregisterDB db p ⟨t, []⟩, rd db) ∨
      runSecsO (db, o) s = (unregisterDB db p ⟨t, []⟩, rd (unregisterDB db p ⟨t, []⟩)) := by
  intro s hs
  obtain ⟨j, hj, e⟩ := atomic_reader_sees_prefix _ rd db o s hs
  rw [unregisterTopic_sections_compose] at e
  rw [e]
  have hch := channel_keys_found db t
  generalize hks : findRegistrations db Cat.channel t star = ks at *
  simp only [unregisterTopicSecs, List.length_cons, List.length_append, List.length_map, List.length_nil] at hj
  -- the reader came after `j` sections: none, all of them (the final state), or else only the no-op and channel removals
  cases j with
  | zero => left; simp [runSecs]
  | succ j =>
    by_cases hlast : j = ks.length + 1
    · right
      have : (unregisterTopicSecs p t ks).take (j + 1) = unregisterTopicSecs p t ks := by
        apply List.take_of_length_le; simp [unregisterTopicSecs, hlast]
      rw [this, ← hks, unregisterTopic_sections_compose]
    · left
      have hjl : j ≤ ks.length := by omega
      have : (unregisterTopicSecs p t ks).take (j + 1) =
          (fun db => db) :: (ks.take j).map (fun k db => removeProducer db k p) := by
        simp only [unregisterTopicSecs, List.take_succ_cons, List.map_take]
        rw [List.take_append_of_le_length (by simpa using hjl)]
      rw [this, runSecs_cons, runSecs_removes, hblind db _ fun k hk => hch k (List.mem_of_mem_take hk)]

/-- `GET /lookup?topic=t'` (one critical section, F37) ‖ `UNREGISTER t` (several): linearizable on the registry part -/
theorem unregisterTopic_lookup_linearizable (db : DB) (p : Nat) (t t' : Name) :
    ∀ s ∈ interleave ((unregisterTopicSecs p t (findRegistrations db .channel t star)).map wsec)
        (lookupSecs true t'),
      runSecsO (db, LookupObs.init) s = (unregisterDB db p ⟨t, []⟩, lookupDB db t') ∨
      runSecsO (db, LookupObs.init) s = (unregisterDB db p ⟨t, []⟩, lookupDB (unregisterDB db p ⟨t, []⟩) t') := by
  intro s hs
  exact unregisterTopic_reader_linearizable (fun d => lookupDB d t') db p t LookupObs.init
    (fun d ks h => (readers_blind_to_removes p ks h d).1 t') s (by simpa [lookupSecs] using hs)

/-- `GET /nodes` ‖ `UNREGISTER t`: likewise -/
theorem unregisterTopic_nodes_linearizable (db : DB) (p : Nat) (t : Name) (ids : List Nat) :
    ∀ s ∈ interleave ((unregisterTopicSecs p t (findRegistrations db .channel t star)).map wsec)
        (nodesSecs true ids),
      runSecsO (db, NodesObs.init) s = (unregisterDB db p ⟨t, []⟩, nodesDB db) ∨
      runSecsO (db, NodesObs.init) s = (unregisterDB db p ⟨t, []⟩, nodesDB (unregisterDB db p ⟨t, []⟩)) := by
  intro s hs
  exact unregisterTopic_reader_linearizable nodesDB db p t NodesObs.init
    (fun d ks h => (readers_blind_to_removes p ks h d).2) s (by simpa [nodesSecs] using hs)

/-! ## non-vacuity -/

def tT : Name := [116]
def db0 : DB := [(clientKey, [(1, fresh)]), (chanKey tT [99], [(1, fresh), (2, fresh)]), (chanKey tT [100], [(1, fresh)]),
  (topicKey tT, [(1, fresh), (2, fresh)])]

/-- four sections (read, two removals, remove-and-prune), five schedules with the reader; the two answers differ; an
intermediate state differs from both ends (it is visible to `/debug`, not to `/lookup` / `/nodes`) -/
example : (unregisterTopicSecs 1 tT (findRegistrations db0 .channel tT star)).length = 4 ∧
    (interleave ((unregisterTopicSecs 1 tT (findRegistrations db0 .channel tT star)).map (wsec (α := LookupObs)))
      (lookupSecs true tT)).length = 5 := by decide +kernel
example : lookupDB db0 tT ≠ lookupDB (unregisterDB db0 1 ⟨tT, []⟩) tT ∧ nodesDB db0 ≠ nodesDB (unregisterDB db0 1 ⟨tT, []⟩) := by
  decide +kernel
example : runSecs db0 ((unregisterTopicSecs 1 tT (findRegistrations db0 .channel tT star)).take 2) ≠ db0 ∧
    runSecs db0 ((unregisterTopicSecs 1 tT (findRegistrations db0 .channel tT star)).take 2) ≠ unregisterDB db0 1 ⟨tT, []⟩ := by
  decide +kernel

end Nsq.Props.C14Unreg
