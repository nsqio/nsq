/-
Syscall-trace checker for nsq_to_file (syscall leg of C19): the trace of the real process (strace)
is reduced to `write f` / `fsync f` on output files and `fin id` markers; `checkTrace` accepts iff
at every FIN no written file is dirty. Soundness (`Nsq.Props.C19.fin_after_fsync_checker_sound`):
an accepted trace has, for every write before a FIN, an fsync of that file in between.
Core Lean only (linked into drv_e8).
-/
namespace Nsq.Model.ToFileTrace

inductive Sys
  | write (f : Nat)
  | fsync (f : Nat)
  | fin (id : Nat)
deriving DecidableEq, Repr

/-- `dirty` = files written since their last fsync -/
def checkFrom (dirty : List Nat) : List Sys → Bool
  | [] => true
  | .write f :: r => checkFrom (f :: dirty) r
  | .fsync f :: r => checkFrom (dirty.filter (fun g => g ≠ f)) r
  | .fin _ :: r => dirty.isEmpty && checkFrom dirty r

def checkTrace (tr : List Sys) : Bool := checkFrom [] tr

def parseTok (s : String) : Option Sys :=
  match s.splitOn ":" with
  | ["w", n] => n.toNat?.map Sys.write
  | ["s", n] => n.toNat?.map Sys.fsync
  | ["f", n] => n.toNat?.map Sys.fin
  | _ => none

def driverLine (ws : List String) : String :=
  match ws.mapM parseTok with
  | none => "bad-op"
  | some tr => if checkTrace tr then "ok" else "dirty-at-fin"

/-! ### per-message checker (end-to-end leg: FIN commands are written by another goroutine, later) -/

inductive MSys
  | wmsg (f id : Nat)      -- the record of message `id` was written to file `f`
  | fsync (f : Nat)
  | fin (id : Nat)         -- `FIN id` was written to the nsqd socket
deriving DecidableEq, Repr

/-- `dirty` = (file, message) pairs written and not yet fsynced; `clean` = messages with a durable copy -/
def checkMsgFrom (dirty : List (Nat × Nat)) (clean : List Nat) : List MSys → Bool
  | [] => true
  | .wmsg f id :: r => checkMsgFrom ((f, id) :: dirty) clean r
  | .fsync f :: r =>
    checkMsgFrom (dirty.filter (fun p => p.1 ≠ f)) (((dirty.filter (fun p => p.1 = f)).map (·.2)) ++ clean) r
  | .fin id :: r => clean.contains id && checkMsgFrom dirty clean r

def checkMsgTrace (tr : List MSys) : Bool := checkMsgFrom [] [] tr

def parseMTok (s : String) : Option MSys :=
  match s.splitOn ":" with
  | ["m", f, n] => match f.toNat?, n.toNat? with
    | some f, some n => some (MSys.wmsg f n)
    | _, _ => none
  | ["s", n] => n.toNat?.map MSys.fsync
  | ["f", n] => n.toNat?.map MSys.fin
  | _ => none

def driverLineM (ws : List String) : String :=
  match ws.mapM parseMTok with
  | none => "bad-op"
  | some tr => if checkMsgTrace tr then "ok" else "fin-before-fsync"

end Nsq.Model.ToFileTrace
