/-
C07: the byte formats a message passes through.

  nsqd/message.go                    Message.WriteTo / decodeMessage  (8B BE timestamp, 2B BE attempts, 16B id, body)
  internal/protocol/protocol.go      SendFramedResponse               (4B BE size = len+4, 4B BE frame type, data)
  go-nsq protocol.go                 ReadResponse / UnpackResponse    (client-side frame reader)
  nsqd/protocol_v2.go                readMPUB / readLen               (4B count, then 4B length + body each)
  nsqd/http.go                       doMPUB text mode                 (split on '\n', drop empty blocks)
  go-diskqueue                       record = 4B BE length + data
  nsqd/client_v2.go, protocol_v2.go  bufio.Writer stack: Send / Flush / SetOutputBuffer / Upgrade*
  nsqd/buffer_pool.go, topic.go      pooled encode buffers, per-channel copies

Bytes are `List UInt8`. Core Lean only (linked into the driver).
-/
namespace Nsq.Model.Wire

abbrev Bytes := List UInt8

/-- big-endian rendering of `v` on `w` bytes (`binary.BigEndian.PutUintNN`; high bits dropped) -/
def beBytes : Nat → Nat → Bytes
  | 0, _ => []
  | w + 1, v => beBytes w (v / 256) ++ [(v % 256).toUInt8]

/-- big-endian value of a byte string (`binary.BigEndian.UintNN`) -/
def beVal (b : Bytes) : Nat := b.foldl (fun acc x => acc * 256 + x.toNat) 0

/-! ### message envelope -/

structure Msg where
  ts : BitVec 64        -- Timestamp int64
  attempts : BitVec 16  -- Attempts uint16
  id : Bytes            -- MessageID [16]byte
  body : Bytes
deriving DecidableEq, Repr

/-- `Message.WriteTo` -/
def encode (m : Msg) : Bytes :=
  beBytes 8 m.ts.toNat ++ beBytes 2 m.attempts.toNat ++ m.id ++ m.body

/-- `decodeMessage`: `none` = "invalid message buffer size" -/
def decode (b : Bytes) : Option Msg :=
  if b.length < 26 then none
  else some { ts := BitVec.ofNat 64 (beVal (b.take 8)),
              attempts := BitVec.ofNat 16 (beVal ((b.drop 8).take 2)),
              id := (b.drop 10).take 16,
              body := b.drop 26 }

/-! ### length-prefixed records (frames, MPUB bodies, diskqueue records) -/

/-- 4-byte big-endian length prefix + data -/
def lp (d : Bytes) : Bytes := beBytes 4 d.length ++ d

/-- the 4-byte prefix as Go reads it into an `int32` -/
def int32Of (n : Nat) : Int := if n < 2147483648 then (n : Int) else (n : Int) - 4294967296

structure Frame where
  ftype : BitVec 32
  data : Bytes
deriving DecidableEq, Repr

/-- `SendFramedResponse(w, frameType, data)`: `size := uint32(len(data)) + 4` -/
def encodeFrame (f : Frame) : Bytes :=
  beBytes 4 (f.data.length + 4) ++ beBytes 4 f.ftype.toNat ++ f.data

/-- client side: `ReadResponse` (int32 size, negative → error, `ReadFull`) then `UnpackResponse`
(fewer than 4 bytes → error). Returns the frame and the rest of the stream. -/
def readFrame (s : Bytes) : Option (Frame × Bytes) :=
  if s.length < 4 then none
  else if int32Of (beVal (s.take 4)) < 0 then none
  else if (s.drop 4).length < beVal (s.take 4) then none
  else if beVal (s.take 4) < 4 then none
  else some ({ ftype := BitVec.ofNat 32 (beVal ((s.drop 4).take 4)),
               data := (s.drop 8).take (beVal (s.take 4) - 4) },
             s.drop (4 + beVal (s.take 4)))

theorem readFrame_shorter {s r : Bytes} {f : Frame} (h : readFrame s = some (f, r)) :
    r.length < s.length := by
  revert h
  fun_cases readFrame s
  case case5 h4 _ _ _ =>
    intro h
    cases h
    rw [List.length_drop]
    omega
  all_goals exact nofun

/-- the client's read loop over a whole stream: all frames, or `none` on a framing error /
truncated stream -/
def parseFrames (s : Bytes) : Option (List Frame) :=
  if s.isEmpty then some []
  else match h : readFrame s with
    | none => none
    | some (f, r) => (parseFrames r).map (f :: ·)
termination_by s.length
decreasing_by exact readFrame_shorter h

/-! ### MPUB -/

inductive MpubErr
  | badBody      -- E_BAD_BODY: count unreadable / out of range
  | badMessage   -- E_BAD_MESSAGE: a body size unreadable / ≤ 0 / too big, or body truncated
deriving DecidableEq, Repr

/-- `readLen`: 4 bytes → int32 -/
def readLen (s : Bytes) : Option (Int × Bytes) :=
  if s.length < 4 then none else some (int32Of (beVal (s.take 4)), s.drop 4)

/-- the loop of `readMPUB` with `k` messages still to read -/
def mpubLoop (maxMsg : Int) : Nat → Bytes → List Bytes → Except MpubErr (List Bytes × Bytes)
  | 0, s, acc => .ok (acc, s)
  | k + 1, s, acc =>
    match readLen s with
    | none => .error .badMessage
    | some (sz, r) =>
      if sz ≤ 0 then .error .badMessage
      else if sz > maxMsg then .error .badMessage
      else if r.length < sz.toNat then .error .badMessage
      else mpubLoop maxMsg k (r.drop sz.toNat) (acc ++ [r.take sz.toNat])

/-- `readMPUB(r, tmp, topic, maxMessageSize, maxBodySize)`: bodies (in order) and the unread rest -/
def readMPUB (s : Bytes) (maxMsg maxBody : Int) : Except MpubErr (List Bytes × Bytes) :=
  match readLen s with
  | none => .error .badBody
  | some (n, r) =>
    if n ≤ 0 || n > (maxBody - 4).tdiv 5 then .error .badBody
    else mpubLoop maxMsg n.toNat r []

/-- what a client sends as the MPUB body (after the 4-byte total size) -/
def mpubBody (bs : List Bytes) : Bytes := beBytes 4 bs.length ++ (bs.map lp).flatten

/-- MPUB as a whole on a topic queue: the batch is enqueued only after a complete parse -/
def mpubCmd (q : List Bytes) (s : Bytes) (maxMsg maxBody : Int) : List Bytes × Option MpubErr :=
  match readMPUB s maxMsg maxBody with
  | .ok (bs, _) => (q ++ bs, none)
  | .error e => (q, some e)

/-! ### text /mpub -/

/-- `bufio.Reader.ReadBytes('\n')`: the block up to and including the first newline (or all that
is left), the rest, and whether EOF was hit -/
def readBlock : Bytes → Bytes × Bytes × Bool
  | [] => ([], [], true)
  | c :: s =>
    if c = 10 then ([c], s, false)
    else ((c :: (readBlock s).1), (readBlock s).2.1, (readBlock s).2.2)

theorem readBlock_rest_lt (s : Bytes) (h : (readBlock s).2.2 = false) :
    (readBlock s).2.1.length < s.length := by
  induction s with
  | nil => simp [readBlock] at h
  | cons c s ih =>
    unfold readBlock at h ⊢
    by_cases hc : c = 10
    · simp [hc]
    · simp [hc] at h ⊢
      have := ih h
      omega

inductive TextErr
  | bodyTooBig | msgTooBig
deriving DecidableEq, Repr

/-- strip one trailing '\n' -/
def stripNL (b : Bytes) : Bytes :=
  if b.getLast? = some 10 then b.dropLast else b

/-- the text-mode loop of `doMPUB` over the bytes the limit reader yields -/
def textLoop (maxMsg readMax : Nat) (s : Bytes) (total : Nat) (acc : List Bytes) :
    Except TextErr (List Bytes) :=
  if total + (readBlock s).1.length = readMax then .error .bodyTooBig
  else if (stripNL (readBlock s).1).isEmpty then
    (if h : (readBlock s).2.2 = true then .ok acc
     else textLoop maxMsg readMax (readBlock s).2.1 (total + (readBlock s).1.length) acc)
  else if (stripNL (readBlock s).1).length > maxMsg then .error .msgTooBig
  else
    (if h : (readBlock s).2.2 = true then .ok (acc ++ [stripNL (readBlock s).1])
     else textLoop maxMsg readMax (readBlock s).2.1 (total + (readBlock s).1.length)
            (acc ++ [stripNL (readBlock s).1]))
termination_by s.length
decreasing_by
  all_goals exact readBlock_rest_lt s (by simpa using h)

/-- text `/mpub`: `io.LimitReader(body, MaxBodySize+1)` then the loop -/
def textMpub (body : Bytes) (maxMsg maxBody : Nat) : Except TextErr (List Bytes) :=
  textLoop maxMsg (maxBody + 1) (body.take (maxBody + 1)) 0 []

/-- `doMPUB` text mode as seen over HTTP: with a known `Content-Length` the header is checked
first (`req.ContentLength > MaxBodySize` → 413 BODY_TOO_BIG) -/
def textMpubHttp (contentLengthKnown : Bool) (body : Bytes) (maxMsg maxBody : Nat) :
    Except TextErr (List Bytes) :=
  if contentLengthKnown && body.length > maxBody then .error .bodyTooBig
  else textMpub body maxMsg maxBody

/-- reference splitter: the pieces between newlines (like `bytes.Split(body, "\n")`) -/
def splitNL : Bytes → List Bytes
  | [] => [[]]
  | c :: s =>
    if c = 10 then [] :: splitNL s
    else match splitNL s with
      | [] => [[c]]
      | hd :: tl => (c :: hd) :: tl

/-! ### HTTP /pub body -/

inductive PubErr
  | tooBig | empty
deriving DecidableEq, Repr

/-- `doPUB`: `req.ContentLength > MaxMsgSize` → 413; `io.ReadAll(io.LimitReader(req.Body, MaxMsgSize+1))`;
`len(body) == MaxMsgSize+1` → 413 MSG_TOO_BIG; `len(body) == 0` → 400 MSG_EMPTY; else the body published -/
def httpPub (contentLengthKnown : Bool) (body : Bytes) (maxMsg : Nat) : Except PubErr Bytes :=
  if contentLengthKnown && body.length > maxMsg then .error .tooBig
  else if (body.take (maxMsg + 1)).length = maxMsg + 1 then .error .tooBig
  else if (body.take (maxMsg + 1)).isEmpty then .error .empty
  else .ok (body.take (maxMsg + 1))

/-! ### diskqueue records -/

/-- go-diskqueue `writeOne`: 4-byte length + data (assumed behaviour of the library) -/
def dqRecord (d : Bytes) : Bytes := lp d

/-- go-diskqueue `readOne` over a file image: `none` on a short / corrupt record -/
def dqRead (minSz maxSz : Nat) (s : Bytes) : Option (Bytes × Bytes) :=
  if s.length < 4 then none
  else if int32Of (beVal (s.take 4)) < minSz ∨ int32Of (beVal (s.take 4)) > maxSz then none
  else if (s.drop 4).length < beVal (s.take 4) then none
  else some ((s.drop 4).take (beVal (s.take 4)), s.drop (4 + beVal (s.take 4)))

/-! ### output writer stack -/

/-- one `bufio.Writer` of capacity `cap` over an underlying writer; `sink` is everything handed to
the underlying writer so far -/
structure BufW where
  cap : Nat
  buf : Bytes := []
  sink : Bytes := []
deriving DecidableEq, Repr

/-- `bufio.Writer.Write(p)`:
`for len(p) > Available() { if Buffered() == 0 { wr.Write(p) /* all of it */ } else { fill; Flush() } }; copy the rest`.
`fuel` bounds the loop (two rounds always suffice; see `Proofs.Wire.bufWrite_eq`). -/
def bufWriteLoop : Nat → BufW → Bytes → BufW
  | 0, w, p => { w with buf := w.buf ++ p }
  | fuel + 1, w, p =>
    if p.length > w.cap - w.buf.length then
      if w.buf.isEmpty then { w with sink := w.sink ++ p }       -- large write, empty buffer: direct
      else bufWriteLoop fuel { w with sink := w.sink ++ w.buf ++ p.take (w.cap - w.buf.length), buf := [] }
                        (p.drop (w.cap - w.buf.length))
    else { w with buf := w.buf ++ p }

def bufWrite (w : BufW) (p : Bytes) : BufW := bufWriteLoop 2 w p

/-- `bufio.Writer.Flush()` -/
def bufFlush (w : BufW) : BufW := { w with sink := w.sink ++ w.buf, buf := [] }

/-- the server side of one connection. `layers` lists, oldest first, the plaintext handed to each
successive transport stack (plain TCP, then TLS, then TLS+compression, …): a new entry starts
whenever the writer is re-created on a new underlying transport. `w.sink` is the plaintext
handed to the current stack. -/
structure Conn where
  w : BufW
  closedLayers : List Bytes := []
  subscribed : Bool := false
  sent : List Frame := []          -- every frame passed to `Send`, in order (ghost)
deriving Repr

inductive ConnOp
  | sendResponse (f : Frame)        -- `Send` with a frame type ≠ message: write + `Flush`
  | sendMessage (f : Frame)         -- `Send` with frameTypeMessage: write only
  | flush                           -- `client.Flush()` (ticker / flusher)
  | setOutputBuffer (size : Nat)    -- IDENTIFY output_buffer_size ≠ 0: `Flush`, then a new writer on the same stack
  | upgrade (size : Nat)            -- UpgradeTLS / UpgradeSnappy / UpgradeDeflate: a new writer on a NEW stack (no flush)
  | subscribe                       -- SUB accepted: state leaves `init`
deriving Repr

def frameBytes (f : Frame) : Bytes := encodeFrame f

/-- `SendFramedResponse` = three `Write`s -/
def writeFrame (w : BufW) (f : Frame) : BufW :=
  bufWrite (bufWrite (bufWrite w (beBytes 4 (f.data.length + 4))) (beBytes 4 f.ftype.toNat)) f.data

/-- One protocol action. IDENTIFY (hence `setOutputBuffer`/`upgrade`) is only accepted in state
`init`, message frames are only sent to subscribed clients: outside these the op is refused
(no effect), exactly as `protocolV2.IDENTIFY` / `messagePump` do. -/
def connStep (c : Conn) : ConnOp → Conn
  | .sendResponse f => { c with w := bufFlush (writeFrame c.w f), sent := c.sent ++ [f] }
  | .sendMessage f =>
    if c.subscribed then { c with w := writeFrame c.w f, sent := c.sent ++ [f] } else c
  | .flush => { c with w := bufFlush c.w }
  | .setOutputBuffer size =>
    if c.subscribed then c
    else { c with w := { cap := size, buf := [], sink := (bufFlush c.w).sink } }
  | .upgrade size =>
    if c.subscribed then c
    else { c with w := { cap := size, buf := [], sink := [] },
                  closedLayers := c.closedLayers ++ [c.w.sink] }
  | .subscribe => { c with subscribed := true }

def connRun (c : Conn) (ops : List ConnOp) : Conn := ops.foldl connStep c

/-- all plaintext handed to the transports, in order, plus what still sits in the buffer -/
def Conn.stream (c : Conn) : Bytes := c.closedLayers.flatten ++ c.w.sink ++ c.w.buf

/-! ### pooled encode buffers and per-channel copies -/

/-- `SendMessage` / `writeMessageToBackend` with a pooled `bytes.Buffer` whose current content
is `buf`: what is handed on, and the content of the buffer when it is returned to the pool
(`bufferPoolPut` resets it). -/
def withPooledBuffer (buf : Bytes) (m : Msg) : Bytes × Bytes := (buf ++ encode m, [])

/-- a pool is a bag of buffers; `get` takes any of them or a fresh empty one -/
def poolRun : List Bytes → List (Nat × Msg) → List Bytes × List Bytes
  | pool, [] => (pool, [])
  | pool, (k, m) :: rest =>
    let buf := match pool[k]? with            -- a fresh `bytes.Buffer` is empty
      | some b => b
      | none => []
    let r := withPooledBuffer buf m
    let out := poolRun (r.2 :: pool.eraseIdx k) rest
    (out.1, r.1 :: out.2)

/-- `Topic.messagePump`: the message given to channel `i` (`i = 0`: the message itself;
`i > 0`: `NewMessage(msg.ID, msg.Body)` + `Timestamp`) -/
def fanout (m : Msg) (n : Nat) : List Msg :=
  (List.range n).map fun i => if i = 0 then m else { ts := m.ts, attempts := 0, id := m.id, body := m.body }

end Nsq.Model.Wire
