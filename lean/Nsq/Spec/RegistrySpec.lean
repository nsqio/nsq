import Nsq.Model.Registry
/-!
# RegistrySpec — the plain registry the property C14 speaks of

Sets (as predicates) and one-line answer definitions; no lists, no map shapes, no pointers.

* `knownTopic t`, `knownChan t c` — the topic / channel exists in the registry (created by an
  admin call or by a registration);
* `topicReg p t`, `chanReg p t c` — connection `p` has registered the topic / the channel;
* `tomb p t τ` — `p` was tombstoned for topic `t` at time `τ`;
* `live p` — `p` is a connected, identified nsqd; `peer p` — its last ping time and identity.

`abs : Registry → Spec` (appendix A.2 of DESIGN.md) reads these sets off the implementation-
shaped state. `Nsq.Proofs.RegistryRefine` proves that every operation commutes with `abs` and
that every query answer of the model is the spec answer.
-/
namespace Nsq.Spec.RegistrySpec
open Nsq.Model.Registry Nsq.Model.Registry.AMap

structure Spec where
  knownTopic : Name → Prop
  knownChan : Name → Name → Prop
  topicReg : Nat → Name → Prop
  chanReg : Nat → Name → Name → Prop
  tomb : Nat → Name → Int → Prop
  live : Nat → Prop
  peer : Nat → Option PeerRec

theorem Spec.ext' {a b : Spec} (h1 : a.knownTopic = b.knownTopic) (h2 : a.knownChan = b.knownChan)
    (h3 : a.topicReg = b.topicReg) (h4 : a.chanReg = b.chanReg) (h5 : a.tomb = b.tomb)
    (h6 : a.live = b.live) (h7 : a.peer = b.peer) : a = b := by
  cases a; cases b; simp_all

theorem Spec.ext_pointwise {a b : Spec} (h1 : ∀ t, a.knownTopic t ↔ b.knownTopic t)
    (h2 : ∀ t c, a.knownChan t c ↔ b.knownChan t c) (h3 : ∀ p t, a.topicReg p t ↔ b.topicReg p t)
    (h4 : ∀ p t c, a.chanReg p t c ↔ b.chanReg p t c) (h5 : ∀ p t τ, a.tomb p t τ ↔ b.tomb p t τ)
    (h6 : ∀ p, a.live p ↔ b.live p) (h7 : ∀ p, a.peer p = b.peer p) : a = b :=
  Spec.ext' (funext fun t => propext (h1 t)) (funext fun t => funext fun c => propext (h2 t c))
    (funext fun p => funext fun t => propext (h3 p t)) (funext fun p => funext fun t => funext fun c => propext (h4 p t c))
    (funext fun p => funext fun t => funext fun τ => propext (h5 p t τ)) (funext fun p => propext (h6 p)) (funext h7)

def Spec.init : Spec :=
  ⟨fun _ => False, fun _ _ => False, fun _ _ => False, fun _ _ _ => False, fun _ _ _ => False,
   fun _ => False, fun _ => none⟩

/-! ## Answers -/

/-- `p` pinged recently enough at `now` -/
def Spec.recent (s : Spec) (c : Conf) (now : Int) (p : Nat) : Prop :=
  ∃ pr, s.peer p = some pr ∧ now - pr.lastUpdate ≤ c.inactive

/-- the tombstone of `p` for `t` is still in force at `now` -/
def Spec.tombActive (s : Spec) (c : Conf) (now : Int) (p : Nat) (t : Name) : Prop :=
  ∃ τ, s.tomb p t τ ∧ now - τ < c.tombLife

/-- `/topics` -/
def Spec.topics (s : Spec) : Name → Prop := s.knownTopic
/-- `/channels?topic=t` -/
def Spec.channels (s : Spec) (t : Name) : Name → Prop := s.knownChan t
/-- `/lookup?topic=t` is 404 unless the topic is known -/
def Spec.lookupFound (s : Spec) (t : Name) : Prop := s.knownTopic t
/-- `/lookup?topic=t`: a topic's producers are the connected, recently-pinged nsqds that
registered it and are not tombstoned for it. -/
def Spec.producers (s : Spec) (c : Conf) (t : Name) (now : Int) (p : Nat) : Prop :=
  s.topicReg p t ∧ s.live p ∧ s.recent c now p ∧ ¬ s.tombActive c now p t
/-- `/nodes`: the connected, recently-pinged nsqds (tombstones do not hide a node) … -/
def Spec.nodes (s : Spec) (c : Conf) (now : Int) (p : Nat) : Prop := s.live p ∧ s.recent c now p
/-- … each with the topics it registered and, per topic, whether its tombstone is in force -/
def Spec.nodeTopic (s : Spec) (p : Nat) (t : Name) : Prop := s.topicReg p t

/-! ## Steps -/

def Spec.identified (s : Spec) (p : Nat) : Bool := (s.peer p).isSome

/-- the connection ends: at once gone from every set -/
def Spec.disconnect (s : Spec) (p : Nat) : Spec :=
  if s.identified p then
    { knownTopic := s.knownTopic
      knownChan := s.knownChan
      topicReg := fun q t => s.topicReg q t ∧ q ≠ p
      chanReg := fun q t c => s.chanReg q t c ∧ q ≠ p
      tomb := fun q t τ => s.tomb q t τ ∧ q ≠ p
      live := fun q => s.live q ∧ q ≠ p
      peer := fun q => if q = p then none else s.peer q }
  else s

def Spec.identify (s : Spec) (p : Nat) (info : Info) (now : Int) : Spec :=
  if s.identified p then s.disconnect p
  else if missingFields info then s
  else { s with live := fun q => q = p ∨ s.live q
                peer := fun q => if q = p then some ⟨now, info⟩ else s.peer q }

def Spec.registerTC (s : Spec) (p : Nat) (tc : TopicChan) : Spec :=
  { s with knownTopic := fun t => t = tc.topic ∨ s.knownTopic t
           knownChan := fun t c => (tc.chan ≠ [] ∧ t = tc.topic ∧ c = tc.chan) ∨ s.knownChan t c
           topicReg := fun q t => (q = p ∧ t = tc.topic) ∨ s.topicReg q t
           chanReg := fun q t c => (tc.chan ≠ [] ∧ q = p ∧ t = tc.topic ∧ c = tc.chan) ∨ s.chanReg q t c }

def Spec.register (s : Spec) (p : Nat) (params : List Name) : Spec :=
  if !s.identified p then s
  else
    match getTopicChan "REGISTER" params with
    | .error _ => s.disconnect p
    | .ok tc => s.registerTC p tc

/-- UNREGISTER topic channel: `p` leaves the channel; an `#ephemeral` channel nobody is
registered for any more disappears. -/
def Spec.unregisterChan (s : Spec) (p : Nat) (t c : Name) : Spec :=
  { s with chanReg := fun q t' c' => s.chanReg q t' c' ∧ ¬ (q = p ∧ t' = t ∧ c' = c)
           knownChan := fun t' c' => s.knownChan t' c' ∧
             ¬ (t' = t ∧ c' = c ∧ isEphemeral c = true ∧ ∀ q, s.chanReg q t c → q = p) }

/-- UNREGISTER topic: `p` leaves the topic and all its channels; the tombstone goes with the
registration; an `#ephemeral` topic nobody is registered for any more disappears. -/
def Spec.unregisterTopic (s : Spec) (p : Nat) (t : Name) : Spec :=
  { s with chanReg := fun q t' c' => s.chanReg q t' c' ∧ ¬ (q = p ∧ t' = t)
           topicReg := fun q t' => s.topicReg q t' ∧ ¬ (q = p ∧ t' = t)
           tomb := fun q t' τ => s.tomb q t' τ ∧ ¬ (q = p ∧ t' = t)
           knownTopic := fun t' => s.knownTopic t' ∧
             ¬ (t' = t ∧ isEphemeral t = true ∧ ∀ q, s.topicReg q t → q = p) }

def Spec.unregister (s : Spec) (p : Nat) (params : List Name) : Spec :=
  if !s.identified p then s
  else
    match getTopicChan "UNREGISTER" params with
    | .error _ => s.disconnect p
    | .ok tc => if tc.chan ≠ [] then s.unregisterChan p tc.topic tc.chan else s.unregisterTopic p tc.topic

def Spec.ping (s : Spec) (p : Nat) (now : Int) : Spec :=
  { s with peer := fun q => if q = p then (s.peer p).map (fun pr => { pr with lastUpdate := now })
                            else s.peer q }

def Spec.createTopic (s : Spec) (a : HttpArgs) : Spec :=
  if a.badQuery then s
  else
    match a.topic with
    | none => s
    | some t => if !validName t then s else { s with knownTopic := fun t' => t' = t ∨ s.knownTopic t' }

/-- the topic argument of `/topic/delete` is not validated: `*` names every topic -/
def tmatch (pat t : Name) : Prop := pat = star ∨ t = pat

def Spec.deleteTopic (s : Spec) (a : HttpArgs) : Spec :=
  if a.badQuery then s
  else
    match a.topic with
    | none => s
    | some t =>
      { s with knownTopic := fun t' => s.knownTopic t' ∧ ¬ tmatch t t'
               knownChan := fun t' c => s.knownChan t' c ∧ ¬ tmatch t t'
               topicReg := fun q t' => s.topicReg q t' ∧ ¬ tmatch t t'
               chanReg := fun q t' c => s.chanReg q t' c ∧ ¬ tmatch t t'
               tomb := fun q t' τ => s.tomb q t' τ ∧ ¬ tmatch t t' }

def Spec.createChannel (s : Spec) (a : HttpArgs) : Spec :=
  if a.badQuery then s
  else
    match getTopicChannelArgs a with
    | .error _ => s
    | .ok tc =>
      { s with knownTopic := fun t => t = tc.topic ∨ s.knownTopic t
               knownChan := fun t c => (t = tc.topic ∧ c = tc.chan) ∨ s.knownChan t c }

def Spec.deleteChannel (s : Spec) (a : HttpArgs) : Spec :=
  if a.badQuery then s
  else
    match getTopicChannelArgs a with
    | .error _ => s
    | .ok tc =>
      { s with knownChan := fun t c => s.knownChan t c ∧ ¬ (t = tc.topic ∧ c = tc.chan)
               chanReg := fun q t c => s.chanReg q t c ∧ ¬ (t = tc.topic ∧ c = tc.chan) }

/-- `p`'s node address (`broadcast_address:http_port`) is `node` -/
def Spec.nodeIs (s : Spec) (p : Nat) (node : Name) : Prop :=
  ∃ pr, s.peer p = some pr ∧ nodeOf pr.info = node

/-- a tombstone marks exactly the producers of the named topic whose node address matches -/
def Spec.tombstone (s : Spec) (a : HttpArgs) (now : Int) : Spec :=
  if a.badQuery then s
  else
    match a.topic with
    | none => s
    | some t =>
      match a.node with
      | none => s
      | some node =>
        { s with tomb := fun q t' τ =>
            (t' = t ∧ s.topicReg q t ∧ s.nodeIs q node ∧ τ = now) ∨
            (s.tomb q t' τ ∧ ¬ (t' = t ∧ s.nodeIs q node)) }

def Spec.step (s : Spec) : Op → Spec
  | .identify p info now => s.identify p info now
  | .register p params => s.register p params
  | .unregister p params => s.unregister p params
  | .ping p now => s.ping p now
  | .disconnect p => s.disconnect p
  | .createTopic a => s.createTopic a
  | .deleteTopic a => s.deleteTopic a
  | .createChannel a => s.createChannel a
  | .deleteChannel a => s.deleteChannel a
  | .tombstone a now => s.tombstone a now

def Spec.run (s : Spec) : List Op → Spec
  | [] => s
  | op :: ops => Spec.run (s.step op) ops

/-! ## Abstraction -/

/-- the registration key exists -/
def has (db : DB) (k : Key) : Bool := (mget db k).isSome

/-- the producer entry of peer `id` under key `k` -/
def getP (db : DB) (k : Key) (id : Nat) : Option Tomb := (mget db k).bind (fun pm => mget pm id)

def abs (r : Registry) : Spec :=
  { knownTopic := fun t => has r.db (topicKey t) = true
    knownChan := fun t c => has r.db (chanKey t c) = true
    topicReg := fun p t => (getP r.db (topicKey t) p).isSome = true
    chanReg := fun p t c => (getP r.db (chanKey t c) p).isSome = true
    tomb := fun p t τ => getP r.db (topicKey t) p = some ⟨true, τ⟩
    live := fun p => (getP r.db clientKey p).isSome = true
    peer := fun p => mget r.peers p }

end Nsq.Spec.RegistrySpec
