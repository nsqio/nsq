import Nsq.Model.Timing
import Nsq.Proofs.PQ
import Nsq.Proofs.Keyed
/-!
C04 (timing half): the channel-timing model `Nsq.Model.Timing`.

Each side of the invariant (a heap and the ids of the map beside it) is a `Side`, kept by `push` and by taking an entry
out.  Each scan is described once (`Scanned`): what it does from any state, and what more from a state satisfying the
invariant.  What a call does to the channel is taken apart once, into the relation `Trans` (`step_trans`); the invariant,
the TOUCH cap (`CapInv`) and the frame properties are proved by cases on it and carried through histories by
`run_induction`.  `Trans` forgets the answer: a statement about an accepted call (`.2 = .ok`) or about `.panic` walks its
handler with `fun_cases`.  First `UniqRands`, which is on its own: it never panics and returns distinct indices
(`uniqLoop_spec`, `uniqRands_perm`).
-/
namespace Nsq.Proofs.Timing
open Nsq.Model.PQ Nsq.Model.Timing Nsq.Proofs.PQ

theorem uniqLoop_spec (r : Nat → Nat) (n k i maxval : Nat) (a : Array Nat)
    (hp : a.toList.Perm (List.range n)) (hs : a.size = n) (him : i + maxval = n) (hki : k + i ≤ n) :
    ∃ a', uniqLoop r k i maxval a = some a' ∧ a'.toList.Perm (List.range n) ∧ a'.size = n := by
  fun_induction uniqLoop r k i maxval a with
  | case1 i maxval a => exact ⟨a, rfl, hp, hs⟩
  | case2 k i a => omega
  | case3 k i maxval a hm hc ih =>
    apply ih
    · exact (Array.perm_iff_toList_perm.1 (Array.swap_perm hc.1 hc.2)).trans hp
    · simpa using hs
    · omega
    · omega
  | case4 k i maxval a hm hc =>
    have := Nat.mod_lt (r i) (Nat.pos_of_ne_zero hm)
    exact absurd ⟨by omega, by omega⟩ hc

theorem uniqRands_perm (q n : Nat) (r : Nat → Nat) :
    ∃ l, uniqRands q n r = some l ∧ l.length = min q n ∧ l.Nodup ∧ (∀ x ∈ l, x < n) ∧
      (n ≤ q → l.Perm (List.range n)) := by
  obtain ⟨a', h1, h2, h3⟩ := uniqLoop_spec r n (min q n) 0 n (Array.range n)
    (by simp [Array.toList_range]) (by simp) (by omega) (by omega)
  have hl : (a'.extract 0 (min q n)).toList = a'.toList.take (min q n) := by
    rw [Array.toList_extract]
    simp only [List.extract_eq_take_drop, List.drop_zero, Nat.sub_zero]
  refine ⟨(a'.extract 0 (min q n)).toList, by simp [uniqRands, h1], by simp [h3], ?_, ?_, ?_⟩
  · rw [hl]
    exact (List.take_sublist _ _).nodup (h2.nodup_iff.2 List.nodup_range)
  · intro x hx
    rw [hl] at hx
    simpa using h2.mem_iff.1 ((List.take_sublist _ _).subset hx)
  · intro hnq
    have : min q n = a'.toList.length := by simp [h3]; omega
    rw [hl]
    rw [this, List.take_length]
    exact h2

theorem lookup_some {m : List InF} {id : Nat} {r : InF} (h : lookup m id = some r) :
    r ∈ m ∧ r.id = id :=
  Keyed.find?_some h

theorem lookup_none_iff {m : List InF} {id : Nat} :
    lookup m id = none ↔ id ∉ m.map (·.id) :=
  Keyed.find?_none.trans (by simp)

theorem lookup_of_mem {m : List InF} {id : Nat} (h : id ∈ m.map (·.id)) :
    ∃ r, lookup m id = some r := by
  cases hl : lookup m id with
  | none => exact absurd h (lookup_none_iff.1 hl)
  | some r => exact ⟨r, rfl⟩

theorem lookup_of_mem_nodup {m : List InF} {r : InF} (hn : (m.map (·.id)).Nodup) (hr : r ∈ m) :
    lookup m r.id = some r :=
  Keyed.find?_of_mem hn hr

theorem mem_erase_sub {m : List InF} {id : Nat} {r : InF} (h : r ∈ erase m id) : r ∈ m :=
  (List.mem_filter.1 h).1

theorem erase_ids (m : List InF) (id : Nat) :
    (erase m id).map (·.id) = (m.map (·.id)).filter (· != id) := by
  unfold erase
  rw [List.filter_map]
  rfl

theorem erase_ids_nodup (m : List InF) (id : Nat) (hn : (m.map (·.id)).Nodup) :
    (erase m id).map (·.id) = (m.map (·.id)).erase id := by
  rw [erase_ids, hn.erase_eq_filter]

def heapIds (a : H) : List Nat := (keys a).map (·.1)

theorem heapIds_push (a : H) (id : Nat) (p : Int) :
    (heapIds (push a id p)).Perm (id :: heapIds a) := (push_keys a id p).map _

theorem mem_heapIds {a : H} {id : Nat} : id ∈ heapIds a ↔ ∃ p, (id, p) ∈ keys a := by
  unfold heapIds
  simp

theorem heapIds_of_took {a b : H} {i : Nat} {e : E} (tk : Took a i (b, e)) : e.id ∈ heapIds a :=
  mem_heapIds.2 ⟨e.pri, tk.perm.mem_iff.1 List.mem_cons_self⟩

theorem mem_keys {a : H} {k : Nat × Int} : k ∈ keys a ↔ ∃ e ∈ a, key e = k := by
  unfold keys
  simp

theorem late_iff_keys {a : H} {t : Int} : (∀ k (hk : k < a.size), t < a[k].pri) ↔ ∀ x ∈ keys a, t < x.2 := by
  constructor
  · intro h x hx
    obtain ⟨e, he, rfl⟩ := mem_keys.1 hx
    obtain ⟨k, hk, rfl⟩ := Array.mem_iff_getElem.1 he
    exact h k hk
  · exact fun h k hk => h _ (mem_keys.2 ⟨a[k], Array.getElem_mem hk, rfl⟩)

theorem removeFromPQ_indexOK {a : H} (h : IndexOK a) (id : Nat) :
    ∃ b, removeFromPQ a id = some b ∧ ((id ∉ heapIds a ∧ b = a) ∨ ∃ i e, Took a i (b, e) ∧ e.id = id) := by
  cases hf : a.find? (fun e => e.id == id) with
  | none =>
    refine ⟨a, by simp [removeFromPQ, hf], .inl ⟨fun hid => ?_, rfl⟩⟩
    obtain ⟨p, hp⟩ := mem_heapIds.1 hid
    obtain ⟨x, hx, hkx⟩ := mem_keys.1 hp
    exact Array.find?_eq_none.1 hf x hx (beq_iff_eq.2 (congrArg Prod.fst hkx))
  | some e =>
    obtain ⟨hp, j, hj, he, _⟩ := Array.find?_eq_some_iff_getElem.1 hf
    have hidx : e.index = (j : Int) := he ▸ h j hj
    obtain ⟨b, e', hrm⟩ := (remove1_takes a j).ex hj
    have tk := (remove1_takes a j).took hrm
    refine ⟨b, ?_, .inr ⟨j, e', tk, ?_⟩⟩
    · have h1 : ¬ e.index = -1 := by omega
      have h2 : ¬ e.index < 0 := by omega
      have hj' : e.index.toNat = j := by omega
      simp [removeFromPQ, hf, h1, h2, hj', hrm]
    · rw [← eq_of_beq hp, ← he]
      exact congrArg Prod.fst tk.same

theorem removeFromPQ_sub {a b : H} {id : Nat} : removeFromPQ a id = some b → ∀ k ∈ keys b, k ∈ keys a := by
  fun_cases removeFromPQ a id with
  | case4 =>
    rw [Option.map_eq_some_iff]
    rintro ⟨r, h, rfl⟩
    exact ((remove1_takes a _).took h).sub
  | _ => rintro ⟨⟩ <;> exact fun _ h => h

theorem removeFromPQ_keeps {a b : H} {id : Nat} (h : IndexOK a) (hr : removeFromPQ a id = some b)
    (k : Nat × Int) (hk : k ∈ keys a) (hne : k.1 ≠ id) : k ∈ keys b := by
  obtain ⟨b', hb, ⟨_, rfl⟩ | ⟨i, e, tk, rfl⟩⟩ := removeFromPQ_indexOK h id <;> cases hr.symm.trans hb
  · exact hk
  · exact (List.mem_cons.1 (tk.perm.mem_iff.2 hk)).resolve_left fun e' => hne (e' ▸ rfl)

theorem touchDeadline_eq_min (now dts mt max : Int) :
    touchDeadline now dts mt max = min (now + mt) (dts + max) := by
  unfold touchDeadline
  split <;> omega

/-- the data invariant of a channel at rest (between API calls) -/
structure ChanInv (c : Chan) : Prop where
  ifInv : Inv c.ifpq
  dInv : Inv c.dpq
  ifIds : (heapIds c.ifpq).Perm (c.ifmap.map (·.id))
  ifNodup : (c.ifmap.map (·.id)).Nodup
  dIds : (heapIds c.dpq).Perm c.dmap
  dNodup : c.dmap.Nodup

theorem inv_empty : Inv (#[] : H) :=
  ⟨fun k hk => absurd hk (by simp), fun k hk => absurd hk (by simp)⟩

theorem inv_init : ChanInv {} where
  ifInv := inv_empty
  dInv := inv_empty
  ifIds := List.Perm.refl _
  ifNodup := List.nodup_nil
  dIds := List.Perm.refl _
  dNodup := List.nodup_nil

structure Side (a : H) (ids : List Nat) : Prop where
  inv : Inv a
  perm : (heapIds a).Perm ids
  nodup : ids.Nodup

theorem ChanInv.ifSide {c : Chan} (h : ChanInv c) : Side c.ifpq (c.ifmap.map (·.id)) := ⟨h.ifInv, h.ifIds, h.ifNodup⟩

theorem ChanInv.dSide {c : Chan} (h : ChanInv c) : Side c.dpq c.dmap := ⟨h.dInv, h.dIds, h.dNodup⟩

theorem ChanInv.of {c : Chan} (h1 : Side c.ifpq (c.ifmap.map (·.id))) (h2 : Side c.dpq c.dmap) : ChanInv c :=
  ⟨h1.inv, h2.inv, h1.perm, h1.nodup, h2.perm, h2.nodup⟩

theorem Side.pushed {a : H} {ids : List Nat} (h : Side a ids) {id : Nat} (hn : id ∉ ids) (p : Int) :
    Side (push a id p) (id :: ids) :=
  ⟨push_inv _ _ _ h.inv, (heapIds_push _ _ _).trans (h.perm.cons id), List.nodup_cons.2 ⟨hn, h.nodup⟩⟩

theorem Side.took {a b : H} {ids : List Nat} {i : Nat} {e : E} (h : Side a ids) (tk : Took a i (b, e)) :
    Side b (ids.erase e.id) :=
  have hp : (e.id :: heapIds b).Perm ids := (tk.perm.map Prod.fst).trans h.perm
  ⟨tk.inv h.inv, (hp.trans (List.perm_cons_erase (hp.mem_iff.1 List.mem_cons_self))).cons_inv, h.nodup.erase _⟩

theorem Side.retime {a b : H} {ids : List Nat} {i : Nat} {e : E} (h : Side a ids) (tk : Took a i (b, e)) (p : Int) :
    Side (push b e.id p) ids :=
  have s := (h.took tk).pushed (fun hm => (h.nodup.mem_erase_iff.1 hm).1 rfl) p
  have hm : e.id ∈ ids := h.perm.mem_iff.1 (heapIds_of_took tk)
  ⟨s.inv, s.perm.trans (List.perm_cons_erase hm).symm, h.nodup⟩

theorem ChanInv.tookIf {c : Chan} (h : ChanInv c) {pq : H} {i : Nat} {e : E} (tk : Took c.ifpq i (pq, e)) (rd : List Nat) :
    ChanInv { c with ifpq := pq, ifmap := erase c.ifmap e.id, ready := rd } :=
  .of (erase_ids_nodup _ _ h.ifNodup ▸ h.ifSide.took tk) h.dSide

theorem ChanInv.tookD {c : Chan} (h : ChanInv c) {pq : H} {i : Nat} {e : E} (tk : Took c.dpq i (pq, e)) (rd : List Nat) :
    ChanInv { c with dpq := pq, dmap := c.dmap.erase e.id, ready := rd } :=
  .of h.ifSide (h.dSide.took tk)

/-! ### the scans -/

/-- What a scan loop at `t` over the heap `pq` (`·.ifpq` or `·.dpq`) does from the state `c`, entered with `dirty` and
`rel` and releasing `ex` more: the first five fields from ANY state (arbitrary array contents), the others from a state
satisfying the invariant. -/
structure Scanned (t : Int) (pq : Chan → H) (c : Chan) (dirty : Bool) (rel ex : List E) (r : Scan) : Prop where
  released : r.released = rel ++ ex
  due : ∀ e ∈ ex, e.pri ≤ t
  ready : r.chan.ready = c.ready ++ ex.map (·.id)
  sub : ∀ k ∈ keys (pq r.chan), k ∈ keys (pq c)
  stays : ∀ k ∈ keys (pq c), t < k.2 → k ∈ keys (pq r.chan)
  inv : ChanInv c → ChanInv r.chan
  dirty : ChanInv c → r.dirty = (dirty || !ex.isEmpty)
  late : ChanInv c → ∀ k (hk : k < (pq r.chan).size), t < (pq r.chan)[k].pri
  perm : ChanInv c → (ex.map key ++ keys (pq r.chan)).Perm (keys (pq c))

/-- the loop ends: in `c` itself with nothing due, or — only from a state that does not satisfy the invariant — on a heap
entry without a map entry, which it drops -/
theorem Scanned.nil {t : Int} {pq : Chan → H} {c c' : Chan} {d d' : Bool} {rel : List E} (hr : c'.ready = c.ready)
    (hsub : ∀ k ∈ keys (pq c'), k ∈ keys (pq c)) (hst : ∀ k ∈ keys (pq c), t < k.2 → k ∈ keys (pq c'))
    (hi : ChanInv c → c' = c ∧ d' = d ∧ ∀ k (hk : k < (pq c).size), t < (pq c)[k].pri) :
    Scanned t pq c d rel [] { chan := c', dirty := d', released := rel } where
  released := by simp
  due := by simp
  ready := by simp [hr]
  sub := hsub
  stays := hst
  inv h := (hi h).1 ▸ h
  dirty h := by simp [(hi h).2.1]
  late h := by obtain ⟨rfl, _, hl⟩ := hi h; exact hl
  perm h := by obtain ⟨rfl, _⟩ := hi h; exact .refl _

theorem Scanned.cons {t : Int} {pq : Chan → H} {c c1 : Chan} {d : Bool} {rel ex : List E} {e : E} {r : Scan}
    (g : Scanned t pq c1 true (rel ++ [e]) ex r) (hr : c1.ready = c.ready ++ [e.id])
    (tk : Took (pq c) 0 (pq c1, e) ∧ e.pri ≤ t) (hi : ChanInv c → ChanInv c1) : Scanned t pq c d rel (e :: ex) r where
  released := by simp [g.released]
  due := by
    intro x hx
    rcases List.mem_cons.1 hx with rfl | hx
    · exact tk.2
    · exact g.due x hx
  ready := by simp [g.ready, hr]
  sub k h := tk.1.sub k (g.sub k h)
  stays k h ht := g.stays k (tk.1.stays tk.2 k h ht) ht
  inv h := g.inv (hi h)
  dirty h := by simp [g.dirty (hi h)]
  late h := g.late (hi h)
  perm h := ((g.perm (hi h)).cons (key e)).trans tk.1.perm

theorem Scanned.ex_eq {t : Int} {pq : Chan → H} {c : Chan} {d : Bool} {ex : List E} {r : Scan}
    (g : Scanned t pq c d [] ex r) : ex = r.released := by simpa using g.released.symm

theorem scanInFlightLoop_spec (t : Int) (c : Chan) (dirty : Bool) (rel : List E) :
    ∃ ex, Scanned t (·.ifpq) c dirty rel ex (scanInFlightLoop t c dirty rel) ∧
      (scanInFlightLoop t c dirty rel).chan.dpq = c.dpq ∧
      (scanInFlightLoop t c dirty rel).chan.dmap = c.dmap ∧
      (∀ r ∈ (scanInFlightLoop t c dirty rel).chan.ifmap, r ∈ c.ifmap) := by
  fun_induction scanInFlightLoop t c dirty rel with
  -- nothing due: the loop ends in `c`
  | case1 c dirty rel hp =>
    exact ⟨[], .nil rfl (fun _ h => h) (fun _ h _ => h)
      fun h => ⟨rfl, rfl, pas_none h.ifInv.1 (peekAndShift1_some_iff _ t) hp⟩, rfl, rfl, fun _ h => h⟩
  -- a due heap entry without a map entry is dropped and the loop ends: not from a state satisfying the invariant
  | case2 c dirty rel pq e hp hl =>
    have tk := peekAndShift1_took hp
    exact ⟨[], .nil rfl tk.1.sub (tk.1.stays tk.2)
      fun h => absurd (h.ifIds.mem_iff.1 (heapIds_of_took tk.1)) (lookup_none_iff.1 hl), rfl, rfl, fun _ h => h⟩
  -- the due root is released and the loop goes on
  | case3 c dirty rel pq e hp r hl ih =>
    have tk := peekAndShift1_took hp
    obtain ⟨ex, g, h4, h5, h7⟩ := ih
    exact ⟨e :: ex, g.cons rfl tk (·.tookIf tk.1 _), h4, h5, fun r hr => mem_erase_sub (h7 r hr)⟩

theorem scanDeferredLoop_spec (t : Int) (c : Chan) (dirty : Bool) (rel : List E) :
    ∃ ex, Scanned t (·.dpq) c dirty rel ex (scanDeferredLoop t c dirty rel) ∧
      (scanDeferredLoop t c dirty rel).chan.ifpq = c.ifpq ∧
      (scanDeferredLoop t c dirty rel).chan.ifmap = c.ifmap := by
  fun_induction scanDeferredLoop t c dirty rel with
  -- the same three cases: nothing due; released and on; an entry without a map entry (impossible under the invariant)
  | case1 c dirty rel hp =>
    exact ⟨[], .nil rfl (fun _ h => h) (fun _ h _ => h)
      fun h => ⟨rfl, rfl, pas_none h.dInv.1 (peekAndShift2_some_iff _ t) hp⟩, rfl, rfl⟩
  | case2 c dirty rel pq e hp hl ih =>
    have tk := peekAndShift2_took hp
    obtain ⟨ex, g, h4, h5⟩ := ih
    exact ⟨e :: ex, g.cons rfl tk (·.tookD tk.1 _), h4, h5⟩
  | case3 c dirty rel pq e hp hl =>
    have tk := peekAndShift2_took hp
    exact ⟨[], .nil rfl tk.1.sub (tk.1.stays tk.2)
      fun h => absurd (by simpa using h.dIds.mem_iff.1 (heapIds_of_took tk.1)) hl, rfl, rfl⟩

theorem scanInFlight_spec (c : Chan) (t : Int) :
    Scanned t (·.ifpq) c false [] (scanInFlight c t).released (scanInFlight c t) ∧
      (scanInFlight c t).chan.dpq = c.dpq ∧ (scanInFlight c t).chan.dmap = c.dmap ∧
      ∀ r ∈ (scanInFlight c t).chan.ifmap, r ∈ c.ifmap := by
  obtain ⟨ex, g, f⟩ := scanInFlightLoop_spec t c false []
  cases g.ex_eq
  exact ⟨g, f⟩

theorem scanDeferred_spec (c : Chan) (t : Int) :
    Scanned t (·.dpq) c false [] (scanDeferred c t).released (scanDeferred c t) ∧
      (scanDeferred c t).chan.ifpq = c.ifpq ∧ (scanDeferred c t).chan.ifmap = c.ifmap := by
  obtain ⟨ex, g, f⟩ := scanDeferredLoop_spec t c false []
  cases g.ex_eq
  exact ⟨g, f⟩

/-! ### the API calls as a relation -/

/-- What one API call can do to the channel: one constructor per outcome of `step` that changes it, with the facts
under which it is taken (`idle`: a rejected call, or a panic, leaves the channel as it is; `requeue` with a delay is
`StartDeferredTimeout` after the removal, hence two outcomes). -/
inductive Trans (max : Int) (c : Chan) : Op → Chan → Prop
  | idle (op : Op) : Trans max c op c
  | inflight (now : Int) (id : Nat) (client timeout : Int) (hn : lookup c.ifmap id = none) :
      Trans max c (.inflight now id client timeout)
        { c with ifmap := { id := id, client := client, dts := now } :: c.ifmap,
                 ifpq := push c.ifpq id (now + timeout) }
  | touch (now client : Int) (id : Nat) (mt : Int) (r : InF) (pq : H) (hl : lookup c.ifmap id = some r)
      (hpq : removeFromPQ c.ifpq id = some pq) :
      Trans max c (.touch now client id mt) { c with ifpq := push pq id (touchDeadline now r.dts mt max) }
  | finish (client : Int) (id : Nat) (r : InF) (pq : H) (hl : lookup c.ifmap id = some r)
      (hpq : removeFromPQ c.ifpq id = some pq) :
      Trans max c (.finish client id) { c with ifpq := pq, ifmap := erase c.ifmap id }
  | requeueNow (now client : Int) (id : Nat) (r : InF) (pq : H) (hl : lookup c.ifmap id = some r)
      (hpq : removeFromPQ c.ifpq id = some pq) :
      Trans max c (.requeue now client id 0)
        { c with ifpq := pq, ifmap := erase c.ifmap id, ready := c.ready ++ [id] }
  | requeueDup (now client : Int) (id : Nat) (d : Int) (r : InF) (pq : H) (hl : lookup c.ifmap id = some r)
      (hpq : removeFromPQ c.ifpq id = some pq) (hd : d ≠ 0) :
      Trans max c (.requeue now client id d) { c with ifpq := pq, ifmap := erase c.ifmap id }
  | requeueDefer (now client : Int) (id : Nat) (d : Int) (r : InF) (pq : H) (hl : lookup c.ifmap id = some r)
      (hpq : removeFromPQ c.ifpq id = some pq) (hd : d ≠ 0) (hn : id ∉ c.dmap) :
      Trans max c (.requeue now client id d)
        { c with ifpq := pq, ifmap := erase c.ifmap id, dmap := id :: c.dmap, dpq := push c.dpq id (now + d) }
  | defer (now : Int) (id : Nat) (d : Int) (hn : id ∉ c.dmap) :
      Trans max c (.defer now id d) { c with dmap := id :: c.dmap, dpq := push c.dpq id (now + d) }
  | scanIf (t : Int) : Trans max c (.scanIf t) (scanInFlight c t).chan
  | scanDef (t : Int) : Trans max c (.scanDef t) (scanDeferred c t).chan

theorem startDeferred_eq (c : Chan) (now : Int) (id : Nat) (d : Int) :
    (startDeferred c now id d).1 = c ∨
      (id ∉ c.dmap ∧ (startDeferred c now id d).1 = { c with dmap := id :: c.dmap, dpq := push c.dpq id (now + d) }) := by
  unfold startDeferred
  split
  · exact .inl rfl
  · rename_i hn
    exact .inr ⟨by simpa using hn, rfl⟩

theorem step_trans (max : Int) (c : Chan) (op : Op) : Trans max c op (step max c op) := by
  cases op with
  | inflight now id client timeout =>
    show Trans max c _ (startInFlight c now id client timeout).1
    unfold startInFlight
    split
    · exact .idle _
    · rename_i hn
      exact .inflight now id client timeout (by simpa using hn)
  | touch now client id mt =>
    show Trans max c _ (touch c now client id mt max).1
    fun_cases touch c now client id mt max with
    | case1 | case2 | case3 => exact .idle _
    | case4 r hl hcl pq hpq => exact .touch now client id mt r pq hl hpq
  | finish client id =>
    show Trans max c _ (finish c client id).1
    fun_cases finish c client id with
    | case1 | case2 | case3 => exact .idle _
    | case4 r hl hcl pq hpq => exact .finish client id r pq hl hpq
  | requeue now client id d =>
    show Trans max c _ (requeue c now client id d).1
    fun_cases requeue c now client id d with
    | case1 | case2 | case3 => exact .idle _
    | case4 r hl hcl pq hpq hd => subst hd; exact .requeueNow now client id r pq hl hpq
    | case5 r hl hcl pq hpq hd =>
      rcases startDeferred_eq { c with ifpq := pq, ifmap := erase c.ifmap id } now id d with e | ⟨hn, e⟩
      · rw [e]; exact .requeueDup now client id d r pq hl hpq hd
      · rw [e]; exact .requeueDefer now client id d r pq hl hpq hd hn
  | defer now id d =>
    show Trans max c _ (startDeferred c now id d).1
    rcases startDeferred_eq c now id d with e | ⟨hn, e⟩
    · rw [e]; exact .idle _
    · rw [e]; exact .defer now id d hn
  | scanIf t => exact .scanIf t
  | scanDef t => exact .scanDef t

/-! ### every call keeps the invariant and does not panic; histories -/

theorem ChanInv.removed {c : Chan} (hi : ChanInv c) {id : Nat} {r : InF} {pq : H} (hl : lookup c.ifmap id = some r)
    (hpq : removeFromPQ c.ifpq id = some pq) : ∃ i e, Took c.ifpq i (pq, e) ∧ e.id = id := by
  obtain ⟨b, hb, ⟨hn, _⟩ | h⟩ := removeFromPQ_indexOK hi.ifInv.2 id <;> cases hpq.symm.trans hb
  · obtain ⟨hr, hid⟩ := lookup_some hl
    exact absurd (hi.ifIds.mem_iff.2 (List.mem_map.2 ⟨r, hr, hid⟩)) hn
  · exact h

theorem ChanInv.takeOut {c : Chan} (hi : ChanInv c) {id : Nat} {r : InF} {pq : H} (rd : List Nat)
    (hl : lookup c.ifmap id = some r) (hpq : removeFromPQ c.ifpq id = some pq) :
    ChanInv { c with ifpq := pq, ifmap := erase c.ifmap id, ready := rd } := by
  obtain ⟨i, e, tk, rfl⟩ := hi.removed hl hpq
  exact hi.tookIf tk rd

theorem ChanInv.deferIn {c : Chan} (hi : ChanInv c) {id : Nat} (p : Int) (hn : id ∉ c.dmap) :
    ChanInv { c with dmap := id :: c.dmap, dpq := push c.dpq id p } :=
  .of hi.ifSide (hi.dSide.pushed hn p)

theorem trans_inv {max : Int} {c c' : Chan} {op : Op} (h : Trans max c op c') (hi : ChanInv c) : ChanInv c' := by
  cases h with
  | idle => exact hi
  | inflight now id client timeout hn =>
    exact .of (hi.ifSide.pushed (lookup_none_iff.1 hn) _) hi.dSide
  | touch now cl id mt r pq hl hpq =>
    obtain ⟨i, e, tk, rfl⟩ := hi.removed hl hpq
    exact .of (hi.ifSide.retime tk _) hi.dSide
  | finish cl id r pq hl hpq | requeueNow now cl id r pq hl hpq | requeueDup now cl id d r pq hl hpq =>
    exact hi.takeOut _ hl hpq
  | requeueDefer now cl id d r pq hl hpq hd hn => exact (hi.takeOut c.ready hl hpq).deferIn _ hn
  | defer now id d hn => exact hi.deferIn _ hn
  | scanIf t => exact (scanInFlight_spec c t).1.inv hi
  | scanDef t => exact (scanDeferred_spec c t).1.inv hi

theorem touch_ne_panic (c : Chan) (now client : Int) (id : Nat) (mt max : Int) (h : IndexOK c.ifpq) :
    (touch c now client id mt max).2 ≠ .panic := by
  fun_cases touch c now client id mt max with
  | case3 r hl hcl hpq => obtain ⟨b, hb, _⟩ := removeFromPQ_indexOK h id; cases hpq.symm.trans hb
  | _ => simp

theorem finish_ne_panic (c : Chan) (client : Int) (id : Nat) (h : IndexOK c.ifpq) : (finish c client id).2 ≠ .panic := by
  fun_cases finish c client id with
  | case3 r hl hcl hpq => obtain ⟨b, hb, _⟩ := removeFromPQ_indexOK h id; cases hpq.symm.trans hb
  | _ => simp

theorem requeue_ne_panic (c : Chan) (now client : Int) (id : Nat) (d : Int) (h : IndexOK c.ifpq) :
    (requeue c now client id d).2 ≠ .panic := by
  fun_cases requeue c now client id d with
  | case3 r hl hcl hpq => obtain ⟨b, hb, _⟩ := removeFromPQ_indexOK h id; cases hpq.symm.trans hb
  | case5 => unfold startDeferred; split <;> simp
  | _ => simp

theorem step_inv (max : Int) (c : Chan) (op : Op) (h : ChanInv c) : ChanInv (step max c op) :=
  trans_inv (step_trans max c op) h

theorem run_induction {max : Int} {P : Chan → Prop} {A : Op → Prop}
    (hstep : ∀ c op, A op → P c → P (step max c op)) (ops : List Op) :
    ∀ c, (∀ op ∈ ops, A op) → P c → P (run max c ops) := by
  induction ops with
  | nil => exact fun _ _ h => h
  | cons op ops ih =>
    exact fun c hA h => ih _ (fun o ho => hA o (List.mem_cons_of_mem _ ho)) (hstep c op (hA op List.mem_cons_self) h)

theorem run_inv (max : Int) (c : Chan) (ops : List Op) (h : ChanInv c) : ChanInv (run max c ops) :=
  run_induction (A := fun _ => True) (fun c op _ h => step_inv max c op h) ops c (fun _ _ => trivial) h

/-! ### TOUCH -/

theorem touch_sets_deadline (c : Chan) (now client : Int) (id : Nat) (mt max : Int)
    (hok : (touch c now client id mt max).2 = .ok) :
    ∃ r, lookup c.ifmap id = some r ∧ r.client = client ∧
      (id, min (now + mt) (r.dts + max)) ∈ keys (touch c now client id mt max).1.ifpq ∧
      (touch c now client id mt max).1.ifmap = c.ifmap := by
  revert hok
  fun_cases touch c now client id mt max with
  | case1 | case2 | case3 => exact fun hok => nomatch hok
  | case4 r hl hcl pq hpq =>
    intro _
    refine ⟨r, hl, by simpa using hcl, ?_, rfl⟩
    rw [← touchDeadline_eq_min]
    exact (push_keys _ _ _).mem_iff.2 List.mem_cons_self

/-- every deadline in the in-flight heap is at most `max` after the delivery time of its message -/
def CapInv (max : Int) (c : Chan) : Prop :=
  ∀ r ∈ c.ifmap, ∀ p, (r.id, p) ∈ keys c.ifpq → p ≤ r.dts + max

theorem CapInv.mono {max : Int} {c c' : Chan} (hc : CapInv max c)
    (hm : ∀ r ∈ c'.ifmap, r ∈ c.ifmap) (hk : ∀ k ∈ keys c'.ifpq, k ∈ keys c.ifpq) :
    CapInv max c' := fun r hr p hp => hc r (hm r hr) p (hk _ hp)

/-- the bound `B` of the invariant may exceed the TOUCH cap `max`: a default `--msg-timeout` above `--max-msg-timeout`
starts deliveries beyond the cap, and `Props.C04Opts` bounds the deadlines by the larger of the two -/
theorem trans_cap {B max : Int} (hle : max ≤ B) {c c' : Chan} {op : Op} (h : Trans max c op c') (hi : ChanInv c)
    (hc : CapInv B c) (hop : ∀ now id client timeout, op = .inflight now id client timeout → timeout ≤ B) :
    CapInv B c' := by
  cases h with
  | idle => exact hc
  | inflight now id client timeout hn =>
    have hn' := lookup_none_iff.1 hn
    have := hop _ _ _ _ rfl
    intro r hr p hp
    rcases List.mem_cons.1 hr with rfl | hr <;> rcases List.mem_cons.1 ((push_keys _ _ _).mem_iff.1 hp) with he | hp'
    · cases he; show now + timeout ≤ now + B; omega
    · exact absurd (hi.ifIds.mem_iff.1 (mem_heapIds.2 ⟨p, hp'⟩)) hn'
    · exact absurd (List.mem_map.2 ⟨r, hr, (Prod.mk.inj he).1⟩) hn'
    · exact hc r hr p hp'
  | touch now cl id mt r0 pq hl hpq =>
    intro r hr p hp
    rcases List.mem_cons.1 ((push_keys _ _ _).mem_iff.1 hp) with he | hp'
    · cases he
      cases (lookup_of_mem_nodup hi.ifNodup hr).symm.trans hl
      rw [touchDeadline_eq_min]
      omega
    · exact hc r hr p (removeFromPQ_sub hpq _ hp')
  | finish cl id r pq hl hpq | requeueNow now cl id r pq hl hpq | requeueDup now cl id d r pq hl hpq
  | requeueDefer now cl id d r pq hl hpq =>
    exact hc.mono (fun r hr => mem_erase_sub hr) (removeFromPQ_sub hpq)
  | defer => exact hc
  | scanIf t =>
    obtain ⟨g, _, _, hm⟩ := scanInFlight_spec c t
    exact hc.mono hm g.sub
  | scanDef t =>
    obtain ⟨_, h1, h2⟩ := scanDeferred_spec c t
    exact hc.mono (by rw [h2]; exact fun _ h => h) (by rw [h1]; exact fun _ h => h)

theorem cap_run_le (B max : Int) (hle : max ≤ B) (c : Chan) (ops : List Op) (h : ChanInv c) (hc : CapInv B c)
    (hops : ∀ op ∈ ops, ∀ now id client timeout, op = .inflight now id client timeout → timeout ≤ B) :
    CapInv B (run max c ops) :=
  (run_induction (P := fun c => ChanInv c ∧ CapInv B c)
    (fun c op hop hP => ⟨step_inv max c op hP.1, trans_cap hle (step_trans max c op) hP.1 hP.2 hop⟩) ops c hops ⟨h, hc⟩).2

theorem cap_run (max : Int) (c : Chan) (ops : List Op) (h : ChanInv c) (hc : CapInv max c)
    (hops : ∀ op ∈ ops, ∀ now id client timeout, op = .inflight now id client timeout →
      timeout ≤ max) : CapInv max (run max c ops) :=
  cap_run_le max max (Int.le_refl _) c ops h hc hops

theorem cap_init (max : Int) : CapInv max {} := fun _ hr => absurd hr (by simp)

/-! ### what a call leaves alone; requeue / defer; what stays through a history -/

theorem startDeferred_frame (c : Chan) (now : Int) (id : Nat) (timeout : Int) :
    (startDeferred c now id timeout).1.ifpq = c.ifpq ∧
      (startDeferred c now id timeout).1.ifmap = c.ifmap ∧
      (startDeferred c now id timeout).1.ready = c.ready := by
  unfold startDeferred
  split <;> simp

theorem touch_frame (c : Chan) (now client : Int) (id : Nat) (mt max : Int) :
    (touch c now client id mt max).1.dpq = c.dpq ∧ (touch c now client id mt max).1.ready = c.ready := by
  fun_cases touch c now client id mt max <;> exact ⟨rfl, rfl⟩

theorem finish_frame (c : Chan) (client : Int) (id : Nat) :
    (finish c client id).1.dpq = c.dpq ∧ (finish c client id).1.ready = c.ready := by
  fun_cases finish c client id <;> exact ⟨rfl, rfl⟩

theorem startInFlight_frame (c : Chan) (now : Int) (id : Nat) (client timeout : Int) :
    (startInFlight c now id client timeout).1.dpq = c.dpq ∧
      (startInFlight c now id client timeout).1.ready = c.ready := by
  unfold startInFlight
  split <;> exact ⟨rfl, rfl⟩

theorem startDeferred_ok (c : Chan) (now : Int) (id : Nat) (d : Int)
    (hok : (startDeferred c now id d).2 = .ok) :
    (id, now + d) ∈ keys (startDeferred c now id d).1.dpq ∧
      (startDeferred c now id d).1.ready = c.ready := by
  refine ⟨?_, (startDeferred_frame c now id d).2.2⟩
  unfold startDeferred at hok ⊢
  split at hok
  · cases hok
  · rename_i hn
    rw [if_neg hn]
    exact (push_keys _ _ _).mem_iff.2 List.mem_cons_self

theorem requeue_zero (c : Chan) (now client : Int) (id : Nat)
    (hok : (requeue c now client id 0).2 = .ok) :
    (requeue c now client id 0).1.ready = c.ready ++ [id] := by
  revert hok
  fun_cases requeue c now client id 0 with
  | case1 | case2 | case3 => exact fun hok => nomatch hok
  | case4 => exact fun _ => rfl
  | case5 r hl hcl pq hpq hd => exact absurd rfl hd

theorem requeue_delay (c : Chan) (now client : Int) (id : Nat) (d : Int) (hd : d ≠ 0)
    (hok : (requeue c now client id d).2 = .ok) :
    (id, now + d) ∈ keys (requeue c now client id d).1.dpq ∧
      (requeue c now client id d).1.ready = c.ready := by
  revert hok
  fun_cases requeue c now client id d with
  | case1 | case2 | case3 => exact fun hok => nomatch hok
  | case4 r hl hcl pq hpq hd0 => exact absurd hd0 hd
  | case5 => exact startDeferred_ok _ now id d

theorem trans_dstays {max : Int} {c c' : Chan} {op : Op} (h : Trans max c op c') (k : Nat × Int)
    (hin : k ∈ keys c.dpq) (hearly : ∀ t, op = .scanDef t → t < k.2) : k ∈ keys c'.dpq := by
  cases h with
  | requeueDefer | defer => exact (push_keys _ _ _).mem_iff.2 (List.mem_cons_of_mem _ hin)
  | scanIf t => rw [(scanInFlight_spec c t).2.1]; exact hin
  | scanDef t => exact (scanDeferred_spec c t).1.stays _ hin (hearly t rfl)
  | _ => exact hin

theorem deferred_stays (max : Int) (c : Chan) (id : Nat) (p : Int) (hin : (id, p) ∈ keys c.dpq)
    (ops : List Op) (hearly : ∀ t, Op.scanDef t ∈ ops → t < p) :
    (id, p) ∈ keys (run max c ops).dpq :=
  run_induction (A := fun op => ∀ t, op = .scanDef t → t < p)
    (fun c op hA h => trans_dstays (step_trans max c op) _ h hA) ops c (fun _ ho t e => hearly t (e ▸ ho)) hin

theorem trans_ready {max : Int} {c c' : Chan} {op : Op} (h : Trans max c op c') (h1 : ∀ t, op ≠ .scanIf t)
    (h2 : ∀ t, op ≠ .scanDef t) (h3 : ∀ now cl id, op ≠ .requeue now cl id 0) : c'.ready = c.ready := by
  cases h with
  | scanIf t => exact absurd rfl (h1 t)
  | scanDef t => exact absurd rfl (h2 t)
  | requeueNow now cl id => exact absurd rfl (h3 now cl id)
  | _ => rfl

theorem step_ready_other (max : Int) (c : Chan) (op : Op) (h1 : ∀ t, op ≠ .scanIf t)
    (h2 : ∀ t, op ≠ .scanDef t) (h3 : ∀ now cl id, op ≠ .requeue now cl id 0) :
    (step max c op).ready = c.ready := trans_ready (step_trans max c op) h1 h2 h3

theorem step_ready_scan (max : Int) (c : Chan) (t : Int) :
    (step max c (.scanIf t)).ready = c.ready ++ (scanInFlight c t).released.map (·.id) ∧
    (step max c (.scanDef t)).ready = c.ready ++ (scanDeferred c t).released.map (·.id) :=
  ⟨(scanInFlight_spec c t).1.ready, (scanDeferred_spec c t).1.ready⟩

theorem trans_ifstays {max : Int} {c c' : Chan} {op : Op} (h : Trans max c op c') (hi : IndexOK c.ifpq)
    (k : Nat × Int) (hin : k ∈ keys c.ifpq) (hearly : ∀ t, op = .scanIf t → t < k.2)
    (hnot : (∀ now cl mt, op ≠ .touch now cl k.1 mt) ∧ (∀ cl, op ≠ .finish cl k.1) ∧
      (∀ now cl d, op ≠ .requeue now cl k.1 d)) : k ∈ keys c'.ifpq := by
  cases h with
  | idle | defer => exact hin
  | inflight => exact (push_keys _ _ _).mem_iff.2 (List.mem_cons_of_mem _ hin)
  | touch now cl id mt r pq hl hpq =>
    exact (push_keys _ _ _).mem_iff.2
      (List.mem_cons_of_mem _ (removeFromPQ_keeps hi hpq k hin (fun e => hnot.1 now cl mt (e ▸ rfl))))
  | finish cl id r pq hl hpq => exact removeFromPQ_keeps hi hpq k hin (fun e => hnot.2.1 cl (e ▸ rfl))
  | requeueNow now cl id r pq hl hpq => exact removeFromPQ_keeps hi hpq k hin (fun e => hnot.2.2 now cl 0 (e ▸ rfl))
  | requeueDup now cl id d r pq hl hpq | requeueDefer now cl id d r pq hl hpq =>
    exact removeFromPQ_keeps hi hpq k hin (fun e => hnot.2.2 now cl d (e ▸ rfl))
  | scanIf t => exact (scanInFlight_spec c t).1.stays _ hin (hearly t rfl)
  | scanDef t => rw [(scanDeferred_spec c t).2.1]; exact hin

/-! ### non-vacuity: concrete instances

(`decide +kernel`: the heap operations are defined by well-founded recursion, which the kernel
evaluates but the elaborator's `decide` does not unfold; the second instance is unfolded by `simp` instead.) -/

example :
    let c := run 100 {} [.inflight 0 7 1 10, .inflight 1 8 1 50, .touch 5 1 8 20, .scanIf 12]
    keys c.ifpq = [(8, 25)] ∧ c.ready = [7] ∧ c.ifmap.map (·.id) = [8] := by decide +kernel

example :
    keys (run 100 {} [.inflight 0 7 1 10, .touch 5 1 7 20]).ifpq = [(7, 25)] := by
  simp [run, step, startInFlight, lookup, touch, removeFromPQ, push, up, remove1, takeLast,
    touchDeadline, keys, key]

/-- touch hits the cap: now + msgTimeout = 95 + 60 is later than deliveryTS + max = 0 + 100 -/
example : touchDeadline 95 0 60 100 = 100 := by decide +kernel

example :
    keys (run 100 {} [.inflight 0 7 1 10, .touch 95 1 7 60]).ifpq = [(7, 100)] := by
  decide +kernel

/-- requeue with a delay goes through the deferred heap and comes out at its time, not before -/
example :
    let ops := [.inflight 0 7 1 10, .requeue 3 1 7 20]
    keys (run 100 {} ops).dpq = [(7, 23)] ∧
      (run 100 {} (ops ++ [.scanDef 22])).ready = [] ∧
      (run 100 {} (ops ++ [.scanDef 23])).ready = [7] := by decide +kernel

example : uniqRands 20 3 (fun i => 7 * i + 2) = some [2, 0, 1] := by decide +kernel

example : (uniqRands 2 5 (fun i => 7 * i + 2)).map List.length = some 2 := by decide +kernel

end Nsq.Proofs.Timing
