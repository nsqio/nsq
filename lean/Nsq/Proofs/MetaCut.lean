import Nsq.Proofs.Meta
/-! Invariant C (C06): every snapshot is a cut of the history of the live maps, read after the lock was taken. -/
namespace Nsq.Proofs.Meta
open Nsq.Model.FS Nsq.Model.Meta

variable {β : Type}
variable {cd : Codec β} {fix : Bool} {s s' : Sys β} {ps : PStep} {st : Step} {m : Mem} {ms : MemStep}
  {r : Mem × Nat × List Handler} {hist : List Mem} {lo lo' : Nat} {e : TopicM}

/-- `e` is an entry of the snapshot of a live state at index `lo` of the history or later -/
def EntryFrom (hist : List Mem) (lo : Nat) (e : TopicM) : Prop :=
  ∃ i M, lo ≤ i ∧ hist[i]? = some M ∧ e ∈ snap M

theorem EntryFrom.push (m : Mem) (h : EntryFrom hist lo e) : EntryFrom (hist ++ [m]) lo e := by
  obtain ⟨i, M, h1, h2, h3⟩ := h
  have hi : i < hist.length := (List.getElem?_eq_some_iff.mp h2).1
  exact ⟨i, M, h1, (List.getElem?_append_left hi).trans h2, h3⟩

theorem EntryFrom.weaken (h : EntryFrom hist lo e) (hl : lo' ≤ lo) : EntryFrom hist lo' e := by
  obtain ⟨i, M, h1, h2, h3⟩ := h
  exact ⟨i, M, Nat.le_trans hl h1, h2, h3⟩

def names (d : Doc) : List String := d.map (fun e => e.name)

theorem names_snap (m : Mem) : names (snap m) = (m.filter (fun t => !t.eph)).map (fun t => t.name) := by
  simp only [names, snap, List.map_map]
  rfl

theorem names_modTopic (m : Mem) (t : String) (f : Topic → Topic)
    (hf : ∀ x, (f x).eph = x.eph ∧ (f x).name = x.name) :
    names (snap (modTopic m t f)) = names (snap m) := by
  rw [names_snap, names_snap]
  exact filter_map_modFirst_same _ _ _ _ _ hf

/-- operations that do not need the nsqd lock edit one topic in place, keeping its name and whether it is persisted -/
theorem MemEff.keeps_names {stamp : Nat} (hl : needsLock ms = false) (h : MemEff fix stamp m ms r) :
    names (snap r.1) = names (snap m) := by
  cases h with
  | createTopic | delTopicUnlink => cases hl
  | createChan | delTopicBegin | delTopicChan | delChanBegin | delChanUnlink | pauseTopic | pauseChan =>
    exact names_modTopic _ _ _ (fun _ => ⟨rfl, rfl⟩)

theorem MemEff.stamp {stamp : Nat} (h : MemEff fix stamp m ms r) : ∀ x ∈ r.2.2, x.stamp = stamp := by
  cases h with
  | createTopic | createChan | delTopicBegin | delTopicChan | delChanBegin => exact List.forall_mem_nil _
  | delTopicUnlink | delChanUnlink =>
    intro x hx
    split at hx
    · cases List.mem_singleton.mp hx; rfl
    · cases hx
  | pauseTopic | pauseChan => intro x hx; cases List.mem_singleton.mp hx; rfl

/-- `p.since` is the index of the live state when the lock was taken. `owner`: a handler's own change is not after
it, which is what `Props.C06.ack_entry` reads off `done`. `pre`: what has been read is a prefix by names of the live
document, because only steps that need no nsqd lock run during a persist and they keep the names
(`MemEff.keeps_names`). -/
structure RunC (hist : List Mem) (mem : Mem) (p : Persist) : Prop where
  since : p.since < hist.length
  owner : ∀ h, p.owner = some h → h.stamp ≤ p.since
  done : ∀ e ∈ p.done, EntryFrom hist p.since e
  pre : names p.done <+: names (snap mem)

/-- `taken` is the statement of `Props.C06.snapshot_cut`; the other fields carry it through a running persist. -/
structure InvC (s : Sys β) : Prop where
  cur : s.alive = true → s.hist.getLast? = some s.mem
  queued : ∀ h ∈ s.handlers, h.stamp < s.hist.length
  run : ∀ p, s.persist = some p → RunC s.hist s.mem p
  taken : ∀ D ∈ s.taken, (∃ M ∈ s.hist, names D = names (snap M)) ∧ ∀ e ∈ D, ∃ M ∈ s.hist, e ∈ snap M

theorem invC_init : InvC (Sys.init : Sys β) :=
  ⟨nofun, List.forall_mem_nil _, onNone, List.forall_mem_nil _⟩

theorem hist_length_pos (h : InvC s) (ha : s.alive = true) : 0 < s.hist.length :=
  List.length_pos_of_mem (List.mem_of_getLast? (h.cur ha))

theorem RunC.begin (h : InvC s) (ha : s.alive = true) (o : Option Handler)
    (ho : ∀ x, o = some x → x ∈ s.handlers) : RunC s.hist s.mem ⟨o, [], .reading, 0, s.hist.length - 1⟩ :=
  have hlen := hist_length_pos h ha
  ⟨by show s.hist.length - 1 < _; omega,
   fun x hx => by have := h.queued x (ho x hx); show _ ≤ s.hist.length - 1; omega,
   List.forall_mem_nil _, List.nil_prefix⟩

theorem RunC.keep {mem : Mem} {p p' : Persist} (h : RunC hist mem p)
    (ho : p'.owner = p.owner) (hd : p'.done = p.done) (hs : p'.since = p.since) : RunC hist mem p' :=
  ⟨hs ▸ h.since, ho ▸ hs ▸ h.owner, hd ▸ hs ▸ h.done, hd ▸ h.pre⟩

theorem invC_ptrans (h : InvC s) (ha : s.alive = true) (ht : PTrans cd s ps s') : InvC s' := by
  cases ht with
  | beginNotify =>
    exact ⟨h.cur, h.queued, onSome (.begin h ha none onNone), h.taken⟩
  | @beginHandler i x _ hg =>
    exact ⟨h.cur, fun y hy => h.queued y (List.mem_of_mem_eraseIdx hy),
      onSome (.begin h ha (some x) (onSome (List.mem_of_getElem? hg))), h.taken⟩
  | @readMore p e hp hph he =>
    have hr := h.run p hp
    refine ⟨h.cur, h.queued, onSome ⟨hr.since, hr.owner, ?_, ?_⟩, h.taken⟩
    · intro x hx
      rcases List.mem_append.mp hx with hx | hx
      · exact hr.done x hx
      · cases List.mem_singleton.mp hx
        exact ⟨_, s.mem, Nat.le_sub_one_of_lt hr.since, List.getLast?_eq_getElem? ▸ h.cur ha,
          List.mem_of_getElem? he⟩
    · have hen : (names (snap s.mem))[(names p.done).length]? = some e.name := by
        rw [names, names, List.length_map, List.getElem?_map, he]; rfl
      have := prefix_snoc_getElem hr.pre hen
      rwa [names, ← List.map_singleton, ← List.map_append] at this
  | @readDone p hp _ he =>
    have hr := h.run p hp
    have hen : (names (snap s.mem))[(names p.done).length]? = none := by
      rw [names, names, List.length_map, List.getElem?_map, he]; rfl
    have hfull := prefix_full hr.pre hen
    refine ⟨h.cur, h.queued, onSome (hr.keep rfl rfl rfl), ?_⟩
    intro D hD
    rcases List.mem_append.mp hD with hD | hD
    · exact h.taken D hD
    · cases List.mem_singleton.mp hD
      refine ⟨⟨s.mem, List.mem_of_getLast? (h.cur ha), hfull⟩, fun e he' => ?_⟩
      obtain ⟨i, M, -, hi, hm⟩ := hr.done e he'
      exact ⟨M, List.mem_of_getElem? hi, hm⟩
  | advance hp had =>
    obtain ⟨ho, hd, hs, -⟩ := had.keeps
    exact ⟨h.cur, h.queued, onSome ((h.run _ hp).keep ho hd hs), h.taken⟩
  | rename hp =>
    exact ⟨h.cur, h.queued, onSome ((h.run _ hp).keep rfl rfl rfl), h.taken⟩
  | finish => exact ⟨h.cur, h.queued, onNone, h.taken⟩

theorem InvC.push (h : InvC s) (m : Mem) (hm : s'.mem = m)
    (hh : s'.hist = s.hist ++ [m]) (hhd : ∀ x ∈ s'.handlers, x.stamp ≤ s.hist.length)
    (hp : ∀ p, s'.persist = some p → s.persist = some p) (ht : s'.taken = s.taken)
    (hn : ∀ p, s'.persist = some p → names (snap m) = names (snap s.mem)) : InvC s' := by
  have hlen : s'.hist.length = s.hist.length + 1 := by rw [hh, List.length_append]; rfl
  refine ⟨fun _ => ?_, fun x hx => ?_, fun p hq => ?_, ?_⟩
  · rw [hh, hm]; exact List.getLast?_concat ..
  · rw [hlen]; exact Nat.lt_succ_of_le (hhd x hx)
  · have hr := h.run p (hp p hq)
    rw [hh, hm]
    exact ⟨by rw [← hh, hlen]; exact Nat.lt_succ_of_lt hr.since, hr.owner,
      fun e he => (hr.done e he).push m, hn p hq ▸ hr.pre⟩
  · rw [ht, hh]
    intro D hD
    obtain ⟨⟨M, hM, hn⟩, he⟩ := h.taken D hD
    refine ⟨⟨M, List.mem_append_left _ hM, hn⟩, fun e he' => ?_⟩
    obtain ⟨M', hM', hm⟩ := he e he'
    exact ⟨M', List.mem_append_left _ hM', hm⟩

theorem invC_step (h : InvC s) (hs : step cd fix s st = some s') : InvC s' := by
  cases step_inv hs with
  | locked | badFile => exact ⟨h.cur, h.queued, h.run, h.taken⟩
  | fresh | load =>
    -- `boot` starts without a running persist, whatever `s` had
    exact h.push _ rfl rfl (fun x hx => by cases List.mem_singleton.mp hx; exact Nat.le_refl _) onNone rfl onNone
  | kill | exitEnd => exact ⟨nofun, List.forall_mem_nil _, onNone, h.taken⟩
  | exitBegin ha =>
    refine ⟨h.cur, fun x hx => ?_, h.run, h.taken⟩
    rcases List.mem_append.mp hx with hx | hx
    · exact h.queued x hx
    · cases List.mem_singleton.mp hx
      exact Nat.sub_one_lt (Nat.ne_of_gt (hist_length_pos h ha))
  | @mem ms r ha hlock he =>
    refine h.push r.1 rfl rfl (fun x hx => ?_) (fun _ hp => hp) rfl (fun p hp => ?_)
    · rcases List.mem_append.mp hx with hx | hx
      · exact Nat.le_of_lt (h.queued x hx)
      · exact Nat.le_of_eq (he.stamp x hx)
    · cases hn : needsLock ms
      · exact he.keeps_names hn
      · exact nomatch (hlock hn).symm.trans hp
  | persist ha ht => exact invC_ptrans h ha ht

theorem reach_invC (h : Reach cd fix s) : InvC s :=
  reach_induct InvC invC_init (fun _ _ _ hi hs => invC_step hi hs) s h

end Nsq.Proofs.Meta
