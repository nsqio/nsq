import Nsq.Model.PubCounts
import Nsq.Proofs.Keyed
/-! For `Nsq.Props.C13Pub` (producer `pub_counts` in `/stats`): the loop `pubCountsOf` in both shapes (`unfiltered_*`,
`filtered_lookup`); `Rep m h`, what the map holds of the publish history `h`, kept by `publish`; `order_spec`, what every
iteration order of that map has. -/
namespace Nsq.Proofs.PubCounts
open Nsq.Model.PubCounts

theorem unfiltered_fixed (m : List (String × Nat)) : pubCountsOf true m "" = m := by
  induction m with
  | nil => simp [pubCountsOf]
  | cons e rest ih => obtain ⟨t, c⟩ := e; simp [pubCountsOf, ih]

theorem unfiltered_break (m : List (String × Nat)) : pubCountsOf false m "" = m.take 1 := by
  cases m with
  | nil => simp [pubCountsOf]
  | cons e rest => obtain ⟨t, c⟩ := e; simp [pubCountsOf]

theorem filtered_lookup (fixed : Bool) (m : List (String × Nat)) (t : String) (ht : t ≠ "") :
    pubCountsOf fixed m t = match m.lookup t with | some c => [(t, c)] | none => [] := by
  induction m with
  | nil => simp [pubCountsOf]
  | cons e rest ih =>
    obtain ⟨k, c⟩ := e
    by_cases hk : k = t
    · subst hk
      cases fixed <;> simp [pubCountsOf, ht, List.lookup]
    · have hk' : (t == k) = false := by simpa using fun h => hk h.symm
      simp [pubCountsOf, ht, hk, ih, List.lookup, hk']

theorem keys_cons (e : String × Nat) (m : List (String × Nat)) : keys (e :: m) = e.1 :: keys m := rfl

theorem mem_keys_publish (m : List (String × Nat)) (t : String) (n : Nat) (k : String) :
    k ∈ keys (publish m t n) ↔ k = t ∨ k ∈ keys m := by
  induction m with
  | nil => simp [publish, keys]
  | cons e rest ih =>
    obtain ⟨k0, c⟩ := e
    by_cases h0 : k0 = t
    · subst h0; simp [publish, keys]
    · simp only [publish, h0, if_false, keys_cons, List.mem_cons, ih]
      constructor
      · rintro (h | h | h) <;> simp [h]
      · rintro (h | h | h) <;> simp [h]

theorem nodup_publish (m : List (String × Nat)) (t : String) (n : Nat) (hm : (keys m).Nodup) :
    (keys (publish m t n)).Nodup := by
  induction m with
  | nil => simp [publish, keys]
  | cons e rest ih =>
    obtain ⟨k0, c⟩ := e
    rw [keys_cons, List.nodup_cons] at hm
    by_cases h0 : k0 = t
    · subst h0; simpa [publish, keys_cons, List.nodup_cons] using hm
    · have := ih hm.2
      simp [publish, h0, keys_cons, List.nodup_cons, mem_keys_publish, hm.1, this]

theorem total_cons (e : String × Nat) (m : List (String × Nat)) : total (e :: m) = e.2 + total m := by
  simp [total]

theorem publishedTo_cons (e : String × Nat) (m : List (String × Nat)) (k : String) :
    publishedTo (e :: m) k = (if e.1 = k then e.2 else 0) + publishedTo m k := by
  by_cases h : e.1 = k <;> simp [publishedTo, h, total_cons]

/-- stated for a selection `q` of topics: `total` selects every topic, `publishedTo · k` the topic `k` -/
theorem total_filter_publish (q : String → Bool) (m : List (String × Nat)) (t : String) (n : Nat) :
    total ((publish m t n).filter (fun e => q e.1)) = total (m.filter (fun e => q e.1)) + if q t then n else 0 := by
  induction m with
  | nil => cases h : q t <;> simp [publish, total, h]
  | cons e rest ih =>
    obtain ⟨k0, c⟩ := e
    by_cases h0 : k0 = t
    · subst h0
      cases h : q k0 <;> simp [publish, h, total_cons]; omega
    · simp only [publish, h0, if_false, List.filter_cons]
      cases q k0 <;> simp [total_cons, ih]; omega

/-- `m` holds what the history `h` published. A publish of 0 messages makes a key all the same, so the keys do not follow
from the counts. -/
def Rep (m h : List (String × Nat)) : Prop :=
  (keys m).Nodup ∧ (∀ k, k ∈ keys m ↔ k ∈ keys h) ∧
    ∀ q : String → Bool, total (m.filter fun e => q e.1) = total (h.filter fun e => q e.1)

theorem rep_publish {m h : List (String × Nat)} (r : Rep m h) (t : String) (n : Nat) :
    Rep (publish m t n) (h ++ [(t, n)]) :=
  ⟨nodup_publish m t n r.1,
   fun k => by rw [mem_keys_publish, r.2.1]; simp [keys, or_comm],
   fun q => by rw [total_filter_publish, r.2.2 q]; cases hq : q t <;> simp [List.filter_append, total, hq]⟩

theorem rep_mapFrom (h : List (String × Nat)) : ∀ {m d : List (String × Nat)}, Rep m d → Rep (mapFrom m h) (d ++ h) := by
  induction h with
  | nil => intro m d r; simpa [mapFrom] using r
  | cons e rest ih => intro m d r; simpa [mapFrom] using ih (rep_publish r e.1 e.2)

theorem rep_mapOf (h : List (String × Nat)) : Rep (mapOf h) h := by
  simpa [mapOf] using rep_mapFrom h (m := []) (d := []) ⟨List.nodup_nil, fun _ => Iff.rfl, fun _ => rfl⟩

/-- a Go map has distinct keys: so has the list the model builds. -/
theorem keys_nodup_mapOf (h : List (String × Nat)) : (keys (mapOf h)).Nodup := (rep_mapOf h).1

theorem total_perm {m m' : List (String × Nat)} (p : m.Perm m') : total m = total m' :=
  (p.map Prod.snd).sum_nat

theorem publishedTo_perm {m m' : List (String × Nat)} (p : m.Perm m') (k : String) :
    publishedTo m k = publishedTo m' k :=
  total_perm (p.filter _)

theorem keys_perm {m m' : List (String × Nat)} (p : m.Perm m') : (keys m).Perm (keys m') := p.map Prod.fst

theorem publishedTo_of_mem (m : List (String × Nat)) (hm : (keys m).Nodup) (k : String) (c : Nat)
    (hmem : (k, c) ∈ m) : publishedTo m k = c := by
  have : m.filter (fun e => e.1 = k) = [(k, c)] := Keyed.filter_key_of_mem (key := Prod.fst) hm hmem
  simp [publishedTo, total, this]

theorem mem_keys_iff (m : List (String × Nat)) (k : String) : k ∈ keys m ↔ ∃ c, (k, c) ∈ m := by
  simp [keys]

theorem mem_iff_publishedTo (m : List (String × Nat)) (hm : (keys m).Nodup) (k : String) (c : Nat) :
    (k, c) ∈ m ↔ k ∈ keys m ∧ c = publishedTo m k := by
  constructor
  · intro h
    exact ⟨(mem_keys_iff m k).2 ⟨c, h⟩, (publishedTo_of_mem m hm k c h).symm⟩
  · rintro ⟨hk, rfl⟩
    obtain ⟨c, hc⟩ := (mem_keys_iff m k).1 hk
    rw [publishedTo_of_mem m hm k c hc]; exact hc

theorem lookup_eq (m : List (String × Nat)) (hm : (keys m).Nodup) (k : String) :
    m.lookup k = if k ∈ keys m then some (publishedTo m k) else none := by
  induction m with
  | nil => simp [keys]
  | cons e rest ih =>
    obtain ⟨k0, c0⟩ := e
    have hm' := hm
    rw [keys_cons, List.nodup_cons] at hm
    by_cases h0 : k = k0
    · subst h0
      have : publishedTo ((k, c0) :: rest) k = c0 := publishedTo_of_mem _ hm' k c0 (List.mem_cons_self ..)
      simp [List.lookup, keys_cons, this]
    · have hb : (k == k0) = false := by simpa using h0
      have h0' : ¬ k0 = k := fun h => h0 h.symm
      simp [List.lookup, hb, ih hm.2, keys_cons, h0, publishedTo_cons, h0']

/-- `order`: `m` is an iteration order of the Go map that the publish history `h` builds -/
theorem order_spec {h m : List (String × Nat)} (order : m.Perm (mapOf h)) :
    (keys m).Nodup ∧ (∀ k, k ∈ keys m ↔ k ∈ keys h) ∧ (∀ k, publishedTo m k = publishedTo h k) ∧ total m = total h := by
  obtain ⟨hnd, hk, hq⟩ := rep_mapOf h
  refine ⟨(keys_perm order).nodup_iff.2 hnd, fun k => by rw [(keys_perm order).mem_iff, hk],
    fun k => by rw [publishedTo_perm order]; exact hq (· = k), ?_⟩
  have hall : ∀ l : List (String × Nat), l.filter (fun _ => true) = l := fun l => by simp
  simpa [total_perm order, hall] using hq fun _ => true

theorem union_of_filtered (fixed : Bool) (m : List (String × Nat)) (hm : (keys m).Nodup) (hne : "" ∉ keys m) :
    (keys m).flatMap (pubCountsOf fixed m) = m := by
  have h : ∀ e ∈ m, pubCountsOf fixed m e.1 = [e] := fun e he => by
    have hk : e.1 ∈ keys m := List.mem_map_of_mem he
    rw [filtered_lookup fixed m e.1 (fun h => hne (h ▸ hk)), lookup_eq m hm, if_pos hk, publishedTo_of_mem m hm e.1 e.2 he]
  rw [keys, List.flatMap_def, List.map_map, List.map_congr_left (f := pubCountsOf fixed m ∘ Prod.fst) (g := fun e => [e]) h,
    ← List.flatMap_def, List.flatMap_singleton']

end Nsq.Proofs.PubCounts
