import Nsq.Model.Wire
/-! C07: the byte formats of `Nsq.Model.Wire` with a fixed layout (big-endian fields, message envelope, frames, the MPUB
batch, the diskqueue record): for each a round trip (what the writer emits the reader returns) and, the diskqueue record apart, soundness (what the
reader accepts the writer emits). -/
namespace Nsq.Proofs.Wire
open Nsq.Model.Wire

theorem beBytes_length (w v : Nat) : (beBytes w v).length = w := by
  induction w generalizing v with
  | zero => simp [beBytes]
  | succ w ih => simp [beBytes, ih]

theorem foldl_be (b : Bytes) (acc : Nat) :
    b.foldl (fun acc x => acc * 256 + x.toNat) acc = acc * 256 ^ b.length + beVal b := by
  induction b generalizing acc with
  | nil => simp [beVal]
  | cons x b ih =>
    simp only [List.foldl_cons, beVal, List.length_cons]
    rw [ih, ih (0 * 256 + x.toNat)]
    simp only [Nat.zero_mul, Nat.zero_add, Nat.pow_succ, Nat.add_mul]
    rw [Nat.mul_assoc, Nat.mul_comm (256 ^ b.length) 256]
    omega

theorem beVal_append (a b : Bytes) : beVal (a ++ b) = beVal a * 256 ^ b.length + beVal b := by
  show List.foldl _ 0 (a ++ b) = _
  rw [List.foldl_append, foldl_be]
  rfl

theorem beVal_nil : beVal [] = 0 := rfl

theorem beVal_singleton (x : UInt8) : beVal [x] = x.toNat := by simp [beVal]

theorem beVal_beBytes (w v : Nat) : beVal (beBytes w v) = v % 256 ^ w := by
  induction w generalizing v with
  | zero => simp [beBytes, beVal, Nat.mod_one]
  | succ w ih =>
    simp only [beBytes]
    rw [beVal_append, beVal_singleton, ih]
    simp only [List.length_cons, List.length_nil, Nat.pow_succ, Nat.pow_zero]
    rw [UInt8.toNat_ofNat', Nat.mod_mod, Nat.mul_comm (256 ^ w) 256, Nat.mod_mul]
    omega

theorem beVal_beBytes_of_lt (w v : Nat) (h : v < 256 ^ w) : beVal (beBytes w v) = v := by
  rw [beVal_beBytes, Nat.mod_eq_of_lt h]

theorem beBytes_beVal (b : Bytes) : beBytes b.length (beVal b) = b := by
  -- `beBytes` peels the LAST byte: induction from the right end, over `b.reverse`
  rw [← List.reverse_reverse b]
  induction b.reverse with
  | nil => rfl
  | cons x r ih =>
    have hx := x.toNat_lt
    rw [List.reverse_cons]
    generalize r.reverse = b at ih ⊢
    simp only [List.length_append, List.length_cons, List.length_nil, beBytes]
    rw [beVal_append, beVal_singleton]
    simp only [List.length_cons, List.length_nil, Nat.pow_succ, Nat.pow_zero, Nat.one_mul]
    have h1 : (beVal b * 256 + x.toNat) / 256 = beVal b := by omega
    have h2 : (beVal b * 256 + x.toNat) % 256 = x.toNat := by omega
    rw [h1, h2, ih]
    simp [Nat.toUInt8]

theorem beVal_lt (b : Bytes) : beVal b < 256 ^ b.length := by
  have h := beVal_beBytes b.length (beVal b)
  rw [beBytes_beVal] at h
  rw [h]
  exact Nat.mod_lt _ (Nat.pow_pos (by decide))

theorem take_beBytes (w v : Nat) (r : Bytes) : (beBytes w v ++ r).take w = beBytes w v :=
  List.take_left' (beBytes_length w v)

theorem drop_beBytes (w v : Nat) (r : Bytes) : (beBytes w v ++ r).drop w = r :=
  List.drop_left' (beBytes_length w v)

theorem header_spec (s : Bytes) (w : Nat) (h : w ≤ s.length) :
    beBytes w (beVal (s.take w)) = s.take w ∧ beVal (s.take w) < 256 ^ w := by
  have hl : (s.take w).length = w := by rw [List.length_take]; omega
  have h1 := beBytes_beVal (s.take w)
  have h2 := beVal_lt (s.take w)
  rw [hl] at h1 h2
  exact ⟨h1, h2⟩

theorem take_drop_split (s : Bytes) (a b : Nat) :
    s.take a ++ ((s.drop a).take b ++ s.drop (a + b)) = s := by
  rw [← List.drop_drop, List.take_append_drop, List.take_append_drop]

theorem encode_length (m : Msg) (hid : m.id.length = 16) :
    (encode m).length = 26 + m.body.length := by
  simp only [encode, List.length_append, beBytes_length, hid]

theorem decode_encode (m : Msg) (hid : m.id.length = 16) : decode (encode m) = some m := by
  unfold decode
  rw [if_neg (by rw [encode_length m hid]; omega)]
  simp only [encode, List.append_assoc, take_beBytes, drop_beBytes]
  -- the literal offsets are split so that `← List.drop_drop` peels one header per step (here and in the proofs below)
  rw [show (10 : Nat) = 8 + 2 from rfl, show (26 : Nat) = 8 + 2 + 16 from rfl]
  simp only [← List.drop_drop, drop_beBytes, List.take_left' hid, List.drop_left' hid,
    beVal_beBytes_of_lt 8 _ m.ts.isLt, beVal_beBytes_of_lt 2 _ m.attempts.isLt, BitVec.ofNat_toNat, BitVec.setWidth_eq]

theorem decode_short (b : Bytes) (h : b.length < 26) : decode b = none := by
  simp [decode, h]

theorem encode_decode (b : Bytes) (m : Msg) (h : decode b = some m) :
    encode m = b ∧ m.id.length = 16 := by
  revert h
  fun_cases decode b
  case case1 => exact nofun
  case case2 hl =>
    intro h
    cases h
    obtain ⟨r8, l8⟩ := header_spec b 8 (by omega)
    obtain ⟨r2, l2⟩ := header_spec (b.drop 8) 2 (by rw [List.length_drop]; omega)
    refine ⟨?_, by rw [List.length_take, List.length_drop]; omega⟩
    simp only [encode, BitVec.toNat_ofNat, Nat.mod_eq_of_lt l8, Nat.mod_eq_of_lt l2, r8, r2, List.append_assoc]
    rw [show (26 : Nat) = 10 + 16 from rfl, ← List.drop_drop, List.take_append_drop,
      show (10 : Nat) = 8 + 2 from rfl, take_drop_split]

theorem encode_injective (m₁ m₂ : Msg) (h1 : m₁.id.length = 16) (h2 : m₂.id.length = 16)
    (h : encode m₁ = encode m₂) : m₁ = m₂ := by
  have a := decode_encode m₁ h1
  rw [h, decode_encode m₂ h2] at a
  exact (Option.some.inj a).symm

theorem int32Of_small (n : Nat) (h : n < 2147483648) : int32Of n = (n : Int) := by
  simp [int32Of, h]

theorem readFrame_encode (f : Frame) (rest : Bytes) (h : f.data.length + 4 < 2147483648) :
    readFrame (encodeFrame f ++ rest) = some (f, rest) := by
  unfold readFrame
  rw [show (8 : Nat) = 4 + 4 from rfl]
  simp only [encodeFrame, Nat.add_comm f.data.length 4, List.append_assoc, ← List.drop_drop, take_beBytes,
    drop_beBytes, beVal_beBytes_of_lt 4 (4 + f.data.length) (by omega), beVal_beBytes_of_lt 4 f.ftype.toNat f.ftype.isLt,
    int32Of_small _ (Nat.add_comm _ 4 ▸ h), List.length_append, beBytes_length, Nat.add_sub_cancel_left,
    List.take_left' rfl, List.drop_left' rfl]
  rw [if_neg (by omega), if_neg (by omega), if_neg (by omega), if_neg (by omega),
    BitVec.ofNat_toNat, BitVec.setWidth_eq]

theorem parseFrames_nil : parseFrames [] = some [] := by
  rw [parseFrames]; simp

theorem encodeFrame_ne_nil (f : Frame) : encodeFrame f ≠ [] := by
  intro h
  have := congrArg List.length h
  simp only [encodeFrame, List.length_append, beBytes_length, List.length_nil] at this
  omega

theorem parseFrames_cons (f : Frame) (rest : Bytes) (h : f.data.length + 4 < 2147483648) :
    parseFrames (encodeFrame f ++ rest) = (parseFrames rest).map (f :: ·) := by
  have hne : ¬ (encodeFrame f ++ rest).isEmpty = true := by
    rw [List.isEmpty_iff, List.append_eq_nil_iff]
    exact fun he => encodeFrame_ne_nil f he.1
  rw [parseFrames, if_neg hne]
  split
  next h2 => rw [readFrame_encode f rest h] at h2; contradiction
  next f' r' h2 =>
    rw [readFrame_encode f rest h] at h2
    cases h2
    rfl

theorem frame_stream_roundtrip (fs : List Frame) (h : ∀ f ∈ fs, f.data.length + 4 < 2147483648) :
    parseFrames (fs.map encodeFrame).flatten = some fs := by
  induction fs with
  | nil => simpa using parseFrames_nil
  | cons f fs ih =>
    simp only [List.map_cons, List.flatten_cons]
    rw [parseFrames_cons f _ (h f (by simp)), ih (fun g hg => h g (by simp [hg]))]
    rfl

theorem readFrame_sound (s r : Bytes) (f : Frame) (h : readFrame s = some (f, r)) :
    s = encodeFrame f ++ r := by
  revert h
  fun_cases readFrame s
  case case5 h4 hneg hlen hge =>
    intro h
    cases h
    rw [List.length_drop] at hlen
    obtain ⟨r1, l1⟩ := header_spec s 4 (by omega)
    obtain ⟨r2, l2⟩ := header_spec (s.drop 4) 4 (by rw [List.length_drop]; omega)
    have hd : ((s.drop 8).take (beVal (s.take 4) - 4)).length + 4 = beVal (s.take 4) := by
      rw [List.length_take, List.length_drop]; omega
    simp only [encodeFrame, BitVec.toNat_ofNat, hd, Nat.mod_eq_of_lt l2, r1, r2, List.append_assoc]
    rw [show 4 + beVal (s.take 4) = 8 + (beVal (s.take 4) - 4) by omega, ← List.drop_drop,
      List.take_append_drop, show (8 : Nat) = 4 + 4 from rfl, take_drop_split]
  all_goals exact nofun

theorem readLen_beBytes (n : Nat) (r : Bytes) (h : n < 2147483648) :
    readLen (beBytes 4 n ++ r) = some ((n : Int), r) := by
  unfold readLen
  rw [take_beBytes, drop_beBytes, beVal_beBytes_of_lt 4 _ (by omega), int32Of_small _ h, if_neg]
  simp only [List.length_append, beBytes_length]; omega

theorem readLen_pos (s r : Bytes) (n : Int) (h : readLen s = some (n, r)) (hp : 0 < n) :
    s = beBytes 4 n.toNat ++ r := by
  revert h
  fun_cases readLen s
  case case1 => exact nofun
  case case2 h4 =>
    intro h
    cases h
    obtain ⟨r1, l1⟩ := header_spec s 4 (by omega)
    have hv : (int32Of (beVal (s.take 4))).toNat = beVal (s.take 4) := by
      unfold int32Of at hp ⊢
      split at hp <;> omega
    rw [hv, r1, List.take_append_drop]

theorem mpubLoop_roundtrip (maxMsg : Int) (bs : List Bytes) (rest : Bytes) (acc : List Bytes)
    (hb : ∀ b ∈ bs, 0 < b.length ∧ (b.length : Int) ≤ maxMsg ∧ b.length < 2147483648) :
    mpubLoop maxMsg bs.length ((bs.map lp).flatten ++ rest) acc = .ok (acc ++ bs, rest) := by
  induction bs generalizing acc with
  | nil => simp [mpubLoop]
  | cons b bs ih =>
    obtain ⟨h0, h1, h2⟩ := hb b (by simp)
    have e : ((b :: bs).map lp).flatten ++ rest =
        beBytes 4 b.length ++ (b ++ ((bs.map lp).flatten ++ rest)) := by
      simp [lp]
    simp only [List.length_cons, mpubLoop]
    rw [e, readLen_beBytes _ _ h2]
    simp only [Int.toNat_natCast]
    rw [if_neg (by omega), if_neg (by omega),
      if_neg (by simp only [List.length_append]; omega),
      List.take_left' rfl, List.drop_left' rfl, ih _ (fun c hc => hb c (by simp [hc]))]
    simp

theorem mpub_roundtrip (bs : List Bytes) (rest : Bytes) (maxMsg maxBody : Int) (hne : bs ≠ [])
    (hb : ∀ b ∈ bs, 0 < b.length ∧ (b.length : Int) ≤ maxMsg ∧ b.length < 2147483648)
    (hc : (bs.length : Int) ≤ (maxBody - 4).tdiv 5) (hc31 : bs.length < 2147483648) :
    readMPUB (mpubBody bs ++ rest) maxMsg maxBody = .ok (bs, rest) := by
  have hpos : 0 < bs.length := List.length_pos_iff.mpr hne
  unfold readMPUB mpubBody
  rw [List.append_assoc, readLen_beBytes _ _ hc31]
  simp only [Int.toNat_natCast]
  rw [if_neg (by simp only [Bool.or_eq_true, decide_eq_true_eq]; omega),
    mpubLoop_roundtrip maxMsg bs rest [] hb]
  simp

theorem mpubLoop_sound (maxMsg : Int) (k : Nat) (s : Bytes) (acc bs : List Bytes) (rest : Bytes)
    (h : mpubLoop maxMsg k s acc = .ok (bs, rest)) :
    ∃ new, bs = acc ++ new ∧ new.length = k ∧ s = (new.map lp).flatten ++ rest ∧
      ∀ b ∈ new, 0 < b.length ∧ (b.length : Int) ≤ maxMsg := by
  revert h
  fun_induction mpubLoop maxMsg k s acc
  case case1 s acc => intro h; cases h; exact ⟨[], by simp⟩
  case case6 k s acc sz r hrl hsz hmax hlen ih =>
    intro h
    obtain ⟨new, e1, e2, e3, e4⟩ := ih h
    have p1 := readLen_pos s r sz hrl (by omega)
    have hl : (r.take sz.toNat).length = sz.toNat := by rw [List.length_take]; omega
    refine ⟨r.take sz.toNat :: new, by rw [e1, List.append_assoc]; rfl, by rw [List.length_cons, e2], ?_, ?_⟩
    · rw [List.map_cons, List.flatten_cons, lp, hl, List.append_assoc, List.append_assoc, ← e3,
        List.take_append_drop]
      exact p1
    · intro b hb
      rcases List.mem_cons.mp hb with rfl | hb
      · rw [hl]; omega
      · exact e4 b hb
  all_goals exact nofun

theorem mpub_sound (s : Bytes) (maxMsg maxBody : Int) (bs : List Bytes) (rest : Bytes)
    (h : readMPUB s maxMsg maxBody = .ok (bs, rest)) :
    s = mpubBody bs ++ rest ∧ bs ≠ [] ∧ (bs.length : Int) ≤ (maxBody - 4).tdiv 5 ∧
      ∀ b ∈ bs, 0 < b.length ∧ (b.length : Int) ≤ maxMsg := by
  unfold readMPUB at h
  split at h; · contradiction
  rename_i n r hrl
  split at h; · contradiction
  rename_i hn
  simp only [Bool.or_eq_true, decide_eq_true_eq, not_or] at hn
  obtain ⟨new, e1, e2, e3, e4⟩ := mpubLoop_sound _ _ _ _ _ _ h
  simp only [List.nil_append] at e1
  subst e1
  have p1 := readLen_pos s r n hrl (by omega)
  refine ⟨?_, ?_, ?_, e4⟩
  · rw [mpubBody, e2, List.append_assoc, ← e3]; exact p1
  · intro hnil; rw [hnil] at e2; simp only [List.length_nil] at e2; omega
  · rw [e2]; omega

theorem mpub_all_or_nothing (q : List Bytes) (s : Bytes) (maxMsg maxBody : Int) :
    ((mpubCmd q s maxMsg maxBody).2 ≠ none → (mpubCmd q s maxMsg maxBody).1 = q) ∧
    ((mpubCmd q s maxMsg maxBody).2 = none → ∃ bs rest,
      readMPUB s maxMsg maxBody = .ok (bs, rest) ∧ (mpubCmd q s maxMsg maxBody).1 = q ++ bs) := by
  unfold mpubCmd
  cases h : readMPUB s maxMsg maxBody with
  | error e => simp
  | ok v => exact ⟨by simp, fun _ => ⟨v.1, v.2, rfl, rfl⟩⟩

theorem dq_roundtrip (d rest : Bytes) (minSz maxSz : Nat) (h1 : minSz ≤ d.length)
    (h2 : d.length ≤ maxSz) (h3 : d.length < 2147483648) :
    dqRead minSz maxSz (dqRecord d ++ rest) = some (d, rest) := by
  unfold dqRead
  simp only [dqRecord, lp, List.append_assoc, ← List.drop_drop, take_beBytes, drop_beBytes,
    beVal_beBytes_of_lt 4 d.length (by omega), int32Of_small _ h3, List.length_append, beBytes_length,
    List.take_left' rfl, List.drop_left' rfl]
  rw [if_neg (by omega), if_neg (by omega), if_neg (by omega)]

end Nsq.Proofs.Wire
