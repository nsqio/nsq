import Nsq.Proofs.RegistryMap
import Nsq.Spec.RegistrySpec
/-! Every `RegistrationDB` method of the model is described by what it does to two observations, `has db k` (key exists) and
`getP db k id` (producer entry); each handler is refused or is one such update (`…_cases` for HTTP admin, `Handled` for TCP).
No well-formedness needed, except distinct keys where a reader walks the list (`mem_lookupRegistrations_iff`). -/
namespace Nsq.Proofs.RegistryDB
open Nsq.Model.Registry Nsq.Model.Registry.AMap Nsq.Proofs.RegistryMap Nsq.Spec.RegistrySpec

/-- one conjunction, so that `simp only [keyEq]` uses every part -/
theorem keyEq :
    (∀ a b, topicKey a = topicKey b ↔ a = b) ∧ (∀ a b c d, chanKey a b = chanKey c d ↔ a = c ∧ b = d) ∧
    (∀ a b c, topicKey a ≠ chanKey b c) ∧ (∀ a b c, chanKey b c ≠ topicKey a) ∧
    (∀ a, clientKey ≠ topicKey a) ∧ (∀ a, topicKey a ≠ clientKey) ∧
    (∀ a b, clientKey ≠ chanKey a b) ∧ (∀ a b, chanKey a b ≠ clientKey) := by
  simp [topicKey, chanKey, clientKey]

theorem isMatch_iff (k : Key) (cat : Cat) (key sub : Name) :
    isMatch k cat key sub = true ↔ k.cat = cat ∧ (key = star ∨ k.key = key) ∧ (sub = star ∨ k.sub = sub) := by
  simp only [isMatch, Bool.and_eq_true, Bool.or_eq_true, decide_eq_true_eq, and_assoc, eq_comm (a := cat)]

theorem cat_of_isMatch {k : Key} {cat : Cat} {key sub : Name} (h : isMatch k cat key sub = true) : k.cat = cat :=
  ((isMatch_iff ..).mp h).1

theorem isMatchKey (t : Name) :
    (∀ t', isMatch (topicKey t') .topic t [] = true ↔ tmatch t t') ∧
    (∀ t' c, isMatch (chanKey t' c) .channel t star = true ↔ tmatch t t') ∧
    (∀ t' sub, isMatch (topicKey t') .channel t sub = false) ∧ (∀ t' c sub, isMatch (chanKey t' c) .topic t sub = false) ∧
    (∀ sub, isMatch clientKey .topic t sub = false) ∧ (∀ sub, isMatch clientKey .channel t sub = false) := by
  unfold isMatch topicKey chanKey clientKey tmatch
  simp

/-! What the plain registry sees of an entry is `isSome` and `= some ⟨true, τ⟩`; these say what becomes of the two
when an entry is removed, marked, or added where there was none. -/

theorem ite_or {α : Type} {a b : Prop} [Decidable a] [Decidable b] (x y : α) :
    (if a ∨ b then x else y) = if a then x else if b then x else y := by
  by_cases ha : a <;> by_cases hb : b <;> simp [ha, hb]

theorem isSome_ite_none {α : Type} {c : Prop} [Decidable c] {x : Option α} :
    (if c then none else x).isSome = true ↔ x.isSome = true ∧ ¬ c := by
  by_cases h : c <;> simp [h]

theorem ite_none_eq_some {α : Type} {c : Prop} [Decidable c] {x : Option α} {v : α} :
    (if c then none else x) = some v ↔ x = some v ∧ ¬ c :=
  Option.ite_none_left_eq_some.trans And.comm

theorem ite_none_congr {α : Type} {c c' : Prop} [Decidable c] [Decidable c'] {x : Option α}
    (h : x.isSome = true → (c ↔ c')) : (if c then none else x) = if c' then none else x := by
  cases x with
  | none => simp
  | some v => simp only [h rfl]

theorem isSome_ite_map {α : Type} {c : Prop} [Decidable c] {x : Option α} {f : α → α} :
    (if c then x.map f else x).isSome = x.isSome := by
  by_cases h : c <;> simp [h]

theorem ite_map_const_eq_some {α : Type} {c : Prop} [Decidable c] {x : Option α} {v w : α} :
    (if c then x.map (fun _ => v) else x) = some w ↔ (c ∧ x.isSome = true ∧ w = v) ∨ (x = some w ∧ ¬ c) := by
  by_cases h : c <;> cases x <;> simp [h, eq_comm]

theorem isSome_ite_fill {α : Type} {c : Prop} [Decidable c] {x : Option α} {v : α} :
    (if c ∧ x = none then some v else x).isSome = true ↔ c ∨ x.isSome = true := by
  by_cases h : c <;> cases x <;> simp [h]

theorem ite_fill_eq_some {α : Type} {c : Prop} [Decidable c] {x : Option α} {v w : α} :
    (if c ∧ x = none then some v else x) = some w ↔ x = some w ∨ (c ∧ x = none ∧ v = w) := by
  by_cases h : c <;> cases x <;> simp [h]

theorem ite_fill_fill {α : Type} {a b : Prop} [Decidable a] [Decidable b] {x : Option α} {v : α} :
    (if a ∧ (if b ∧ x = none then some v else x) = none then some v else if b ∧ x = none then some v else x) =
      if (a ∨ b) ∧ x = none then some v else x := by
  by_cases ha : a <;> by_cases hb : b <;> cases x <;> simp [ha, hb]

theorem has_mset (db : DB) (k k' : Key) (pm : PMap) : has (mset db k pm) k' = true ↔ k' = k ∨ has db k' = true := by
  unfold has
  rw [mget_mset]
  by_cases h : k' = k <;> simp [h]

theorem getP_mset (db : DB) (k k' : Key) (pm : PMap) (q : Nat) :
    getP (mset db k pm) k' q = if k' = k then mget pm q else getP db k' q := by
  unfold getP
  rw [mget_mset]
  by_cases h : k' = k <;> simp [h]

theorem has_of_mget {db : DB} {k : Key} {pm : PMap} (h : mget db k = some pm) : has db k = true := by
  simp [has, h]

theorem getP_of_mget {db : DB} {k : Key} {pm : PMap} (h : mget db k = some pm) (q : Nat) : getP db k q = mget pm q := by
  simp [getP, h]

theorem getP_of_mget_none {db : DB} {k : Key} (h : mget db k = none) (q : Nat) : getP db k q = none := by
  simp [getP, h]

theorem has_of_getP (db : DB) (k : Key) (q : Nat) (h : (getP db k q).isSome = true) : has db k = true := by
  unfold getP at h
  cases hg : mget db k with
  | none => simp [hg] at h
  | some _ => exact has_of_mget hg

theorem has_mset_of_mget {db : DB} {k : Key} {pm0 : PMap} (h : mget db k = some pm0) (k' : Key) (pm : PMap) :
    has (mset db k pm) k' = has db k' := by
  rw [Bool.eq_iff_iff, has_mset]
  exact ⟨fun h' => h'.elim (fun e => e ▸ has_of_mget h) id, Or.inr⟩

theorem has_addRegistration (db : DB) (k k' : Key) :
    has (addRegistration db k) k' = true ↔ k' = k ∨ has db k' = true := by
  unfold addRegistration
  cases h : mget db k with
  | some pm => exact ⟨Or.inr, fun h' => h'.elim (fun e => e ▸ (has_of_mget h : has db k = true)) (fun x => x)⟩
  | none => exact has_mset db k k' []

theorem getP_addRegistration (db : DB) (k k' : Key) (id : Nat) :
    getP (addRegistration db k) k' id = getP db k' id := by
  unfold addRegistration
  cases h : mget db k with
  | some pm => rfl
  | none =>
    rw [getP_mset]
    by_cases hk : k' = k
    · subst hk; simp [getP_of_mget_none h]
    · simp [hk]

theorem has_addProducer (db : DB) (k k' : Key) (id : Nat) :
    has (addProducer db k id) k' = true ↔ k' = k ∨ has db k' = true := by
  unfold addProducer
  cases h : mget db k with
  | none => exact has_mset db k k' _
  | some pm =>
    have hk : has db k' = true ↔ k' = k ∨ has db k' = true :=
      ⟨Or.inr, fun h' => h'.elim (fun e => e ▸ has_of_mget h) (fun x => x)⟩
    simp only
    cases mget pm id with
    | some _ => exact hk
    | none => rw [has_mset_of_mget h]; exact hk

theorem getP_addProducer (db : DB) (k k' : Key) (id id' : Nat) :
    getP (addProducer db k id) k' id' =
      if (id' = id ∧ k' = k) ∧ getP db k' id' = none then some fresh else getP db k' id' := by
  unfold addProducer
  by_cases hk : k' = k
  · subst hk
    cases h : mget db k' with
    | none => by_cases hi : id' = id <;> simp [getP_mset, getP_of_mget_none h, mget_cons, hi]
    | some pm =>
      simp only [getP_of_mget h]
      cases h2 : mget pm id with
      | some tb => by_cases hi : id' = id <;> simp [getP_of_mget h, hi, h2]
      | none => by_cases hi : id' = id <;> simp [getP_mset, mget_mset, hi, h2]
  · simp only [hk, and_false, false_and, if_false]
    cases mget db k with
    | none => simp only [getP_mset, if_neg hk]
    | some pm =>
      simp only
      cases mget pm id with
      | some _ => rfl
      | none => simp only [getP_mset, if_neg hk]

theorem has_removeProducer (db : DB) (k k' : Key) (id : Nat) :
    has (removeProducer db k id) k' = has db k' := by
  unfold removeProducer
  cases h : mget db k with
  | none => rfl
  | some pm => exact has_mset_of_mget h k' _

theorem getP_removeProducer (db : DB) (k k' : Key) (id id' : Nat) :
    getP (removeProducer db k id) k' id' = if id' = id ∧ k' = k then none else getP db k' id' := by
  unfold removeProducer
  cases h : mget db k with
  | none =>
    by_cases hk : k' = k
    · subst hk; simp [getP_of_mget_none h]
    · simp [hk]
  | some pm =>
    rw [getP_mset]
    by_cases hk : k' = k
    · subst hk
      simp only [and_true, if_true, mget_mdel, getP_of_mget h]
    · simp [hk]

theorem has_removeRegistration (db : DB) (k k' : Key) :
    has (removeRegistration db k) k' = true ↔ has db k' = true ∧ k' ≠ k := by
  unfold removeRegistration has
  rw [mget_mdel]
  by_cases hk : k' = k <;> simp [hk]

theorem getP_removeRegistration (db : DB) (k k' : Key) (id : Nat) :
    getP (removeRegistration db k) k' id = if k' = k then none else getP db k' id := by
  unfold removeRegistration getP
  rw [mget_mdel]
  by_cases hk : k' = k <;> simp [hk]

theorem left_zero_iff (db : DB) (k : Key) (id : Nat) :
    leftAfterRemove db k id = 0 ↔ ∀ q, (getP db k q).isSome = true → q = id := by
  unfold leftAfterRemove
  cases h : mget db k with
  | none => simp [getP_of_mget_none h]
  | some pm =>
    simp only [getP_of_mget h, List.length_eq_zero_iff, eq_nil_iff_mget, mget_mdel]
    refine forall_congr' fun q => ?_
    by_cases hq : q = id <;> cases mget pm q <;> simp [hq]

theorem has_removeProducerAll (db : DB) (ks : List Key) (id : Nat) (k' : Key) :
    has (removeProducerAll db ks id) k' = has db k' := by
  unfold removeProducerAll
  induction ks generalizing db with
  | nil => rfl
  | cons k ks ih => rw [List.foldl_cons, ih, has_removeProducer]

theorem getP_removeProducerAll (db : DB) (ks : List Key) (id : Nat) (k' : Key) (id' : Nat) :
    getP (removeProducerAll db ks id) k' id' = if id' = id ∧ k' ∈ ks then none else getP db k' id' := by
  unfold removeProducerAll
  induction ks generalizing db with
  | nil => simp
  | cons k ks ih =>
    rw [List.foldl_cons, ih, getP_removeProducer]
    simp only [List.mem_cons, and_or_left, or_comm (a := id' = id ∧ k' = k), ite_or]

theorem has_removeRegistrations (db : DB) (ks : List Key) (k' : Key) :
    has (removeRegistrations db ks) k' = true ↔ has db k' = true ∧ k' ∉ ks := by
  unfold removeRegistrations
  induction ks generalizing db with
  | nil => simp
  | cons k ks ih =>
    rw [List.foldl_cons, ih, has_removeRegistration, List.mem_cons, not_or, and_assoc, and_comm (a := k' ≠ k)]

theorem getP_removeRegistrations (db : DB) (ks : List Key) (k' : Key) (id : Nat) :
    getP (removeRegistrations db ks) k' id = if k' ∈ ks then none else getP db k' id := by
  unfold removeRegistrations
  induction ks generalizing db with
  | nil => simp
  | cons k ks ih =>
    rw [List.foldl_cons, ih, getP_removeRegistration]
    simp only [List.mem_cons, or_comm (a := k' = k), ite_or]

theorem isMatch_exact (k : Key) (cat : Cat) (key sub : Name) (h : needFilter key sub = false) :
    isMatch k cat key sub = true ↔ k = ⟨cat, key, sub⟩ := by
  unfold needFilter at h
  simp only [Bool.or_eq_false_iff, decide_eq_false_iff_not] at h
  cases k
  simp only [isMatch_iff, h.1, h.2, false_or, Key.mk.injEq]

theorem isMatch_exactKey (k : Key) (t c : Name) (ht : t ≠ star) (hc : c ≠ star) :
    isMatch k .channel t c = true ↔ k = chanKey t c :=
  isMatch_exact k .channel t c (by simp [needFilter, ht, hc])

theorem star_ne_nil : star ≠ [] := by decide

theorem isMatch_topic_star (k : Key) : isMatch k .topic star [] = true ↔ k = topicKey k.key := by
  cases k
  simp [isMatch_iff, topicKey, star_ne_nil]

theorem isMatch_chan_star (k : Key) (t : Name) (ht : t ≠ star) :
    isMatch k .channel t star = true ↔ k = chanKey t k.sub := by
  cases k
  simp [isMatch_iff, chanKey, ht]

theorem mem_findRegistrations (db : DB) (cat : Cat) (key sub : Name) (k : Key) :
    k ∈ findRegistrations db cat key sub ↔ has db k = true ∧ isMatch k cat key sub = true := by
  unfold findRegistrations
  cases hf : needFilter key sub with
  | true =>
    simp only [if_true, List.mem_filter, mem_mkeys_iff, has]
  | false =>
    simp only [Bool.false_eq_true, if_false]
    rw [isMatch_exact k cat key sub hf]
    cases hg : mget db ⟨cat, key, sub⟩ with
    | some pm =>
      simp only [List.mem_singleton]
      exact ⟨fun h => ⟨h ▸ has_of_mget hg, h⟩, fun h => h.2⟩
    | none =>
      simp only [List.not_mem_nil, false_iff, not_and]
      rintro h1 rfl
      simp [has, hg] at h1

theorem findRegistrations_isEmpty (db : DB) (cat : Cat) (key sub : Name) :
    (findRegistrations db cat key sub).isEmpty = true ↔ ∀ k, has db k = true → ¬ isMatch k cat key sub = true := by
  rw [List.isEmpty_iff, List.eq_nil_iff_forall_not_mem]
  simp only [mem_findRegistrations, not_and]

/-! A removal over `findRegistrations` acts on exactly the matching keys: a key that does not exist has no entry to lose. -/

theorem getP_removeProducerAll_find (db : DB) (cat : Cat) (key sub : Name) (id : Nat) (k' : Key) (id' : Nat) :
    getP (removeProducerAll db (findRegistrations db cat key sub) id) k' id' =
      if id' = id ∧ isMatch k' cat key sub = true then none else getP db k' id' := by
  rw [getP_removeProducerAll]
  exact ite_none_congr fun hs => by simp only [mem_findRegistrations, has_of_getP db k' id' hs, true_and]

theorem has_removeRegistrations_find (db : DB) (cat : Cat) (key sub : Name) (k' : Key) :
    has (removeRegistrations db (findRegistrations db cat key sub)) k' = true ↔
      has db k' = true ∧ ¬ isMatch k' cat key sub = true := by
  simp only [has_removeRegistrations, mem_findRegistrations]
  cases has db k' <;> simp

theorem getP_removeRegistrations_find (db : DB) (cat : Cat) (key sub : Name) (k' : Key) (id : Nat) :
    getP (removeRegistrations db (findRegistrations db cat key sub)) k' id =
      if isMatch k' cat key sub = true then none else getP db k' id := by
  rw [getP_removeRegistrations]
  exact ite_none_congr fun hs => by simp only [mem_findRegistrations, has_of_getP db k' id hs, true_and]

theorem mem_lookupRegistrations_of (db : DB) (id : Nat) (k : Key) (h : (getP db k id).isSome = true) :
    k ∈ lookupRegistrations db id := by
  unfold lookupRegistrations
  cases hg : mget db k with
  | none => simp [getP_of_mget_none hg] at h
  | some pm =>
    rw [getP_of_mget hg] at h
    exact List.mem_map.mpr ⟨(k, pm), List.mem_filter.mpr ⟨mget_mem db k pm hg, h⟩, rfl⟩

theorem mem_lookupRegistrations_iff (db : DB) (id : Nat) (k : Key) (hn : (mkeys db).Nodup) :
    k ∈ lookupRegistrations db id ↔ (getP db k id).isSome = true := by
  refine ⟨fun h => ?_, mem_lookupRegistrations_of db id k⟩
  obtain ⟨e, he, rfl⟩ := List.mem_map.mp h
  obtain ⟨he, hs⟩ := List.mem_filter.mp he
  rw [getP_of_mget (mget_of_mem_nodup db e.1 e.2 hn he)]
  exact hs

/-! What `removeProducer` leaves of what the readers read (for `Nsq.Props.C14Unreg`). -/

theorem mkeys_removeProducer (db : DB) (k : Key) (p : Nat) : mkeys (removeProducer db k p) = mkeys db := by
  unfold removeProducer
  cases h : mget db k with
  | none => rfl
  | some pm =>
    have : k ∈ mkeys db := (mem_mkeys_iff db k).mpr (by simp [h])
    simp [mkeys_mset, this]

theorem mget_removeProducer_ne (db : DB) (k k' : Key) (p : Nat) (h : k ≠ k') :
    mget (removeProducer db k p) k' = mget db k' := by
  unfold removeProducer
  cases hg : mget db k with
  | none => rfl
  | some pm => simp [mget_mset, Ne.symm h]

theorem findRegistrations_removeProducer (db : DB) (k : Key) (p : Nat) (cat : Cat) (key sub : Name) :
    findRegistrations (removeProducer db k p) cat key sub = findRegistrations db cat key sub := by
  unfold findRegistrations
  rw [mkeys_removeProducer]
  -- the exact-key path asks only whether the key exists
  have hh : (mget (removeProducer db k p) ⟨cat, key, sub⟩).isSome = (mget db ⟨cat, key, sub⟩).isSome :=
    has_removeProducer db k _ p
  cases h1 : mget (removeProducer db k p) ⟨cat, key, sub⟩ <;> cases h2 : mget db ⟨cat, key, sub⟩ <;> simp_all

theorem topicsOf_mset (db : DB) (k : Key) (v : PMap) (id : Nat) (hk : isMatch k .topic star [] = false) :
    topicsOf (mset db k v) id = topicsOf db id := by
  have e : ∀ d : DB, topicsOf d id =
      (d.filter (fun e => isMatch e.1 .topic star [] && (mget e.2 id).isSome)).map (·.1.key) := by
    intro d
    simp only [topicsOf, lookupRegistrations, List.filter_map, List.filter_filter, List.map_map]
    rfl
  rw [e, e, filter_mset _ _ _ _ (by simp [hk])]

theorem topicsOf_removeProducer (db : DB) (k : Key) (p id : Nat) (hk : k.cat = .channel) :
    topicsOf (removeProducer db k p) id = topicsOf db id := by
  unfold removeProducer
  cases mget db k with
  | none => rfl
  | some pm => exact topicsOf_mset db k _ id (by simp [isMatch, hk])

theorem producersOf_removeProducer (db : DB) (k k' : Key) (p : Nat) (h : k ≠ k') :
    producersOf (removeProducer db k p) k' = producersOf db k' := by
  unfold producersOf; rw [mget_removeProducer_ne db k k' p h]

theorem validName_ne_star (t : Name) (h : validName t = true) : t ≠ star := by
  rintro rfl; revert h; decide

theorem getTopicChan_ok (cmd : String) (params : List Name) (tc : TopicChan)
    (h : getTopicChan cmd params = .ok tc) :
    validName tc.topic = true ∧ (tc.chan ≠ [] → validName tc.chan = true) := by
  unfold getTopicChan at h
  cases params with
  | nil => cases h
  | cons t rest =>
    simp only at h
    split at h
    · cases h
    · split at h
      · cases h
      · rename_i h1 h2
        cases h
        exact ⟨by simpa using h1, fun hc => by simpa [hc] using h2⟩

theorem getTopicChannelArgs_cases (a : HttpArgs) :
    (∃ t c, a.topic = some t ∧ a.channel = some c ∧ validName t = true ∧ validName c = true ∧
      getTopicChannelArgs a = .ok ⟨t, c⟩) ∨ ∃ m, getTopicChannelArgs a = .error (.err 400 m) := by
  unfold getTopicChannelArgs
  cases a.topic with
  | none => exact Or.inr ⟨_, rfl⟩
  | some t =>
    simp only
    cases ht : validName t with
    | false => exact Or.inr ⟨_, rfl⟩
    | true =>
      cases a.channel with
      | none => exact Or.inr ⟨_, rfl⟩
      | some c =>
        simp only
        cases hc : validName c with
        | false => exact Or.inr ⟨_, rfl⟩
        | true => exact Or.inl ⟨t, c, rfl, rfl, ht, hc, rfl⟩

theorem getTopicChannelArgs_ok (a : HttpArgs) (tc : TopicChan) (h : getTopicChannelArgs a = .ok tc) :
    a.topic = some tc.topic ∧ a.channel = some tc.chan ∧ validName tc.topic = true ∧ validName tc.chan = true := by
  rcases getTopicChannelArgs_cases a with ⟨t, c, ht, hc, hvt, hvc, e⟩ | ⟨m, e⟩
  · rw [e] at h; cases h; exact ⟨ht, hc, hvt, hvc⟩
  · rw [e] at h; cases h

/-- an HTTP admin call answered 400 or 404: the registry is as before -/
def Refused (r : Registry) (x : Registry × HttpOut) : Prop :=
  x.1 = r ∧ ∃ st m, x.2 = .err st m ∧ (st = 400 ∨ st = 404)

theorem Refused.of_400 (r : Registry) (m : String) : Refused r (r, .err 400 m) := ⟨rfl, _, _, rfl, Or.inl rfl⟩

theorem Refused.ne_ok {r : Registry} {x : Registry × HttpOut} (h : Refused r x) : x.2 ≠ .ok := by
  obtain ⟨_, st, m, e, _⟩ := h
  rw [e]; exact nofun

theorem createTopic_cases (r : Registry) (a : HttpArgs) :
    (∃ t, a.topic = some t ∧ createTopic r a = ({ r with db := addRegistration r.db (topicKey t) }, .ok)) ∨
      Refused r (createTopic r a) := by
  fun_cases createTopic r a
  case case4 _ t ht _ => exact Or.inl ⟨t, ht, rfl⟩
  all_goals exact Or.inr (.of_400 r _)

theorem deleteTopic_cases (r : Registry) (a : HttpArgs) :
    (∃ t, a.topic = some t ∧ deleteTopic r a = ({ r with db := deleteTopicDB r.db t }, .ok)) ∨
      Refused r (deleteTopic r a) := by
  fun_cases deleteTopic r a
  case case3 _ t ht => exact Or.inl ⟨t, ht, rfl⟩
  all_goals exact Or.inr (.of_400 r _)

theorem createChannel_cases (r : Registry) (a : HttpArgs) :
    (∃ t c, a.topic = some t ∧ a.channel = some c ∧
      createChannel r a = ({ r with db := addRegistration (addRegistration r.db (chanKey t c)) (topicKey t) }, .ok)) ∨
      Refused r (createChannel r a) := by
  unfold createChannel
  cases a.badQuery with
  | true => exact Or.inr (.of_400 r _)
  | false =>
    rcases getTopicChannelArgs_cases a with ⟨t, c, ht, hc, _, _, e⟩ | ⟨m, e⟩
    · rw [e]; exact Or.inl ⟨t, c, ht, hc, rfl⟩
    · rw [e]; exact Or.inr (.of_400 r m)

theorem deleteChannel_cases (r : Registry) (a : HttpArgs) :
    (∃ t c, a.topic = some t ∧ a.channel = some c ∧ t ≠ star ∧ c ≠ star ∧
      deleteChannel r a = ({ r with db := removeRegistrations r.db (findRegistrations r.db .channel t c) }, .ok)) ∨
      Refused r (deleteChannel r a) := by
  unfold deleteChannel
  cases a.badQuery with
  | true => exact Or.inr (.of_400 r _)
  | false =>
    rcases getTopicChannelArgs_cases a with ⟨t, c, ht, hc, hvt, hvc, e⟩ | ⟨m, e⟩
    · rw [e]
      simp only [Bool.false_eq_true, if_false]
      cases (findRegistrations r.db .channel t c).isEmpty with
      | true => exact Or.inr ⟨rfl, _, _, rfl, Or.inr rfl⟩
      | false => exact Or.inl ⟨t, c, ht, hc, validName_ne_star t hvt, validName_ne_star c hvc, rfl⟩
    · rw [e]; exact Or.inr (.of_400 r m)

theorem tombstone_cases (r : Registry) (a : HttpArgs) (now : Int) :
    (∃ t node, a.topic = some t ∧ a.node = some node ∧
      tombstone r a now = ({ r with db := tombstoneDB r t node now }, .ok)) ∨ Refused r (tombstone r a now) := by
  fun_cases tombstone r a now
  case case4 _ t ht node hn => exact Or.inl ⟨t, node, ht, hn, rfl⟩
  all_goals exact Or.inr (.of_400 r _)

/-- The counterpart of `Refused` and the `…_cases` for a TCP handler of connection `p`. `c ≠ .badProtocol` leaves the four codes
that `Handled.reply` calls documented. `registered` keeps the guard `identifiedB r p = true` of the handler because `WF.peerKnown`
needs it of the new entry (`Handled.wf`); `UNREGISTER` has the same guard, and nothing needs it of a removal. -/
inductive Handled (r : Registry) (p : Nat) : Registry → TcpOut → Prop
  | refused (c : Code) (m : List UInt8) : c ≠ .badProtocol → Handled r p r (.err c m)
  | closed (c : Code) (m : List UInt8) : c ≠ .badProtocol → Handled r p (disconnect r p) (.err c m)
  | ping (now : Int) : Handled r p (ping r p now) .ok
  | identified (info : Info) (now : Int) : Handled r p ⟨addProducer r.db clientKey p, mset r.peers p ⟨now, info⟩⟩ .identified
  | registered (tc : TopicChan) : identifiedB r p = true → Handled r p { r with db := registerDB r.db p tc } .ok
  | unregistered (tc : TopicChan) : Handled r p { r with db := unregisterDB r.db p tc } .ok

theorem getTopicChan_error {cmd : String} {params : List Name} {e : TcpOut} (h : getTopicChan cmd params = .error e) :
    ∃ c m, e = .err c m ∧ c ≠ .badProtocol := by
  revert h
  fun_cases getTopicChan cmd params
  case case1 => rintro ⟨⟩; exact ⟨_, _, rfl, nofun⟩
  case case2 => rintro ⟨⟩; exact ⟨_, _, rfl, nofun⟩
  case case3 hc => rw [if_pos hc]; rintro ⟨⟩; exact ⟨_, _, rfl, nofun⟩
  case case4 hc => rw [if_neg hc]; exact nofun

theorem identify_handled (r : Registry) (p : Nat) (info : Info) (now : Int) :
    Handled r p (identify r p info now).1 (identify r p info now).2 := by
  fun_cases identify r p info now
  · exact .closed _ _ nofun
  · exact .refused _ _ nofun
  · exact .identified info now

theorem register_handled (r : Registry) (p : Nat) (params : List Name) :
    Handled r p (register r p params).1 (register r p params).2 := by
  fun_cases register r p params
  case case1 => exact .refused _ _ nofun
  case case2 he => obtain ⟨c, m, rfl, hc⟩ := getTopicChan_error he; exact .closed c m hc
  case case3 hi tc _ => exact .registered tc (by simpa using hi)

theorem unregister_handled (r : Registry) (p : Nat) (params : List Name) :
    Handled r p (unregister r p params).1 (unregister r p params).2 := by
  fun_cases unregister r p params
  case case1 => exact .refused _ _ nofun
  case case2 he => obtain ⟨c, m, rfl, hc⟩ := getTopicChan_error he; exact .closed c m hc
  case case3 tc _ => exact .unregistered tc

end Nsq.Proofs.RegistryDB
