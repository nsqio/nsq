import Nsq.Model.InFlight
/-
C08 micro-step model (Model/InFlight.lean).  One statement per heap operation: called inside the array it yields a
heap (it never leaves the bounds and the fuel given by the callers suffices, hence no panic of the patched code), and
that heap has the right contents and, if the index fields were right (`IndexOK`), has them right again (`Same` for
`swap` / `up` / `down`, `HandsOut` for `pop` / `remove`).  The existence half holds from any state, the rest is read
off a known result with `of_some`.  Then the micro-steps as a relation (`Trans`), on which the invariants of this file,
Proofs/InFlightEmpty.lean and Proofs/InFlightQuiesce.lean are proved.
-/
namespace Nsq.Proofs.InFlight
open Nsq.Model.InFlight

theorem swap_eq (s : HS) (i j : Nat) (hi : i < s.pq.length) (hj : j < s.pq.length) :
    swap s i j = some { objs := setIndex (setIndex s.objs (s.pq[j]) i) (s.pq[i]) j,
                        pq := (s.pq.set i (s.pq[j])).set j (s.pq[i]) } := by
  unfold swap
  simp [hi, hj]

theorem swap_none (s : HS) (i j : Nat) (h : ¬ (i < s.pq.length ∧ j < s.pq.length)) :
    swap s i j = none := by
  unfold swap
  simp [h]

theorem of_some {α : Type} {r : Option α} {P : α → Prop} {a : α} (h : ∃ b, r = some b ∧ P b) (e : r = some a) :
    P a := by
  obtain ⟨b, hb, hP⟩ := h
  cases hb.symm.trans e
  exact hP

theorem indexOK_inj {h : HS} (ok : IndexOK h) {i j : Nat} (hi : i < h.pq.length) (hj : j < h.pq.length)
    (e : h.pq[i] = h.pq[j]) : i = j := by
  have a := ok i hi
  have b := ok j hj
  rw [e] at a
  rw [a] at b
  exact Int.ofNat.inj b

structure Same (m : Nat) (s s' : HS) : Prop where
  perm : s'.pq.Perm s.pq
  frame : ∀ k, m ≤ k → s'.pq[k]? = s.pq[k]?
  ok : IndexOK s → IndexOK s'

theorem Same.refl {m : Nat} {s : HS} : Same m s s := ⟨.refl _, fun _ _ => rfl, id⟩

theorem Same.trans {m : Nat} {s s1 s2 : HS} (h1 : Same m s s1) (h2 : Same m s1 s2) : Same m s s2 :=
  ⟨h2.perm.trans h1.perm, fun k hk => (h2.frame k hk).trans (h1.frame k hk), h2.ok ∘ h1.ok⟩

theorem swap_same (s : HS) (i j m : Nat) (hm : m ≤ s.pq.length) (him : i < m) (hjm : j < m) :
    ∃ s', swap s i j = some s' ∧ Same m s s' ∧ s'.pq[j]? = s.pq[i]? := by
  have hi : i < s.pq.length := Nat.lt_of_lt_of_le him hm
  have hj : j < s.pq.length := Nat.lt_of_lt_of_le hjm hm
  refine ⟨_, swap_eq s i j hi hj, ⟨List.set_set_perm hi hj, fun k hk => ?_, fun ok k hk => ?_⟩, ?_⟩
  · simp only [List.getElem?_set]
    rw [if_neg (by omega), if_neg (by omega)]
  -- under `IndexOK` distinct slots hold distinct objects (`indexOK_inj`), so the two index writes hit slots `i` and `j` only
  · simp only [List.length_set] at hk
    simp only [List.getElem_set]
    by_cases hkj : j = k
    · subst hkj
      simp [setIndex]
    · simp only [hkj, if_false]
      by_cases hki : i = k
      · subst hki
        simp only [if_true]
        have hne : s.pq[j] ≠ s.pq[i] := fun e => hkj (indexOK_inj ok hj hi e)
        simp [setIndex, hne]
      · simp only [hki, if_false]
        have h1 : s.pq[k] ≠ s.pq[i] := fun e => hki (indexOK_inj ok hk hi e).symm
        have h2 : s.pq[k] ≠ s.pq[j] := fun e => hkj (indexOK_inj ok hk hj e).symm
        simp [setIndex, h1, h2]
        exact ok k hk
  · simp [hi, hj]

theorem parent_le (j : Nat) : (j - 1) / 2 ≤ j := Nat.le_trans (Nat.div_le_self ..) (Nat.sub_le ..)

theorem up_same (fuel : Nat) (s : HS) (j m : Nat) (hm : m ≤ s.pq.length) (hjm : j < m) (hf : j < fuel) :
    ∃ s', up fuel s j = some s' ∧ Same m s s' := by
  fun_induction up fuel s j with
  | case1 => cases hf
  | case2 | case3 => exact ⟨_, rfl, .refl⟩
  | case4 _ s j _ hb _ hs => rw [swap_eq s _ j hb.2 hb.1] at hs; cases hs
  | case5 _ s j hne hb _ s1 hs ih =>
    -- the parent's slot is strictly below `j`, so below `m` and within the fuel as well
    have hp := Nat.lt_of_le_of_ne (parent_le j) hne
    have m1 := (of_some (swap_same s _ j m hm (Nat.lt_trans hp hjm) hjm) hs).1
    obtain ⟨s', e, m2⟩ := ih (m1.perm.length_eq ▸ hm) (Nat.lt_trans hp hjm)
      (Nat.lt_of_lt_of_le hp (Nat.le_of_lt_succ hf))
    exact ⟨s', e, m1.trans m2⟩
  | case6 _ _ _ _ hb =>
    have hj := Nat.lt_of_lt_of_le hjm hm
    exact absurd ⟨hj, Nat.lt_of_le_of_lt (parent_le _) hj⟩ hb

theorem pickChild_some (s : HS) (j1 n : Nat) (h1 : j1 < n) (hn : n ≤ s.pq.length) :
    ∃ j, pickChild s j1 n = some j ∧ j < n ∧ j1 ≤ j := by
  fun_cases pickChild s j1 n with
  | case1 | case2 | case4 => exact ⟨_, rfl, by omega, by omega⟩
  | case3 | case5 => omega

theorem down_same (fuel : Nat) (s : HS) (i n : Nat) (hn : n ≤ s.pq.length) (hf : n - i < fuel) :
    ∃ s', down fuel s i n = some s' ∧ Same n s s' := by
  fun_induction down fuel s i n with
  | case1 => omega
  | case2 | case4 => exact ⟨_, rfl, .refl⟩
  | case3 _ s i n h0 hp =>
    obtain ⟨_, e, _⟩ := pickChild_some s (2 * i + 1) n (by omega) hn
    rw [hp] at e; cases e
  | case5 _ s i _ _ j _ hb _ hs => rw [swap_eq s i j hb.2 hb.1] at hs; cases hs
  | case6 _ s i n h0 j hp hb _ s1 hs ih =>
    have hj := of_some (pickChild_some s _ n (by omega) hn) hp
    have m1 := (of_some (swap_same s i j n hn (by omega) hj.1) hs).1
    rw [← m1.perm.length_eq] at hn
    obtain ⟨s', e, m2⟩ := ih hn (by omega)
    exact ⟨s', e, m1.trans m2⟩
  | case7 _ s i n h0 j hp hb =>
    have := of_some (pickChild_some s _ n (by omega) hn) hp
    omega

theorem push_spec (s : HS) (x : Nat) :
    ∃ s', push s x = some s' ∧ (∀ y, y ∈ s'.pq ↔ y = x ∨ y ∈ s.pq) ∧ (IndexOK s → x ∉ s.pq → IndexOK s') := by
  obtain ⟨s', e, m⟩ := up_same (s.pq.length + 1) { objs := setIndex s.objs x s.pq.length, pq := s.pq ++ [x] }
    s.pq.length (s.pq.length + 1) (by simp) (by omega) (by omega)
  refine ⟨s', e, fun y => ?_, fun ok hx => m.ok fun k hk => ?_⟩
  · rw [m.perm.mem_iff]
    simp [or_comm]
  · simp only [List.length_append, List.length_singleton] at hk
    by_cases hkl : k < s.pq.length
    · have : (s.pq ++ [x])[k] = s.pq[k] := List.getElem_append_left hkl
      simp only [this]
      have hne : s.pq[k] ≠ x := fun e => hx (e ▸ List.getElem_mem hkl)
      simp [setIndex, hne]
      exact ok k hkl
    · have hke : k = s.pq.length := by omega
      subst hke
      simp [setIndex]

structure HandsOut (s : HS) (k : Nat) (r : HS × Nat) : Prop where
  ok : IndexOK r.1
  idx : (r.1.objs r.2).index = -1
  gone : r.2 ∉ r.1.pq
  slot : s.pq[k]? = some r.2
  mem : ∀ y, y ∈ r.1.pq ↔ y ∈ s.pq ∧ y ≠ r.2

theorem HandsOut.of_same {s s2 : HS} {k k2 : Nat} {r : HS × Nat} (h : HandsOut s2 k2 r)
    (hperm : s2.pq.Perm s.pq) (hslot : s2.pq[k2]? = s.pq[k]?) : HandsOut s k r :=
  ⟨h.ok, h.idx, h.gone, hslot ▸ h.slot, fun y => by rw [h.mem y, hperm.mem_iff]⟩

theorem dropLast_spec (s : HS) (hpos : 0 < s.pq.length) :
    ∃ r, dropLast s = some r ∧ (IndexOK s → HandsOut s (s.pq.length - 1) r) := by
  refine ⟨_, dif_pos hpos, fun ok => ?_⟩
  have hlast : s.pq.length - 1 < s.pq.length := by omega
  have hother : ∀ k (hk : k < s.pq.length - 1), s.pq[k] ≠ s.pq[s.pq.length - 1] := by
    intro k hk e
    have := indexOK_inj ok (by omega) hlast e
    omega
  have hnotin : s.pq[s.pq.length - 1] ∉ s.pq.take (s.pq.length - 1) := by
    intro hm
    obtain ⟨k, hk, hke⟩ := List.getElem_of_mem hm
    simp only [List.length_take] at hk
    rw [List.getElem_take] at hke
    exact hother k (by omega) hke
  have hsplit : s.pq = s.pq.take (s.pq.length - 1) ++ [s.pq[s.pq.length - 1]] := by
    have := List.take_append_drop (s.pq.length - 1) s.pq
    rw [List.drop_eq_getElem_cons hlast, List.drop_eq_nil_of_le (by omega)] at this
    exact this.symm
  refine ⟨?_, by simp [setIndex], hnotin, by simp [hlast], ?_⟩
  · intro k hk
    simp only [List.length_take] at hk
    rw [List.getElem_take]
    simp [setIndex, hother k (by omega)]
    exact ok k (by omega)
  · intro y
    show y ∈ s.pq.take (s.pq.length - 1) ↔ y ∈ s.pq ∧ y ≠ s.pq[s.pq.length - 1]
    constructor
    · exact fun hy => ⟨List.mem_of_mem_take hy, fun e => hnotin (e ▸ hy)⟩
    · rintro ⟨hy, hne⟩
      rw [hsplit] at hy
      rcases List.mem_append.mp hy with h1 | h1
      · exact h1
      · exact absurd (List.mem_singleton.mp h1) hne

theorem pop_spec (s : HS) (h : 0 < s.pq.length) : ∃ r, pop s = some r ∧ (IndexOK s → HandsOut s 0 r) := by
  obtain ⟨s1, e1, m1, g1⟩ := swap_same s 0 (s.pq.length - 1) s.pq.length (Nat.le_refl _) h (by omega)
  obtain ⟨s2, e2, m2⟩ := down_same (s.pq.length + 1) s1 0 (s.pq.length - 1)
    (by rw [m1.perm.length_eq]; omega) (by omega)
  have p := m2.perm.trans m1.perm
  obtain ⟨r, e3, h3⟩ := dropLast_spec s2 (by rw [p.length_eq]; exact h)
  refine ⟨r, by simp [pop, Nat.ne_of_gt h, e1, e2, e3], fun ok => (h3 (m2.ok (m1.ok ok))).of_same p ?_⟩
  rw [p.length_eq, m2.frame _ (by omega), g1]

theorem remove_spec (s : HS) (i : Int) (h0 : 0 ≤ i) (h1 : i < (s.pq.length : Int)) :
    ∃ r, remove s i = some r ∧ (IndexOK s → HandsOut s i.toNat r) := by
  have hg : ¬ (i < 0 ∨ (s.pq.length : Int) ≤ i) := by omega
  by_cases hl : i.toNat = s.pq.length - 1
  · obtain ⟨r, e, h⟩ := dropLast_spec s (by omega)
    exact ⟨r, by simp [remove, hg, hl, e], hl ▸ h⟩
  · have hi : i.toNat < s.pq.length - 1 := by omega
    obtain ⟨s1, e1, m1, g1⟩ := swap_same s i.toNat (s.pq.length - 1) s.pq.length (Nat.le_refl _) (by omega) (by omega)
    obtain ⟨s2, e2, m2⟩ := down_same (s.pq.length + 1) s1 i.toNat (s.pq.length - 1)
      (by rw [m1.perm.length_eq]; omega) (by omega)
    obtain ⟨s3, e3, m3⟩ := up_same (s.pq.length + 1) s2 i.toNat (s.pq.length - 1)
      (by rw [m2.perm.length_eq, m1.perm.length_eq]; omega) hi (by omega)
    have p := (m3.perm.trans m2.perm).trans m1.perm
    obtain ⟨r, e4, h4⟩ := dropLast_spec s3 (by rw [p.length_eq]; omega)
    refine ⟨r, by simp [remove, hg, hl, e1, e2, e3, e4], fun ok => (h4 (m3.ok (m2.ok (m1.ok ok)))).of_same p ?_⟩
    rw [p.length_eq, m3.frame _ (by omega), m2.frame _ (by omega), g1]

theorem removeFromPQ_spec (s : HS) (o : Nat) :
    ∃ s', removeFromPQ true s o = some s' ∧ (IndexOK s → IndexOK s' ∧ ∀ y, y ∈ s'.pq ↔ y ∈ s.pq ∧ y ≠ o) := by
  unfold removeFromPQ
  by_cases hskip : removeSkips true s o = true
  · refine ⟨s, if_pos hskip, fun ok => ⟨ok, ?_⟩⟩
    -- skipped: `o` is not on the heap (a heap slot holding `o` would carry `o`'s index, by IndexOK)
    have hno : o ∉ s.pq := by
      intro ho
      obtain ⟨k, hk, hke⟩ := List.getElem_of_mem ho
      have hidx := ok k hk
      rw [hke] at hidx
      simp only [removeSkips, if_true, Bool.or_eq_true, decide_eq_true_eq, bne_iff_ne, ne_eq] at hskip
      rw [hidx] at hskip
      rcases hskip with (h1 | h1) | h1
      · omega
      · omega
      · apply h1
        simp [hk, hke]
    exact fun y => ⟨fun hy => ⟨hy, fun e => hno (e ▸ hy)⟩, fun hy => hy.1⟩
  · rw [if_neg hskip]
    simp only [removeSkips, if_true, Bool.or_eq_true, decide_eq_true_eq, bne_iff_ne, ne_eq, not_or, Decidable.not_not] at hskip
    obtain ⟨r, e, h⟩ := remove_spec s (s.objs o).index (by omega) (by omega)
    refine ⟨r.1, by rw [e], fun ok => ?_⟩
    -- not skipped: the slot `index o` holds `o`
    have hs := h ok
    have : r.2 = o := (Option.some.inj (hskip.2 ▸ hs.slot)).symm
    exact ⟨hs.ok, this ▸ hs.mem⟩

theorem peekAndShift_spec (s : HS) (t : Int) :
    ∃ r, peekAndShift s t = some r ∧
      match r.2 with
      | none => r.1 = s
      | some o => IndexOK s → IndexOK r.1 ∧ o ∈ s.pq ∧ ∀ y, y ∈ r.1.pq ↔ y ∈ s.pq ∧ y ≠ o := by
  unfold peekAndShift
  split
  · rename_i hpos
    split
    · exact ⟨_, rfl, rfl⟩
    · obtain ⟨r, e, h⟩ := pop_spec s hpos
      refine ⟨_, by rw [e], fun ok => ?_⟩
      have hs := h ok
      have : r.2 = s.pq[0] := by
        have e1 := hs.slot
        rw [List.getElem?_eq_getElem hpos] at e1
        exact (Option.some.inj e1).symm
      exact ⟨hs.ok, List.getElem_mem hpos, this ▸ hs.mem⟩
  · exact ⟨_, rfl, rfl⟩

/-- `h` has the shape of the conclusions of `removeFromPQ_spec` and `push_spec`; only `r = some x` is used -/
theorem okH_ne_panic (s : St) {r : Option HS} {P : HS → Prop} (f : HS → St) (h : ∃ x, r = some x ∧ P x) :
    (okH s r f).isPanic = false := by
  obtain ⟨x, rfl, _⟩ := h
  rfl

/-- From ANY state: the only branches of `step` that can panic are the three that call `removeFromPQ`, the four that
call `push` and the one where `peekAndShift` fails, and those operations stay inside the array. -/
theorem step_fixed_no_panic (s : St) (a : Step) : (step true s a).isPanic = false := by
  fun_cases step true s a with
  -- the numbers follow the order of `step`: 3, 8, 17 = `finRemove`, `reqRemove`, `touchRemove`; 20, 24, 27, 31 =
  -- `touchMapPush`, `touchPQPush`, `startMapPush`, `startPQPush`; 33 = `scanPeek` when `peekAndShift` fails (34, in
  -- `step_trans`: when it finds nothing due)
  | case3 | case8 | case17 => exact okH_ne_panic _ _ (removeFromPQ_spec _ _)
  | case20 | case24 | case27 | case31 => exact okH_ne_panic _ _ (push_spec _ _)
  | case33 t hp =>
    obtain ⟨r, hr, _⟩ := peekAndShift_spec s.h t
    rw [hp] at hr
    cases hr
  | _ => rfl

theorem run_fixed_no_panic : ∀ (sched : List Step) (s : St), (run true s sched).isPanic = false := by
  intro sched s
  fun_induction run true s sched with
  | case1 | case4 => rfl
  | case2 _ _ _ _ _ ih => exact ih
  | case3 s a _ hs => have h := step_fixed_no_panic s a; rw [hs] at h; cases h

theorem indexOK_objs_congr (h : HS) (objs' : Nat → Obj) (ok : IndexOK h)
    (hsame : ∀ o ∈ h.pq, (objs' o).index = (h.objs o).index) : IndexOK { h with objs := objs' } := by
  intro i hi
  have := ok i hi
  show (objs' (h.pq[i])).index = (i : Int)
  rw [hsame _ (List.getElem_mem hi)]; exact this

theorem setPri_indexOK {h : HS} (ok : IndexOK h) (o : Nat) (p : Int) : IndexOK { h with objs := setPri h.objs o p } :=
  indexOK_objs_congr h _ ok (fun o' _ => by simp only [setPri]; split <;> rfl)

theorem setDeliver_indexOK {h : HS} (ok : IndexOK h) (o : Nat) (c p : Int) :
    IndexOK { h with objs := setDeliver h.objs o c p } :=
  indexOK_objs_congr h _ ok (fun o' _ => by simp only [setDeliver]; split <;> rfl)

theorem freshObj_indexOK {h : HS} (ok : IndexOK h) {o : Nat} (ho : o ∉ h.pq) :
    IndexOK { h with objs := freshObj h.objs o } :=
  indexOK_objs_congr h _ ok (fun o' ho' => by
    have : o' ≠ o := fun e => ho (e ▸ ho')
    simp [freshObj, this])

theorem indexOK_nodup {h : HS} (ok : IndexOK h) : h.pq.Nodup := by
  unfold List.Nodup
  rw [List.pairwise_iff_getElem]
  intro i j hi hj hij e
  have := indexOK_inj ok hi hj e
  omega

/-- `(cs.map f).flatten` collects what `f` names in each parked operation: `contObjs`, `InFlightEmpty.srcs`,
`InFlightQuiesce.owners` and `answering` are of this form -/
theorem mem_collect {α β : Type} {f : α → List β} {x : β} {cs : List α} :
    x ∈ (cs.map f).flatten ↔ ∃ c ∈ cs, x ∈ f c :=
  List.flatMap_def ▸ List.mem_flatMap

theorem mem_collect_of_erase {α β : Type} [BEq α] {f : α → List β} {x : β} {cs : List α} {c : α}
    (h : x ∈ ((cs.erase c).map f).flatten) : x ∈ (cs.map f).flatten := by
  obtain ⟨c', hc', hx⟩ := mem_collect.mp h
  exact mem_collect.mpr ⟨c', List.mem_of_mem_erase hc', hx⟩

theorem mem_collect_erase {α β : Type} [BEq α] [LawfulBEq α] {f : α → List β} {x : β} {cs : List α} {c : α}
    (h : x ∈ (cs.map f).flatten) (hn : x ∉ f c) : x ∈ ((cs.erase c).map f).flatten := by
  obtain ⟨c', hc', hx⟩ := mem_collect.mp h
  have hne : c' ≠ c := fun e => hn (e ▸ hx)
  exact mem_collect.mpr ⟨c', (List.mem_erase_of_ne hne).mpr hc', hx⟩

/-- what `find?` returns is in the list, in the form its predicate forces -/
theorem mem_of_find {cs : List Cont} {p : Cont → Bool} {c c' : Cont} (h : cs.find? p = some c)
    (hc : p c = true → c = c') : c' ∈ cs :=
  hc (List.find?_some h) ▸ List.mem_of_find?_eq_some h

/-- The micro-steps as a relation: one constructor per branch of `step` that yields a state (`idle`: the
branches that change nothing), with the facts about `s` under which the branch is taken that the invariants use.
It is weaker than `step` where they need nothing: `startMapDup` and `deferMapDup` carry no premise, `touchMapDup` none
about the map. -/
inductive Trans (fixed : Bool) (s : St) : Step → St → Prop
  | idle (a : Step) : Trans fixed s a s
  | finPop (c : Int) (o : Nat) (hm : o ∈ s.map ∧ (s.h.objs o).client = c) :
      Trans fixed s (.finPop c o) { s with map := s.map.erase o, conts := .finAfterPop o :: s.conts }
  | reqPop (c : Int) (o : Nat) (d : Int) (hm : o ∈ s.map ∧ (s.h.objs o).client = c) :
      Trans fixed s (.reqPop c o d) { s with map := s.map.erase o, conts := .reqAfterPop o d :: s.conts }
  | touchPop (c : Int) (o : Nat) (hm : o ∈ s.map ∧ (s.h.objs o).client = c) :
      Trans fixed s (.touchPop c o) { s with map := s.map.erase o, conts := .touchAfterPop o :: s.conts }
  | finRemove (o : Nat) (h' : HS) (hc : .finAfterPop o ∈ s.conts) (hr : removeFromPQ fixed s.h o = some h') :
      Trans fixed s (.finRemove o) { s with h := h', conts := dropCont s.conts (.finAfterPop o) }
  | reqRemove (o : Nat) (d : Int) (h' : HS) (hc : .reqAfterPop o d ∈ s.conts)
      (hr : removeFromPQ fixed s.h o = some h') :
      Trans fixed s (.reqRemove o)
        { s with h := h', conts := .reqAfterRemove o d :: dropCont s.conts (.reqAfterPop o d) }
  | touchRemove (o : Nat) (h' : HS) (hc : .touchAfterPop o ∈ s.conts) (hr : removeFromPQ fixed s.h o = some h') :
      Trans fixed s (.touchRemove o)
        { s with h := h', conts := .touchAfterRemove o :: dropCont s.conts (.touchAfterPop o) }
  | reqPutQueue (o : Nat) (d : Int) (hc : .reqAfterRemove o d ∈ s.conts) :
      Trans fixed s (.reqPut o) { s with queued := o :: s.queued, conts := dropCont s.conts (.reqAfterRemove o d) }
  | reqPutDup (o : Nat) (d : Int) (hc : .reqAfterRemove o d ∈ s.conts) :
      Trans fixed s (.reqPut o) { s with conts := dropCont s.conts (.reqAfterRemove o d) }
  | reqPutDefer (o : Nat) (d : Int) (hc : .reqAfterRemove o d ∈ s.conts) :
      Trans fixed s (.reqPut o)
        { s with dmap := o :: s.dmap, conts := .reqDeferAfterMapPush o :: dropCont s.conts (.reqAfterRemove o d) }
  | touchMapDup (o : Nat) (p : Int) (hc : .touchAfterRemove o ∈ s.conts) :
      Trans fixed s (.touchMapPush o p)
        { s with h := { s.h with objs := setPri s.h.objs o p }, conts := dropCont s.conts (.touchAfterRemove o) }
  | touchMapPush (o : Nat) (p : Int) (hc : .touchAfterRemove o ∈ s.conts) (hpa : ¬ s.pushAtomic = true) :
      Trans fixed s (.touchMapPush o p)
        { s with h := { s.h with objs := setPri s.h.objs o p }, map := o :: s.map,
                 conts := .touchAfterMapPush o :: dropCont s.conts (.touchAfterRemove o) }
  | touchMapPushA (o : Nat) (p : Int) (h' : HS) (hc : .touchAfterRemove o ∈ s.conts) (hm : o ∉ s.map)
      (hpa : s.pushAtomic = true) (hr : push { s.h with objs := setPri s.h.objs o p } o = some h') :
      Trans fixed s (.touchMapPush o p)
        { s with h := h', map := o :: s.map, conts := .touchAfterMapPush o :: dropCont s.conts (.touchAfterRemove o) }
  | touchPQDone (o : Nat) (hc : .touchAfterMapPush o ∈ s.conts) :
      Trans fixed s (.touchPQPush o) { s with conts := dropCont s.conts (.touchAfterMapPush o) }
  | touchPQPush (o : Nat) (h' : HS) (hc : .touchAfterMapPush o ∈ s.conts) (hpa : ¬ s.pushAtomic = true)
      (hr : push s.h o = some h') :
      Trans fixed s (.touchPQPush o) { s with h := h', conts := dropCont s.conts (.touchAfterMapPush o) }
  | startMapDup (c : Int) (o : Nat) (p : Int) :
      Trans fixed s (.startMapPush c o p)
        { s with h := { s.h with objs := setDeliver s.h.objs o c p }, queued := s.queued.erase o }
  | startMapPush (c : Int) (o : Nat) (p : Int) (hq : o ∈ s.queued) (hpa : ¬ s.pushAtomic = true) :
      Trans fixed s (.startMapPush c o p)
        { s with h := { s.h with objs := setDeliver s.h.objs o c p }, queued := s.queued.erase o,
                 map := o :: s.map, conts := .inflightAfterMapPush o :: s.conts }
  | startMapPushA (c : Int) (o : Nat) (p : Int) (h' : HS) (hq : o ∈ s.queued) (hm : o ∉ s.map)
      (hpa : s.pushAtomic = true) (hr : push { s.h with objs := setDeliver s.h.objs o c p } o = some h') :
      Trans fixed s (.startMapPush c o p)
        { s with h := h', queued := s.queued.erase o, map := o :: s.map, conts := .inflightAfterMapPush o :: s.conts }
  | startPQDone (o : Nat) (hc : .inflightAfterMapPush o ∈ s.conts) :
      Trans fixed s (.startPQPush o) { s with conts := dropCont s.conts (.inflightAfterMapPush o) }
  | startPQPush (o : Nat) (h' : HS) (hc : .inflightAfterMapPush o ∈ s.conts) (hpa : ¬ s.pushAtomic = true)
      (hr : push s.h o = some h') :
      Trans fixed s (.startPQPush o) { s with h := h', conts := dropCont s.conts (.inflightAfterMapPush o) }
  | scanTake (t : Int) (h' : HS) (o : Nat) (hr : peekAndShift s.h t = some (h', some o)) (hm : o ∈ s.map) :
      Trans fixed s (.scanPeek t) { s with h := h', map := s.map.erase o, conts := .scanAfterPQPop o :: s.conts }
  | scanStale (t : Int) (h' : HS) (o : Nat) (hr : peekAndShift s.h t = some (h', some o)) (hm : o ∉ s.map) :
      Trans fixed s (.scanPeek t) { s with h := h' }
  | scanHold (t : Int) (h' : HS) (o : Nat) (hr : peekAndShift s.h t = some (h', some o))
      (hsa : ¬ s.scanAtomic = true) :
      Trans fixed s (.scanPeek t) { s with h := h', conts := .scanAfterPQPop o :: s.conts }
  | scanPopDone (o : Nat) (hc : .scanAfterPQPop o ∈ s.conts ∧ .emptyAfterInitPQ ∉ s.conts) :
      Trans fixed s (.scanPop o) { s with queued := o :: s.queued, conts := dropCont s.conts (.scanAfterPQPop o) }
  | scanPop (o : Nat) (hc : .scanAfterPQPop o ∈ s.conts ∧ .emptyAfterInitPQ ∉ s.conts) (hsa : ¬ s.scanAtomic = true) (hm : o ∈ s.map) :
      Trans fixed s (.scanPop o)
        { s with map := s.map.erase o, queued := o :: s.queued, conts := dropCont s.conts (.scanAfterPQPop o) }
  | scanPopGone (o : Nat) (hc : .scanAfterPQPop o ∈ s.conts ∧ .emptyAfterInitPQ ∉ s.conts) (hsa : ¬ s.scanAtomic = true) :
      Trans fixed s (.scanPop o) { s with conts := dropCont s.conts (.scanAfterPQPop o) }
  | emptyResetInflight :
      Trans fixed s .emptyResetInflight
        { s with h := { s.h with pq := [] }, map := [], conts := .emptyAfterInflightReset :: s.conts }
  | emptyResetDeferred (hc : .emptyAfterInflightReset ∈ s.conts) :
      Trans fixed s .emptyResetDeferred
        { s with dmap := [], dpq := [], conts := .emptyAfterInitPQ :: dropCont s.conts .emptyAfterInflightReset }
  | emptyRest (hc : .emptyAfterInitPQ ∈ s.conts) :
      Trans fixed s .emptyRest { s with queued := [], conts := dropCont s.conts .emptyAfterInitPQ }
  | deferMapDup (o : Nat) :
      Trans fixed s (.deferMapPush o) { s with queued := s.queued.erase o }
  | deferMapPush (o : Nat) (hq : o ∈ s.queued) :
      Trans fixed s (.deferMapPush o)
        { s with queued := s.queued.erase o, dmap := o :: s.dmap, conts := .deferAfterMapPush o :: s.conts }
  | deferPQPush (o : Nat) (p : Int) (hc : .deferAfterMapPush o ∈ s.conts) :
      Trans fixed s (.deferPQPush o p)
        { s with dpq := (p, o) :: s.dpq, conts := dropCont s.conts (.deferAfterMapPush o) }
  | reqDeferPQPush (o : Nat) (p : Int) (hc : .reqDeferAfterMapPush o ∈ s.conts) :
      Trans fixed s (.deferPQPush o p)
        { s with dpq := (p, o) :: s.dpq, conts := dropCont s.conts (.reqDeferAfterMapPush o) }
  | dscanTake (t : Int) (e : Int × Nat) :
      Trans fixed s (.dscanPeek t) { s with dpq := s.dpq.erase e, conts := .dscanAfterPQPop e.2 :: s.conts }
  | dscanPop (o : Nat) (hc : .dscanAfterPQPop o ∈ s.conts) (hd : o ∈ s.dmap) :
      Trans fixed s (.dscanPop o)
        { s with dmap := s.dmap.erase o, queued := o :: s.queued, conts := dropCont s.conts (.dscanAfterPQPop o) }
  | dscanPopGone (o : Nat) (hc : .dscanAfterPQPop o ∈ s.conts) :
      Trans fixed s (.dscanPop o) { s with conts := dropCont s.conts (.dscanAfterPQPop o) }
  | reload (o : Nat) (hq : o ∈ s.queued ∧ o ∉ s.h.pq) :
      Trans fixed s (.reload o) { s with h := { s.h with objs := freshObj s.h.objs o } }
  | put (o : Nat)
      (hfree : ¬ (o ∈ s.queued ∨ o ∈ s.map ∨ o ∈ s.dmap ∨ o ∈ s.h.pq ∨ o ∈ s.dpq.map (·.2) ∨ o ∈ contObjs s.conts)) :
      Trans fixed s (.put o) { s with h := { s.h with objs := freshObj s.h.objs o }, queued := o :: s.queued }

/-- Every branch of `step` that yields a state is one of the transitions.  In each branch the new state is a
literal record and the guards are hypotheses in exactly the form the constructors ask for, so `constructor` (which finds
the constructor by the record and the step) and `assumption` do it; the two REQ steps look their operation up with
`find?` (`mem_of_find`); the seven branches that call a heap operation (`okH`) yield a state when it succeeds.  A
`scanPeek` that finds nothing due hands the heap back as it was: `idle`. -/
theorem step_trans {fixed : Bool} {s s' : St} {a : Step} (h : step fixed s a = Res.ok s') : Trans fixed s a s' := by
  revert h
  fun_cases step fixed s a
  case case34 t h' hp => rintro ⟨⟩; cases of_some (peekAndShift_spec _ _) hp; exact .idle _
  all_goals intro h
  case case3 | case8 | case17 | case20 | case24 | case27 | case31 =>
    unfold okH at h
    split at h <;> cases h
    constructor <;> first | assumption | exact mem_of_find ‹_› (by intro h; simp at h; subst h; rfl)
  all_goals cases h
  all_goals constructor
  all_goals first | assumption | exact mem_of_find ‹_› (by intro h; simp at h; subst h; rfl)

theorem trans_params {fixed : Bool} {s s' : St} {a : Step} (h : Trans fixed s a s') :
    s'.scanAtomic = s.scanAtomic ∧ s'.pushAtomic = s.pushAtomic ∧ s'.ansLock = s.ansLock := by
  cases h <;> exact ⟨rfl, rfl, rfl⟩

theorem run_induction {fixed : Bool} {P : St → Prop} {A : Step → Prop}
    (hstep : ∀ s a s', A a → P s → Trans fixed s a s' → P s')
    (sched : List Step) (s s' : St) (hA : ∀ a ∈ sched, A a) (hP : P s) : run fixed s sched = Res.ok s' → P s' := by
  fun_induction run fixed s sched with
  | case1 => rintro ⟨⟩; exact hP
  | case2 s a as s1 hs ih =>
    exact ih (fun b hb => hA b (List.mem_cons_of_mem _ hb))
      (hstep s a s1 (hA a (List.mem_cons_self ..)) hP (step_trans hs))
  | case3 | case4 => rintro ⟨⟩

/-- The three critical sections of `Channel.Empty`, when all of them can run. -/
theorem empty_sections {fixed : Bool} {s s' : St} {post : List Step}
    (h : run fixed s (.emptyResetInflight :: .emptyResetDeferred :: .emptyRest :: post) = Res.ok s') :
    (s.ansLock = true → s.conts.any Cont.isAnswer = false) ∧
      run fixed { s with h := { s.h with pq := [] }, map := [], dmap := [], dpq := [], queued := [] } post = Res.ok s' := by
  simp only [run] at h
  by_cases hne : Cont.emptyAfterInflightReset ∈ s.conts ∨ Cont.emptyAfterInitPQ ∈ s.conts
  · simp [step, hne] at h
  by_cases hans : (s.ansLock && s.conts.any Cont.isAnswer) = true
  · simp [step, hne, hans] at h
  simp only [step, hne, hans, if_false, List.mem_cons, true_or, if_true, dropCont, List.erase_cons_head,
    Bool.false_eq_true] at h
  exact ⟨fun hal => by simpa [hal] using hans, h⟩

theorem run_params (fixed : Bool) (sched : List Step) (s s' : St) (h : run fixed s sched = Res.ok s') :
    s'.scanAtomic = s.scanAtomic ∧ s'.pushAtomic = s.pushAtomic ∧ s'.ansLock = s.ansLock :=
  run_induction (A := fun _ => True)
    (P := fun s' => s'.scanAtomic = s.scanAtomic ∧ s'.pushAtomic = s.pushAtomic ∧ s'.ansLock = s.ansLock)
    (fun _ _ _ _ hP ht => by
      obtain ⟨a1, a2, a3⟩ := trans_params ht
      exact ⟨a1.trans hP.1, a2.trans hP.2.1, a3.trans hP.2.2⟩)
    sched s s' (fun _ _ => trivial) ⟨rfl, rfl, rfl⟩ h

/-- the step pushes object `o` onto the heap (shape without F48: the separate heap-push sections; with F48
(`pushAtomic`): the section that inserts into the map) -/
def pushes (s : St) (a : Step) (o : Nat) : Prop :=
  (s.pushAtomic = false ∧ (a = Step.startPQPush o ∨ a = Step.touchPQPush o)) ∨
  (s.pushAtomic = true ∧ ((∃ c p, a = Step.startMapPush c o p) ∨ ∃ p, a = Step.touchMapPush o p))

/-- Pushing an object that is already in the heap is the only way the index fields can go wrong. -/
theorem trans_indexOK {s s' : St} {a : Step} (ok : IndexOK s.h) (h : Trans true s a s')
    (hnodup : ∀ o, pushes s a o → o ∉ s.h.pq) : IndexOK s'.h := by
  cases h with
  | finRemove o h' hc hr | reqRemove o d h' hc hr | touchRemove o h' hc hr => exact (of_some (removeFromPQ_spec _ _) hr ok).1
  | touchMapDup o p | touchMapPush o p => exact setPri_indexOK ok o p
  | touchMapPushA o p h' hc hm hpa hr =>
    exact (of_some (push_spec _ _) hr).2 (setPri_indexOK ok o p) (hnodup o (Or.inr ⟨hpa, Or.inr ⟨p, rfl⟩⟩))
  | startMapDup c o p | startMapPush c o p => exact setDeliver_indexOK ok o c p
  | startMapPushA c o p h' hq hm hpa hr =>
    exact (of_some (push_spec _ _) hr).2 (setDeliver_indexOK ok o c p) (hnodup o (Or.inr ⟨hpa, Or.inl ⟨c, p, rfl⟩⟩))
  | touchPQPush o h' hc hpa hr =>
    exact (of_some (push_spec _ _) hr).2 ok (hnodup o (Or.inl ⟨by simpa using hpa, Or.inr rfl⟩))
  | startPQPush o h' hc hpa hr =>
    exact (of_some (push_spec _ _) hr).2 ok (hnodup o (Or.inl ⟨by simpa using hpa, Or.inl rfl⟩))
  | scanTake t h' o hr | scanStale t h' o hr | scanHold t h' o hr => exact (of_some (peekAndShift_spec _ _) hr ok).1
  | emptyResetInflight => intro i hi; cases hi
  | reload o hq => exact freshObj_indexOK ok hq.2
  | put o hfree => exact freshObj_indexOK ok (fun ho => hfree (Or.inr (Or.inr (Or.inr (Or.inl ho)))))
  | _ => exact ok

/-- along the schedule no step pushes an object the heap already holds (the hypothesis of
`Props.C08.index_ok_invariant`) -/
def NoDupPush : St → List Step → Prop
  | _, [] => True
  | s, a :: as =>
    (∀ o, pushes s a o → o ∉ s.h.pq) ∧
      match step true s a with
      | Res.ok s' => NoDupPush s' as
      | _ => True

end Nsq.Proofs.InFlight
