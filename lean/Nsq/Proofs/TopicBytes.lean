/-
E2 / C13 — `message_bytes` at run level: what every nsqd-level step (`step_bytes`), hence every run from distinct topic
ids (`run_bytes`), does to the sum of the topics' `msgBytes`.
-/
import Nsq.Proofs.ChanNsqd
namespace Nsq.Proofs.TopicBytes
open Nsq.Model.Chan Nsq.Model.ChanNsqd Nsq.Proofs.ChanNsqd

/-- Σ over all topics of `message_bytes` -/
def bytesL (l : List Topic) : Nat := (l.map (·.msgBytes)).sum
def cntT (l : List Topic) (t : Nat) : Nat := l.countP (fun y => y.tid == t)

theorem bytesL_updT_add (l : List Topic) (t : Nat) (f : Topic → Topic) (nb : Nat)
    (hf : ∀ y, (f y).msgBytes = y.msgBytes + nb) : bytesL (updT l t f) = bytesL l + nb * cntT l t := by
  unfold bytesL updT cntT
  induction l with
  | nil => simp
  | cons y l ih =>
    simp only [List.map_cons, List.sum_cons, List.countP_cons] at ih ⊢
    rw [ih]
    by_cases hy : y.tid = t
    · simp [hy, hf, Nat.mul_add]; omega
    · have : (y.tid == t) = false := by simpa using hy
      simp [this]; omega

theorem bytesL_updT_same (l : List Topic) (t : Nat) (f : Topic → Topic) (hf : ∀ y, (f y).msgBytes = y.msgBytes) :
    bytesL (updT l t f) = bytesL l := by
  simpa using bytesL_updT_add l t f 0 (by simpa using hf)

theorem cntT_one {l : List Topic} {t : Nat} (hn : (l.map (·.tid)).Nodup) (hm : ∃ y ∈ l, y.tid = t) : cntT l t = 1 := by
  obtain ⟨y, hy, rfl⟩ := hm
  rw [cntT, List.countP_eq_length_filter, Keyed.filter_key_of_mem hn hy]
  rfl

theorem bytes_ensureTopic (s : State) (t : Nat) : bytesL (ensureTopic s t).topics = bytesL s.topics := by
  unfold ensureTopic
  split
  · rfl
  · simp [bytesL]

theorem prim_bytes {p : Perm} (hp : p.publish = false) {k : Stage} {s s' : State} (h : Prim p s k s') :
    bytesL s'.topics = bytesL s.topics := by
  cases h with
  | ensure t => exact bytes_ensureTopic s t
  | publish t n ids f hf hpub => rw [hp] at hpub; cases hpub
  | reap t c k => exact bytesL_updT_same _ _ _ (fun y => (reap_keeps y c).2.2.1)
  | subscribe k t c => rfl
  | _ => exact bytesL_updT_same _ _ _ (fun _ => rfl)

/-- the body bytes a step enqueues: PUB/DPUB the message, MPUB all, a failed MPUB the prefix before the failing write -/
def added : Nsq.Model.ChanNsqd.Op → Nat
  | .pub _ sz _ => sz
  | .dpub _ sz _ _ => sz
  | .mpub _ sizes _ => sizes.sum
  | .mpubFail _ sizes j _ => if j ≥ sizes.length then 0 else (sizes.take j).sum
  | _ => 0

theorem putT_bytes (t : Topic) (id sz d : Nat) (env : Env) : (putT t id sz d env).msgBytes = t.msgBytes := by
  obtain ⟨q, hq, _⟩ := putT_spec t id sz d env; rw [hq]
theorem putMany_bytes (t : Topic) (id : Nat) (sizes : List Nat) (envs : List Env) :
    (putMany t id sizes envs).msgBytes = t.msgBytes := by
  obtain ⟨q, el, hq, _⟩ := putMany_spec t id sizes envs; rw [hq]

theorem step_bytes {s : State} (hn : (s.topics.map (·.tid)).Nodup) (op : Nsq.Model.ChanNsqd.Op) :
    bytesL (Nsq.Model.ChanNsqd.step s op).1.topics = bytesL s.topics + added op := by
  have hone : ∀ t, cntT (ensureTopic s t).topics t = 1 :=
    fun t => cntT_one (ensureTopic_nodup hn t) (ensureTopic_has s t)
  cases op with
  | pub t sz env =>
    simp only [Nsq.Model.ChanNsqd.step, added]
    rw [bytesL_updT_add _ _ _ sz (fun y => by simp), hone t, bytes_ensureTopic]; omega
  | dpub t sz d env =>
    simp only [Nsq.Model.ChanNsqd.step, added]
    rw [bytesL_updT_add _ _ _ sz (fun y => by simp), hone t, bytes_ensureTopic]; omega
  | mpub t sizes envs =>
    simp only [Nsq.Model.ChanNsqd.step, added]
    rw [bytesL_updT_add _ _ _ sizes.sum (fun y => by simp), hone t, bytes_ensureTopic]; omega
  | mpubFail t sizes j envs =>
    simp only [Nsq.Model.ChanNsqd.step, added]
    split
    · simp only [Nat.add_zero]; exact bytes_ensureTopic s t
    · simp only
      rw [bytesL_updT_add _ _ _ (sizes.take j).sum (fun y => by simp), hone t, bytes_ensureTopic]; omega
  | _ =>
    exact nstep_keeps (J := fun x => bytesL x.topics = bytesL s.topics) _ rfl (fun h hp => (prim_bytes rfl hp).trans h)

theorem run_bytes {s : State} (hn : (s.topics.map (·.tid)).Nodup) (ops : List Nsq.Model.ChanNsqd.Op) :
    bytesL (Nsq.Model.ChanNsqd.run s ops).topics = bytesL s.topics + (ops.map added).sum := by
  induction ops generalizing s with
  | nil => simp [Nsq.Model.ChanNsqd.run]
  | cons op ops ih =>
    simp only [Nsq.Model.ChanNsqd.run, List.map_cons, List.sum_cons]
    rw [ih (nstep_keeps op hn prim_tnodup), step_bytes hn op]
    omega

end Nsq.Proofs.TopicBytes
