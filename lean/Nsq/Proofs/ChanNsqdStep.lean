/-
E2 — every operation of the nsqd-level `step` (`Nsq.Model.ChanNsqd`) is a short chain of a few elementary changes
of the state (`Prim`): changes of stage `pre`, at most one of stage `mid`, at most one of stage `post` (`Chain`).
`p : Perm` says which of the less innocent changes may occur: an invariant that does not survive one of them is
proved under the hypothesis that it does not occur.
-/
import Nsq.Model.ChanNsqd
import Nsq.Proofs.ChanStep

namespace Nsq.Proofs.ChanNsqd
open Nsq.Model.Chan Nsq.Model.ChanNsqd Nsq.Proofs.Chan

theorem mem_updT {l : List Topic} {t : Nat} {f : Topic → Topic} {x : Topic} :
    x ∈ updT l t f ↔ ∃ y ∈ l, (if y.tid = t then f y else y) = x := by
  unfold updT; simp [List.mem_map]

theorem forall_updT {l : List Topic} {t : Nat} {f : Topic → Topic} {Q : Topic → Prop}
    (hk : ∀ y ∈ l, y.tid = t → Q (f y)) (hne : ∀ y ∈ l, y.tid ≠ t → Q y) : ∀ x ∈ updT l t f, Q x :=
  Keyed.forall_upd hk hne

theorem updT_at {l : List Topic} {t : Nat} {f : Topic → Topic} {Q : Topic → Prop}
    (hk : ∀ y ∈ l, y.tid = t → Q (f y)) : ∀ x ∈ updT l t f, x.tid = t → Q x :=
  Keyed.upd_at hk

theorem map_tid_updT (l : List Topic) (t : Nat) (f : Topic → Topic) (hf : ∀ y, (f y).tid = y.tid) :
    (updT l t f).map (·.tid) = l.map (·.tid) :=
  Keyed.map_key_upd hf

theorem mem_updN {l : List NChan} {c : Nat} {f : Chan → Chan} {x : NChan} :
    x ∈ updN l c f ↔ ∃ y ∈ l, (if y.cid = c then { y with ch := f y.ch } else y) = x := by
  unfold updN; simp [List.mem_map]

theorem forall_updN {l : List NChan} {c : Nat} {f : Chan → Chan} {Q : NChan → Prop}
    (hk : ∀ y ∈ l, y.cid = c → Q { y with ch := f y.ch }) (hne : ∀ y ∈ l, y.cid ≠ c → Q y) : ∀ x ∈ updN l c f, Q x :=
  Keyed.forall_upd hk hne

theorem map_cid_updN (l : List NChan) (c : Nat) (f : Chan → Chan) : (updN l c f).map (·.cid) = l.map (·.cid) :=
  Keyed.map_key_upd fun _ => rfl

theorem findT_some {l : List Topic} {t : Nat} {x : Topic} (h : findT l t = some x) : x ∈ l ∧ x.tid = t :=
  Keyed.find?_some h

theorem findN_some {l : List NChan} {c : Nat} {x : NChan} (h : findN l c = some x) : x ∈ l ∧ x.cid = c :=
  Keyed.find?_some h

theorem findN_none {l : List NChan} {c : Nat} (h : findN l c = none) : ∀ x ∈ l, x.cid ≠ c :=
  Keyed.find?_none.1 h

theorem findT_none {l : List Topic} {t : Nat} (h : findT l t = none) : ∀ x ∈ l, x.tid ≠ t :=
  Keyed.find?_none.1 h

theorem eq_of_tid_eq {l : List Topic} (h : (l.map (·.tid)).Nodup) {a b : Topic}
    (h1 : a ∈ l) (h2 : b ∈ l) (hid : a.tid = b.tid) : a = b :=
  Keyed.eq_of_key_eq h h1 h2 hid

theorem eq_of_findT {l : List Topic} (h : (l.map (·.tid)).Nodup) {t : Nat} {tp y : Topic} (hft : findT l t = some tp)
    (hy : y ∈ l) (hyt : y.tid = t) : y = tp :=
  eq_of_tid_eq h hy (findT_some hft).1 (hyt.trans (findT_some hft).2.symm)

theorem eq_of_cid_eq {l : List NChan} (h : (l.map (·.cid)).Nodup) {a b : NChan}
    (h1 : a ∈ l) (h2 : b ∈ l) (hid : a.cid = b.cid) : a = b :=
  Keyed.eq_of_key_eq h h1 h2 hid

theorem forall_updN_found {l : List NChan} (hnd : (l.map (·.cid)).Nodup) {c : Nat} {nc : NChan} (hfn : findN l c = some nc) (v : Chan)
    {Q : NChan → Prop} (h : ∀ y ∈ l, Q y) (hv : Q nc → Q { nc with ch := v }) : ∀ x ∈ updN l c (fun _ => v), Q x :=
  forall_updN (fun y hy hk => by
    obtain rfl := eq_of_cid_eq hnd hy (findN_some hfn).1 (hk.trans (findN_some hfn).2.symm)
    exact hv (h y hy)) (fun y hy _ => h y hy)

theorem mem_idsFrom {a n i : Nat} : i ∈ idsFrom a n ↔ a ≤ i ∧ i < a + n := by
  induction n generalizing a with
  | zero => simp [idsFrom]
  | succ n ih => simp only [idsFrom, List.mem_cons, ih]; omega

theorem idsFrom_nodup (a n : Nat) : (idsFrom a n).Nodup := by
  induction n generalizing a with
  | zero => simp [idsFrom]
  | succ n ih =>
    simp only [idsFrom, List.nodup_cons, mem_idsFrom]
    exact ⟨by omega, ih _⟩

theorem length_idsFrom (a n : Nat) : (idsFrom a n).length = n := by
  induction n generalizing a with
  | zero => rfl
  | succ n ih => simp [idsFrom, ih]

theorem putT_spec (t : Topic) (id sz d : Nat) (env : Env) :
    ∃ q, putT t id sz d env = { t with queue := q, envlog := (id, env) :: t.envlog } ∧
      q.map (·.id) = id :: t.queue.map (·.id) ∧ ∀ m ∈ q, m ∈ t.queue ∨ (m.id = id ∧ m.env = env) := by
  unfold putT
  refine ⟨_, rfl, by simp, ?_⟩
  intro m hm
  simp only [List.mem_cons] at hm
  rcases hm with rfl | hm
  · exact Or.inr ⟨rfl, rfl⟩
  · exact Or.inl hm

theorem putT_queue (t : Topic) (id sz d : Nat) (env : Env) : ∀ m ∈ t.queue, m ∈ (putT t id sz d env).queue := by
  intro m hm; unfold putT; exact List.mem_cons_of_mem _ hm

theorem putMany_queue (t : Topic) (id : Nat) (sizes : List Nat) (envs : List Env) :
    ∀ m ∈ t.queue, m ∈ (putMany t id sizes envs).queue := by
  induction sizes generalizing t id envs with
  | nil => intro m hm; exact hm
  | cons sz rest ih =>
    intro m hm
    simp only [putMany]
    exact ih _ _ _ m (putT_queue t id sz 0 _ m hm)

theorem putMany_spec (t : Topic) (id : Nat) (sizes : List Nat) (envs : List Env) :
    ∃ q el, putMany t id sizes envs = { t with queue := q, envlog := el } ∧
      q.map (·.id) = (idsFrom id sizes.length).reverse ++ t.queue.map (·.id) ∧
      el.map (·.1) = (idsFrom id sizes.length).reverse ++ t.envlog.map (·.1) ∧
      (∀ p ∈ t.envlog, p ∈ el) ∧ (∀ m ∈ q, m ∈ t.queue ∨ (m.id, m.env) ∈ el) := by
  induction sizes generalizing t id envs with
  | nil => exact ⟨t.queue, t.envlog, rfl, by simp [idsFrom], by simp [idsFrom], fun _ h => h, fun _ h => Or.inl h⟩
  | cons sz rest ih =>
    obtain ⟨q1, h1, hq1, hm1⟩ := putT_spec t id sz 0 (envs.headD {})
    obtain ⟨q2, el2, h2, hq2, hel2, hold2, hm2⟩ := ih (putT t id sz 0 (envs.headD {})) (id + 1) envs.tail
    refine ⟨q2, el2, ?_, ?_, ?_, ?_, ?_⟩
    · simp only [putMany]; rw [h2, h1]
    · rw [hq2, h1]; simp [idsFrom, hq1]
    · rw [hel2, h1]; simp [idsFrom]
    · intro p hp
      apply hold2
      rw [h1]
      exact List.mem_cons_of_mem _ hp
    · intro m hm
      rcases hm2 m hm with h | h
      · rw [h1] at h
        rcases hm1 m h with h' | ⟨h', h''⟩
        · exact Or.inl h'
        · right
          apply hold2
          rw [h1, ← h', ← h'']
          exact List.mem_cons_self
      · exact Or.inr h

/-- what a publish does to its topic, whichever of the four publishing operations it is -/
structure Publishes (n0 n : Nat) (ids : List Nat) (f : Topic → Topic) : Prop where
  nodup : ids.Nodup
  range : ∀ i ∈ ids, n0 ≤ i ∧ i < n
  le : n0 ≤ n
  spec : ∀ y, ∃ q el ak un nb,
    f y = { y with queue := q, envlog := el, msgCount := y.msgCount + ids.length, msgBytes := nb, acked := ak, unacked := un } ∧
    q.map (·.id) = ids ++ y.queue.map (·.id) ∧ el.map (·.1) = ids ++ y.envlog.map (·.1) ∧
    (ak ++ un).Perm (ids ++ (y.acked ++ y.unacked)) ∧ (∀ i ∈ ak, i ∈ ids ∨ i ∈ y.acked) ∧
    (∀ p ∈ y.envlog, p ∈ el) ∧ (∀ m ∈ q, m ∈ y.queue ∨ (m.id, m.env) ∈ el) ∧ (∀ m ∈ y.queue, m ∈ q)

theorem Publishes.tid {n0 n : Nat} {ids : List Nat} {f : Topic → Topic}
    (h : Publishes n0 n ids f) (y : Topic) : (f y).tid = y.tid ∧ (f y).chans = y.chans := by
  obtain ⟨q, el, ak, un, nb, hq, _⟩ := h.spec y
  rw [hq]; exact ⟨rfl, rfl⟩

theorem publishes_one (n0 sz d : Nat) (env : Env) :
    Publishes n0 (n0 + 1) [n0]
      (fun tp => { putT tp n0 sz d env with msgCount := tp.msgCount + 1, msgBytes := tp.msgBytes + sz, acked := n0 :: tp.acked }) := by
  refine ⟨by simp, by simp, Nat.le_succ _, fun y => ?_⟩
  obtain ⟨q, hq, hq2, hq3⟩ := putT_spec y n0 sz d env
  refine ⟨q, (n0, env) :: y.envlog, n0 :: y.acked, y.unacked, y.msgBytes + sz, by simp only [hq]; rfl, by simpa using hq2, by simp,
    .refl _, fun i hi => by simpa using hi, fun p hp => List.mem_cons_of_mem _ hp, fun m hm => ?_, fun m hm => ?_⟩
  · rcases hq3 m hm with h | ⟨h, h'⟩
    · exact Or.inl h
    · right; rw [h, h']; exact List.mem_cons_self
  · have := putT_queue y n0 sz d env m hm
    rw [hq] at this; exact this

theorem publishes_many {n0 n k : Nat} {sizes : List Nat} {envs : List Env} {ack : Bool} {f : Topic → Topic} (hk : sizes.length = k)
    (hn : n0 + k ≤ n)
    (hf : ∀ y q el, putMany y n0 sizes envs = { y with queue := q, envlog := el } →
      f y = { y with queue := q, envlog := el, msgCount := y.msgCount + k, msgBytes := y.msgBytes + sizes.sum,
                     acked := if ack then (idsFrom n0 k).reverse ++ y.acked else y.acked,
                     unacked := if ack then y.unacked else (idsFrom n0 k).reverse ++ y.unacked }) :
    Publishes n0 n (idsFrom n0 k).reverse f := by
  subst hk
  refine ⟨(List.reverse_perm _).nodup_iff.2 (idsFrom_nodup _ _), fun i hi => ?_, by omega, fun y => ?_⟩
  · have := mem_idsFrom.1 (List.mem_reverse.1 hi); omega
  · obtain ⟨q, el, hq, hq2, hel, hold, hqe⟩ := putMany_spec y n0 sizes envs
    refine ⟨q, el, _, _, _, by rw [List.length_reverse, length_idsFrom]; exact hf y q el hq, hq2, hel, ?_, ?_, hold, hqe, fun m hm => ?_⟩
    · cases ack
      · exact List.perm_append_comm_assoc _ _ _
      · simp
    · cases ack
      · exact fun i hi => .inr hi
      · simp
    · have := putMany_queue y n0 sizes envs m hm
      rw [hq] at this; exact this

/-- which of the changes that some invariant does not survive an operation may make (nothing to do with `List.Perm`) -/
structure Perm where
  /-- the halves of a split channel creation: a channel outside the pump's snapshot, a snapshot refresh -/
  raw : Bool := false
  create : Bool := false
  /-- a channel step that is a micro-step of the channel model -/
  micro : Bool := false
  fanout : Bool := false
  publish : Bool := false

def perm : Nsq.Model.ChanNsqd.Op → Perm
  | .createChanRaw .. => { raw := true }
  | .refreshPump .. => { raw := true }
  | .createChan .. => { create := true }
  | .sub .. => { create := true }
  | .finChan .. => { micro := true }
  | .finClient .. => { micro := true }
  | .guard .. => { micro := true }
  | .deliverArmed .. => { micro := true }
  | .pumpTopic .. => { fanout := true }
  | .pub .. => { publish := true }
  | .dpub .. => { publish := true }
  | .mpub .. => { publish := true }
  | .mpubFail .. => { publish := true }
  | _ => {}

/-- where an elementary change stands within an operation: first topics and channels come into being, then comes the
one change the operation is about, then the bookkeeping of connections.  Invariants are proved for all stages alike
(`Chain.keeps`); the order matters to `Nsq.Proofs.TopicLive.chain_move` only, whose relation is not transitive.
A new change that creates things is `pre`; one that only records who is connected is `post`; anything else `mid`. -/
inductive Stage where
  | pre | mid | post

/-- the elementary changes. A premise is a test the branch of `step` has passed; `reap`, `subscribe`, `pauseTopic` carry none
and allow more than `step` does, which no invariant minds. -/
inductive Prim (p : Perm) (s : State) : Stage → State → Prop
  | ensure (t : Nat) : Prim p s .pre (ensureTopic s t)
  /-- `GetChannel` of a new channel, with the handshake that puts it into the pump's snapshot -/
  | addChan (t c : Nat) (eph : Bool) (tp : Topic) (hft : findT s.topics t = some tp) (hfn : findN tp.chans c = none)
      (hp : p.create = true) :
      Prim p s .pre { s with topics := updT s.topics t (fun tp =>
        { tp with chans := tp.chans ++ [({ cid := c, born := s.nextId, ch := newChan s.conf eph } : NChan)],
                  pump := (tp.chans ++ [({ cid := c, born := s.nextId, ch := newChan s.conf eph } : NChan)]).map (·.cid) }) }
  /-- only the map insert -/
  | addChanRaw (t c : Nat) (eph : Bool) (tp : Topic) (hft : findT s.topics t = some tp) (hfn : findN tp.chans c = none)
      (hp : p.raw = true) :
      Prim p s .pre { s with topics := updT s.topics t (fun tp =>
        { tp with chans := tp.chans ++ [({ cid := c, born := s.nextId, ch := newChan s.conf eph } : NChan)] }) }
  | refresh (t : Nat) (hp : p.raw = true) :
      Prim p s .mid { s with topics := updT s.topics t (fun tp => { tp with pump := tp.chans.map (·.cid) }) }
  | chan (t c : Nat) (cop : Nsq.Model.Chan.Op) (tp : Topic) (nc : NChan) (hft : findT s.topics t = some tp)
      (hfn : findN tp.chans c = some nc) (hput : isPut cop = false) (hat : p.micro = false → cop.atomic = true) :
      Prim p s .mid { s with topics := updT s.topics t (fun tp =>
        { tp with chans := updN tp.chans c (fun _ => (Nsq.Model.Chan.step s.conf.chan nc.ch cop).1) }) }
  | reap (t c k : Nat) :
      Prim p s .post { removeSub s k with topics := updT s.topics t (fun tp => reapEphemeral tp c) }
  | subscribe (k t c : Nat) : Prim p s .post { s with subs := ⟨k, t, c⟩ :: s.subs, everSub := k :: s.everSub }
  | publish (t n : Nat) (ids : List Nat) (f : Topic → Topic) (hf : Publishes s.nextId n ids f) (hp : p.publish = true) :
      Prim p s .mid { s with topics := updT s.topics t f, nextId := n }
  | pump (t : Nat) (tp : Topic) (m : TMsg) (kept : Bool) (pris : List (Nat × Int)) (hft : findT s.topics t = some tp)
      (hen : pumpEnabled tp = true) (hm : m ∈ tp.queue) (hk : keptAllowed m kept = true) (hp : p.fanout = true) :
      Prim p s .mid { s with topics := updT s.topics t (fun tp =>
        { tp with queue := tp.queue.filter (fun x => x.id != m.id),
                  chans := tp.chans.map (fanOne s.conf tp.pump m kept pris),
                  pumped := m.id :: tp.pumped }) }
  | pauseTopic (t : Nat) (b : Bool) :
      Prim p s .mid { s with topics := updT s.topics t (fun tp => { tp with paused := b }) }

inductive Pres (p : Perm) : State → State → Prop
  | refl (s : State) : Pres p s s
  | cons {s s1 s2 : State} (h : Prim p s .pre s1) (t : Pres p s1 s2) : Pres p s s2

def Opt (p : Perm) (k : Stage) (s s' : State) : Prop := s' = s ∨ Prim p s k s'

def Chain (p : Perm) (s s' : State) : Prop :=
  ∃ s1 s2, Pres p s s1 ∧ Opt p .mid s1 s2 ∧ Opt p .post s2 s'

theorem Chain.refl {p : Perm} (s : State) : Chain p s s := ⟨s, s, .refl s, .inl rfl, .inl rfl⟩
theorem Chain.pre {p : Perm} {s s' : State} (h : Pres p s s') : Chain p s s' := ⟨s', s', h, .inl rfl, .inl rfl⟩
theorem Chain.mid {p : Perm} {s s' : State} (h : Opt p .mid s s') : Chain p s s' := ⟨s, s', .refl s, h, .inl rfl⟩

theorem Chain.keeps {p : Perm} {J : State → Prop} (h : ∀ {k s s'}, J s → Prim p s k s' → J s')
    {s s' : State} (hc : Chain p s s') (hs : J s) : J s' := by
  have pres : ∀ {a b : State}, Pres p a b → J a → J b := by
    intro a b hab
    induction hab with
    | refl => exact fun ha => ha
    | cons hp _ ih => exact fun ha => ih (h ha hp)
  obtain ⟨s1, s2, hpre, hmid, hpost⟩ := hc
  have h1 : J s1 := pres hpre hs
  have h2 : J s2 := by
    rcases hmid with rfl | hm
    · exact h1
    · exact h h1 hm
  rcases hpost with rfl | hp
  · exact h2
  · exact h h2 hp

theorem ensureTopic_nextId (s : State) (t : Nat) : (ensureTopic s t).nextId = s.nextId ∧ (ensureTopic s t).conf = s.conf := by
  unfold ensureTopic; split <;> exact ⟨rfl, rfl⟩

theorem ensureTopic_nodup {s : State} (hn : (s.topics.map (·.tid)).Nodup) (t : Nat) :
    ((ensureTopic s t).topics.map (·.tid)).Nodup := by
  unfold ensureTopic
  split
  · exact hn
  · rename_i hf
    exact Keyed.nodup_append_fresh hn (findT_none hf)

theorem mem_ensureTopic {s : State} {t : Nat} {x : Topic} (hx : x ∈ (ensureTopic s t).topics) :
    x ∈ s.topics ∨ x = { tid := t, memCap := s.conf.memq } := by
  unfold ensureTopic at hx
  split at hx
  · exact .inl hx
  · rcases List.mem_append.1 hx with hx | hx
    · exact .inl hx
    · exact .inr (List.mem_singleton.1 hx)

theorem opt_chanStep (p : Perm) (s : State) (t c : Nat) (cop : Nsq.Model.Chan.Op)
    (hput : isPut cop = false) (hat : p.micro = false → cop.atomic = true) : Opt p .mid s (chanStep s t c cop).1 := by
  unfold chanStep
  split
  · exact .inl rfl
  · rename_i tp hft
    split
    · exact .inl rfl
    · rename_i nc hfn
      exact .inr (.chan t c cop tp nc hft hfn hput hat)

theorem chain_connStep (p : Perm) (s : State) (k : Nat) (cop : Nsq.Model.Chan.Op)
    (hput : isPut cop = false) (hat : p.micro = false → cop.atomic = true) : Chain p s (connStep s k cop).1 := by
  unfold connStep
  split
  · exact .refl _
  · rename_i sb _
    have hc := opt_chanStep p s sb.tid sb.cid cop hput hat
    dsimp only
    split
    · exact ⟨s, _, .refl s, hc, .inr (.reap sb.tid sb.cid k)⟩
    · exact .mid hc

theorem pres_doCreateChan (p : Perm) (hp : p.create = true) (s : State) (t c : Nat) (eph : Bool) :
    Pres p s (doCreateChan s t c eph).1 := by
  unfold doCreateChan
  dsimp only
  split
  · exact .cons (.ensure t) (.refl _)
  · rename_i tp hft
    split
    · exact .cons (.ensure t) (.refl _)
    · rename_i hfn
      exact .cons (.ensure t) (.cons (.addChan t c eph tp hft hfn hp) (.refl _))

theorem chain_ite {p : Perm} {s : State} (b : Bool) {x y : State × Out} (hx : Chain p s x.1)
    (hy : Chain p s y.1) : Chain p s (if b = true then x else y).1 := by
  cases b <;> simpa

theorem pumpTopic_cases (s : State) (t id : Nat) (kept : Bool) (pris : List (Nat × Int)) {s' : State}
    (h : (Nsq.Model.ChanNsqd.step s (.pumpTopic t id kept pris)).1 = s') :
    s' = s ∨ ∃ tp m, findT s.topics t = some tp ∧ pumpEnabled tp = true ∧ m ∈ tp.queue ∧ m.id = id ∧ keptAllowed m kept = true ∧
      s' = { s with topics := updT s.topics t (fun tp =>
        { tp with queue := tp.queue.filter (fun x => x.id != id),
                  chans := tp.chans.map (fanOne s.conf tp.pump m kept pris),
                  pumped := id :: tp.pumped }) } := by
  simp only [Nsq.Model.ChanNsqd.step] at h
  split at h
  · exact .inl h.symm
  · rename_i tp hft
    split at h
    · exact .inl h.symm
    · rename_i hen
      split at h
      · exact .inl h.symm
      · rename_i m hfm
        split at h
        · exact .inl h.symm
        · rename_i hk
          exact .inr ⟨tp, m, hft, by simpa using hen, List.mem_of_find?_eq_some hfm, by simpa using List.find?_some hfm,
            by simpa using hk, h.symm⟩

theorem nstep_chain (s : State) (op : Nsq.Model.ChanNsqd.Op) : Chain (perm op) s (Nsq.Model.ChanNsqd.step s op).1 := by
  cases op with
  | createTopic t => exact .pre (.cons (.ensure t) (.refl _))
  | createChanRaw t c eph =>
    simp only [Nsq.Model.ChanNsqd.step]
    split
    · exact .pre (.cons (.ensure t) (.refl _))
    · rename_i tp hft
      split
      · exact .pre (.cons (.ensure t) (.refl _))
      · rename_i hfn
        exact .pre (.cons (.ensure t) (.cons (.addChanRaw t c eph tp hft hfn rfl) (.refl _)))
  | refreshPump t => exact .mid (.inr (.refresh t rfl))
  | createChan t c eph => exact .pre (pres_doCreateChan _ rfl s t c eph)
  | sub k t c eph mt sample =>
    simp only [Nsq.Model.ChanNsqd.step]
    split
    · exact .refl _
    · have h1 := pres_doCreateChan (perm (.sub k t c eph mt sample)) rfl s t c eph
      split
      · exact ⟨_, _, h1, opt_chanStep _ _ t c (.addClient k mt sample) rfl (fun _ => rfl), .inr (.subscribe k t c)⟩
      · exact .pre h1
  | disconnect k =>
    simp only [Nsq.Model.ChanNsqd.step]
    split
    · exact .refl _
    · rename_i sb _
      exact ⟨s, _, .refl s, opt_chanStep _ s sb.tid sb.cid (.removeClient k) rfl (fun _ => rfl), .inr (.reap sb.tid sb.cid k)⟩
  | rdy k n =>
    simp only [Nsq.Model.ChanNsqd.step]
    split
    · exact chain_connStep _ s k _ rfl (fun _ => rfl)
    · split
      · exact .refl _
      · exact chain_ite _ (.refl _) (chain_connStep _ s k _ rfl (fun _ => rfl))
  | cls k => exact chain_connStep _ s k _ rfl (fun _ => rfl)
  | pub t size env =>
    exact ⟨_, _, .cons (.ensure t) (.refl _), .inr (.publish t _ _ _ (publishes_one _ size 0 env) rfl), .inl rfl⟩
  | dpub t size delay env =>
    exact ⟨_, _, .cons (.ensure t) (.refl _), .inr (.publish t _ _ _ (publishes_one _ size delay env) rfl), .inl rfl⟩
  | mpub t sizes envs =>
    exact ⟨_, _, .cons (.ensure t) (.refl _), .inr (.publish t _ _ _ (publishes_many (envs := envs) (ack := true) rfl (Nat.le_refl _)
      (fun y q el hq => by simp only [hq, if_true])) rfl), .inl rfl⟩
  | mpubFail t sizes j envs =>
    simp only [Nsq.Model.ChanNsqd.step]
    split
    · exact .pre (.cons (.ensure t) (.refl _))
    · rename_i hj
      have hlen : (sizes.take j).length = j := by simp only [List.length_take]; omega
      exact ⟨_, _, .cons (.ensure t) (.refl _), .inr (.publish t _ _ _ (publishes_many (envs := envs) (ack := false) hlen (by omega)
        (fun y q el hq => by simp only [hq, Bool.false_eq_true, if_false])) rfl), .inl rfl⟩
  | pumpTopic t id kept pris =>
    rcases pumpTopic_cases s t id kept pris rfl with h | ⟨tp, m, hft, hen, hm, rfl, hk, h⟩ <;> rw [h]
    · exact .refl _
    · exact .mid (.inr (.pump t tp m kept pris hft hen hm hk rfl))
  | deliver k id now => exact chain_connStep _ s k _ rfl (fun _ => rfl)
  | sampleDrop k id => exact chain_connStep _ s k _ rfl (fun _ => rfl)
  | fin k id => exact chain_connStep _ s k _ rfl (fun _ => rfl)
  | finChan k id => exact chain_connStep _ s k _ rfl (fun h => by cases h)
  | finClient k => exact chain_connStep _ s k _ rfl (fun h => by cases h)
  | guard k => exact chain_connStep _ s k _ rfl (fun h => by cases h)
  | deliverArmed k id now =>
    exact chain_connStep _ s k _ rfl (fun h => by cases h)
  | req k id delay now => exact chain_connStep _ s k _ rfl (fun _ => rfl)
  | touch k id now => exact chain_connStep _ s k _ rfl (fun _ => rfl)
  | scanInFlight t c time => exact .mid (opt_chanStep _ s t c _ rfl (fun _ => rfl))
  | scanDeferred t c time => exact .mid (opt_chanStep _ s t c _ rfl (fun _ => rfl))
  | pauseChan t c => exact .mid (opt_chanStep _ s t c _ rfl (fun _ => rfl))
  | unpauseChan t c => exact .mid (opt_chanStep _ s t c _ rfl (fun _ => rfl))
  | emptyChan t c => exact .mid (opt_chanStep _ s t c _ rfl (fun _ => rfl))
  | resplit t c m d => exact .mid (opt_chanStep _ s t c _ rfl (fun _ => rfl))
  | pauseTopic t =>
    simp only [Nsq.Model.ChanNsqd.step]
    split
    · exact .refl _
    · exact .mid (.inr (.pauseTopic t true))
  | unpauseTopic t =>
    simp only [Nsq.Model.ChanNsqd.step]
    split
    · exact .refl _
    · exact .mid (.inr (.pauseTopic t false))

theorem nstep_keeps {J : State → Prop} {s : State} (op : Nsq.Model.ChanNsqd.Op) (hs : J s)
    (h : ∀ {k s s'}, J s → Prim (perm op) s k s' → J s') : J (Nsq.Model.ChanNsqd.step s op).1 :=
  (nstep_chain s op).keeps h hs

theorem nrun_keeps {J : State → Prop} (ops : List Nsq.Model.ChanNsqd.Op)
    (h : ∀ s, ∀ op ∈ ops, J s → J (Nsq.Model.ChanNsqd.step s op).1) {s : State} (hs : J s) :
    J (Nsq.Model.ChanNsqd.run s ops) := by
  induction ops generalizing s with
  | nil => exact hs
  | cons op ops ih =>
    exact ih (fun s o ho => h s o (List.mem_cons_of_mem _ ho)) (h s op List.mem_cons_self hs)

theorem reap_keeps (y : Topic) (c : Nat) :
    (reapEphemeral y c).tid = y.tid ∧ (reapEphemeral y c).queue = y.queue ∧ (reapEphemeral y c).msgBytes = y.msgBytes ∧
    ∀ nc ∈ (reapEphemeral y c).chans, nc ∈ y.chans := by
  unfold reapEphemeral; split
  · split
    · exact ⟨rfl, rfl, rfl, fun _ h => (List.mem_filter.1 h).1⟩
    · exact ⟨rfl, rfl, rfl, fun _ h => h⟩
  · exact ⟨rfl, rfl, rfl, fun _ h => h⟩

theorem prim_conf {p : Perm} {k : Stage} {s s' : State} (hp : Prim p s k s') : s'.conf = s.conf := by
  cases hp with
  | ensure t => exact (ensureTopic_nextId s t).2
  | _ => rfl

theorem prim_tnodup {p : Perm} {k : Stage} {s s' : State} (hn : (s.topics.map (·.tid)).Nodup) (h : Prim p s k s') :
    (s'.topics.map (·.tid)).Nodup := by
  have upd : ∀ (t : Nat) (f : Topic → Topic), (∀ y, (f y).tid = y.tid) → ((updT s.topics t f).map (·.tid)).Nodup :=
    fun t f hf => by rw [map_tid_updT _ _ _ hf]; exact hn
  cases h with
  | ensure t => exact ensureTopic_nodup hn t
  | subscribe k t c => exact hn
  | publish t n ids f hf _ => exact upd t f (fun y => (hf.tid y).1)
  | reap t c k => exact upd t _ (fun y => (reap_keeps y c).1)
  | _ => exact upd _ _ (fun _ => rfl)

end Nsq.Proofs.ChanNsqd
