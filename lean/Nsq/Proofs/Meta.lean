import Nsq.Proofs.MetaStep
import Nsq.Proofs.MetaMaps
import Nsq.Model.MetaOrder
/-! Invariant A (C06), the first of three (I: `MetaIdle`, C: `MetaCut`): `nsqd.dat` is the last renamed snapshot, the
renamed snapshots are a subsequence of the taken ones, and what the temporary file holds in each phase of the
running persist. Then the order part alone (`OrderInv`) on `Model.MetaOrder`. -/
namespace Nsq.Proofs.Meta
open Nsq.Model.FS Nsq.Model.Meta

variable {β : Type}
variable {cd : Codec β} {fix : Bool} {s s' : Sys β} {ps : PStep} {st : Step} {p p' : Persist} {fs fs' : FS β}
  {taken renamed : List Doc}

/-- `onNone`, `onSome h`: a field of the shape `∀ p, s.persist = some p → …` (`InvA.run`, `InvC.run`) when there is no
persist, and when there is the one `h` speaks of. -/
theorem onNone {α : Type} {q : α → Prop} : ∀ p, (none : Option α) = some p → q p := fun _ h => nomatch h

theorem onSome {α : Type} {q : α → Prop} {p : α} (h : q p) : ∀ p', some p = some p' → q p' := by
  rintro _ ⟨⟩; exact h

/-- `mid`: between its snapshot and its rename the persist's document is the last one taken and the renamed ones are a
subsequence of those before it, so appending it at the rename keeps `InvA.sub`. -/
structure RunA (cd : Codec β) (fs : FS β) (taken renamed : List Doc) (p : Persist) : Prop where
  mid : p.phase ≠ .reading → p.phase ≠ .renamedP →
    renamed.Sublist taken.dropLast ∧ taken.getLast? = some p.done
  tmpFull : p.phase = .written ∨ p.phase = .synced → fs.tmp p.tmp = some (cd.marshal p.done)
  datDone : p.phase = .renamedP → fs.dat = some (cd.marshal p.done)

structure InvA (cd : Codec β) (s : Sys β) : Prop where
  datEq : s.fs.dat = s.renamed.getLast?.map cd.marshal
  sub : s.renamed.Sublist s.taken
  run : ∀ p, s.persist = some p → RunA cd s.fs s.taken s.renamed p

theorem invA_init (cd : Codec β) : InvA cd (Sys.init : Sys β) :=
  ⟨rfl, List.Sublist.refl _, onNone⟩

theorem RunA.reading (h : p.phase = .reading) : RunA cd fs taken renamed p := by
  refine ⟨fun hn => absurd h hn, ?_, ?_⟩ <;> rw [h] <;> nofun

theorem Advance.keeps (h : Advance cd p fs ps p' fs') :
    p'.owner = p.owner ∧ p'.done = p.done ∧ p'.since = p.since ∧ fs'.dat = fs.dat := by
  cases h <;> exact ⟨rfl, rfl, rfl, rfl⟩

theorem Advance.mid (h : Advance cd p fs ps p' fs') :
    (p.phase ≠ .reading ∧ p.phase ≠ .renamedP) ∧ p'.phase ≠ .reading ∧ p'.phase ≠ .renamedP := by
  cases h with
  | openTmp h | sync h => rw [h]; exact ⟨⟨nofun, nofun⟩, nofun, nofun⟩
  | writePart h | writeRest h => rcases h with h | h <;> rw [h] <;> exact ⟨⟨nofun, nofun⟩, nofun, nofun⟩

theorem Advance.tmpFull (h : Advance cd p fs ps p' fs')
    (hp : p.phase = .written ∨ p.phase = .synced → fs.tmp p.tmp = some (cd.marshal p.done))
    (hph : p'.phase = .written ∨ p'.phase = .synced) : fs'.tmp p'.tmp = some (cd.marshal p'.done) := by
  cases h with
  | openTmp | writePart => rcases hph with h | h <;> cases h
  | writeRest => exact FS.tmp_setTmp _ _ _
  | sync h => exact hp (Or.inl h)

theorem RunA.advance (h : RunA cd fs taken renamed p) (ha : Advance cd p fs ps p' fs') :
    RunA cd fs' taken renamed p' := by
  obtain ⟨-, hd, -, -⟩ := ha.keeps
  obtain ⟨hm, hm'⟩ := ha.mid
  exact ⟨fun _ _ => hd ▸ h.mid hm.1 hm.2, ha.tmpFull h.tmpFull, fun hr => absurd hr hm'.2⟩

theorem invA_ptrans (h : InvA cd s) (ht : PTrans cd s ps s') : InvA cd s' := by
  cases ht with
  | beginNotify | beginHandler =>
    exact ⟨h.datEq, h.sub, onSome (.reading rfl)⟩
  | readMore hp hph =>
    exact ⟨h.datEq, h.sub, onSome (.reading hph)⟩
  | @readDone p hp hph =>
    refine ⟨h.datEq, h.sub.trans (List.sublist_append_left _ _), onSome ?_⟩
    exact ⟨fun _ _ => ⟨by rw [List.dropLast_concat]; exact h.sub, List.getLast?_concat ..⟩, nofun, nofun⟩
  | advance hp had =>
    exact ⟨had.keeps.2.2.2 ▸ h.datEq, h.sub, onSome ((h.run _ hp).advance had)⟩
  | @rename p hp hph =>
    have hr := h.run p hp
    obtain ⟨hmid, hlast⟩ := hr.mid (by rw [hph]; nofun) (by rw [hph]; nofun)
    have hdat := FS.dat_renameTmp _ _ _ (hr.tmpFull (Or.inr hph))
    refine ⟨?_, sublist_snoc_of_getLast? hmid hlast, onSome ?_⟩
    · rw [hdat, List.getLast?_concat]; rfl
    · exact ⟨fun _ hn => absurd rfl hn, (by rintro (h | h) <;> cases h), fun _ => hdat⟩
  | finish => exact ⟨h.datEq, h.sub, onNone⟩

theorem InvA.frame (h : InvA cd s) (hf : s'.fs = s.fs) (ht : s'.taken = s.taken)
    (hr : s'.renamed = s.renamed) (hp : ∀ p, s'.persist = some p → s.persist = some p) : InvA cd s' := by
  refine ⟨?_, ?_, fun p hq => ?_⟩
  · rw [hf, hr]; exact h.datEq
  · rw [ht, hr]; exact h.sub
  · rw [hf, ht, hr]; exact h.run p (hp p hq)

theorem invA_step (h : InvA cd s) (hs : step cd fix s st = some s') : InvA cd s' := by
  cases step_inv hs with
  | locked | badFile | exitBegin | mem => exact h.frame rfl rfl rfl (fun _ hp => hp)
  | fresh | load | kill | exitEnd => exact h.frame rfl rfl rfl onNone
  | persist _ ht => exact invA_ptrans h ht

theorem reach_invA (h : Reach cd fix s) : InvA cd s :=
  reach_induct (InvA cd) (invA_init cd) (fun _ _ _ hi hs => invA_step hi hs) s h

/-! The order part of invariant A on the abstraction `Model.MetaOrder` (snapshots taken / renamed only), where
the lock may also be shared. -/

def OrderInv (s : OSt) : Prop :=
  s.renamed.Sublist s.taken ∧ s.inflight.length ≤ 1 ∧
    ∀ d ∈ s.inflight, s.taken.getLast? = some d ∧ s.renamed.Sublist s.taken.dropLast

theorem orderInv_ostep {s0 s1 : OSt} {st : OStep} (h0 : OrderInv s0) (h1 : ostep false s0 st = some s1) :
    OrderInv s1 := by
  obtain ⟨hsub, hlen, hin⟩ := h0
  cases st with
  | snap d =>
    simp only [ostep] at h1
    split at h1
    · cases h1
    · next hc =>
      have hc : s0.inflight = [] := by simpa using hc
      cases h1
      refine ⟨hsub.trans (List.sublist_append_left _ _), by simp [hc], ?_⟩
      intro x hx
      rw [hc] at hx
      cases List.mem_singleton.mp hx
      exact ⟨List.getLast?_concat .., by rw [List.dropLast_concat]; exact hsub⟩
  | rename i =>
    simp only [ostep] at h1
    split at h1
    · cases h1
    · next d hd =>
      cases h1
      obtain ⟨hl, hs⟩ := hin d (List.mem_of_getElem? hd)
      have hnil : s0.inflight.eraseIdx i = [] := by
        apply List.eq_nil_of_length_eq_zero
        rw [List.length_eraseIdx_of_lt (List.getElem?_eq_some_iff.mp hd).1]
        omega
      exact ⟨sublist_snoc_of_getLast? hs hl, by simp [hnil], by simp [hnil]⟩

theorem orderInv_orun {s : OSt} : ∀ (steps : List OStep) (s0 : OSt), OrderInv s0 →
    orun false s0 steps = some s → OrderInv s
  | [], _, h0, hr => by cases hr; exact h0
  | st :: rest, s0, h0, hr => by
    simp only [orun] at hr
    split at hr
    · cases hr
    · next s1 h1 => exact orderInv_orun rest s1 (orderInv_ostep h0 h1) hr

end Nsq.Proofs.Meta
