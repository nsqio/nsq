import Nsq.Model.Aggregate
import Nsq.Proofs.AggregateSums
import Nsq.Proofs.AggregateMerge
import Nsq.Proofs.Upsert
import Nsq.Proofs.AggregateSafe
/-!
`TopicStats.Add` folded over reports. The topic's own fields (counters, node list, `paused`) do not depend on the channel
merge: `addAll_val`, on any tree whenever the fold does not fault. Over the reports of GetNSQDStats on a guarded tree the
fold does not fault and is a pure fold (`addAll_eq`); its channel part in closed form: the merged channel list of
`/api/topics/:t` is the channel reports grouped by name — one entry per name, made of the first report with that name
(taken over as it is) and `ChannelStats.Add` of the later ones (`merged_spec`).
-/
namespace Nsq.Proofs.AggregateChannels
open Nsq.Model.Aggregate Nsq.Proofs.AggregateSums Nsq.Proofs.AggregateMerge
open Nsq.Proofs.AggregateSafe

/-- The aggregate a channel starts as in `TopicStats.Add`: the first reporter's own object. -/
def firstOf (a : ChanNode) : ChanAgg :=
  { node := a.node, topic := a.topic, name := a.name, cnt := a.cnt, paused := a.paused,
    nodes := [], clients := a.clients, junk := a.upNodes }

/-- The channel part of `TopicStats.Add` without the faults. -/
def mergePure : List ChanAgg → ChanNode → List ChanAgg :=
  Upsert.upsert (·.name) (·.name) firstOf addPure

/-- `TopicStats.Add` without the faults. -/
def addTopicPure (t : TopicAgg) (a : TopicNode) : TopicAgg :=
  { t with cnt := t.cnt.add a.cnt, paused := t.paused || a.paused, nodes := t.nodes ++ [a],
           channels := a.channels.foldl mergePure t.channels }

theorem addAll_val (fx : Fixes) (as : List TopicNode) : ∀ (t r : TopicAgg), TopicAgg.addAll fx as t = .ok r →
    r.cnt = sumFrom t.cnt (as.map (·.cnt)) ∧ r.nodes = t.nodes ++ as ∧ r.paused = (t.paused || as.any (·.paused)) := by
  induction as with
  | nil => intro t r h; cases h; simp [sumFrom]
  | cons a rest ih =>
    intro t r h
    unfold TopicAgg.addAll TopicAgg.add at h
    split at h
    · cases h
    · next t' hadd =>
      obtain ⟨i1, i2, i3⟩ := ih t' r h
      split at hadd
      · cases hadd
      · split at hadd <;> cases hadd
        rw [i1, i2, i3]
        simp [sumFrom, Bool.or_assoc]

theorem foldl_addTopicPure (as : List TopicNode) : ∀ t : TopicAgg,
    (as.foldl addTopicPure t).channels = (chansOfTopics as).foldl mergePure t.channels := by
  induction as with
  | nil => intro t; rfl
  | cons a rest ih => intro t; rw [List.foldl_cons, ih]; simp [addTopicPure, chansOfTopics, List.foldl_append]

/-! On a tree with the latency guard the fold does not fault, provided no aggregate holds a `NodeStats` entry that did
not come from an `Add` — which is so when the reports are those of GetNSQDStats (`AggregateSafe.nsqdStats_clean`). -/

def CleanAggs (cs : List ChanAgg) : Prop := ∀ c ∈ cs, c.junk = []

section
variable {fx : Fixes}

theorem mergeChan_go_eq (he : fx.nilE2e = true) (a : ChanNode) (cs : List ChanAgg) (hcs : CleanAggs cs) :
    mergeChan.go fx a cs = .ok (cs.map (fun c => if c.name == a.name then addPure c a else c)) := by
  induction cs with
  | nil => rfl
  | cons c rest ih =>
    simp only [mergeChan.go, ih fun x hx => hcs x (List.mem_cons_of_mem _ hx), hcs c List.mem_cons_self,
      chanAgg_add_eq he, List.any_nil, Bool.false_eq_true, if_false, List.map_cons]
    split <;> rfl

theorem mergeChan_eq (he : fx.nilE2e = true) (cs : List ChanAgg) (a : ChanNode) (hcs : CleanAggs cs) :
    mergeChan fx cs a = .ok (mergePure cs a) := by
  unfold mergeChan mergePure Upsert.upsert
  split
  · exact mergeChan_go_eq he a cs hcs
  · rfl

theorem mergePure_clean {cs : List ChanAgg} {a : ChanNode} (hcs : CleanAggs cs) (ha : a.upNodes = []) :
    CleanAggs (mergePure cs a) := by
  unfold mergePure Upsert.upsert
  split
  · intro c hc
    obtain ⟨c0, h0, rfl⟩ := List.mem_map.1 hc
    split <;> exact hcs c0 h0
  · intro c hc
    rcases List.mem_append.1 hc with h | h
    · exact hcs c h
    · cases List.mem_singleton.1 h; exact ha

theorem mergeChans_eq (he : fx.nilE2e = true) (as : List ChanNode) : ∀ cs, CleanAggs cs → CleanNodes as →
    mergeChans fx as cs = .ok (as.foldl mergePure cs) ∧ CleanAggs (as.foldl mergePure cs) := by
  induction as with
  | nil => intro cs h _; exact ⟨rfl, h⟩
  | cons a rest ih =>
    intro cs hcs has
    simpa only [mergeChans, mergeChan_eq he cs a hcs, List.foldl_cons] using
      ih _ (mergePure_clean hcs (has a List.mem_cons_self)) fun x hx => has x (List.mem_cons_of_mem _ hx)

theorem addAll_from_eq (he : fx.nilE2e = true) (as : List TopicNode) : ∀ t, CleanAggs t.channels → CleanTs as →
    TopicAgg.addAll fx as t = .ok (as.foldl addTopicPure t) := by
  induction as with
  | nil => intro t _ _; rfl
  | cons a rest ih =>
    intro t ht has
    obtain ⟨hm, hcl⟩ := mergeChans_eq he a.channels t.channels ht (has a List.mem_cons_self)
    have hadd : t.add fx a = .ok (addTopicPure t a) := by
      simp only [TopicAgg.add, hm, he, Bool.not_true, Bool.and_false, Bool.false_eq_true, if_false]; rfl
    simpa only [TopicAgg.addAll, hadd, List.foldl_cons] using
      ih (addTopicPure t a) hcl fun x hx => has x (List.mem_cons_of_mem _ hx)

theorem addAll_eq (he : fx.nilE2e = true) (as : List TopicNode) (name : String) (has : CleanTs as) :
    TopicAgg.addAll fx as { name := name } = .ok (as.foldl addTopicPure { name := name }) :=
  addAll_from_eq he as _ (fun _ hc => nomatch hc) has

end

theorem addPure_name (c : ChanAgg) (a : ChanNode) : (addPure c a).name = c.name := rfl

theorem merged_spec (as : List ChanNode) (cs : List ChanAgg) (h : cs = as.foldl mergePure []) :
    (cs.map (·.name)).Nodup ∧
    (∀ n, n ∈ cs.map (·.name) ↔ ∃ a ∈ as, a.name = n) ∧
    ∀ c ∈ cs, ∃ a0 rest, as.filter (fun a => a.name == c.name) = a0 :: rest ∧
      c.cnt = sumFrom {} ((a0 :: rest).map (·.cnt)) ∧ c.nodes = rest ∧
      c.clients = (a0 :: rest).flatMap (·.clients) ∧ c.paused = (a0 :: rest).any (·.paused) := by
  have hinv : Upsert.Inv (·.name) (·.name) firstOf addPure cs as := by
    rw [h]
    exact Upsert.inv_fold (key := (·.name)) (keyOf := (·.name)) (init := firstOf) addPure_name (fun _ => rfl) as
  refine ⟨hinv.nodup, fun n => (hinv.mem_keys n).trans List.mem_map, fun c hc => ?_⟩
  · obtain ⟨a0, rest, hf, this⟩ := hinv.entry_cons hc
    obtain ⟨h1, h2, h3, h4⟩ := fold_addPure_spec rest (firstOf a0)
    refine ⟨a0, rest, hf, ?_, ?_, ?_, ?_⟩
    · rw [← this, h1]
      simp [sumFrom, firstOf, Counters.zero_add]
    · rw [← this, h3]; simp [firstOf]
    · rw [← this, h2]; simp [firstOf]
    · rw [← this, h4]; simp [firstOf]

end Nsq.Proofs.AggregateChannels
