import Nsq.Model.Aggregate
import Nsq.Proofs.AggregateNames
import Nsq.Proofs.AggregateFetch
import Nsq.Proofs.AggregateProducers
/-!
The `?inactive=true` loop of topicsHandler, one statement per level (`inactiveStep_spec`, `inactiveGo_spec`): on every
tree with the decode guards it does not fault and lists the same, F58 or not — the topics without producer
(`anyProducer`), each with the union of the `/channels` answers (`unionNames_spec`); with F58 it warns, without it never
answers 502 nor warns. `inactive_view_spec` carries this to `view … .topicsInactive`. (The namespace is that of
`Proofs/AggregateChannels`.)
-/
namespace Nsq.Proofs.AggregateChannels
open Nsq.Model.Aggregate Nsq.Proofs.AggregateNames Nsq.Proofs.AggregateFetch Nsq.Proofs.AggregateProducers

def anyProducer (ls : List Lookupd) : Bool :=
  ls.any (fun l => match l.lookup with
    | some a => a.any (·.isSome)
    | none => false)

theorem mem_channelAnswers (w : World) (t c : String) :
    (∃ a ∈ channelAnswers w t, ∃ names, a = some names ∧ c ∈ names) ↔
      ∃ l ∈ w.lookupds, ∃ names, channelsFor w l t = some names ∧ c ∈ names :=
  exists_mem_map

theorem unionNames_spec (answers : List (Option (List String))) (cs : List String) (f : Nat)
    (h : unionNames answers = .got cs f) :
    cs.Pairwise (· < ·) ∧ ∀ c, c ∈ cs ↔ ∃ a ∈ answers, ∃ names, a = some names ∧ c ∈ names := by
  obtain ⟨rfl, -⟩ := fetched_got (unionNames_fetched answers ▸ h)
  refine ⟨names_sorted _, fun c => ?_⟩
  rw [names_mem]
  simp only [List.mem_flatten, List.mem_filterMap, id_eq]
  constructor
  · rintro ⟨names, ⟨a, ha, hs⟩, hc⟩; exact ⟨a, ha, names, hs, hc⟩
  · rintro ⟨a, ha, names, hs, hc⟩; exact ⟨names, ⟨a, ha, hs⟩, hc⟩

section
variable {fx : Fixes}

theorem anyProducer_false_iff (ls : List Lookupd) : anyProducer ls = false ↔ ∀ l ∈ ls, lookupOf l = [] := by
  simp only [anyProducer, List.any_eq_false]
  refine forall₂_congr fun l _ => ?_
  unfold lookupOf
  cases l.lookup with
  | none => simp
  | some a =>
    simp only [Bool.not_eq_true, List.any_eq_false, List.filterMap_eq_nil_iff]
    refine forall₂_congr fun p _ => ?_
    cases p <;> simp

theorem unionNames_lists (answers : List (Option (List String))) (cs : List String)
    (h : (match unionNames answers with | .allFailed => [] | .got cs _ => cs) = cs) :
    cs.Pairwise (· < ·) ∧ ∀ c, c ∈ cs ↔ ∃ a ∈ answers, ∃ names, a = some names ∧ c ∈ names := by
  cases hu : unionNames answers with
  | got cs' f2 => rw [hu] at h; subst h; exact unionNames_spec _ _ f2 hu
  | allFailed =>
    rw [hu] at h; subst h
    refine ⟨List.Pairwise.nil, fun c => ⟨fun hc => (nomatch hc), ?_⟩⟩
    rintro ⟨a, ha, names, hs, _⟩
    exact nomatch hs ▸ fetched_allFailed.1 (unionNames_fetched answers ▸ hu) a ha

/-- What is said of a pass that does not answer 502: the topic is listed iff no responding nsqlookupd holds a producer of
it, with the union of the `/channels` answers; the pass warns only with F58 (`ie`), and then as soon as an nsqlookupd
failed to answer `/lookup?topic=`. -/
def PassOk (ie : Bool) (w : World) (t : String) (r : Option (List String)) (wn : Bool) : Prop :=
  r.isSome = (!anyProducer (lookupdsFor w t)) ∧
  (∀ cs, r = some cs → cs.Pairwise (· < ·) ∧
    ∀ c, c ∈ cs ↔ ∃ l ∈ w.lookupds, ∃ names, channelsFor w l t = some names ∧ c ∈ names) ∧
  (wn = true → ie = true) ∧ (ie = true → (∃ lk ∈ w.lookupds, lookupFor w lk t = none) → wn = true)

/-- One pass on a tree with the decode guards, whatever the switch of F58: it does not fault, and answers 502 only with
F58. -/
theorem inactiveStep_spec (ht : fx.tombBounds = true) (hn : fx.nilElems = true) (w : World) (t : String) :
    ∃ o, inactiveStep fx w t = .ok o ∧ (o = none → fx.inactiveErrs = true) ∧
      ∀ r wn, o = some (r, wn) → PassOk fx.inactiveErrs w t r wn := by
  -- a listed topic comes with the union of the `/channels` answers, whichever way that fetch went
  have listed : ∀ cs0 wn0, anyProducer (lookupdsFor w t) = false →
      (match unionNames (channelAnswers w t) with | .allFailed => [] | .got cs _ => cs) = cs0 →
      (wn0 = true → fx.inactiveErrs = true) →
      (fx.inactiveErrs = true → (∃ lk ∈ w.lookupds, lookupFor w lk t = none) → wn0 = true) →
      ∃ o, Except.ok (ε := Fault) (some (some cs0, wn0)) = .ok o ∧ (o = none → fx.inactiveErrs = true) ∧
        ∀ r wn, o = some (r, wn) → PassOk fx.inactiveErrs w t r wn := by
    intro cs0 wn0 hany hu hw1 hw2
    refine ⟨_, rfl, nofun, fun r wn ho => ?_⟩
    cases ho
    refine ⟨by rw [hany]; rfl, fun cs hcs => ?_, hw1, hw2⟩
    obtain ⟨u1, u2⟩ := unionNames_lists _ cs (hu.trans (Option.some.inj hcs))
    exact ⟨u1, fun c => (u2 c).trans (mem_channelAnswers w t c)⟩
  have hnil := lookupdTopicProducers_nil ht hn (lookupdsFor w t)
  unfold inactiveStep
  rw [lookupdTopicProducers_eq ht hn] at hnil ⊢
  rw [← anyProducer_false_iff] at hnil
  split
  · next h => cases h
  · next hall =>
    -- nobody answered `/lookup`: 502 with F58, listed without
    have hany : anyProducer (lookupdsFor w t) = false := by
      rw [anyProducer_false_iff]
      intro l hl
      have := fetched_allFailed.1 (Except.ok.inj hall) _ (List.mem_map.2 ⟨l, hl, rfl⟩)
      simp only [lookupOf, this]
    split
    · next hi => exact ⟨none, rfl, fun _ => hi, nofun⟩
    · next hi =>
      cases hu : unionNames (channelAnswers w t) <;>
        exact listed _ false hany (by rw [hu]) nofun fun h => absurd h hi
  · next ps f1 hgot =>
    have hps := hnil ps f1 hgot
    have hpos : (∃ lk ∈ w.lookupds, lookupFor w lk t = none) → f1 > 0 := by
      rintro ⟨lk, hlk, hnone⟩
      rw [(fetched_got (Except.ok.inj hgot)).2.1, gt_iff_lt, countFailed_pos]
      exact ⟨none, List.mem_map.2 ⟨_, List.mem_map.2 ⟨lk, hlk, rfl⟩, hnone⟩, rfl⟩
    split
    · next hne =>
      have hany : anyProducer (lookupdsFor w t) = true := by
        cases hb : anyProducer (lookupdsFor w t) with
        | true => rfl
        | false => rw [hps.2 hb] at hne; cases hne
      refine ⟨_, rfl, nofun, fun r wn ho => ?_⟩
      cases ho
      exact ⟨by rw [hany]; rfl, nofun, fun h => (Bool.and_eq_true _ _ ▸ h).1,
        fun hi hex => by simp [hi, hpos hex]⟩
    · next hemp =>
      have hany : anyProducer (lookupdsFor w t) = false := hps.1 (by simpa using hemp)
      cases hu : unionNames (channelAnswers w t)
      · dsimp only
        split
        · next hi => exact ⟨none, rfl, fun _ => hi, nofun⟩
        · next hi => exact listed _ false hany (by rw [hu]) nofun fun h => absurd h hi
      · exact listed _ _ hany (by rw [hu]) (fun h => (Bool.and_eq_true _ _ ▸ h).1)
          fun hi hex => by simp [hi, hpos hex]

/-- The loop on a tree with the decode guards, whatever the switch of F58: it does not fault and answers 502 only with
F58; it lists, in the order of the topic list, the topics without producer, each with its channels; it warns only with
F58, and then as soon as some `/lookup?topic=` of a topic of `ts` (inactive or not) failed. -/
theorem inactiveGo_spec (ht : fx.tombBounds = true) (hn : fx.nilElems = true) (w : World) (ts : List String) :
    ∃ o, inactiveGo fx w ts = .ok o ∧ (o = none → fx.inactiveErrs = true) ∧
      ∀ m wn, o = some (m, wn) →
        (m.map (·.1) = ts.filter (fun t => !anyProducer (lookupdsFor w t)) ∧
          ∀ t cs, (t, cs) ∈ m → cs.Pairwise (· < ·) ∧
            ∀ c, c ∈ cs ↔ ∃ l ∈ w.lookupds, ∃ names, channelsFor w l t = some names ∧ c ∈ names) ∧
        (wn = true → fx.inactiveErrs = true) ∧
        (fx.inactiveErrs = true → (∃ t ∈ ts, ∃ lk ∈ w.lookupds, lookupFor w lk t = none) → wn = true) := by
  induction ts with
  | nil =>
    refine ⟨_, rfl, nofun, fun m wn h => ?_⟩
    cases h
    exact ⟨⟨rfl, nofun⟩, nofun, fun _ ⟨_, hm, _⟩ => nomatch hm⟩
  | cons t rest ih =>
    obtain ⟨o1, h1, n1, s1⟩ := inactiveStep_spec ht hn w t
    obtain ⟨o2, h2, n2, s2⟩ := ih
    unfold inactiveGo
    simp only [h1, h2]
    cases o1 with
    | none => exact ⟨none, rfl, fun _ => n1 rfl, nofun⟩
    | some x =>
      cases o2 with
      | none => exact ⟨none, rfl, fun _ => n2 rfl, nofun⟩
      | some y =>
        obtain ⟨p1, p2, p3, p4⟩ := s1 x.1 x.2 rfl
        obtain ⟨⟨i1, i2⟩, i3, i4⟩ := s2 y.1 y.2 rfl
        refine ⟨_, rfl, nofun, fun m wn h => ?_⟩
        cases h
        refine ⟨?_, fun h => (Bool.or_eq_true _ _ ▸ h).elim p3 i3, fun hi ⟨t', hm, hlk⟩ => ?_⟩
        · obtain ⟨r, wn0⟩ := x
          cases r with
          | none =>
            have hp : (!anyProducer (lookupdsFor w t)) = false := by rw [← p1]; rfl
            simp only [List.nil_append, List.filter_cons, hp, Bool.false_eq_true, if_false]
            exact ⟨i1, i2⟩
          | some cs0 =>
            have hp : (!anyProducer (lookupdsFor w t)) = true := by rw [← p1]; rfl
            simp only [List.singleton_append, List.map_cons, List.filter_cons, hp, if_true, i1, List.mem_cons]
            refine ⟨trivial, fun t' cs' hm => ?_⟩
            rcases hm with hm | hm
            · cases hm; exact p2 _ rfl
            · exact i2 t' cs' hm
        · rcases List.mem_cons.1 hm with rfl | hm'
          · simp [p4 hi hlk]
          · simp [i4 hi ⟨t', hm', hlk⟩]

end

theorem inactive_view_eq (fx : Fixes) (w : World) (ts : List String) (f : Nat)
    (hne : w.lookupds.isEmpty = false) (h : lookupdTopics w.lookupds = .got ts f) :
    view fx w .topicsInactive =
      (match inactiveGo fx w ts with
       | .error e => .error e
       | .ok none => .ok { status := 502 }
       | .ok (some (m, wn)) => .ok { status := 200, warn := f > 0 || wn, body := .inactive m }) := by
  simp only [view, topicsInactiveView, hne, Bool.false_eq_true, if_false, h]
  cases inactiveGo fx w ts with
  | error e => rfl
  | ok r =>
    cases r with
    | none => rfl
    | some x => rfl

/-- F58's switch is left free, so this one statement serves `Fixes.all` and `Fixes.tree` alike. -/
theorem inactive_view_spec {fx : Fixes} (ht : fx.tombBounds = true) (hn : fx.nilElems = true) {w : World} {v : View}
    (hl : w.lookupds ≠ []) (h : view fx w .topicsInactive = .ok v) :
    (v.status = 502 ∧ (lookupdTopics w.lookupds = .allFailed ∨ fx.inactiveErrs = true)) ∨
    ∃ ts f m wn, lookupdTopics w.lookupds = .got ts f ∧ v = { status := 200, warn := f > 0 || wn, body := .inactive m } ∧
      (m.map (·.1) = ts.filter (fun t => !anyProducer (lookupdsFor w t)) ∧
        ∀ t cs, (t, cs) ∈ m → cs.Pairwise (· < ·) ∧
          ∀ c, c ∈ cs ↔ ∃ l ∈ w.lookupds, ∃ names, channelsFor w l t = some names ∧ c ∈ names) ∧
      (wn = true → fx.inactiveErrs = true) ∧
      (fx.inactiveErrs = true → (∃ t ∈ ts, ∃ lk ∈ w.lookupds, lookupFor w lk t = none) → wn = true) := by
  have hne : w.lookupds.isEmpty = false := by simpa using hl
  cases hts : lookupdTopics w.lookupds with
  | allFailed =>
    simp only [view, topicsInactiveView, hne, Bool.false_eq_true, if_false, hts, Except.ok.injEq] at h
    subst h
    exact .inl ⟨rfl, .inl rfl⟩
  | got ts f =>
    obtain ⟨o, hgo, hno, hs⟩ := inactiveGo_spec ht hn w ts
    rw [inactive_view_eq fx w ts f hne hts, hgo] at h
    match o with
    | none => cases Except.ok.inj h; exact .inl ⟨rfl, .inr (hno rfl)⟩
    | some (m, wn) => exact .inr ⟨ts, f, m, wn, rfl, (Except.ok.inj h).symm, hs m wn rfl⟩

end Nsq.Proofs.AggregateChannels
