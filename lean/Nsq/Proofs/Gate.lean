import Nsq.Model.Gate
/-!
The handlers of `Nsq.Model.Gate` are if-chains, taken apart by `fun_cases`: one goal per branch, numbered in the
order of the definition; the hypotheses a case binds, or a comment, say which branch it is.

The file also holds what the statements of `Nsq.Props.C11` are written in: `inForce`, `authCode`, `subject`,
`IsTlsUpgrade` / `IsAuthSuccess` / `IsSubSuccess`, and at the end the `ex*` objects of its examples.
-/
namespace Nsq.Proofs.Gate
open Nsq.Model.Gate

theorem hasPermission_iff (perm : String) (ps : List String) :
    hasPermission perm ps = true ↔ perm ∈ ps := by
  fun_induction hasPermission perm ps with
  | case1 => simp
  | case2 ps => simp
  | case3 p ps h ih => simp [h, ih]

theorem anyChannelMatches_iff (M : Matcher) (ch : String) (cs : List String) :
    anyChannelMatches M ch cs = true ↔ ∃ p ∈ cs, M.isMatch p ch = true := by
  fun_induction anyChannelMatches M ch cs with
  | case1 => simp
  | case2 c cs h => simp [h]
  | case3 c cs h ih => simp [h, ih]

theorem grantAllowed_iff (M : Matcher) (g : Grant) (t ch : String) :
    grantAllowed M g t ch = true ↔
      (if ch ≠ "" then "subscribe" else "publish") ∈ g.perms ∧ M.isMatch g.topic t = true ∧
        ∃ p ∈ g.channels, M.isMatch p ch = true := by
  unfold grantAllowed
  by_cases hc : ch = "" <;>
    simp [hc, hasPermission_iff, anyChannelMatches_iff]

section
variable (E : Ext) (cfg : Config) (M : Matcher) (ans : Request → Option Resp) (now : Int)
  (c : Conn) (b : Broker)

/-! ## the auth gate -/

/-- The grants that decide a command issued at `now`: the cached ones, or, once they have expired, those of the
re-query `CheckAuth` makes on the spot. -/
def inForce (M : Matcher) (ans : Request → Option Resp) (now : Int) (c : Conn) : Option (List Grant) :=
  match c.auth with
  | none => none
  | some a =>
    if a.expires < now then
      (match validate M now (ans (requestOf c)) with
       | none => none
       | some a' => some a'.grants)
    else some a.grants

section
variable {M now}
theorem validate_some {r : Option Resp} {a : AuthState} (h : validate M now r = some a) :
    ∃ resp, r = some resp ∧ resp.ttl > 0 ∧
      a = { grants := resp.grants, expires := now + resp.ttl, identity := resp.identity, url := resp.url } := by
  revert h
  fun_cases validate M now r
  case case4 resp _ httl =>
    intro h; cases h; exact ⟨resp, rfl, by omega, rfl⟩
  all_goals exact nofun
end

theorem hasAuthorizations_iff (c : Conn) :
    hasAuthorizations c = true ↔ ∃ a, c.auth = some a ∧ a.grants.length ≠ 0 := by
  unfold hasAuthorizations
  cases c.auth <;> simp

theorem checkAuth_cases (t ch : String) :
    (cfg.authEnabled = false ∧ checkAuth cfg M ans now c t ch = ⟨c, none, none⟩) ∨
    (cfg.authEnabled = true ∧ hasAuthorizations c = false ∧
      checkAuth cfg M ans now c t ch = ⟨c, none, some "E_AUTH_FIRST"⟩) ∨
    ∃ a, cfg.authEnabled = true ∧ c.auth = some a ∧ a.grants.length ≠ 0 ∧
      ((¬ a.expires < now ∧ checkAuth cfg M ans now c t ch =
          ⟨c, none, if isAllowed M t ch a.grants then none else some "E_UNAUTHORIZED"⟩) ∨
       (a.expires < now ∧ validate M now (ans (requestOf c)) = none ∧
          checkAuth cfg M ans now c t ch = ⟨c, some (requestOf c), some "E_AUTH_FAILED"⟩) ∨
       (a.expires < now ∧ ∃ a', validate M now (ans (requestOf c)) = some a' ∧
          checkAuth cfg M ans now c t ch =
            ⟨{ c with auth := some a' }, some (requestOf c),
             if isAllowed M t ch a'.grants then none else some "E_UNAUTHORIZED"⟩)) := by
  fun_cases checkAuth cfg M ans now c t ch
  case case1 h => exact .inl ⟨h, rfl⟩
  case case2 h hca => exact .inr (.inl ⟨by simpa using h, by simp [hasAuthorizations, hca], rfl⟩)
  case case3 h a hca h0 => exact .inr (.inl ⟨by simpa using h, by simp [hasAuthorizations, hca, h0], rfl⟩)
  case case4 h a hca h0 he hv =>
    exact .inr (.inr ⟨a, by simpa using h, hca, h0, .inr (.inl ⟨by simpa [isExpired] using he, hv, rfl⟩)⟩)
  case case5 h a hca h0 he a' hv hal =>
    exact .inr (.inr ⟨a, by simpa using h, hca, h0,
      .inr (.inr ⟨by simpa [isExpired] using he, a', hv, by rw [if_pos hal]⟩)⟩)
  case case6 h a hca h0 he a' hv hal =>
    exact .inr (.inr ⟨a, by simpa using h, hca, h0,
      .inr (.inr ⟨by simpa [isExpired] using he, a', hv, by rw [if_neg hal]⟩)⟩)
  case case7 h a hca h0 he hal =>
    exact .inr (.inr ⟨a, by simpa using h, hca, h0, .inl ⟨by simpa [isExpired] using he, by rw [if_pos hal]⟩⟩)
  case case8 h a hca h0 he hal =>
    exact .inr (.inr ⟨a, by simpa using h, hca, h0, .inl ⟨by simpa [isExpired] using he, by rw [if_neg hal]⟩⟩)

theorem checkAuth_deny (t ch : String) (h : cfg.authEnabled = true) :
    (checkAuth cfg M ans now c t ch).deny =
      if hasAuthorizations c = false then some "E_AUTH_FIRST"
      else match inForce M ans now c with
        | none => some "E_AUTH_FAILED"
        | some g => if isAllowed M t ch g then none else some "E_UNAUTHORIZED" := by
  rcases checkAuth_cases cfg M ans now c t ch with
    ⟨h', _⟩ | ⟨_, h0, e⟩ | ⟨a, _, hca, hne, ⟨he, e⟩ | ⟨he, hv, e⟩ | ⟨he, a', hv, e⟩⟩
  · rw [h] at h'; contradiction
  · rw [e, if_pos h0]
  all_goals
    have ha : ¬ hasAuthorizations c = false := by simp [(hasAuthorizations_iff c).2 ⟨a, hca, hne⟩]
    rw [e, if_neg ha]
  · simp [inForce, hca, he]
  · simp [inForce, hca, he, hv]
  · simp [inForce, hca, he, hv]

theorem checkAuth_query (t ch : String) :
    (checkAuth cfg M ans now c t ch).query =
      if cfg.authEnabled = true ∧ hasAuthorizations c = true ∧ (∃ a, c.auth = some a ∧ a.expires < now)
      then some (requestOf c) else none := by
  rcases checkAuth_cases cfg M ans now c t ch with
    ⟨h, e⟩ | ⟨_, h0, e⟩ | ⟨a, h, hca, hne, ⟨he, e⟩ | ⟨he, hv, e⟩ | ⟨he, a', hv, e⟩⟩
  · simp [e, h]
  · simp [e, h0]
  all_goals simp [e, h, (hasAuthorizations_iff c).2 ⟨a, hca, hne⟩, hca, he]

theorem checkAuth_conn (t ch : String) :
    (checkAuth cfg M ans now c t ch).conn = c ∨
    (∃ a a', c.auth = some a ∧ a.grants.length ≠ 0 ∧ a.expires < now ∧ cfg.authEnabled = true ∧
        validate M now (ans (requestOf c)) = some a' ∧
        (checkAuth cfg M ans now c t ch).conn = { c with auth := some a' }) := by
  rcases checkAuth_cases cfg M ans now c t ch with
    ⟨h, e⟩ | ⟨_, h0, e⟩ | ⟨a, h, hca, hne, ⟨he, e⟩ | ⟨he, hv, e⟩ | ⟨he, a', hv, e⟩⟩
  · exact .inl (by rw [e])
  · exact .inl (by rw [e])
  · exact .inl (by rw [e])
  · exact .inl (by rw [e])
  · exact .inr ⟨a, a', hca, hne, he, h, hv, by rw [e]⟩

section
variable {cfg M ans now c}
theorem checkAuth_pass {t ch : String} (h : cfg.authEnabled = true)
    (hd : (checkAuth cfg M ans now c t ch).deny = none) :
    hasAuthorizations c = true ∧ ∃ g, inForce M ans now c = some g ∧ isAllowed M t ch g = true := by
  rw [checkAuth_deny cfg M ans now c t ch h] at hd
  split at hd
  · cases hd
  next ha =>
    refine ⟨by simpa using ha, ?_⟩
    split at hd
    · cases hd
    next g hg =>
      refine ⟨g, hg, ?_⟩
      split at hd
      next hal => exact hal
      · cases hd
end

theorem checkAuth_requery (t ch : String) (a : AuthState) (h : cfg.authEnabled = true)
    (hca : c.auth = some a) (hne : a.grants.length ≠ 0) :
    (checkAuth cfg M ans now c t ch).query = (if a.expires < now then some (requestOf c) else none) ∧
    (a.expires < now → ∀ a', validate M now (ans (requestOf c)) = some a' →
        (checkAuth cfg M ans now c t ch).conn.auth = some a') ∧
    (¬ a.expires < now → (checkAuth cfg M ans now c t ch).conn.auth = some a) := by
  rcases checkAuth_cases cfg M ans now c t ch with
    ⟨h', _⟩ | ⟨_, h0, _⟩ | ⟨a₁, _, hca₁, _, ⟨he, e⟩ | ⟨he, hv, e⟩ | ⟨he, a', hv, e⟩⟩
  · rw [h] at h'; cases h'
  · rw [(hasAuthorizations_iff c).2 ⟨a, hca, hne⟩] at h0; cases h0
  all_goals
    obtain rfl : a₁ = a := Option.some.inj (hca₁.symm.trans hca)
    rw [e]
  · exact ⟨(if_neg he).symm, fun h => absurd h he, fun _ => hca⟩
  · exact ⟨(if_pos he).symm, fun _ a' hv' => (by rw [hv] at hv'; cases hv'), fun h => absurd he h⟩
  · exact ⟨(if_pos he).symm, fun _ a'' hv' => hv ▸ hv', fun h => absurd he h⟩

/-- the error codes with which `CheckAuth` denies -/
def authCode (code : String) : Prop :=
  code = "E_AUTH_FIRST" ∨ code = "E_AUTH_FAILED" ∨ code = "E_UNAUTHORIZED"

instance (code : String) : Decidable (authCode code) := by unfold authCode; infer_instance

theorem checkAuth_deny_code (cfg : Config) (M : Matcher) (ans : Request → Option Resp) (now : Int)
    (c : Conn) (t ch code : String) (h : (checkAuth cfg M ans now c t ch).deny = some code) :
    authCode code := by
  rcases checkAuth_cases cfg M ans now c t ch with
    ⟨_, e⟩ | ⟨_, _, e⟩ | ⟨a, _, _, _, ⟨_, e⟩ | ⟨_, _, e⟩ | ⟨_, a', _, e⟩⟩
  all_goals rw [e] at h
  · cases h
  · cases h; exact .inl rfl
  · split at h <;> cases h; exact .inr (.inr rfl)
  · cases h; exact .inr (.inl rfl)
  · split at h <;> cases h; exact .inr (.inr rfl)

theorem checkAuth_keeps (t ch : String) :
    (checkAuth cfg M ans now c t ch).conn = { c with auth := (checkAuth cfg M ans now c t ch).conn.auth } ∧
    (hasAuthorizations (checkAuth cfg M ans now c t ch).conn = true → hasAuthorizations c = true) := by
  rcases checkAuth_conn cfg M ans now c t ch with h | ⟨a, a', hca, hne, _, _, _, h⟩
  · rw [h]; exact ⟨rfl, id⟩
  · rw [h]; exact ⟨rfl, fun _ => (hasAuthorizations_iff c).2 ⟨a, hca, hne⟩⟩

/-! ## the four gated handlers -/

/-- topic and channel a gated command is about (channel "" = publish) -/
def subject : Cmd → String × String
  | .pub args _ => (argAt args 0, "")
  | .mpub args _ _ _ => (argAt args 0, "")
  | .dpub args _ => (argAt args 0, "")
  | .sub args => (argAt args 0, argAt args 1)
  | _ => ("", "")

/-- What an accepted command does to the connection `CheckAuth` returned: only SUB changes it. -/
def accepted : Cmd → Conn → Conn
  | .sub args, c => { c with state := .subscribed, sub := some (argAt args 0, argAt args 1) }
  | _, c => c

theorem accepted_auth (cmd : Cmd) (c : Conn) : (accepted cmd c).auth = c.auth := by
  cases cmd <;> rfl

/-- `r` is what `cmd` yields once the check `k` has let it through. The second alternative is MPUB's alone: its body is
looked at after the check. -/
def Passed (r : Res) (k : AuthCheck) (cmd : Cmd) : Prop :=
  k.deny = none ∧ r.query = k.query ∧
    ((r.conn = accepted cmd k.conn ∧ r.replies = [.ok]) ∨
     (r.conn = k.conn ∧ ∃ code, ¬ authCode code ∧ r.replies = [.err code true]))

/-- The three outcomes of a gated command on `c`, `b`: refused for its arguments before the check, denied by the check
`k`, or past it. -/
def GateCases (r : Res) (k : AuthCheck) (c : Conn) (b : Broker) (cmd : Cmd) : Prop :=
  (∃ code, ¬ authCode code ∧ r = fatalRes c b code) ∨
  (∃ code, k.deny = some code ∧ r = deniedRes k b code) ∨
  Passed r k cmd

theorem Passed.conn_auth {r : Res} {k : AuthCheck} {cmd : Cmd} (h : Passed r k cmd) : r.conn.auth = k.conn.auth := by
  rcases h.2.2 with ⟨hc, _⟩ | ⟨hc, _⟩ <;> rw [hc]
  exact accepted_auth cmd k.conn

theorem gateCases_tls {r : Res} {k : AuthCheck} {c : Conn} {b : Broker}
    (h : (∃ code, ¬ authCode code ∧ r = fatalRes c b code) ∨ (∃ code, k.deny = some code ∧ r = deniedRes k b code))
    (hk : k.conn.tls = c.tls) : r.conn.tls = c.tls := by
  rcases h with ⟨code, _, h⟩ | ⟨code, _, h⟩
  · rw [h]; rfl
  · rw [h]; exact hk

theorem mpubSizesErr_code (maxMsg : Int) (ss : List Int) (code : String)
    (h : mpubSizesErr maxMsg ss = some code) : code = "E_BAD_MESSAGE" := by
  fun_induction mpubSizesErr maxMsg ss with
  | case1 => cases h
  | case2 => cases h; rfl
  | case3 => cases h; rfl
  | case4 _ _ _ _ ih => exact ih h

theorem not_authCode_invalid : ¬ authCode "E_INVALID" := by simp [authCode]
theorem not_authCode_badTopic : ¬ authCode "E_BAD_TOPIC" := by simp [authCode]
theorem not_authCode_badChannel : ¬ authCode "E_BAD_CHANNEL" := by simp [authCode]
theorem not_authCode_badMessage : ¬ authCode "E_BAD_MESSAGE" := by simp [authCode]
theorem not_authCode_badBody : ¬ authCode "E_BAD_BODY" := by simp [authCode]

theorem dispatch_gated_cases (cmd : Cmd) (hg : cmd.isGated = true) :
    GateCases (dispatch E cfg M ans now c b cmd) (checkAuth cfg M ans now c (subject cmd).1 (subject cmd).2) c b cmd := by
  cases cmd with
  | pub args size =>
    simp only [dispatch]
    fun_cases execPub cfg M ans now c b args size
    case case1 => exact .inl ⟨_, not_authCode_invalid, rfl⟩
    case case2 => exact .inl ⟨_, not_authCode_badTopic, rfl⟩
    case case3 => exact .inl ⟨_, not_authCode_badMessage, rfl⟩
    case case4 => exact .inl ⟨_, not_authCode_badMessage, rfl⟩
    case case5 code hd => exact .inr (.inl ⟨code, hd, rfl⟩)
    case case6 hd => exact .inr (.inr ⟨hd, rfl, .inl ⟨rfl, rfl⟩⟩)
  | dpub args size =>
    simp only [dispatch]
    fun_cases execDpub cfg M ans now c b args size
    case case1 => exact .inl ⟨_, not_authCode_invalid, rfl⟩
    case case2 => exact .inl ⟨_, not_authCode_badTopic, rfl⟩
    case case3 => exact .inl ⟨_, not_authCode_invalid, rfl⟩
    case case4 => exact .inl ⟨_, not_authCode_invalid, rfl⟩
    case case5 => exact .inl ⟨_, not_authCode_badMessage, rfl⟩
    case case6 => exact .inl ⟨_, not_authCode_badMessage, rfl⟩
    case case7 code hd => exact .inr (.inl ⟨code, hd, rfl⟩)
    case case8 hd => exact .inr (.inr ⟨hd, rfl, .inl ⟨rfl, rfl⟩⟩)
  | mpub args size count sizes =>
    simp only [dispatch]
    fun_cases execMpub cfg M ans now c b args size count sizes
    case case1 => exact .inl ⟨_, not_authCode_invalid, rfl⟩
    case case2 => exact .inl ⟨_, not_authCode_badTopic, rfl⟩
    case case3 code hd => exact .inr (.inl ⟨code, hd, rfl⟩)
    case case4 hd _ => exact .inr (.inr ⟨hd, rfl, .inr ⟨rfl, _, not_authCode_badBody, rfl⟩⟩)
    case case5 hd _ _ => exact .inr (.inr ⟨hd, rfl, .inr ⟨rfl, _, not_authCode_badMessage, rfl⟩⟩)
    case case6 hd _ _ code hm =>
      rw [mpubSizesErr_code _ _ _ hm]
      exact .inr (.inr ⟨hd, rfl, .inr ⟨rfl, _, not_authCode_badMessage, rfl⟩⟩)
    case case7 hd _ _ _ => exact .inr (.inr ⟨hd, rfl, .inl ⟨rfl, rfl⟩⟩)
  | sub args =>
    simp only [dispatch]
    fun_cases execSub cfg M ans now c b args
    case case1 => exact .inl ⟨_, not_authCode_invalid, rfl⟩
    case case2 => exact .inl ⟨_, not_authCode_invalid, rfl⟩
    case case3 => exact .inl ⟨_, not_authCode_invalid, rfl⟩
    case case4 => exact .inl ⟨_, not_authCode_badTopic, rfl⟩
    case case5 => exact .inl ⟨_, not_authCode_badChannel, rfl⟩
    case case6 code hd => exact .inr (.inl ⟨code, hd, rfl⟩)
    case case7 hd => exact .inr (.inr ⟨hd, rfl, .inl ⟨rfl, rfl⟩⟩)
  | _ => cases hg

/-! ## IDENTIFY -/

/-- what the IDENTIFY that completed a TLS handshake is answered: the negotiation JSON, then `OK` -/
def upgradedReplies (cfg : Config) : List Reply := [.identify true cfg.authEnabled, .ok]

theorem execIdentify_cases (d : IdentifyData) :
    (∃ cn, c.state = .init ∧ d.bodyOk = true ∧ d.featureNegotiation = true ∧ cfg.hasTls = true ∧
      d.tlsv1 = true ∧ handshake cfg.certPolicy d.cert = some cn ∧
      execIdentify cfg c b d =
        okRes { c with hbOff := hbAfter c d, tls := true, cn := cn, rd := c.rd + 1 } b (upgradedReplies cfg)) ∨
    (∃ rs cl, execIdentify cfg c b d = { conn := c, broker := b, replies := rs, close := cl, query := none }) ∨
    (c.state = .init ∧ d.bodyOk = true ∧ ∃ rs cl, execIdentify cfg c b d =
      { conn := { c with hbOff := hbAfter c d }, broker := b, replies := rs, close := cl, query := none }) := by
  fun_cases execIdentify cfg c b d
  case case1 => exact .inr (.inl ⟨_, _, rfl⟩)
  case case2 => exact .inr (.inl ⟨_, _, rfl⟩)
  case case3 h1 h2 _ => exact .inr (.inr ⟨by simpa using h1, by simpa using h2, _, _, rfl⟩)
  case case4 h1 h2 _ _ => exact .inr (.inr ⟨by simpa using h1, by simpa using h2, _, _, rfl⟩)
  case case5 h1 h2 _ _ _ => exact .inr (.inr ⟨by simpa using h1, by simpa using h2, _, _, rfl⟩)
  case case6 h1 h2 h3 h4 cn hh =>
    have h4' : cfg.hasTls = true ∧ d.tlsv1 = true := by simpa using h4
    exact .inl ⟨cn, by simpa using h1, by simpa using h2, by simpa using h3, h4'.1, h4'.2, hh, rfl⟩

/-! ## what a command can change, and the one cause of each change -/

/-- the answer is AUTH's success frame and nothing else -/
def isAuthOk (rs : List Reply) : Prop := ∃ i u n, rs = [.auth i u n]

/-- FIN / REQ / TOUCH: what they do to the broker past their guards is `Ext.chanCmd`, arbitrary. -/
def isChan : Cmd → Bool
  | .fin _ | .req _ | .touch _ => true
  | _ => false

/-- The one way the TLS flag and the reader change. After the two facts about the new connection the conjuncts are
those `Props.C11.tls_only_by_handshake` concludes, in its order. -/
def Upgraded (cfg : Config) (c : Conn) (cmd : Cmd) (r : Res) : Prop :=
  ∃ d, cmd = .identify d ∧ r.conn.tls = true ∧ r.conn.rd = c.rd + 1 ∧ c.state = .init ∧ d.featureNegotiation = true ∧
    d.tlsv1 = true ∧ cfg.hasTls = true ∧ (∃ cn, handshake cfg.certPolicy d.cert = some cn) ∧
    r.replies = upgradedReplies cfg

/-- `r` is the result of `cmd` on `c`, `b`. Each field: that part is as it was, or `cmd` is of the one kind that changes
it (for the three parts of the connection: and was answered with success). -/
structure Effect (cfg : Config) (c : Conn) (b : Broker) (cmd : Cmd) (r : Res) : Prop where
  link : (r.conn.tls = c.tls ∧ r.conn.rd = c.rd) ∨ Upgraded cfg c cmd r
  auth : hasAuthorizations r.conn = true →
    hasAuthorizations c = true ∨ ((∃ args size secret, cmd = .auth args size secret) ∧ isAuthOk r.replies)
  state : r.conn.state ≠ .init → c.state ≠ .init ∨
    ((∃ args, cmd = .sub args) ∧ r.replies = [.ok] ∧ (cfg.authEnabled = true → hasAuthorizations c = true))
  broker : r.broker = b ∨ cmd.isGated = true ∨ (isChan cmd = true ∧ c.state ≠ .init)

section
variable {cfg c b}
/-- `secret` is left free for the AUTH that stores it and then fails. -/
theorem Effect.same {cmd : Cmd} {r : Res} (hc : r.conn = { c with secret := r.conn.secret }) (hb : r.broker = b) :
    Effect cfg c b cmd r where
  link := by rw [hc]; exact .inl ⟨rfl, rfl⟩
  auth h := by unfold hasAuthorizations at h ⊢; rw [hc] at h; exact .inl h
  state h := by rw [hc] at h; exact .inl h
  broker := .inl hb
end

theorem execAuth_effect (args : List String) (size : Int) (secret : String) :
    Effect cfg c b (.auth args size secret) (execAuth cfg M ans now c b args size secret) := by
  fun_cases execAuth cfg M ans now c b args size secret
  case case8 a _ h0 =>   -- the server answered with no grants: stored, but `HasAuthorizations` stays false
    refine ⟨.inl ⟨rfl, rfl⟩, fun h => ?_, fun h => .inl h, .inl rfl⟩
    simp [hasAuthorizations, h0] at h
  case case9 a _ _ =>
    exact ⟨.inl ⟨rfl, rfl⟩, fun _ => .inr ⟨⟨_, _, _, rfl⟩, _, _, _, rfl⟩, fun h => .inl h,
      .inl rfl⟩
  all_goals exact .same rfl rfl

section
variable {cfg M ans now c b}
theorem execAuth_ok {args : List String} {size : Int} {secret : String}
    (h : isAuthOk (execAuth cfg M ans now c b args size secret).replies) :
    cfg.authEnabled = true ∧ hasAuthorizations c = false ∧
    ∃ a, validate M now (ans (requestOf { c with secret := secret })) = some a ∧ a.grants.length ≠ 0 ∧
      execAuth cfg M ans now c b args size secret =
        { conn := { c with secret := secret, auth := some a }, broker := b,
          replies := [.auth a.identity a.url a.grants.length], close := false,
          query := some (requestOf { c with secret := secret }) } := by
  revert h
  fun_cases execAuth cfg M ans now c b args size secret
  case case9 _ _ _ _ h5 h6 a hv h0 =>
    exact fun _ => ⟨by simpa using h6, by simpa using h5, a, hv, h0, rfl⟩
  all_goals
    rintro ⟨_, _, _, h⟩
    cases h
end

theorem execRdy_effect (cmd : Cmd) (n : Nat) (args : List String) : Effect cfg c b cmd (execRdy n c b args) := by
  fun_cases execRdy n c b args <;> exact .same rfl rfl

theorem execChanCmd_effect (cmd : Cmd) (hc : isChan cmd = true) (name : String) (n : Nat) (args : List String) :
    Effect cfg c b cmd (execChanCmd E name n c b args) := by
  fun_cases execChanCmd E name n c b args
  case case5 hs _ _ _ =>   -- past the guards: the channel operation runs, on a connection that left `init`
    refine ⟨.inl ⟨rfl, rfl⟩, fun h => .inl h, fun h => .inl h, .inr (.inr ⟨hc, fun hi => hs ?_⟩)⟩
    rw [hi]; exact ⟨by decide, by decide⟩
  all_goals exact .same rfl rfl

theorem execCls_effect (cmd : Cmd) : Effect cfg c b cmd (execCls c b) := by
  fun_cases execCls c b
  case case1 => exact .same rfl rfl
  case case2 hs =>   -- CLS accepted: only from `subscribed`
    refine ⟨.inl ⟨rfl, rfl⟩, fun h => .inl h, fun _ => .inl fun hi => hs ?_, .inl rfl⟩
    rw [hi]; decide

/-- The connection of a gated command's result is `c`, or `CheckAuth`'s connection — which differs from `c` only in
the cached answer (`checkAuth_keeps`) — with, for an accepted SUB, state and subscription set. -/
theorem gated_effect (cmd : Cmd) (hg : cmd.isGated = true) :
    Effect cfg c b cmd (dispatch E cfg M ans now c b cmd) := by
  obtain ⟨hk, hka⟩ := checkAuth_keeps cfg M ans now c (subject cmd).1 (subject cmd).2
  have hl : ∀ {r : Res}, r.conn = (checkAuth cfg M ans now c (subject cmd).1 (subject cmd).2).conn →
      Effect cfg c b cmd r := fun {r} hr =>
    ⟨.inl (by rw [hr, hk]; exact ⟨rfl, rfl⟩), fun h => .inl (hka (hr ▸ h)),
     fun h => .inl (by rw [hr, hk] at h; exact h), .inr (.inl hg)⟩
  rcases dispatch_gated_cases E cfg M ans now c b cmd hg with
    ⟨_, _, e⟩ | ⟨_, _, e⟩ | ⟨hd, _, ⟨hc, hr⟩ | ⟨hc, _⟩⟩
  · rw [e]; exact .same rfl rfl
  · rw [e]; exact hl rfl
  · cases cmd with
    | sub args =>
      exact ⟨.inl (by rw [hc, hk]; exact ⟨rfl, rfl⟩), fun h => by rw [hc] at h; exact .inl (hka h),
        fun _ => .inr ⟨⟨args, rfl⟩, hr, fun ha => (checkAuth_pass ha hd).1⟩, .inr (.inl hg)⟩
    | _ => exact hl hc
  · exact hl hc

theorem dispatch_effect (cmd : Cmd) : Effect cfg c b cmd (dispatch E cfg M ans now c b cmd) := by
  cases cmd with
  | auth args size secret => exact execAuth_effect ..
  | pub | mpub | dpub | sub => exact gated_effect (hg := rfl) ..
  | rdy args => exact execRdy_effect ..
  | fin | req | touch => exact execChanCmd_effect (hc := rfl) ..
  | cls => exact execCls_effect ..
  | _ => exact .same rfl rfl

theorem exec_identify (d : IdentifyData) :
    exec E cfg M ans now c b (.identify d) = execIdentify cfg c b d := rfl

section
variable {E cfg M ans now c b}
theorem exec_not_identify {cmd : Cmd} (hi : cmd.isIdentify = false) :
    exec E cfg M ans now c b cmd =
      if tlsBlocked cfg c then fatalRes c b "E_INVALID" else dispatch E cfg M ans now c b cmd := by
  cases cmd with
  | identify d => cases hi
  | _ => rfl

theorem exec_tls_blocked {cmd : Cmd} (hb : tlsBlocked cfg c = true) (hi : cmd.isIdentify = false) :
    exec E cfg M ans now c b cmd = fatalRes c b "E_INVALID" := by
  rw [exec_not_identify hi, if_pos hb]

theorem exec_open {cmd : Cmd} (hb : tlsBlocked cfg c = false) (hi : cmd.isIdentify = false) :
    exec E cfg M ans now c b cmd = dispatch E cfg M ans now c b cmd := by
  rw [exec_not_identify hi, if_neg (by simp [hb])]
end

theorem exec_effect (cmd : Cmd) : Effect cfg c b cmd (exec E cfg M ans now c b cmd) := by
  cases hi : cmd.isIdentify with
  | false =>
    rw [exec_not_identify hi]
    split
    · exact .same rfl rfl
    · exact dispatch_effect ..
  | true =>
    cases cmd with
    | identify d =>
      rcases execIdentify_cases cfg c b d with ⟨cn, h1, _, h3, h4, h5, hh, e⟩ | ⟨_, _, e⟩ | ⟨_, _, _, _, e⟩ <;>
        rw [exec_identify, e]
      · exact ⟨.inr ⟨d, rfl, rfl, rfl, h1, h3, h5, h4, ⟨cn, hh⟩, rfl⟩, .inl, .inl, .inl rfl⟩
      · exact .same rfl rfl
      · exact ⟨.inl ⟨rfl, rfl⟩, .inl, .inl, .inl rfl⟩
    | _ => cases hi

section
variable {E cfg M ans now c b}
theorem step_closed {cmd : Cmd} (h : c.closed = true) : step E cfg M ans now c b cmd = okRes c b [] := by
  simp [step, h, okRes]

theorem step_open {cmd : Cmd} (h : c.closed = false) :
    step E cfg M ans now c b cmd = exec E cfg M ans now c b cmd := by
  simp [step, h]
end

theorem step_cases (cmd : Cmd) :
    step E cfg M ans now c b cmd = okRes c b [] ∨
    step E cfg M ans now c b cmd = exec E cfg M ans now c b cmd := by
  cases hcl : c.closed with
  | true => exact .inl (step_closed hcl)
  | false => exact .inr (step_open hcl)

theorem step_not_identify (cmd : Cmd) (hi : cmd.isIdentify = false) :
    step E cfg M ans now c b cmd = okRes c b [] ∨ step E cfg M ans now c b cmd = fatalRes c b "E_INVALID" ∨
    (c.closed = false ∧ tlsBlocked cfg c = false ∧
      step E cfg M ans now c b cmd = dispatch E cfg M ans now c b cmd) := by
  cases hcl : c.closed with
  | true => exact .inl (step_closed hcl)
  | false =>
    rw [step_open hcl]
    cases hb : tlsBlocked cfg c with
    | true => exact .inr (.inl (exec_tls_blocked hb hi))
    | false => exact .inr (.inr ⟨rfl, rfl, exec_open hb hi⟩)

theorem isGated_not_identify {cmd : Cmd} (hg : cmd.isGated = true) : cmd.isIdentify = false := by
  cases cmd with
  | identify => cases hg
  | _ => rfl

theorem step_effect (cmd : Cmd) : Effect cfg c b cmd (step E cfg M ans now c b cmd) := by
  rcases step_cases E cfg M ans now c b cmd with e | e <;> rw [e]
  · exact .same rfl rfl
  · exact exec_effect ..

/-- What a command needs of the connection it arrives on to change the broker: both gates are behind it. -/
structure Licensed (cfg : Config) (M : Matcher) (ans : Request → Option Resp) (now : Int) (c : Conn) (cmd : Cmd) :
    Prop where
  live : c.closed = false
  tls : cfg.tlsRequired ≠ .no → c.tls = true
  kind : cmd.isGated = true ∨ (isChan cmd = true ∧ c.state ≠ .init)
  auth : cmd.isGated = true → cfg.authEnabled = true →
    hasAuthorizations c = true ∧
      ∃ g, inForce M ans now c = some g ∧ isAllowed M (subject cmd).1 (subject cmd).2 g = true

section
variable {E cfg M ans now c b}
theorem step_broker_eq {cmd : Cmd} (hg : cmd.isGated = false) (hc : isChan cmd = false) :
    (step E cfg M ans now c b cmd).broker = b :=
  (step_effect E cfg M ans now c b cmd).broker.resolve_right (by simp [hg, hc])

theorem step_licensed {cmd : Cmd} (heff : (step E cfg M ans now c b cmd).broker ≠ b) :
    Licensed cfg M ans now c cmd := by
  have hk := (step_effect E cfg M ans now c b cmd).broker.resolve_left heff
  have hi : cmd.isIdentify = false := by   -- IDENTIFY is neither gated nor a channel command
    cases cmd with
    | identify => exact nomatch hk
    | _ => rfl
  rcases step_not_identify E cfg M ans now c b cmd hi with e | e | ⟨ho, hb, e⟩
  · rw [e] at heff; exact absurd rfl heff
  · rw [e] at heff; exact absurd rfl heff
  refine ⟨ho, fun hreq => by simpa [tlsBlocked, hreq] using hb, hk, fun hg hauth => ?_⟩
  rw [e] at heff
  rcases dispatch_gated_cases E cfg M ans now c b cmd hg with ⟨_, _, e⟩ | ⟨_, _, e⟩ | ⟨hd, _⟩
  · rw [e] at heff; exact absurd rfl heff
  · rw [e] at heff; exact absurd rfl heff
  · exact checkAuth_pass hauth hd
end

end

/-! ## histories -/

theorem after_conn (r : Res) : (after r).conn = { r.conn with closed := r.conn.closed || r.close } := by
  unfold after
  split
  next h => rw [h, Bool.or_true]
  next h => rw [Bool.eq_false_iff.mpr h, Bool.or_false]

section
variable (E : Ext) (cfg : Config) (M : Matcher)

theorem stepEv_cases (s : St) (e : Ev) :
    (stepEv E cfg M s e).conn = s.conn ∨
    ∃ now ans cmd, e = .cmd s.conn.rd now ans cmd ∧
      stepEv E cfg M s e = step E cfg M ans now s.conn s.broker cmd := by
  cases e with
  | env b' => exact .inl rfl
  | cmd rd now ans cmd =>
    simp only [stepEv]
    split
    next hrd => exact .inr ⟨now, ans, cmd, by rw [hrd], rfl⟩
    next => exact .inl rfl

theorem trace_mem (evs : List Ev) (s : St) (r : Rec) (h : r ∈ trace E cfg M s evs) :
    r.res = stepEv E cfg M r.pre r.ev ∧ r.post = after r.res := by
  fun_induction trace E cfg M s evs with
  | case1 => cases h
  | case2 s e es ih =>
    rcases List.mem_cons.1 h with rfl | h
    · exact ⟨rfl, rfl⟩
    · exact ih h

def IsTlsUpgrade (cfg : Config) (q : Rec) : Prop :=
  ∃ rd now ans d, q.ev = .cmd rd now ans (.identify d) ∧ d.featureNegotiation = true ∧ d.tlsv1 = true ∧
    (∃ cn, handshake cfg.certPolicy d.cert = some cn) ∧ q.res.replies = upgradedReplies cfg

def IsAuthSuccess (q : Rec) : Prop :=
  ∃ rd now ans args size secret, q.ev = .cmd rd now ans (.auth args size secret) ∧ isAuthOk q.res.replies

def IsSubSuccess (q : Rec) : Prop :=
  ∃ rd now ans args, q.ev = .cmd rd now ans (.sub args) ∧ q.res.replies = [.ok]

variable {E cfg M} {evs : List Ev} {s : St} {pre0 pre post : List Rec} {r : Rec}

/-- What the history `pre` of a connection that is now `c` contains: each of the three facts the gates read has
its one cause in it (and the TLS flag is never up on the plaintext reader). On an auth-enabled server the SUB that
took the connection out of `init` was itself behind the auth gate, so a successful AUTH lies before it. -/
structure Caused (cfg : Config) (pre : List Rec) (c : Conn) : Prop where
  tls : c.tls = true → c.rd ≠ 0 ∧ ∃ q ∈ pre, IsTlsUpgrade cfg q
  auth : hasAuthorizations c = true → ∃ q ∈ pre, IsAuthSuccess q
  state : c.state ≠ .init →
    (∃ q ∈ pre, IsSubSuccess q) ∧ (cfg.authEnabled = true → ∃ q ∈ pre, IsAuthSuccess q)

theorem caused_step (I : Caused cfg pre s.conn) (e : Ev) :
    Caused cfg (pre ++ [⟨s, e, stepEv E cfg M s e, after (stepEv E cfg M s e)⟩]) (after (stepEv E cfg M s e)).conn := by
  -- The event leaves the connection alone (environment, stale reader), or it is a `step`: then each field of `Effect`
  -- says "flag as before" (the cause is the old one, `old`) or names the cause, which is this very record (`new`).
  -- `after_conn`: closing touches no flag.
  have hr := stepEv_cases E cfg M s e
  generalize stepEv E cfg M s e = res at hr ⊢
  have old : ∀ {Q : Rec → Prop}, (∃ q ∈ pre, Q q) → ∃ q ∈ pre ++ [⟨s, e, res, after res⟩], Q q :=
    fun ⟨q, hq, h⟩ => ⟨q, List.mem_append_left _ hq, h⟩
  have new : ∀ {Q : Rec → Prop}, Q ⟨s, e, res, after res⟩ → ∃ q ∈ pre ++ [⟨s, e, res, after res⟩], Q q :=
    fun h => ⟨_, List.mem_append_right _ (List.mem_singleton_self _), h⟩
  rw [after_conn]
  rcases hr with hc | ⟨now, ans, cmd, he, rfl⟩
  · exact ⟨fun h => hc ▸ (I.tls (hc ▸ h)).imp_right old, fun h => old (I.auth (hc ▸ h)),
      fun h => (I.state (hc ▸ h)).imp old fun f ha => old (f ha)⟩
  have ef := step_effect E cfg M ans now s.conn s.broker cmd
  refine ⟨fun h => ?_, fun h => ?_, fun h => ?_⟩
  · rcases ef.link with ⟨ht, hr⟩ | ⟨d, hd, _, hr, _, a3, a5, _, a6, a7⟩
    · exact (I.tls (ht ▸ h)).imp (hr ▸ ·) old
    · exact ⟨fun h0 => by rw [hr] at h0; omega, new ⟨_, now, ans, d, hd ▸ he, a3, a5, a6, a7⟩⟩
  · rcases ef.auth h with h1 | ⟨⟨args, size, secret, hc⟩, h2⟩
    · exact old (I.auth h1)
    · exact new ⟨_, now, ans, args, size, secret, hc ▸ he, h2⟩
  · rcases ef.state h with h1 | ⟨⟨args, hc⟩, h2, h3⟩
    · exact (I.state h1).imp old fun f ha => old (f ha)
    · exact ⟨new ⟨_, now, ans, args, hc ▸ he, h2⟩, fun ha => old (I.auth (h3 ha))⟩

/-- `pre0` is what happened before `s`: the induction moves the record of each event from `pre` to it. -/
theorem caused_trace (h : trace E cfg M s evs = pre ++ r :: post) (I : Caused cfg pre0 s.conn) :
    Caused cfg (pre0 ++ pre) r.pre.conn := by
  fun_induction trace E cfg M s evs generalizing pre0 pre with
  | case1 => simp at h
  | case2 s e es ih =>
    cases pre with
    | nil => cases h; simpa using I
    | cons p pre' =>
      obtain ⟨rfl, ht⟩ := List.cons.inj h
      simpa using ih ht (caused_step I e)

theorem caused {id : Nat} {b0 : Broker} (h : trace E cfg M ⟨Conn.fresh id, b0⟩ evs = pre ++ r :: post) :
    Caused cfg pre r.pre.conn := by
  simpa using caused_trace (pre0 := []) h ⟨nofun, nofun, fun h => absurd rfl h⟩

theorem trace_cmd (h : trace E cfg M s evs = pre ++ r :: post)
    {rd : Nat} {now : Int} {ans : Request → Option Resp} {cmd : Cmd} (hev : r.ev = .cmd rd now ans cmd) :
    (rd ≠ r.pre.conn.rd ∧ r.res = okRes r.pre.conn r.pre.broker []) ∨
    (rd = r.pre.conn.rd ∧ r.res = step E cfg M ans now r.pre.conn r.pre.broker cmd) := by
  have hm := (trace_mem E cfg M evs s r (by rw [h]; simp)).1
  rw [hev] at hm
  by_cases hrd : rd = r.pre.conn.rd
  · exact .inr ⟨hrd, hm.trans (if_pos hrd)⟩
  · exact .inl ⟨hrd, hm.trans (if_neg hrd)⟩

theorem effect_licensed (h : trace E cfg M s evs = pre ++ r :: post)
    {rd : Nat} {now : Int} {ans : Request → Option Resp} {cmd : Cmd} (hev : r.ev = .cmd rd now ans cmd)
    (heff : r.res.broker ≠ r.pre.broker) : rd = r.pre.conn.rd ∧ Licensed cfg M ans now r.pre.conn cmd := by
  rcases trace_cmd h hev with ⟨_, e⟩ | ⟨hrd, e⟩ <;> rw [e] at heff
  · exact absurd rfl heff
  · exact ⟨hrd, step_licensed heff⟩

end

/-! ## the exit path -/

theorem removeClientChans_names (c : String) (id : Nat) (cs : List Chan) :
    (removeClientChans c id cs).map (·.name) = cs.map (·.name) := by
  fun_induction removeClientChans c id cs with
  | case3 _ _ _ ih => simp [ih]
  | _ => rfl

theorem unsubscribeTopic_content (t c : String) (id : Nat) (b : Broker) :
    content (unsubscribeTopic t c id b) = content b := by
  fun_induction unsubscribeTopic t c id b with
  | case1 => rfl
  | case2 => simp [content, Topic.content, removeClientChans_names]
  | case3 x xs _ ih => simp only [content, List.map_cons] at ih ⊢; rw [ih]

theorem cleanup_content (c : Conn) (b : Broker) : content (cleanup c b) = content b := by
  unfold cleanup
  split
  · rfl
  · exact unsubscribeTopic_content ..

theorem after_content (r : Res) : content (after r).broker = content r.broker := by
  unfold after; split
  · exact cleanup_content ..
  · rfl

/-! ## objects for the non-vacuity examples of `Nsq.Props.C11` -/

def exE : Ext := { chanCmd := fun _ _ _ b => (b, []) }

def exM : Matcher := { compiles := fun _ => true, isMatch := fun p s => p == ".*" || p == s }

def exCfg (tls : TlsReq) (pol : CertPolicy) (auth : Bool) : Config :=
  { tlsRequired := tls, certPolicy := pol, hasTls := true, authEnabled := auth,
    maxBodySize := 1000, maxMsgSize := 100, maxReqTimeoutNs := 3600000000000 }

def exOpts (tls : TlsReq) (pol : String) (cert : Bool) (auth : Nat) : Options :=
  { tlsRequired := tls, clientAuthPolicy := pol, hasCert := cert, authAddrs := auth,
    maxBodySize := 1000, maxMsgSize := 100, maxReqTimeoutNs := 3600000000000 }

def exAns (ttl : Int) (gs : List Grant) : Request → Option Resp :=
  fun _ => some { ttl := ttl, grants := gs, identity := "bob", url := "" }

def exDown : Request → Option Resp := fun _ => none

def exIdentify (cert : ClientCert) : Cmd :=
  .identify { bodyOk := true, featureNegotiation := true, tlsv1 := true, hbOff := false, cert := cert }

def exGrants : List Grant :=
  [{ topic := "orders", channels := [".*"], perms := ["publish"] },
   { topic := "orders", channels := ["c0"], perms := ["subscribe"] }]

def exAuthed : Conn :=
  { Conn.fresh 7 with secret := "s", auth := some { grants := exGrants, expires := 10, identity := "bob", url := "" } }

end Nsq.Proofs.Gate
