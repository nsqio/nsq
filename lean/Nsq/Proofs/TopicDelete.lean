import Nsq.Model.TopicDelete
import Nsq.Proofs.DeleteRace
/-
Invariant of the tree with fixes/F19 (SUB refuses any exiting topic) and fixes/F20 (a deletion unlinks
only the object it deleted): an object leaves the map only deleted and without consumers.
-/
namespace Nsq.Proofs.TopicDelete
open Nsq.Model.TopicDelete Nsq.Proofs.DeleteRace

abbrev view : View TObj :=
  { id := (·.id), exiting := (·.exiting), exited := (·.chansDeleted), empty := fun T => T.subs = [] }

/-- `inv`: the invariant shared with the channel model; with `ownUnlink` no deletion ever is a loser (it returns at once) -/
structure FixedInv (s : DSt) : Prop where
  g1 : s.subGuard = true
  nol : s.losers = 0
  inv : Inv view s.ownUnlink s.map s.unlinked s.deleters s.nextId

theorem fixedInv_init : FixedInv fixedTree := ⟨rfl, rfl, Inv.init⟩

theorem mem_erase_or {l : List Nat} {x m : Nat} (h : x ∈ l) : x = m ∨ x ∈ l.erase m :=
  Decidable.or_iff_not_imp_left.2 fun hx => (List.mem_erase_of_ne hx).2 h

theorem findObj_map (s : DSt) (id : Nat) (T M : TObj) (h : findObj s id = some T) (hm : s.map = some M)
    (hid : M.id = id) : T = M := by
  unfold findObj at h
  rw [hm] at h
  simp only [hid, if_true] at h
  cases h; rfl

theorem attach_exiting {s : DSt} {T : TObj} (k : Nat) (hg : s.subGuard = true) (hx : T.exiting = true) :
    attach s T k = { s with closed := k :: s.closed } := by
  unfold attach
  rw [if_pos]
  rw [hg, hx, Bool.or_true, Bool.and_true]

theorem attach_live {s : DSt} {T : TObj} (k : Nat) (hx : T.exiting = false) :
    attach s T k = { s with map := some { T with subs := k :: T.subs }, okSub := (k, T.id) :: s.okSub } := by
  unfold attach
  rw [if_neg]
  rw [hx, Bool.and_false]; exact Bool.false_ne_true

theorem fixedInv_step (s s' : DSt) (a : DStep) (h : FixedInv s) (hs : dstep s a = some s') : FixedInv s' := by
  obtain ⟨g1, nol, h⟩ := h
  have hd : ∀ id, ∀ x ∈ s.deleters.erase id, x ∈ s.deleters := fun _ x hx => List.mem_of_mem_erase hx
  revert hs
  fun_cases dstep s a <;> intro hs <;> cases hs
  -- `sub` on the registered object: refused when it is exiting (the guard), else it grows
  case case2 k _ _ T hT =>
    cases hx : T.exiting
    · rw [attach_live k hx]; rw [hT] at h
      exact ⟨g1, nol, h.grow hx _ rfl rfl rfl⟩
    · rw [attach_exiting k g1 hx]
      exact ⟨g1, nol, h⟩
  -- `sub` under a free name: a fresh object
  case case3 k _ _ hN _ =>
    rw [attach_live k rfl]; rw [hN] at h
    exact ⟨g1, nol, h.register _ rfl rfl⟩
  -- `leave`
  case case5 k _ =>
    exact ⟨g1, nol, h.shrink (fun T => { T with subs := T.subs.erase k }) (fun _ => rfl) (fun _ => rfl) (fun _ => rfl)
      fun T h3 => by show T.subs.erase k = []; rw [show T.subs = [] from h3]; rfl⟩
  -- `delBegin` that loses the flag returns at once (`ownUnlink`); one that wins it
  case case7 => exact ⟨g1, nol, h⟩
  case case8 _ _ _ hown => exact absurd h.g hown
  case case9 T hT _ => rw [hT] at h; exact ⟨g1, nol, h.begin _ rfl rfl rfl id⟩
  -- `delChannels`
  case case12 id hdel _ _ _ =>
    exact ⟨g1, nol, h.exitStage hdel (fun T => { T with chansDeleted := true, subs := [] }) (fun _ => rfl)
      (fun _ => rfl) (fun _ => rfl)⟩
  -- `delUnlink`: nothing registered, another object registered, the object deleted
  case case16 id _ _ _ _ _ | case17 id _ _ _ _ _ _ _ => exact ⟨g1, nol, h.finish _ (hd id)⟩
  case case18 id _ T hf hcd M hM hcond =>
    have hid : M.id = id := by
      simp only [h.g, Bool.true_and, bne_iff_ne, ne_eq, Decidable.not_not] at hcond
      exact hcond
    cases findObj_map s id T M hf hM hid
    rw [hM] at h
    exact ⟨g1, nol, (h.unlink (by simpa using hcd)).finish _ (hd id)⟩
  -- `loserUnlink`: there is no loser
  case case21 h0 _ | case22 h0 _ _ => exact absurd nol h0

theorem fixedInv_run (sched : List DStep) (s s' : DSt) (h : FixedInv s) (hs : drun s sched = some s') : FixedInv s' := by
  fun_induction drun s sched with
  | case1 => cases hs; exact h
  | case2 => cases hs
  | case3 s a _ s1 h1 ih => exact ih (fixedInv_step s s1 a h h1) hs

end Nsq.Proofs.TopicDelete
