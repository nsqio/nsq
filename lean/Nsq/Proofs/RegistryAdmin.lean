import Nsq.Model.RegistryProto
import Nsq.Proofs.RegistryStar
/-! Which entries of the registry an HTTP admin call of nsqlookupd touches (for `Nsq.Props.C15.admin_call_touches_only` and
`Nsq.Props.C15Admin`): each lemma opens the call by its `…_cases` and reads one `has_…` / `getP_…` equation of the update. -/
namespace Nsq.Proofs.RegistryAdmin
open Nsq.Model.Registry Nsq.Model.Registry.AMap Nsq.Model.RegistryProto
open Nsq.Proofs.RegistryMap Nsq.Proofs.RegistryDB Nsq.Proofs.RegistryRefine Nsq.Spec.RegistrySpec Nsq.Proofs.RegistryStar

theorem delTouched_iff (t : Name) (k : Key) :
    (isMatch k .channel t star = true ∨ isMatch k .topic t [] = true) ↔ delTouched t k = true := by
  cases k with
  | mk cat key sub =>
    cases cat <;> simp [isMatch_iff, delTouched, star_ne_nil, and_comm]

theorem admin_peers (r : Registry) (a : HttpArgs) (now : Int) :
    (createTopic r a).1.peers = r.peers ∧ (deleteTopic r a).1.peers = r.peers ∧ (createChannel r a).1.peers = r.peers ∧
      (deleteChannel r a).1.peers = r.peers ∧ (tombstone r a now).1.peers = r.peers := by
  refine ⟨?_, ?_, ?_, ?_, ?_⟩
  · rcases createTopic_cases r a with ⟨_, _, e⟩ | h
    · rw [e]
    · rw [h.1]
  · rcases deleteTopic_cases r a with ⟨_, _, e⟩ | h
    · rw [e]
    · rw [h.1]
  · rcases createChannel_cases r a with ⟨_, _, _, _, e⟩ | h
    · rw [e]
    · rw [h.1]
  · rcases deleteChannel_cases r a with ⟨_, _, _, _, _, _, e⟩ | h
    · rw [e]
    · rw [h.1]
  · rcases tombstone_cases r a now with ⟨_, _, _, _, e⟩ | h
    · rw [e]
    · rw [h.1]

theorem create_getP (r : Registry) (a : HttpArgs) (k : Key) (q : Nat) :
    getP (createTopic r a).1.db k q = getP r.db k q ∧ getP (createChannel r a).1.db k q = getP r.db k q := by
  constructor
  · rcases createTopic_cases r a with ⟨_, _, e⟩ | h
    · rw [e]; exact getP_addRegistration _ _ _ _
    · rw [h.1]
  · rcases createChannel_cases r a with ⟨_, _, _, _, e⟩ | h
    · rw [e]; simp only [getP_addRegistration]
    · rw [h.1]

/-- for every call, refused or not, so that the bound for any call (`Nsq.Props.C15.admin_call_touches_only`) and the equation for an
accepted one (`Nsq.Props.C15Admin.createTopic_exact`) are both read off it -/
theorem createTopic_has (r : Registry) (a : HttpArgs) (k : Key) :
    has (createTopic r a).1.db k = true ↔
      has r.db k = true ∨ (createTopic r a).2 = .ok ∧ ∃ t, a.topic = some t ∧ k = topicKey t := by
  rcases createTopic_cases r a with ⟨t, ht, e⟩ | h
  · rw [e, has_addRegistration, or_comm]
    simp only [ht, Option.some.injEq, true_and, exists_eq_left']
  · rw [h.1]; exact (or_iff_left fun h' => h.ne_ok h'.1).symm

theorem createChannel_has (r : Registry) (a : HttpArgs) (k : Key) :
    has (createChannel r a).1.db k = true ↔
      has r.db k = true ∨ (createChannel r a).2 = .ok ∧
        ∃ t c, a.topic = some t ∧ a.channel = some c ∧ (k = topicKey t ∨ k = chanKey t c) := by
  rcases createChannel_cases r a with ⟨t, c, ht, hc, e⟩ | h
  · rw [e, has_addRegistration, has_addRegistration, ← or_assoc, or_comm]
    simp only [ht, hc, Option.some.injEq, true_and, exists_and_left, exists_eq_left']
  · rw [h.1]; exact (or_iff_left fun h' => h.ne_ok h'.1).symm

theorem deleteTopic_touches (r : Registry) (a : HttpArgs) (t : Name) (hok : (deleteTopic r a).2 = .ok)
    (ht : a.topic = some t) (k : Key) :
    (has (deleteTopic r a).1.db k = true ↔ has r.db k = true ∧ delTouched t k = false) ∧
    ∀ q, getP (deleteTopic r a).1.db k q = if delTouched t k then none else getP r.db k q := by
  rcases deleteTopic_cases r a with ⟨t', ht', e⟩ | h
  · obtain rfl : t = t' := Option.some.inj (ht.symm.trans ht')
    rw [e]
    have := delTouched_iff t k
    refine ⟨?_, fun q => ?_⟩
    · rw [has_deleteTopicDB, ← not_or, this, Bool.not_eq_true]
    · simp only [getP_deleteTopicDB, this]
  · exact absurd hok h.ne_ok

theorem deleteChannel_touches (r : Registry) (a : HttpArgs) (t c : Name) (hok : (deleteChannel r a).2 = .ok)
    (ht : a.topic = some t) (hc : a.channel = some c) (k : Key) :
    has (deleteChannel r a).1.db k = (decide (k ≠ chanKey t c) && has r.db k) ∧
    ∀ q, getP (deleteChannel r a).1.db k q = if k = chanKey t c then none else getP r.db k q := by
  rcases deleteChannel_cases r a with ⟨t', c', ht', hc', hts, hcs, e⟩ | h
  · obtain rfl : t = t' := Option.some.inj (ht.symm.trans ht')
    obtain rfl : c = c' := Option.some.inj (hc.symm.trans hc')
    rw [e]
    have hm := fun k => isMatch_exactKey k t c hts hcs
    refine ⟨?_, fun q => by simp only [getP_removeRegistrations_find, hm]⟩
    rw [Bool.eq_iff_iff, has_removeRegistrations_find, hm]
    simp [and_comm]
  · exact absurd hok h.ne_ok

/-- the entries an accepted `/topic/tombstone?topic=t&node=node` marks (`t = *`: under the topic key `pick` chose) -/
def Marked (r : Registry) (pick : Pick) (t node : Name) (k : Key) (q : Nat) : Prop :=
  if t = star then isMatch k .topic star [] = true ∧ pick q = k.key ∧ nodeMatches r q node = true
  else k = topicKey t ∧ nodeMatches r q node = true

instance (r : Registry) (pick : Pick) (t node : Name) (k : Key) (q : Nat) : Decidable (Marked r pick t node k q) := by
  unfold Marked; infer_instance

theorem tombstone_getP (r : Registry) (a : HttpArgs) (now : Int) (t node : Name) (hok : (tombstone r a now).2 = .ok)
    (ht : a.topic = some t) (hn : a.node = some node) (k : Key) :
    has (tombstone r a now).1.db k = has r.db k ∧
    ∀ q, getP (tombstone r a now).1.db k q =
      if Marked r (firstPick r.db) t node k q then (getP r.db k q).map (fun _ => ⟨true, now⟩) else getP r.db k q := by
  rcases tombstone_cases r a now with ⟨t', node', ht', hn', e⟩ | h
  · obtain rfl : t = t' := Option.some.inj (ht.symm.trans ht')
    obtain rfl : node = node' := Option.some.inj (hn.symm.trans hn')
    rw [e]
    by_cases hst : t = star
    · subst hst
      simp only [tombstoneDB_star, Marked, if_true]
      exact ⟨has_tombstoneStarDB r _ node now k, fun q => getP_tombstoneStarDB r _ node now k q⟩
    · simp only [Marked, hst, if_false]
      exact ⟨has_tombstoneDB r t node now hst k, fun q => getP_tombstoneDB r t node now hst k q⟩
  · exact absurd hok h.ne_ok

theorem touched_of_marked {r : Registry} {pick : Pick} {t node : Name} {k : Key} {q : Nat} (h : Marked r pick t node k q) :
    tombTouched r t node k q = true := by
  unfold Marked at h
  by_cases hst : t = star
  · rw [if_pos hst] at h
    rw [(isMatch_topic_star k).mp h.1]
    simp [tombTouched, topicKey, hst, h.2.2]
  · rw [if_neg hst] at h
    simp [tombTouched, h.1, topicKey, h.2]

theorem tombstone_touches (r : Registry) (a : HttpArgs) (now : Int) (t node : Name) (hok : (tombstone r a now).2 = .ok)
    (ht : a.topic = some t) (hn : a.node = some node) (k : Key) :
    has (tombstone r a now).1.db k = has r.db k ∧
    ∀ q, getP (tombstone r a now).1.db k q = getP r.db k q ∨
      (tombTouched r t node k q = true ∧ getP (tombstone r a now).1.db k q = (getP r.db k q).map (fun _ => ⟨true, now⟩)) := by
  obtain ⟨h1, h2⟩ := tombstone_getP r a now t node hok ht hn k
  refine ⟨h1, fun q => ?_⟩
  rw [h2 q]
  by_cases hm : Marked r (firstPick r.db) t node k q
  · exact Or.inr ⟨touched_of_marked hm, if_pos hm⟩
  · exact Or.inl (if_neg hm)

end Nsq.Proofs.RegistryAdmin
