/-
C03 — the overshoot bound at HISTORY level, micro-step granularity.

`GInv`: (1) `okG`: every `deliver k _ _` event has a `guardOk k` event between it and the previous `deliver k`
(or the beginning); (2) a connection whose `armed` bit is set has such an unconsumed `guardOk`.
Preserved by EVERY op of `Nsq.Model.Chan.step` except the atomic `deliver` (which is guard + send in one step and
records no `guardOk`): `step_ginv`.
-/
import Nsq.Proofs.ChanStep
namespace Nsq.Proofs.ChanGuard
open Nsq.Model.Chan Nsq.Proofs.Chan

def isGD : Ev → Bool
  | .guardOk _ => true
  | .deliver .. => true
  | _ => false

/-- scanning newest first: the latest guard/deliver event of `k` is a `guardOk` (an unconsumed licence) -/
def pend (k : Nat) : List Ev → Bool
  | [] => false
  | .guardOk c :: h => if c = k then true else pend k h
  | .deliver c _ _ :: h => if c = k then false else pend k h
  | _ :: h => pend k h

def okG : List Ev → Bool
  | [] => true
  | .deliver k _ _ :: h => pend k h && okG h
  | _ :: h => okG h

def isG (k : Nat) : Ev → Bool
  | .guardOk c => c == k
  | _ => false
def isD (k : Nat) : Ev → Bool
  | .deliver c _ _ => c == k
  | _ => false
def nG (k : Nat) (h : List Ev) : Nat := h.countP (isG k)
def nD (k : Nat) (h : List Ev) : Nat := h.countP (isD k)

theorem pend_filter (k : Nat) (h : List Ev) : pend k (h.filter isGD) = pend k h := by
  induction h with
  | nil => rfl
  | cons e h ih => cases e <;> simp [List.filter_cons, isGD, pend, ih]

theorem okG_filter (h : List Ev) : okG (h.filter isGD) = okG h := by
  induction h with
  | nil => rfl
  | cons e h ih => cases e <;> simp [List.filter_cons, isGD, okG, ih, pend_filter]

/-- each `deliver k` consumes the `guardOk k` that `pend` counted; `pend` is the one spare -/
theorem okG_count (k : Nat) (h : List Ev) (hok : okG h = true) :
    nD k h + (pend k h).toNat ≤ nG k h := by
  induction h with
  | nil => simp [nD, nG, pend]
  | cons e h ih =>
    cases e with
    | guardOk c =>
      have := ih (by simpa [okG] using hok)
      by_cases hc : c = k
      · subst hc
        simp only [nD, nG, List.countP_cons, pend, isG, isD] at *
        simp
        cases hp : pend c h <;> simp [hp] at this <;> omega
      · have hb : (c == k) = false := by simpa using hc
        simp only [nD, nG, List.countP_cons, pend, isG, isD, hc, hb] at *
        simpa using this
    | deliver c i a =>
      simp only [okG, Bool.and_eq_true] at hok
      have := ih hok.2
      by_cases hc : c = k
      · subst hc
        simp only [nD, nG, List.countP_cons, pend, isG, isD, hok.1] at *
        simp at this ⊢; omega
      · have hb : (c == k) = false := by simpa using hc
        simp only [nD, nG, List.countP_cons, pend, isG, isD, hc, hb] at *
        simpa using this
    | _ =>
      have := ih (by simpa [okG] using hok)
      simpa [nD, nG, List.countP_cons, pend, isG, isD] using this

def ArmedLe (cs' cs : List Client) : Prop :=
  ∀ cl' ∈ cs', cl'.armed = true → ∃ cl ∈ cs, cl.conn = cl'.conn ∧ cl.armed = true

theorem armedLe_refl (cs : List Client) : ArmedLe cs cs := fun cl h ha => ⟨cl, h, rfl, ha⟩

theorem armedLe_trans {a b c : List Client} (h1 : ArmedLe a b) (h2 : ArmedLe b c) : ArmedLe a c := by
  intro cl h ha
  obtain ⟨cl1, h1m, h1c, h1a⟩ := h1 cl h ha
  obtain ⟨cl2, h2m, h2c, h2a⟩ := h2 cl1 h1m h1a
  exact ⟨cl2, h2m, h2c.trans h1c, h2a⟩

theorem armedLe_updC (cs : List Client) (k : Nat) (f : Client → Client)
    (hf : ∀ c, (f c).conn = c.conn ∧ ((f c).armed = true → c.armed = true)) : ArmedLe (updC cs k f) cs := by
  intro cl' h ha
  obtain ⟨c, hc, rfl⟩ := mem_updC.1 h
  by_cases hk : c.conn = k
  · simp only [hk, ↓reduceIte] at ha ⊢
    exact ⟨c, hc, (hf c).1.symm, (hf c).2 ha⟩
  · simp only [hk, ↓reduceIte] at ha ⊢
    exact ⟨c, hc, rfl, ha⟩

theorem armedLe_removeC (cs : List Client) (k : Nat) : ArmedLe (removeC cs k) cs :=
  fun cl h ha => ⟨cl, (mem_removeC.1 h).1, rfl, ha⟩

theorem armedLe_map (cs : List Client) (f : Client → Client)
    (hf : ∀ c, (f c).conn = c.conn ∧ ((f c).armed = true → c.armed = true)) : ArmedLe (cs.map f) cs := by
  intro cl' h ha
  obtain ⟨c, hc, rfl⟩ := List.mem_map.1 h
  exact ⟨c, hc, (hf c).1.symm, (hf c).2 ha⟩

theorem armedLe_cons {cl : Client} (cs : List Client) (h : cl.armed = false) : ArmedLe (cl :: cs) cs := by
  intro cl' hm ha
  rcases List.mem_cons.1 hm with rfl | hm
  · rw [h] at ha; cases ha
  · exact ⟨cl', hm, rfl, ha⟩

def Neutral (c c' : Chan) : Prop :=
  c'.hist.filter isGD = c.hist.filter isGD ∧ ArmedLe c'.clients c.clients

theorem neutral_refl (c : Chan) : Neutral c c := ⟨rfl, armedLe_refl _⟩
theorem neutral_trans {a b c : Chan} (h1 : Neutral a b) (h2 : Neutral b c) : Neutral a c :=
  ⟨h2.1.trans h1.1, armedLe_trans h2.2 h1.2⟩

theorem neutral_enqueue (c : Chan) (id : Nat) : Neutral c (enqueue c id) := by
  rcases enqueue_cases c id with ⟨_, h⟩ | ⟨_, _, h⟩ | ⟨_, _, h⟩ <;> rw [h]
  · exact neutral_refl c
  · exact ⟨rfl, armedLe_refl _⟩
  · exact neutral_refl c

def gdOp : Op → Bool
  | .guard _ => true
  | .deliver .. => true
  | .deliverArmed .. => true
  | _ => false

/-- the first conjunct is `rfl`: the filter computes through the events these branches record -/
theorem eff_neutral {conf : Conf} {c c' : Chan} {op : Op} {o : Out} (he : Eff conf c op c' o) (hop : gdOp op = false) :
    Neutral c c' := by
  cases he with
  | guardOk | guardNo | deliver | deliverArmed => cases hop
  | put => exact neutral_trans ⟨rfl, armedLe_refl _⟩ (neutral_enqueue _ _)
  | addClient => exact ⟨rfl, armedLe_cons _ rfl⟩
  | removeClient | rdyFatal | clsFatal => exact ⟨rfl, armedLe_removeC _ _⟩
  | rdy | cls | fin | finClient | reqLater => exact ⟨rfl, armedLe_updC _ _ _ (fun _ => ⟨rfl, fun hh => hh⟩)⟩
  | reqNow =>
    refine neutral_trans ?_ (neutral_enqueue _ _)
    exact ⟨rfl, armedLe_updC _ _ _ (fun _ => ⟨rfl, fun hh => hh⟩)⟩
  | scanInFlight =>
    exact scanInFlight_rel neutral_refl neutral_trans neutral_enqueue
      (fun _ _ _ => ⟨rfl, armedLe_updC _ _ _ (fun _ => ⟨rfl, fun hh => hh⟩)⟩) _ _
  | scanDeferred => exact scanDeferred_rel neutral_refl neutral_trans neutral_enqueue (fun _ _ => ⟨rfl, armedLe_refl _⟩) _ _
  | empty => exact ⟨rfl, armedLe_map _ _ (fun _ => ⟨rfl, fun hh => hh⟩)⟩
  | _ => exact ⟨rfl, armedLe_refl _⟩

structure GInv (c : Chan) : Prop where
  ok  : okG c.hist = true
  lic : ∀ cl ∈ c.clients, cl.armed = true → pend cl.conn c.hist = true

theorem ginv_init (eph : Bool) (cap : Nat) : GInv { ephemeral := eph, memCap := cap } :=
  ⟨rfl, fun cl h => by cases h⟩

theorem ginv_neutral {c c' : Chan} (h : GInv c) (hn : Neutral c c') : GInv c' := by
  refine ⟨?_, ?_⟩
  · rw [← okG_filter, hn.1, okG_filter]; exact h.ok
  · intro cl' hm ha
    obtain ⟨cl, hcm, hcc, hca⟩ := hn.2 cl' hm ha
    rw [← pend_filter, hn.1, pend_filter, ← hcc]; exact h.lic cl hcm hca

theorem ginv_delivered {c : Chan} (h : GInv c) (cl0 : Client) (k : Nat) (e : Entry) (now : Int) (hp : pend k c.hist = true) :
    GInv (delivered c cl0 k e now) := by
  refine ⟨?_, ?_⟩
  · simp only [delivered, okG, hp, h.ok, Bool.and_self]
  · refine forall_updC h.lic (fun cl _ hk _ ha => ?_) (fun cl hcm hk hl ha => ?_)
    · cases ha
    · have hk' : ¬ k = cl.conn := fun e => hk e.symm
      simp only [delivered, pend, hk', ↓reduceIte]
      exact hl ha

theorem step_ginv (conf : Conf) {c : Chan} (h : GInv c) (op : Op) (hop : ∀ k id now, op ≠ .deliver k id now) :
    GInv (step conf c op).1 := by
  refine step_keeps h (fun he => ?_)
  by_cases hgd : gdOp op = false
  · exact ginv_neutral h (eff_neutral he hgd)
  · cases he with
    | deliver k now cl e => exact absurd rfl (hop k e.id now)
    | guardOk k cl hc hr =>
      refine ⟨h.ok, forall_updC h.lic (fun cl1 _ hk _ _ => ?_) (fun cl1 _ hk hl ha => ?_)⟩
      · simp [hk, pend]
      · have hk' : ¬ k = cl1.conn := fun e => hk e.symm
        simp only [pend, hk', ↓reduceIte]
        exact hl ha
    | guardNo k cl hc hr => exact ginv_neutral h ⟨rfl, armedLe_updC _ _ _ (fun _ => ⟨rfl, fun hh => by cases hh⟩)⟩
    | deliverArmed k now cl e hc ha hf hq =>
      obtain ⟨hm, hk⟩ := findC_some hc
      exact ginv_delivered h cl k e now (hk ▸ h.lic cl hm ha)
    | _ => exact absurd rfl hgd

theorem run_ginv (conf : Conf) {c : Chan} (h : GInv c) (ops : List Op)
    (hops : ∀ op ∈ ops, ∀ k id now, op ≠ .deliver k id now) : GInv (run conf c ops) :=
  run_keeps (P := GInv) conf ops (fun _ op ho h => step_ginv conf h op (hops op ho)) h

end Nsq.Proofs.ChanGuard
