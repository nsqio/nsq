import Nsq.Model.Fetch
/-! Lemmas about the upstream request loop; `getV1_https` and `getV1_plain` serve `Nsq.Props.C18.fetch_terminates`. -/
namespace Nsq.Proofs.Fetch
open Nsq.Model.Fetch

theorem getV1_https (srv : Endpoint → Resp) (e : Endpoint) (h : e.https = true) :
    (getV1 srv e).2 = [e] ∧ ((getV1 srv e).1 = .ok ↔ srv e = .ok) := by
  rw [getV1]
  cases hs : srv e <;> simp [h]

theorem getV1_plain (srv : Endpoint → Resp) (e : Endpoint) (h : e.https = false) :
    (getV1 srv e).2 = [e] ∨
    ∃ port, srv e = .forbidden (some port) ∧ (getV1 srv e).2 = [e, { https := true, port := port }] ∧
      ((getV1 srv e).1 = .ok ↔ srv { https := true, port := port } = .ok) := by
  rw [getV1]
  cases hs : srv e with
  | ok => simp
  | error => simp
  | forbidden p =>
    cases p with
    | none => simp [h]
    | some port =>
      right
      have h2 := getV1_https srv { https := true, port := port } rfl
      refine ⟨port, rfl, ?_, ?_⟩
      · simp [h, h2.1]
      · simp [h, h2.2]

theorem getV1_bounded (srv : Endpoint → Resp) (e : Endpoint) :
    (getV1 srv e).2.length ≤ 2 ∧ ((getV1 srv e).2.filter (fun x => x.https)).length ≤ 1 + (if e.https then 0 else 0) ∧
    (getV1 srv e).2.head? = some e := by
  cases h : e.https with
  | true =>
    have := (getV1_https srv e h).1
    simp [this, h]
  | false =>
    rcases getV1_plain srv e h with h1 | ⟨port, _, h2, _⟩
    · simp [h1, h]
    · simp [h2, h]

/-- With the condition computed once before the loop, an upstream that answers 403 + https_port on both ports
keeps the loop going for as long as it is allowed to run. -/
theorem stale_uses_all_fuel (port : Nat) (fuel : Nat) : ∀ e,
    (getV1Stale (fun _ => .forbidden (some port)) true fuel e).2.length = fuel := by
  induction fuel with
  | zero => intro e; rfl
  | succ n ih => intro e; simp [getV1Stale, ih]

end Nsq.Proofs.Fetch
