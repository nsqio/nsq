import Nsq.Proofs.HttpChar
namespace Nsq.Proofs.HttpChar
open Nsq.Model.HttpApi Nsq.Model.ProtoV2 Nsq.Model.Names Nsq.Model.Base10 Nsq.Model
open Nsq.Proofs.HttpApi

def GoodNames (rq : Request) (t c : Bytes) : Prop :=
  arg rq kTopic = some t ∧ isValidName t = true ∧ arg rq kChannel = some c ∧ isValidName c = true

theorem GoodNames.unique {rq : Request} {t c t' c' : Bytes} (g : GoodNames rq t c) (g' : GoodNames rq t' c') :
    t' = t ∧ c' = c := by
  have h1 := g.1.symm.trans g'.1
  have h2 := g.2.2.1.symm.trans g'.2.2.1
  cases h1; cases h2; exact ⟨rfl, rfl⟩

theorem GoodNames.iff {rq : Request} {t c : Bytes} (g : GoodNames rq t c) (t' c' : Bytes) :
    GoodNames rq t' c' ↔ t' = t ∧ c' = c :=
  ⟨g.unique, fun ⟨h1, h2⟩ => h1 ▸ h2 ▸ g⟩

/-- `needChan`: an unknown channel is 404 (all but create). -/
structure ChannelEndpoint (needChan : Bool) (act : Bytes → Bytes → Broker) (b : Broker) (rq : Request)
    (r : Out) : Prop where
  invalidRequest : r.1 = ⟨.s400, "INVALID_REQUEST"⟩ ↔ QueryBad rq
  missingTopic : r.1 = ⟨.s400, "MISSING_ARG_TOPIC"⟩ ↔ ¬ QueryBad rq ∧ arg rq kTopic = none
  invalidTopic : r.1 = ⟨.s400, "INVALID_ARG_TOPIC"⟩ ↔ ∃ t, arg rq kTopic = some t ∧ isValidName t = false
  missingChannel : r.1 = ⟨.s400, "MISSING_ARG_CHANNEL"⟩ ↔
    ∃ t, arg rq kTopic = some t ∧ isValidName t = true ∧ arg rq kChannel = none
  invalidChannel : r.1 = ⟨.s400, "INVALID_ARG_CHANNEL"⟩ ↔
    ∃ t c, arg rq kTopic = some t ∧ isValidName t = true ∧ arg rq kChannel = some c ∧ isValidName c = false
  topicNotFound : r.1 = ⟨.s404, "TOPIC_NOT_FOUND"⟩ ↔ ∃ t c, GoodNames rq t c ∧ hasTopic b t = false
  channelNotFound : r.1 = ⟨.s404, "CHANNEL_NOT_FOUND"⟩ ↔
    ∃ t c, GoodNames rq t c ∧ hasTopic b t = true ∧ needChan = true ∧ chanExists b t c = false
  ok : r.1 = ⟨.s200, ""⟩ ↔
    ∃ t c, GoodNames rq t c ∧ hasTopic b t = true ∧ (needChan = true → chanExists b t c = true)
  status200 : r.1.status = .s200 ↔
    ∃ t c, GoodNames rq t c ∧ hasTopic b t = true ∧ (needChan = true → chanExists b t c = true)
  status400 : r.1.status = .s400 ↔ ¬ ∃ t c, GoodNames rq t c
  status404 : r.1.status = .s404 ↔
    ∃ t c, GoodNames rq t c ∧ (hasTopic b t = false ∨ (needChan = true ∧ chanExists b t c = false))
  effect : ∀ t c, GoodNames rq t c → hasTopic b t = true → (needChan = true → chanExists b t c = true) →
    r = (⟨.s200, ""⟩, act t c)
  unchanged : r.1.status ≠ .s200 → r.2 = b
  exhaustive : r.1 ∈ [⟨.s400, "INVALID_REQUEST"⟩, ⟨.s400, "MISSING_ARG_TOPIC"⟩, ⟨.s400, "INVALID_ARG_TOPIC"⟩,
    ⟨.s400, "MISSING_ARG_CHANNEL"⟩, ⟨.s400, "INVALID_ARG_CHANNEL"⟩, ⟨.s404, "TOPIC_NOT_FOUND"⟩,
    ⟨.s404, "CHANNEL_NOT_FOUND"⟩, ⟨.s200, ""⟩]

/-- The common shape of the four channel handlers; each is an instance of it by unfolding. -/
def channelShape (needChan : Bool) (act : Bytes → Bytes → Broker) (b : Broker) (rq : Request) : Out :=
  match topicChannelArgs b rq with
  | .error e => resp e.1 e.2 b
  | .ok tc =>
    if needChan && !chanExists b tc.1 tc.2 then resp .s404 "CHANNEL_NOT_FOUND" b
    else resp .s200 "" (act tc.1 tc.2)

theorem channelShape_char (needChan : Bool) (act : Bytes → Bytes → Broker) (b : Broker) (rq : Request) :
    ChannelEndpoint needChan act b rq (channelShape needChan act b rq) := by
  unfold channelShape topicChannelArgs
  rcases query_cases rq with ⟨hq', hq, ha⟩ | ⟨kv, hkv, hq, ha⟩
  · simp only [hq']
    constructor <;> simp [GoodNames, hq, ha, resp]
  · simp only [hkv, ha]
    cases ht : arg rq kTopic with
    | none => constructor <;> simp [GoodNames, hq, ht, resp]
    | some t =>
      cases hv : isValidName t with
      | false =>
        have hg : ∀ t' c', ¬ GoodNames rq t' c' := fun _ _ g => by
          cases ht.symm.trans g.1; exact nomatch hv.symm.trans g.2.1
        constructor <;> simp [hg, hq, ht, hv, resp]
      | true =>
        cases hc : arg rq kChannel with
        | none =>
          have hg : ∀ t' c', ¬ GoodNames rq t' c' := fun _ _ g => nomatch hc.symm.trans g.2.2.1
          constructor <;> simp [hg, hq, ht, hv, hc, resp]
        | some c =>
          cases hvc : isValidName c with
          | false =>
            have hg : ∀ t' c', ¬ GoodNames rq t' c' := fun _ _ g => by
              cases hc.symm.trans g.2.2.1; exact nomatch hvc.symm.trans g.2.2.2
            constructor <;> simp [hg, hq, ht, hv, hc, hvc, resp]
          | true =>
            have g : GoodNames rq t c := ⟨ht, hv, hc, hvc⟩
            cases hh : hasTopic b t with
            | false => constructor <;> simp [g.iff, and_assoc, hq, ht, hv, hc, hvc, hh, resp]
            | true =>
              by_cases hn : needChan = true ∧ chanExists b t c = false
              · constructor <;> simp [g.iff, and_assoc, hq, ht, hv, hc, hvc, hh, hn, resp]
              · have hn' : needChan = true → chanExists b t c = true := by simpa using hn
                constructor <;> simp [g.iff, and_assoc, hq, ht, hv, hc, hvc, hh, hn, eq_true hn', resp]

theorem doCreateChannel_char (b : Broker) (rq : Request) :
    ChannelEndpoint false (fun t c => getChannel b t c) b rq (doCreateChannel b rq) :=
  channelShape_char ..

theorem doEmptyChannel_char (b : Broker) (rq : Request) :
    ChannelEndpoint true (fun t c => modifyChan b t c (fun c => { c with msgs := [] })) b rq (doEmptyChannel b rq) :=
  channelShape_char ..

theorem doDeleteChannel_char (b : Broker) (rq : Request) :
    ChannelEndpoint true (fun t c => deleteChannel b t c) b rq (doDeleteChannel b rq) :=
  channelShape_char ..

theorem doPauseChannel_char (b : Broker) (rq : Request) {p : Bool} (hp : (!isUnpause rq.path) = p) :
    ChannelEndpoint true (fun t c => modifyChan b t c (fun x => { x with paused := p })) b rq (doPauseChannel b rq) :=
  hp ▸ channelShape_char ..

end Nsq.Proofs.HttpChar
