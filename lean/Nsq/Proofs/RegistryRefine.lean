import Nsq.Proofs.RegistryDB
import Nsq.Model.RegistryStar
/-! Refinement: every operation of the implementation-shaped model commutes with `abs`.

`abs r` reads seven sets off `has r.db`, `getP r.db` (at topic keys, channel keys and the client key) and
`mget r.peers`; `abs_eq` is equality of such a reading with a plain registry, set by set. For each operation the
model side is rewritten by the `has_…` / `getP_…` lemma of the `RegistrationDB` methods it is made of, and what is
left is which of the three kinds of key the operation's key is. The spec's handlers branch on the same tests of the
arguments as the model's, so a handler is opened here by unfolding both and splitting on the tests, not by its `…_cases` /
`Handled` (which open the model side only). `abs_step` is about every operation with one result
(`op.starNode = none`: all but an accepted `POST /topic/tombstone?topic=*`, which has one result per pick:
`Nsq.Proofs.RegistryStar`). -/
namespace Nsq.Proofs.RegistryRefine
open Nsq.Model.Registry Nsq.Model.Registry.AMap Nsq.Proofs.RegistryMap Nsq.Proofs.RegistryDB
open Nsq.Spec.RegistrySpec

theorem abs_eq {r : Registry} {s : Spec}
    (h1 : ∀ t, has r.db (topicKey t) = true ↔ s.knownTopic t)
    (h2 : ∀ t c, has r.db (chanKey t c) = true ↔ s.knownChan t c)
    (h3 : ∀ p t, (getP r.db (topicKey t) p).isSome = true ↔ s.topicReg p t)
    (h4 : ∀ p t c, (getP r.db (chanKey t c) p).isSome = true ↔ s.chanReg p t c)
    (h5 : ∀ p t τ, getP r.db (topicKey t) p = some ⟨true, τ⟩ ↔ s.tomb p t τ)
    (h6 : ∀ p, (getP r.db clientKey p).isSome = true ↔ s.live p)
    (h7 : ∀ p, mget r.peers p = s.peer p) : abs r = s :=
  Spec.ext_pointwise h1 h2 h3 h4 h5 h6 h7

theorem abs_init : abs init = Spec.init := by
  refine abs_eq ?_ ?_ ?_ ?_ ?_ ?_ (fun _ => rfl) <;> intros <;> simp [init, has, getP, Spec.init]

theorem identified_abs (r : Registry) (p : Nat) : (abs r).identified p = identifiedB r p := rfl

theorem getP_disconnectDB (db : DB) (p : Nat) (k : Key) (q : Nat) :
    getP (removeProducerAll db (lookupRegistrations db p) p) k q = if q = p then none else getP db k q := by
  rw [getP_removeProducerAll]
  exact ite_none_congr fun hs => and_iff_left_of_imp fun e => mem_lookupRegistrations_of db p k (e ▸ hs)

theorem disconnect_identified {r : Registry} {p : Nat} (h : identifiedB r p = true) :
    disconnect r p = ⟨removeProducerAll r.db (lookupRegistrations r.db p) p, mdel r.peers p⟩ := by
  simp [disconnect, h]

theorem disconnect_not_identified {r : Registry} {p : Nat} (h : identifiedB r p = false) : disconnect r p = r := by
  simp [disconnect, h]

theorem abs_disconnect (r : Registry) (p : Nat) : abs (disconnect r p) = (abs r).disconnect p := by
  unfold Spec.disconnect
  rw [identified_abs]
  cases h : identifiedB r p with
  | false => rw [disconnect_not_identified h]; rfl
  | true =>
    rw [disconnect_identified h, if_pos rfl]
    refine abs_eq (fun t => ?_) (fun t c => ?_) (fun q t => ?_) (fun q t c => ?_) (fun q t τ => ?_) (fun q => ?_)
      (fun q => mget_mdel r.peers p q)
    · rw [has_removeProducerAll]; exact Iff.rfl
    · rw [has_removeProducerAll]; exact Iff.rfl
    · rw [getP_disconnectDB, isSome_ite_none]; exact Iff.rfl
    · rw [getP_disconnectDB, isSome_ite_none]; exact Iff.rfl
    · rw [getP_disconnectDB, ite_none_eq_some]; exact Iff.rfl
    · rw [getP_disconnectDB, isSome_ite_none]; exact Iff.rfl

theorem abs_identify (r : Registry) (p : Nat) (info : Info) (now : Int) :
    abs (identify r p info now).1 = (abs r).identify p info now := by
  unfold identify Spec.identify
  rw [identified_abs]
  cases identifiedB r p with
  | true => exact abs_disconnect r p
  | false =>
    cases missingFields info with
    | true => rfl
    | false =>
      simp only [Bool.false_eq_true, if_false]
      refine abs_eq (fun t => ?_) (fun t c => ?_) (fun q t => ?_) (fun q t c => ?_) (fun q t τ => ?_) (fun q => ?_)
        (fun q => mget_mset r.peers p q _)
      · simp only [has_addProducer, keyEq, false_or]; exact Iff.rfl
      · simp only [has_addProducer, keyEq, false_or]; exact Iff.rfl
      · simp only [getP_addProducer, keyEq, and_false, false_and, if_false]; exact Iff.rfl
      · simp only [getP_addProducer, keyEq, and_false, false_and, if_false]; exact Iff.rfl
      · simp only [getP_addProducer, keyEq, and_false, false_and, if_false]; exact Iff.rfl
      · simp only [getP_addProducer, isSome_ite_fill, and_true]; exact Iff.rfl

theorem has_registerDB (db : DB) (p : Nat) (tc : TopicChan) (k : Key) :
    has (registerDB db p tc) k = true ↔
      k = topicKey tc.topic ∨ (tc.chan ≠ [] ∧ k = chanKey tc.topic tc.chan) ∨ has db k = true := by
  unfold registerDB
  rw [has_addProducer]
  by_cases hc : tc.chan = []
  · simp [hc]
  · simp [hc, has_addProducer]

theorem getP_registerDB (db : DB) (p : Nat) (tc : TopicChan) (k : Key) (q : Nat) :
    getP (registerDB db p tc) k q =
      if ((q = p ∧ k = topicKey tc.topic) ∨ (tc.chan ≠ [] ∧ q = p ∧ k = chanKey tc.topic tc.chan)) ∧ getP db k q = none
      then some fresh else getP db k q := by
  unfold registerDB
  rw [getP_addProducer]
  by_cases hc : tc.chan = []
  · simp only [hc, ne_eq, not_true_eq_false, if_false, false_and, or_false]
  · simp only [hc, ne_eq, not_false_eq_true, if_true, true_and, getP_addProducer, ite_fill_fill]

theorem abs_registerTC (r : Registry) (p : Nat) (tc : TopicChan) :
    abs { r with db := registerDB r.db p tc } = (abs r).registerTC p tc := by
  refine abs_eq (fun t => ?_) (fun t c => ?_) (fun q t => ?_) (fun q t c => ?_) (fun q t τ => ?_) (fun q => ?_)
    (fun _ => rfl)
  · simp only [has_registerDB, keyEq, and_false, false_or]
    exact Iff.rfl
  · simp only [has_registerDB, keyEq, false_or]
    exact Iff.rfl
  · simp only [getP_registerDB, isSome_ite_fill, keyEq, and_false, or_false]; exact Iff.rfl
  · simp only [getP_registerDB, isSome_ite_fill, keyEq, and_false, false_or]; exact Iff.rfl
  · simp only [getP_registerDB, ite_fill_eq_some, fresh, Tomb.mk.injEq, Bool.false_eq_true, false_and, and_false, or_false]
    exact Iff.rfl
  · simp only [getP_registerDB, keyEq, and_false, or_self, false_and, if_false]; exact Iff.rfl

theorem abs_register (r : Registry) (p : Nat) (params : List Name) :
    abs (register r p params).1 = (abs r).register p params := by
  unfold register Spec.register
  rw [identified_abs]
  cases identifiedB r p with
  | false => rfl
  | true =>
    cases getTopicChan "REGISTER" params with
    | error e => exact abs_disconnect r p
    | ok tc => exact abs_registerTC r p tc

theorem getP_removeAndGC (db : DB) (k : Key) (p : Nat) (eph : Bool) (k' : Key) (q : Nat) :
    getP (removeAndGC db k p eph) k' q = if q = p ∧ k' = k then none else getP db k' q := by
  unfold removeAndGC
  split
  · rename_i h
    -- the key goes only when nobody but `p` had an entry under it
    rw [getP_removeRegistration, getP_removeProducer, ← ite_or]
    refine ite_none_congr fun hs => ⟨fun h' => h'.elim (fun e => ⟨?_, e⟩) id, Or.inr⟩
    simp only [Bool.and_eq_true, decide_eq_true_eq, left_zero_iff] at h
    exact h.1 q (e ▸ hs)
  · exact getP_removeProducer db k k' p q

theorem has_removeAndGC (db : DB) (k : Key) (p : Nat) (eph : Bool) (k' : Key) :
    has (removeAndGC db k p eph) k' = true ↔
      has db k' = true ∧ ¬ (k' = k ∧ eph = true ∧ ∀ q, (getP db k q).isSome = true → q = p) := by
  unfold removeAndGC
  rw [← left_zero_iff]
  by_cases h : leftAfterRemove db k p = 0 ∧ eph = true
  · simp [h.1, h.2, has_removeRegistration, has_removeProducer, and_comm]
  · have h' : ¬ (eph = true ∧ leftAfterRemove db k p = 0) := fun x => h ⟨x.2, x.1⟩
    simp [h, h', has_removeProducer]

theorem getP_unregisterDB (db : DB) (p : Nat) (tc : TopicChan) (k : Key) (q : Nat) :
    getP (unregisterDB db p tc) k q =
      if q = p ∧ ((tc.chan ≠ [] ∧ k = chanKey tc.topic tc.chan) ∨
          (tc.chan = [] ∧ (k = topicKey tc.topic ∨ isMatch k .channel tc.topic star = true)))
      then none else getP db k q := by
  unfold unregisterDB
  by_cases hc : tc.chan = []
  · simp only [hc, ne_eq, not_true_eq_false, if_false, false_and, true_and, false_or, getP_removeAndGC,
      getP_removeProducerAll_find, and_or_left, ite_or]
  · simp only [hc, ne_eq, not_false_eq_true, if_true, true_and, false_and, or_false, getP_removeAndGC]

theorem has_unregisterDB (db : DB) (p : Nat) (tc : TopicChan) (k : Key) :
    has (unregisterDB db p tc) k = true ↔
      has db k = true ∧
        ¬ ((tc.chan ≠ [] ∧ k = chanKey tc.topic tc.chan ∧ isEphemeral tc.chan = true ∧
              ∀ q, (getP db (chanKey tc.topic tc.chan) q).isSome = true → q = p) ∨
           (tc.chan = [] ∧ k = topicKey tc.topic ∧ isEphemeral tc.topic = true ∧
              ∀ q, (getP db (topicKey tc.topic) q).isSome = true → q = p)) := by
  unfold unregisterDB
  by_cases hc : tc.chan = []
  · simp only [hc, ne_eq, not_true_eq_false, if_false, false_and, true_and, false_or, has_removeAndGC, has_removeProducerAll, getP_removeProducerAll_find, isMatchKey, Bool.false_eq_true, and_false]
  · simp only [hc, ne_eq, not_false_eq_true, if_true, true_and, false_and, or_false, has_removeAndGC]

theorem abs_unregisterChan (r : Registry) (p : Nat) (t c : Name) :
    abs { r with db := removeAndGC r.db (chanKey t c) p (isEphemeral c) } = (abs r).unregisterChan p t c := by
  refine abs_eq (fun t' => ?_) (fun t' c' => ?_) (fun q t' => ?_) (fun q t' c' => ?_) (fun q t' τ => ?_) (fun q => ?_)
    (fun _ => rfl)
  · simp only [has_removeAndGC, keyEq, false_and, not_false_eq_true, and_true]; exact Iff.rfl
  · simp only [has_removeAndGC, keyEq, and_assoc]; exact Iff.rfl
  · simp only [getP_removeAndGC, keyEq, and_false, if_false]; exact Iff.rfl
  · simp only [getP_removeAndGC, keyEq, isSome_ite_none]; exact Iff.rfl
  · simp only [getP_removeAndGC, keyEq, and_false, if_false]; exact Iff.rfl
  · simp only [getP_removeAndGC, keyEq, and_false, if_false]; exact Iff.rfl

theorem abs_unregisterTopic (r : Registry) (p : Nat) (t : Name) (ht : t ≠ star) :
    abs { r with db :=
        removeAndGC (removeProducerAll r.db (findRegistrations r.db .channel t star) p) (topicKey t) p (isEphemeral t) } =
      (abs r).unregisterTopic p t := by
  refine abs_eq (fun t' => ?_) (fun t' c' => ?_) (fun q t' => ?_) (fun q t' c' => ?_) (fun q t' τ => ?_) (fun q => ?_)
    (fun _ => rfl)
  · simp only [has_removeAndGC, has_removeProducerAll, getP_removeProducerAll_find, keyEq, isMatchKey, Bool.false_eq_true, and_false, if_false]
    exact Iff.rfl
  · simp only [has_removeAndGC, has_removeProducerAll, keyEq, false_and, not_false_eq_true, and_true]; exact Iff.rfl
  · simp only [getP_removeAndGC, getP_removeProducerAll_find, keyEq, isMatchKey, Bool.false_eq_true, and_false, if_false, isSome_ite_none]
    exact Iff.rfl
  · simp only [getP_removeAndGC, getP_removeProducerAll_find, keyEq, isMatchKey, tmatch, ht, false_or, and_false, if_false, isSome_ite_none]
    exact Iff.rfl
  · simp only [getP_removeAndGC, getP_removeProducerAll_find, keyEq, isMatchKey, Bool.false_eq_true, and_false, if_false, ite_none_eq_some]
    exact Iff.rfl
  · simp only [getP_removeAndGC, getP_removeProducerAll_find, keyEq, isMatchKey, Bool.false_eq_true, and_false, if_false]
    exact Iff.rfl

theorem abs_unregister (r : Registry) (p : Nat) (params : List Name) :
    abs (unregister r p params).1 = (abs r).unregister p params := by
  unfold unregister Spec.unregister unregisterDB
  rw [identified_abs]
  cases identifiedB r p with
  | false => rfl
  | true =>
    cases hg : getTopicChan "UNREGISTER" params with
    | error e => exact abs_disconnect r p
    | ok tc =>
      simp only [Bool.not_true, Bool.false_eq_true, if_false]
      split
      · exact abs_unregisterChan r p tc.topic tc.chan
      · exact abs_unregisterTopic r p tc.topic (validName_ne_star _ (getTopicChan_ok _ _ _ hg).1)

/-- `abs_unregister` at the two accepted argument lists, `[t]` and `[t, ch]` (for `Nsq.Props.C14`) -/
theorem abs_unregister_topic (r : Registry) (p : Nat) (t : Name) (hi : identifiedB r p = true) (hv : validName t = true) :
    abs (unregister r p [t]).1 = (abs r).unregisterTopic p t := by
  rw [abs_unregister]
  simp [Spec.unregister, identified_abs, hi, getTopicChan, hv, chanParam]

theorem abs_unregister_chan (r : Registry) (p : Nat) (t ch : Name) (hi : identifiedB r p = true)
    (hv : validName t = true) (hvc : validName ch = true) :
    abs (unregister r p [t, ch]).1 = (abs r).unregisterChan p t ch := by
  have hne : ch ≠ [] := by rintro rfl; revert hvc; decide
  rw [abs_unregister]
  simp [Spec.unregister, identified_abs, hi, getTopicChan, hv, hvc, chanParam, hne]

theorem abs_ping (r : Registry) (p : Nat) (now : Int) : abs (ping r p now) = (abs r).ping p now := by
  unfold ping Spec.ping
  cases h : mget r.peers p with
  | none =>
    refine Spec.ext' rfl rfl rfl rfl rfl rfl (funext fun q => ?_)
    by_cases hq : q = p
    · subst hq; simp [abs, h]
    · simp [hq]
  | some pr =>
    refine Spec.ext' rfl rfl rfl rfl rfl rfl (funext fun q => ?_)
    simp only [abs, mget_mset, h, Option.map_some]

theorem abs_createTopic (r : Registry) (a : HttpArgs) :
    abs (createTopic r a).1 = (abs r).createTopic a := by
  unfold createTopic Spec.createTopic
  cases a.badQuery with
  | true => rfl
  | false =>
    cases a.topic with
    | none => rfl
    | some t =>
      simp only [Bool.false_eq_true, if_false]
      cases validName t with
      | false => rfl
      | true =>
        simp only [Bool.not_true, Bool.false_eq_true, if_false]
        refine abs_eq (fun t' => ?_) (fun t' c => ?_) (fun q t' => ?_) (fun q t' c => ?_) (fun q t' τ => ?_) (fun q => ?_)
          (fun _ => rfl)
        · simp only [has_addRegistration, keyEq]; exact Iff.rfl
        · simp only [has_addRegistration, keyEq, false_or]; exact Iff.rfl
        all_goals rw [getP_addRegistration]; exact Iff.rfl

theorem abs_createChannel (r : Registry) (a : HttpArgs) :
    abs (createChannel r a).1 = (abs r).createChannel a := by
  unfold createChannel Spec.createChannel
  cases a.badQuery with
  | true => rfl
  | false =>
    cases getTopicChannelArgs a with
    | error e => rfl
    | ok tc =>
      simp only [Bool.false_eq_true, if_false]
      refine abs_eq (fun t' => ?_) (fun t' c => ?_) (fun q t' => ?_) (fun q t' c => ?_) (fun q t' τ => ?_) (fun q => ?_)
        (fun _ => rfl)
      · simp only [has_addRegistration, keyEq, false_or]
        exact Iff.rfl
      · simp only [has_addRegistration, keyEq, false_or]
        exact Iff.rfl
      all_goals rw [getP_addRegistration, getP_addRegistration]; exact Iff.rfl

/-- also when answered 404: no such channel, so nothing is found and nothing is removed -/
theorem deleteChannel_db (r : Registry) (a : HttpArgs) (tc : TopicChan) (hb : a.badQuery = false)
    (hg : getTopicChannelArgs a = .ok tc) :
    (deleteChannel r a).1 = { r with db := removeRegistrations r.db (findRegistrations r.db .channel tc.topic tc.chan) } := by
  unfold deleteChannel
  rw [hb, hg]
  simp only [Bool.false_eq_true, if_false]
  cases h : findRegistrations r.db .channel tc.topic tc.chan with
  | nil => rfl
  | cons _ _ => rfl

theorem abs_deleteChannel (r : Registry) (a : HttpArgs) :
    abs (deleteChannel r a).1 = (abs r).deleteChannel a := by
  cases hb : a.badQuery with
  | true => simp [deleteChannel, Spec.deleteChannel, hb]
  | false =>
    cases hg : getTopicChannelArgs a with
    | error e => simp [deleteChannel, Spec.deleteChannel, hb, hg]
    | ok tc =>
      have hv := getTopicChannelArgs_ok a tc hg
      have hm := fun k => isMatch_exactKey k tc.topic tc.chan (validName_ne_star _ hv.2.2.1) (validName_ne_star _ hv.2.2.2)
      rw [deleteChannel_db r a tc hb hg]
      simp only [Spec.deleteChannel, hb, hg, Bool.false_eq_true, if_false]
      refine abs_eq (fun t => ?_) (fun t c => ?_) (fun q t => ?_) (fun q t c => ?_) (fun q t τ => ?_) (fun q => ?_)
        (fun _ => rfl)
      · simp only [has_removeRegistrations_find, hm, keyEq, not_false_eq_true, and_true]; exact Iff.rfl
      · simp only [has_removeRegistrations_find, hm, keyEq]; exact Iff.rfl
      · simp only [getP_removeRegistrations_find, hm, keyEq, if_false]; exact Iff.rfl
      · simp only [getP_removeRegistrations_find, hm, keyEq, isSome_ite_none]; exact Iff.rfl
      · simp only [getP_removeRegistrations_find, hm, keyEq, if_false]; exact Iff.rfl
      · simp only [getP_removeRegistrations_find, hm, keyEq, if_false]; exact Iff.rfl

theorem has_deleteTopicDB (db : DB) (t : Name) (k : Key) :
    has (deleteTopicDB db t) k = true ↔
      has db k = true ∧ ¬ isMatch k .channel t star = true ∧ ¬ isMatch k .topic t [] = true := by
  unfold deleteTopicDB
  simp only [has_removeRegistrations_find, and_assoc]

theorem getP_deleteTopicDB (db : DB) (t : Name) (k : Key) (q : Nat) :
    getP (deleteTopicDB db t) k q =
      if isMatch k .channel t star = true ∨ isMatch k .topic t [] = true then none else getP db k q := by
  unfold deleteTopicDB
  simp only [getP_removeRegistrations_find, or_comm (a := isMatch k .channel t star = true), ite_or]

theorem abs_deleteTopic (r : Registry) (a : HttpArgs) :
    abs (deleteTopic r a).1 = (abs r).deleteTopic a := by
  unfold deleteTopic Spec.deleteTopic
  cases a.badQuery with
  | true => rfl
  | false =>
    cases a.topic with
    | none => rfl
    | some t =>
      simp only [Bool.false_eq_true, if_false]
      refine abs_eq (fun t' => ?_) (fun t' c => ?_) (fun q t' => ?_) (fun q t' c => ?_) (fun q t' τ => ?_) (fun q => ?_)
        (fun _ => rfl)
      · simp only [has_deleteTopicDB, isMatchKey, Bool.false_eq_true, not_false_eq_true, true_and]
        exact Iff.rfl
      · simp only [has_deleteTopicDB, isMatchKey, Bool.false_eq_true, not_false_eq_true, and_true]
        exact Iff.rfl
      · simp only [getP_deleteTopicDB, isMatchKey, Bool.false_eq_true, false_or, isSome_ite_none]
        exact Iff.rfl
      · simp only [getP_deleteTopicDB, isMatchKey, Bool.false_eq_true, or_false, isSome_ite_none]
        exact Iff.rfl
      · simp only [getP_deleteTopicDB, isMatchKey, Bool.false_eq_true, false_or, ite_none_eq_some]
        exact Iff.rfl
      · simp only [getP_deleteTopicDB, isMatchKey, Bool.false_eq_true, or_self, if_false]
        exact Iff.rfl

theorem tombstonePM_eq (r : Registry) (pm : PMap) (node : Name) (now : Int) :
    tombstonePM r pm node now =
      pm.map (fun e => (e.1, (fun id tb => if nodeMatches r id node then (⟨true, now⟩ : Tomb) else tb) e.1 e.2)) := by
  unfold tombstonePM
  apply List.map_congr_left
  intro e _
  by_cases h : nodeMatches r e.1 node = true <;> simp [h]

theorem has_tombstoneDB (r : Registry) (t node : Name) (now : Int) (ht : t ≠ star) (k : Key) :
    has (tombstoneDB r t node now) k = has r.db k := by
  unfold tombstoneDB
  rw [if_neg ht]
  cases hg : mget r.db (topicKey t) with
  | none => rfl
  | some pm => exact has_mset_of_mget hg k _

theorem getP_tombstoneDB (r : Registry) (t node : Name) (now : Int) (ht : t ≠ star) (k : Key) (q : Nat) :
    getP (tombstoneDB r t node now) k q =
      if k = topicKey t ∧ nodeMatches r q node = true then (getP r.db k q).map (fun _ => ⟨true, now⟩)
      else getP r.db k q := by
  unfold tombstoneDB
  rw [if_neg ht]
  cases hg : mget r.db (topicKey t) with
  | none =>
    by_cases hk : k = topicKey t
    · subst hk; simp [getP_of_mget_none hg]
    · simp [hk]
  | some pm =>
    rw [getP_mset]
    by_cases hk : k = topicKey t
    · subst hk
      rw [if_pos rfl, tombstonePM_eq, mget_map_val pm (fun id tb => if nodeMatches r id node then (⟨true, now⟩ : Tomb) else tb),
        getP_of_mget hg]
      by_cases hn : nodeMatches r q node = true <;> cases mget pm q <;> simp [hn]
    · simp [hk]

theorem tombstoneDB_star (r : Registry) (node : Name) (now : Int) :
    tombstoneDB r star node now = tombstoneStarDB r (firstPick r.db) node now := if_pos rfl

theorem has_tombstoneStarDB (r : Registry) (pick : Pick) (node : Name) (now : Int) (k : Key) :
    has (tombstoneStarDB r pick node now) k = has r.db k := by
  unfold tombstoneStarDB has
  rw [mget_map_val r.db (starTombPM r pick node now) k]
  cases mget r.db k <;> rfl

theorem getP_tombstoneStarDB (r : Registry) (pick : Pick) (node : Name) (now : Int) (k : Key) (q : Nat) :
    getP (tombstoneStarDB r pick node now) k q =
      if isMatch k .topic star [] = true ∧ pick q = k.key ∧ nodeMatches r q node = true
      then (getP r.db k q).map (fun _ => ⟨true, now⟩) else getP r.db k q := by
  unfold tombstoneStarDB getP
  rw [mget_map_val r.db (starTombPM r pick node now) k]
  cases hg : mget r.db k with
  | none => simp
  | some pm =>
    simp only [Option.map_some, Option.bind_some]
    unfold starTombPM
    by_cases hm : isMatch k .topic star [] = true
    · simp only [hm, if_true, true_and]
      rw [mget_map_val pm (starTombVal r pick node now k.key) q]
      unfold starTombVal
      by_cases h1 : pick q = k.key <;> by_cases h2 : nodeMatches r q node = true <;>
        cases mget pm q <;> simp [h1, h2]
    · simp [hm]

theorem nodeIs_abs (r : Registry) (q : Nat) (node : Name) :
    (abs r).nodeIs q node ↔ nodeMatches r q node = true := by
  unfold Spec.nodeIs nodeMatches
  simp only [abs]
  cases mget r.peers q <;> simp

theorem ne_star_of_starNode {a : HttpArgs} {now : Int} {t node : Name} (h : (Op.tombstone a now).starNode = none)
    (hb : a.badQuery = false) (ht : a.topic = some t) (hn : a.node = some node) : t ≠ star := by
  rintro rfl
  simp [Op.starNode, hb, ht, hn] at h

theorem abs_tombstone (r : Registry) (a : HttpArgs) (now : Int) (h : (Op.tombstone a now).starNode = none) :
    abs (tombstone r a now).1 = (abs r).tombstone a now := by
  unfold tombstone Spec.tombstone
  cases hb : a.badQuery with
  | true => rfl
  | false =>
    cases ht : a.topic with
    | none => rfl
    | some t =>
      cases hn : a.node with
      | none => rfl
      | some node =>
        have hts := ne_star_of_starNode h hb ht hn
        simp only [Bool.false_eq_true, if_false]
        refine abs_eq (fun t' => ?_) (fun t' c => ?_) (fun q t' => ?_) (fun q t' c => ?_) (fun q t' τ => ?_) (fun q => ?_)
          (fun _ => rfl)
        · rw [has_tombstoneDB _ _ _ _ hts]; exact Iff.rfl
        · rw [has_tombstoneDB _ _ _ _ hts]; exact Iff.rfl
        · rw [getP_tombstoneDB _ _ _ _ hts, isSome_ite_map]; exact Iff.rfl
        · rw [getP_tombstoneDB _ _ _ _ hts, isSome_ite_map]; exact Iff.rfl
        · simp only [getP_tombstoneDB _ _ _ _ hts, ite_map_const_eq_some, nodeIs_abs, keyEq, Tomb.mk.injEq, true_and]
          by_cases h : t' = t
          · subst h; simp only [true_and, and_left_comm, abs]
          · simp only [h, false_and, abs]
        · rw [getP_tombstoneDB _ _ _ _ hts, isSome_ite_map]; exact Iff.rfl

theorem abs_step (r : Registry) (op : Op) (h : op.starNode = none) :
    abs (step r op).1 = (abs r).step op := by
  cases op with
  | identify p info now => exact abs_identify r p info now
  | register p params => exact abs_register r p params
  | unregister p params => exact abs_unregister r p params
  | ping p now => exact abs_ping r p now
  | disconnect p => exact abs_disconnect r p
  | createTopic a => exact abs_createTopic r a
  | deleteTopic a => exact abs_deleteTopic r a
  | createChannel a => exact abs_createChannel r a
  | deleteChannel a => exact abs_deleteChannel r a
  | tombstone a now => exact abs_tombstone r a now h

theorem starNode_of_modelled {op : Op} (h : op.modelled = true) : op.starNode = none := by
  cases op with
  | tombstone a now => exact if_neg fun hc => by simp [Op.modelled, hc.2] at h
  | _ => rfl

theorem abs_run (r : Registry) (ops : List Op) (h : ∀ op ∈ ops, op.starNode = none) :
    abs (run r ops) = (abs r).run ops := by
  induction ops generalizing r with
  | nil => rfl
  | cons op ops ih =>
    simp only [run, Spec.run]
    rw [ih _ (fun o ho => h o (List.mem_cons_of_mem _ ho)), abs_step r op (h op List.mem_cons_self)]

end Nsq.Proofs.RegistryRefine
