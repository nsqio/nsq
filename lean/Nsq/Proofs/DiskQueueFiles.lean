import Nsq.Proofs.DiskQueueApi
/-! Which data files a healthy queue has (`dat_exists_iff`), and when a call can add a `.bad` file or move the reader to another
file (`put_frame`, `recv_bad_changes`, `reopen_frame`).  `*_single`: a reader in the write file (`rf = wf`) is still there after the call (a `Put`: one that does not roll). -/
namespace Nsq.Proofs.DiskQueue
open Nsq.Model.Wire Nsq.Model.DiskQueue

theorem dat_exists_iff {s : St} {q : List Bytes} (h : Q s q) (i : Nat) :
    s.fs.dat i ≠ none ↔ (s.rf ≤ i ∧ i < s.wf) ∨ (i = s.wf ∧ 0 < s.wp) := by
  obtain ⟨pre, recs, a, _, _⟩ := h
  constructor
  · intro hh
    have h1 : s.rf ≤ i := Nat.le_of_not_lt fun hlt => hh (a.out i (Or.inl hlt))
    have h2 : i ≤ s.wf := Nat.le_of_not_lt fun hlt => hh (a.out i (Or.inr hlt))
    cases Nat.lt_or_eq_of_le h2 with
    | inl hlt => exact Or.inl ⟨h1, hlt⟩
    | inr he => exact Or.inr ⟨he, Nat.pos_of_ne_zero fun e => hh (he ▸ a.wex.2 e)⟩
  · intro hh
    cases hh with
    | inl x => exact a.ex i x.1 x.2
    | inr x => exact fun hn => absurd (a.wex.1 (x.1 ▸ hn)) (Nat.ne_of_gt x.2)

/-- unless the reader stands at the end of a completed file, `settle` is one loop pass without a read error -/
theorem settle_calm {t : St} {pre : Bytes} {recs : Nat → List Bytes} (h : Rep t pre recs)
    (hn : t.rf < t.wf → t.rp ≠ (t.fs.content t.rf).length) :
    (settle t).fs.bad = t.fs.bad ∧ (settle t).rf = t.rf ∧ (settle t).wf = t.wf := by
  obtain ⟨_, _, _, _, fr | ⟨_, hlt, hr⟩⟩ := settle_rep h
  · have e := E_pos (syncDue_E t)
    exact ⟨by rw [fr.fs]; exact e.bad, fr.rf.trans e.rf, fr.wf.trans e.wf⟩
  · refine absurd ?_ (hn hlt)
    rw [h.crf, hr, enc_nil, List.append_nil]
    exact h.rp

theorem not_at_eof {s : St} {q : List Bytes} (h : Q s q) (hc : s.rf < s.wf ∨ q ≠ []) :
    s.rp ≠ (s.fs.content s.rf).length := by
  obtain ⟨pre, recs, a, b, c⟩ := h
  obtain ⟨d, rest, b1, _, _⟩ := b.2 (canRead_of a (c ▸ hc))
  rw [a.crf, b1, enc_cons, a.rp]
  simp only [List.length_append, dqRecord_length]
  omega

/-- `Put` changes the set of `.bad` files (and moves the reader to another file) only when the disk queue
was EMPTY — the reader had caught up with the writer inside the write file — and this `Put` rolls the
writer to a new file -/
theorem put_frame {s : St} {q : List Bytes} (h : Q s q) (d : Bytes) (hc : q ≠ [] ∨ needRoll s d = false) :
    (put s d).2.fs.bad = s.fs.bad ∧ (put s d).2.rf = s.rf ∧
      (needRoll s d = false → (put s d).2.wf = s.wf) := by
  have h0 := h
  obtain ⟨pre, recs, a, _, _⟩ := h
  by_cases hv : ValidRec s.cfg d
  · obtain ⟨recs', w2, _⟩ := written_rep (rep_count a) d hv
    rw [put_valid a.live d hv]
    -- the append does not touch the read file unless it is the write file: the reader is at EOF of a completed file
    -- after the put iff it was before, and `not_at_eof` excludes before
    cases hr : needRoll s d with
    | true =>
      rw [show needRoll { s with count := s.count + 1 } d = true from hr, if_pos rfl] at w2
      rw [if_pos rfl]
      have hq : q ≠ [] := hc.resolve_right (by rw [hr]; decide)
      obtain ⟨x1, x2, _⟩ := settle_calm w2 (fun _ heq => not_at_eof (s := s) h0 (Or.inr hq) (heq.trans (congrArg List.length
        (appendRec_content_ne (rollWrite { s with count := s.count + 1 }) d
          (Nat.ne_of_lt (Nat.lt_succ_of_le a.le))))))
      exact ⟨x1, x2, fun hh => absurd hh (by decide)⟩
    | false =>
      rw [show needRoll { s with count := s.count + 1 } d = false from hr, if_neg (by decide)] at w2
      rw [if_neg (by decide)]
      obtain ⟨x1, x2, x3⟩ := settle_calm w2 (fun hlt heq => not_at_eof (s := s) h0 (Or.inl hlt) (heq.trans
        (congrArg List.length (appendRec_content_ne { s with count := s.count + 1 } d (Nat.ne_of_lt hlt)))))
      exact ⟨x1, x2, fun _ => x3⟩
  · rw [put_invalid a.live d hv]
    obtain ⟨x1, x2, x3⟩ := settle_calm (rep_count a) (fun hlt => not_at_eof (s := s) h0 (Or.inl hlt))
    exact ⟨x1, x2, fun _ => x3⟩

theorem moveForward_bad (u : St) : (moveForward u).fs.bad = u.fs.bad := by
  unfold moveForward
  split <;> rw [checkTail_bad]

/-- a receive changes the set of `.bad` files only when, after the consumer took the pending record, the
reader stands at the end of a completed file (the read-ahead of that record happened while the file
was still the write file; the writer rolled afterwards) -/
theorem recv_bad_changes {s : St} {q : List Bytes} (h : Q s q)
    (hb : (recv s).2.fs.bad ≠ s.fs.bad) :
    (moveForward { s with count := s.count + 1 }).rf < (moveForward { s with count := s.count + 1 }).wf ∧
    (moveForward { s with count := s.count + 1 }).rp =
      ((moveForward { s with count := s.count + 1 }).fs.content
        (moveForward { s with count := s.count + 1 }).rf).length := by
  obtain ⟨pre, recs, a, b, _⟩ := h
  cases hc : canRead s with
  | false =>
    rw [recv_tail hc] at hb
    exact absurd rfl hb
  | true =>
    obtain ⟨pre', recs', m1, _⟩ := moveForward_rep (rep_count a) (b.2 hc)
    rw [recv_live a.live hc] at hb
    apply Classical.byContradiction
    intro hn
    exact hb ((settle_calm m1 (fun h1 h2 => hn ⟨h1, h2⟩)).1.trans (moveForward_bad _))

theorem retrieve_closed {s : St} {pre : Bytes} {recs : Nat → List Bytes} (a : Rep s pre recs) (cfg' : Cfg) :
    retrieve cfg' (close s).fs =
      { cfg := cfg', fs := { s.fs with md := some s.metaNow }, depth := s.depth, rf := s.rf, rp := s.rp, wf := s.wf,
        wp := s.wp, nrf := s.rf, nrp := s.rp } :=
  retrieve_cur a.persisted cfg' rfl

theorem reopen_frame {s : St} {q : List Bytes} (h : Q s q) (cfg' : Cfg) (hok : CfgOk cfg')
    (hmin : cfg'.minMsgSize = s.cfg.minMsgSize) (hmax : cfg'.maxMsgSize = s.cfg.maxMsgSize) :
    (openQ cfg' (close s).fs).fs.bad = s.fs.bad ∧ (openQ cfg' (close s).fs).rf = s.rf ∧
      (openQ cfg' (close s).fs).wf = s.wf := by
  have h0 := h
  obtain ⟨pre, recs, a, _, _⟩ := h
  have r1 : Rep (retrieve cfg' (close s).fs) pre recs :=
    (reopen_rep a.persisted cfg' hok hmin hmax rfl).1
  unfold openQ
  rw [retrieve_closed a cfg'] at r1 ⊢
  exact settle_calm r1 (fun hlt => not_at_eof (s := s) h0 (Or.inl hlt))

theorem put_single {s : St} {q : List Bytes} (h : Q s q) (d : Bytes) (he : s.rf = s.wf)
    (hr : needRoll s d = false) :
    (put s d).2.rf = (put s d).2.wf ∧ (put s d).2.fs.bad = s.fs.bad := by
  obtain ⟨x1, x2, x3⟩ := put_frame h d (Or.inr hr)
  exact ⟨x2.trans (he.trans (x3 hr).symm), x1⟩

theorem recv_single {s : St} {q : List Bytes} (h : Q s q) (he : s.rf = s.wf) :
    (recv s).2.rf = (recv s).2.wf ∧ (recv s).2.fs.bad = s.fs.bad := by
  obtain ⟨pre, recs, a, b, _⟩ := h
  cases hc : canRead s with
  | false =>
    rw [recv_tail hc]
    exact ⟨he, rfl⟩
  | true =>
    obtain ⟨d, rest, b1, _, b3⟩ := b.2 hc
    cases b3 with
    | inr x => exact absurd x.1 (he ▸ Nat.lt_irrefl _)
    | inl x =>
      obtain ⟨m0, m1, _⟩ := moveForward_same (rep_count a) b1 x.1 x.2
      rw [recv_live a.live hc]
      rw [m0] at m1 ⊢
      obtain ⟨x1, x2, x3⟩ := settle_calm m1 (fun hlt => absurd hlt (by
        show ¬ s.nrf < s.wf
        rw [x.1, he]
        exact Nat.lt_irrefl _))
      exact ⟨x2.trans ((x.1.trans he).trans x3.symm), x1⟩

theorem empty_single {s : St} {q : List Bytes} (h : Q s q) :
    (empty s).2.rf = (empty s).2.wf ∧ (empty s).2.fs.bad = s.fs.bad := by
  obtain ⟨pre, recs, a, b, _⟩ := h
  rw [empty_live a b.1]
  exact ⟨rfl, rfl⟩

end Nsq.Proofs.DiskQueue
