import Nsq.Model.Registry
import Nsq.Proofs.Keyed
/-! Go-map laws for the association-list maps of `Nsq.Model.Registry.AMap`. Look-up and deletion are `find?` and `filter` by the
first component (`mget_eq_find`, `mdel_eq_filter`), so their laws are those of `Nsq.Proofs.Keyed` and of core; assignment (replace the
first entry of the key, or append) has its own recursion. -/
namespace Nsq.Proofs.RegistryMap
open Nsq.Model.Registry Nsq.Model.Registry.AMap

variable {α : Type} {β : Type} [DecidableEq α]

@[simp] theorem mget_nil (k : α) : mget ([] : List (α × β)) k = none := rfl

theorem mget_cons (e : α × β) (m : List (α × β)) (k : α) :
    mget (e :: m) k = if k = e.1 then some e.2 else mget m k := by
  simp only [mget, eq_comm]

theorem mget_eq_find (m : List (α × β)) (k : α) : mget m k = (m.find? (fun e => e.1 == k)).map (·.2) := by
  induction m with
  | nil => rfl
  | cons e m ih => by_cases h : e.1 = k <;> simp [mget, h, ih]

theorem mdel_eq_filter (m : List (α × β)) (k : α) : mdel m k = m.filter (fun e => e.1 != k) := by
  induction m with
  | nil => rfl
  | cons e m ih => by_cases h : e.1 = k <;> simp [mdel, h, ih]

theorem mget_mset (m : List (α × β)) (k k' : α) (v : β) :
    mget (mset m k v) k' = if k' = k then some v else mget m k' := by
  induction m with
  | nil => simp only [mset, mget_cons, mget_nil]
  | cons e m ih =>
    unfold mset
    by_cases h : e.1 = k
    · subst h; simp only [if_true, mget_cons]
      split <;> rfl
    · simp only [h, if_false, mget_cons, ih]
      by_cases h2 : k' = k
      · simp [h2, Ne.symm h]
      · simp [h2]

theorem mget_mdel (m : List (α × β)) (k k' : α) :
    mget (mdel m k) k' = if k' = k then none else mget m k' := by
  rw [mget_eq_find, mget_eq_find, mdel_eq_filter, Keyed.find?_del]
  split <;> rfl

theorem mem_mkeys_iff (m : List (α × β)) (k : α) : k ∈ mkeys m ↔ (mget m k).isSome = true := by
  simp [mget_eq_find, mkeys]

theorem mget_none_iff (m : List (α × β)) (k : α) : mget m k = none ↔ k ∉ mkeys m := by
  rw [mem_mkeys_iff]
  cases mget m k <;> simp

theorem mget_mem (m : List (α × β)) (k : α) (v : β) (h : mget m k = some v) : (k, v) ∈ m := by
  rw [mget_eq_find, Option.map_eq_some_iff] at h
  obtain ⟨e, he, rfl⟩ := h
  obtain ⟨hm, rfl⟩ := Keyed.find?_some he
  exact hm

theorem mget_of_mem_nodup (m : List (α × β)) (k : α) (v : β) (hn : (mkeys m).Nodup) (h : (k, v) ∈ m) :
    mget m k = some v := by
  rw [mget_eq_find, Keyed.find?_of_mem (key := Prod.fst) hn h]; rfl

theorem mkeys_mset (m : List (α × β)) (k : α) (v : β) :
    mkeys (mset m k v) = if k ∈ mkeys m then mkeys m else mkeys m ++ [k] := by
  induction m with
  | nil => simp [mset, mkeys]
  | cons e m ih =>
    unfold mset
    by_cases h : e.1 = k
    · simp [h, mkeys]
    · simp only [mkeys] at ih
      simp only [h, if_false, mkeys, List.map_cons, List.mem_cons, Ne.symm h, false_or, ih]
      split <;> simp [*]

theorem nodup_mkeys_mset (m : List (α × β)) (k : α) (v : β) (h : (mkeys m).Nodup) :
    (mkeys (mset m k v)).Nodup := by
  rw [mkeys_mset]
  split
  · exact h
  · rename_i hk
    exact List.nodup_append.mpr ⟨h, List.pairwise_singleton _ k, fun a ha b hb => by
      rw [List.mem_singleton.mp hb]; rintro rfl; exact hk ha⟩

theorem mkeys_mdel (m : List (α × β)) (k : α) : mkeys (mdel m k) = (mkeys m).filter (fun x => x ≠ k) := by
  rw [mdel_eq_filter, mkeys, mkeys, List.filter_map]
  exact congrArg _ (List.filter_congr fun _ _ => decide_not.symm)

theorem nodup_mkeys_mdel (m : List (α × β)) (k : α) (h : (mkeys m).Nodup) : (mkeys (mdel m k)).Nodup := by
  rw [mkeys_mdel]; exact List.Pairwise.filter _ h

theorem mem_mdel (m : List (α × β)) (k : α) (e : α × β) : e ∈ mdel m k ↔ e ∈ m ∧ e.1 ≠ k := by
  simp [mdel_eq_filter]

theorem mget_map_val (m : List (α × β)) (f : α → β → β) (k : α) :
    mget (m.map (fun e => (e.1, f e.1 e.2))) k = (mget m k).map (f k) := by
  induction m with
  | nil => rfl
  | cons e m ih =>
    simp only [List.map_cons, mget_cons, ih]
    by_cases h : k = e.1
    · subst h; simp
    · simp [h]

omit [DecidableEq α] in
theorem mkeys_map_val (m : List (α × β)) (f : α → β → β) :
    mkeys (m.map (fun e => (e.1, f e.1 e.2))) = mkeys m := by
  simp [mkeys, List.map_map, Function.comp_def]

theorem eq_nil_iff_mget (m : List (α × β)) : m = [] ↔ ∀ k, mget m k = none := by
  cases m with
  | nil => simp
  | cons e m => exact ⟨nofun, fun h => by simpa [mget_cons] using h e.1⟩

theorem filter_mset (m : List (α × β)) (k : α) (v : β) (P : α × β → Bool)
    (h : ∀ v', P (k, v') = false) : (mset m k v).filter P = m.filter P := by
  induction m with
  | nil => simp [mset, h]
  | cons e m ih =>
    unfold mset
    split
    · rename_i he
      rw [List.filter_cons_of_neg (by simp [h]), List.filter_cons_of_neg (by rw [← he] at h; simp [h])]
    · rw [List.filter_cons, List.filter_cons, ih]

end Nsq.Proofs.RegistryMap
