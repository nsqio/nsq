import Nsq.Model.Mpub
import Nsq.Proofs.Wire
import Nsq.Proofs.Lines
/-! `Model.Mpub.readMPUB`, the batch reader the protocol model calls, computes what `Model.Wire.readMPUB`, the reader of the
byte-format model, computes on the same encoding (`readMPUB_eq`, `encode_eq`); that it and the encoding of a batch are
inverse is read off `Proofs.Wire.mpub_sound` and `mpub_roundtrip`. -/
namespace Nsq.Proofs.Mpub
open Nsq.Model Nsq.Model.ProtoV2 Nsq.Model.Mpub
open Nsq.Model.Wire (beBytes beVal lp int32Of mpubLoop mpubBody)

def BodyOk (maxMsg : Int) (b : Bytes) : Prop := 1 ≤ b.length ∧ (b.length : Int) ≤ maxMsg

theorem toUInt8_toNat (b : UInt8) : b.toNat.toUInt8 = b :=
  UInt8.ofNat_toNat

theorem be32_eq (n : Nat) : be32 n = beBytes 4 n := by
  simp [be32, beBytes, Nat.div_div_eq_div_mul]

theorem be32_length (n : Nat) : (be32 n).length = 4 := by rw [be32_eq, Wire.beBytes_length]

theorem readLen_eq (s : Bytes) : ProtoV2.readLen s = Wire.readLen s := by
  match s with
  | b0 :: b1 :: b2 :: b3 :: rest =>
    have : int32OfBE b0 b1 b2 b3 = int32Of (beVal [b0, b1, b2, b3]) := by
      have e : (((0 * 256 + b0.toNat) * 256 + b1.toNat) * 256 + b2.toNat) * 256 + b3.toNat =
          b0.toNat * 16777216 + b1.toNat * 65536 + b2.toNat * 256 + b3.toNat := by omega
      simp only [int32OfBE, int32Of, beVal, List.foldl_cons, List.foldl_nil, e]
      generalize b0.toNat * 16777216 + b1.toNat * 65536 + b2.toNat * 256 + b3.toNat = v
      by_cases hv : v < 2147483648
      · rw [if_neg (by omega), if_pos hv]
      · rw [if_pos (by omega), if_neg hv]
    simp [ProtoV2.readLen, Wire.readLen, this]
  | [] | [_] | [_, _] | [_, _, _] => rfl

def ofWire : Except Wire.MpubErr (List Bytes × Bytes) → Res
  | .ok (bs, r) => .ok bs r
  | .error .badBody => .err .E_BAD_BODY
  | .error .badMessage => .err .E_BAD_MESSAGE

theorem readMsgs_eq (maxMsg : Int) (k : Nat) (bs : Bytes) (acc : List Bytes) :
    readMsgs maxMsg k bs acc = ofWire (mpubLoop maxMsg k bs acc.reverse) := by
  fun_induction readMsgs maxMsg k bs acc
  case case1 => rfl
  -- the four refusals are the same four tests, in the same order, on both sides
  case case2 h => simp [mpubLoop, ← readLen_eq, h, ofWire]
  case case3 h h1 => simp [mpubLoop, ← readLen_eq, h, h1, ofWire]
  case case4 h h1 h2 => simp [mpubLoop, ← readLen_eq, h, h1, h2, ofWire]
  case case5 => omega
  case case6 h h1 h2 _ h4 => simp [mpubLoop, ← readLen_eq, h, h1, h2, h4, ofWire]
  case case7 k bs acc sz r h h1 h2 _ h4 ih =>
    rw [ih, mpubLoop, ← readLen_eq, h]
    simp only [if_neg h1, if_neg h2, if_neg h4, List.reverse_cons]

theorem readMPUB_eq (maxMsg maxBody : Int) (bs : Bytes) :
    readMPUB maxMsg maxBody bs = ofWire (Wire.readMPUB bs maxMsg maxBody) := by
  fun_cases readMPUB maxMsg maxBody bs
  case case1 h => simp [Wire.readMPUB, ← readLen_eq, h, ofWire]
  case case2 n r h h1 => simp [Wire.readMPUB, ← readLen_eq, h, ofWire, show n ≤ 0 ∨ (maxBody - 4).tdiv 5 < n from h1]
  case case3 => omega
  case case4 n r h h1 _ =>
    simp [readMsgs_eq, Wire.readMPUB, ← readLen_eq, h, show ¬(n ≤ 0 ∨ (maxBody - 4).tdiv 5 < n) from h1]

theorem encode_eq (ms : List Bytes) : encode ms = mpubBody ms := by
  have : ∀ l : List Bytes, encodeMsgs l = (l.map lp).flatten := by
    intro l; induction l with
    | nil => rfl
    | cons m ms ih => simp [encodeMsgs, ih, lp, be32_eq]
  rw [encode, mpubBody, this, be32_eq]

theorem ofWire_ok {x : Except Wire.MpubErr (List Bytes × Bytes)} {bodies : List Bytes} {r : Bytes}
    (h : ofWire x = .ok bodies r) : x = .ok (bodies, r) := by
  match x, h with
  | .ok (_, _), rfl => rfl

theorem readLen_be32 (n : Nat) (rest : Bytes) (h : n < 2147483648) :
    readLen (be32 n ++ rest) = some ((n : Int), rest) := by
  rw [readLen_eq, be32_eq, Wire.readLen_beBytes n rest h]

theorem readLen_len (bs : Bytes) (n : Int) (r : Bytes) (h : readLen bs = some (n, r)) :
    bs.length = r.length + 4 := by
  unfold readLen at h
  split at h
  · simp at h; obtain ⟨_, rfl⟩ := h; simp
  · simp at h

/-- The two `make` branches of the model (`.panic`) are dead. -/
theorem readMPUB_cases (maxMsg maxBody : Int) (bs : Bytes) :
    (∃ bodies r, readMPUB maxMsg maxBody bs = .ok bodies r) ∨ readMPUB maxMsg maxBody bs = .err .E_BAD_BODY ∨
      readMPUB maxMsg maxBody bs = .err .E_BAD_MESSAGE := by
  rw [readMPUB_eq]
  match Wire.readMPUB bs maxMsg maxBody with
  | .ok (b, r) => exact .inl ⟨b, r, rfl⟩
  | .error .badBody => exact .inr (.inl rfl)
  | .error .badMessage => exact .inr (.inr rfl)

theorem readMPUB_ne_panic (maxMsg maxBody : Int) (bs : Bytes) : readMPUB maxMsg maxBody bs ≠ .panic := by
  rcases readMPUB_cases maxMsg maxBody bs with ⟨_, _, h⟩ | h | h <;> rw [h] <;> nofun

theorem readMPUB_ok (maxMsg maxBody : Int) (bs : Bytes) (bodies : List Bytes) (r : Bytes)
    (h : readMPUB maxMsg maxBody bs = .ok bodies r) :
    1 ≤ bodies.length ∧ (bodies.length : Int) ≤ maxMessages maxBody ∧ (∀ b ∈ bodies, BodyOk maxMsg b) ∧
      bs = encode bodies ++ r := by
  obtain ⟨hw, hne, hc, hb⟩ := Wire.mpub_sound bs maxMsg maxBody bodies r (ofWire_ok (readMPUB_eq .. ▸ h))
  exact ⟨List.length_pos_iff.mpr hne, hc, hb, encode_eq bodies ▸ hw⟩

/-- Each size must fit the signed 32-bit field; callers get that from `maxMsg < 2^31` or from the length of the whole
encoding. -/
theorem readMPUB_complete (maxMsg maxBody : Int) (ms : List Bytes) (r : Bytes) (h1 : 1 ≤ ms.length)
    (h2 : (ms.length : Int) ≤ maxMessages maxBody) (h31 : ms.length < 2147483648)
    (h : ∀ b ∈ ms, BodyOk maxMsg b ∧ b.length < 2147483648) :
    readMPUB maxMsg maxBody (encode ms ++ r) = .ok ms r := by
  rw [readMPUB_eq, encode_eq, Wire.mpub_roundtrip ms r maxMsg maxBody (List.length_pos_iff.mp h1)
    (fun b hb => ⟨(h b hb).1.1, (h b hb).1.2, (h b hb).2⟩) h2 h31]
  rfl

theorem readMPUB_wire (maxMsg maxBody : Int) (bs : Bytes) (bodies : List Bytes) (r : Bytes)
    (h : readMPUB maxMsg maxBody bs = .ok bodies r) : bs = encode bodies ++ r :=
  (readMPUB_ok maxMsg maxBody bs bodies r h).2.2.2

theorem encode_length (ms : List Bytes) : (encode ms).length = 4 + (ms.map (fun b => b.length + 4)).sum := by
  have : ∀ l : List Bytes, (encodeMsgs l).length = (l.map (fun b => b.length + 4)).sum := by
    intro l
    induction l with
    | nil => rfl
    | cons x xs ih => simp only [encodeMsgs, List.length_append, be32_length, ih, List.map_cons, List.sum_cons]; omega
  rw [encode, List.length_append, be32_length, this]

theorem splitNl_eq (b : Bytes) : splitNl b = Nsq.Model.Split.splitOn 10 b := by
  induction b with
  | nil => rfl
  | cons c cs ih => rw [splitNl, Nsq.Model.Split.splitOn, ih]; rfl

end Nsq.Proofs.Mpub
