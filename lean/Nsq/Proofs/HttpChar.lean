import Nsq.Proofs.HttpApi
/-!
`Documented` (`Proofs.HttpApi`) only says "status ⇒ some cause", with causes so wide that almost every request
satisfies them. Here and in `HttpCharChannel`, `HttpCharPub`, for the topic and channel endpoints, `/pub` and `/stats`,
every (status, message) pair is characterised by the exact condition on the request and the broker under which it is
produced, the list of pairs is exhaustive, and the broker after a 200 is given as an explicit expression.
(Text `/mpub` under a valid topic: `Proofs.HttpTextDiv`; binary `/mpub`, `/config`, `/ping`, `/info`: not characterised.)
-/
namespace Nsq.Proofs.HttpChar
open Nsq.Model.HttpApi Nsq.Model.ProtoV2 Nsq.Model.Names Nsq.Model.Base10 Nsq.Model
open Nsq.Proofs.HttpApi

/-- `url.ParseQuery(req.URL.RawQuery)` returns an error. -/
def QueryBad (rq : Request) : Prop := parseQuery rq.rawQuery = none

instance (rq : Request) : Decidable (QueryBad rq) := by unfold QueryBad; infer_instance

/-- `values[k][0]` of the parsed query; `none`: the query does not parse, or has no key `k`. -/
def arg (rq : Request) (k : Bytes) : Option Bytes :=
  match parseQuery rq.rawQuery with
  | none => none
  | some kv => qget kv k

theorem query_cases (rq : Request) :
    (parseQuery rq.rawQuery = none ∧ QueryBad rq ∧ ∀ k, arg rq k = none) ∨
    ∃ kv, parseQuery rq.rawQuery = some kv ∧ ¬ QueryBad rq ∧ ∀ k, qget kv k = arg rq k := by
  unfold QueryBad arg
  cases parseQuery rq.rawQuery with
  | none => exact .inl ⟨rfl, rfl, fun _ => rfl⟩
  | some kv => exact .inr ⟨kv, rfl, nofun, fun _ => rfl⟩

/-- `validate`: the handler checks the name (`/topic/create` and `/topic/empty` do, `/topic/delete` and
`/topic/(un)pause` look the raw name up); `mustExist`: an unknown topic is 404 (all but create); `act t`: the broker
after a 200 on topic `t`. -/
structure TopicEndpoint (validate mustExist : Bool) (act : Bytes → Broker) (b : Broker) (rq : Request)
    (r : Out) : Prop where
  invalidRequest : r.1 = ⟨.s400, "INVALID_REQUEST"⟩ ↔ QueryBad rq
  missingTopic : r.1 = ⟨.s400, "MISSING_ARG_TOPIC"⟩ ↔ ¬ QueryBad rq ∧ arg rq kTopic = none
  invalidTopic : r.1 = ⟨.s400, "INVALID_TOPIC"⟩ ↔
    ∃ t, arg rq kTopic = some t ∧ validate = true ∧ isValidName t = false
  notFound : r.1 = ⟨.s404, "TOPIC_NOT_FOUND"⟩ ↔
    ∃ t, arg rq kTopic = some t ∧ (validate = true → isValidName t = true) ∧ mustExist = true ∧ hasTopic b t = false
  ok : r.1 = ⟨.s200, ""⟩ ↔
    ∃ t, arg rq kTopic = some t ∧ (validate = true → isValidName t = true) ∧ (mustExist = true → hasTopic b t = true)
  status200 : r.1.status = .s200 ↔
    ∃ t, arg rq kTopic = some t ∧ (validate = true → isValidName t = true) ∧ (mustExist = true → hasTopic b t = true)
  status400 : r.1.status = .s400 ↔
    QueryBad rq ∨ arg rq kTopic = none ∨ ∃ t, arg rq kTopic = some t ∧ validate = true ∧ isValidName t = false
  status404 : r.1.status = .s404 ↔
    ∃ t, arg rq kTopic = some t ∧ (validate = true → isValidName t = true) ∧ mustExist = true ∧ hasTopic b t = false
  effect : ∀ t, arg rq kTopic = some t → (validate = true → isValidName t = true) →
    (mustExist = true → hasTopic b t = true) → r = (⟨.s200, ""⟩, act t)
  unchanged : r.1.status ≠ .s200 → r.2 = b
  exhaustive : r.1 ∈ [⟨.s400, "INVALID_REQUEST"⟩, ⟨.s400, "MISSING_ARG_TOPIC"⟩, ⟨.s400, "INVALID_TOPIC"⟩,
    ⟨.s404, "TOPIC_NOT_FOUND"⟩, ⟨.s200, ""⟩]

/-- The common shape of the five topic handlers: each is an instance of it by unfolding (`/topic/create` after the
cases of `topicFromQuery`). -/
def topicShape (validate mustExist : Bool) (act : Bytes → Broker) (b : Broker) (rq : Request) : Out :=
  match parseQuery rq.rawQuery with
  | none => resp .s400 "INVALID_REQUEST" b
  | some kv =>
    match qget kv kTopic with
    | none => resp .s400 "MISSING_ARG_TOPIC" b
    | some t =>
      if validate && !isValidName t then resp .s400 "INVALID_TOPIC" b
      else if mustExist && !hasTopic b t then resp .s404 "TOPIC_NOT_FOUND" b
      else resp .s200 "" (act t)

/- In this proof and in `channelShape_char`, `doPUB_char`: the guards are walked in order; in each leaf the answer
is a concrete pair and every guard is decided, so each field is an equivalence of two decided sides. -/
theorem topicShape_char (validate mustExist : Bool) (act : Bytes → Broker) (b : Broker) (rq : Request) :
    TopicEndpoint validate mustExist act b rq (topicShape validate mustExist act b rq) := by
  unfold topicShape
  rcases query_cases rq with ⟨hq', hq, ha⟩ | ⟨kv, hkv, hq, ha⟩
  · simp only [hq']
    constructor <;> simp [hq, ha, resp]
  · simp only [hkv, ha]
    cases ht : arg rq kTopic with
    | none => constructor <;> simp [hq, ht, resp]
    | some t =>
      dsimp only
      by_cases h1 : validate = true ∧ isValidName t = false
      · constructor <;> simp [hq, ht, h1, resp]
      · have h1' : validate = true → isValidName t = true := by simpa using h1
        by_cases h2 : mustExist = true ∧ hasTopic b t = false
        · constructor <;> simp [hq, ht, h1, eq_true h1', h2, resp]
        · have h2' : mustExist = true → hasTopic b t = true := by simpa using h2
          constructor <;> simp [hq, ht, h1, eq_true h1', h2, eq_true h2', resp]

theorem doCreateTopic_char (b : Broker) (rq : Request) :
    TopicEndpoint true false (fun t => getTopic b t) b rq (doCreateTopic b rq) := by
  have e : doCreateTopic b rq = topicShape true false (fun t => getTopic b t) b rq := by
    unfold doCreateTopic topicFromQuery topicShape
    cases hq : parseQuery rq.rawQuery with
    | none => rfl
    | some kv =>
      cases ht : qget kv kTopic with
      | none => simp [ht, resp]
      | some t => cases hv : isValidName t <;> simp [ht, hv, resp]
  exact e ▸ topicShape_char ..

theorem doEmptyTopic_char (b : Broker) (rq : Request) :
    TopicEndpoint true true (fun t => modifyTopic b t (fun x => { x with msgs := [] })) b rq (doEmptyTopic b rq) :=
  topicShape_char ..

theorem doDeleteTopic_char (b : Broker) (rq : Request) :
    TopicEndpoint false true (fun t => deleteTopic b t) b rq (doDeleteTopic b rq) :=
  topicShape_char ..

theorem doPauseTopic_char (b : Broker) (rq : Request) {p : Bool} (hp : (!isUnpause rq.path) = p) :
    TopicEndpoint false true (fun t => modifyTopic b t (fun x => settle { x with paused := p })) b rq (doPauseTopic b rq) :=
  hp ▸ topicShape_char ..

def At (rq : Request) (m p : String) : Prop := rq.method = ascii m ∧ rq.path = ascii p

theorem handle_at (hc : HConf) (healthy : Bool) (b : Broker) (rq : Request) (m p : String) (h : Handler)
    (htls : hc.tlsRefuse = false) (hat : At rq m p) (hr : route (ascii m) (ascii p) = .handler h) :
    handle hc healthy b rq = runHandler hc healthy b rq h := by
  obtain ⟨_, _, q, cl, body⟩ := rq
  obtain ⟨rfl, rfl⟩ := hat
  exact handle_of_route htls hr

theorem doStats_char (b : Broker) (rq : Request) :
    (doStats b rq = (⟨.s400, "INVALID_REQUEST"⟩, b) ↔ QueryBad rq) ∧
    (doStats b rq = (⟨.s200, "*"⟩, b) ↔ ¬ QueryBad rq) := by
  unfold doStats QueryBad
  cases hq : parseQuery rq.rawQuery <;> simp [resp]

end Nsq.Proofs.HttpChar
