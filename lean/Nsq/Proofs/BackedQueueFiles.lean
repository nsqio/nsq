import Nsq.Proofs.BackedQueue
import Nsq.Proofs.DiskQueueFiles
/-! Histories that never get a `.bad` file: as long as no backend `Put` rolls the writer (`NoRoll`) the reader
stays in the write file.  First the vocabulary `Props.C08DQ` states file sets in (`DFile`, `onDisk`, `NoBad`). -/
namespace Nsq.Proofs.BackedQueue
open Nsq.Model Nsq.Model.Wire
open Nsq.Model.BackedQueue (BQ PutOut Op Run stepRun fresh run openBQ flushInto)
open Nsq.Model.DiskQueue (St Cfg FS PutRes openQ)
open Nsq.Proofs.DiskQueue

/-- the files go-diskqueue keeps for one queue `name`: `name.diskqueue.%06d.dat`,
`name.diskqueue.%06d.dat.bad`, `name.diskqueue.meta.dat` -/
inductive DFile
  | dat (i : Nat)
  | bad (i : Nat)
  | metadata
deriving DecidableEq, Repr

def onDisk (fs : FS) : DFile → Prop
  | .dat i => fs.dat i ≠ none
  | .bad i => fs.bad i ≠ none
  | .metadata => fs.md ≠ none

def NoBad (fs : FS) : Prop := ∀ i, fs.bad i = none

theorem fs_ext {a b : FS} (hd : ∀ i, a.dat i = b.dat i) (hb : a.bad = b.bad) (hm : a.md = b.md) : a = b := by
  cases a
  cases b
  simp only [FS.mk.injEq]
  exact ⟨funext hd, hb, hm⟩

def flushNoRoll : St → List Bytes → Prop
  | _, [] => True
  | d, b :: rest => DiskQueue.needRoll d b = false ∧ flushNoRoll (DiskQueue.put d b).2 rest

/-- no backend `Put` of the history rolls the writer to a new data file (the records queued on disk since the
channel was created / last emptied fit into ONE file of `--max-bytes-per-file`, 100 MB by default) -/
def NoRoll (cfg : Cfg) : Run → List Op → Prop
  | _, [] => True
  | r, .put b :: ops =>
    (r.q.mem.length < r.q.memCap ∨ DiskQueue.needRoll r.q.dq b = false) ∧ NoRoll cfg (stepRun cfg r (.put b)) ops
  | r, .restart :: ops => flushNoRoll r.q.dq r.q.mem ∧ NoRoll cfg (stepRun cfg r .restart) ops
  | r, o :: ops => NoRoll cfg (stepRun cfg r o) ops

theorem NoRoll.tail {cfg : Cfg} {r : Run} {o : Op} {ops : List Op} (hn : NoRoll cfg r (o :: ops)) :
    NoRoll cfg (stepRun cfg r o) ops := by
  cases o with
  | put b => exact hn.2
  | restart => exact hn.2
  | takeMem => exact hn
  | takeDisk => exact hn
  | empty => exact hn

theorem flushInto_single (l : List Bytes) : ∀ (d : St) (disk : List Bytes), Q d disk → d.rf = d.wf → flushNoRoll d l →
    (flushInto d l).1.rf = (flushInto d l).1.wf ∧ (flushInto d l).1.fs.bad = d.fs.bad := by
  induction l with
  | nil => intro d disk _ he _; exact ⟨he, rfl⟩
  | cons b l ih =>
    intro d disk h he hn
    obtain ⟨p1, p2⟩ := put_single h b he hn.1
    have hq : ∃ disk', Q (DiskQueue.put d b).2 disk' := by
      by_cases hv : ValidRec d.cfg b
      · exact ⟨_, (put_ok_Q h b hv).2⟩
      · exact ⟨_, (put_invalid_Q h b hv).2⟩
    obtain ⟨disk', hq'⟩ := hq
    obtain ⟨i1, i2⟩ := ih _ disk' hq' p1 hn.2
    unfold flushInto
    split
    · exact ⟨i1, i2.trans p2⟩
    · exact ⟨i1, i2.trans p2⟩

theorem single_file_step {cfg : Cfg} {memCap : Nat} {r r' : Run} {disk disk' gone : List Bytes}
    {o : Op} (hs : StepR cfg r disk o r' disk') (h : Ledger cfg memCap r disk gone) (he : r.q.dq.rf = r.q.dq.wf)
    (ops : List Op) (hn : NoRoll cfg r (o :: ops)) :
    r'.q.dq.rf = r'.q.dq.wf ∧ r'.q.dq.fs.bad = r.q.dq.fs.bad := by
  cases hs with
  | putMem b hm => exact ⟨he, rfl⟩
  | putDisk b hm hv => exact put_single h.inv b he (hn.1.resolve_left hm)
  | putRefused b hm hv => exact put_single h.inv b he (hn.1.resolve_left hm)
  | takeMemNil hm => exact ⟨he, rfl⟩
  | takeMemCons b rest hm => exact ⟨he, rfl⟩
  | takeDiskNil hd ht => exact ⟨he, rfl⟩
  | takeDiskCons d rest hd ht => exact recv_single h.inv he
  | restart =>
    obtain ⟨f1, _, f3⟩ := flushInto_spec r.q.mem r.q.dq disk h.inv
    obtain ⟨s1, s2⟩ := flushInto_single r.q.mem r.q.dq disk h.inv he hn.1
    obtain ⟨x1, x2, x3⟩ := reopen_frame f1 cfg h.cfgOk (by rw [f3, h.cfg]) (by rw [f3, h.cfg])
    exact ⟨x2.trans (s1.trans x3.symm), x1.trans s2⟩
  | empty => exact empty_single h.inv

theorem single_file_foldl (cfg : Cfg) (memCap : Nat) (ops : List Op) (r : Run) (disk gone : List Bytes)
    (h : Ledger cfg memCap r disk gone) (he : r.q.dq.rf = r.q.dq.wf) (hn : NoRoll cfg r ops) :
    ∃ disk' gone', Ledger cfg memCap (ops.foldl (stepRun cfg) r) disk' gone' ∧
      (ops.foldl (stepRun cfg) r).q.dq.fs.bad = r.q.dq.fs.bad ∧
      (ops.foldl (stepRun cfg) r).q.dq.rf = (ops.foldl (stepRun cfg) r).q.dq.wf := by
  induction ops generalizing r disk gone with
  | nil => exact ⟨disk, gone, h, rfl, he⟩
  | cons o ops ih =>
    obtain ⟨x1, x2⟩ := single_file_step (stepRun_inv h o).1 h he ops hn
    obtain ⟨d, g, hl, e1, e2⟩ := ih _ _ _ (ledger_step h o) x1 hn.tail
    exact ⟨d, g, hl, e1.trans x2, e2⟩

end Nsq.Proofs.BackedQueue
