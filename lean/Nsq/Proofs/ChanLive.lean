/-
Liveness toolkit for the channel model: the location of one message id moves along a small graph under ANY step (`step_move`,
no invariant needed); a queue scan at or after the deadline releases a located message (`Scan`, for both scans); two
"unless + fairness ⇒ leads-to" lemmas (`leadsto` for weak, `leadsto_fair` for strong fairness); and the liveness argument over a
trace of locations (`trace_eventually_delivered`).  `Exec` is the infinite schedule that `Props/C01Live` instantiates the trace with.
-/
import Nsq.Proofs.ChanStep
namespace Nsq.Proofs.ChanLive
open Nsq.Model.Chan Nsq.Proofs.Chan

/-- where message `id` is on the channel (`none` = the channel does not own it) -/
def locOf (c : Chan) (id : Nat) : Option Loc := (findE c.msgs id).map (·.loc)

theorem locOf_removeE {c c' : Chan} {x : Nat} (hm : c'.msgs = removeE c.msgs x) (id : Nat) :
    locOf c' id = if x = id then none else locOf c id := by
  unfold locOf
  rw [hm]
  by_cases h : x = id
  · subst h; rw [findE_removeE_eq, if_pos rfl]; rfl
  · rw [findE_removeE_ne h, if_neg h]

theorem locOf_enqueue (c : Chan) (x id : Nat) :
    locOf (enqueue c x) id = locOf c id ∨ (x = id ∧ locOf (enqueue c x) id = none) := by
  rcases enqueue_cases c x with ⟨_, h⟩ | ⟨_, _, h⟩ | ⟨_, _, h⟩ <;> rw [h]
  · exact .inl rfl
  · rw [locOf_removeE (c := c) rfl]
    split
    · exact .inr ⟨‹_›, rfl⟩
    · exact .inl rfl
  · exact .inl rfl

theorem locOf_setE {c c' : Chan} {e : Entry} (he : findE c.msgs e.id = some e) {a : Nat} {loc : Loc}
    (hm : c'.msgs = setE c.msgs e.id a loc) (id : Nat) :
    locOf c' id = if e.id = id then some loc else locOf c id := by
  unfold locOf
  rw [hm]
  by_cases h : e.id = id
  · subst h; rw [findE_setE_eq he, if_pos rfl]; rfl
  · rw [findE_setE_ne h, if_neg h]

theorem locOf_of_findE {c : Chan} {e : Entry} (he : findE c.msgs e.id = some e) : locOf c e.id = some e.loc := by
  unfold locOf; rw [he]; rfl

theorem locOf_of_msgs_nil {c : Chan} (h : c.msgs = []) (id : Nat) : locOf c id = none := by
  simp only [locOf, findE, h, List.find?_nil, Option.map_none]

/-! ### the transition graph of one message's location -/

/-- the moves a message can make in one step: `none → queued | deferred` (fan-out),
`queued → in flight | none` (delivery; sampling / Empty / overflow of an ephemeral queue),
`in flight → anything` (FIN, REQ, timeout, TOUCH, Empty), `deferred → queued | none`. -/
def trans : Option Loc → Option Loc → Bool
  | none, some .queued => true
  | none, some (.deferred _) => true
  | some .queued, some (.inflight ..) => true
  | some .queued, none => true
  | some (.inflight ..), _ => true
  | some (.deferred _), some .queued => true
  | some (.deferred _), none => true
  | _, _ => false

/-- `D` guards the edge `queued → in flight` (instantiated below with "a delivery event for this id was recorded") -/
def Move (D : Prop) (a b : Option Loc) : Prop :=
  b = a ∨ (trans a b = true ∧ (a = some .queued → b ≠ none → D))

theorem Move.mono {D D' : Prop} {a b : Option Loc} (f : D → D') (h : Move D a b) : Move D' a b := by
  rcases h with h | ⟨h1, h2⟩
  · exact Or.inl h
  · exact Or.inr ⟨h1, fun x y => f (h2 x y)⟩

theorem Move.of_queued {D : Prop} {b : Option Loc} (h : Move D (some .queued) b) : b = some .queued ∨ (D ∨ b = none) := by
  rcases h with h | ⟨_, h⟩
  · exact .inl h
  · by_cases hg : b = none
    · exact .inr (.inr hg)
    · exact .inr (.inl (h rfl hg))

theorem Move.of_deferred {D : Prop} {p : Int} {b : Option Loc} (h : Move D (some (.deferred p)) b) :
    b = some (.deferred p) ∨ (b = some .queued ∨ b = none) := by
  rcases h with h | ⟨h, _⟩
  · exact .inl h
  · right
    cases b with
    | none => exact .inr rfl
    | some l => cases l <;> first | exact .inl rfl | cases h

/-- One pass `f c x` of a queue scan over the message `x`, releasing the locations `S`: a released message is queued again
or dropped (full queue of an `#ephemeral` channel).  `edge`: both outcomes are edges of the graph — so `S` holds neither
of `queued` nor of a message that is gone, and a released message is not released a second time. -/
structure Scan (S : Option Loc → Prop) (f : Chan → Nat → Chan) : Prop where
  ne : ∀ (c : Chan) {x id : Nat}, x ≠ id → locOf (f c x) id = locOf c id
  eq : ∀ (c : Chan) (id : Nat),
    (S (locOf c id) ∧ (locOf (f c id) id = some .queued ∨ locOf (f c id) id = none)) ∨ (¬ S (locOf c id) ∧ f c id = c)
  edge : ∀ a, S a → trans a (some .queued) = true ∧ trans a none = true

theorem Scan.of_pass {S : Option Loc → Prop} {f : Chan → Nat → Chan}
    (edge : ∀ a, S a → trans a (some .queued) = true ∧ trans a none = true)
    (pass : ∀ c id, (¬ S (locOf c id) ∧ f c id = c) ∨
      (S (locOf c id) ∧ ∃ e c1, findE c.msgs e.id = some e ∧ id = e.id ∧ c1.msgs = setE c.msgs e.id e.att .queued ∧
        f c id = enqueue c1 e.id)) : Scan S f where
  ne c x id hne := by
    rcases pass c x with ⟨_, h⟩ | ⟨_, e, c1, he, rfl, hm, h⟩ <;> rw [h]
    rw [(locOf_enqueue c1 e.id id).resolve_right fun h => hne h.1, locOf_setE he hm, if_neg hne]
  eq c id := by
    rcases pass c id with h | ⟨hS, e, c1, he, rfl, hm, h⟩
    · exact .inr h
    · rw [h]
      exact .inl ⟨hS, (locOf_enqueue c1 e.id e.id).imp (·.trans (by rw [locOf_setE he hm, if_pos rfl])) (·.2)⟩
  edge := edge

theorem timeoutOne_scan : Scan (fun a => ∃ k p d, a = some (.inflight k p d)) timeoutOne :=
  Scan.of_pass (fun _ ⟨_, _, _, h⟩ => h ▸ ⟨rfl, rfl⟩) (fun c id => by
    rcases timeoutOne_cases c id with ⟨hn, h⟩ | ⟨e, k, p, d, he, rfl, hl, h⟩
    · refine .inl ⟨fun ⟨k, p, d, hl⟩ => ?_, h⟩
      obtain ⟨e, he, hl'⟩ := Option.map_eq_some_iff.1 hl
      exact hn e he k p d hl'
    · exact .inr ⟨⟨k, p, d, by rw [locOf_of_findE he, hl]⟩, e, _, he, rfl, rfl, h⟩)

theorem deferDueOne_scan : Scan (fun a => ∃ p, a = some (.deferred p)) deferDueOne :=
  Scan.of_pass (fun _ ⟨_, h⟩ => h ▸ ⟨rfl, rfl⟩) (fun c id => by
    rcases deferDueOne_cases c id with ⟨hn, h⟩ | ⟨e, p, he, rfl, hl, h⟩
    · refine .inl ⟨fun ⟨p, hl⟩ => ?_, h⟩
      obtain ⟨e, he, hl'⟩ := Option.map_eq_some_iff.1 hl
      exact hn e he p hl'
    · exact .inr ⟨⟨p, by rw [locOf_of_findE he, hl]⟩, e, _, he, rfl, rfl, h⟩)

def Rel (S : Option Loc → Prop) (a b : Option Loc) : Prop :=
  b = a ∨ (S a ∧ (b = some .queued ∨ b = none))

namespace Scan
variable {S : Option Loc → Prop} {f : Chan → Nat → Chan} (h : Scan S f)
include h

theorem not_released {b : Option Loc} (hb : b = some .queued ∨ b = none) : ¬ S b := by
  intro hS
  rcases hb with rfl | rfl
  · exact absurd (h.edge _ hS).1 (by decide)
  · exact absurd (h.edge _ hS).2 (by decide)

theorem rel (c : Chan) (x id : Nat) : Rel S (locOf c id) (locOf (f c x) id) := by
  by_cases hx : x = id
  · subst hx
    rcases h.eq c x with ⟨h1, h2⟩ | ⟨_, h2⟩
    · exact Or.inr ⟨h1, h2⟩
    · left; rw [h2]
  · left; exact h.ne c hx

theorem rel_trans {a b c : Option Loc} (h1 : Rel S a b) (h2 : Rel S b c) : Rel S a c := by
  rcases h1 with rfl | ⟨ha, hb⟩
  · exact h2
  · rcases h2 with rfl | ⟨hb', _⟩
    · exact Or.inr ⟨ha, hb⟩
    · exact absurd hb' (h.not_released hb)

theorem foldl_rel (l : List Nat) (c : Chan) (id : Nat) : Rel S (locOf c id) (locOf (l.foldl f c) id) :=
  Proofs.Chan.foldl_rel (R := fun a b => Rel S (locOf a id) (locOf b id)) (fun _ => .inl rfl) h.rel_trans
    (fun c x => h.rel c x id) l c

theorem foldl_releases (l : List Nat) (c : Chan) (id : Nat) (hm : id ∈ l) (hl : S (locOf c id)) :
    locOf (l.foldl f c) id = some .queued ∨ locOf (l.foldl f c) id = none := by
  induction l generalizing c with
  | nil => cases hm
  | cons x l ih =>
    simp only [List.foldl_cons]
    by_cases hx : x = id
    · subst hx
      rcases h.eq c x with ⟨_, h2⟩ | ⟨h1, _⟩
      · rcases h.foldl_rel l (f c x) x with h3 | ⟨h3, _⟩
        · rw [h3]; exact h2
        · exact absurd h3 (h.not_released h2)
      · exact absurd hl h1
    · have hm' : id ∈ l := by
        rcases List.mem_cons.1 hm with h' | h'
        · exact absurd h'.symm hx
        · exact h'
      exact ih (f c x) hm' (by rw [h.ne c hx]; exact hl)

theorem move {D : Prop} {a b : Option Loc} (hr : Rel S a b) : Move D a b := by
  rcases hr with hr | ⟨ha, hb⟩
  · exact Or.inl hr
  · refine Or.inr ⟨?_, fun hq => absurd (hq ▸ ha) (h.not_released (Or.inl rfl))⟩
    rcases hb with rfl | rfl
    · exact (h.edge a ha).1
    · exact (h.edge a ha).2

end Scan

/-! ### every step moves the location of every message along the graph

A step changes the list of messages in one of five ways — a new entry in front (`move_cons`), a new tag for one entry (`move_setE`),
one entry removed (`move_removeE`), `Channel.put` afterwards (`move_enqueue`), a scan (`Scan.move`) — or empties it; `eff_move`
says which, branch by branch. -/

theorem move_none {D : Prop} (a : Option Loc) : Move D a none := by
  cases a with
  | none => exact Or.inl rfl
  | some l => right; exact ⟨by cases l <;> rfl, fun _ h => absurd rfl h⟩

theorem move_cons {D : Prop} {c c' : Chan} {e : Entry} (hn : hasId c.msgs e.id = false) (hm : c'.msgs = e :: c.msgs)
    (ht : trans none (some e.loc) = true) (id : Nat) : Move D (locOf c id) (locOf c' id) := by
  unfold locOf
  rw [hm]
  by_cases h : e.id = id
  · subst h
    rw [findE_none_of_hasId hn]
    exact Or.inr ⟨by simpa [findE] using ht, nofun⟩
  · rw [findE_cons_ne h]; exact Or.inl rfl

/-- `hD`: the one edge that needs `D` -/
theorem move_setE {D : Prop} {c c' : Chan} {e : Entry} (he : findE c.msgs e.id = some e) {a : Nat} {loc : Loc} {id : Nat}
    (hm : c'.msgs = setE c.msgs e.id a loc) (ht : trans (some e.loc) (some loc) = true) (hD : e.id = id → e.loc = .queued → D) :
    Move D (locOf c id) (locOf c' id) := by
  rw [locOf_setE he hm]
  by_cases h : e.id = id
  · rw [if_pos h, ← h, locOf_of_findE he]
    exact Or.inr ⟨ht, fun hq _ => hD h (Option.some.inj hq)⟩
  · rw [if_neg h]; exact Or.inl rfl

theorem move_removeE {D : Prop} {c c' : Chan} {x : Nat} (hm : c'.msgs = removeE c.msgs x) (id : Nat) :
    Move D (locOf c id) (locOf c' id) := by
  rw [locOf_removeE hm]
  by_cases h : x = id
  · rw [if_pos h]; exact move_none _
  · rw [if_neg h]; exact Or.inl rfl

theorem move_enqueue {D : Prop} {a : Option Loc} {c : Chan} {id : Nat} (x : Nat) (h : Move D a (locOf c id)) :
    Move D a (locOf (enqueue c x) id) := by
  rcases locOf_enqueue c x id with h' | ⟨_, h'⟩ <;> rw [h']
  · exact h
  · exact move_none a

theorem eff_move {conf : Conf} {c c' : Chan} {op : Op} {o : Out} (he : Eff conf c op c' o) (id : Nat) :
    Move (∃ k att, c'.hist = Ev.deliver k id att :: c.hist) (locOf c id) (locOf c' id) := by
  cases he with
  | put x env hf hn => exact move_enqueue x (move_cons (e := ⟨x, 0, .queued, env⟩) hn rfl rfl id)
  | putDeferred x pri env hf hn => exact move_cons (e := ⟨x, 0, .deferred pri, env⟩) hn rfl rfl id
  | deliver k now cl e hc _ hf hq | deliverArmed k now cl e hc _ hf hq =>
    exact move_setE hf rfl (by rw [hq]; rfl) fun h _ => ⟨k, _, by rw [← h]; rfl⟩
  | sampleDrop | fin | finChan => exact move_removeE rfl id
  | reqNow k now e p d hc hf hl => exact move_enqueue e.id (move_setE hf rfl (by rw [hl]; rfl) (by rw [hl]; nofun))
  | reqLater k delay now e p d hc hf hl hd => exact move_setE hf rfl (by rw [hl]; rfl) (by rw [hl]; nofun)
  | touch k now cl e p d hc hf hl => exact move_setE hf rfl (by rw [hl]; rfl) (by rw [hl]; nofun)
  | scanInFlight t => exact timeoutOne_scan.move (timeoutOne_scan.foldl_rel _ c id)
  | scanDeferred t => exact deferDueOne_scan.move (deferDueOne_scan.foldl_rel _ c id)
  | empty => exact move_none _
  | _ => exact Or.inl rfl

theorem step_move (conf : Conf) (c : Chan) (op : Op) (id : Nat) :
    Move (∃ k att, (step conf c op).1.hist = Ev.deliver k id att :: c.hist)
      (locOf c id) (locOf (step conf c op).1 id) :=
  step_keeps (P := fun c' => Move (∃ k att, c'.hist = Ev.deliver k id att :: c.hist) (locOf c id) (locOf c' id))
    (Or.inl rfl) (fun he => eff_move he id)

theorem mem_due {c : Chan} {e : Entry} (he : e ∈ c.msgs) {q : Entry → Bool} (hq : q e = true) :
    e.id ∈ (sortByPri (c.msgs.filter q)).map (·.id) :=
  List.mem_map.2 ⟨e, mem_sortByPri.2 (List.mem_filter.2 ⟨he, hq⟩), rfl⟩

theorem due_of_locOf {c : Chan} {id : Nat} {l : Loc} (hl : locOf c id = some l) (q : Entry → Bool)
    (hq : ∀ e, e.loc = l → q e = true) : id ∈ (sortByPri (c.msgs.filter q)).map (·.id) := by
  obtain ⟨e, hf, hl'⟩ := Option.map_eq_some_iff.1 hl
  obtain ⟨he, rfl⟩ := findE_some hf
  exact mem_due he (hq e hl')

theorem scanInFlight_releases_due (conf : Conf) {c : Chan} {id k : Nat} {p d t : Int}
    (hl : locOf c id = some (.inflight k p d)) (hp : p ≤ t) :
    locOf (step conf c (.scanInFlight t)).1 id = some .queued ∨ locOf (step conf c (.scanInFlight t)).1 id = none :=
  timeoutOne_scan.foldl_releases _ _ _ (due_of_locOf hl _ fun e he => by simp [isInflight, priOf, he, hp]) ⟨k, p, d, hl⟩

theorem scanDeferred_releases_due (conf : Conf) {c : Chan} {id : Nat} {p t : Int}
    (hl : locOf c id = some (.deferred p)) (hp : p ≤ t) :
    locOf (step conf c (.scanDeferred t)).1 id = some .queued ∨ locOf (step conf c (.scanDeferred t)).1 id = none :=
  deferDueOne_scan.foldl_releases _ _ _ (due_of_locOf hl _ fun e he => by simp [isDeferred, priOf, he, hp]) ⟨p, hl⟩

/-! ### infinite schedules and the leads-to lemma -/

/-- an infinite run of the channel model: any operation at any time (rejected observations
stutter) -/
structure Exec (conf : Conf) where
  ops  : Nat → Op
  st   : Nat → Chan
  next : ∀ n, st (n + 1) = (step conf (st n) (ops n)).1

/-- `P unless Q` along the indices, plus "infinitely often `P` fails or the step towards `Q` is
taken" (weak fairness of the step class that `P` enables) gives `P leads-to Q`. -/
theorem leadsto {P Q : Nat → Prop} (hun : ∀ m, P m → P (m + 1) ∨ Q (m + 1))
    (hfair : ∀ n, ∃ m, n ≤ m ∧ (¬ P m ∨ Q (m + 1))) {n : Nat} (hp : P n) : ∃ m, n < m ∧ Q m := by
  obtain ⟨m, hnm, hm⟩ := hfair n
  have key : ∀ d, P (n + d) ∨ ∃ j, n < j ∧ j ≤ n + d ∧ Q j := by
    intro d
    induction d with
    | zero => exact Or.inl hp
    | succ d ih =>
      rcases ih with h | ⟨j, h1, h2, h3⟩
      · rcases hun _ h with h' | h'
        · exact Or.inl h'
        · exact Or.inr ⟨n + d + 1, by omega, by omega, h'⟩
      · exact Or.inr ⟨j, h1, by omega, h3⟩
  obtain ⟨d, rfl⟩ : ∃ d, m = n + d := ⟨m - n, by omega⟩
  rcases key d with h | ⟨j, h1, _, h3⟩
  · rcases hm with hm | hm
    · exact absurd h hm
    · exact ⟨n + d + 1, by omega, hm⟩
  · exact ⟨j, h1, h3⟩

/-- `P` unless the step `Q`, strong fairness of "`P` is left" with respect to "`P` while `R`", and `R` infinitely often give `P` leads to a
step `Q`: were `P` to hold for ever it would hold infinitely often together with `R`, and be left. -/
theorem leadsto_fair {P Q R : Nat → Prop} (hun : ∀ m, P m → P (m + 1) ∨ Q m)
    (hT : (∀ n, ∃ m, n ≤ m ∧ P m ∧ R m) → ∀ n, ∃ m, n ≤ m ∧ P m ∧ ¬ P (m + 1))
    (hR : ∀ n, ∃ m, n ≤ m ∧ R m) {n : Nat} (hp : P n) : ∃ m, n ≤ m ∧ Q m := by
  suffices ∃ m', n < m' ∧ ∃ m, m + 1 = m' ∧ Q m by
    obtain ⟨_, hm', m, rfl, hq⟩ := this
    exact ⟨m, by omega, hq⟩
  refine leadsto (fun m h => (hun m h).imp_right fun h => ⟨m, rfl, h⟩) (fun n' => ?_) hp
  by_cases hex : ∃ m, n' ≤ m ∧ ¬ P m
  · obtain ⟨m, hm, hq⟩ := hex
    exact ⟨m, hm, Or.inl hq⟩
  · exfalso
    have hall : ∀ m, n' ≤ m → P m := fun m hm => Classical.byContradiction fun hq => hex ⟨m, hm, hq⟩
    have hen : ∀ n2, ∃ m, n2 ≤ m ∧ P m ∧ R m := by
      intro n2
      obtain ⟨m, hm, hr⟩ := hR (max n2 n')
      exact ⟨m, by omega, hall m (by omega), hr⟩
    obtain ⟨m, hm, _, hq2⟩ := hT hen n'
    exact hq2 (hall (m + 1) (by omega))

section Trace
variable {loc : Nat → Option Loc} {D R SI SD : Nat → Prop}

/-- The liveness argument, for any trace of locations that moves along `trans` (deliveries marked by `D`):
weak fairness of the steps `SI`, `SD` that release an in-flight / a deferred message, strong fairness of "taken off the
queue" w.r.t. "queued while `R`" and `R` infinitely often give: located at `n` ⇒ delivered at some
`j ≥ n`, or not located at `j + 1`.  Instantiated with the location on one channel
(`Nsq.Props.C01Live.eventually_delivered`) and on a channel of the daemon (`Nsq.Props.C01Topic`). -/
theorem trace_eventually_delivered
    (hmove : ∀ n, Move (D n) (loc n) (loc (n + 1)))
    (hI : ∀ n, ∃ m, n ≤ m ∧ ((¬ ∃ k p d, loc m = some (.inflight k p d)) ∨ SI m))
    (hSI : ∀ m, SI m → loc (m + 1) = some .queued ∨ loc (m + 1) = none)
    (hD : ∀ n, ∃ m, n ≤ m ∧ ((¬ ∃ p, loc m = some (.deferred p)) ∨ SD m))
    (hSD : ∀ m, SD m → loc (m + 1) = some .queued ∨ loc (m + 1) = none)
    (hT : (∀ n, ∃ m, n ≤ m ∧ loc m = some .queued ∧ R m) → ∀ n, ∃ m, n ≤ m ∧ loc m = some .queued ∧ loc (m + 1) ≠ some .queued)
    (hR : ∀ n, ∃ m, n ≤ m ∧ R m)
    {n : Nat} (h : loc n ≠ none) : ∃ j, n ≤ j ∧ (D j ∨ loc (j + 1) = none) := by
  have fromQ : ∀ m, n ≤ m → loc m = some .queued → ∃ j, n ≤ j ∧ (D j ∨ loc (j + 1) = none) := by
    intro m hm hq
    obtain ⟨j, hj, h'⟩ := leadsto_fair (P := fun m => loc m = some .queued) (fun m hq => Move.of_queued (hq ▸ hmove m)) hT hR hq
    exact ⟨j, by omega, h'⟩
  have fromG : ∀ m, n < m → loc m = none → ∃ j, n ≤ j ∧ (D j ∨ loc (j + 1) = none) := by
    intro m hm hg
    obtain ⟨j, rfl⟩ : ∃ j, m = j + 1 := ⟨m - 1, by omega⟩
    exact ⟨j, by omega, Or.inr hg⟩
  have fromD : ∀ m, n ≤ m → (∃ p, loc m = some (.deferred p)) → ∃ j, n ≤ j ∧ (D j ∨ loc (j + 1) = none) := by
    intro m hm hd
    have : ∃ m', m < m' ∧ (loc m' = some .queued ∨ loc m' = none) := by
      apply leadsto (P := fun m => ∃ p, loc m = some (.deferred p)) _ _ hd
      · intro m' ⟨p, hp⟩
        exact (Move.of_deferred (hp ▸ hmove m')).imp_left fun h => ⟨p, h⟩
      · intro n'
        obtain ⟨m', hm', hc⟩ := hD n'
        exact ⟨m', hm', hc.imp_right (hSD m')⟩
    obtain ⟨m', hm', h'⟩ := this
    rcases h' with h' | h'
    · exact fromQ m' (by omega) h'
    · exact fromG m' (by omega) h'
  cases hl : loc n with
  | none => exact absurd hl h
  | some l =>
    cases l with
    | queued => exact fromQ n (Nat.le_refl n) hl
    | deferred p => exact fromD n (Nat.le_refl n) ⟨p, hl⟩
    | inflight k p d =>
      have : ∃ m', n < m' ∧ (loc m' = some .queued ∨ (∃ p, loc m' = some (.deferred p)) ∨ loc m' = none) := by
        apply leadsto (P := fun m => ∃ k p d, loc m = some (.inflight k p d)) _ _ ⟨k, p, d, hl⟩
        · intro m' _
          cases hb : loc (m' + 1) with
          | none => exact Or.inr (Or.inr (Or.inr rfl))
          | some l =>
            cases l with
            | queued => exact Or.inr (Or.inl rfl)
            | inflight k p d => exact Or.inl ⟨k, p, d, rfl⟩
            | deferred p => exact Or.inr (Or.inr (Or.inl ⟨p, rfl⟩))
        · intro n'
          obtain ⟨m', hm', hc⟩ := hI n'
          refine ⟨m', hm', ?_⟩
          rcases hc with hc | hc
          · exact Or.inl hc
          · exact Or.inr ((hSI m' hc).imp_right Or.inr)
      obtain ⟨m', hm', h'⟩ := this
      rcases h' with h' | h' | h'
      · exact fromQ m' (by omega) h'
      · exact fromD m' (by omega) h'
      · exact fromG m' hm' h'

end Trace

end Nsq.Proofs.ChanLive
