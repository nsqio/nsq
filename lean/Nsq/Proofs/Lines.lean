import Nsq.Model.Split
/-! A byte string read with `ReadBytes(d)` is a last piece without `d`, or `line ++ d :: rest`: one equation for each
form, and every loop over `readBytes` (to_nsq's `published`, the text `/mpub` loop) is reasoned about through these. -/
namespace Nsq.Proofs.Lines
open Nsq.Model.Split

variable (d : UInt8)

theorem lines_induction {P : Bytes → Prop} (last : ∀ s, d ∉ s → P s)
    (line : ∀ hd rest, d ∉ hd → P rest → P (hd ++ d :: rest)) (s : Bytes) : P s := by
  have : ∀ pre : Bytes, d ∉ pre → P (pre ++ s) := by
    induction s with
    | nil => intro pre h; rw [List.append_nil]; exact last pre h
    | cons c s ih =>
      intro pre h
      by_cases hc : c = d
      · rw [hc]; exact line pre s h (ih [] List.not_mem_nil)
      · have := ih (pre ++ [c]) (by simp [h, Ne.symm hc])
        rwa [List.append_assoc] at this
  exact this [] List.not_mem_nil

theorem splitOn_last : ∀ s : Bytes, d ∉ s → splitOn d s = [s]
  | [], _ => rfl
  | c :: s, h => by
    rw [List.mem_cons, not_or] at h
    simp only [splitOn, if_neg (Ne.symm h.1), splitOn_last s h.2]

theorem splitOn_line : ∀ hd rest : Bytes, d ∉ hd → splitOn d (hd ++ d :: rest) = hd :: splitOn d rest
  | [], rest, _ => by simp [splitOn]
  | c :: hd, rest, h => by
    rw [List.mem_cons, not_or] at h
    simp only [List.cons_append, splitOn, if_neg (Ne.symm h.1), splitOn_line hd rest h.2]

theorem readBytes_last : ∀ s : Bytes, d ∉ s → readBytes d s = (s, [], true)
  | [], _ => rfl
  | c :: s, h => by
    rw [List.mem_cons, not_or] at h
    simp only [readBytes, if_neg (Ne.symm h.1), readBytes_last s h.2]

theorem readBytes_line : ∀ hd rest : Bytes, d ∉ hd → readBytes d (hd ++ d :: rest) = (hd ++ [d], rest, false)
  | [], rest, _ => by simp [readBytes]
  | c :: hd, rest, h => by
    rw [List.mem_cons, not_or] at h
    simp only [List.cons_append, readBytes, if_neg (Ne.symm h.1), readBytes_line hd rest h.2]

theorem splitOn_ne_nil (s : Bytes) : splitOn d s ≠ [] := by
  induction s using lines_induction d with
  | last s h => rw [splitOn_last d s h]; exact List.cons_ne_nil _ _
  | line hd rest h _ => rw [splitOn_line d hd rest h]; exact List.cons_ne_nil _ _

theorem splitOn_join (s : Bytes) : [d].intercalate (splitOn d s) = s := by
  induction s using lines_induction d with
  | last s h => rw [splitOn_last d s h]; simp [List.intercalate]
  | line hd rest h ih =>
    rw [splitOn_line d hd rest h]
    obtain ⟨l, ls, e⟩ := List.exists_cons_of_ne_nil (splitOn_ne_nil d rest)
    rw [e] at ih ⊢
    rw [← ih]
    simp [List.intercalate, List.intersperse]

theorem splitOn_no_delim (s : Bytes) : ∀ p ∈ splitOn d s, d ∉ p := by
  induction s using lines_induction d with
  | last s h => rw [splitOn_last d s h]; intro p hp; rwa [List.mem_singleton.mp hp]
  | line hd rest h ih =>
    rw [splitOn_line d hd rest h]
    intro p hp
    rcases List.mem_cons.mp hp with rfl | hp
    · exact h
    · exact ih p hp

theorem splitOn_getLast_line (hd rest : Bytes) (h : d ∉ hd) :
    (splitOn d (hd ++ d :: rest)).getLast? = (splitOn d rest).getLast? := by
  rw [splitOn_line d hd rest h]
  obtain ⟨l, ls, e⟩ := List.exists_cons_of_ne_nil (splitOn_ne_nil d rest)
  rw [e, List.getLast?_cons_cons]

theorem splitOn_snoc_delim (s : Bytes) : splitOn d (s ++ [d]) = splitOn d s ++ [[]] := by
  induction s using lines_induction d with
  | last s h => rw [splitOn_line d s [] h, splitOn_last d s h]; rfl
  | line hd rest h ih =>
    rw [List.append_assoc, List.cons_append, splitOn_line d hd _ h, ih, splitOn_line d hd rest h]; rfl

end Nsq.Proofs.Lines
