import Nsq.Proofs.HttpApiEquiv
/-!
Text `/mpub` against binary `/mpub` / TCP `MPUB`: the round trip through `joinNl` behind `Props.C10.mpub_text_equiv`,
then the exact acceptance conditions of both sides, from which `Props.C10Char.mpub_text_vs_tcp`, `mpub_tcp_vs_text`
draw the divergences. The text format is line oriented: its only limits are "whole body ≤ max-body-size" and "each
line ≤ max-msg-size"; it has no message-count limit, no per-message framing overhead and it accepts a body without any
non-empty line. The binary format (same reader as TCP MPUB) additionally needs 1 ≤ count ≤ (max-body-size − 4)/5 and
counts 4 bytes of framing per message plus 4 for the count against max-body-size.
-/
namespace Nsq.Proofs.HttpApiText
open Nsq.Model.HttpApi Nsq.Model.ProtoV2 Nsq.Model.Names Nsq.Model.Base10 Nsq.Model
open Nsq.Proofs.ProtoV2 Nsq.Proofs.HttpApi Nsq.Proofs.HttpApiEquiv Nsq.Proofs.Mpub

def joinNl : List Bytes → Bytes
  | [] => []
  | [b] => b
  | b :: c :: rest => b ++ 10 :: joinNl (c :: rest)

/-- A list of message bodies that both formats can express; `wire`: the encoding fits the size field of `MPUB`. -/
structure GoodBlocks (conf : Conf) (blocks : List Bytes) : Prop where
  nonempty : blocks ≠ []
  each : ∀ blk ∈ blocks, blk ≠ [] ∧ (10 : UInt8) ∉ blk ∧ (blk.length : Int) ≤ conf.maxMsgSize
  count : (blocks.length : Int) ≤ Mpub.maxMessages conf.maxBodySize
  wire : (Mpub.encode blocks).length < 2147483648

theorem splitNl_no_nl (b : Bytes) (h : (10 : UInt8) ∉ b) : Mpub.splitNl b = [b] :=
  splitNl_eq b ▸ Lines.splitOn_last 10 b h

theorem splitNl_append_nl (b rest : Bytes) (h : (10 : UInt8) ∉ b) :
    Mpub.splitNl (b ++ 10 :: rest) = b :: Mpub.splitNl rest := by
  rw [splitNl_eq, splitNl_eq, Lines.splitOn_line 10 b rest h]

theorem splitNl_joinNl : ∀ (blocks : List Bytes), blocks ≠ [] → (∀ blk ∈ blocks, (10 : UInt8) ∉ blk) →
    Mpub.splitNl (joinNl blocks) = blocks
  | [], h, _ => absurd rfl h
  | [b], _, h => splitNl_no_nl b (h b (List.mem_cons_self))
  | b :: c :: rest, _, h => by
    rw [joinNl, splitNl_append_nl b _ (h b (List.mem_cons_self)),
      splitNl_joinNl (c :: rest) (by simp) (fun x hx => h x (List.mem_cons_of_mem _ hx))]

/-- 4 bytes for the count, 4 more per message. -/
theorem encode_length_bounds (ms : List Bytes) :
    4 + ms.length ≤ (Mpub.encode ms).length ∧ ∀ m ∈ ms, 8 + m.length ≤ (Mpub.encode ms).length := by
  rw [encode_length]
  induction ms with
  | nil => exact ⟨Nat.le_refl _, nofun⟩
  | cons x xs ih =>
    simp only [List.map_cons, List.sum_cons, List.length_cons, List.forall_mem_cons]
    exact ⟨by omega, by omega, fun m hm => by have := ih.2 m hm; omega⟩

end Nsq.Proofs.HttpApiText

namespace Nsq.Proofs.HttpTextDiv
open Nsq.Model.HttpApi Nsq.Model.ProtoV2 Nsq.Model.Names Nsq.Model.Base10 Nsq.Model
open Nsq.Proofs.ProtoV2 Nsq.Proofs.HttpApi Nsq.Proofs.HttpApiEquiv Nsq.Proofs.Mpub Nsq.Proofs.HttpApiText

theorem textLoop_false_error (maxMsg : Int) : ∀ (blocks : List Bytes) (e : String),
    textLoop maxMsg false blocks = .error e → e = "MSG_TOO_BIG" :=
  fun _ _ h => (textLoop_error _ _ _ _ h).resolve_right (fun h => nomatch h.1)

/-- The two limits of the text format: text `/mpub` answers 200 exactly under them (`doMPUB_text_iff`). -/
structure TextAccepts (hc : HConf) (body : Bytes) : Prop where
  size : (body.length : Int) ≤ hc.maxBodySize
  lines : ∀ l ∈ Mpub.textBlocks body, (l.length : Int) ≤ hc.maxMsgSize

theorem mpubText_ok_iff (hc : HConf) (h0 : 0 ≤ hc.maxBodySize) (body : Bytes) (bs : List Bytes) :
    mpubText hc body = .ok bs ↔ TextAccepts hc body ∧ bs = Mpub.textBlocks body := by
  rw [mpubText, textLoop_ok_iff]
  by_cases hsz : (body.length : Int) ≤ hc.maxBodySize
  · have hover : ¬ (body.length : Int) = hc.maxBodySize + 1 := by omega
    rw [List.take_of_length_le (by omega)]
    exact ⟨fun h => ⟨⟨hsz, h.2.2⟩, h.2.1⟩, fun h => ⟨by simp [hover], h.2, h.1.lines⟩⟩
  · -- the body fills the limited reader, and `splitNl` always yields a block
    have hover : ((body.take (hc.maxBodySize + 1).toNat).length : Int) = hc.maxBodySize + 1 := by
      rw [List.length_take]; omega
    exact ⟨fun h => absurd (h.1 (by simpa using hover)) (splitNl_ne_nil _), fun h => absurd h.1.size hsz⟩

theorem mpubText_error (hc : HConf) (body : Bytes) (e : String) (h : mpubText hc body = .error e) :
    e = "MSG_TOO_BIG" ∨ e = "BODY_TOO_BIG" :=
  (textLoop_error _ _ _ e h).imp id (·.2)

theorem textBlocks_nonempty (body : Bytes) : ∀ l ∈ Mpub.textBlocks body, 1 ≤ l.length := by
  intro l hl
  have := (List.mem_filter.mp hl).2
  cases l with
  | nil => simp at this
  | cons x xs => simp

/-- Under these TCP `MPUB` (the reader of binary `/mpub`) accepts the encoding of `ms` (`tcp_accepts`); failing one of the
three that speak of the batch as a whole it refuses (`tcp_refuses`). -/
structure BinAccepts (conf : Conf) (ms : List Bytes) : Prop where
  nonempty : ms ≠ []
  each : ∀ m ∈ ms, BodyOk conf.maxMsgSize m
  count : (ms.length : Int) ≤ Mpub.maxMessages conf.maxBodySize
  size : ((Mpub.encode ms).length : Int) ≤ conf.maxBodySize

theorem tcp_accepts (conf : Conf) (s : ConnState) (b : Broker) (cmd t : Bytes) (tl : List Bytes) (ms : List Bytes)
    (hauth : conf.authGate = none) (hv : isValidName t = true) (hlen : (Mpub.encode ms).length < 2147483648)
    (h : BinAccepts conf ms) :
    (mpub conf s b (cmd :: t :: tl) (mwire (Mpub.encode ms))).reply = some .ok ∧
    (mpub conf s b (cmd :: t :: tl) (mwire (Mpub.encode ms))).broker = publish b t (toMsgs ms) := by
  obtain ⟨hcnt, hmsg⟩ := encode_length_bounds ms
  have hrm := readMPUB_complete conf.maxMsgSize conf.maxBodySize ms [] (List.length_pos_iff.mpr h.nonempty) h.count
    (by omega) fun m hm => ⟨h.each m hm, by have := hmsg m hm; omega⟩
  rw [List.append_nil] at hrm
  have hpos : ¬ (((Mpub.encode ms).length : Int) ≤ 0) := by omega
  have hle : ¬ (((Mpub.encode ms).length : Int) > conf.maxBodySize) := by have := h.size; omega
  have htcp := mpub_mwire conf s b cmd t tl (Mpub.encode ms) hauth hv hlen
  rw [if_neg hpos, if_neg hle, hrm] at htcp
  rw [htcp]
  exact ⟨rfl, rfl⟩

/-- TCP refuses a batch that fails one of `BinAccepts`' conditions on the batch as a whole (whatever its messages are). -/
theorem tcp_refuses (conf : Conf) (s : ConnState) (b : Broker) (cmd t : Bytes) (tl : List Bytes) (ms : List Bytes)
    (hauth : conf.authGate = none) (hv : isValidName t = true) (hlen : (Mpub.encode ms).length < 2147483648)
    (h : ¬ (ms ≠ [] ∧ (ms.length : Int) ≤ Mpub.maxMessages conf.maxBodySize ∧
      ((Mpub.encode ms).length : Int) ≤ conf.maxBodySize)) :
    (mpub conf s b (cmd :: t :: tl) (mwire (Mpub.encode ms))).reply = some (.err .E_BAD_BODY) := by
  have hcnt := (encode_length_bounds ms).1
  have hpos : ¬ (((Mpub.encode ms).length : Int) ≤ 0) := by omega
  have htcp := mpub_mwire conf s b cmd t tl (Mpub.encode ms) hauth hv hlen
  rw [if_neg hpos] at htcp
  by_cases hle : ((Mpub.encode ms).length : Int) > conf.maxBodySize
  · rw [if_pos hle] at htcp
    rw [htcp]; rfl
  · rw [if_neg hle] at htcp
    have hbad : (ms.length : Int) ≤ 0 ∨ (ms.length : Int) > Mpub.maxMessages conf.maxBodySize := by
      by_cases h1 : ms = []
      · left; simp [h1]
      · right; exact Int.not_le.mp fun h2 => h ⟨h1, h2, Int.not_lt.mp hle⟩
    have hr : Mpub.readMPUB conf.maxMsgSize conf.maxBodySize (Mpub.encode ms) = .err .E_BAD_BODY := by
      rw [Mpub.readMPUB, Mpub.encode, readLen_be32 _ _ (by omega)]
      simp only [hbad, if_true]
    rw [hr] at htcp
    rw [htcp]; rfl

theorem doMPUB_text_iff (hc : HConf) (h0 : 0 ≤ hc.maxBodySize) (b : Broker) (rq : Request) (kv : List (Bytes × Bytes))
    (t : Bytes) (hq : parseQuery rq.rawQuery = some kv) (ht : qget kv kTopic = some t)
    (htext : binaryMode kv = false) (hv : isValidName t = true) (hcl : ¬ rq.contentLength > hc.maxBodySize) :
    ((doMPUB hc b rq).1.status = .s200 ↔ TextAccepts hc rq.body) ∧
    (TextAccepts hc rq.body → doMPUB hc b rq = (⟨.s200, "OK"⟩, publish b t (toMsgs (Mpub.textBlocks rq.body)))) ∧
    (¬ TextAccepts hc rq.body → (doMPUB hc b rq).1.status = .s413 ∧ (doMPUB hc b rq).2 = getTopic b t ∧
      ((doMPUB hc b rq).1.msg = "MSG_TOO_BIG" ∨ (doMPUB hc b rq).1.msg = "BODY_TOO_BIG")) := by
  have hd : doMPUB hc b rq = match mpubText hc rq.body with
      | .error e => resp .s413 e (getTopic b t)
      | .ok bodies => resp .s200 "OK" (publish b t (toMsgs bodies)) := by
    rw [doMPUB, if_neg hcl, topicFromQuery_of _ _ _ hq ht, if_pos hv]
    simp only [hq, Option.getD_some, htext, Bool.false_eq_true, if_false]
    rfl
  cases hm : mpubText hc rq.body with
  | error e =>
    have hna : ¬ TextAccepts hc rq.body := by
      intro ha
      have := (mpubText_ok_iff hc h0 rq.body _).mpr ⟨ha, rfl⟩
      rw [hm] at this; cases this
    rw [hd, hm]
    refine ⟨by simp [resp, hna], fun ha => absurd ha hna, fun _ => ⟨rfl, rfl, mpubText_error hc rq.body e hm⟩⟩
  | ok bs =>
    obtain ⟨ha, hbs⟩ := (mpubText_ok_iff hc h0 rq.body bs).mp hm
    rw [hd, hm]
    refine ⟨by simp [resp, ha], fun _ => by rw [hbs]; rfl, fun hna => absurd ha hna⟩

theorem textBlocks_joinNl (blocks : List Bytes) (body : Bytes) (hne : blocks ≠ [])
    (h : ∀ blk ∈ blocks, blk ≠ [] ∧ (10 : UInt8) ∉ blk)
    (hbody : body = joinNl blocks ∨ body = joinNl blocks ++ [10]) : Mpub.textBlocks body = blocks := by
  have hf : blocks.filter (fun b => !b.isEmpty) = blocks :=
    List.filter_eq_self.mpr (fun x hx => by simpa using (h x hx).1)
  unfold Mpub.textBlocks
  rcases hbody with rfl | rfl
  · rw [splitNl_joinNl blocks hne (fun x hx => (h x hx).2), hf]
  · -- the final newline adds an empty last block, which the filter drops
    rw [splitNl_eq, Lines.splitOn_snoc_delim, ← splitNl_eq, splitNl_joinNl blocks hne (fun x hx => (h x hx).2),
      List.filter_append, hf]
    exact List.append_nil _

end Nsq.Proofs.HttpTextDiv
