import Nsq.Model.RelayRedirect
/-!
What a `CheckRedirect` guarantees is stated on the `Check`, what is needed from the destinations on the `World`.
`MethodPreserving` and the hypotheses on the `World` are used through `doReq_all`: what holds of the first request of a
chain and is kept by every redirect the client follows holds of every request of the chain. `Limited` and `NoError` are
used by inductions over `fuel` of their own (`doReq_length`, `doReq_fuel_irrelevant`, `doReq_seen_is_last`).
-/
namespace Nsq.Proofs.RelayRedirect
open Nsq.Model.Relay Nsq.Model.RelayRedirect

/-- the client follows only redirects for which net/http kept the method of the first request -/
def MethodPreserving (check : Check) : Prop := ∀ rp vp n, check rp vp n = .follow → rp = vp
/-- the client makes at most ten requests per `Do` -/
def Limited (check : Check) : Prop := ∀ rp vp n, check rp vp n = .follow → n < 10
/-- `CheckRedirect` never fails `Do`: the caller always gets the last answer -/
def NoError (check : Check) : Prop := ∀ rp vp n, check rp vp n ≠ .error

theorem methodPreserving_never : MethodPreserving checkNever := by
  intro rp vp n h; simp [checkNever] at h
theorem limited_never : Limited checkNever := by
  intro rp vp n h; simp [checkNever] at h
theorem noError_never : NoError checkNever := by
  intro rp vp n h; simp [checkNever] at h

theorem sameMethod_follows_iff (rp vp : Bool) (n : Nat) :
    checkSameMethod rp vp n = .follow ↔ rp = vp ∧ n < 10 := by
  unfold checkSameMethod
  by_cases hc : rp ≠ vp ∨ n ≥ 10
  · rw [if_pos hc]
    refine ⟨nofun, fun h => ?_⟩
    rcases hc with hc | hc
    · exact absurd h.1 hc
    · omega
  · simp only [hc, if_false, true_iff]
    simp only [not_or, ne_eq, Decidable.not_not] at hc
    exact ⟨hc.1, by omega⟩

theorem methodPreserving_sameMethod : MethodPreserving checkSameMethod :=
  fun rp vp n h => ((sameMethod_follows_iff rp vp n).1 h).1
theorem limited_sameMethod : Limited checkSameMethod :=
  fun rp vp n h => ((sameMethod_follows_iff rp vp n).1 h).2
theorem noError_sameMethod : NoError checkSameMethod := by
  intro rp vp n h
  unfold checkSameMethod at h
  split at h <;> cases h

theorem limited_default : Limited checkDefault := by
  intro rp vp n h
  unfold checkDefault at h
  by_cases hc : n ≥ 10
  · simp [hc] at h
  · omega

theorem doReq_succ (check : Check) (w : World) (post0 : Bool) (fuel nvia ep : Nat) (post : Bool) (payload : Option Bytes) :
    doReq check w post0 (fuel + 1) nvia ep post payload =
        ([⟨ep, post, payload, finalOf (w ep post payload)⟩], finalOf (w ep post payload)) ∨
    (doReq check w post0 (fuel + 1) nvia ep post payload = ([⟨ep, post, payload, finalOf (w ep post payload)⟩], none) ∧
        ∃ lk : Loc × Bool, check (post && lk.2) post0 (nvia + 1) = .error) ∨
    ∃ lk, followUp (w ep post payload) = some lk ∧ check (post && lk.2) post0 (nvia + 1) = .follow ∧
      doReq check w post0 (fuel + 1) nvia ep post payload =
        (⟨ep, post, payload, finalOf (w ep post payload)⟩ ::
           (doReq check w post0 fuel (nvia + 1) lk.1.ep (post && lk.2) (nextPayload post lk payload)).1,
         (doReq check w post0 fuel (nvia + 1) lk.1.ep (post && lk.2) (nextPayload post lk payload)).2) := by
  rw [doReq]
  cases hf : followUp (w ep post payload) with
  | none => exact Or.inl rfl
  | some lk =>
    simp only []
    cases hc : check (post && lk.2) post0 (nvia + 1) with
    | useLast => exact Or.inl rfl
    | error => exact Or.inr (Or.inl ⟨rfl, lk, hc⟩)
    | follow => exact Or.inr (Or.inr ⟨lk, rfl, hc, rfl⟩)

theorem doReq_never (w : World) (post0 : Bool) (fuel nvia ep : Nat) (post : Bool) (payload : Option Bytes) :
    doReq checkNever w post0 (fuel + 1) nvia ep post payload =
      ([⟨ep, post, payload, finalOf (w ep post payload)⟩], finalOf (w ep post payload)) := by
  rcases doReq_succ checkNever w post0 fuel nvia ep post payload with e | ⟨_, _, hc⟩ | ⟨_, _, hc, _⟩
  · exact e
  · cases hc
  · cases hc

/-- every follow-up request that the client makes for an answer to a request carrying the message has the
publisher's method and carries the message again -/
def ChainKeeps (check : Check) (w : World) (post0 : Bool) (body : Bytes) : Prop :=
  ∀ ep lk n, followUp (w ep post0 (some body)) = some lk → check (post0 && lk.2) post0 n = .follow →
    (post0 && lk.2) = post0 ∧ nextPayload post0 lk (some body) = some body

/-- the destinations' `Location`s repeat the query of the GET they answer (GET publisher: the message is in the query) -/
def KeepsQuery (w : World) : Prop :=
  ∀ ep pl lk, followUp (w ep false pl) = some lk → lk.1.keepsQuery = true

/-- no endpoint answers with a redirect that makes the client without `CheckRedirect` drop the message:
redirects that are followed keep method and body (307/308) and occur only for POST -/
def NoLossyRedirect (post : Bool) (w : World) : Prop :=
  ∀ ep p pl lk, followUp (w ep p pl) = some lk → post = true ∧ lk.2 = true

/-- POST publisher: `MethodPreserving` alone is enough — net/http re-sends the body whenever it keeps the method -/
theorem chainKeeps_post (check : Check) (h : MethodPreserving check) (w : World) (body : Bytes) :
    ChainKeeps check w true body := by
  intro ep lk n _ hc
  have := h _ _ _ hc
  simp only [Bool.true_and] at this
  simp [nextPayload, this]

/-- GET publisher: the method never changes; the message survives iff the `Location` keeps the query -/
theorem chainKeeps_get (check : Check) (w : World) (hq : KeepsQuery w) (body : Bytes) :
    ChainKeeps check w false body := by
  intro ep lk n hf _
  simp [nextPayload, hq ep (some body) lk hf]

theorem chainKeeps_noLossy (check : Check) (post : Bool) (w : World) (h : NoLossyRedirect post w) (body : Bytes) :
    ChainKeeps check w post body := by
  intro ep lk n hf _
  obtain ⟨hp, hk⟩ := h ep post (some body) lk hf
  subst hp
  simp [nextPayload, hk]

theorem chainKeeps_never (w : World) (post : Bool) (body : Bytes) : ChainKeeps checkNever w post body := by
  intro ep lk n _ hc
  simp [checkNever] at hc

theorem doReq_all (check : Check) (w : World) (post0 : Bool) (P : Bool → Option Bytes → Prop)
    (hP : ∀ ep post payload lk n, P post payload → followUp (w ep post payload) = some lk →
      check (post && lk.2) post0 n = .follow → P (post && lk.2) (nextPayload post lk payload))
    (fuel nvia ep : Nat) (post : Bool) (payload : Option Bytes) (h : P post payload) :
    ∀ x ∈ (doReq check w post0 fuel nvia ep post payload).1, P x.post x.payload := by
  induction fuel generalizing nvia ep post payload with
  | zero => exact fun x hx => by cases hx
  | succ n ih =>
    have hone : ∀ x ∈ [(⟨ep, post, payload, finalOf (w ep post payload)⟩ : Wire)], P x.post x.payload :=
      fun x hx => by cases List.mem_singleton.mp hx; exact h
    rcases doReq_succ check w post0 n nvia ep post payload with e | ⟨e, _⟩ | ⟨lk, hf, hc, e⟩
    · rw [e]; exact hone
    · rw [e]; exact hone
    · rw [e]; exact List.forall_mem_cons.mpr ⟨h, ih _ _ _ _ (hP ep post payload lk _ h hf hc)⟩

theorem doReq_last_of_seen (check : Check) (w : World) (post0 : Bool) (fuel nvia ep : Nat) (post : Bool)
    (payload : Option Bytes) (s : Nat) (h : (doReq check w post0 fuel nvia ep post payload).2 = some s) :
    (doReq check w post0 fuel nvia ep post payload).1.getLast?.bind (·.status) = some s := by
  induction fuel generalizing nvia ep post payload with
  | zero => cases h
  | succ n ih =>
    rcases doReq_succ check w post0 n nvia ep post payload with e | ⟨e, _⟩ | ⟨lk, _, _, e⟩
    · rw [e] at h ⊢; exact h
    · rw [e] at h; cases h
    · rw [e] at h ⊢
      have hl := ih _ _ _ _ h
      cases hw : (doReq check w post0 n (nvia + 1) lk.1.ep (post && lk.2) (nextPayload post lk payload)).1 with
      | nil => rw [hw] at hl; cases hl
      | cons y ys => rw [hw] at hl; rwa [List.getLast?_cons_cons]

theorem accepted_last (check : Check) (post : Bool) (w : World) (a : Nat) (body : Bytes)
    (h : Http.accepts post (seenBy check post w body a) = true) :
    Http.accepts post ((wireOf check post w a body).getLast?.bind (·.status)) = true := by
  unfold seenBy at h
  cases hs : (doReq check w post redirectFuel 0 a post (some body)).2 with
  | none => rw [hs] at h; cases h
  | some s => unfold wireOf; rw [doReq_last_of_seen check w post _ _ _ _ _ s hs, ← hs]; exact h

theorem delivered_of_keeps (check : Check) (post : Bool) (w : World) (a : Nat) (body : Bytes)
    (h : ChainKeeps check w post body)
    (hacc : Http.accepts post (seenBy check post w body a) = true) : Delivered check post w a body := by
  have hl := accepted_last check post w a body hacc
  cases hx : (wireOf check post w a body).getLast? with
  | none => rw [hx] at hl; cases hl
  | some x =>
    have hk := doReq_all check w post (fun p pl => p = post ∧ pl = some body)
      (fun ep p pl lk n hp hf hc => by obtain ⟨rfl, rfl⟩ := hp; exact h ep lk n hf hc)
      redirectFuel 0 a post (some body) ⟨rfl, rfl⟩ x (List.mem_of_getLast? hx)
    exact ⟨x, List.mem_of_getLast? hx, hk.2, hk.1, by rwa [hx] at hl⟩

theorem delivered_never (post : Bool) (w : World) (a : Nat) (body : Bytes)
    (h : Http.accepts post (seenBy checkNever post w body a) = true) : Delivered checkNever post w a body :=
  delivered_of_keeps checkNever post w a body (chainKeeps_never w post body) h

theorem doReq_method (check : Check) (h : MethodPreserving check) (post : Bool) (w : World)
    (fuel nvia ep : Nat) (payload : Option Bytes) :
    ∀ x ∈ (doReq check w post fuel nvia ep post payload).1, x.post = post :=
  doReq_all check w post (fun p _ => p = post) (fun _ _ _ _ _ _ _ hc => h _ _ _ hc) fuel nvia ep post payload rfl

theorem doReq_head (check : Check) (w : World) (post0 : Bool) (fuel nvia ep : Nat) (post : Bool) (payload : Option Bytes) :
    (doReq check w post0 (fuel + 1) nvia ep post payload).1.head? =
      some ⟨ep, post, payload, finalOf (w ep post payload)⟩ := by
  rcases doReq_succ check w post0 fuel nvia ep post payload with e | ⟨e, _⟩ | ⟨_, _, _, e⟩ <;> rw [e] <;> rfl

theorem doReq_length (check : Check) (h : Limited check) (w : World) (post0 : Bool) (fuel nvia ep : Nat) (post : Bool)
    (payload : Option Bytes) (hn : nvia < 10) :
    (doReq check w post0 fuel nvia ep post payload).1.length ≤ 10 - nvia := by
  induction fuel generalizing nvia ep post payload with
  | zero => unfold doReq; simp
  | succ n ih =>
    rcases doReq_succ check w post0 n nvia ep post payload with e | ⟨e, _⟩ | ⟨lk, _, hc, e⟩
    · rw [e, List.length_singleton]; omega
    · rw [e, List.length_singleton]; omega
    · rw [e, List.length_cons]
      have := ih (nvia + 1) lk.1.ep (post && lk.2) (nextPayload post lk payload) (h _ _ _ hc)
      omega

/-- the `fuel` of the model (the request timeout that would end an endless chain) is never what stops a `Limited`
client: any fuel ≥ 10 − `nvia` gives the same chain -/
theorem doReq_fuel_irrelevant (check : Check) (h : Limited check) (w : World) (post0 : Bool) (fuel nvia ep : Nat)
    (post : Bool) (payload : Option Bytes) (hn : nvia < 10) (hfuel : 10 - nvia ≤ fuel) :
    doReq check w post0 fuel nvia ep post payload = doReq check w post0 (10 - nvia) nvia ep post payload := by
  induction fuel generalizing nvia ep post payload with
  | zero => omega
  | succ n ih =>
    obtain ⟨k, hk⟩ : ∃ k, 10 - nvia = k + 1 := ⟨9 - nvia, by omega⟩
    rw [hk]
    unfold doReq
    cases hf : followUp (w ep post payload) with
    | none => rfl
    | some lk =>
      simp only []
      cases hc : check (post && lk.2) post0 (nvia + 1) with
      | useLast => rfl
      | error => rfl
      | follow =>
        simp only []
        have hlt := h _ _ _ hc
        have hk' : k = 10 - (nvia + 1) := by omega
        rw [ih (nvia + 1) lk.1.ep (post && lk.2) (nextPayload post lk payload) hlt (by omega), hk']

/-- the caller gets the last answer even when the limit ends the chain: the 3xx answer to the tenth request -/
theorem doReq_seen_is_last (check : Check) (hl : Limited check) (he : NoError check) (w : World) (post0 : Bool)
    (fuel nvia ep : Nat) (post : Bool) (payload : Option Bytes) (hn : nvia < 10) (hfuel : 10 - nvia ≤ fuel) :
    (doReq check w post0 fuel nvia ep post payload).2 =
      (doReq check w post0 fuel nvia ep post payload).1.getLast?.bind (·.status) := by
  induction fuel generalizing nvia ep post payload with
  | zero => omega
  | succ n ih =>
    rcases doReq_succ check w post0 n nvia ep post payload with e | ⟨_, _, hc⟩ | ⟨lk, _, hc, e⟩
    · rw [e]; rfl
    · exact absurd hc (he _ _ _)
    · rw [e]
      simp only []
      rw [ih (nvia + 1) lk.1.ep (post && lk.2) (nextPayload post lk payload) (hl _ _ _ hc) (by have := hl _ _ _ hc; omega)]
      -- the rest of the chain is not empty (`n ≥ 1`), so its last request is the last of the whole chain
      obtain ⟨m, hm⟩ : ∃ m, n = m + 1 := ⟨n - 1, by have := hl _ _ _ hc; omega⟩
      have hh := doReq_head check w post0 m (nvia + 1) lk.1.ep (post && lk.2) (nextPayload post lk payload)
      rw [← hm] at hh
      cases hw : (doReq check w post0 n (nvia + 1) lk.1.ep (post && lk.2) (nextPayload post lk payload)).1 with
      | nil => rw [hw] at hh; simp at hh
      | cons y ys => simp [List.getLast?_cons_cons]

end Nsq.Proofs.RelayRedirect
