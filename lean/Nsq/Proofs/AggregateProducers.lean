import Nsq.Model.Aggregate
import Nsq.Proofs.Upsert
import Nsq.Proofs.AggregateFetch
/-!
The producer fetches of nsqlookupd mode in closed form. With the two guards it reads (`tombBounds`, `nilElems`) each
function of the chain is a fault-free function of the upstreams' answers (`*_eq`): decoding is a `map`, each of the two
merges is update-or-append (`Upsert`) keyed by an address, the loop over the nsqlookupds is that fold over all their
answers and counts the failed ones. (`mentioned` keeps its namespace `AggregateDedup`.)
-/
namespace Nsq.Proofs.AggregateDedup
open Nsq.Model.Aggregate

/-- All TCP addresses mentioned by the responding nsqlookupds, in processing order. -/
def mentioned (ls : List Lookupd) : List String :=
  ls.flatMap (fun l => match l.nodes with
    | some ps => ps.filterMap (fun p => p.map (·.tcp))
    | none => [])

end Nsq.Proofs.AggregateDedup

namespace Nsq.Proofs.AggregateProducers
open Nsq.Model.Aggregate Nsq.Proofs Nsq.Proofs.AggregateFetch Nsq.Proofs.AggregateDedup

def tombsOf (tombs : List Bool) : List String → Nat → List ProducerTopic
  | [], _ => []
  | t :: ts, i => ⟨t, tombs[i]?.getD false⟩ :: tombsOf tombs ts (i + 1)

/-- `Producer.UnmarshalJSON` where it does not fault: a topic beyond the tombstone array counts as not tombstoned. -/
def decode (p : ProducerJSON) : Producer :=
  { hostname := p.hostname, addr := p.addr, tcp := p.tcp, version := p.version, ver := p.ver,
    remote := p.remote, topics := tombsOf p.tombstones p.topics 0 }

variable {fx : Fixes}

theorem tombAt_eq (ht : fx.tombBounds = true) (tombs : List Bool) (i : Nat) :
    tombAt fx tombs i = .ok (tombs[i]?.getD false) := by
  unfold tombAt
  cases tombs[i]? <;> simp [ht]

theorem zipTombs_eq (ht : fx.tombBounds = true) (tombs : List Bool) (ts : List String) : ∀ i,
    zipTombs fx tombs ts i = .ok (tombsOf tombs ts i) := by
  induction ts with
  | nil => intro i; rfl
  | cons t rest ih => intro i; simp only [zipTombs, tombAt_eq ht, ih, tombsOf]

theorem unmarshalProducers_eq (ht : fx.tombBounds = true) (ps : List (Option ProducerJSON)) :
    unmarshalProducers fx ps = .ok (ps.map (·.map decode)) := by
  induction ps with
  | nil => rfl
  | cons p rest ih =>
    cases p with
    | none => simp only [unmarshalProducers, ih]; rfl
    | some p => simp only [unmarshalProducers, unmarshalProducer, zipTombs_eq ht, ih]; rfl

/-! ### GetLookupdProducers -/

def remoteOf (a : String × Producer) : String := a.1 ++ "/" ++ (if a.2.remote == "" then "N/A" else a.2.remote)

def firstSeen (a : String × Producer) : Producer :=
  { a.2 with topics := sortTopics a.2.topics, remotes := [remoteOf a] }

def seenAgain (q : Producer) (a : String × Producer) : Producer := { q with remotes := q.remotes ++ [remoteOf a] }

/-- The `String` is the address of the nsqlookupd that mentions the producer. -/
def mergeNode : List Producer → String × Producer → List Producer :=
  Upsert.upsert (·.tcp) (·.2.tcp) firstSeen seenAgain

theorem mergeProducers_eq (hn : fx.nilElems = true) (lk : String) (ps : List (Option Producer)) : ∀ acc,
    mergeProducers fx lk ps acc = .ok (((ps.filterMap id).map (Prod.mk lk)).foldl mergeNode acc) := by
  induction ps with
  | nil => intro acc; rfl
  | cons p rest ih =>
    intro acc
    cases p with
    | none => simp only [mergeProducers, hn, if_true, ih]; rfl
    | some p =>
      unfold mergeProducers
      simp only [List.filterMap_cons, id, List.map_cons, List.foldl_cons, ih, mergeNode, Upsert.upsert]
      split <;> rfl

def nodesOf (l : Lookupd) : List (String × Producer) :=
  match l.nodes with
  | none => []
  | some ps => (ps.filterMap (·.map decode)).map (Prod.mk l.addr)

theorem lookupdProducersGo_eq (ht : fx.tombBounds = true) (hn : fx.nilElems = true) (ls : List Lookupd) : ∀ acc f,
    lookupdProducersGo fx ls acc f =
      .ok ((ls.flatMap nodesOf).foldl mergeNode acc, f + countFailed (ls.map (·.nodes))) := by
  induction ls with
  | nil => intro acc f; rfl
  | cons l rest ih =>
    intro acc f
    unfold lookupdProducersGo
    cases hl : l.nodes with
    | none =>
      simp only [ih, List.map_cons, hl, countFailed_cons_none, List.flatMap_cons, nodesOf, List.nil_append,
        Nat.add_assoc, Nat.add_comm 1]
    | some pj =>
      simp only [unmarshalProducers_eq ht, mergeProducers_eq hn, ih, List.map_cons, hl, countFailed_cons_some,
        List.flatMap_cons, List.foldl_append, nodesOf, List.filterMap_map, Function.comp_def, id]

theorem lookupdProducers_eq (ht : fx.tombBounds = true) (hn : fx.nilElems = true) (ls : List Lookupd) :
    lookupdProducers fx ls =
      .ok (fetched (ls.map (·.nodes)) (markOutOfDate ((ls.flatMap nodesOf).foldl mergeNode []))) := by
  simp only [lookupdProducers, lookupdProducersGo_eq ht hn, Nat.zero_add, apply_ite Except.ok, fetched, List.length_map]

theorem tcp_nodesOf (ls : List Lookupd) : (ls.flatMap nodesOf).map (·.2.tcp) = mentioned ls := by
  rw [List.map_flatMap, mentioned]
  congr 1; funext l
  unfold nodesOf
  cases l.nodes with
  | none => rfl
  | some ps =>
    simp only [List.map_filterMap]
    congr 1; funext p; cases p <;> rfl

/-- GetLookupdProducers de-duplicates by TCP address over every responding nsqlookupd. -/
theorem lookupdProducers_dedup (ht : fx.tombBounds = true) (hn : fx.nilElems = true) (ls : List Lookupd)
    (ps : List Producer) (f : Nat) (h : lookupdProducers fx ls = .ok (.got ps f)) :
    (ps.map (·.tcp)).Nodup ∧ ∀ k, k ∈ ps.map (·.tcp) ↔ k ∈ mentioned ls := by
  obtain ⟨rfl, -⟩ := fetched_got (Except.ok.inj ((lookupdProducers_eq ht hn ls).symm.trans h))
  have hinv := Upsert.inv_fold (key := (·.tcp)) (keyOf := (·.2.tcp)) (init := firstSeen) (step := seenAgain)
    (fun _ _ => rfl) (fun _ => rfl) (ls.flatMap nodesOf)
  have hk : (markOutOfDate ((ls.flatMap nodesOf).foldl mergeNode [])).map (·.tcp) =
      ((ls.flatMap nodesOf).foldl mergeNode []).map (·.tcp) := by
    simp [markOutOfDate, List.map_map, Function.comp_def]
  rw [hk, ← tcp_nodesOf]
  exact ⟨hinv.nodup, hinv.mem_keys⟩

/-! ### GetLookupdTopicProducers -/

def mergeTopicNode : List Producer → Producer → List Producer :=
  Upsert.upsert (·.addr) (·.addr) id (fun q _ => q)

theorem mergeTopicProducers_eq (hn : fx.nilElems = true) (ps : List (Option Producer)) : ∀ acc,
    mergeTopicProducers fx ps acc = .ok ((ps.filterMap id).foldl mergeTopicNode acc) := by
  induction ps with
  | nil => intro acc; rfl
  | cons p rest ih =>
    intro acc
    cases p with
    | none => simp only [mergeTopicProducers, hn, if_true, ih]; rfl
    | some p =>
      unfold mergeTopicProducers
      simp only [List.filterMap_cons, id, List.foldl_cons, ih, mergeTopicNode, Upsert.upsert, ite_self, List.map_id']
      split <;> rfl

def lookupOf (l : Lookupd) : List Producer :=
  match l.lookup with
  | none => []
  | some ps => ps.filterMap (·.map decode)

theorem lookupdTopicProducersGo_eq (ht : fx.tombBounds = true) (hn : fx.nilElems = true) (ls : List Lookupd) :
    ∀ acc f, lookupdTopicProducersGo fx ls acc f =
      .ok ((ls.flatMap lookupOf).foldl mergeTopicNode acc, f + countFailed (ls.map (·.lookup))) := by
  induction ls with
  | nil => intro acc f; rfl
  | cons l rest ih =>
    intro acc f
    unfold lookupdTopicProducersGo
    cases hl : l.lookup with
    | none =>
      simp only [ih, List.map_cons, hl, countFailed_cons_none, List.flatMap_cons, lookupOf, List.nil_append,
        Nat.add_assoc, Nat.add_comm 1]
    | some pj =>
      simp only [unmarshalProducers_eq ht, mergeTopicProducers_eq hn, ih, List.map_cons, hl, countFailed_cons_some,
        List.flatMap_cons, List.foldl_append, lookupOf, List.filterMap_map, Function.comp_def, id]

theorem lookupdTopicProducers_eq (ht : fx.tombBounds = true) (hn : fx.nilElems = true) (ls : List Lookupd) :
    lookupdTopicProducers fx ls = .ok (fetched (ls.map (·.lookup)) ((ls.flatMap lookupOf).foldl mergeTopicNode [])) := by
  simp only [lookupdTopicProducers, lookupdTopicProducersGo_eq ht hn, Nat.zero_add, apply_ite Except.ok, fetched,
    List.length_map]

/-- No producer comes back iff no responding nsqlookupd lists a (non-null) one. -/
theorem lookupdTopicProducers_nil (ht : fx.tombBounds = true) (hn : fx.nilElems = true) (ls : List Lookupd)
    (ps : List Producer) (f : Nat) (h : lookupdTopicProducers fx ls = .ok (.got ps f)) :
    ps = [] ↔ ∀ l ∈ ls, lookupOf l = [] := by
  obtain ⟨rfl, -⟩ := fetched_got (Except.ok.inj ((lookupdTopicProducers_eq ht hn ls).symm.trans h))
  exact (Upsert.inv_fold (key := (·.addr)) (keyOf := (·.addr)) (init := id) (step := fun q (_ : Producer) => q)
    (fun _ _ => rfl) (fun _ => rfl) (ls.flatMap lookupOf)).eq_nil.trans List.flatMap_eq_nil_iff

end Nsq.Proofs.AggregateProducers
