import Nsq.Proofs.AdminFanout
/-!
Notifications (`notifyAdminAction`) in the handler skeletons: the decidable judgements on the regenerated
skeletons and their lifting to every run, for `Props.C17.notify_exact`.
-/
namespace Nsq.Proofs.AdminNotify
open Nsq.Model.AdminGate Nsq.Proofs.AdminGate Nsq.Tie.AdminGate Nsq.Proofs.AdminFanout

def notifyObs (obs : List Obs) : List String :=
  obs.filterMap (fun o => match o with | .notify a => some a | _ => none)

def notesOf (effs : List Eff) : List String :=
  effs.filterMap (fun e => match e with | .notify a => some a | _ => none)

theorem notifyObs_filterMap (effs : List Eff) : notifyObs (effs.filterMap obsOf) = notesOf effs := by
  simp only [notifyObs, notesOf, List.filterMap_filterMap]
  congr 1; funext e; cases e <;> rfl

def noteOf (chanBody : Bool) (up : String) : List String :=
  if up == "CreateTopicChannel" then (if chanBody then ["create_topic", "create_channel"] else ["create_topic"])
  else if up == "DeleteTopic" then ["delete_topic"]
  else if up == "DeleteChannel" then ["delete_channel"]
  else if up == "TombstoneNodeForTopic" then ["tombstone_topic_producer"]
  else if up == "PauseTopic" then ["pause_topic"]
  else if up == "UnPauseTopic" then ["unpause_topic"]
  else if up == "EmptyTopic" then ["empty_topic"]
  else if up == "PauseChannel" then ["pause_channel"]
  else if up == "UnPauseChannel" then ["unpause_channel"]
  else if up == "EmptyChannel" then ["empty_channel"]
  else []

/-- When does a handler announce what it did: on success; the pause / unpause / empty handlers also when the
action ended in a non-partial error (they notify before they look at the error — what the code does). -/
def announces (handler : String) (status : Nat) : Bool :=
  status == 200 || (status == 502 && isActionHandler handler)

def notesFor (handler : String) (ups : List String) (chanBody : Bool) (status : Nat) : List String :=
  if announces handler status then ups.flatMap (noteOf chanBody) else []

def consistent (cs : List (Cond × Bool)) : Bool :=
  cs.all (fun cb => stateDep cb.1 || !cs.contains (cb.1, !cb.2))

def chanBodyOf (cs : List (Cond × Bool)) : Bool := cs.contains (.bodyFieldNonEmpty "Channel", true)
def chanBodyTested (cs : List (Cond × Bool)) : Bool :=
  cs.contains (.bodyFieldNonEmpty "Channel", true) || cs.contains (.bodyFieldNonEmpty "Channel", false)

/-- On every feasible path on which the endpoint test never fails: the notifications are exactly the ones of
the actions performed, and the path has tested what that depends on. -/
def notifyOk (handler : String) (sk : Skel) : Bool :=
  (paths sk).all (fun p =>
    !consistent p.1 || p.1.contains (.notifyOn, false) ||
      (notesOf p.2.1 == notesFor handler (upstreamsOf p.2.1) (chanBodyOf p.1) p.2.2 &&
       (!(upstreamsOf p.2.1).contains "CreateTopicChannel" || !announces handler p.2.2 || chanBodyTested p.1)))

/-- Every `notify` effect sits in the true branch of an endpoint test (`g` = inside such a branch). -/
def notifyGated : Bool → Skel → Bool
  | _, .ret _ => true
  | _, .unknown _ => true
  | g, .eff (.notify _) k => g && notifyGated false k
  | g, .eff _ k => notifyGated g k
  | _, .ite .notifyOn t e => notifyGated true t && notifyGated false e
  | g, .ite _ t e => notifyGated g t && notifyGated g e

theorem notifyGated_mono (sk : Skel) : notifyGated false sk = true → notifyGated true sk = true := by
  suffices h : ∀ g, notifyGated g sk = true → notifyGated true sk = true from h false
  intro g
  fun_induction notifyGated g sk with
  | case1 g code => intro _; rfl
  | case2 g why => intro _; rfl
  | case3 g a k _ => intro h; rw [Bool.and_eq_true] at h; simp only [notifyGated, h.2, Bool.and_self]
  | case4 g e k hne ih =>
    intro h
    have := ih h
    cases e <;> first | exact this | exact absurd rfl (hne _)
  | case5 g t e _ _ => intro h; simpa only [notifyGated] using h
  | case6 g c t e hne iht ihe =>
    intro h
    rw [Bool.and_eq_true] at h
    have := And.intro (iht h.1) (ihe h.2)
    cases c <;> first | simpa only [notifyGated, Bool.and_eq_true] using this | exact absurd rfl hne

theorem notifyObs_append (a b : List Obs) : notifyObs (a ++ b) = notifyObs a ++ notifyObs b := by
  simp [notifyObs, List.filterMap_append]

theorem notifyObs_doEff (env : Env) (st : St) (e : Eff) (hne : ∀ a, e ≠ .notify a) :
    notifyObs (doEff env st e).obs.reverse = notifyObs st.obs.reverse := by
  rw [doEff_obs, notifyObs_append]
  cases e <;> first | exact List.append_nil _ | exact absurd rfl (hne _)

/-- The only branch in which `notifyGated` admits a `notify` is the true branch of the endpoint test, and that one
is not taken. -/
theorem notifyGated_runSt (env : Env) (hoff : env.conf.notifyOn = false) (g : Bool) (sk : Skel) :
    ∀ st : St, g = false → notifyGated g sk = true →
      notifyObs (runSt env sk st).2 = notifyObs st.obs.reverse := by
  -- `g` is a variable with the hypothesis `g = false`: the arms of `notifyGated` change it, and the induction follows them
  fun_induction notifyGated g sk with
  | case1 g code => intro st _ _; rfl
  | case2 g why => intro st _ _; rfl
  | case3 g a k _ => intro st hg h; rw [hg] at h; cases h
  | case4 g e k hne ih =>
    intro st hg h
    rw [runSt, ih _ hg h, notifyObs_doEff env st e hne]
  | case5 g t e _ ihe =>
    intro st _ h
    rw [Bool.and_eq_true] at h
    simpa [runSt_ite, evalCond, hoff] using ihe st rfl h.2
  | case6 g c t e _ iht ihe =>
    intro st hg h
    rw [Bool.and_eq_true] at h
    rw [runSt_ite]
    split
    · exact iht st hg h.1
    · exact ihe st hg h.2

theorem pathHolds_consistent (env : Env) (cs : List (Cond × Bool)) (h : pathHolds env cs = true) :
    consistent cs = true := by
  simp only [consistent, List.all_eq_true, Bool.or_eq_true, Bool.not_eq_true', Prod.forall]
  intro c b hm
  cases hsd : stateDep c
  · right
    apply Bool.eq_false_iff.2
    intro hcon
    have e1 := pathHolds_mem env cs h c b hm hsd
    have e2 := pathHolds_mem env cs h c (!b) (List.contains_iff_mem.1 hcon) hsd
    rw [e1] at e2
    cases b <;> cases e2
  · exact Or.inl rfl

theorem noteOf_indep (up : String) (h : up ≠ "CreateTopicChannel") (b b' : Bool) : noteOf b up = noteOf b' up := by
  unfold noteOf
  simp [h]

theorem notes_indep (ups : List String) (h : ups.contains "CreateTopicChannel" = false) (b b' : Bool) :
    ups.flatMap (noteOf b) = ups.flatMap (noteOf b') := by
  induction ups with
  | nil => rfl
  | cons u rest ih =>
    simp only [List.contains_cons, Bool.or_eq_false_iff, beq_eq_false_iff_ne, ne_eq] at h
    simp only [List.flatMap_cons]
    rw [noteOf_indep u (fun hh => h.1 hh.symm) b b', ih h.2]

theorem notify_lift (handler : String) (sk : Skel) (hok : notifyOk handler sk = true) (env : Env)
    (hon : env.conf.notifyOn = true) :
    notifyObs (run env sk).2 =
      notesFor handler (upstreamObs (run env sk).2) (env.req.nonEmptyBody.contains "Channel") (run env sk).1 := by
  obtain ⟨p, hp', hrun, h3⟩ := run_path hok env
  have hnof : p.1.contains (Cond.notifyOn, false) = false := by
    apply Bool.eq_false_iff.2
    intro hc
    have := pathHolds_mem env p.1 h3 _ _ (List.contains_iff_mem.1 hc) rfl
    simp [evalCond, hon] at this
  simp only [pathHolds_consistent env p.1 h3, hnof, Bool.not_true, Bool.false_or, Bool.and_eq_true, beq_iff_eq,
    Bool.or_eq_true, Bool.not_eq_true'] at hp'
  obtain ⟨hnotes, htested⟩ := hp'
  rw [hrun, notifyObs_filterMap, upstreamObs_filterMap, hnotes]
  unfold notesFor
  split
  next hann =>
    -- the body's channel matters only when a `CreateTopicChannel` is announced, and then the path has tested it
    cases hcr : (upstreamsOf p.2.1).contains "CreateTopicChannel"
    · exact notes_indep _ hcr _ _
    · have ht : chanBodyTested p.1 = true := by
        rcases htested with (h | h) | h
        · rw [h] at hcr; cases hcr
        · rw [h] at hann; cases hann
        · exact h
      rw [chanBodyOf, pathHolds_tested env p.1 h3 (.bodyFieldNonEmpty "Channel") rfl ht]
      rfl
  next => rfl

end Nsq.Proofs.AdminNotify
