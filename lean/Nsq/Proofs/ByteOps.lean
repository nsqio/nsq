import Nsq.Model.ByteOps
import Nsq.Proofs.Wire
/-! The prelude `Nsq.Model.ByteOps` of the translator kind `bytes`: overwriting and big-endian stores; `hex.Encode` of
big-endian bytes is the big-endian hex rendering, and the big-endian bytes of a value are its shifted-and-truncated
bytes (`Nsq.Proofs.HexBytes`: what `guid.Hex()` stores one by one). -/
namespace Nsq.Proofs.ByteOps
open Nsq.Model.ByteOps Nsq.Model.Wire Nsq.Proofs.Wire

theorem store_zero (dst src : Bytes) : store dst 0 src = src ++ dst.drop src.length := by
  simp [store]

theorem store_all (dst src : Bytes) (h : dst.length ≤ src.length) : store dst 0 src = src := by
  rw [store_zero, List.drop_eq_nil_of_le h, List.append_nil]

theorem store_tail (a b src : Bytes) (n : Nat) (hn : n = a.length) (h : b.length ≤ src.length) :
    store (a ++ b) n src = a ++ src := by
  subst hn
  unfold store
  rw [List.take_left, List.drop_eq_nil_of_le (by simp; omega), List.append_nil]

theorem beBytes_mod (w v : Nat) : beBytes w (v % 256 ^ w) = beBytes w v := by
  have h := beBytes_beVal (beBytes w v)
  rwa [beBytes_length, beVal_beBytes] at h

theorem putBE_length (w : Nat) {n : Nat} (x : BitVec n) : (putBE w x).length = w := beBytes_length _ _

theorem putBE_len (k : Nat) : putBE 4 (BitVec.ofNat 32 k) = beBytes 4 k := by
  unfold putBE
  rw [BitVec.toNat_ofNat]
  exact beBytes_mod 4 k

/-- `uint32(len(data)) + 4` rendered on 4 bytes is the model's `beBytes 4 (len + 4)` -/
theorem putBE_len_add (k c : Nat) :
    putBE 4 (BitVec.ofNat 32 k + BitVec.ofNat 32 c) = beBytes 4 (k + c) := by
  rw [← BitVec.ofNat_add, putBE_len]

theorem slice_length (b : Bytes) (lo hi : Nat) (h : hi ≤ b.length) : (slice b lo hi).length = hi - lo := by
  simp [slice]; omega

theorem toInt_getBE32 (b : Bytes) (h : b.length = 4) : (getBE 32 b).toInt = int32Of (beVal b) := by
  have hlt := beVal_lt b
  rw [h] at hlt
  unfold getBE int32Of
  have hn : (BitVec.ofNat 32 (beVal b)).toNat = beVal b := by
    rw [BitVec.toNat_ofNat]; exact Nat.mod_eq_of_lt (by omega)
  rw [BitVec.toInt_eq_toNat_cond, hn]
  split <;> split <;> omega

end Nsq.Proofs.ByteOps

namespace Nsq.Proofs.HexBytes
open Nsq.Model.ByteOps Nsq.Model.Guid Nsq.Model.Wire

theorem eq_toUInt8_of_toNat {b : UInt8} {n : Nat} (h : b.toNat = n % 256) : b = (n % 256).toUInt8 :=
  UInt8.toNat_inj.mp (by rw [h, UInt8.toNat_ofNat', Nat.mod_mod])

theorem hexEncode_append (a b : Bytes) : hexEncode (a ++ b) = hexEncode a ++ hexEncode b :=
  List.flatMap_append

theorem hexBE_eq_hexEncode (w n : Nat) : hexBE (2 * w) n = hexEncode (beBytes w n) := by
  induction w generalizing n with
  | zero => rfl
  | succ w ih =>
    have last : hexEncode [(n % 256).toUInt8] = [hexDigit (n / 16 % 16), hexDigit (n % 16)] := by
      show [hexDigit ((n % 256).toUInt8.toNat / 16), hexDigit ((n % 256).toUInt8.toNat % 16)] = _
      rw [UInt8.toNat_ofNat', Nat.mod_mod, show n % 256 / 16 = n / 16 % 16 by omega, show n % 256 % 16 = n % 16 by omega]
    rw [show 2 * (w + 1) = 2 * w + 1 + 1 from rfl, hexBE, hexBE, Nat.div_div_eq_div_mul, ih, beBytes, hexEncode_append,
      last, List.append_assoc]
    rfl

theorem beBytes_shift (w k n : Nat) :
    beBytes (w + 1) (n / 2 ^ k) = beBytes w (n / 2 ^ (k + 8)) ++ [(n / 2 ^ k % 256).toUInt8] := by
  rw [beBytes, Nat.div_div_eq_div_mul, Nat.pow_add]

theorem beBytes_low (w n : Nat) : beBytes (w + 1) n = beBytes w (n / 2 ^ 8) ++ [(n % 256).toUInt8] := rfl

end Nsq.Proofs.HexBytes
