import Nsq.Model.Meta
/-! The map operations of `Model.Meta` as list facts (`modFirst`, `find?`, `eraseP` under one predicate split the
list at one position; they act on the first match, so the laws of `Proofs/Keyed`, stated on `map` / `filter`, are not
theirs), which changes of the maps a snapshot does not see, and three facts on prefixes and `dropLast` for the
invariants. -/
namespace Nsq.Proofs.Meta
open Nsq.Model.Meta

theorem sublist_snoc_of_getLast? {α} {r l : List α} {a : α} (hs : r.Sublist l.dropLast)
    (h : l.getLast? = some a) : (r ++ [a]).Sublist l := by
  obtain ⟨ys, rfl⟩ := List.getLast?_eq_some_iff.mp h
  rw [List.dropLast_concat] at hs
  exact hs.append (List.Sublist.refl _)

theorem prefix_snoc_getElem {α} {a l : List α} {e : α} (hp : a <+: l) (he : l[a.length]? = some e) :
    a ++ [e] <+: l := by
  obtain ⟨t, rfl⟩ := hp
  cases t with
  | nil => simp at he
  | cons x xs =>
    simp at he; subst he
    exact ⟨xs, by simp⟩

theorem prefix_full {α} {a l : List α} (hp : a <+: l) (he : l[a.length]? = none) : a = l :=
  hp.eq_of_length_le (List.getElem?_eq_none_iff.1 he)

theorem modFirst_decomp {α} {p : α → Bool} (f : α → α) (l1 l2 : List α) (a : α)
    (hn : ∀ x ∈ l1, p x = false) (hp : p a = true) :
    modFirst p f (l1 ++ a :: l2) = l1 ++ f a :: l2 := by
  induction l1 with
  | nil => simp only [List.nil_append, modFirst, hp, if_true]
  | cons x xs ih =>
    have hx : p x = false := hn x List.mem_cons_self
    simp only [List.cons_append, modFirst, hx, Bool.false_eq_true, if_false]
    rw [ih (fun y hy => hn y (List.mem_cons_of_mem _ hy))]

theorem find?_split {α} {p : α → Bool} {l : List α} {a : α} (h : l.find? p = some a) :
    ∃ l1 l2, l = l1 ++ a :: l2 ∧ (∀ f, modFirst p f l = l1 ++ f a :: l2) ∧ l.eraseP p = l1 ++ l2 := by
  obtain ⟨hp, l1, l2, rfl, hn⟩ := List.find?_eq_some_iff_append.mp h
  have hn' : ∀ x ∈ l1, p x = false := fun x hx => eq_false_of_ne_true (by simpa using hn x hx)
  refine ⟨l1, l2, rfl, fun f => modFirst_decomp f l1 l2 a hn' hp, ?_⟩
  rw [List.eraseP_append_right _ (fun x hx => by rw [hn' x hx]; exact Bool.false_ne_true),
    List.eraseP_cons_of_pos hp]

theorem getTopic_split {m : Mem} {t : String} {tp : Topic} (h : getTopic m t = some tp) :
    ∃ l1 l2, m = l1 ++ tp :: l2 ∧ (∀ f, modTopic m t f = l1 ++ f tp :: l2) ∧ dropTopic m t = l1 ++ l2 :=
  find?_split h

theorem filter_map_modFirst_same {α γ} (p q : α → Bool) (g : α → γ) (f : α → α) (l : List α)
    (hf : ∀ x, q (f x) = q x ∧ g (f x) = g x) :
    ((modFirst p f l).filter (fun a => !q a)).map g = (l.filter (fun a => !q a)).map g := by
  induction l with
  | nil => rfl
  | cons x xs ih =>
    simp only [modFirst]
    split
    · simp only [List.filter_cons, (hf x).1]
      split
      · simp only [List.map_cons, (hf x).2]
      · rfl
    · simp only [List.filter_cons]
      split
      · simp only [List.map_cons, ih]
      · exact ih

theorem modFirst_map {α γ : Type} (p : α → Bool) (f : α → α) (g : α → γ) (hg : ∀ x, g (f x) = g x)
    (l : List α) : (modFirst p f l).map g = l.map g := by
  induction l with
  | nil => rfl
  | cons x xs ih =>
    simp only [modFirst]
    split
    · rw [List.map_cons, hg]; rfl
    · rw [List.map_cons, ih]; rfl

theorem modFirst_forall {α : Type} (P : α → Prop) (p : α → Bool) (f : α → α) (l : List α)
    (hl : ∀ x ∈ l, P x) (hf : ∀ x, P x → P (f x)) : ∀ x ∈ modFirst p f l, P x := by
  induction l with
  | nil => exact hl
  | cons y ys ih =>
    have hy : P y := hl y List.mem_cons_self
    have hys : ∀ x ∈ ys, P x := fun x hx => hl x (List.mem_cons_of_mem _ hx)
    simp only [modFirst]
    split
    · exact List.forall_mem_cons.mpr ⟨hf y hy, hys⟩
    · exact List.forall_mem_cons.mpr ⟨hy, ih hys⟩

theorem modFirst_exists {α : Type} (P : α → Prop) (p : α → Bool) (f : α → α) (hf : ∀ x, P x → P (f x)) :
    ∀ l : List α, (∃ x ∈ l, P x) → ∃ x ∈ modFirst p f l, P x := by
  intro l
  induction l with
  | nil => exact id
  | cons y ys ih =>
    rintro ⟨x, hx, hP⟩
    simp only [modFirst]
    rcases List.mem_cons.mp hx with rfl | h
    · split
      · exact ⟨f x, List.mem_cons_self, hf x hP⟩
      · exact ⟨x, List.mem_cons_self, hP⟩
    · split
      · exact ⟨x, List.mem_cons_of_mem _ h, hP⟩
      · obtain ⟨z, hz, hPz⟩ := ih ⟨x, h, hP⟩
        exact ⟨z, List.mem_cons_of_mem _ hz, hPz⟩

theorem mem_map_filter_not {α γ} {q : α → Bool} {g : α → γ} {l : List α} {b : γ} :
    b ∈ (l.filter (fun a => !q a)).map g ↔ ∃ a ∈ l, q a = false ∧ b = g a := by
  constructor
  · intro h
    obtain ⟨a, ha, rfl⟩ := List.mem_map.mp h
    obtain ⟨hl, hq⟩ := List.mem_filter.mp ha
    exact ⟨a, hl, (Bool.not_eq_true' _).mp hq, rfl⟩
  · rintro ⟨a, hl, hq, rfl⟩
    exact List.mem_map_of_mem (List.mem_filter.mpr ⟨hl, (Bool.not_eq_true' _).mpr hq⟩)

theorem mem_snap {m : Mem} {e : TopicM} : e ∈ snap m ↔ ∃ t ∈ m, t.eph = false ∧ e = snapTopic t :=
  mem_map_filter_not

theorem mem_snapTopic_chans {t : Topic} {c : ChanM} :
    c ∈ (snapTopic t).chans ↔ ∃ x ∈ t.chans, x.eph = false ∧ c = snapChan x :=
  mem_map_filter_not

theorem snap_append (a b : Mem) : snap (a ++ b) = snap a ++ snap b := by
  simp only [snap, List.filter_append, List.map_append]

theorem snap_cons (t : Topic) (b : Mem) :
    snap (t :: b) = (if t.eph then [] else [snapTopic t]) ++ snap b := by
  cases h : t.eph <;> simp [snap, h]

theorem snap_update (l1 l2 : Mem) {a b : Topic} (he : b.eph = a.eph)
    (hs : a.eph = false → snapTopic b = snapTopic a) : snap (l1 ++ b :: l2) = snap (l1 ++ a :: l2) := by
  simp only [snap_append, snap_cons, he]
  cases ha : a.eph
  · rw [hs ha]
  · rfl

theorem snap_modTopic_same (m : Mem) (t : String) (f : Topic → Topic)
    (hf : ∀ x, (f x).eph = x.eph ∧ snapTopic (f x) = snapTopic x) :
    snap (modTopic m t f) = snap m :=
  filter_map_modFirst_same _ _ _ _ _ hf

theorem snap_dropTopic_eph {m : Mem} {t : String} {tp : Topic}
    (hg : getTopic m t = some tp) (he : tp.eph = true) : snap (dropTopic m t) = snap m := by
  obtain ⟨l1, l2, rfl, -, hdrop⟩ := getTopic_split hg
  rw [hdrop]
  simp only [snap_append, snap_cons, he, if_true, List.nil_append]

theorem snapTopic_modChan_same (tp : Topic) (c : String) (f : Chan → Chan)
    (hf : ∀ x, (f x).eph = x.eph ∧ snapChan (f x) = snapChan x) :
    snapTopic (modChan tp c f) = snapTopic tp :=
  congrArg (TopicM.mk tp.name tp.paused)
    (filter_map_modFirst_same _ _ _ _ _ hf)

theorem snapTopic_dropChan_eph {tp : Topic} {c : String} {ch : Chan}
    (hg : getChan tp c = some ch) (he : ch.eph = true) :
    snapTopic (dropChan tp c) = snapTopic tp := by
  obtain ⟨l1, l2, hl, -, hdrop⟩ := find?_split hg
  unfold snapTopic dropChan
  rw [hdrop, hl]
  simp [he]

end Nsq.Proofs.Meta
