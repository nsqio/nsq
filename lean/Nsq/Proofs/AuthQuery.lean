import Nsq.Model.AuthQuery
import Nsq.Proofs.Lines
/-!
Three groups for `Nsq.Props.C11Auth`: the query string (`unescape` undoes `queryEscape`, which emits no separator, so a
`key=value` segment parses back to its pair: `parsePairs_seg`), the walk over the auth servers (`walk_cases`), the 64-bit
product of the TTL (`wrap64_eq`, `wrap64_le`).
-/
namespace Nsq.Proofs.AuthQuery
open Nsq.Model.AuthQuery Nsq.Model.HttpApi Nsq.Model.Names Nsq.Model

theorem hexVal_upperHex : ∀ n : Fin 16, hexVal (upperHex n.val) = some n.val := by decide

theorem unreserved_ne (c : UInt8) (h : unreserved c = true) : c ≠ 37 ∧ c ≠ 43 ∧ c ≠ 38 ∧ c ≠ 61 ∧ c ≠ 59 := by
  refine ⟨?_, ?_, ?_, ?_, ?_⟩ <;> (intro e; subst e; simp [unreserved] at h)

theorem unescape_queryEscape (s : Bytes) : unescape (queryEscape s) = some s := by
  unfold unescape
  fun_induction queryEscape s with
  | case1 => rfl
  | case2 c r hu ih =>
    have hne := unreserved_ne c hu
    simp only [unescapeGo, hne.1, if_false, ih, hne.2.1]
  | case3 r hu ih => simp [unescapeGo, ih]
  | case4 c r hu h32 ih =>   -- `%XX`: each hex digit is read back (`hexVal_upperHex`), and `16 * (c / 16) + c % 16 = c`
    have hlt : c.toNat < 256 := c.toNat_lt
    have h1 := hexVal_upperHex ⟨c.toNat / 16, by omega⟩
    have h2 := hexVal_upperHex ⟨c.toNat % 16, by omega⟩
    simp only at h1 h2
    simp only [unescapeGo, if_true, h1, h2, ih, Nat.div_add_mod', Nat.toUInt8_eq, UInt8.ofNat_toNat]

/-- 38, 61, 59 are `&`, `=`, `;`, the separators of the query syntax. -/
theorem queryEscape_safe (s : Bytes) : ∀ c ∈ queryEscape s, c ≠ 38 ∧ c ≠ 61 ∧ c ≠ 59 := by
  have hx : ∀ n : Fin 16, upperHex n.val ≠ 38 ∧ upperHex n.val ≠ 61 ∧ upperHex n.val ≠ 59 := by decide
  fun_induction queryEscape s with
  | case1 => nofun
  | case2 c r hu ih => exact List.forall_mem_cons.2 ⟨(unreserved_ne c hu).2.2, ih⟩
  | case3 r hu ih => exact List.forall_mem_cons.2 ⟨by decide, ih⟩
  | case4 c r hu h32 ih =>
    have hlt := c.toNat_lt
    exact List.forall_mem_cons.2 ⟨by decide, List.forall_mem_cons.2 ⟨hx ⟨c.toNat / 16, by omega⟩,
      List.forall_mem_cons.2 ⟨hx ⟨c.toNat % 16, by omega⟩, ih⟩⟩⟩

theorem splitOn_eq (sep : UInt8) (a : Bytes) : splitOn sep a = Nsq.Model.Split.splitOn sep a := by
  induction a with
  | nil => rfl
  | cons c a ih => rw [splitOn, Nsq.Model.Split.splitOn, ih]; rfl

theorem cutEq_append : ∀ (k v : Bytes), (∀ c ∈ k, c ≠ 61) → cutEq (k ++ 61 :: v) = (k, v)
  | [], v, _ => by simp [cutEq]
  | x :: r, v, h => by
    have hx : x ≠ 61 := h x (by simp)
    have ih := cutEq_append r v (fun c hc => h c (by simp [hc]))
    simp [cutEq, hx, ih]

/-- One `key=value` segment as `Values.Encode` writes it. -/
def seg (k v : Bytes) : Bytes := k ++ 61 :: queryEscape v

/-- What `parsePairs_seg` needs of a key: it holds none of the separators `&`, `=`, `;`, and `unescape` leaves it as it is. -/
def KeyOK (k : Bytes) : Prop := (∀ c ∈ k, c ≠ 38 ∧ c ≠ 61 ∧ c ≠ 59) ∧ unescape k = some k

theorem seg_no_sep (k v : Bytes) (hk : KeyOK k) : 38 ∉ seg k v ∧ 59 ∉ seg k v := by
  unfold seg
  simp only [List.mem_append, List.mem_cons, not_or]
  exact ⟨⟨fun h => (hk.1 _ h).1 rfl, by decide, fun h => (queryEscape_safe v _ h).1 rfl⟩,
    ⟨fun h => (hk.1 _ h).2.2 rfl, by decide, fun h => (queryEscape_safe v _ h).2.2 rfl⟩⟩

theorem parsePairs_seg (k v : Bytes) (hk : KeyOK k) (rest : List Bytes) :
    parsePairs (seg k v :: rest) = (parsePairs rest).map (fun r => (k, v) :: r) := by
  have h59 : (seg k v).contains 59 = false := by simpa using (seg_no_sep k v hk).2
  have hne : (seg k v).isEmpty = false := by
    unfold seg
    cases k <;> rfl
  have hcut : cutEq (seg k v) = (k, queryEscape v) := cutEq_append k _ (fun c hc => (hk.1 c hc).2.1)
  conv => lhs; unfold parsePairs
  simp only [h59, hne, Bool.false_eq_true, if_false, hcut, hk.2, unescape_queryEscape]
  cases parsePairs rest <;> rfl

theorem keys_ok : KeyOK kCommonName ∧ KeyOK kRemoteIP ∧ KeyOK kSecret ∧ KeyOK kTLS := by
  unfold KeyOK; decide +kernel

/-- Stated with `k` servers still to try from any offset `i`: the induction needs `i` free. -/
theorem walk_cases {n start : Nat} {ok : Nat → Bool} {k i : Nat} {asked : List Nat} {ans : Option Nat}
    (h : walk n start ok k i = (asked, ans)) :
    asked = (List.range' i asked.length).map (fun j => (j + start) % n) ∧
    ((ans = none ∧ asked.length = k ∧ ∀ x ∈ asked, ok x = false) ∨
     ∃ pre r, asked = pre ++ [r] ∧ ans = some r ∧ pre.length < k ∧ ok r = true ∧ ∀ x ∈ pre, ok x = false) := by
  induction k generalizing i asked ans with
  | zero => cases h; exact ⟨rfl, .inl ⟨rfl, rfl, nofun⟩⟩
  | succ k ih =>
    obtain ⟨h1, h2⟩ := ih (i := i + 1) rfl
    unfold walk at h
    split at h <;> cases h
    next hok => exact ⟨rfl, .inr ⟨[], _, rfl, rfl, Nat.succ_pos k, hok, nofun⟩⟩
    next hok =>
      have h' : ok ((i + start) % n) = false := by simpa using hok
      refine ⟨congrArg (_ :: ·) h1, ?_⟩
      rcases h2 with ⟨hn, hl, hf⟩ | ⟨pre, r, e, hr, hl, hk, hf⟩
      · exact .inl ⟨hn, congrArg (· + 1) hl, List.forall_mem_cons.2 ⟨h', hf⟩⟩
      · exact .inr ⟨_ :: pre, r, congrArg (_ :: ·) e, hr, Nat.succ_lt_succ hl, hk, List.forall_mem_cons.2 ⟨h', hf⟩⟩

theorem wrap64_eq (x : Int) (h1 : -9223372036854775808 ≤ x) (h2 : x < 9223372036854775808) : wrap64 x = x :=
  Int.bmod_eq_of_le h1 h2

theorem wrap64_le (x : Int) (h : 0 ≤ x) : wrap64 x ≤ x := by
  unfold wrap64 Int.bmod
  simp only []
  omega

end Nsq.Proofs.AuthQuery
