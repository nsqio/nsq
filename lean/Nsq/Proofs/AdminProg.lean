import Nsq.Model.AdminProg
/-!
Every translated `ClusterInfo` method (`Nsq.Model.AdminProg`) runs under the aggregate policy, so a run is the run of
the operations whose guard holds, each as an `agg` step (`run_live`), and one lemma says what such a step does to the
state (`execStep_agg`); the rest is induction over any list of operations. What is asked of the ten programs is a
decidable checker on their operations (`fans` against the tables `lookupdCmds` / `nsqdCmd` / `lookupOf`, `lookupFirst`).
-/
namespace Nsq.Proofs.AdminProg
open Nsq.Model.AdminFanout Nsq.Model.AdminProg

theorem failCount_append (w : World) (xs ys : List PReq) :
    failCount w (xs ++ ys) = failCount w xs + failCount w ys := by
  simp [failCount, List.filter_append]

/-- As long as no non-partial error was returned, `errs` holds exactly one entry per failed request sent so far. -/
def Accounted (w : World) (st : St) : Prop :=
  st.aborted = false → st.errs = failCount w st.reqs

/-- The commands an action sends to the nsqlookupds (uri, query string). -/
def lookupdCmds (a : Action) : List (String × QS) :=
  match a.kind with
  | .createTopic => [("topic/create", .topic)]
  | .createChannel => [("topic/create", .topic), ("channel/create", .topicChannel)]
  | .deleteTopic => [("topic/delete", .topic)]
  | .deleteChannel => [("channel/delete", .topicChannel)]
  | .tombstone => [("topic/tombstone", .topicNode)]
  | _ => []

def nsqdCmd : Kind → Option (String × QS)
  | .createTopic => none
  | .createChannel => some ("channel/create", .topicChannel)
  | .deleteTopic => some ("topic/delete", .topic)
  | .deleteChannel => some ("channel/delete", .topicChannel)
  | .pauseTopic => some ("topic/pause", .topic)
  | .unpauseTopic => some ("topic/unpause", .topic)
  | .emptyTopic => some ("topic/empty", .topic)
  | .pauseChannel => some ("channel/pause", .topicChannel)
  | .unpauseChannel => some ("channel/unpause", .topicChannel)
  | .emptyChannel => some ("channel/empty", .topicChannel)
  | .tombstone => some ("topic/delete", .topic)

/-- As the handlers build them: `createTopic` without a channel, `createChannel` with one (the proofs use the second only). -/
def Action.wf (a : Action) : Prop :=
  (a.kind = .createTopic → a.channel = "") ∧ (a.kind = .createChannel → a.channel ≠ "")

def sel (t : Target) (path qs : String) : PReq → Bool :=
  fun r => r.post && (r.target == t && (r.path == path && r.qs == qs))

def postsTo (st : St) (t : Target) (path qs : String) : List String :=
  (st.reqs.filter (sel t path qs)).map (·.addr)

def lookupOf : Kind → Option Lookup
  | .createTopic => none
  | .createChannel => some .lookupdTopicProducers
  | .tombstone => some .nsqdProducersOfNode
  | _ => some .topicProducers

def getsFirst (rs : List PReq) : Prop :=
  ∃ gs ps, rs = gs ++ ps ∧ (∀ r ∈ gs, r.post = false) ∧ (∀ r ∈ ps, r.post = true)

def isPost : Op → Bool
  | .lookup _ => false
  | _ => true

section
variable (w : World) (a : Action)

theorem execStep_aborted (st : St) (s : Step) (h : st.aborted = true) : execStep w a st s = st := by
  simp [execStep, h]

theorem runSteps_aborted (steps : List Step) (st : St) (h : st.aborted = true) : runSteps w a steps st = st := by
  induction steps with
  | nil => rfl
  | cons s rest ih => rw [runSteps, execStep_aborted w a st s h, ih]

theorem execStep_agg (st : St) (op : Op) (h : st.aborted = false) :
    (execStep w a st (agg op)).reqs = st.reqs ++ (opReqs w a st.producers op).reqs ∧
    (execStep w a st (agg op)).aborted = (opReqs w a st.producers op).allFailed ∧
    ((opReqs w a st.producers op).allFailed = false →
      (execStep w a st (agg op)).errs = st.errs + failCount w (opReqs w a st.producers op).reqs ∧
      (execStep w a st (agg op)).producers = (opReqs w a st.producers op).producers) := by
  by_cases hf : (opReqs w a st.producers op).allFailed = true <;>
    simp [execStep, agg, guardHolds, h, hf, St.reqs]

theorem runSteps_cons_live (op : Op) (rest : List Op) (st : St) (hst : st.aborted = false)
    (hab : (runSteps w a ((op :: rest).map agg) st).aborted = false) :
    (opReqs w a st.producers op).allFailed = false ∧ (execStep w a st (agg op)).aborted = false ∧
    (execStep w a st (agg op)).reqs = st.reqs ++ (opReqs w a st.producers op).reqs ∧
    (execStep w a st (agg op)).producers = (opReqs w a st.producers op).producers := by
  obtain ⟨h1, h2, h3⟩ := execStep_agg w a st op hst
  have hf : (opReqs w a st.producers op).allFailed = false := by
    cases hf : (opReqs w a st.producers op).allFailed
    · rfl
    · rw [List.map_cons, runSteps, runSteps_aborted w a _ _ (h2.trans hf), h2] at hab
      exact hf.symm.trans hab
  exact ⟨hf, h2.trans hf, h1, (h3 hf).2⟩

/-- The operations whose guard holds, in order; `ch`: a channel is given. -/
def live (ch : Bool) (steps : List Step) : List Op :=
  (steps.filter (fun s => s.guard == .always || ch)).map (·.op)

theorem execStep_guard (st : St) (g : Guard) (op : Op) :
    execStep w a st ⟨g, op, .aggregate⟩ =
      if g == .always || a.channel != "" then execStep w a st (agg op) else st := by
  cases g
  · rfl
  · cases h : a.channel != ""
    · simp [execStep, guardHolds, h]
    · simp only [execStep, guardHolds, agg, h]; rfl

theorem runSteps_live (steps : List Step) (hall : ∀ s ∈ steps, s.onErr = .aggregate) (st : St) :
    runSteps w a steps st = runSteps w a ((live (a.channel != "") steps).map agg) st := by
  induction steps generalizing st with
  | nil => rfl
  | cons s rest ih =>
    obtain ⟨g, op, oe⟩ := s
    obtain rfl : oe = .aggregate := hall _ List.mem_cons_self
    rw [runSteps, execStep_guard, ih (fun s hs => hall s (List.mem_cons_of_mem _ hs))]
    simp only [live, List.filter_cons]
    split <;> rfl

theorem run_live (p : Prog) (hp : allAggregate p = true) :
    run w a p = runSteps w a ((live (a.channel != "") p.steps).map agg) {} := by
  simp only [allAggregate, Bool.and_eq_true, List.all_eq_true, beq_iff_eq] at hp
  exact runSteps_live w a _ hp.1 {}

theorem runSteps_accounted (ops : List Op) (st : St) (h : Accounted w st) :
    Accounted w (runSteps w a (ops.map agg) st) := by
  induction ops generalizing st with
  | nil => exact h
  | cons op rest ih =>
    refine ih _ ?_
    cases hab : st.aborted
    · obtain ⟨h1, h2, h3⟩ := execStep_agg w a st op hab
      intro hlive
      rw [(h3 (h2.symm.trans hlive)).1, h1, failCount_append, h hab]
    · rwa [execStep_aborted w a st _ hab]

theorem run_accounted (p : Prog) (hp : allAggregate p = true) : Accounted w (run w a p) := by
  rw [run_live w a p hp]
  exact runSteps_accounted w a _ {} (fun _ => rfl)

end

theorem resultOf_errList (p : Prog) (st : St) (hend : p.ending = .errList) :
    ((resultOf p st).1 = .none → st.aborted = false ∧ st.errs = 0) ∧
    ((resultOf p st).1 = .partialErr → st.aborted = false ∧ 0 < st.errs ∧ (resultOf p st).2 = st.errs) := by
  unfold resultOf
  cases st.aborted
  · by_cases he : st.errs > 0
    · simp [hend, he]
    · simp [hend, he]; omega
  · simp

theorem failCount_zero (w : World) (rs : List PReq) (h : failCount w rs = 0) :
    ∀ r ∈ rs, fails w r = false := by
  simpa only [failCount, List.length_eq_zero_iff, List.filter_eq_nil_iff, Bool.not_eq_true] using h

theorem mem_dedup (x : String) (l : List String) : x ∈ dedup l ↔ x ∈ l := by
  induction l with
  | nil => simp [dedup]
  | cons y ys ih =>
    simp only [dedup, List.mem_cons, List.mem_filter, bne_iff_ne, ne_eq]
    by_cases hxy : x = y
    · simp [hxy]
    · simp [hxy, ih]

theorem dedup_nodup (l : List String) : (dedup l).Nodup := by
  induction l with
  | nil => simp [dedup]
  | cons y ys ih =>
    simp only [dedup, List.nodup_cons, List.mem_filter, bne_iff_ne, ne_eq, not_true_eq_false,
      and_false, not_false_eq_true, true_and]
    exact List.Pairwise.filter _ ih

theorem lookup_reqs_get (w : World) (a : Action) (l : Lookup) : ∀ r ∈ (doLookup w a l).reqs, r.post = false := by
  intro r hr
  cases l <;> simp only [doLookup, lookupdTopicProducers, nsqdTopicProducers, nsqdProducersOfNode] at hr
  · split at hr
    · simp only [List.mem_map] at hr; obtain ⟨_, _, rfl⟩ := hr; rfl
    · simp only [List.mem_flatMap, List.mem_cons] at hr
      obtain ⟨n, _, h | h⟩ := hr
      · subst h; rfl
      · split at h
        · simp at h; subst h; rfl
        · cases h
  · simp only [List.mem_map] at hr; obtain ⟨_, _, rfl⟩ := hr; rfl
  · simp only [List.mem_cons] at hr
    rcases hr with h | h
    · subst h; rfl
    · split at h
      · simp at h; subst h; rfl
      · cases h

theorem sel_gets (w : World) (a : Action) (l : Lookup) (t : Target) (p q : String) :
    (doLookup w a l).reqs.filter (sel t p q) = [] := by
  rw [List.filter_eq_nil_iff]
  intro r hr
  simp [sel, lookup_reqs_get w a l r hr]

section
variable (w : World) (a : Action)

def sent (ps : List String) (ops : List Op) : List PReq := ops.flatMap (fun op => (opReqs w a ps op).reqs)

theorem opReqs_post (ps : List String) (op : Op) (hp : isPost op = true) :
    (opReqs w a ps op).allFailed = false ∧ (opReqs w a ps op).producers = ps ∧
    ∀ r ∈ (opReqs w a ps op).reqs, r.post = true := by
  cases op with
  | lookup l => cases hp
  | _ =>
    refine ⟨rfl, rfl, fun r hr => ?_⟩
    simp only [opReqs, List.mem_map] at hr; obtain ⟨_, _, rfl⟩ := hr; rfl

theorem runSteps_posts (ops : List Op) (h : ∀ op ∈ ops, isPost op = true) (st : St) (hst : st.aborted = false) :
    (runSteps w a (ops.map agg) st).reqs = st.reqs ++ sent w a st.producers ops ∧
    (runSteps w a (ops.map agg) st).aborted = false ∧
    (runSteps w a (ops.map agg) st).producers = st.producers := by
  induction ops generalizing st with
  | nil => simp [runSteps, sent, hst]
  | cons op rest ih =>
    obtain ⟨hf, hps, _⟩ := opReqs_post w a st.producers op (h op List.mem_cons_self)
    obtain ⟨h1, h2, h3⟩ := execStep_agg w a st op hst
    obtain ⟨k1, k2, k3⟩ := ih (fun o ho => h o (List.mem_cons_of_mem _ ho)) _ (h2.trans hf)
    rw [(h3 hf).2, hps] at k1 k3
    exact ⟨by rw [List.map_cons, runSteps, k1, h1, List.append_assoc]; rfl, k2, k3⟩

def dest (ps : List String) : Op → List String
  | .lookupdPost _ _ => w.lookupds.map (·.addr)
  | .producersPost _ _ => ps
  | .lookup _ => []

/-- The requests of `op` are among those `sel t p q` selects; they go to `dest` (`posts_opReqs`). -/
def hits (t : Target) (p q : String) : Op → Bool
  | .lookupdPost u k => .lookupd == t && (pathOf u == p && qsOf a k == q)
  | .producersPost u k => .nsqd == t && (pathOf u == p && qsOf a k == q)
  | .lookup _ => false

theorem sel_posts {ι : Type} (xs : List ι) (f : ι → String) (t' t : Target) (p' q' p q : String) :
    ((xs.map (fun x => (⟨true, t', f x, p', q'⟩ : PReq))).filter (sel t p q)).map (·.addr) =
      if t' == t && (p' == p && q' == q) then xs.map f else [] := by
  have h : ∀ r ∈ xs.map (fun x => (⟨true, t', f x, p', q'⟩ : PReq)),
      sel t p q r = (t' == t && (p' == p && q' == q)) := by
    intro r hr
    obtain ⟨_, _, rfl⟩ := List.mem_map.1 hr
    rfl
  rw [List.filter_congr h]
  cases t' == t && (p' == p && q' == q)
  · simp
  · rw [List.filter_eq_self.2 (fun _ _ => rfl)]; simp [Function.comp_def]

theorem posts_opReqs (ps : List String) (t : Target) (p q : String) (op : Op) :
    ((opReqs w a ps op).reqs.filter (sel t p q)).map (·.addr) = if hits a t p q op then dest w ps op else [] := by
  cases op with
  | lookup l => rw [opReqs, sel_gets]; rfl
  | lookupdPost u k => exact sel_posts ..
  | producersPost u k => exact (sel_posts ps id ..).trans (by rw [List.map_id]; rfl)

/-- Every POST to the producers is followed by POST loops only, so it goes to the producers the run ends with. -/
def settled : List Op → Bool
  | [] => true
  | .producersPost _ _ :: rest => rest.all isPost && settled rest
  | _ :: rest => settled rest

theorem posts_run (t : Target) (p q : String) (ops : List Op) (hok : settled ops = true) (st : St)
    (hst : st.aborted = false) (hab : (runSteps w a (ops.map agg) st).aborted = false) :
    postsTo (runSteps w a (ops.map agg) st) t p q =
      postsTo st t p q ++ (ops.filter (hits a t p q)).flatMap (dest w (runSteps w a (ops.map agg) st).producers) := by
  induction ops generalizing st with
  | nil => simp [runSteps]
  | cons op rest ih =>
    obtain ⟨hf, h1, h2, h3⟩ := runSteps_cons_live w a op rest st hst hab
    rw [List.map_cons, runSteps] at hab ⊢
    have hok' : settled rest = true ∧ dest w st.producers op =
        dest w (runSteps w a (rest.map agg) (execStep w a st (agg op))).producers op := by
      cases op with
      | producersPost u k =>
        rw [settled, Bool.and_eq_true] at hok
        -- the POST loops that follow leave the producers as they are
        exact ⟨hok.2, ((runSteps_posts w a rest (List.all_eq_true.1 hok.1) _ h1).2.2.trans h3).symm⟩
      | _ => exact ⟨hok, rfl⟩
    have hp : postsTo (execStep w a st (agg op)) t p q =
        postsTo st t p q ++ if hits a t p q op then dest w st.producers op else [] := by
      rw [postsTo, h2, List.filter_append, List.map_append, posts_opReqs]; rfl
    rw [ih hok'.1 _ h1 hab, hp, List.filter_cons, hok'.2]
    split <;> simp

def lastLookup (acc : Option Lookup) (ops : List Op) : Option Lookup :=
  ops.foldl (fun acc op => match op with | .lookup l => some l | _ => acc) acc

theorem producers_run (ops : List Op) (st : St) (acc : Option Lookup) (hst : st.aborted = false)
    (hacc : ∀ l, acc = some l → st.producers = (doLookup w a l).producers ∧ (doLookup w a l).allFailed = false)
    (hab : (runSteps w a (ops.map agg) st).aborted = false) (l : Lookup) (hl : lastLookup acc ops = some l) :
    (runSteps w a (ops.map agg) st).producers = (doLookup w a l).producers ∧ (doLookup w a l).allFailed = false := by
  induction ops generalizing st acc with
  | nil => exact hacc l hl
  | cons op rest ih =>
    obtain ⟨hf, h1, _, h3⟩ := runSteps_cons_live w a op rest st hst hab
    refine ih _ _ h1 (fun l' hl' => ?_) hab hl
    rw [h3]
    cases op with
    | lookup l0 => obtain rfl : l0 = l' := Option.some.inj hl'; exact ⟨rfl, hf⟩
    | _ => exact hacc l' hl'

def twin : Op → Op → Bool
  | .lookupdPost u _, .lookupdPost u' _ => u == u'
  | .producersPost u _, .producersPost u' _ => u == u'
  | _, _ => false

/-- `op` is the only operation of `ops` with its kind and uri (`twin`): what "each once" in `fans` rests on. -/
def sole (ops : List Op) (op : Op) : Bool := ops.filter (twin op) == [op]

theorem hits_sole (ops : List Op) (op : Op) (h : sole ops op = true) (t : Target) (p q : String)
    (hop : hits a t p q op = true) : ops.filter (hits a t p q) = [op] := by
  rw [← beq_iff_eq.1 h]
  refine List.filter_congr (fun o ho => Bool.eq_iff_iff.2 ⟨fun hh => ?_, fun ht => ?_⟩)
  · -- a `lookup` hits nothing and two kinds would need two targets; for one kind the paths agree, so the uris do
    cases op <;> cases o <;> simp only [hits, Bool.and_eq_true, beq_iff_eq, Bool.false_eq_true] at hop hh <;>
      obtain ⟨rfl, rfl, rfl⟩ := hop <;> simp [twin, pathOf, String.append_right_inj] at hh ⊢ <;> exact hh.1.symm
  · have : o ∈ ops.filter (twin op) := List.mem_filter.2 ⟨ho, ht⟩
    rw [beq_iff_eq.1 h, List.mem_singleton] at this
    rwa [this]

/-- The operations send each command of `cmds` to the nsqlookupds and `nc` to the producers found by the lookup
`lk`, each once. -/
def fans (ops : List Op) (cmds : List (String × QS)) (nc : Option (String × QS)) (lk : Option Lookup) : Bool :=
  settled ops && cmds.all (fun c => sole ops (.lookupdPost c.1 c.2)) &&
  nc.all (fun c => sole ops (.producersPost c.1 c.2)) && lk.all (fun l => lastLookup none ops == some l)

theorem fans_ok (ops : List Op) (cmds : List (String × QS)) (nc : Option (String × QS)) (lk : Option Lookup)
    (h : fans ops cmds nc lk = true) (hab : (runSteps w a (ops.map agg) {}).aborted = false) :
    (∀ c ∈ cmds, postsTo (runSteps w a (ops.map agg) {}) .lookupd (pathOf c.1) (qsOf a c.2) = w.lookupds.map (·.addr)) ∧
    (∀ c, nc = some c → postsTo (runSteps w a (ops.map agg) {}) .nsqd (pathOf c.1) (qsOf a c.2) =
      (runSteps w a (ops.map agg) {}).producers) ∧
    (∀ l, lk = some l → (runSteps w a (ops.map agg) {}).producers = (doLookup w a l).producers ∧
      (doLookup w a l).allFailed = false) := by
  simp only [fans, Bool.and_eq_true, List.all_eq_true, Option.all_eq_true, beq_iff_eq] at h
  obtain ⟨⟨⟨hok, hc⟩, hn⟩, hlk⟩ := h
  have hposts := fun t p q => posts_run w a t p q ops hok {} rfl hab
  refine ⟨fun c hc' => ?_, fun c hc' => ?_, fun l hl => ?_⟩
  · rw [hposts, hits_sole a ops _ (hc c hc') _ _ _ (by simp [hits])]; simp [postsTo, St.reqs, dest]
  · rw [hposts, hits_sole a ops _ (hn c hc') _ _ _ (by simp [hits])]; simp [postsTo, St.reqs, dest]
  · exact producers_run w a ops {} none rfl (fun _ h => nomatch h) hab l (hlk l hl)

theorem progOf_aggregate (k : Kind) : allAggregate (progOf k) = true := by cases k <;> decide

/-- `lookupdCmds` reads the kind of an action only; a `createChannel` comes with a channel (`Action.wf`). -/
theorem progOf_fans (k : Kind) (ch : Bool) (h : k = .createChannel → ch = true) :
    fans (live ch (progOf k).steps) (lookupdCmds ⟨k, "", "", ""⟩) (nsqdCmd k) (lookupOf k) = true := by
  revert h; cases k <;> cases ch <;> decide

theorem runAction_ok (hwf : Action.wf a) (hab : (runAction w a).aborted = false) :
    (∀ c ∈ lookupdCmds a,
      postsTo (runAction w a) .lookupd (pathOf c.1) (qsOf a c.2) = w.lookupds.map (·.addr)) ∧
    (∀ c, nsqdCmd a.kind = some c →
      postsTo (runAction w a) .nsqd (pathOf c.1) (qsOf a c.2) = (runAction w a).producers) ∧
    (∀ l, lookupOf a.kind = some l →
      (runAction w a).producers = (doLookup w a l).producers ∧ (doLookup w a l).allFailed = false) := by
  rw [runAction, run_live w a _ (progOf_aggregate _)] at hab ⊢
  exact fans_ok w a _ _ _ _ (progOf_fans a.kind _ (fun hk => by simpa using hwf.2 hk)) hab

def lookupFirstOps : List Op → Bool
  | .lookup _ :: post => post.all isPost
  | _ => false

def lookupFirst (p : Prog) : Bool :=
  allAggregate p && lookupFirstOps (live false p.steps) && lookupFirstOps (live true p.steps)

theorem sent_post (ps : List String) (ops : List Op) (h : ∀ op ∈ ops, isPost op = true) :
    ∀ r ∈ sent w a ps ops, r.post = true := by
  intro r hr
  obtain ⟨op, ho, hr⟩ := List.mem_flatMap.1 hr
  exact (opReqs_post w a ps op (h op ho)).2.2 r hr

theorem lookup_first (p : Prog) (h : lookupFirst p = true) :
    getsFirst (run w a p).reqs ∧
    ((run w a p).aborted = true → ∀ r ∈ (run w a p).reqs, r.post = false) := by
  simp only [lookupFirst, Bool.and_eq_true] at h
  have hops : lookupFirstOps (live (a.channel != "") p.steps) = true := by
    cases a.channel != ""
    · exact h.1.2
    · exact h.2
  rw [run_live w a p h.1.1]
  generalize live _ p.steps = ops at hops
  unfold lookupFirstOps at hops
  split at hops
  next l post =>
    have hpost := List.all_eq_true.1 hops
    obtain ⟨h1, h2, h3⟩ := execStep_agg w a {} (.lookup l) rfl
    rw [List.map_cons, runSteps]
    cases hf : (doLookup w a l).allFailed
    · -- the lookup is answered: POST loops follow
      obtain ⟨k1, k2, _⟩ := runSteps_posts w a post hpost _ (h2.trans hf)
      rw [k2, k1, h1]
      exact ⟨⟨_, _, rfl, lookup_reqs_get w a l, sent_post w a _ post hpost⟩, fun h => nomatch h⟩
    · -- the lookup fails as a whole: the run ends there
      rw [runSteps_aborted w a _ _ (h2.trans hf), h1]
      exact ⟨⟨_, [], (List.append_nil _).symm, lookup_reqs_get w a l, fun _ h => nomatch h⟩,
        fun _ => lookup_reqs_get w a l⟩
  next => cases hops

theorem lookupFirst_progOf (k : Kind) (hk : k ≠ .createTopic ∧ k ≠ .createChannel ∧ k ≠ .tombstone) :
    lookupFirst (progOf k) = true := by
  revert hk; cases k <;> decide

end

/-- The producers found through nsqlookupd: one entry per HTTP address that a responding nsqlookupd reports. -/
theorem lookupd_producers (w : World) (a : Action) :
    (lookupdTopicProducers w a).producers.Nodup ∧
    ∀ p, p ∈ (lookupdTopicProducers w a).producers ↔
      ∃ l ∈ w.lookupds, getOk w l.addr = true ∧ p ∈ l.producers := by
  refine ⟨dedup_nodup _, fun p => ?_⟩
  simp only [lookupdTopicProducers, mem_dedup, List.mem_flatMap, List.mem_filter]
  constructor
  · rintro ⟨l, ⟨h1, h2⟩, h3⟩; exact ⟨l, h1, h2, h3⟩
  · rintro ⟨l, h1, h2, h3⟩; exact ⟨l, ⟨h1, h2⟩, h3⟩

/-- Direct mode: one entry per configured nsqd that answers and lists the topic (as often as configured) —
the address that nsqd's `/info` *reports*, not the configured one, and without de-duplication. -/
theorem nsqd_producers (w : World) (a : Action) :
    (nsqdTopicProducers w a).producers = (w.nsqdAddrs.filter (nodeHasTopic w)).map (reportOf w) := rfl

/-- Tombstone: the one producer is the address the node's `/info` reports. -/
theorem node_producers (w : World) (a : Action) :
    (nsqdProducersOfNode w a).producers = if nodeUp w a.node then [reportOf w a.node] else [] := rfl

end Nsq.Proofs.AdminProg
