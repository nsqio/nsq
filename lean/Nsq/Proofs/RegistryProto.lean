import Nsq.Model.RegistryProto
import Nsq.Proofs.RegistryWF
/-! The byte-level connection model `Nsq.Model.RegistryProto`: a reply of `Exec` is what one handler does (`Handled`, `exec_answers`);
every statement about a run of `IOLoop` is an instance of `ioLoop_rec` (no panic, `Frame`: other connections untouched, the
connection gone at exit, `ReplyShape`), one about a single line starts from `ioLoop_line`. Then the HTTP side (`admin_status`,
`route_redirect`, `httpStep_noop`) and the error table (`codeOf`, `exec_code`). -/
namespace Nsq.Proofs.RegistryProto
open Nsq.Model.Registry Nsq.Model.Registry.AMap Nsq.Model.RegistryProto
open Nsq.Proofs.RegistryMap Nsq.Proofs.RegistryDB Nsq.Proofs.RegistryRefine Nsq.Spec.RegistrySpec
open Nsq.Proofs.RegistryWF

theorem splitSp_ne_nil (l : List UInt8) : splitSp l ≠ [] := by
  fun_cases splitSp l
  all_goals exact List.cons_ne_nil _ _

/-- the panic is `make([]byte, n)` with `n < 0`, reached only without the size check -/
def Answers (v : Variant) (r : Registry) (p : Nat) : ExecRes → Prop
  | .reply r' out _ => Handled r p r' out
  | .panic _ => v.sizeCheck = false

theorem Answers.ite {v : Variant} {r : Registry} {p : Nat} {c : Prop} [Decidable c] {x y : ExecRes}
    (hx : c → Answers v r p x) (hy : ¬ c → Answers v r p y) : Answers v r p (if c then x else y) := by
  split
  · exact hx ‹_›
  · exact hy ‹_›

theorem execIdentify_answers (v : Variant) (decode : List UInt8 → Option Info) (r : Registry) (p : Nat) (now : Int)
    (rest : List UInt8) : Answers v r p (execIdentify v decode r p now rest) := by
  unfold execIdentify
  refine .ite (fun _ => Handled.closed _ _ nofun) fun _ => ?_
  rcases rest with _ | ⟨a, _ | ⟨b, _ | ⟨c, _ | ⟨d, body⟩⟩⟩⟩
  iterate 4 exact Handled.refused _ _ nofun
  refine .ite (fun _ => Handled.refused _ _ nofun) fun _ => .ite (fun _ => Handled.refused _ _ nofun) fun h2 =>
    .ite (fun h3 => ?_) fun _ => .ite (fun _ => Handled.refused _ _ nofun) fun _ => ?_
  · -- with the size check, sizes `≤ 0` were refused before
    cases hv : v.sizeCheck with
    | false => exact hv
    | true => exact absurd (Int.le_of_lt h3) (by simpa [hv] using h2)
  · cases decode (body.take (be32 a b c d).toNat) with
    | none => exact Handled.refused _ _ nofun
    | some info => exact identify_handled r p info now

theorem exec_answers (v : Variant) (decode : List UInt8 → Option Info) (r : Registry) (p : Nat) (now : Int)
    (params : List Name) (rest : List UInt8) (hp : params ≠ []) : Answers v r p (exec v decode r p now params rest) := by
  unfold exec
  cases params with
  | nil => exact absurd rfl hp
  | cons cmd args =>
    exact .ite (fun _ => Handled.ping now) fun _ => .ite (fun _ => execIdentify_answers v decode r p now rest) fun _ =>
      .ite (fun _ => register_handled r p args) fun _ => .ite (fun _ => unregister_handled r p args) fun _ =>
        Handled.closed _ _ nofun

theorem exec_reply {v : Variant} {decode : List UInt8 → Option Info} {r r' : Registry} {p : Nat} {now : Int}
    {params : List Name} {rest rest' : List UInt8} {out : TcpOut}
    (h : exec v decode r p now params rest = .reply r' out rest') : Handled r p r' out := by
  have := exec_answers v decode r p now params rest (by rintro rfl; cases h)
  rw [h] at this
  exact this

theorem exec_fixed_no_panic (decode : List UInt8 → Option Info) (r : Registry) (p : Nat) (now : Int)
    (params : List Name) (rest : List UInt8) (hp : params ≠ []) (w : String) :
    exec fixedV decode r p now params rest ≠ .panic w := by
  intro h
  have := exec_answers fixedV decode r p now params rest hp
  rw [h] at this
  cases this

/-- `P r acc res` is asked of the result `res` of the loop started on registry `r` with the replies `acc` delivered so far. -/
theorem ioLoop_rec {v : Variant} {decode : List UInt8 → Option Info} {wf : Nat → Bool} {p : Nat} {now : Int}
    (P : Registry → List (List UInt8) → Res → Prop)
    (eof : ∀ {r acc}, P r acc ⟨disconnect r p, acc, .eof⟩)
    (panic : ∀ {r acc params rest w}, params ≠ [] → exec v decode r p now params rest = .panic w → P r acc ⟨r, acc, .panic⟩)
    (fatal : ∀ {r acc r' out}, Handled r p r' out → out.isErr = true →
      P r acc ⟨disconnect r' p, if wf acc.length then acc ++ [replyBytes out] else acc, .fatal⟩)
    (writeFail : ∀ {r acc r' out}, Handled r p r' out → out.isErr = false → P r acc ⟨disconnect r' p, acc, .writeFail⟩)
    (next : ∀ {r acc r' out res}, Handled r p r' out → out.isErr = false → P r' (acc ++ [replyBytes out]) res →
      P r acc res) :
    ∀ (fuel : Nat) (r : Registry) (inp : List UInt8) (acc : List (List UInt8)),
      P r acc (ioLoop v decode wf p now fuel r inp acc) := by
  intro fuel r inp acc
  fun_induction ioLoop v decode wf p now fuel r inp acc
  case case1 | case2 => exact eof
  case case3 hx => exact panic (splitSp_ne_nil _) hx
  case case4 hx he => exact fatal (exec_reply hx) he
  case case5 hx he _ => exact writeFail (exec_reply hx) (Bool.eq_false_iff.2 he)
  case case6 hx he _ ih => exact next (exec_reply hx) (Bool.eq_false_iff.2 he) ih

theorem handleW_rec {v : Variant} {decode : List UInt8 → Option Info} {wf : Nat → Bool} {r : Registry} {p : Nat}
    {now : Int} (P : Res → Prop) (loop : ∀ body, P (ioLoop v decode wf p now (body.length + 1) r body []))
    (badMagic : P ⟨r, [ascii "E_BAD_PROTOCOL"], .badMagic⟩) (shortMagic : P ⟨r, [], .shortMagic⟩)
    (inp : List UInt8) : P (handleW v decode wf r p now inp) := by
  unfold handleW
  split
  · split
    · exact loop _
    · exact badMagic
  · exact shortMagic

theorem ioLoop_fixed_no_panic (decode : List UInt8 → Option Info) (wf : Nat → Bool) (p : Nat) (now : Int)
    (fuel : Nat) (r : Registry) (inp : List UInt8) (acc : List (List UInt8)) :
    (ioLoop fixedV decode wf p now fuel r inp acc).fin ≠ .panic :=
  ioLoop_rec (fun _ _ res => res.fin ≠ .panic) nofun (fun hp hx => absurd hx (exec_fixed_no_panic decode _ p now _ _ hp _))
    (fun _ _ => nofun) (fun _ _ => nofun) (fun _ _ h => h) fuel r inp acc

theorem handleW_fixed_no_panic (decode : List UInt8 → Option Info) (wf : Nat → Bool) (r : Registry) (p : Nat)
    (now : Int) (inp : List UInt8) : (handleW fixedV decode wf r p now inp).fin ≠ .panic :=
  handleW_rec (fun res => res.fin ≠ .panic) (fun body => ioLoop_fixed_no_panic decode wf p now _ r body []) nofun nofun inp

theorem handle_fixed_no_panic (decode : List UInt8 → Option Info) (r : Registry) (p : Nat) (now : Int)
    (inp : List UInt8) : (handle fixedV decode r p now inp).fin ≠ .panic :=
  handleW_fixed_no_panic decode _ r p now inp

def Frame (p : Nat) (r r' : Registry) : Prop :=
  (∀ k q, q ≠ p → getP r'.db k q = getP r.db k q) ∧ (∀ q, q ≠ p → mget r'.peers q = mget r.peers q)

theorem Frame.refl (p : Nat) (r : Registry) : Frame p r r := ⟨fun _ _ _ => rfl, fun _ _ => rfl⟩

theorem Frame.trans {p : Nat} {a b c : Registry} (h1 : Frame p a b) (h2 : Frame p b c) : Frame p a c :=
  ⟨fun k q hq => (h2.1 k q hq).trans (h1.1 k q hq), fun q hq => (h2.2 q hq).trans (h1.2 q hq)⟩

theorem frame_disconnect (r : Registry) (p : Nat) : Frame p r (disconnect r p) := by
  unfold disconnect
  split
  · exact ⟨fun k q hq => by simp only [getP_disconnectDB, hq, if_false],
      fun q hq => by simp only [mget_mdel, hq, if_false]⟩
  · exact Frame.refl p r

theorem _root_.Nsq.Proofs.RegistryDB.Handled.frame {r r' : Registry} {p : Nat} {out : TcpOut} (h : Handled r p r' out) :
    Frame p r r' := by
  cases h with
  | refused c m _ => exact Frame.refl p r
  | closed c m _ => exact frame_disconnect r p
  | ping now =>
    unfold ping
    split
    · exact ⟨fun _ _ _ => rfl, fun q hq => by simp only [mget_mset, hq, if_false]⟩
    · exact Frame.refl p r
  | identified info now =>
    exact ⟨fun k q hq => by simp only [getP_addProducer, hq, false_and, if_false],
      fun q hq => by simp only [mget_mset, hq, if_false]⟩
  | registered tc _ =>
    exact ⟨fun k q hq => by simp only [getP_registerDB, hq, false_and, and_false, or_self, if_false], fun _ _ => rfl⟩
  | unregistered tc => exact ⟨fun k q hq => by simp only [getP_unregisterDB, hq, false_and, if_false], fun _ _ => rfl⟩

theorem frame_ioLoop (v : Variant) (decode : List UInt8 → Option Info) (wf : Nat → Bool) (p : Nat) (now : Int)
    (fuel : Nat) (r : Registry) (inp : List UInt8) (acc : List (List UInt8)) :
    Frame p r (ioLoop v decode wf p now fuel r inp acc).reg :=
  ioLoop_rec (fun r _ res => Frame p r res.reg) (frame_disconnect _ p) (fun _ _ => Frame.refl p _)
    (fun h _ => h.frame.trans (frame_disconnect _ p)) (fun h _ => h.frame.trans (frame_disconnect _ p))
    (fun h _ ih => h.frame.trans ih) fuel r inp acc

theorem frame_handleW (v : Variant) (decode : List UInt8 → Option Info) (wf : Nat → Bool) (r : Registry) (p : Nat)
    (now : Int) (inp : List UInt8) : Frame p r (handleW v decode wf r p now inp).reg :=
  handleW_rec (fun res => Frame p r res.reg) (fun body => frame_ioLoop v decode wf p now _ r body []) (Frame.refl p r)
    (Frame.refl p r) inp

theorem frame_handle (v : Variant) (decode : List UInt8 → Option Info) (r : Registry) (p : Nat) (now : Int)
    (inp : List UInt8) : Frame p r (handle v decode r p now inp).reg :=
  frame_handleW v decode _ r p now inp

theorem ioLoop_exit_gone (v : Variant) (decode : List UInt8 → Option Info) (wf : Nat → Bool) (p : Nat) (now : Int)
    (fuel : Nat) (r : Registry) (inp : List UInt8) (acc : List (List UInt8)) (hw : WF r)
    (hnp : (ioLoop v decode wf p now fuel r inp acc).fin ≠ .panic) :
    Gone p (ioLoop v decode wf p now fuel r inp acc).reg ∧ WF (ioLoop v decode wf p now fuel r inp acc).reg :=
  ioLoop_rec (fun r _ res => WF r → res.fin ≠ .panic → Gone p res.reg ∧ WF res.reg)
    (fun hw _ => ⟨disconnect_gone _ p hw, WF_disconnect _ p hw⟩) (fun _ _ _ hnp => absurd rfl hnp)
    (fun h _ hw _ => ⟨disconnect_gone _ p (h.wf hw), WF_disconnect _ p (h.wf hw)⟩)
    (fun h _ hw _ => ⟨disconnect_gone _ p (h.wf hw), WF_disconnect _ p (h.wf hw)⟩)
    (fun h _ ih hw hnp => ih (h.wf hw) hnp) fuel r inp acc hw hnp

theorem handleW_exit_gone (v : Variant) (decode : List UInt8 → Option Info) (wf : Nat → Bool) (r : Registry)
    (p : Nat) (now : Int) (inp : List UInt8) (hw : WF r)
    (hfin : (handleW v decode wf r p now inp).fin = .eof ∨ (handleW v decode wf r p now inp).fin = .fatal ∨
            (handleW v decode wf r p now inp).fin = .writeFail) :
    Gone p (handleW v decode wf r p now inp).reg ∧ WF (handleW v decode wf r p now inp).reg := by
  refine handleW_rec (fun res => res.fin = .eof ∨ res.fin = .fatal ∨ res.fin = .writeFail → Gone p res.reg ∧ WF res.reg)
    (fun body hfin => ioLoop_exit_gone v decode wf p now _ r body [] hw fun hp => ?_) nofun nofun inp hfin
  rw [hp] at hfin
  rcases hfin with hf | hf | hf <;> cases hf

def documentedCode (c : Code) : Prop := c = .invalid ∨ c = .badTopic ∨ c = .badChannel ∨ c = .badBody

def okReply (b : List UInt8) : Prop := b = replyBytes .ok ∨ b = replyBytes .identified
def errReply (b : List UInt8) : Prop := ∃ c m, b = replyBytes (.err c m) ∧ documentedCode c

/-- the error reply of a `.fatal` exit may be missing (second alternative): its write failed -/
def ReplyShape (res : Res) (acc : List (List UInt8)) : Prop :=
  ∃ oks, (∀ b ∈ oks, okReply b) ∧
    ((res.fin = .eof ∧ res.replies = acc ++ oks) ∨
     (res.fin = .fatal ∧ ∃ e, errReply e ∧ (res.replies = acc ++ oks ++ [e] ∨ res.replies = acc ++ oks)) ∨
     (res.fin = .writeFail ∧ res.replies = acc ++ oks))

theorem _root_.Nsq.Proofs.RegistryDB.Handled.reply {r r' : Registry} {p : Nat} {out : TcpOut} (h : Handled r p r' out) :
    (out.isErr = true → errReply (replyBytes out)) ∧ (out.isErr = false → okReply (replyBytes out)) := by
  have doc {c : Code} (hc : c ≠ .badProtocol) : documentedCode c := by cases c <;> simp [documentedCode] at hc ⊢
  cases h with
  | refused c m hc | closed c m hc => exact ⟨fun _ => ⟨c, m, rfl, doc hc⟩, nofun⟩
  | ping | registered | unregistered => exact ⟨nofun, fun _ => Or.inl rfl⟩
  | identified => exact ⟨nofun, fun _ => Or.inr rfl⟩

theorem ioLoop_shape (v : Variant) (decode : List UInt8 → Option Info) (wf : Nat → Bool) (p : Nat) (now : Int)
    (fuel : Nat) (r : Registry) (inp : List UInt8) (acc : List (List UInt8))
    (hnp : (ioLoop v decode wf p now fuel r inp acc).fin ≠ .panic) :
    ReplyShape (ioLoop v decode wf p now fuel r inp acc) acc := by
  refine ioLoop_rec (fun _ acc res => res.fin ≠ .panic → ReplyShape res acc) (fun _ => ⟨[], by simp, Or.inl ⟨rfl, by simp⟩⟩)
    (fun _ _ hnp => absurd rfl hnp)
    (fun h he _ => ⟨[], by simp, Or.inr (Or.inl ⟨rfl, _, h.reply.1 he, by split <;> simp⟩)⟩)
    (fun _ _ _ => ⟨[], by simp, Or.inr (Or.inr ⟨rfl, by simp⟩)⟩) ?_ fuel r inp acc hnp
  rintro _ acc _ out res h he ih hnp
  obtain ⟨oks, hoks, hc⟩ := ih hnp
  -- the reply of this command goes in front of the successes that follow
  exact ⟨replyBytes out :: oks, fun b hb => (List.mem_cons.mp hb).elim (fun e => e ▸ h.reply.2 he) (hoks b),
    by simpa only [List.append_assoc, List.singleton_append] using hc⟩

theorem httpOut_status_ok : HttpOut.ok.status = 200 := rfl

theorem admin_status {r : Registry} {x : Registry × HttpOut} (h : x.2 = .ok ∨ Refused r x) :
    (x.2.status ≠ 200 → x.1 = r) ∧ x.2.status ∈ [200, 301, 307, 400, 404, 405] := by
  rcases h with h | ⟨h1, st, m, h2, h3⟩
  · rw [h]; exact ⟨fun h => absurd rfl h, by simp [HttpOut.status]⟩
  · rw [h2]
    refine ⟨fun _ => h1, ?_⟩
    rcases h3 with rfl | rfl <;> simp [HttpOut.status]

theorem route_redirect {method path : String} {code : Nat} (h : route method path = .redirect code) :
    routes.find? (fun e => e.1 = method && e.2.1 = path) = none ∧ fixMatches routes method path = true ∧
      path ≠ "/" ∧ code = (if method = "GET" then 301 else 307) := by
  revert h
  fun_cases route method path
  case case2 hf hc =>
    intro h
    simp only [Bool.and_eq_true, ne_eq, decide_not, Bool.not_eq_true', decide_eq_false_iff_not] at hc
    exact ⟨hf, hc.2, hc.1.2, (Route.redirect.inj h).symm⟩
  all_goals exact nofun

theorem httpStep_noop (c : Conf) (r : Registry) (method path : String) (a : HttpArgs) (now : Int) :
    ((httpStep c r method path a now).2 ≠ 200 → (httpStep c r method path a now).1 = r) ∧
    (httpStep c r method path a now).2 ∈ [200, 301, 307, 400, 404, 405] := by
  have ro {st : Nat} (h : st ∈ [200, 301, 307, 400, 404, 405]) :
      ((r, st).2 ≠ 200 → (r, st).1 = r) ∧ (r, st).2 ∈ [200, 301, 307, 400, 404, 405] := ⟨fun _ => rfl, h⟩
  fun_cases httpStep c r method path a now
  case case4 code hr => exact ro (by rw [(route_redirect hr).2.2.2]; split <;> simp)
  case case5 => exact admin_status ((createTopic_cases r a).imp_left fun ⟨_, _, e⟩ => congrArg Prod.snd e)
  case case6 => exact admin_status ((deleteTopic_cases r a).imp_left fun ⟨_, _, e⟩ => congrArg Prod.snd e)
  case case7 => exact admin_status ((createChannel_cases r a).imp_left fun ⟨_, _, _, _, e⟩ => congrArg Prod.snd e)
  case case8 => exact admin_status ((deleteChannel_cases r a).imp_left fun ⟨_, _, _, _, _, _, e⟩ => congrArg Prod.snd e)
  case case9 => exact admin_status ((tombstone_cases r a now).imp_left fun ⟨_, _, _, _, e⟩ => congrArg Prod.snd e)
  case case12 | case13 => exact ro (by split <;> simp)
  all_goals exact ro (by simp)

theorem getTopicChan_errCode (cmd : String) (args : List Name) :
    (match getTopicChan cmd args with | .error e => errCodeOf e | .ok _ => none) =
      (match args with
       | [] => some .invalid
       | t :: _ => if !validName t then some .badTopic
                   else if chanParam args ≠ [] && !validName (chanParam args) then some .badChannel else none) := by
  fun_cases getTopicChan cmd args
  case case1 => rfl
  case case2 h => simp only [h, if_true]; rfl
  case case3 h1 h2 => simp only [h1, h2, if_true]; rfl
  case case4 h1 h2 => simp only [h1, h2]; rfl

/-- `REGISTER` and `UNREGISTER` are one function of the command word and of the update `upd` -/
theorem regCmd_errCode (cmd : String) (r : Registry) (p : Nat) (args : List Name) (upd : TopicChan → Registry) :
    errCodeOf (if !identifiedB r p then (r, TcpOut.err .invalid (ascii "client must IDENTIFY"))
      else match getTopicChan cmd args with
        | .error e => (disconnect r p, e)
        | .ok tc => (upd tc, .ok)).2 =
      if !identifiedB r p then some .invalid
      else match args with
       | [] => some .invalid
       | t :: _ => if !validName t then some .badTopic
                   else if chanParam args ≠ [] && !validName (chanParam args) then some .badChannel else none := by
  by_cases hi : identifiedB r p = true
  · simp only [hi, Bool.not_true, Bool.false_eq_true, if_false]
    rw [← getTopicChan_errCode cmd args]
    cases getTopicChan cmd args <;> rfl
  · simp [hi, errCodeOf]

theorem identify_errCode (r : Registry) (p : Nat) (info : Info) (now : Int) (hi : identifiedB r p = false) :
    errCodeOf (identify r p info now).2 = if missingFields info then some .badBody else none := by
  unfold identify
  by_cases hm : missingFields info = true <;> simp [hi, hm, errCodeOf]

/-- both sides of the error table (`exec_code`) are `if` chains over the same tests, and `codeOf` is pushed through them -/
def codeOf : ExecRes → Option Code
  | .reply _ out _ => errCodeOf out
  | .panic _ => none

theorem codeOf_reply (r : Registry) (out : TcpOut) (rest : List UInt8) : codeOf (.reply r out rest) = errCodeOf out := rfl
theorem errCodeOf_err (c : Code) (m : List UInt8) : errCodeOf (.err c m) = some c := rfl

theorem errCodeOf_some (out : TcpOut) (c : Code) (h : errCodeOf out = some c) : ∃ m, out = .err c m := by
  cases out with
  | ok => simp [errCodeOf] at h
  | identified => simp [errCodeOf] at h
  | err c' m => simp only [errCodeOf, Option.some.injEq] at h; exact ⟨m, by rw [h]⟩

theorem errCodeOf_none (out : TcpOut) (h : errCodeOf out = none) : out.isErr = false := by
  cases out <;> simp_all [errCodeOf, TcpOut.isErr]

theorem ite_unreachable {α : Type} {b c : Prop} [Decidable b] [Decidable c] (h : c → b) (s n y : α) :
    (if b then s else if c then n else y) = if b then s else y := by
  by_cases hb : b
  · simp [hb]
  · have hc : ¬ c := fun hc => hb (h hc)
    simp [hb, hc]

theorem execIdentify_code (decode : List UInt8 → Option Info) (r : Registry) (p : Nat) (now : Int) (args : List Name)
    (rest : List UInt8) :
    codeOf (execIdentify fixedV decode r p now rest) = expectedErr decode r p (cmdIDENTIFY :: args) rest := by
  have hne : cmdIDENTIFY ≠ cmdPING := by decide
  unfold execIdentify expectedErr
  simp only [hne, if_false, if_true]
  cases hi : identifiedB r p with
  | true => rfl
  | false =>
    simp only [Bool.false_eq_true, if_false]
    rcases rest with _ | ⟨a, _ | ⟨b, _ | ⟨c, _ | ⟨d, body⟩⟩⟩⟩
    iterate 4 rfl
    simp only [apply_ite codeOf, codeOf_reply, errCodeOf_err, fixedV, Bool.true_and, decide_eq_true_eq, ite_or,
      ite_unreachable (fun h : be32 a b c d < 0 => Int.le_of_lt h)]
    cases decode (body.take (be32 a b c d).toNat) with
    | none => rfl
    | some info => simp only [codeOf_reply, identify_errCode r p info now hi]

theorem exec_code (decode : List UInt8 → Option Info) (r : Registry) (p : Nat) (now : Int) (params : List Name)
    (rest : List UInt8) : codeOf (exec fixedV decode r p now params rest) = expectedErr decode r p params rest := by
  cases params with
  | nil => rfl
  | cons cmd args =>
    by_cases c1 : cmd = cmdPING
    · subst c1; rfl
    by_cases c2 : cmd = cmdIDENTIFY
    · subst c2; exact execIdentify_code decode r p now args rest
    by_cases c3 : cmd = cmdREGISTER
    · subst c3; exact regCmd_errCode "REGISTER" r p args fun tc => { r with db := registerDB r.db p tc }
    by_cases c4 : cmd = cmdUNREGISTER
    · subst c4; exact regCmd_errCode "UNREGISTER" r p args fun tc => { r with db := unregisterDB r.db p tc }
    simp only [exec, expectedErr, c1, c2, c3, c4, if_false, or_self, codeOf_reply, errCodeOf_err]

theorem readLine_append {l line rest : List UInt8} (h : readLine l = some (line, rest)) : line ++ rest = l := by
  fun_induction readLine l generalizing line rest
  case case1 => cases h
  case case2 => cases h; rfl
  case case3 ih => cases h; rw [List.cons_append, ih ‹_›]
  case case4 => cases h

theorem ioLoop_line (v : Variant) (decode : List UInt8 → Option Info) (wf : Nat → Bool) (p : Nat) (now : Int)
    (fuel : Nat) (r : Registry) (inp : List UInt8) (acc : List (List UInt8)) (line rest : List UInt8)
    (hl : readLine inp = some (line, rest)) :
    ioLoop v decode wf p now (fuel + 1) r inp acc =
      match exec v decode r p now (splitSp (trimSpace line)) rest with
      | .panic _ => ⟨r, acc, .panic⟩
      | .reply r' out rest' =>
        if out.isErr then
          ⟨disconnect r' p, if wf acc.length then acc ++ [replyBytes out] else acc, .fatal⟩
        else if !wf acc.length then ⟨disconnect r' p, acc, .writeFail⟩
        else ioLoop v decode wf p now fuel r' rest' (acc ++ [replyBytes out]) := by
  rw [ioLoop, hl]
  simp only []
  cases exec v decode r p now (splitSp (trimSpace line)) rest <;> rfl

end Nsq.Proofs.RegistryProto
