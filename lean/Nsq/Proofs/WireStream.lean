import Nsq.Proofs.Wire
import Nsq.Proofs.Lines
/-! C07, the streams of `Nsq.Model.Wire`: the text `/mpub` loop, the `/pub` body read, `bufio.Writer`, the pooled buffers;
concrete instances of all formats. -/
namespace Nsq.Proofs.Wire
open Nsq.Model.Wire Nsq.Proofs.Lines

theorem readBlock_eq : ∀ s : Bytes, readBlock s = Nsq.Model.Split.readBytes 10 s
  | [] => rfl
  | c :: s => by simp only [readBlock, Nsq.Model.Split.readBytes, readBlock_eq s]

theorem splitNL_eq : ∀ s : Bytes, splitNL s = Nsq.Model.Split.splitOn 10 s
  | [] => rfl
  | c :: s => by
    rw [splitNL, Nsq.Model.Split.splitOn, splitNL_eq s]
    cases Nsq.Model.Split.splitOn 10 s <;> rfl

theorem splitNL_join (s : Bytes) : [10].intercalate (splitNL s) = s := by
  rw [splitNL_eq]; exact splitOn_join 10 s

theorem splitNL_no_newline (s : Bytes) : ∀ b ∈ splitNL s, (10 : UInt8) ∉ b := by
  rw [splitNL_eq]; exact splitOn_no_delim 10 s

theorem stripNL_concat (hd : Bytes) : stripNL (hd ++ [10]) = hd := by
  simp [stripNL]

theorem stripNL_of_not_mem (b : Bytes) (h : (10 : UInt8) ∉ b) : stripNL b = b := by
  unfold stripNL
  rw [if_neg]
  intro hl
  exact h (List.mem_of_getLast? hl)

theorem textLoop_last (maxMsg readMax : Nat) (s : Bytes) (total : Nat) (acc : List Bytes)
    (h : (10 : UInt8) ∉ s) :
    textLoop maxMsg readMax s total acc =
      if total + s.length = readMax then .error .bodyTooBig
      else if s.isEmpty then .ok acc
      else if s.length > maxMsg then .error .msgTooBig
      else .ok (acc ++ [s]) := by
  rw [textLoop, readBlock_eq, readBytes_last 10 s h, stripNL_of_not_mem s h]
  simp only [dite_true]

theorem textLoop_line (maxMsg readMax : Nat) (hd rest : Bytes) (total : Nat) (acc : List Bytes)
    (h : (10 : UInt8) ∉ hd) :
    textLoop maxMsg readMax (hd ++ 10 :: rest) total acc =
      if total + (hd.length + 1) = readMax then .error .bodyTooBig
      else if hd.isEmpty then textLoop maxMsg readMax rest (total + (hd.length + 1)) acc
      else if hd.length > maxMsg then .error .msgTooBig
      else textLoop maxMsg readMax rest (total + (hd.length + 1)) (acc ++ [hd]) := by
  rw [textLoop, readBlock_eq, readBytes_line 10 hd rest h, stripNL_concat]
  simp only [Bool.false_eq_true, dite_false, List.length_append, List.length_cons, List.length_nil]

theorem textLoop_split (maxMsg readMax : Nat) (s : Bytes) (total : Nat) (acc : List Bytes)
    (hlen : total + s.length < readMax) (hblk : ∀ b ∈ splitNL s, b.length ≤ maxMsg) :
    textLoop maxMsg readMax s total acc = .ok (acc ++ (splitNL s).filter (fun b => !b.isEmpty)) := by
  rw [splitNL_eq] at hblk ⊢
  induction s using lines_induction 10 generalizing total acc with
  | last s h =>
    rw [splitOn_last 10 s h] at hblk ⊢
    rw [textLoop_last _ _ _ _ _ h, if_neg (by omega), if_neg (Nat.not_lt.mpr (hblk s List.mem_cons_self))]
    cases hs : s.isEmpty <;> simp [hs]
  | line hd rest h ih =>
    rw [splitOn_line 10 hd rest h] at hblk ⊢
    rw [List.length_append, List.length_cons] at hlen
    have ih' := fun acc => ih (total + (hd.length + 1)) acc (by omega)
      (fun b hb => hblk b (List.mem_cons_of_mem _ hb))
    rw [textLoop_line _ _ _ _ _ _ h, if_neg (by omega), if_neg (Nat.not_lt.mpr (hblk hd List.mem_cons_self)),
      ih', ih']
    cases hs : hd.isEmpty <;> simp [hs]

theorem textmpub_split (body : Bytes) (maxMsg maxBody : Nat) (hlen : body.length ≤ maxBody)
    (hblk : ∀ b ∈ splitNL body, b.length ≤ maxMsg) :
    textMpub body maxMsg maxBody = .ok ((splitNL body).filter (fun b => !b.isEmpty)) := by
  unfold textMpub
  rw [List.take_of_length_le (by omega), textLoop_split _ _ _ _ _ (by omega) hblk]
  simp

theorem textLoop_too_big (maxMsg readMax : Nat) (s : Bytes) (total : Nat) (acc : List Bytes)
    (hlen : total + s.length = readMax) : ∃ e, textLoop maxMsg readMax s total acc = .error e := by
  induction s using lines_induction 10 generalizing total acc with
  | last s h => exact ⟨_, by rw [textLoop_last _ _ _ _ _ h, if_pos hlen]⟩
  | line hd rest h ih =>
    rw [List.length_append, List.length_cons] at hlen
    rw [textLoop_line _ _ _ _ _ _ h]
    split
    · exact ⟨_, rfl⟩
    split
    · exact ih _ _ (by omega)
    split
    · exact ⟨_, rfl⟩
    · exact ih _ _ (by omega)

theorem textmpub_too_big (body : Bytes) (maxMsg maxBody : Nat) (hlen : maxBody < body.length) :
    ∃ e, textMpub body maxMsg maxBody = .error e := by
  unfold textMpub
  exact textLoop_too_big _ _ _ _ _ (by simp only [List.length_take]; omega)

theorem textmpubHttp_split (k : Bool) (body : Bytes) (maxMsg maxBody : Nat)
    (hlen : body.length ≤ maxBody) (hblk : ∀ b ∈ splitNL body, b.length ≤ maxMsg) :
    textMpubHttp k body maxMsg maxBody = .ok ((splitNL body).filter (fun b => !b.isEmpty)) := by
  unfold textMpubHttp
  rw [if_neg (by simp only [Bool.and_eq_true, decide_eq_true_eq, not_and]; omega)]
  exact textmpub_split body maxMsg maxBody hlen hblk

/-- `doPUB`'s two length tests (`Content-Length` when it is known, then the read through the limit reader) are one test on the
body: the flag makes no difference -/
theorem httpPub_eq (k : Bool) (body : Bytes) (maxMsg : Nat) :
    httpPub k body maxMsg =
      if maxMsg < body.length then .error .tooBig else if body.isEmpty then .error .empty else .ok body := by
  unfold httpPub
  by_cases h : maxMsg < body.length
  · rw [if_pos h]
    split
    · rfl
    · rw [if_pos (List.length_take_of_le h)]
  · have hle : body.length ≤ maxMsg := Nat.le_of_not_lt h
    rw [if_neg h, if_neg (by simp [h]), List.take_of_length_le (Nat.le_succ_of_le hle),
      if_neg (Nat.ne_of_lt (Nat.lt_succ_of_le hle))]

/-- `bufio.Writer.Write` in closed form: two rounds of its loop suffice (in the last case the rest fits the buffer) -/
theorem bufWrite_eq (w : BufW) (p : Bytes) :
    bufWrite w p =
      if p.length ≤ w.cap - w.buf.length then { w with buf := w.buf ++ p }
      else if w.buf = [] ∨ w.cap < p.length - (w.cap - w.buf.length) then
        { w with sink := w.sink ++ w.buf ++ p, buf := [] }
      else { w with sink := w.sink ++ w.buf ++ p.take (w.cap - w.buf.length), buf := p.drop (w.cap - w.buf.length) } := by
  unfold bufWrite bufWriteLoop
  by_cases h1 : p.length ≤ w.cap - w.buf.length
  · rw [if_neg (Nat.not_lt.mpr h1), if_pos h1]
  · rw [if_pos (Nat.lt_of_not_le h1), if_neg h1]
    by_cases h2 : w.buf = []
    · simp [h2]
    · unfold bufWriteLoop
      by_cases h3 : w.cap < p.length - (w.cap - w.buf.length)
      · simp [h2, h3, List.append_assoc]
      · simp [h2, h3]

/-- `w'` is `w` after the bytes `p` have been written to it, in any number of `Write`s -/
structure Wrote (w : BufW) (p : Bytes) (w' : BufW) : Prop where
  stream : w'.sink ++ w'.buf = w.sink ++ w.buf ++ p
  sink : ∃ r, w'.sink = w.sink ++ r
  cap : w'.cap = w.cap
  bounded : w.buf.length ≤ w.cap → w'.buf.length ≤ w.cap

theorem Wrote.refl (w : BufW) : Wrote w [] w :=
  ⟨(List.append_nil _).symm, ⟨[], (List.append_nil _).symm⟩, rfl, id⟩

theorem Wrote.trans {w w₁ w₂ : BufW} {p q : Bytes} (h₁ : Wrote w p w₁) (h₂ : Wrote w₁ q w₂) : Wrote w (p ++ q) w₂ := by
  obtain ⟨r₁, e₁⟩ := h₁.sink
  obtain ⟨r₂, e₂⟩ := h₂.sink
  refine ⟨by rw [h₂.stream, h₁.stream, List.append_assoc], ⟨r₁ ++ r₂, by rw [e₂, e₁, List.append_assoc]⟩,
    h₂.cap.trans h₁.cap, fun h => ?_⟩
  have := h₂.bounded (h₁.cap ▸ h₁.bounded h)
  rwa [h₁.cap] at this

theorem bufWrite_wrote (w : BufW) (p : Bytes) : Wrote w p (bufWrite w p) := by
  rw [bufWrite_eq]
  split
  · exact ⟨by simp, ⟨[], by simp⟩, rfl, fun h => by simp only [List.length_append]; omega⟩
  split
  · exact ⟨by simp, ⟨w.buf ++ p, by simp⟩, rfl, fun _ => Nat.zero_le _⟩
  · exact ⟨by simp, ⟨w.buf ++ p.take (w.cap - w.buf.length), by simp⟩, rfl,
      fun _ => by simp only [List.length_drop]; omega⟩

theorem bufFlush_stream (w : BufW) : (bufFlush w).sink = w.sink ++ w.buf ∧ (bufFlush w).buf = [] := by
  simp [bufFlush]

theorem writeFrame_wrote (w : BufW) (f : Frame) : Wrote w (encodeFrame f) (writeFrame w f) :=
  ((bufWrite_wrote ..).trans (bufWrite_wrote ..)).trans (bufWrite_wrote ..)

def conn0 (cap : Nat) : Conn := { w := { cap := cap } }

theorem pooled_buffer_empty (pool : List Bytes) (hp : ∀ b ∈ pool, b = []) (k : Nat) :
    (match pool[k]? with | some b => b | none => []) = [] := by
  cases hk : pool[k]? with
  | none => rfl
  | some b => exact hp b (List.mem_of_getElem? hk)

theorem poolRun_cons (pool : List Bytes) (k : Nat) (m : Msg) (reqs : List (Nat × Msg)) :
    poolRun pool ((k, m) :: reqs) =
      ((poolRun ([] :: pool.eraseIdx k) reqs).1,
       ((match pool[k]? with | some b => b | none => []) ++ encode m) ::
         (poolRun ([] :: pool.eraseIdx k) reqs).2) := by
  rw [poolRun]; rfl

example : beBytes 4 258 = [0, 0, 1, 2] ∧ beVal [0, 0, 1, 2] = 258 := by decide +kernel

/-- high bits are dropped, exactly as `PutUint16` does -/
example : beBytes 2 65537 = [0, 1] := by decide +kernel

private def m1 : Msg :=
  { ts := 0x0102030405060708, attempts := 3,
    id := [48, 49, 50, 51, 52, 53, 54, 55, 56, 57, 97, 98, 99, 100, 101, 102], body := [104, 105] }

example : encode m1 = [1, 2, 3, 4, 5, 6, 7, 8, 0, 3, 48, 49, 50, 51, 52, 53, 54, 55, 56, 57, 97, 98,
    99, 100, 101, 102, 104, 105] := by decide +kernel

example : decode (encode m1) = some m1 := by decide +kernel

example : decode (List.replicate 25 0) = none := by decide +kernel

/-- a frame whose data looks like a frame header itself -/
example : readFrame [0, 0, 0, 12, 0, 0, 0, 2, 0, 0, 0, 8, 0, 0, 0, 0, 9] =
    some (⟨2, [0, 0, 0, 8, 0, 0, 0, 0]⟩, [9]) := by decide +kernel

/-- a negative int32 size is refused -/
example : readFrame [128, 0, 0, 4, 0, 0, 0, 0] = none := by decide +kernel

/-- two frames, the first with data that looks like a header, the second empty -/
example : parseFrames [0, 0, 0, 12, 0, 0, 0, 2, 0, 0, 0, 8, 0, 0, 0, 0, 0, 0, 0, 4, 0, 0, 0, 1] =
    some [⟨2, [0, 0, 0, 8, 0, 0, 0, 0]⟩, ⟨1, []⟩] := by
  rw [show [0, 0, 0, 12, 0, 0, 0, 2, 0, 0, 0, 8, 0, 0, 0, 0, 0, 0, 0, 4, 0, 0, 0, 1] =
    (([⟨2, [0, 0, 0, 8, 0, 0, 0, 0]⟩, ⟨1, []⟩] : List Frame).map encodeFrame).flatten from by decide]
  exact frame_stream_roundtrip _ (by decide)

/-- a truncated stream is an error, not a short list -/
example : parseFrames [0, 0, 0, 12, 0, 0, 0, 2, 0, 0, 0, 8] = none := by
  have hr : readFrame [0, 0, 0, 12, 0, 0, 0, 2, 0, 0, 0, 8] = none := by decide +kernel
  rw [parseFrames, if_neg (by decide)]
  split
  · rfl
  · rename_i h; rw [hr] at h; contradiction

-- `Except` has no `DecidableEq`: the instances of `readMPUB` and `textMpub` go through the theorems
example : readMPUB [0, 0, 0, 2, 0, 0, 0, 1, 97, 0, 0, 0, 2, 98, 99, 7] 10 100 =
    .ok ([[97], [98, 99]], [7]) := by
  rw [show [0, 0, 0, 2, 0, 0, 0, 1, 97, 0, 0, 0, 2, 98, 99, 7] =
    mpubBody [[97], [98, 99]] ++ [7] from by decide]
  exact mpub_roundtrip _ _ _ _ (by decide) (by decide) (by decide) (by decide)

/-- second body too big: error, and the queue is untouched -/
example : mpubCmd [[1]] [0, 0, 0, 2, 0, 0, 0, 1, 97, 0, 0, 0, 20, 98, 99] 10 100 =
    ([[1]], some .badMessage) := by decide +kernel

/-- "a\n\nb" -/
example : textMpub [97, 10, 10, 98] 10 100 = .ok [[97], [98]] := by
  rw [textmpub_split _ _ _ (by decide) (by decide)]
  exact congrArg _ (by decide)

example : splitNL [97, 10, 10, 98, 10] = [[97], [], [98], []] := by decide +kernel

example : ∃ e, textMpub [97, 10, 98, 99] 10 3 = .error e := textmpub_too_big _ _ _ (by decide)

example : dqRead 1 10 [0, 0, 0, 2, 5, 6, 0, 0] = some ([5, 6], [0, 0]) := by decide +kernel

/-- large write through a small non-empty buffer: fill, flush, then direct -/
example : bufWrite { cap := 4, buf := [1, 2], sink := [0] } [3, 4, 5, 6, 7, 8, 9] =
    { cap := 4, buf := [], sink := [0, 1, 2, 3, 4, 5, 6, 7, 8, 9] } := by decide +kernel

private def opsEx : List ConnOp :=
  [.sendResponse ⟨0, [79, 75]⟩, .sendMessage ⟨2, [1]⟩, .setOutputBuffer 64, .upgrade 8,
   .sendResponse ⟨0, [79, 75]⟩, .subscribe, .sendMessage ⟨2, [9, 9, 9]⟩, .upgrade 16,
   .sendMessage ⟨2, [7]⟩]

/-- responses before SUB, an upgrade in the middle (plain layer closed with the first OK in it,
the second OK on the new layer), a message refused before SUB, an upgrade refused after SUB,
messages buffered after SUB -/
example :
    (connRun (conn0 16) opsEx).closedLayers = [[0, 0, 0, 6, 0, 0, 0, 0, 79, 75]] ∧
    (connRun (conn0 16) opsEx).w.sink =
      [0, 0, 0, 6, 0, 0, 0, 0, 79, 75, 0, 0, 0, 7, 0, 0, 0, 2, 9, 9, 9, 0, 0, 0, 5, 0] ∧
    (connRun (conn0 16) opsEx).w.buf = [0, 0, 2, 7] ∧
    (connRun (conn0 16) opsEx).w.cap = 8 ∧
    (connRun (conn0 16) opsEx).sent = [⟨0, [79, 75]⟩, ⟨0, [79, 75]⟩, ⟨2, [9, 9, 9]⟩, ⟨2, [7]⟩] := by
  decide +kernel

example : (poolRun [[], []] [(0, m1), (5, m1)]).2 = [encode m1, encode m1] := by decide +kernel

example : (fanout m1 3).map (·.attempts) = [3, 0, 0] := by decide +kernel

end Nsq.Proofs.Wire
