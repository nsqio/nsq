import Nsq.Proofs.Keyed
/-!
Update-or-append on a list keyed by a projection: nsqadmin builds its producer lists (GetLookupdProducers by TCP address,
GetLookupdTopicProducers by HTTP address), the channel map of GetNSQDStats, its merged channel list (`TopicStats.Add`) and
its counter map (`counterHandler`) this way. The folded list, looked up by key, is the finite map `k ↦ entryOf k as`
(`Inv`), because one `upsert` does to the look-up (`find?_upsert`) what one more report does to `entryOf` (`entryOf_snoc`).
-/
namespace Nsq.Proofs.Upsert

variable {α β κ : Type} [BEq κ]
variable (key : β → κ) (keyOf : α → κ) (init : α → β) (step : β → α → β)

def upsert (m : List β) (a : α) : List β :=
  if m.any (fun b => key b == keyOf a) then m.map (fun b => if key b == keyOf a then step b a else b)
  else m ++ [init a]

def entryOf (k : κ) (as : List α) : Option β :=
  match as.filter (fun a => keyOf a == k) with
  | [] => none
  | a :: rest => some (rest.foldl step (init a))

structure Inv (m : List β) (as : List α) : Prop where
  nodup : (m.map key).Nodup
  find : ∀ k, m.find? (fun b => key b == k) = entryOf keyOf init step k as

variable {key keyOf init step}

theorem entryOf_snoc (k : κ) (as : List α) (a : α) :
    entryOf keyOf init step k (as ++ [a]) =
      if keyOf a == k then some ((entryOf keyOf init step k as).elim (init a) (step · a))
      else entryOf keyOf init step k as := by
  unfold entryOf
  rw [List.filter_append, List.filter_cons, List.filter_nil]
  by_cases e : (keyOf a == k) = true
  · rw [if_pos e, if_pos e]; cases as.filter (fun a => keyOf a == k) <;> simp [List.foldl_append]
  · rw [if_neg e, if_neg e, List.append_nil]

variable [LawfulBEq κ]

theorem nodup_upsert (hstep : ∀ b a, key (step b a) = key b) (hinit : ∀ a, key (init a) = keyOf a)
    (m : List β) (a : α) (h : (m.map key).Nodup) : ((upsert key keyOf init step m a).map key).Nodup := by
  unfold upsert
  split <;> rename_i hany
  · exact Keyed.nodup_map (Keyed.key_upd fun b => hstep b a) h
  · exact Keyed.nodup_append_fresh h fun b hb e => hany (List.any_eq_true.2 ⟨b, hb, beq_iff_eq.2 (e.trans (hinit a))⟩)

theorem nodup_foldl (hstep : ∀ b a, key (step b a) = key b) (hinit : ∀ a, key (init a) = keyOf a)
    (as : List α) : ∀ m : List β, (m.map key).Nodup → ((as.foldl (upsert key keyOf init step) m).map key).Nodup := by
  induction as with
  | nil => intro m h; exact h
  | cons a rest ih => intro m h; exact ih _ (nodup_upsert hstep hinit m a h)

theorem find?_upsert (hstep : ∀ b a, key (step b a) = key b) (hinit : ∀ a, key (init a) = keyOf a)
    (m : List β) (a : α) (k : κ) :
    (upsert key keyOf init step m a).find? (fun b => key b == k) =
      if keyOf a == k then some ((m.find? (fun b => key b == k)).elim (init a) (step · a))
      else m.find? (fun b => key b == k) := by
  unfold upsert
  by_cases hany : m.any (fun b => key b == keyOf a) = true
  · rw [if_pos hany, Keyed.find?_map (Keyed.key_upd fun b => hstep b a)]
    cases hf : m.find? (fun b => key b == k) with
    | none =>
      obtain ⟨b, hb, hbk⟩ := List.any_eq_true.1 hany
      rw [if_neg fun e => Keyed.find?_none.1 hf b hb ((eq_of_beq hbk).trans (eq_of_beq e))]; rfl
    | some b =>
      obtain rfl := (Keyed.find?_some hf).2
      rw [Option.map_some, BEq.comm (a := key b)]; split <;> rfl
  · rw [if_neg hany, List.find?_append, List.find?_singleton, hinit]
    cases hf : m.find? (fun b => key b == k) with
    | none => rfl
    | some b =>
      obtain ⟨hb, rfl⟩ := Keyed.find?_some hf
      have hne : ¬ (keyOf a == key b) = true := fun e => hany (List.any_eq_true.2 ⟨b, hb, beq_iff_eq.2 (eq_of_beq e).symm⟩)
      rw [if_neg hne, if_neg hne]; rfl

theorem inv_step (hstep : ∀ b a, key (step b a) = key b) (hinit : ∀ a, key (init a) = keyOf a)
    (m : List β) (as : List α) (a : α) (h : Inv key keyOf init step m as) :
    Inv key keyOf init step (upsert key keyOf init step m a) (as ++ [a]) :=
  ⟨nodup_upsert hstep hinit m a h.nodup, fun k => by rw [find?_upsert hstep hinit, entryOf_snoc, h.find]⟩

theorem inv_fold (hstep : ∀ b a, key (step b a) = key b) (hinit : ∀ a, key (init a) = keyOf a) (as : List α) :
    Inv key keyOf init step (as.foldl (upsert key keyOf init step) []) as := by
  suffices h : ∀ (l : List α) (m : List β) (done : List α), Inv key keyOf init step m done →
      Inv key keyOf init step (l.foldl (upsert key keyOf init step) m) (done ++ l) from
    h as [] [] ⟨List.nodup_nil, fun _ => rfl⟩
  intro l
  induction l with
  | nil => intro m done h; simpa using h
  | cons a rest ih =>
    intro m done h
    simpa [List.append_assoc] using ih _ _ (inv_step hstep hinit m done a h)

theorem Inv.entry_cons {m : List β} {as : List α} (h : Inv key keyOf init step m as) {b : β} (hb : b ∈ m) :
    ∃ a rest, as.filter (fun a => keyOf a == key b) = a :: rest ∧ rest.foldl step (init a) = b := by
  have he := (h.find (key b)).symm.trans (Keyed.find?_of_mem h.nodup hb)
  unfold entryOf at he
  split at he
  · cases he
  · next a rest hf => exact ⟨a, rest, hf, Option.some.inj he⟩

theorem Inv.cover {m : List β} {as : List α} (h : Inv key keyOf init step m as) (a : α) (ha : a ∈ as) :
    keyOf a ∈ m.map key := by
  cases hf : m.find? (fun b => key b == keyOf a) with
  | some b => exact List.mem_map.2 ⟨b, Keyed.find?_some hf⟩
  | none =>
    have he := (h.find (keyOf a)).symm.trans hf
    unfold entryOf at he
    split at he
    · next hnil => exact absurd (beq_self_eq_true _) (List.filter_eq_nil_iff.1 hnil a ha)
    · cases he

theorem Inv.mem_keys {m : List β} {as : List α} (h : Inv key keyOf init step m as) (k : κ) :
    k ∈ m.map key ↔ k ∈ as.map keyOf := by
  refine ⟨fun hk => ?_, fun hk => ?_⟩
  · obtain ⟨b, hb, rfl⟩ := List.mem_map.1 hk
    obtain ⟨a, rest, hf, _⟩ := h.entry_cons hb
    have ha : a ∈ as.filter (fun a => keyOf a == key b) := hf ▸ List.mem_cons_self
    rw [List.mem_filter, beq_iff_eq] at ha
    exact List.mem_map.2 ⟨a, ha.1, ha.2⟩
  · obtain ⟨a, ha, rfl⟩ := List.mem_map.1 hk
    exact h.cover a ha

theorem Inv.eq_nil {m : List β} {as : List α} (h : Inv key keyOf init step m as) : m = [] ↔ as = [] := by
  constructor
  · intro hm
    cases as with
    | nil => rfl
    | cons a _ => have := h.cover a List.mem_cons_self; rw [hm] at this; cases this
  · intro ha
    cases m with
    | nil => rfl
    | cons b _ => have := (h.mem_keys (key b)).1 (by simp); rw [ha] at this; cases this

end Nsq.Proofs.Upsert
