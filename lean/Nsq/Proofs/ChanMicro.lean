/-
E2 — the micro-step model of the in-flight map / heap windows (`Nsq.Model.ChanMicro`):
the invariant `MInv` holds along every schedule of micro-steps.

A micro-step takes one id out of its place (queue, deferred set, map, the hand of a parked operation), may record
one event about it, and puts it into the next place. Between taking and putting the id is `Lifted`: it is in no place,
so the event changes the status of nothing that is in one (`Lifted.event`); taking (`take_*`) needs nothing; putting
(`Lifted.give_*`) needs the status the new place asks for. `step_minv` reads each branch of `step` as such a chain.

Then the contest for an id in the map (C02.7): a pop that succeeds takes it out (`pop_takes_it`), without a push it stays
out (`stays_out`), so along a schedule without a push of it at most one pop wins (`wins_le_one`).
-/
import Nsq.Model.ChanMicro
import Nsq.Proofs.ChanEv
namespace Nsq.Proofs.ChanMicro
open Nsq.Model.Chan (Ev St status evSt okHist okEv nDeliver)
open Nsq.Model.ChanMicro

/-! weighted sums: the counting device for "each id is in one place" -/

def wsum {α : Type} (w : α → Nat) : List α → Nat
  | [] => 0
  | x :: l => w x + wsum w l

theorem wsum_mem {α : Type} {w : α → Nat} {x : α} {l : List α} (h : x ∈ l) : w x ≤ wsum w l := by
  induction l with
  | nil => cases h
  | cons y l ih =>
    rcases List.mem_cons.mp h with rfl | h
    · simp [wsum]
    · have := ih h; simp [wsum]; omega

theorem wsum_erase {α : Type} [DecidableEq α] {w : α → Nat} {x : α} {l : List α} (h : x ∈ l) :
    wsum w (l.erase x) + w x = wsum w l := by
  induction l with
  | nil => cases h
  | cons y l ih =>
    by_cases hy : y = x
    · subst hy; simp [wsum]; omega
    · have hx : x ∈ l := by
        rcases List.mem_cons.mp h with rfl | h
        · exact absurd rfl hy
        · exact h
      have := ih hx
      rw [List.erase_cons_tail (by simpa using hy)]
      simp [wsum]; omega

theorem wsum_zero {α : Type} {w : α → Nat} {l : List α} (h : ∀ x ∈ l, w x = 0) : wsum w l = 0 := by
  induction l with
  | nil => rfl
  | cons y l ih =>
    simp [wsum, h y (List.mem_cons_self), ih (fun x hx => h x (List.mem_cons_of_mem _ hx))]

def isId (id x : Nat) : Nat := if x = id then 1 else 0

theorem isId_self (id : Nat) : isId id id = 1 := by simp [isId]

theorem mem_isId {id : Nat} {l : List Nat} (h : id ∈ l) : 1 ≤ wsum (isId id) l := by
  have := wsum_mem (w := isId id) h; simp [isId] at this; exact this

theorem isId_mem {id : Nat} {l : List Nat} (h : 1 ≤ wsum (isId id) l) : id ∈ l := by
  induction l with
  | nil => simp [wsum] at h
  | cons y l ih =>
    by_cases hy : y = id
    · subst hy; exact List.mem_cons_self
    · simp [wsum, isId, hy] at h; exact List.mem_cons_of_mem _ (ih h)

/-- does the pending continuation hold the object of `id` outside the map? -/
def holdsW (id : Nat) : Pend → Nat
  | .ans _ i _ => isId id i
  | .touchMap _ i => isId id i
  | .scan i => isId id i
  | _ => 0

/-- in how many places is `id`: queue, deferred set, in-flight map, held by a parked operation (an answer, a TOUCH
between map and heap, the timeout scan between its pop and its put) -/
def cnt (s : MS) (id : Nat) : Nat :=
  wsum (isId id) s.queue + wsum (isId id) s.deferred + wsum (isId id) s.map + wsum (holdsW id) s.pend

def pendOk (h : List Ev) (o : List (Nat × Nat)) : Pend → Prop
  | .ans _ i .fin => status h i = .gone
  | .ans _ i (.req d) => status h i = (if d = 0 then .queued else .deferred)
  | .ans k i .touch => status h i = .held k ∧ getA o i = k
  | .touchMap k i => status h i = .held k ∧ getA o i = k
  | .scan i => status h i = .queued
  | _ => True

structure MInv (s : MS) : Prop where
  okh  : okHist s.hist = true
  one  : ∀ id, cnt s id ≤ 1
  stq  : ∀ id ∈ s.queue, status s.hist id = .queued
  std  : ∀ id ∈ s.deferred, status s.hist id = .deferred
  stm  : ∀ id ∈ s.map, status s.hist id = .held (getA s.owner id)
  stp  : ∀ p ∈ s.pend, pendOk s.hist s.owner p
  att  : ∀ id, getA s.atts id = nDeliver s.hist id
  orph : ∀ id ∈ s.map, id ∈ s.heap ∨ Pend.push id ∈ s.pend

theorem minv_init : MInv {} := by
  constructor <;> simp [okHist, cnt, wsum, getA, nDeliver]

theorem pendOk_frame {h h' : List Ev} {o o' : List (Nat × Nat)} {p : Pend}
    (hf : ∀ i, holdsW i p = 1 → status h' i = status h i ∧ getA o' i = getA o i)
    (hp : pendOk h o p) : pendOk h' o' p := by
  cases p with
  | ans k i a =>
    have := hf i (isId_self i)
    cases a <;> simp only [pendOk] at * <;> simp [this.1, this.2, hp]
  | touchMap k i =>
    have := hf i (isId_self i)
    simp only [pendOk] at *; simp [this.1, this.2, hp]
  | push i => trivial
  | scan i =>
    have := hf i (isId_self i)
    simp only [pendOk] at *; simp [this.1, hp]

theorem holdsW_le_one (i : Nat) (p : Pend) : holdsW i p ≤ 1 := by
  cases p <;> simp [holdsW, isId] <;> split <;> omega

theorem holdsW_ne {i id : Nat} {p : Pend} (h0 : holdsW id p = 0) (h1 : holdsW i p = 1) : i ≠ id := by
  intro h; subst h; omega

theorem pendOk_status {h : List Ev} {o : List (Nat × Nat)} {p : Pend} {i : Nat}
    (hp : pendOk h o p) (hw : holdsW i p = 1) : status h i ≠ .none := by
  cases p with
  | ans k j a =>
    have : j = i := by simp [holdsW, isId] at hw; exact hw
    subst this
    cases a <;> simp only [pendOk] at hp
    · simp [hp]
    · rw [hp]; split <;> simp
    · simp [hp.1]
  | touchMap k j =>
    have : j = i := by simp [holdsW, isId] at hw; exact hw
    subst this
    simp only [pendOk] at hp; simp [hp.1]
  | push j => simp [holdsW] at hw
  | scan j =>
    have : j = i := by simp [holdsW, isId] at hw; exact hw
    subst this
    simp only [pendOk] at hp; simp [hp]

theorem cnt_zero_of_none {s : MS} (h : MInv s) {id : Nat} (hn : status s.hist id = .none) : cnt s id = 0 := by
  have hq : wsum (isId id) s.queue = 0 := by
    apply Nat.eq_zero_of_not_pos; intro hp
    have := h.stq id (isId_mem hp); rw [hn] at this; cases this
  have hd : wsum (isId id) s.deferred = 0 := by
    apply Nat.eq_zero_of_not_pos; intro hp
    have := h.std id (isId_mem hp); rw [hn] at this; cases this
  have hm : wsum (isId id) s.map = 0 := by
    apply Nat.eq_zero_of_not_pos; intro hp
    have := h.stm id (isId_mem hp); rw [hn] at this; cases this
  have hpd : wsum (holdsW id) s.pend = 0 := by
    apply wsum_zero; intro p hp
    have h1 := holdsW_le_one id p
    apply Nat.eq_zero_of_not_pos; intro hpos
    exact pendOk_status (h.stp p hp) (by omega) hn
  simp [cnt, hq, hd, hm, hpd]

theorem status_cons_ne {ev : Ev} {id i : Nat} (he : Nsq.Model.Chan.evIds ev = [id]) (hne : i ≠ id) (h : List Ev) :
    status (ev :: h) i = status h i :=
  Nsq.Proofs.Chan.evSt_of_not_mem (by simpa [he] using hne) _

/-- The state inside a micro-step: `id` is out of the place it was taken from and not yet in the next. The conjuncts are
those of `MInv`, but `one` counts the step's own hand among the places of `id`: so `id` is in none of them (`nowhere`), and
a take or a give moves one unit between a container and the hand. -/
structure Lifted (s : MS) (id : Nat) : Prop where
  okh  : okHist s.hist = true
  one  : ∀ i, cnt s i + isId i id ≤ 1
  stq  : ∀ i ∈ s.queue, status s.hist i = .queued
  std  : ∀ i ∈ s.deferred, status s.hist i = .deferred
  stm  : ∀ i ∈ s.map, status s.hist i = .held (getA s.owner i)
  stp  : ∀ p ∈ s.pend, pendOk s.hist s.owner p
  att  : ∀ i, getA s.atts i = nDeliver s.hist i
  orph : ∀ i ∈ s.map, i ∈ s.heap ∨ Pend.push i ∈ s.pend

theorem take_queue {s : MS} (h : MInv s) {id : Nat} (hq : id ∈ s.queue) :
    Lifted { s with queue := s.queue.erase id } id :=
  { h with
    one := fun i => by
      have := h.one i; have := wsum_erase (w := isId i) hq; simp only [cnt] at *; omega
    stq := fun i hi => h.stq i (List.mem_of_mem_erase hi) }

theorem take_deferred {s : MS} (h : MInv s) {id : Nat} (hd : id ∈ s.deferred) :
    Lifted { s with deferred := s.deferred.erase id } id :=
  { h with
    one := fun i => by
      have := h.one i; have := wsum_erase (w := isId i) hd; simp only [cnt] at *; omega
    std := fun i hi => h.std i (List.mem_of_mem_erase hi) }

theorem take_map {s : MS} (h : MInv s) {id : Nat} (hm : id ∈ s.map) :
    Lifted { s with map := s.map.erase id } id :=
  { h with
    one := fun i => by
      have := h.one i; have := wsum_erase (w := isId i) hm; simp only [cnt] at *; omega
    stm := fun i hi => h.stm i (List.mem_of_mem_erase hi)
    orph := fun i hi => h.orph i (List.mem_of_mem_erase hi) }

theorem take_hand {s : MS} (h : MInv s) {p : Pend} {id : Nat} (hp : p ∈ s.pend) (hw : ∀ i, holdsW i p = isId i id) :
    Lifted { s with pend := s.pend.erase p } id :=
  { h with
    one := fun i => by
      have := h.one i; have := wsum_erase (w := holdsW i) hp; have := hw i; simp only [cnt] at *; omega
    stp := fun q hq => h.stp q (List.mem_of_mem_erase hq)
    orph := fun i hi => (h.orph i hi).imp_right fun a =>
      (List.mem_erase_of_ne (fun he => by have := hw id; rw [← he, isId_self] at this; cases this)).mpr a }

theorem lifted_of_none {s : MS} (h : MInv s) {id : Nat} (hn : status s.hist id = .none) : Lifted s id :=
  { h with
    one := fun i => by
      by_cases hi : id = i
      · rw [← hi, cnt_zero_of_none h hn, isId_self]; omega
      · have := h.one i; simp only [isId, hi, if_false]; omega }

theorem orph_erase {m hp : List Nat} {pd : List Pend} {id : Nat} (hm : id ∉ m)
    (h : ∀ i ∈ m, i ∈ hp ∨ Pend.push i ∈ pd) : ∀ i ∈ m, i ∈ hp.erase id ∨ Pend.push i ∈ pd :=
  fun i hi => (h i hi).imp_left (List.mem_erase_of_ne (ne_of_mem_of_not_mem hi hm)).mpr

namespace Lifted

theorem nowhere {s : MS} {id : Nat} (h : Lifted s id) :
    id ∉ s.queue ∧ id ∉ s.deferred ∧ id ∉ s.map ∧ ∀ p ∈ s.pend, holdsW id p = 0 := by
  have h1 := h.one id
  rw [isId_self] at h1
  simp only [cnt] at h1
  refine ⟨?_, ?_, ?_, fun p hp => ?_⟩
  · intro hx; have := mem_isId hx; omega
  · intro hx; have := mem_isId hx; omega
  · intro hx; have := mem_isId hx; omega
  · have := wsum_mem (w := holdsW id) hp; omega

theorem event {s : MS} {id : Nat} (h : Lifted s id) {ev : Ev} (he : Nsq.Model.Chan.evIds ev = [id])
    (hok : okEv s.hist ev = true) {atts owner : List (Nat × Nat)}
    (ha : ∀ i, getA atts i = nDeliver (ev :: s.hist) i) (ho : ∀ i, i ≠ id → getA owner i = getA s.owner i) :
    Lifted { s with hist := ev :: s.hist, atts := atts, owner := owner } id := by
  obtain ⟨hq, hd, hm, hp⟩ := h.nowhere
  have st : ∀ {i}, i ≠ id → status (ev :: s.hist) i = status s.hist i := fun hne => status_cons_ne he hne _
  exact { h with
    okh := Nsq.Proofs.Chan.okHist_cons hok h.okh
    stq := fun i hi => (st (ne_of_mem_of_not_mem hi hq)).trans (h.stq i hi)
    std := fun i hi => (st (ne_of_mem_of_not_mem hi hd)).trans (h.std i hi)
    stm := fun i hi => by
      have hne := ne_of_mem_of_not_mem hi hm
      rw [st hne, ho i hne]; exact h.stm i hi
    stp := fun p hp' => pendOk_frame (fun i hw => have hne := holdsW_ne (hp p hp') hw; ⟨st hne, ho i hne⟩) (h.stp p hp')
    att := ha }

theorem heap_erase {s : MS} {id : Nat} (h : Lifted s id) : Lifted { s with heap := s.heap.erase id } id :=
  { h with orph := orph_erase h.nowhere.2.2.1 h.orph }

theorem give_queue {s : MS} {id : Nat} (h : Lifted s id) (hs : status s.hist id = .queued) :
    MInv { s with queue := id :: s.queue } :=
  { h with
    one := fun i => by have := h.one i; simp only [cnt, wsum] at *; omega
    stq := List.forall_mem_cons.2 ⟨hs, h.stq⟩ }

theorem give_deferred {s : MS} {id : Nat} (h : Lifted s id) (hs : status s.hist id = .deferred) :
    MInv { s with deferred := id :: s.deferred } :=
  { h with
    one := fun i => by have := h.one i; simp only [cnt, wsum] at *; omega
    std := List.forall_mem_cons.2 ⟨hs, h.std⟩ }

/-- into the in-flight map, the heap push left pending (`Pend.push`: the model keeps map insert and heap insert as two steps) -/
theorem give_map {s : MS} {id : Nat} (h : Lifted s id) (hs : status s.hist id = .held (getA s.owner id)) :
    MInv { s with map := id :: s.map, pend := Pend.push id :: s.pend } :=
  { h with
    one := fun i => by have := h.one i; simp only [cnt, wsum, holdsW] at *; omega
    stm := List.forall_mem_cons.2 ⟨hs, h.stm⟩
    stp := List.forall_mem_cons.2 ⟨trivial, h.stp⟩
    orph := List.forall_mem_cons.2
      ⟨.inr List.mem_cons_self, fun i hi => (h.orph i hi).imp_right (List.mem_cons_of_mem _)⟩ }

theorem give_hand {s : MS} {id : Nat} (h : Lifted s id) {p : Pend} (hw : ∀ i, holdsW i p = isId i id)
    (hs : pendOk s.hist s.owner p) : MInv { s with pend := p :: s.pend } :=
  { h with
    one := fun i => by have := h.one i; have := hw i; simp only [cnt, wsum] at *; omega
    stp := List.forall_mem_cons.2 ⟨hs, h.stp⟩
    orph := fun i hi => (h.orph i hi).imp_right (List.mem_cons_of_mem _) }

/-- dropped: the accepted FIN is complete -/
theorem drop {s : MS} {id : Nat} (h : Lifted s id) : MInv s :=
  { h with one := fun i => by have := h.one i; omega }

end Lifted

theorem minv_heapPush {s : MS} (h : MInv s) {id : Nat} (hp : Pend.push id ∈ s.pend) :
    MInv { s with heap := id :: s.heap, pend := s.pend.erase (Pend.push id) } :=
  { h with
    one := fun i => by
      have := h.one i; have := wsum_erase (w := holdsW i) hp; simp only [cnt, holdsW] at *; omega
    stp := fun p hp' => h.stp p (List.mem_of_mem_erase hp')
    orph := fun i hi => by
      rcases h.orph i hi with a | a
      · exact .inl (List.mem_cons_of_mem _ a)
      · by_cases he : i = id
        · exact .inl (he ▸ List.mem_cons_self)
        · exact .inr ((List.mem_erase_of_ne (by simpa using he)).mpr a) }

theorem evIds_ansEv (k id : Nat) (a : Ans) : Nsq.Model.Chan.evIds (ansEv k id a) = [id] := by
  cases a <;> rfl

theorem step_minv {s : MS} (h : MInv s) (op : Op) : MInv (step s op).1 := by
  -- the branches of `step` in their order; where a branch returns `s` itself there is nothing to show
  fun_cases step s op
  · next id hn =>
    exact ((lifted_of_none h hn).event rfl (by simp [okEv, hn]) h.att
      (fun _ _ => rfl)).give_queue (by simp [status, evSt])
  · exact h
  · exact h
  · next k id hq _ =>
    exact ((take_queue h hq).event rfl (by simp [okEv, h.stq id hq, h.att id])
      (fun i => by by_cases hi : id = i <;> simp [getA, nDeliver, hi, h.att])
      (fun i hi => by simp [getA, Ne.symm hi])).give_map (by simp [status, evSt, getA])
  · exact h
  · next hp => exact minv_heapPush h hp
  · exact h
  · next id a hm =>
    have hst := h.stm id hm
    exact ((take_map h hm).event (atts := s.atts) (evIds_ansEv _ id a) (by cases a <;> simp [ansEv, okEv, hst])
      (fun i => by cases a <;> exact h.att i) (fun _ _ => rfl)).give_hand (fun _ => rfl)
      (by cases a <;> simp [pendOk, ansEv, status, evSt, hst])
  · exact h
  · exact h
  · next k id hp => exact (take_hand h hp (fun _ => rfl)).heap_erase.drop
  · next k id hp =>
    exact (take_hand h hp (fun _ => rfl)).heap_erase.give_queue (by simpa [pendOk] using h.stp _ hp)
  · next k id d hd hp =>
    exact (take_hand h hp (fun _ => rfl)).heap_erase.give_deferred (by simpa [pendOk, hd] using h.stp _ hp)
  · next k id hp =>
    exact (take_hand h hp (fun _ => rfl)).heap_erase.give_hand (fun _ => rfl) (h.stp (.ans k id .touch) hp)
  · exact h
  · exact h
  · next k id hp _ =>
    have := h.stp _ hp
    exact (take_hand h hp (fun _ => rfl)).give_map (by simp only [pendOk] at this; rw [this.2]; exact this.1)
  · exact h
  · next id _ hm =>
    exact ((take_map h hm).heap_erase.event rfl (by simp [okEv, h.stm id hm]) h.att
      (fun _ _ => rfl)).give_hand (fun _ => rfl) (by simp [pendOk, status, evSt])
  · next id _ hm => exact { h with orph := orph_erase hm h.orph }
  · exact h
  · next id hp => exact (take_hand h hp (fun _ => rfl)).give_queue (by simpa [pendOk] using h.stp _ hp)
  · exact h
  · next id hd =>
    exact ((take_deferred h hd).event rfl (by simp [okEv, h.std id hd]) h.att
      (fun _ _ => rfl)).give_queue (by simp [status, evSt])
  · exact h

theorem run_minv {s : MS} (h : MInv s) (ops : List Op) : MInv (run s ops) := by
  induction ops generalizing s with
  | nil => exact h
  | cons op ops ih => exact ih (step_minv h op)

theorem ansMapPop_out (s : MS) {id : Nat} (hm : id ∉ s.map) (k : Nat) (a : Ans) :
    step s (.ansMapPop k id a) = (s, .fail) := by
  simp [step, hm]

theorem scanPop_out (s : MS) {id : Nat} (hm : id ∉ s.map) :
    (step s (.scanPop id)).2 ≠ .ok ∧
    (step s (.scanPop id)).1 = { s with heap := s.heap.erase id } := by
  simp only [step]; split
  · simp [hm]
  · rename_i hp; simp [List.erase_of_not_mem hp]

theorem pop_takes_it {s : MS} (h : MInv s) {id : Nat} {op : Op} (hp : isPopOf id op = true)
    (hok : (step s op).2 = .ok) : id ∉ (step s op).1.map := by
  revert hp hok
  fun_cases step s op
  -- the two pops that succeed erase the id, which was there once
  case case8 hm =>
    intro hp _
    obtain rfl : _ = id := by simpa [isPopOf] using hp
    exact (take_map h hm).nowhere.2.2.1
  case case19 _ hm =>
    intro hp _
    obtain rfl : _ = id := by simpa [isPopOf] using hp
    exact (take_map h hm).nowhere.2.2.1
  -- the pops that fail do not answer `ok`
  case case9 | case10 | case20 | case21 => intro _ hok; cases hok
  -- the other branches are no pops
  all_goals (intro hp; cases hp)

theorem stays_out (s : MS) {id : Nat} (hm : id ∉ s.map) {op : Op} (hnp : isPushOf id op = false) :
    id ∉ (step s op).1.map := by
  fun_cases step s op
  -- the two pushes put in another id
  case case4 | case17 =>
    exact List.not_mem_cons_of_ne_of_not_mem (fun he => by simp [isPushOf, he] at hnp) hm
  -- the two pops take out
  case case8 | case19 => exact fun hx => hm (List.mem_of_mem_erase hx)
  -- every other branch leaves the map as it is
  all_goals exact hm

theorem no_win_when_out (s : MS) {id : Nat} (hm : id ∉ s.map) (ops : List Op)
    (hnp : ∀ op ∈ ops, isPushOf id op = false) : wins id s ops = 0 := by
  induction ops generalizing s with
  | nil => rfl
  | cons op ops ih =>
    have hout := stays_out s hm (hnp op List.mem_cons_self)
    have hrest := ih _ hout (fun o ho => hnp o (List.mem_cons_of_mem _ ho))
    have hfail : (isPopOf id op && (step s op).2 == .ok) = false := by
      cases op with
      | ansMapPop k i a =>
        by_cases hi : i = id
        · subst hi; rw [ansMapPop_out s hm]; simp
        · simp [isPopOf, hi]
      | scanPop i =>
        by_cases hi : i = id
        · subst hi; have := (scanPop_out s hm).1; simp [this]
        · simp [isPopOf, hi]
      | _ => simp [isPopOf]
    simp [wins, hfail, hrest]

theorem wins_le_one {s : MS} (hi : MInv s) (id : Nat) (ops : List Op)
    (hnp : ∀ op ∈ ops, isPushOf id op = false) : wins id s ops ≤ 1 := by
  induction ops generalizing s with
  | nil => simp [wins]
  | cons op ops ih =>
    have hnp' : ∀ o ∈ ops, isPushOf id o = false := fun o ho => hnp o (List.mem_cons_of_mem _ ho)
    simp only [wins]
    by_cases hw : (isPopOf id op && (step s op).2 == .ok) = true
    · simp only [Bool.and_eq_true, beq_iff_eq] at hw
      have hout := pop_takes_it hi hw.1 hw.2
      have := no_win_when_out _ hout ops hnp'
      simp [hw.1, hw.2, this]
    · have := ih (step_minv hi op) hnp'
      simp only [Bool.not_eq_true] at hw
      simp [hw]; exact this

end Nsq.Proofs.ChanMicro
