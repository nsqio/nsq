/-
E2 / C04 — the timed micro-step model `Nsq.Model.ChanMicroT` in the F48 shape (`fixed = true`, /repo 88fd245:
`pushInFlightMessage` inserts into the in-flight map AND the deadline heap in one critical section).

Invariant `FInv` (the letters are those of docs/C04.md):
 (e) `nopush`: no heap push is ever pending;  (f) `heapEq`: the heap's ids are the untimed model's heap, entry for entry;
 (d) `nodup`: the ids of the heap entries are pairwise distinct;  (b) `keyPri`: an entry's key is its object's CURRENT `pri`;
 (c) `owned`: an entry's id is in the in-flight map, or an answering goroutine (FIN / REQ / TOUCH between
     `popInFlightMessage` and `removeFromInFlightPQ`) holds it;
 (a) — every in-map id has an entry keyed with its current `pri` — follows from `MInv.orph`, (e), (f), (b).
-/
import Nsq.Proofs.ChanMicroT
namespace Nsq.Proofs.ChanMicroTF
open Nsq.Model.ChanMicro Nsq.Model.ChanMicroT Nsq.Proofs.ChanMicro

theorem eraseK_fst (hk : List (Nat × Int)) (id : Nat) :
    (eraseK hk id).map Prod.fst = (hk.map Prod.fst).erase id := by
  induction hk with
  | nil => rfl
  | cons e l ih =>
    by_cases he : e.1 = id
    · simp [eraseK, he]
    · simp only [eraseK, he, ↓reduceIte, List.map_cons]
      rw [List.erase_cons_tail (by simpa using he), ih]

theorem mem_eraseK {hk : List (Nat × Int)} {id : Nat} {e : Nat × Int} (h : e ∈ eraseK hk id) : e ∈ hk := by
  induction hk with
  | nil => simp [eraseK] at h
  | cons x l ih =>
    by_cases hx : x.1 = id
    · simp only [eraseK, hx, ↓reduceIte] at h; exact List.mem_cons_of_mem _ h
    · simp only [eraseK, hx, ↓reduceIte, List.mem_cons] at h
      rcases h with h | h
      · exact h ▸ List.mem_cons_self
      · exact List.mem_cons_of_mem _ (ih h)

theorem erase_fst {hk : List (Nat × Int)} (hn : (hk.map Prod.fst).Nodup) {id : Nat} {m : Int}
    (hm : (id, m) ∈ hk) : (hk.erase (id, m)).map Prod.fst = (hk.map Prod.fst).erase id := by
  induction hk with
  | nil => cases hm
  | cons e l ih =>
    by_cases he : e = (id, m)
    · subst he; simp
    · have hml : (id, m) ∈ l := by
        rcases List.mem_cons.mp hm with h | h
        · exact absurd h.symm he
        · exact h
      rw [List.map_cons, List.nodup_cons] at hn
      have hne : ¬ e.1 = id := by
        intro h; apply hn.1; rw [h]; exact List.mem_map.mpr ⟨(id, m), hml, rfl⟩
      rw [List.erase_cons_tail (by simpa using he)]
      simp only [List.map_cons]
      rw [List.erase_cons_tail (by simpa using hne), ih hn.2 hml]

theorem minKey_none {hk : List (Nat × Int)} (h : minKey hk = none) : hk = [] := by
  cases hk with
  | nil => rfl
  | cons e l => cases hl : minKey l <;> simp [minKey, hl] at h

theorem minKey_le {hk : List (Nat × Int)} {m : Int} (h : minKey hk = some m) : ∀ e ∈ hk, m ≤ e.2 := by
  revert h
  fun_induction minKey hk generalizing m with
  | case1 => intro h; cases h
  | case2 x l hl ih =>
    intro h e he
    obtain rfl := minKey_none hl
    obtain rfl : e = x := by simpa using he
    exact Int.le_of_eq (Option.some.inj h).symm
  | case3 x l m' hl ih =>
    intro h e he
    have h2 : (if x.2 ≤ m' then x.2 else m') = m := Option.some.inj h
    rcases List.mem_cons.mp he with rfl | he
    · split at h2 <;> omega
    · have := ih hl e he; split at h2 <;> omega

structure FInv (s : TS) : Prop where
  minv   : MInv s.ms
  nopush : ∀ id, Pend.push id ∉ s.ms.pend
  heapEq : s.hk.map Prod.fst = s.ms.heap
  nodup  : (s.hk.map Prod.fst).Nodup
  keyPri : ∀ e ∈ s.hk, s.pri.lookup e.1 = some e.2
  owned  : ∀ e ∈ s.hk, e.1 ∈ s.ms.map ∨ ∃ k a, Pend.ans k e.1 a ∈ s.ms.pend

theorem finv_init : FInv {} := by
  refine ⟨minv_init, ?_, rfl, ?_, ?_, ?_⟩ <;> simp

/-- a queued or touch-held id has no heap entry — why the push of the fixed shape meets a free key: an entry's id is in the map
or in the hand of an answer (`owned`), and an id is in one place -/
theorem no_entry_of {s : TS} (h : FInv s) {id : Nat} (hm : id ∉ s.ms.map)
    (hq : id ∈ s.ms.queue ∨ ∃ k, Pend.touchMap k id ∈ s.ms.pend) : id ∉ s.hk.map Prod.fst := by
  intro hin
  obtain ⟨e, he, rfl⟩ := List.mem_map.mp hin
  rcases h.owned e he with hmm | ⟨k, a, hp⟩
  · exact hm hmm
  · have ⟨hnq, _, _, hnp⟩ := (take_hand h.minv hp (fun _ => rfl)).nowhere
    rcases hq with hq | ⟨k', hp'⟩
    · exact hnq hq
    · have := hnp _ ((List.mem_erase_of_ne (by intro hc; cases hc)).mpr hp')
      rw [show holdsW e.1 (.touchMap k' e.1) = 1 from isId_self _] at this
      cases this

theorem finv_frame {s : TS} (h : FInv s) {ms1 : MS} (hm : MInv ms1) (hheap : ms1.heap = s.ms.heap)
    (hpush : ∀ id, Pend.push id ∈ ms1.pend → Pend.push id ∈ s.ms.pend)
    (hown : ∀ id, (id ∈ s.ms.map ∨ ∃ k a, Pend.ans k id a ∈ s.ms.pend) →
      (id ∈ ms1.map ∨ ∃ k a, Pend.ans k id a ∈ ms1.pend)) :
    FInv { s with ms := ms1 } := by
  refine ⟨hm, fun id hp => h.nopush id (hpush id hp), ?_, h.nodup, h.keyPri, fun e he => hown _ (h.owned e he)⟩
  show s.hk.map Prod.fst = ms1.heap
  rw [hheap]; exact h.heapEq

theorem finv_drop {s : TS} (h : FInv s) {ms1 : MS} {id : Nat} {hk' : List (Nat × Int)}
    (hfst : hk'.map Prod.fst = (s.hk.map Prod.fst).erase id) (hsub : ∀ e ∈ hk', e ∈ s.hk) (hm : MInv ms1)
    (hheap : ms1.heap = s.ms.heap.erase id)
    (hmap : ∀ i, i ≠ id → i ∈ s.ms.map → i ∈ ms1.map)
    (hpush : ∀ i, Pend.push i ∈ ms1.pend → Pend.push i ∈ s.ms.pend)
    (hans : ∀ i k a, i ≠ id → Pend.ans k i a ∈ s.ms.pend → Pend.ans k i a ∈ ms1.pend) (tl : List TEv) :
    FInv { ms := ms1, pri := s.pri, hk := hk', tlog := tl } := by
  have hnd : (hk'.map Prod.fst).Nodup := by rw [hfst]; exact h.nodup.erase _
  refine ⟨hm, fun i hp => h.nopush i (hpush i hp), ?_, hnd, fun e he => h.keyPri e (hsub e he), ?_⟩
  · show hk'.map Prod.fst = ms1.heap
    rw [hheap, hfst, h.heapEq]
  · intro e he
    show e.1 ∈ ms1.map ∨ ∃ k a, Pend.ans k e.1 a ∈ ms1.pend
    have hne : e.1 ≠ id := by
      have : e.1 ∈ hk'.map Prod.fst := List.mem_map.mpr ⟨e, he, rfl⟩
      rw [hfst] at this
      exact (h.nodup.mem_erase_iff.mp this).1
    rcases h.owned e (hsub e he) with a | ⟨k, a, hp⟩
    · exact Or.inl (hmap _ hne a)
    · exact Or.inr ⟨k, a, hans _ k a hne hp⟩

theorem finv_eraseK {s : TS} (h : FInv s) {ms1 : MS} {id : Nat} (hm : MInv ms1) (hheap : ms1.heap = s.ms.heap.erase id)
    (hmap : ms1.map = s.ms.map)
    (hpush : ∀ i, Pend.push i ∈ ms1.pend → Pend.push i ∈ s.ms.pend) {k : Nat} {a : Ans}
    (hrest : ∀ p ∈ s.ms.pend.erase (Pend.ans k id a), p ∈ ms1.pend) :
    FInv { s with ms := ms1, hk := eraseK s.hk id } :=
  finv_drop h (eraseK_fst _ _) (fun _ => mem_eraseK) hm hheap (fun _ _ hi => hmap ▸ hi) hpush
    (fun _ _ _ hne hp => hrest _ ((List.mem_erase_of_ne (by intro hc; cases hc; exact hne rfl)).mpr hp)) s.tlog

/-- map insert + heap insert in one critical section (F48) -/
theorem finv_push {s : TS} (h : FInv s) {ms2 : MS} {id : Nat} (d : Int) (hm : MInv ms2)
    (hfree : id ∉ s.hk.map Prod.fst)
    (hheap : ms2.heap = id :: s.ms.heap) (hmap : ms2.map = id :: s.ms.map)
    (hpush : ∀ i, Pend.push i ∈ ms2.pend → Pend.push i ∈ s.ms.pend)
    (hans : ∀ i k a, Pend.ans k i a ∈ s.ms.pend → Pend.ans k i a ∈ ms2.pend) :
    FInv { ms := ms2, pri := (id, d) :: s.pri, hk := (id, d) :: s.hk, tlog := .stamp id d :: s.tlog } := by
  refine ⟨hm, fun i hp => h.nopush i (hpush i hp), ?_, ?_, ?_, ?_⟩
  · show ((id, d) :: s.hk).map Prod.fst = ms2.heap
    rw [hheap, List.map_cons, h.heapEq]
  · show (((id, d) :: s.hk).map Prod.fst).Nodup
    rw [List.map_cons, List.nodup_cons]; exact ⟨hfree, h.nodup⟩
  · intro e he
    show ((id, d) :: s.pri).lookup e.1 = some e.2
    rcases List.mem_cons.mp he with he | he
    · subst he; simp
    · have hne : e.1 ≠ id := fun hc => hfree (hc ▸ List.mem_map.mpr ⟨e, he, rfl⟩)
      have : (e.1 == id) = false := by simpa using hne
      simp only [List.lookup_cons, this]
      exact h.keyPri e he
  · intro e he
    show e.1 ∈ ms2.map ∨ ∃ k a, Pend.ans k e.1 a ∈ ms2.pend
    rcases List.mem_cons.mp he with he | he
    · subst he; exact Or.inl (hmap ▸ List.mem_cons_self)
    · rcases h.owned e he with a | ⟨k, a, hp⟩
      · exact Or.inl (hmap ▸ List.mem_cons_of_mem _ a)
      · exact Or.inr ⟨k, a, hans _ k a hp⟩

theorem finv_tlog {s : TS} (h : FInv s) (tl : List TEv) : FInv { s with tlog := tl } :=
  ⟨h.minv, h.nopush, h.heapEq, h.nodup, h.keyPri, h.owned⟩

theorem finv_plain {s : TS} (h : FInv s) (op : Op) : FInv (stepT true s (.plain op)).1 := by
  have hm := step_minv h.minv op
  revert hm
  simp only [stepT]
  -- the branches of `step`; a rejected or timed operation leaves the state as it is
  fun_cases step s.ms op
  all_goals (simp only [timed, Bool.false_eq_true, ↓reduceIte]; intro hm)
  -- PUT and the deferred message coming due touch neither map, heap nor pending list
  case case1 | case24 => exact finv_frame h hm rfl (fun _ hi => hi) (fun _ hi => hi)
  -- no heap push is pending
  case case6 hp => exact absurd hp (h.nopush _)
  -- the answer takes the id out of the map into its own hand
  case case8 id a _ =>
    refine finv_frame h hm rfl (fun i hi => ?_) (fun i hi => ?_)
    · rcases List.mem_cons.mp hi with hc | hi
      · cases hc
      · exact hi
    · rcases hi with hi | ⟨k', a', hp⟩
      · by_cases hid : i = id
        · subst hid; exact Or.inr ⟨_, a, List.mem_cons_self⟩
        · exact Or.inl ((List.mem_erase_of_ne hid).mpr hi)
      · exact Or.inr ⟨k', a', List.mem_cons_of_mem _ hp⟩
  -- FIN and REQ finishing
  case case11 | case12 | case13 =>
    exact finv_eraseK h hm rfl rfl (fun _ hi => List.mem_of_mem_erase hi) (fun _ hp => hp)
  -- TOUCH finishing
  case case14 =>
    refine finv_eraseK h hm rfl rfl (fun i hi => ?_) (fun _ hp => List.mem_cons_of_mem _ hp)
    rcases List.mem_cons.mp hi with hc | hi
    · cases hc
    · exact List.mem_of_mem_erase hi
  -- the scan requeues what it holds
  case case22 =>
    refine finv_frame h hm rfl (fun _ hi => List.mem_of_mem_erase hi) (fun i hi => ?_)
    rcases hi with hi | ⟨k, a, hp⟩
    · exact Or.inl hi
    · exact Or.inr ⟨k, a, (List.mem_erase_of_ne (by intro hc; cases hc)).mpr hp⟩
  all_goals exact h

theorem finv_pushWith {s : TS} (h : FInv s) {op : Op} {id : Nat} (hop : isPushOf id op = true) (d : Int) :
    FInv (pushWith true s op id d).1 := by
  have hm1 := step_minv h.minv op
  revert hop hm1
  unfold pushWith
  fun_cases step s.ms op
  -- the two pushes that succeed
  case case4 _ i hq hm =>
    intro hop hm1
    obtain rfl : _ = id := by simpa [isPushOf] using hop
    -- the fused push: `heapPush` run on the entry the map push has just left pending
    have hm2 := step_minv hm1 (.heapPush i)
    simp only [step, List.mem_cons_self, ↓reduceIte, List.erase_cons_head] at hm2 ⊢
    exact finv_push h d hm2 (no_entry_of h hm (Or.inl hq)) rfl rfl (fun _ hi => hi) (fun _ _ _ hp => hp)
  case case17 k i hq hm =>
    intro hop hm1
    obtain rfl : _ = id := by simpa [isPushOf] using hop
    have hm2 := step_minv hm1 (.heapPush i)
    simp only [step, List.mem_cons_self, ↓reduceIte, List.erase_cons_head] at hm2 ⊢
    exact finv_push h d hm2 (no_entry_of h hm (Or.inr ⟨k, hq⟩)) rfl rfl (fun _ hi => List.mem_of_mem_erase hi)
      (fun _ _ _ hp => (List.mem_erase_of_ne (by intro hc; cases hc)).mpr hp)
  -- the pushes that are refused
  case case3 | case5 | case16 | case18 => exact fun _ _ => h
  -- the other branches are no pushes
  all_goals (intro hop; cases hop)

theorem isRoot_mem {hk : List (Nat × Int)} {id : Nat} {m : Int} (h : isRoot hk id m = true) :
    minKey hk = some m ∧ (id, m) ∈ hk := by
  simp only [isRoot, Bool.and_eq_true, beq_iff_eq, List.contains_iff_mem] at h
  exact h

theorem finv_scanPop {s : TS} (h : FInv s) (id : Nat) (t : Int) : FInv (stepT true s (.scanPop id t)).1 := by
  simp only [stepT]
  split
  · rename_i m d hmk hpr
    split
    · rename_i hg
      simp only [Bool.and_eq_true, decide_eq_true_eq] at hg
      have hin := (isRoot_mem hg.1).2
      have hheap : id ∈ s.ms.heap := by rw [← h.heapEq]; exact List.mem_map.mpr ⟨(id, m), hin, rfl⟩
      have hmi := step_minv h.minv (.scanPop id)
      by_cases hm : id ∈ s.ms.map
      · simp only [step, hheap, hm, ↓reduceIte] at hmi ⊢
        refine finv_drop h (erase_fst h.nodup hin) (fun _ => List.mem_of_mem_erase) hmi rfl ?_ ?_ ?_ _
        · intro i hne hi; exact (List.mem_erase_of_ne hne).mpr hi
        · intro i hi
          rcases List.mem_cons.mp hi with hc | hi
          · cases hc
          · exact hi
        · intro i k a _ hp; exact List.mem_cons_of_mem _ hp
      · simp only [step, hheap, hm, ↓reduceIte] at hmi ⊢
        exact finv_drop h (erase_fst h.nodup hin) (fun _ => List.mem_of_mem_erase) hmi rfl (fun _ _ hi => hi) (fun _ hi => hi)
          (fun _ _ _ _ hp => hp) s.tlog
    · exact h
  · exact h

theorem finv_scanIdle {s : TS} (h : FInv s) (t : Int) : FInv (stepT true s (.scanIdle t)).1 := by
  simp only [stepT]
  split
  · exact h
  · split <;> exact h

theorem stepT_finv {s : TS} (h : FInv s) (op : TOp) : FInv (stepT true s op).1 := by
  cases op with
  | plain o => exact finv_plain h o
  | delMapPush k id now to => exact finv_pushWith h (by simp [isPushOf]) _
  | touchMapPush k id now to => exact finv_pushWith h (by simp [isPushOf]) _
  | scanPop id t => exact finv_scanPop h id t
  | scanIdle t => exact finv_scanIdle h t

theorem runT_finv {s : TS} (h : FInv s) (ops : List TOp) : FInv (runT true s ops) := by
  induction ops generalizing s with
  | nil => exact h
  | cons op ops ih => exact ih (stepT_finv h op)

/-- (a) of `FInv` -/
theorem map_has_entry {s : TS} (h : FInv s) {id : Nat} (hm : id ∈ s.ms.map) :
    ∃ d, priOf s id = some d ∧ (id, d) ∈ s.hk := by
  rcases h.minv.orph id hm with hh | hp
  · rw [← h.heapEq] at hh
    obtain ⟨e, he, rfl⟩ := List.mem_map.mp hh
    exact ⟨e.2, h.keyPri e he, he⟩
  · exact absurd hp (h.nopush id)

theorem scanIdle_complete {s : TS} (h : FInv s) {t : Int} (hi : (stepT true s (.scanIdle t)).2 = .ok) :
    ∀ id ∈ s.ms.map, ∀ d, priOf s id = some d → t < d := by
  intro id hm d hd
  obtain ⟨d', hd', hin⟩ := map_has_entry h hm
  obtain rfl : d = d' := Option.some.inj (hd.symm.trans hd')
  simp only [stepT] at hi
  split at hi
  · rename_i hmk
    have := minKey_none hmk
    rw [this] at hin; cases hin
  · rename_i m hmk
    split at hi
    · rename_i hany
      obtain ⟨e, he, hcond⟩ := List.any_eq_true.mp hany
      simp only [Bool.and_eq_true, beq_iff_eq] at hcond
      rw [show priOf s e.1 = some e.2 from h.keyPri e he] at hcond
      have hlt : t < e.2 := by simpa using hcond.2
      have hle := minKey_le hmk _ hin
      simp only at hle
      omega
    · cases hi

theorem stale_pop_has_answer {s : TS} (h : FInv s) {id : Nat} {t : Int}
    (hf : (stepT true s (.scanPop id t)).2 = .fail) : ∃ k a, Pend.ans k id a ∈ s.ms.pend := by
  simp only [stepT] at hf
  split at hf
  · rename_i m d hmk hpr
    split at hf
    · rename_i hg
      simp only [Bool.and_eq_true, decide_eq_true_eq] at hg
      have hin := (isRoot_mem hg.1).2
      by_cases hm : id ∈ s.ms.map
      · have hheap : id ∈ s.ms.heap := by rw [← h.heapEq]; exact List.mem_map.mpr ⟨(id, m), hin, rfl⟩
        simp only [step, hheap, hm, ↓reduceIte] at hf
        cases hf
      · rcases h.owned _ hin with a | a
        · exact absurd a hm
        · exact a
    · cases hf
  · cases hf

end Nsq.Proofs.ChanMicroTF
