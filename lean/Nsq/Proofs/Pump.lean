/-
E2 — the pump / output-buffer model `Nsq.Model.Pump`: its invariant, and the step of a run whose guard evaluations all
find "not ready" (`quiet_step`: the queue cases stay off, no message is counted or written).
-/
import Nsq.Model.Pump
namespace Nsq.Proofs.Pump
open Nsq.Model.Pump

/-- `flushed` means the bufio writer is empty; in the `select` with something buffered the flusher
case is armed -/
structure PInv (s : PState) : Prop where
  empty : s.flushed = true → s.buf = []
  armed : s.inSelect = true → s.buf ≠ [] → s.fArmed = true

theorem flush_buf (s : PState) : (flush s).buf = [] := by
  unfold flush
  by_cases h : s.buf.isEmpty = true
  · simp only [h, ↓reduceIte]; simpa using h
  · simp [h]

theorem flush_wire (s : PState) : (flush s).wire.flatten = s.wire.flatten ++ s.buf := by
  unfold flush
  by_cases h : s.buf.isEmpty = true
  · have : s.buf = [] := by simpa using h
    simp [this]
  · simp [h]

theorem flush_written (s : PState) : written (flush s) = written s := by
  rw [written, flush_wire, flush_buf, List.append_nil, written]

/-- `flush` touches `wire` and `buf` only: rewriting with it exposes every other field of `flush s` as that of `s` -/
theorem flush_eq (s : PState) : flush s = { s with wire := (flush s).wire, buf := (flush s).buf } := by
  unfold flush; split <;> rfl

theorem flush_sent (s : PState) : (flush s).sent = s.sent := by rw [flush_eq]

theorem inv_init : PInv {} := ⟨fun _ => rfl, fun h => by cases h⟩

theorem top_ok {s : PState} (h : (step s .top).2 = .ok) : s.exited = false ∧ s.inSelect = false := by
  simp only [step] at h
  cases hx : s.exited <;> cases hs : s.inSelect <;> simp [hx, hs] at h ⊢

theorem top_eq {s : PState} (hx : s.exited = false) (hs : s.inSelect = false) :
    step s .top =
      (if s.sub && ready s then { s with qArmed := true, fArmed := !s.flushed, inSelect := true }
       else { flush s with qArmed := false, fArmed := false, flushed := true, inSelect := true }, .ok) := by
  cases h1 : s.sub <;> cases h2 : ready s <;> cases h3 : s.flushed <;> simp [step, hx, hs, h1, h2, h3]

theorem step_recv (s : PState) (h : (step s .recv).2 = .ok) :
    s.inSelect = true ∧ s.qArmed = true ∧
    (step s .recv).1 = { s with buf := s.buf ++ [.msg s.sent], sent := s.sent + 1, inFlight := s.inFlight + 1,
                                flushed := false, inSelect := false } := by
  simp only [step] at h ⊢
  split at h
  · cases h
  split at h
  · cases h
  next h1 h2 => exact ⟨by simpa using h1, by simpa using h2, by rw [if_neg h1, if_neg h2]⟩

/-- `fun_cases` gives one goal per branch of `step`, the refused ones (the state is returned as it is) included; the
cases named are the accepted transitions that matter. -/
theorem step_inv (s : PState) (h : PInv s) (op : Op) : PInv (step s op).1 := by
  obtain ⟨h1, h2⟩ := h
  fun_cases step s op
  -- `top`: not ready (forced flush) / ready and flushed / ready with something buffered (flusher armed)
  case case3 => exact ⟨fun _ => flush_buf s, fun _ hb => absurd (flush_buf s) hb⟩
  case case4 hf => exact ⟨h1, fun _ hb => absurd (h1 hf) hb⟩
  case case5 => exact ⟨h1, fun _ _ => rfl⟩
  -- `flushTick`, `heartbeat`, `respond` flush; `recv` buffers and clears `flushed`
  case case8 => exact ⟨fun _ => flush_buf s, nofun⟩
  case case19 => exact ⟨fun _ => flush_buf _, nofun⟩
  case case22 => exact ⟨nofun, nofun⟩
  case case29 => exact ⟨fun _ => flush_buf _, fun _ hb => absurd (flush_buf _) hb⟩
  -- the other select cases only leave the `select`
  case case10 | case13 | case16 | case26 | case28 => exact ⟨h1, nofun⟩
  all_goals exact ⟨h1, h2⟩

theorem run_inv (s : PState) (h : PInv s) (ops : List Op) : PInv (run s ops) := by
  induction ops generalizing s with
  | nil => exact h
  | cons op ops ih => exact ih _ (step_inv s h op)

def appended (s : PState) (op : Op) : List Frame :=
  match op with
  | .recv => if (step s .recv).2 = .ok then [.msg s.sent] else []
  | .heartbeat => if (step s .heartbeat).2 = .ok then [.hb] else []
  | .respond => [.resp]
  | _ => []

theorem written_push (s : PState) (f : Frame) :
    written { s with buf := s.buf ++ [f] } = written s ++ [f] :=
  (List.append_assoc ..).symm

theorem appended_eq (s : PState) (op : Op) :
    appended s op = match op, (step s op).2 with
      | .recv, .ok => [.msg s.sent]
      | .heartbeat, .ok => [.hb]
      | .respond, _ => [.resp]
      | _, _ => [] := by
  cases op with
  | recv | heartbeat => simp only [appended]; split <;> simp_all
  | _ => rfl

/-- a run in which every evaluation of the guard at the head of the loop finds "not ready" -/
def quietRun (s : PState) : List Op → Prop
  | [] => True
  | op :: ops => (op = .top → (!s.sub || !ready s) = true) ∧ quietRun (step s op).1 ops

/-- inside the `select` the queue cases are off: no `recv` is accepted before the next `top` -/
def Disarmed (s : PState) : Prop := s.inSelect = true → s.qArmed = false

theorem quiet_step (s : PState) (hd : Disarmed s) (op : Op) (hq : op = .top → (!s.sub || !ready s) = true) :
    Disarmed (step s op).1 ∧ (step s op).1.sent = s.sent ∧ (appended s op).filter Frame.isMsg = [] := by
  rw [appended_eq]
  fun_cases step s op
  -- `top` finds "not ready": queues off; the two "ready" branches are excluded by `hq`
  case case3 => exact ⟨fun _ => rfl, flush_sent s, rfl⟩
  case case4 hn _ | case5 hn _ => exact absurd (hq rfl) hn
  case case8 => exact ⟨nofun, flush_sent s, rfl⟩
  case case19 => exact ⟨nofun, flush_sent _, rfl⟩
  -- `recv` needs the queue cases armed inside the `select`
  case case22 hs ha => rw [hd (by simpa using hs)] at ha; exact absurd rfl ha
  case case29 =>
    refine ⟨fun hh => ?_, flush_sent _, rfl⟩
    rw [flush_eq] at hh ⊢
    exact hd hh
  case case10 | case13 | case16 | case26 | case28 => exact ⟨nofun, rfl, rfl⟩
  all_goals exact ⟨hd, rfl, rfl⟩

end Nsq.Proofs.Pump
