import Nsq.Model.Aggregate
/-!
`fetched_allFailed` / `fetched_got` are the 200+warning / 502 rule read off `fetched`; the fetches that cannot fault
are instances of it (the producer fetches of nsqlookupd mode and GetNSQDStats stand next to their values).
-/
namespace Nsq.Proofs.AggregateFetch
open Nsq.Model.Aggregate

theorem countFailed_eq_length {α : Type} (l : List (Option α)) :
    countFailed l = l.length ↔ ∀ x ∈ l, x = none := by
  simp only [countFailed, List.length_filter_eq_length_iff, Option.isNone_iff_eq_none]

theorem countFailed_cons_none {α : Type} (l : List (Option α)) :
    countFailed (none :: l) = countFailed l + 1 := by simp [countFailed]

theorem countFailed_cons_some {α : Type} (a : α) (l : List (Option α)) :
    countFailed (some a :: l) = countFailed l := by simp [countFailed]

def statsAnswers (w : World) (ps : List Producer) (sel selc : String) (incl : Bool) :
    List (Option (List (Option Topic))) :=
  ps.map (fun p => statsOf w p.addr sel (if sel == "" then "" else selc) incl)

theorem exists_mem_map {α β : Type} {f : α → β} {l : List α} {p : β → Prop} :
    (∃ b ∈ l.map f, p b) ↔ ∃ a ∈ l, p (f a) :=
  ⟨fun ⟨_, hb, h⟩ => let ⟨a, ha, e⟩ := List.mem_map.1 hb; ⟨a, ha, e ▸ h⟩,
   fun ⟨_, ha, h⟩ => ⟨_, List.mem_map_of_mem ha, h⟩⟩

theorem countFailed_pos {α : Type} (l : List (Option α)) : 0 < countFailed l ↔ ∃ a ∈ l, a = none := by
  unfold countFailed
  rw [List.length_pos_iff_exists_mem]
  constructor
  · rintro ⟨a, ha⟩
    rw [List.mem_filter, Option.isNone_iff_eq_none] at ha
    exact ⟨a, ha⟩
  · rintro ⟨a, ha, hn⟩
    exact ⟨a, List.mem_filter.2 ⟨ha, Option.isNone_iff_eq_none.2 hn⟩⟩

/-- The shape of every `Get*` function of clusterinfo: nothing usable when every upstream failed (`len(errs) ==
len(upstreams)`), else the value `x` made of the answers that arrived, with the number of those that did not. -/
def fetched {α β : Type} (answers : List (Option α)) (x : β) : Fetched β :=
  if countFailed answers == answers.length then .allFailed else .got x (countFailed answers)

theorem fetched_allFailed {α β : Type} {answers : List (Option α)} {x : β} :
    fetched answers x = .allFailed ↔ ∀ a ∈ answers, a = none := by
  rw [← countFailed_eq_length, fetched]
  split
  next h => exact ⟨fun _ => beq_iff_eq.1 h, fun _ => rfl⟩
  next h => exact ⟨fun hx => (nomatch hx), fun e => absurd (beq_iff_eq.2 e) h⟩

theorem fetched_got {α β : Type} {answers : List (Option α)} {x y : β} {f : Nat} (h : fetched answers x = .got y f) :
    y = x ∧ f = countFailed answers ∧ ¬ ∀ a ∈ answers, a = none := by
  unfold fetched at h
  split at h
  · cases h
  · next hne => cases h; exact ⟨rfl, rfl, fun hall => hne (beq_iff_eq.2 ((countFailed_eq_length _).2 hall))⟩

theorem unionNames_fetched (answers : List (Option (List String))) :
    unionNames answers = fetched answers (sortNames (uniq (answers.filterMap id).flatten)) := rfl

theorem lookupdTopics_eq (ls : List Lookupd) : lookupdTopics ls = unionNames (ls.map (·.topics)) := by
  simp only [lookupdTopics, unionNames, List.length_map]

theorem nsqdTopics_eq (w : World) :
    nsqdTopics w = unionNames (w.nsqdAddrs.map (fun a => (statsOf w a "" "" true).map topicNames)) := by
  simp only [nsqdTopics, unionNames, List.length_map, countFailed, List.filter_map, List.filterMap_map,
    Function.comp_def, Option.isNone_map, id, List.map_filterMap]

theorem nsqdTopics_fetched (w : World) :
    nsqdTopics w = fetched (w.nsqdAddrs.map (fun a => statsOf w a "" "" true))
      (sortNames (uniq (((w.nsqdAddrs.map (fun a => statsOf w a "" "" true)).filterMap id).map topicNames).flatten)) := by
  simp only [nsqdTopics, fetched, List.length_map]

theorem nsqdProducers_fetched (w : World) (addrs : List String) :
    nsqdProducers w addrs = fetched (addrs.map (nsqdProducer w)) (addrs.filterMap (nsqdProducer w)) := by
  simp only [nsqdProducers, fetched, List.length_map, List.filterMap_map, Function.comp_def, id]

theorem getProducers_direct {fx : Fixes} {w : World} (hl : w.lookupds = []) :
    getProducers fx w = .ok (fetched (w.nsqdAddrs.map (nsqdProducer w)) (w.nsqdAddrs.filterMap (nsqdProducer w))) := by
  rw [← nsqdProducers_fetched]; simp [getProducers, hl]

theorem nsqdTopicProducers_fetched (w : World) (topic : String) :
    nsqdTopicProducers w topic = fetched (w.nsqdAddrs.map (nsqdTopicProducer w topic))
      ((w.nsqdAddrs.filterMap (nsqdTopicProducer w topic)).filterMap id) := by
  simp only [nsqdTopicProducers, fetched, List.length_map, List.filterMap_map, Function.comp_def, id]

end Nsq.Proofs.AggregateFetch
