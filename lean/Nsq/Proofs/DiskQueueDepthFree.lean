import Nsq.Proofs.DiskQueueApi
/-!
`depth`, `needSync`, `count` and the metadata file never influence what is written to or read from the
data files: they only decide when the metadata file is rewritten and whether `checkTailCorruption`
resets `depth` at the tail.  So every function of the model maps `E`-related states to `E`-related states with
the same answer, and a state whose `depth` is stale (after a process kill between two syncs) behaves, for
every future operation, exactly like the healthy state next to it — except for what `Depth()` reports.
-/
namespace Nsq.Proofs.DiskQueue
open Nsq.Model.Wire Nsq.Model.DiskQueue

variable {s s' : St}

/-- for an `f` that changes other fields too: compare `f t` with `f` of an updated `t`.  When `f` is itself an `E`-step from
every state, `E_conj` -/
theorem E_of_upd {f : St → St} (hf : ∀ t dp ns ct md, E (f t) (f (upd t dp ns ct md))) (h : E s s') : E (f s) (f s') := by
  obtain ⟨dp, ns, ct, md, rfl⟩ := h
  exact hf s dp ns ct md

theorem E_sync {s s' : St} (h : E s s') : E (sync s) (sync s') :=
  E_of_upd (fun _ _ _ _ _ => ⟨_, _, _, _, rfl⟩) h

theorem E_rollWrite (h : E s s') : E (rollWrite s) (rollWrite s') :=
  E_of_upd (fun _ _ _ _ _ => ⟨_, _, _, _, rfl⟩) h

theorem E_appendRec (h : E s s') (d : Bytes) : E (appendRec s d) (appendRec s' d) :=
  E_of_upd (f := fun t => appendRec t d) (fun _ _ _ _ _ => ⟨_, _, _, _, rfl⟩) h

theorem E_ite {c c' : Prop} [Decidable c] [Decidable c'] (hc : c' ↔ c) {a b a' b' : St}
    (ha : c → E a a') (hb : ¬ c → E b b') : E (if c then a else b) (if c' then a' else b') := by
  by_cases x : c
  · rw [if_pos x, if_pos (hc.mpr x)]; exact ha x
  · rw [if_neg x, if_neg (fun y => x (hc.mp y))]; exact hb x

theorem E_ite2 {α : Type} {c c' : Prop} [Decidable c] [Decidable c'] (hc : c' ↔ c) {a b a' b' : α × St}
    (ha : c → a'.1 = a.1 ∧ E a.2 a'.2) (hb : ¬ c → b'.1 = b.1 ∧ E b.2 b'.2) :
    (if c' then a' else b').1 = (if c then a else b).1 ∧ E (if c then a else b).2 (if c' then a' else b').2 := by
  by_cases x : c
  · rw [if_pos x, if_pos (hc.mpr x)]; exact ha x
  · rw [if_neg x, if_neg (fun y => x (hc.mp y))]; exact hb x

theorem E_writeOne (h : E s s') (d : Bytes) :
    (writeOne s' d).1 = (writeOne s d).1 ∧ E (writeOne s d).2 (writeOne s' d).2 := by
  have hc : s'.cfg = s.cfg := by obtain ⟨dp, ns, ct, md, rfl⟩ := h; rfl
  have hr : needRoll s' d = needRoll s d := by obtain ⟨dp, ns, ct, md, rfl⟩ := h; rfl
  unfold writeOne
  exact E_ite2 (by rw [hc]) (fun _ => ⟨rfl, h⟩) (fun _ => E_ite2 (by rw [hr])
    (fun _ => ⟨rfl, E_appendRec (E_rollWrite h) d⟩) (fun _ => ⟨rfl, E_appendRec h d⟩))

theorem openRead_upd (s : St) (dp : Int) (ns : Bool) (ct : Nat) (md : Option Meta) :
    openRead (upd s dp ns ct md) = (openRead s).map (fun t => upd t dp ns ct md) := by
  unfold openRead
  by_cases ho : s.rOpen = true
  · have ho' : (upd s dp ns ct md).rOpen = true := ho
    rw [if_pos ho', if_pos ho]; rfl
  · have ho' : ¬ (upd s dp ns ct md).rOpen = true := ho
    rw [if_neg ho', if_neg ho]
    cases hd : s.fs.dat s.rf with
    | none =>
      have hd' : (upd s dp ns ct md).fs.dat (upd s dp ns ct md).rf = none := hd
      simp only [hd']; rfl
    | some c =>
      have hd' : (upd s dp ns ct md).fs.dat (upd s dp ns ct md).rf = some c := hd
      simp only [hd']; rfl

theorem afterRead_upd (s : St) (d : Bytes) (dp : Int) (ns : Bool) (ct : Nat) (md : Option Meta) :
    afterRead (upd s dp ns ct md) d = upd (afterRead s d) dp ns ct md := by
  unfold afterRead
  -- the test reads none of the four fields
  rw [apply_ite (upd · dp ns ct md)]
  rfl

theorem readCore_upd (s : St) (dp : Int) (ns : Bool) (ct : Nat) (md : Option Meta) :
    readCore (upd s dp ns ct md) = ((readCore s).1, upd (readCore s).2 dp ns ct md) := by
  unfold readCore
  have hs : (upd s dp ns ct md).stream = s.stream := rfl
  have hc : (upd s dp ns ct md).cfg = s.cfg := rfl
  rw [hs, hc]
  cases hd : dqRead s.cfg.minMsgSize s.cfg.maxMsgSize s.stream with
  | none => rfl
  | some r =>
    simp only []
    have e1 : (consumed (upd s dp ns ct md) r.1) = upd (consumed s r.1) dp ns ct md := rfl
    rw [e1, afterRead_upd]

theorem readOne_upd (s : St) (dp : Int) (ns : Bool) (ct : Nat) (md : Option Meta) :
    readOne (upd s dp ns ct md) = ((readOne s).1, upd (readOne s).2 dp ns ct md) := by
  rw [readOne_eq, readOne_eq, openRead_upd]
  cases ho : openRead s with
  | none => rfl
  | some s1 => exact readCore_upd s1 dp ns ct md

theorem E_readOne (h : E s s') :
    (readOne s').1 = (readOne s).1 ∧ E (readOne s).2 (readOne s').2 := by
  obtain ⟨dp, ns, ct, md, rfl⟩ := h
  rw [readOne_upd]
  exact ⟨rfl, _, _, _, _, rfl⟩

theorem E_skip {s s' : St} (h : E s s') : E (skipToNextRWFile s) (skipToNextRWFile s') :=
  E_of_upd (fun _ _ _ _ _ => ⟨_, _, _, _, rfl⟩) h

theorem E_set {s s' : St} (h : E s s') (dp : Int) (ns : Bool) (ct : Nat) (md : Option Meta) :
    E s (upd s' dp ns ct md) := by
  obtain ⟨dp0, ns0, ct0, md0, rfl⟩ := h
  exact ⟨dp, ns, ct, md, rfl⟩

theorem E_reset (t : St) : E t (if t.depth ≠ 0 then { t with depth := 0, needSync := true } else t) := by
  split
  · exact ⟨0, true, t.count, t.fs.md, rfl⟩
  · exact E.refl t

theorem E_checkTail (h : E s s') : E (checkTail s) (checkTail s') := by
  obtain ⟨hrf, hrp, hwf, hwp, _⟩ := E_pos h
  rw [checkTail_eq s, checkTail_eq s']
  refine E_ite (by rw [hrf, hrp, hwf, hwp]) (fun _ => h) (fun _ => E_ite (by rw [hrf, hrp, hwf, hwp]) (fun _ => ?_) (fun _ => ?_))
  · obtain ⟨dp, ns, ct, md, rfl⟩ := h
    exact ⟨_, _, _, _, rfl⟩
  · -- whether `depth` is reset on either side does not matter: `E` ignores it
    exact E_conj E_reset h

theorem E_moveForward (h : E s s') : E (moveForward s) (moveForward s') := by
  have hrf := (E_pos h).rf
  have hnrf := (E_pos h).nrf
  unfold moveForward
  refine E_ite (by rw [hrf, hnrf]) (fun _ => E_checkTail ?_) (fun _ => E_checkTail ?_)
  · obtain ⟨dp, ns, ct, md, rfl⟩ := h
    exact ⟨_, _, _, _, rfl⟩
  · obtain ⟨dp, ns, ct, md, rfl⟩ := h
    exact ⟨_, _, _, _, rfl⟩

theorem quarantine_md (fs : FS) (i : Nat) (md : Option Meta) :
    quarantine { fs with md := md } i = { quarantine fs i with md := md } := by
  unfold quarantine
  cases h : fs.dat i <;> rfl

theorem E_handleReadError (h : E s s') : E (handleReadError s) (handleReadError s') := by
  have hrf := (E_pos h).rf
  have hwf := (E_pos h).wf
  unfold handleReadError
  refine E_ite (by rw [hrf, hwf]) (fun _ => E_checkTail ?_) (fun _ => E_checkTail ?_)
  · obtain ⟨dp, ns, ct, md, rfl⟩ := h
    exact ⟨dp, true, ct, md, by unfold upd; simp only [quarantine_md]⟩
  · obtain ⟨dp, ns, ct, md, rfl⟩ := h
    exact ⟨dp, true, ct, md, by unfold upd; simp only [quarantine_md]⟩

theorem E_canRead (h : E s s') : canRead s' = canRead s := by
  obtain ⟨dp, ns, ct, md, rfl⟩ := h
  rfl

theorem E_syncDue (h : E s s') : E (syncDue s) (syncDue s') := E_conj syncDue_E h

theorem E_settleStep (h : E s s') :
    (settleStep s').1 = (settleStep s).1 ∧ E (settleStep s).2 (settleStep s').2 := by
  have hd := E_syncDue h
  have hc := E_canRead hd
  have hrp := (E_pos hd).rp
  have hnrp := (E_pos hd).nrp
  obtain ⟨r1, r2⟩ := E_readOne hd
  unfold settleStep
  exact E_ite2 (by rw [hc]) (fun _ => E_ite2 (by rw [hrp, hnrp])
      (fun _ => E_ite2 (by rw [r1]) (fun _ => ⟨rfl, r2⟩) (fun _ => ⟨rfl, E_handleReadError r2⟩))
      (fun _ => ⟨rfl, hd⟩))
    (fun _ => ⟨rfl, hd⟩)

theorem E_settleN (n : Nat) : ∀ {s s' : St}, E s s' → E (settleN n s) (settleN n s') := by
  induction n with
  | zero => intro s s' h; exact h
  | succ n ih =>
    intro s s' h
    obtain ⟨a, b⟩ := E_settleStep h
    unfold settleN
    exact E_ite (by rw [a]) (fun _ => ih b) (fun _ => b)

theorem E_settle (h : E s s') : E (settle s) (settle s') := by
  have hrf := (E_pos h).rf
  have hwf := (E_pos h).wf
  unfold settle
  rw [hrf, hwf]
  exact E_settleN _ h

theorem E_count (h : E s s') (k k' : Nat) :
    E ({ s with count := k } : St) ({ s' with count := k' } : St) := by
  obtain ⟨dp, ns, ct, md, rfl⟩ := h
  exact ⟨_, _, _, _, rfl⟩

theorem E_put (h : E s s') (d : Bytes) : (put s' d).1 = (put s d).1 ∧ E (put s d).2 (put s' d).2 := by
  have hex := (E_pos h).exited
  obtain ⟨w1, w2⟩ := E_writeOne (E_count h (s.count + 1) (s'.count + 1)) d
  unfold put
  exact E_ite2 (by rw [hex]) (fun _ => ⟨rfl, h⟩) (fun _ => E_ite2 (by rw [w1])
    (fun _ => ⟨rfl, E_settle w2⟩) (fun _ => ⟨rfl, E_settle (E_count h _ _)⟩))

theorem E_recv (h : E s s') : (recv s').1 = (recv s).1 ∧ E (recv s).2 (recv s').2 := by
  have hex := (E_pos h).exited
  have hpend := (E_pos h).pending
  unfold recv
  exact E_ite2 (by rw [hex, E_canRead h])
    (fun _ => ⟨congrArg some hpend, E_settle (E_moveForward (E_count h _ _))⟩) (fun _ => ⟨rfl, h⟩)

theorem E_empty (h : E s s') : (empty s').1 = (empty s).1 ∧ E (empty s).2 (empty s').2 := by
  have hex := (E_pos h).exited
  unfold empty
  refine E_ite2 (by rw [hex]) (fun _ => ⟨rfl, h⟩) (fun _ => ⟨rfl, E_settle ?_⟩)
  obtain ⟨dp, ns, ct, md, rfl⟩ := h
  exact ⟨_, _, _, _, rfl⟩

theorem E_tick {s s' : St} (h : E s s') : E (tick s) (tick s') := by
  have hg : ∀ t : St, E t (if t.count = 0 then t else { t with needSync := true }) := fun t => by
    split
    · exact E.refl t
    · exact ⟨_, _, _, _, rfl⟩
  unfold tick
  refine E_ite (by rw [(E_pos h).exited]) (fun _ => h) (fun _ => ?_)
  rw [← apply_ite settle, ← apply_ite settle]
  exact E_settle (E_conj hg h)

theorem E_delete {s s' : St} (h : E s s') : E (delete s) (delete s') :=
  E_of_upd (fun _ _ _ _ _ => ⟨_, _, _, _, rfl⟩) h

/-- `Close()` then `New(...)`: the stale depth travels through the metadata file, nothing else differs -/
theorem E_reopen (h : E s s') (cfg' : Cfg) :
    E (openQ cfg' (close s).fs) (openQ cfg' (close s').fs) := by
  unfold openQ
  apply E_settle
  obtain ⟨dp, ns, ct, md, rfl⟩ := h
  unfold close sync
  rw [retrieve_some cfg' _ _ rfl, retrieve_some cfg' _ _ rfl]
  exact E_ite Iff.rfl (fun _ => ⟨_, _, _, _, rfl⟩) (fun _ => ⟨_, _, _, _, rfl⟩)

/-- depth-free abstraction: `s` behaves for every future operation like a healthy queue holding `q`;
only `Depth()` (and the sync bookkeeping) may be off -/
def QD (s : St) (q : List Bytes) : Prop := ∃ s0, E s0 s ∧ Q s0 q

theorem QD_of_Q {s : St} {q : List Bytes} (h : Q s q) : QD s q := ⟨s, E.refl s, h⟩

end Nsq.Proofs.DiskQueue
