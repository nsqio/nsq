/-
E2 — the delivery pump (`Nsq.Model.Pump`) × a ledger of message ids: every message the pump
takes off the channel's queue is registered in flight and written as a frame, or dropped by the `sample_rate`
test; no other step of the pump touches the queue, the in-flight registrations or the frames.
-/
import Nsq.Proofs.Pump
namespace Nsq.Proofs.PumpLedger
open Nsq.Model.Pump Nsq.Proofs.Pump

structure PL where
  p        : PState := {}
  /-- ghost: every id the channel ever offered to this pump, newest first -/
  offered  : List Nat := []
  /-- ids this pump can receive (a bag: Go's `select` chooses) -/
  queue    : List Nat := []
  /-- ids this pump registered in flight (`StartInFlightTimeout`), newest first -/
  inflight : List Nat := []
  /-- ids dropped by `if sampleRate > 0 && rand.Int31n(100) > sampleRate { continue }`, newest first -/
  sampled  : List Nat := []
  /-- the id carried by the n-th message frame, oldest first -/
  frames   : List Nat := []
deriving DecidableEq, Repr

inductive LOp where
  | offer (id : Nat)     -- the channel makes a message available (put / requeue / timeout …)
  | pump (op : Op)       -- any step of the pump or the IOLoop that does not receive a message
  | recv (id : Nat)
  | sampled (id : Nat)
deriving DecidableEq, Repr

def takes : Op → Bool
  | .recv => true
  | .sampled => true
  | _ => false

def step (s : PL) : LOp → PL × Out
  | .offer id => ({ s with offered := id :: s.offered, queue := id :: s.queue }, .ok)
  | .pump op =>
    if takes op then (s, .reject "use recv / sampled") else
    ({ s with p := (Nsq.Model.Pump.step s.p op).1 }, (Nsq.Model.Pump.step s.p op).2)
  | .recv id =>
    if id ∉ s.queue then (s, .reject "not-queued") else
    match Nsq.Model.Pump.step s.p .recv with
    | (p', .ok) => ({ s with p := p', queue := s.queue.erase id, inflight := id :: s.inflight, frames := s.frames ++ [id] }, .ok)
    | (_, r) => (s, r)
  | .sampled id =>
    if id ∉ s.queue then (s, .reject "not-queued") else
    match Nsq.Model.Pump.step s.p .sampled with
    | (p', .ok) => ({ s with p := p', queue := s.queue.erase id, sampled := id :: s.sampled }, .ok)
    | (_, r) => (s, r)

def run (s : PL) : List LOp → PL
  | [] => s
  | op :: ops => run (step s op).1 ops

structure LInv (s : PL) : Prop where
  /-- conservation of the ids offered -/
  cons   : s.offered.Perm (s.queue ++ s.inflight ++ s.sampled)
  frames : s.frames = s.inflight.reverse
  sent   : s.frames.length = s.p.sent

theorem linv_init : LInv {} := ⟨List.Perm.refl _, rfl, rfl⟩

/-- only an accepted `recv` (case 22 of `step`) counts a message; `flushTick`, `heartbeat`, `respond` and the forced
flush of `top` go through `flush` -/
theorem pump_sent (p : PState) (op : Op) (h : takes op = false) : (Nsq.Model.Pump.step p op).1.sent = p.sent := by
  revert h
  fun_cases Nsq.Model.Pump.step p op
  case case22 => exact nofun
  case case3 | case8 | case19 | case29 => exact fun _ => flush_sent _
  all_goals exact fun _ => rfl

theorem recv_ok {p p' : PState} (h : Nsq.Model.Pump.step p .recv = (p', .ok)) :
    p'.sent = p.sent + 1 ∧ p'.buf = p.buf ++ [.msg p.sent] := by
  have e : p' = _ := (congrArg Prod.fst h).symm.trans (step_recv p (by rw [h])).2.2
  rw [e]
  exact ⟨rfl, rfl⟩

theorem sampled_ok {p p' : PState} (h : Nsq.Model.Pump.step p .sampled = (p', .ok)) :
    p'.sent = p.sent ∧ p.sample ≠ 0 ∧ p.qArmed = true ∧ p.inSelect = true := by
  simp only [Nsq.Model.Pump.step] at h
  split at h
  · cases h
  split at h
  · cases h
  split at h
  · cases h
  next h1 h2 h3 => cases h; exact ⟨rfl, by simpa using h3, by simpa using h2, by simpa using h1⟩

theorem take_perm {id : Nat} {q : List Nat} (hq : id ∈ q) (x y : List Nat) :
    (q ++ x ++ y).Perm (id :: (q.erase id ++ x ++ y)) :=
  ((List.perm_cons_erase hq).append_right x).append_right y

theorem step_linv {s : PL} (h : LInv s) (op : LOp) : LInv (step s op).1 := by
  cases op with
  | offer id =>
    simp only [step]
    exact ⟨by simpa using List.Perm.cons id h.cons, h.frames, h.sent⟩
  | pump o =>
    simp only [step]
    split
    · exact h
    · rename_i ht
      exact ⟨h.cons, h.frames, by rw [h.sent]; exact (pump_sent s.p o (by simpa using ht)).symm⟩
  | recv id =>
    simp only [step]
    split
    · exact h
    · rename_i hq
      have hq' : id ∈ s.queue := by simpa using hq
      split
      · rename_i p' hs
        refine ⟨?_, ?_, ?_⟩
        · show s.offered.Perm (s.queue.erase id ++ (id :: s.inflight) ++ s.sampled)
          exact h.cons.trans ((take_perm hq' _ _).trans (by
            simp only [List.append_assoc, List.cons_append]; exact List.perm_middle.symm))
        · show s.frames ++ [id] = (id :: s.inflight).reverse
          rw [List.reverse_cons, h.frames]
        · show (s.frames ++ [id]).length = p'.sent
          rw [(recv_ok hs).1, List.length_append, h.sent]; rfl
      · exact h
  | sampled id =>
    simp only [step]
    split
    · exact h
    · rename_i hq
      have hq' : id ∈ s.queue := by simpa using hq
      split
      · rename_i p' hs
        refine ⟨?_, h.frames, ?_⟩
        · show s.offered.Perm (s.queue.erase id ++ s.inflight ++ (id :: s.sampled))
          exact h.cons.trans ((take_perm hq' _ _).trans List.perm_middle.symm)
        · show s.frames.length = p'.sent
          rw [(sampled_ok hs).1]; exact h.sent
      · exact h

theorem run_linv {s : PL} (h : LInv s) (ops : List LOp) : LInv (run s ops) := by
  induction ops generalizing s with
  | nil => exact h
  | cons op ops ih => exact ih (step_linv h op)

end Nsq.Proofs.PumpLedger
