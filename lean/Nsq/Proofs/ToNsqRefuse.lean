import Nsq.Model.ToNsqRefuse
import Nsq.Proofs.Split
/-!
One iteration of the fail-stop loop in closed form (`publishOne_eq`: the destinations in the order of the iteration up to
the first refusal; it passes iff none refuses), and a run for as long as every iteration passes (`run_append_accepted`).
-/
namespace Nsq.Proofs.ToNsqRefuse
open Nsq.Model.Split Nsq.Model.ToNsqRefuse

theorem publishOne_eq (acc : Nat → Bytes → Bool) (r : Bytes) (ord : List Nat) :
    (publishOne acc r ord).1 = (ord.takeWhile (fun i => acc i r)).map (fun i => (i, r)) ∧
    (publishOne acc r ord).2 = ord.all (fun i => acc i r) := by
  induction ord with
  | nil => simp [publishOne]
  | cons i is ih =>
    unfold publishOne
    by_cases h : acc i r = true
    · simp [h, ih.1, ih.2]
    · simp [h]

theorem received_publishOne (acc : Nat → Bytes → Bool) (r : Bytes) (ord : List Nat) (hnd : ord.Nodup) (i : Nat) :
    received i (publishOne acc r ord).1 = if i ∈ ord.takeWhile (fun k => acc k r) then [r] else [] := by
  rw [(publishOne_eq acc r ord).1]
  exact Nsq.Proofs.Split.received_map i r _ (hnd.sublist (List.takeWhile_sublist _))

theorem publishOne_ok_iff {acc : Nat → Bytes → Bool} {n : Nat} {r : Bytes} {ord : List Nat} (hv : ValidOrder n ord) :
    (publishOne acc r ord).2 = true ↔ ∀ i < n, acc i r = true := by
  rw [(publishOne_eq acc r ord).2, List.all_eq_true]
  exact ⟨fun h i hi => h i ((hv.2 i).mpr hi), fun h k hk => h k ((hv.2 k).mp hk)⟩

theorem run_append_accepted (acc : Nat → Bytes → Bool) (pre rest : List (Bytes × List Nat))
    (h : ∀ it ∈ pre, (publishOne acc it.1 it.2).2 = true) :
    run acc (pre ++ rest) = ((run acc pre).1 ++ (run acc rest).1, (run acc rest).2) := by
  induction pre with
  | nil => simp [run]
  | cons it its ih =>
    have h1 := h it (List.mem_cons_self ..)
    have ih' := ih (fun x hx => h x (List.mem_cons_of_mem _ hx))
    simp only [List.cons_append, run, h1, if_true, ih', List.append_assoc]

theorem run_accepted_exit (acc : Nat → Bytes → Bool) (its : List (Bytes × List Nat))
    (h : ∀ it ∈ its, (publishOne acc it.1 it.2).2 = true) : (run acc its).2 = 0 := by
  have := run_append_accepted acc its [] h
  rw [List.append_nil] at this
  rw [this]; rfl

theorem run_accepted_received (acc : Nat → Bytes → Bool) (n : Nat) (its : List (Bytes × List Nat))
    (hv : ∀ it ∈ its, ValidOrder n it.2)
    (h : ∀ it ∈ its, (publishOne acc it.1 it.2).2 = true) (i : Nat) (hi : i < n) :
    received i (run acc its).1 = its.map (·.1) := by
  induction its with
  | nil => rfl
  | cons it its ih =>
    have h1 := h it (List.mem_cons_self ..)
    have hv1 := hv it (List.mem_cons_self ..)
    simp only [run, h1, if_true, Nsq.Proofs.Split.received_append, List.map_cons]
    rw [ih (fun x hx => hv x (List.mem_cons_of_mem _ hx)) (fun x hx => h x (List.mem_cons_of_mem _ hx))]
    rw [received_publishOne acc it.1 it.2 hv1.1 i]
    have hall : it.2.all (fun k => acc k it.1) = true := by rw [← (publishOne_eq acc it.1 it.2).2]; exact h1
    have : it.2.takeWhile (fun k => acc k it.1) = it.2 := by
      simpa using List.takeWhile_append_of_pos (l₂ := []) (List.all_eq_true.mp hall)
    simp [this, (hv1.2 i).mpr hi]

end Nsq.Proofs.ToNsqRefuse
