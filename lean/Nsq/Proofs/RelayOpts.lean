import Nsq.Model.RelayOpts
/-!
`foldSteps` is generic in its step and `Step` has a `panic` outcome for the sake of the translated loop body
`Nsq.Gen.ToolsRelayOpts.parseCustomHeaders_step`, which the same `foldSteps` folds: its `sp[0]`, `sp[1]` become matches
with a `panic` branch. The model's `headerStep` never panics (`foldSteps_no_panic`), and the two steps are equal
(`Nsq.Tie.ToolsRelayOpts.parseCustomHeaders_step_eq`).
-/
namespace Nsq.Proofs.RelayOpts
open Nsq.Model.RelayOpts

theorem cut_none (c : UInt8) (s : Str) (h : c ∉ s) : cut c s = none := by
  induction s with
  | nil => rfl
  | cons b rest ih =>
    simp only [List.mem_cons, not_or] at h
    unfold cut
    simp [Ne.symm h.1, ih h.2]

theorem cut_some (c : UInt8) (s k v : Str) (h : cut c s = some (k, v)) : s = k ++ c :: v ∧ c ∉ k := by
  induction s generalizing k v with
  | nil => simp [cut] at h
  | cons b rest ih =>
    unfold cut at h
    by_cases hb : b = c
    · simp only [hb, if_true, Option.some.injEq, Prod.mk.injEq] at h
      obtain ⟨rfl, rfl⟩ := h
      simp [hb]
    · simp only [hb, if_false] at h
      cases hr : cut c rest with
      | none => simp [hr] at h
      | some kv =>
        obtain ⟨k', v'⟩ := kv
        simp only [hr, Option.some.injEq, Prod.mk.injEq] at h
        obtain ⟨rfl, rfl⟩ := h
        have := ih k' v' hr
        refine ⟨by simp [this.1], ?_⟩
        simp only [List.mem_cons, not_or]
        exact ⟨fun hc => hb hc.symm, this.2⟩

theorem trimLeft_head (s : Str) : ∀ b, (trimLeft s).head? = some b → isSpace b = false := by
  intro b hb
  unfold trimLeft at hb
  have := List.head?_dropWhile_not isSpace s
  rw [hb] at this
  simpa using this

theorem trimSpace_last (s : Str) : ∀ b, (trimSpace s).getLast? = some b → isSpace b = false := by
  intro b hb
  unfold trimSpace at hb
  rw [List.getLast?_reverse] at hb
  exact trimLeft_head _ b hb

theorem trimSpace_head (s : Str) : ∀ b, (trimSpace s).head? = some b → isSpace b = false := by
  intro b hb
  unfold trimSpace at hb
  rw [List.head?_reverse] at hb
  -- the last element of a suffix of (trimLeft s).reverse is the last element of that list = head of trimLeft s
  have hsuf : trimLeft (trimLeft s).reverse <:+ (trimLeft s).reverse := by
    unfold trimLeft; exact List.dropWhile_suffix _
  obtain ⟨pre, hpre⟩ := hsuf
  have hne : trimLeft (trimLeft s).reverse ≠ [] := by
    intro h; rw [h] at hb; simp at hb
  have : (trimLeft s).reverse.getLast? = some b := by
    rw [← hpre, List.getLast?_append]
    rw [hb]; rfl
  rw [List.getLast?_reverse] at this
  exact trimLeft_head _ b this

theorem mapGet_mapSet (m : List (Str × Str)) (k v : Str) : mapGet (mapSet m k v) k = some v := by
  induction m with
  | nil => simp [mapSet, mapGet]
  | cons kv rest ih =>
    obtain ⟨k', v'⟩ := kv
    unfold mapSet
    by_cases h : k' = k
    · simp [h, mapGet]
    · simp [h, mapGet, ih]

theorem mapGet_mapSet_ne (m : List (Str × Str)) (k k2 v : Str) (h : k2 ≠ k) :
    mapGet (mapSet m k v) k2 = mapGet m k2 := by
  induction m with
  | nil => simp [mapSet, mapGet, Ne.symm h]
  | cons kv rest ih =>
    obtain ⟨k', v'⟩ := kv
    unfold mapSet
    by_cases h1 : k' = k
    · subst h1; simp [mapGet, Ne.symm h]
    · by_cases h2 : k' = k2
      · subst h2; simp [h, mapGet]
      · simp [h1, h2, mapGet, ih]

theorem foldSteps_header (m : List (Str × Str)) (strs : List Str) :
    foldSteps headerStep m strs =
      if strs.all (fun s => (parseHeader s).isSome) then
        .ok ((strs.filterMap parseHeader).foldl (fun m kv => mapSet m kv.1 kv.2) m)
      else .err := by
  induction strs generalizing m with
  | nil => rfl
  | cons x rest ih =>
    cases hp : parseHeader x with
    | none => simp [foldSteps, headerStep, hp]
    | some kv => simp [foldSteps, headerStep, hp, ih]

theorem foldSteps_no_panic (m : List (Str × Str)) (strs : List Str) : foldSteps headerStep m strs ≠ .panic := by
  rw [foldSteps_header]; split <;> nofun

theorem mem_dedup (ks : List Str) (k : Str) : k ∈ dedup ks ↔ k ∈ ks := by
  induction ks with
  | nil => simp [dedup]
  | cons x rest ih =>
    simp only [dedup, List.mem_cons, List.mem_filter, ih]
    by_cases h : k = x <;> simp [h]

theorem nodup_dedup (ks : List Str) : (dedup ks).Nodup := by
  induction ks with
  | nil => simp [dedup]
  | cons x rest ih =>
    simp only [dedup, List.nodup_cons, List.mem_filter]
    exact ⟨by simp, ih.filter _⟩

theorem whitelist_keys {V : Type} (wl : List Str) (js : Str → Option V) :
    (whitelist wl js).map Prod.fst = (dedup wl).filter fun k => (js k).isSome := by
  unfold whitelist
  induction dedup wl with
  | nil => rfl
  | cons x rest ih => cases h : js x <;> simp [h, ih]

theorem ite_some_eq_none {α : Type} {c : Prop} [Decidable c] (x : α) (r : Option α) :
    (if c then some x else r) = none ↔ ¬c ∧ r = none := by
  by_cases h : c <;> simp [h]

theorem validateHttp_none_iff (a : HttpArgs) : validateHttp a = none ↔
    ¬ a.headersOk = false ∧ ¬ (a.topicEmpty ∨ a.channelEmpty) ∧ ¬ (a.contentTypeGiven ∧ a.posts = 0) ∧
    ¬ (a.contentTypeGiven ∧ a.contentTypeEmpty) ∧ ¬ (a.nsqd = 0 ∧ a.lookupd = 0) ∧ ¬ (a.nsqd > 0 ∧ a.lookupd > 0) ∧
    ¬ (a.getCounts.length = 0 ∧ a.posts = 0) ∧ ¬ (a.getCounts.length > 0 ∧ a.posts > 0) ∧
    ¬ a.getCounts.any (fun c => c != 1) ∧ ¬ a.sampleOk = false := by
  simp only [validateHttp, ite_some_eq_none, and_true]

end Nsq.Proofs.RelayOpts
