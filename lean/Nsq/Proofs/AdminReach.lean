import Nsq.Proofs.AdminGate
/-!
Interpreter lemmas for the judgements `canWrite` (state-changing by effect) and `reaches` (a well-formed request with
an admin identity gets to the action). Helpers for `Nsq.Props.C17`.
-/
namespace Nsq.Proofs.AdminReach
open Nsq.Model.AdminGate Nsq.Proofs.AdminGate

def writeObs (tbl : List (String × Bool)) (obs : List Obs) : Bool := obs.any (Obs.isWrite tbl)

theorem doEff_noWrite (tbl : List (String × Bool)) (env : Env) (st : St) (e : Eff)
    (h : e.isWrite tbl = false) :
    (doEff env st e).obs.any (Obs.isWrite tbl) = st.obs.any (Obs.isWrite tbl) := by
  cases e <;> simp_all [doEff, Eff.isWrite, Obs.isWrite]

theorem noWrite_runSt (tbl : List (String × Bool)) (env : Env) :
    ∀ (sk : Skel) (st : St), canWrite tbl sk = false →
      writeObs tbl (runSt env sk st).2 = st.obs.any (Obs.isWrite tbl) := by
  intro sk
  induction sk with
  | ret code => intro st _; simp [runSt, writeObs]
  | unknown w => intro st h; simp [canWrite] at h
  | eff e k ih =>
    intro st h
    simp only [canWrite, Bool.or_eq_false_iff] at h
    simp only [runSt]
    rw [ih _ h.2, doEff_noWrite tbl env st e h.1]
  | ite c t e iht ihe =>
    intro st h
    simp only [canWrite, Bool.or_eq_false_iff] at h
    unfold runSt
    by_cases hev : evalCond env st c = true
    · simpa [hev] using iht st h.1
    · simpa [hev] using ihe st h.2

theorem noWrite_run (tbl : List (String × Bool)) (env : Env) (sk : Skel) (h : canWrite tbl sk = false) :
    writeObs tbl (run env sk).2 = false := by
  simpa [run] using noWrite_runSt tbl env sk {} h

structure WellFormed (env : Env) (V : List String) : Prop where
  admin : isAdmin env.conf env.req = true
  body : env.bodyOk = true
  valid : ∀ s ∈ V, env.otherCond s = false

/-- `en` promises that `err` is nil, `rem` that the body's action is one of the listed ones. -/
theorem reaches_runSt (env : Env) (V : List String) (wf : WellFormed env V)
    (en : Bool) (rem : Option (List String)) (sk : Skel) :
    ∀ st : St, reaches V en rem sk = true → (en = true → st.err = .none) →
      (∀ as, rem = some as → env.req.action ∈ as) →
      (runSt env sk st).1 = 200 ∨ (runSt env sk st).1 = 502 := by
  -- The cases are the arms of `reaches`, in its order: 1-2 the leaves; 3-4 the body effects (after them `err` is nil,
  -- by `wf.body`); 5-7 the effects that set `err` (`en` becomes false: nothing to show); 8-10 the effects that keep
  -- it; 11-14 the tests a well-formed admin request passes (only the else branch is walked); 15 an `.other` test not
  -- in `V` and 17 any remaining test (both branches); 16 `actionIs`, which narrows the action set on either side.
  fun_induction reaches V en rem sk with
  | case1 en rem c => intro st h _ _; simpa [runSt] using h
  | case2 en rem why => intro st h _ _; cases h
  | case3 en rem k ih => intro st h _ hrem; exact ih _ h (fun _ => by simp [doEff, wf.body]) hrem
  | case4 en rem k ih => intro st h _ hrem; exact ih _ h (fun _ => by simp [doEff, wf.body]) hrem
  | case5 en rem n k ih => intro st h _ hrem; exact ih _ h (fun hh => nomatch hh) hrem
  | case6 en rem n k ih => intro st h _ hrem; exact ih _ h (fun hh => nomatch hh) hrem
  | case7 en rem n k ih => intro st h _ hrem; exact ih _ h (fun hh => nomatch hh) hrem
  | case8 en rem a k ih => intro st h hen hrem; exact ih _ h hen hrem
  | case9 en rem k ih => intro st h hen hrem; exact ih _ h hen hrem
  | case10 en rem n k ih => intro st h hen hrem; exact ih _ h hen hrem
  | case11 en rem t e ih =>
    intro st h hen hrem
    have : evalCond env st .notAdmin = false := by simp [evalCond, wf.admin]
    simpa [runSt_ite, this] using ih st h hen hrem
  | case12 rem t e ih =>
    intro st h hen hrem
    have : evalCond env st .errNotNil = false := by simp [evalCond, hen rfl]
    simpa [runSt_ite, this] using ih st h hen hrem
  | case13 rem t e ih =>
    intro st h hen hrem
    have : evalCond env st .errNotPartial = false := by simp [evalCond, hen rfl]
    simpa [runSt_ite, this] using ih st h hen hrem
  | case14 en rem t e s hs ih =>
    intro st h hen hrem
    have : evalCond env st (.other s) = false := wf.valid s (List.contains_iff_mem.1 hs)
    simpa [runSt_ite, this] using ih st h hen hrem
  | case15 en rem t e s _ iht ihe =>
    intro st h hen hrem
    rw [Bool.and_eq_true] at h
    rw [runSt_ite]
    split
    · exact iht st h.1 hen hrem
    · exact ihe st h.2 hen hrem
  | case16 en t e a as iht ihe =>
    intro st h hen hrem
    simp only [Bool.and_eq_true, Bool.or_eq_true, Bool.not_eq_true'] at h
    have hact := hrem as rfl
    rw [runSt_ite]
    split
    next hev =>
      have heq : env.req.action = a := by simpa [evalCond] using hev
      have hin : as.contains a = true := List.contains_iff_mem.2 (heq ▸ hact)
      exact iht st (h.1.resolve_left (by rw [hin]; decide)) hen (fun as' has' => by cases has'; simp [heq])
    next hev =>
      have hne : env.req.action ≠ a := by simpa [evalCond] using hev
      have hmem : env.req.action ∈ as.filter (· != a) := by simp [List.mem_filter, hact, hne]
      refine ihe st (h.2.resolve_left fun h2 => ?_) hen (fun as' has' => by cases has'; exact hmem)
      rw [List.isEmpty_iff.1 h2] at hmem; cases hmem
  | case17 en rem c t e _ _ _ _ _ iht ihe =>
    intro st h hen hrem
    rw [Bool.and_eq_true] at h
    rw [runSt_ite]
    split
    · exact iht st h.1 hen hrem
    · exact ihe st h.2 hen hrem

theorem adminReaches_run (env : Env) (handler : String) (sk : Skel)
    (h : adminReaches handler sk = true) (wf : WellFormed env (validOf handler).others)
    (hact : ∀ as, (validOf handler).actions = some as → env.req.action ∈ as) :
    (run env sk).1 = 200 ∨ (run env sk).1 = 502 := by
  unfold adminReaches at h
  exact reaches_runSt env _ wf false _ sk {} h (fun hh => nomatch hh) hact

end Nsq.Proofs.AdminReach
