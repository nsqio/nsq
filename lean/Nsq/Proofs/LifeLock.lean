import Nsq.Model.LifeLock
namespace Nsq.Proofs.LifeLock
open Nsq.Model.LifeLock

theorem edge_rank {E : Edges} (h : acyclicB E = true) {a b : String} (hab : (a, b) ∈ E) :
    rank E a < rank E b := by
  simpa using List.all_eq_true.1 h (a, b) hab

/-- Any `r` that increases along every edge increases along a chain; `rank` of the computed order is one when the check passes. -/
theorem chain_rank {E : Edges} {r : String → Nat} (h : ∀ {a b}, (a, b) ∈ E → r a < r b) :
    ∀ (l : List String) (a z : String), IsChain E (a :: l ++ [z]) → r a < r z := by
  intro l
  induction l with
  | nil => exact fun a z hc => h hc.1
  | cons b l ih => exact fun a z hc => Nat.lt_trans (h hc.1) (ih b z hc.2)

theorem no_deadlock_cycle {E : Edges} (h : acyclicB E = true) (hs : List String) :
    ¬ DeadlockCycle E hs := by
  intro hd
  cases hs with
  | nil => exact hd
  | cons a l => exact Nat.lt_irrefl _ (chain_rank (edge_rank h) l a a hd)

end Nsq.Proofs.LifeLock
