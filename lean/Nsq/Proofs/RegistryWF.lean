import Nsq.Proofs.RegistryRefine
/-! The well-formedness invariant of the implementation-shaped registry (DESIGN appendix A.2)
and its preservation by every operation (`WF_step`), the wild-card tombstone under every pick (`WF_tombstoneStar`).
The list part `DBWF` is invisible to `has`/`getP` and goes method by method; the three conjuncts on entries go by the
shape of the `getP_…` equation (`WF_drop`, `WF_mark`, `WF_fill`), except where the peers table changes as well
(`PING`, `IDENTIFY`, the clean-up of a connection). -/
namespace Nsq.Proofs.RegistryWF
open Nsq.Model.Registry Nsq.Model.Registry.AMap Nsq.Proofs.RegistryMap Nsq.Proofs.RegistryDB
open Nsq.Spec.RegistrySpec Nsq.Proofs.RegistryRefine

def DBWF (db : DB) : Prop :=
  (mkeys db).Nodup ∧ ∀ k pm, mget db k = some pm → (mkeys pm).Nodup

/-- Beyond the clauses of DESIGN A.2 (`db`, `peerKnown`, `tombTopicOnly`): `live`, an identified connection has its `client` entry —
the spec's `/lookup` answer asks `live p`, which the model never tests (`RegistryQuery.mem_active_producers`). `tombTopicOnly` is
read for `/nodes`: a `client` entry is never tombstoned (`RegistryQuery.mem_qNodes`). -/
structure WF (r : Registry) : Prop where
  db : DBWF r.db
  peerKnown : ∀ k id, (getP r.db k id).isSome = true → identifiedB r id = true
  live : ∀ id, identifiedB r id = true → (getP r.db clientKey id).isSome = true
  tombTopicOnly : ∀ k id tb, getP r.db k id = some tb → tb.tombstoned = true → k.cat = .topic

theorem DBWF_mset (db : DB) (k : Key) (pm : PMap) (h : DBWF db) (hp : (mkeys pm).Nodup) :
    DBWF (mset db k pm) := by
  refine ⟨nodup_mkeys_mset db k pm h.1, fun k' pm' hg => ?_⟩
  rw [mget_mset] at hg
  by_cases hk : k' = k
  · rw [if_pos hk] at hg; cases hg; exact hp
  · rw [if_neg hk] at hg; exact h.2 k' pm' hg

theorem DBWF_mdel (db : DB) (k : Key) (h : DBWF db) : DBWF (mdel db k) := by
  refine ⟨nodup_mkeys_mdel db k h.1, fun k' pm' hg => ?_⟩
  rw [mget_mdel] at hg
  by_cases hk : k' = k
  · rw [if_pos hk] at hg; cases hg
  · rw [if_neg hk] at hg; exact h.2 k' pm' hg

theorem DBWF_addRegistration (db : DB) (k : Key) (h : DBWF db) : DBWF (addRegistration db k) := by
  unfold addRegistration
  cases mget db k with
  | some _ => exact h
  | none => exact DBWF_mset db k [] h List.nodup_nil

theorem DBWF_addProducer (db : DB) (k : Key) (id : Nat) (h : DBWF db) : DBWF (addProducer db k id) := by
  unfold addProducer
  cases hg : mget db k with
  | none => exact DBWF_mset db k _ h (List.pairwise_singleton _ _)
  | some pm =>
    simp only
    cases mget pm id with
    | some _ => exact h
    | none => exact DBWF_mset db k _ h (nodup_mkeys_mset pm id fresh (h.2 k pm hg))

theorem DBWF_removeProducer (db : DB) (k : Key) (id : Nat) (h : DBWF db) : DBWF (removeProducer db k id) := by
  unfold removeProducer
  cases hg : mget db k with
  | none => exact h
  | some pm => exact DBWF_mset db k _ h (nodup_mkeys_mdel pm id (h.2 k pm hg))

theorem DBWF_removeProducerAll (db : DB) (ks : List Key) (id : Nat) (h : DBWF db) :
    DBWF (removeProducerAll db ks id) :=
  List.foldlRecOn ks _ h fun d hd k _ => DBWF_removeProducer d k id hd

theorem DBWF_removeRegistrations (db : DB) (ks : List Key) (h : DBWF db) :
    DBWF (removeRegistrations db ks) :=
  List.foldlRecOn ks _ h fun d hd k _ => DBWF_mdel d k hd

theorem DBWF_removeAndGC (db : DB) (k : Key) (p : Nat) (eph : Bool) (h : DBWF db) :
    DBWF (removeAndGC db k p eph) := by
  unfold removeAndGC
  split
  · exact DBWF_mdel _ k (DBWF_removeProducer db k p h)
  · exact DBWF_removeProducer db k p h

theorem DBWF_registerDB (db : DB) (p : Nat) (tc : TopicChan) (h : DBWF db) : DBWF (registerDB db p tc) := by
  unfold registerDB
  apply DBWF_addProducer
  split
  · exact DBWF_addProducer _ _ _ h
  · exact h

theorem DBWF_unregisterDB (db : DB) (p : Nat) (tc : TopicChan) (h : DBWF db) : DBWF (unregisterDB db p tc) := by
  unfold unregisterDB
  split
  · exact DBWF_removeAndGC _ _ _ _ h
  · exact DBWF_removeAndGC _ _ _ _ (DBWF_removeProducerAll _ _ _ h)

theorem DBWF_tombstoneDB (r : Registry) (t node : Name) (now : Int) (ht : t ≠ star) (h : DBWF r.db) :
    DBWF (tombstoneDB r t node now) := by
  unfold tombstoneDB
  rw [if_neg ht]
  cases hg : mget r.db (topicKey t) with
  | none => exact h
  | some pm =>
    apply DBWF_mset _ _ _ h
    rw [tombstonePM_eq, mkeys_map_val pm (fun id tb => if nodeMatches r id node then (⟨true, now⟩ : Tomb) else tb)]
    exact h.2 _ pm hg

theorem WF_init : WF init := by
  refine ⟨⟨List.nodup_nil, fun _ _ h => nomatch h⟩, ?_, ?_, ?_⟩ <;> simp [init, getP, identifiedB]

section shapes
variable {r : Registry} {db' : DB} {c : Key → Nat → Prop} [∀ k q, Decidable (c k q)]

theorem WF_drop (h : WF r) (hdb : DBWF db') (e : ∀ k q, getP db' k q = if c k q then none else getP r.db k q)
    (hc : ∀ q, ¬ c clientKey q) : WF { r with db := db' } :=
  ⟨hdb, fun k q hs => h.peerKnown k q (isSome_ite_none.mp (e k q ▸ hs)).1,
    fun q hs => by rw [e, if_neg (hc q)]; exact h.live q hs,
    fun k q tb hg => h.tombTopicOnly k q tb (ite_none_eq_some.mp (e k q ▸ hg)).1⟩

theorem WF_mark {f : Tomb → Tomb} (h : WF r) (hdb : DBWF db')
    (e : ∀ k q, getP db' k q = if c k q then (getP r.db k q).map f else getP r.db k q)
    (hc : ∀ k q, c k q → k.cat = .topic) : WF { r with db := db' } :=
  ⟨hdb, fun k q hs => h.peerKnown k q (by rw [e, isSome_ite_map] at hs; exact hs),
    fun q hs => by rw [e, isSome_ite_map]; exact h.live q hs,
    fun k q tb hg ht => by
      rw [e] at hg
      split at hg
      · exact hc k q ‹_›
      · exact h.tombTopicOnly k q tb hg ht⟩

theorem WF_fill (h : WF r) (hdb : DBWF db')
    (e : ∀ k q, getP db' k q = if c k q ∧ getP r.db k q = none then some fresh else getP r.db k q)
    (hc : ∀ k q, c k q → identifiedB r q = true) : WF { r with db := db' } :=
  ⟨hdb, fun k q hs => (isSome_ite_fill.mp (e k q ▸ hs)).elim (hc k q) (h.peerKnown k q),
    fun q hs => by rw [e, isSome_ite_fill]; exact Or.inr (h.live q hs),
    fun k q tb hg ht => (ite_fill_eq_some.mp (e k q ▸ hg)).elim (fun e => h.tombTopicOnly k q tb e ht)
      fun ⟨_, _, e⟩ => by subst e; cases ht⟩

end shapes

theorem identifiedB_disconnect (r : Registry) (p q : Nat) :
    identifiedB (disconnect r p) q = (!decide (q = p) && identifiedB r q) := by
  cases h : identifiedB r p with
  | true =>
    rw [disconnect_identified h]
    simp only [identifiedB, mget_mdel]
    by_cases hq : q = p <;> simp [hq]
  | false =>
    rw [disconnect_not_identified h]
    by_cases hq : q = p <;> simp [hq, h]

theorem identifiedB_disconnect_self (r : Registry) (p : Nat) : identifiedB (disconnect r p) p = false := by
  simp [identifiedB_disconnect]

theorem WF_disconnect (r : Registry) (p : Nat) (h : WF r) : WF (disconnect r p) := by
  cases hi : identifiedB r p with
  | false => rw [disconnect_not_identified hi]; exact h
  | true =>
    have hid := identifiedB_disconnect r p
    rw [disconnect_identified hi] at hid ⊢
    refine ⟨DBWF_removeProducerAll _ _ _ h.db, fun k id hs => ?_, fun id hs => ?_, fun k id tb hg ht => ?_⟩
    · simp only [getP_disconnectDB, isSome_ite_none] at hs
      simp [hid, hs.2, h.peerKnown k id hs.1]
    · simp only [hid, Bool.and_eq_true, Bool.not_eq_true', decide_eq_false_iff_not] at hs
      simp only [getP_disconnectDB, isSome_ite_none]
      exact ⟨h.live id hs.2, hs.1⟩
    · simp only [getP_disconnectDB, ite_none_eq_some] at hg
      exact h.tombTopicOnly k id tb hg.1 ht

def Gone (p : Nat) (r : Registry) : Prop :=
  identifiedB r p = false ∧ ∀ k, getP r.db k p = none

/-- after the clean-up `p` is not identified, so (`WF.peerKnown`) it has no entry left -/
theorem disconnect_gone (r : Registry) (p : Nat) (h : WF r) : Gone p (disconnect r p) := by
  refine ⟨identifiedB_disconnect_self r p, fun k => ?_⟩
  cases hg : getP (disconnect r p).db k p with
  | none => rfl
  | some tb =>
    have := (WF_disconnect r p h).peerKnown k p (by rw [hg]; rfl)
    rw [identifiedB_disconnect_self] at this
    cases this

theorem _root_.Nsq.Proofs.RegistryDB.Handled.wf {r r' : Registry} {p : Nat} {out : TcpOut} (hd : Handled r p r' out)
    (h : WF r) : WF r' := by
  cases hd with
  | refused c m _ => exact h
  | closed c m _ => exact WF_disconnect r p h
  | ping now =>
    unfold ping
    cases hg : mget r.peers p with
    | none => exact h
    | some pr =>
      have hid : ∀ q, identifiedB ⟨r.db, mset r.peers p { pr with lastUpdate := now }⟩ q = identifiedB r q := by
        intro q; simp only [identifiedB, mget_mset]
        by_cases hq : q = p
        · subst hq; simp [hg]
        · simp [hq]
      exact ⟨h.db, fun k id hs => (hid id).trans (h.peerKnown k id hs), fun id hs => h.live id ((hid id).symm.trans hs),
        h.tombTopicOnly⟩
  | identified info now =>
    have hid : ∀ q, identifiedB ⟨addProducer r.db clientKey p, mset r.peers p ⟨now, info⟩⟩ q
        = (decide (q = p) || identifiedB r q) := by
      intro q; simp only [identifiedB, mget_mset]
      by_cases hq : q = p <;> simp [hq]
    refine ⟨DBWF_addProducer _ _ _ h.db, fun k id hs => ?_, fun id hs => ?_, fun k id tb hg ht => ?_⟩
    · rw [hid]
      rcases isSome_ite_fill.mp (getP_addProducer .. ▸ hs) with e | e
      · simp [e.1]
      · simp [h.peerKnown k id e]
    · simp only [hid, Bool.or_eq_true, decide_eq_true_eq] at hs
      rw [getP_addProducer, isSome_ite_fill]
      exact hs.imp (fun e => ⟨e, rfl⟩) (h.live id)
    · rcases ite_fill_eq_some.mp (getP_addProducer .. ▸ hg) with e | ⟨_, _, rfl⟩
      · exact h.tombTopicOnly k id tb e ht
      · cases ht
  | registered tc hi =>
    exact WF_fill h (DBWF_registerDB _ _ _ h.db) (getP_registerDB r.db p tc) fun k q hc => by
      obtain rfl : q = p := hc.elim (·.1) (·.2.1)
      exact hi
  | unregistered tc =>
    exact WF_drop h (DBWF_unregisterDB _ _ _ h.db) (getP_unregisterDB r.db p tc) fun q => by
      simp only [keyEq, isMatchKey, Bool.false_eq_true, and_false, or_self, not_false_eq_true]

theorem WF_createTopic (r : Registry) (a : HttpArgs) (h : WF r) : WF (createTopic r a).1 := by
  rcases createTopic_cases r a with ⟨t, _, e⟩ | e
  · rw [e]
    -- the entries stay: a removal of nothing
    exact WF_drop (c := fun _ _ => False) h (DBWF_addRegistration _ _ h.db)
      (fun k q => (getP_addRegistration ..).trans (if_neg id).symm) fun _ => id
  · rw [e.1]; exact h

theorem WF_createChannel (r : Registry) (a : HttpArgs) (h : WF r) : WF (createChannel r a).1 := by
  rcases createChannel_cases r a with ⟨t, c, _, _, e⟩ | e
  · rw [e]
    exact WF_drop (c := fun _ _ => False) h (DBWF_addRegistration _ _ (DBWF_addRegistration _ _ h.db))
      (fun k q => by rw [getP_addRegistration, getP_addRegistration, if_neg id]) fun _ => id
  · rw [e.1]; exact h

theorem WF_deleteTopic (r : Registry) (a : HttpArgs) (h : WF r) : WF (deleteTopic r a).1 := by
  rcases deleteTopic_cases r a with ⟨t, _, e⟩ | e
  · rw [e]
    exact WF_drop h (DBWF_removeRegistrations _ _ (DBWF_removeRegistrations _ _ h.db)) (getP_deleteTopicDB r.db t)
      fun q => by simp only [isMatchKey, Bool.false_eq_true, or_self, not_false_eq_true]
  · rw [e.1]; exact h

theorem WF_deleteChannel (r : Registry) (a : HttpArgs) (h : WF r) : WF (deleteChannel r a).1 := by
  rcases deleteChannel_cases r a with ⟨t, c, _, _, hts, hcs, e⟩ | e
  · rw [e]
    exact WF_drop h (DBWF_removeRegistrations _ _ h.db) (getP_removeRegistrations_find r.db .channel t c)
      fun q => by simp only [isMatchKey, Bool.false_eq_true, not_false_eq_true]
  · rw [e.1]; exact h

theorem DBWF_tombstoneStarDB (r : Registry) (pick : Pick) (node : Name) (now : Int) (h : DBWF r.db) :
    DBWF (tombstoneStarDB r pick node now) := by
  unfold tombstoneStarDB
  refine ⟨by rw [mkeys_map_val r.db (starTombPM r pick node now)]; exact h.1, ?_⟩
  intro k pm hg
  rw [mget_map_val r.db (starTombPM r pick node now) k] at hg
  cases hm : mget r.db k with
  | none => simp [hm] at hg
  | some pm0 =>
    simp only [hm, Option.map_some, Option.some.injEq] at hg
    rw [← hg]
    unfold starTombPM
    split
    · rw [mkeys_map_val pm0 (starTombVal r pick node now k.key)]; exact h.2 k pm0 hm
    · exact h.2 k pm0 hm

theorem WF_tombstoneStar (r : Registry) (pick : Pick) (node : Name) (now : Int) (h : WF r) :
    WF (tombstoneStar r pick node now) :=
  WF_mark h (DBWF_tombstoneStarDB r pick node now h.db) (getP_tombstoneStarDB r pick node now)
    fun _ _ hc => cat_of_isMatch hc.1

theorem WF_tombstone (r : Registry) (a : HttpArgs) (now : Int) (h : WF r) : WF (tombstone r a now).1 := by
  rcases tombstone_cases r a now with ⟨t, node, _, _, e⟩ | e
  · rw [e]
    by_cases hts : t = star
    -- the wild-card call is resolved by `firstPick`; `WF` is kept under every pick
    · rw [hts, tombstoneDB_star]
      exact WF_tombstoneStar r _ node now h
    · exact WF_mark h (DBWF_tombstoneDB r t node now hts h.db) (getP_tombstoneDB r t node now hts)
        fun _ _ hc => hc.1 ▸ rfl
  · rw [e.1]; exact h

theorem WF_step (r : Registry) (op : Op) (h : WF r) : WF (step r op).1 := by
  cases op with
  | identify p info now => exact (identify_handled r p info now).wf h
  | register p params => exact (register_handled r p params).wf h
  | unregister p params => exact (unregister_handled r p params).wf h
  | ping p now => exact (Handled.ping now).wf h
  | disconnect p => exact WF_disconnect r p h
  | createTopic a => exact WF_createTopic r a h
  | deleteTopic a => exact WF_deleteTopic r a h
  | createChannel a => exact WF_createChannel r a h
  | deleteChannel a => exact WF_deleteChannel r a h
  | tombstone a now => exact WF_tombstone r a now h

theorem WF_run (r : Registry) (ops : List Op) (h : WF r) : WF (run r ops) := by
  induction ops generalizing r with
  | nil => exact h
  | cons op ops ih => exact ih _ (WF_step r op h)

end Nsq.Proofs.RegistryWF
