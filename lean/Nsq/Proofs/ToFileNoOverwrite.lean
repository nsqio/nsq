import Nsq.Proofs.ToFileActs
/-!
Invariant of the `ToFile` router model: with `O_EXCL` nothing that existed before the tool started is touched at all,
and the revision searches of `updateFile` and `Close` terminate. That a pre-existing
file keeps its name and its bytes as a prefix is `Nsq.Proofs.ToFileTrack.Grown.keep`.
-/
namespace Nsq.Proofs.ToFile
open Nsq.Model.ToFile

variable {c : Cfg} {fs0 : FS} {io : Nat → Fault}

def DomOk (fs : FS) : Prop := ∀ p, fs.get p ≠ none → p ∈ fs.dom

structure NoOv (c : Cfg) (fs0 : FS) (st : St) : Prop where
  excl : c.excl = true → ∀ p f0, fs0.get p = some f0 → st.fs.get p = some f0
  /-- why `excl` is kept: the file behind `f.out` is one the tool created itself -/
  own : c.excl = true → st.hasOut = true → fs0.get st.outPath = none
  dom : DomOk st.fs
  nodiv : st.status ≠ .diverged

theorem NoOv.congr {st s' : St} (h : NoOv c fs0 st) (h1 : s'.fs = st.fs)
    (h5 : s'.hasOut = st.hasOut) (h7 : s'.outPath = st.outPath) (h8 : s'.status ≠ .diverged) : NoOv c fs0 s' :=
  ⟨by rw [h1]; exact h.excl, by rw [h5, h7]; exact h.own, by rw [h1]; exact h.dom, h8⟩

theorem NoOv.dead {st s' : St} (h : NoOv c fs0 st) (hd : Dead' st s') : NoOv c fs0 s' :=
  h.congr hd.1.2.1 hd.1.2.2.2.1 hd.1.2.2.2.2 (fun e => h.nodiv (hd.2 e))

theorem DomOk_set {fs : FS} (h : DomOk fs) (p : Path) (f : File) : DomOk (fs.set p f) := by
  intro q hq
  by_cases e : q = p
  · subst e; simp [FS.set]
  · rw [get_set_ne _ _ _ _ e] at hq
    simp only [FS.set]; exact List.mem_cons_of_mem _ (h q hq)

theorem DomOk_del {fs : FS} (h : DomOk fs) (p : Path) : DomOk (fs.del p) := by
  intro q hq
  by_cases e : q = p
  · subst e; simp at hq
  · rw [get_del_ne _ _ _ e] at hq; exact h q hq

theorem NoOv.grew {st : St} {f f' : File} {fs' : FS} (hn : NoOv c fs0 st) (h : Grew st f f' fs') :
    NoOv c fs0 { st with fs := fs' } := by
  refine ⟨fun hx p f0 hp => ?_, hn.own, fun q hq => ?_, hn.nodiv⟩
  · have hne : p ≠ st.outPath := by intro e; subst e; rw [hn.own hx h.ho] at hp; cases hp
    simp only []; rw [h.oth p hne]; exact hn.excl hx p f0 hp
  · by_cases e : q = st.outPath
    · subst e; exact h.dom _ (hn.dom _ (by rw [h.get]; simp))
    · simp only [] at hq; rw [h.oth q e] at hq; exact h.dom _ (hn.dom q hq)

theorem NoOv.ext {st : St} {p : Path} (f' : File) (hfree : st.fs.get p = none)
    (h : NoOv c fs0 st) : NoOv c fs0 { st with fs := st.fs.set p f' } := by
  refine ⟨fun hx q f0 hq => ?_, h.own, DomOk_set h.dom _ _, h.nodiv⟩
  have := h.excl hx q f0 hq
  have hne : q ≠ p := by intro e; subst e; rw [hfree] at this; cases this
  rw [get_set_ne _ _ _ _ hne]; exact this

theorem NoOv.set {st : St} (hn : NoOv c fs0 st) (p : Path) (f' : File) (hx : c.excl = false) :
    NoOv c fs0 { st with fs := st.fs.set p f' } :=
  ⟨fun hx' => (by rw [hx] at hx'; cases hx'), hn.own, DomOk_set hn.dom _ _, hn.nodiv⟩

theorem mem_maxRev {ps : List Path} {p : Path} (h : p ∈ ps) : p.rev ≤ maxRev ps := by
  induction ps with
  | nil => cases h
  | cons q qs ih =>
    unfold maxRev
    cases h with
    | head => exact Nat.le_max_left ..
    | tail _ h => exact Nat.le_trans (ih h) (Nat.le_max_right ..)

theorem search_ne_none (t : Nat → Bool) (n r B : Nat) (hB : t B = false) (hle : r ≤ B) (hn : B - r < n) :
    search t n r ≠ none := by
  induction n generalizing r with
  | zero => omega
  | succ n ih =>
    unfold search
    by_cases ht : t r = true
    · rw [if_pos ht]
      have : r ≠ B := by intro e; subst e; rw [hB] at ht; cases ht
      exact ih (r + 1) (by omega) (by omega)
    · rw [if_neg ht]; simp

/-- a revision above every revision that ever existed is free -/
theorem search_terminates (fs : FS) (hd : DomOk fs) (t : Nat → Bool) (r : Nat)
    (ht : ∀ i, t i = true → ∃ p, fs.get p ≠ none ∧ p.rev = i) : search t (fuel fs) r ≠ none := by
  apply search_ne_none t (fuel fs) r (max r (maxRev fs.dom + 1))
  · cases hb : t (max r (maxRev fs.dom + 1)) with
    | false => rfl
    | true =>
      obtain ⟨p, hp, hrev⟩ := ht _ hb
      have := mem_maxRev (hd p hp)
      omega
  · exact Nat.le_max_left ..
  · unfold fuel; omega

theorem taken_witness (c : Cfg) (hwf : c.WF) (fs : FS) (fn : String) (i : Nat) (h : taken c fs fn i = true) :
    ∃ p, fs.get p ≠ none ∧ p.rev = i := by
  unfold taken at h
  cases hwf with
  | inl hrev =>
    simp only [Bool.or_eq_true, Bool.and_eq_true] at h
    cases h with
    | inl h =>
      refine ⟨mkPath c true fn i, ?_, by simp [mkPath, hrev]⟩
      intro e; rw [e] at h; simp at h
    | inr h =>
      refine ⟨mkPath c (!c.workDir) fn i, ?_, by simp [mkPath, hrev]⟩
      intro e; rw [e] at h; simp at h
  | inr hno =>
    obtain ⟨hgz, hrs, hri, hwd⟩ := hno
    -- without `<REV>` there is no O_EXCL, no rotate-size and no work dir, so `taken` is constantly false
    exfalso
    have hex : c.excl = false := by
      unfold Cfg.excl; rw [hgz]; simp; omega
    rw [hwd, hex, hrs] at h
    simp at h
    split at h <;> simp at h

theorem takenDst_witness (c : Cfg) (hrev : c.hasRev = true) (fs : FS) (fn : String) (i : Nat)
    (h : takenDst c fs fn i = true) : ∃ p, fs.get p ≠ none ∧ p.rev = i := by
  unfold takenDst at h
  refine ⟨mkPath c true fn i, ?_, by simp [mkPath, hrev]⟩
  intro e; rw [e] at h; simp at h

theorem not_stuck (hwf : c.WF) {fs : FS} (hd : DomOk fs) : ¬ Stuck c fs := by
  rintro ⟨fn, r, h | ⟨hwd, h⟩⟩
  · exact search_terminates fs hd _ r (fun i hi => taken_witness c hwf fs fn i hi) h
  · have hrev : c.hasRev = true := by
      cases hwf with
      | inl h => exact h
      | inr h => rw [hwd] at h; cases h.2.2.2
    exact search_terminates fs hd _ r (fun i hi => takenDst_witness c hrev fs fn i hi) h

theorem noOv_act (hwf : c.WF) {st s' : St} (h : Act c io st s') (hn : NoOv c fs0 st) : NoOv c fs0 s' := by
  cases h with
  | same => exact ⟨hn.excl, hn.own, hn.dom, hn.nodiv⟩
  | stop hd hdiv =>
    exact hn.congr hd.2.1 hd.2.2.2.1 hd.2.2.2.2 (fun e => (hdiv e).elim hn.nodiv (not_stuck hwf hn.dom))
  | grow h => exact hn.grew h
  | tear h hd => exact (hn.grew h).dead hd
  | record m h => exact (hn.grew h).congr rfl rfl rfl hn.nodiv
  | fin | close => exact hn.congr rfl rfl rfl hn.nodiv
  | clear => exact ⟨hn.excl, fun _ hh => (by cases hh), hn.dom, hn.nodiv⟩
  | link dst f _ _ _ _ _ hfree => exact hn.ext f hfree
  | rename dst f _ hho _ _ _ hfree =>
    -- the file moved is the tool's own
    have hl := hn.ext f hfree
    refine ⟨fun hx p f0 hp => ?_, hl.own, DomOk_del hl.dom _, hn.nodiv⟩
    have hne : p ≠ st.outPath := by intro e; subst e; rw [hn.own hx hho] at hp; cases hp
    simp only []; rw [get_del_ne _ _ _ hne]; exact hl.excl hx p f0 hp
  | openNew p _ _ hg =>
    have hl := hn.ext (⟨[], [], 0⟩ : File) hg
    refine ⟨hl.excl, fun hx _ => ?_, hl.dom, hn.nodiv⟩
    -- the new file is the tool's own: no pre-existing file has that name
    cases h0 : fs0.get p with
    | none => rfl
    | some f0 => have := hn.excl hx _ f0 h0; rw [hg] at this; cases this
  | openOld p f _ _ _ _ hnx => exact ⟨hn.excl, fun hx _ => (by rw [hnx] at hx; cases hx), hn.dom, hn.nodiv⟩
  | openSeal p f _ _ _ _ hnx =>
    have hl := hn.set p (fileWrite c.gzip [10] f) hnx
    exact ⟨hl.excl, fun hx _ => (by rw [hnx] at hx; cases hx), hl.dom, hn.nodiv⟩
  | openStop p f _ _ _ _ hnx hd =>
    exact NoOv.dead (st := { st with hasOut := true, outPath := p })
      ⟨hn.excl, fun hx _ => (by rw [hnx] at hx; cases hx), hn.dom, hn.nodiv⟩ hd

theorem noOv_step (hwf : c.WF) (io : Nat → Fault) (st : St) (ev : Ev) (starved : Bool)
    (h : NoOv c fs0 st) : NoOv c fs0 (step c io st ev starved) :=
  step_keeps (E := fun _ => True) (fun _ _ => noOv_act hwf)
    (fun _ _ _ _ _ hfree h => h.ext _ hfree) (fun _ p data f _ _ _ hx h => h.set p (fileWrite false data f) hx)
    st ev starved trivial h

theorem noOv_run (hwf : c.WF) (io : Nat → Fault) (evs : List (Ev × Bool)) (st : St)
    (h : NoOv c fs0 st) : NoOv c fs0 (run c io st evs) :=
  run_preserves (E := fun _ => True) (fun st ev s _ h => noOv_step hwf io st ev s h) evs (fun _ _ => trivial) st h

theorem noOv_init (c : Cfg) (fs0 : FS) (hd : DomOk fs0) : NoOv c fs0 (init fs0) :=
  ⟨fun _ p f0 hp => hp, fun _ hh => (by simp [init] at hh), hd, by simp [init]⟩

end Nsq.Proofs.ToFile
