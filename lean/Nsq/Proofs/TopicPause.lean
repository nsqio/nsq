/-
E2 / C03 — invariant of the topic pump's cached enable bit (`Nsq.Model.TopicPause`).
-/
import Nsq.Model.TopicPause
namespace Nsq.Proofs.TopicPause
open Nsq.Model.TopicPause

structure PInv (s : St) : Prop where
  /-- before `Start()` the queue cases are off -/
  pre   : s.started = false → s.armed = false
  /-- no `Pause()`/`UnPause()` call in progress ⇒ the cached bit is the evaluation of the CURRENT flag -/
  arm   : s.started = true → s.pendP = 0 → s.armed = evalArm s.snap s.paused
  /-- no channel-update hand-shake outstanding ⇒ the pump's snapshot is the channel map -/
  snapOk : s.started = true → s.pendU = 0 → s.snap = s.nchan

theorem pinv_init : PInv {} := ⟨fun _ => rfl, fun h => (by cases h), fun h => (by cases h)⟩

theorem step_pinv {s : St} (h : PInv s) (op : Op) : PInv (step true s op).1 := by
  obtain ⟨h1, h2, h3⟩ := h
  cases op with
  | storeFlag b =>
    refine ⟨h1, ?_, h3⟩
    intro _ hp; simp [step] at hp
  | pauseAck =>
    simp only [step, Bool.true_and]
    split
    · exact ⟨h1, h2, h3⟩
    · refine ⟨?_, ?_, h3⟩
      · intro hs; simp only at hs; simp [hs]
      · intro hs _; simp only at hs; simp [hs]
  | mapChange n =>
    refine ⟨h1, h2, ?_⟩
    intro _ hp; simp [step] at hp
  | updAck =>
    simp only [step]
    split
    · exact ⟨h1, h2, h3⟩
    · split
      · rename_i hs
        refine ⟨?_, ?_, ?_⟩
        · intro hn; simp only at hn; rw [hs] at hn; cases hn
        · intro _ _; rfl
        · intro _ _; rfl
      · rename_i hs
        have hs' : s.started = false := by simpa using hs
        refine ⟨h1, ?_, ?_⟩
        · intro hn; simp only at hn; rw [hs'] at hn; cases hn
        · intro hn; simp only at hn; rw [hs'] at hn; cases hn
  | start =>
    simp only [step]
    split
    · exact ⟨h1, h2, h3⟩
    · refine ⟨?_, ?_, ?_⟩
      · intro hn; cases hn
      · intro _ _; rfl
      · intro _ _; rfl
  | pub id => exact ⟨h1, h2, h3⟩
  | fan id =>
    simp only [step]
    split
    · exact ⟨h1, h2, h3⟩
    · exact ⟨h1, h2, h3⟩

theorem run_pinv {s : St} (h : PInv s) (ops : List Op) : PInv (run true s ops) := by
  induction ops generalizing s with
  | nil => exact h
  | cons op ops ih => exact ih (step_pinv h op)

end Nsq.Proofs.TopicPause
