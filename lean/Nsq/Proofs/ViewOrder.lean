import Nsq.Model.ViewOrder
/-!
The comparators the views sort with. Those by hostname are strict weak orders (`hostLess_swo`, `swo_on`), so two sorted
arrangements of the same reports show the same hostnames (`sortedBy_host_determined`); the topology comparator of the
client list is not one (`topoLess_not_swo`), and what it does decide is said case by case (`topoLess_*`).
-/
namespace Nsq.Proofs.ViewOrder
open Nsq.Model.ViewOrder

/-- What `sort.Sort` needs of `Less` to promise a sorted result: a strict weak order. -/
structure StrictWeakOrder {α : Type} (lt : α → α → Bool) : Prop where
  irrefl : ∀ a, lt a a = false
  trans : ∀ a b c, lt a b = true → lt b c = true → lt a c = true
  negTrans : ∀ a b c, lt a b = false → lt b c = false → lt a c = false

theorem StrictWeakOrder.asymm {α : Type} {lt : α → α → Bool} (h : StrictWeakOrder lt) (a b : α)
    (hab : lt a b = true) : lt b a = false := by
  cases hba : lt b a with
  | false => rfl
  | true =>
    have := h.trans a b a hab hba
    rw [h.irrefl a] at this
    cases this

theorem hostLess_swo : StrictWeakOrder hostLess where
  irrefl a := by simp [hostLess, String.lt_irrefl]
  trans a b c h1 h2 := by
    simp only [hostLess, decide_eq_true_eq] at *
    exact String.lt_trans h1 h2
  negTrans a b c h1 h2 := by
    simp only [hostLess, decide_eq_false_iff_not, String.not_lt] at *
    exact String.le_trans h2 h1

/-- A strict weak order seen through a key (`x[i].Hostname`) is one. -/
theorem swo_on {α β : Type} {lt : β → β → Bool} (h : StrictWeakOrder lt) (f : α → β) :
    StrictWeakOrder (fun a b => lt (f a) (f b)) where
  irrefl a := h.irrefl (f a)
  trans a b c := h.trans (f a) (f b) (f c)
  negTrans a b c := h.negTrans (f a) (f b) (f c)

/-- Two clients of one node that are both in the node's own zone. -/
def k0 : ClientKey := ⟨"N0", "r", "z", "r", "z"⟩

theorem topoLess_not_irrefl : topoLess k0 k0 = true := by decide

theorem topoLess_not_swo : ¬ StrictWeakOrder topoLess := fun h => by
  have := h.irrefl k0
  rw [topoLess_not_irrefl] at this
  cases this

theorem topoLess_of_zone (a b : ClientKey) (hn : a.node = b.node) (h : cls a = 0) : topoLess a b = true := by
  unfold cls at h
  unfold topoLess
  split at h
  next h0 => simp [hn, h0]
  next => split at h <;> cases h

theorem topoLess_of_region (a b : ClientKey) (hn : a.node = b.node) (hr : a.nodeRegion = b.nodeRegion)
    (hz : a.nodeZone = b.nodeZone) (ha : cls a = 1) (hb : cls b ≠ 0) : topoLess a b = true := by
  unfold cls at ha hb
  unfold topoLess
  rw [← hr, ← hz] at hb
  split at ha
  next => cases ha
  next ha0 =>
    split at ha
    next ha1 =>
      split at hb
      next => exact absurd rfl hb
      next hb0 => simp [hn, hb0, ha1]
    next => cases ha

theorem topoLess_both_of_close (a b : ClientKey) (hn : a.node = b.node)
    (hr : a.nodeRegion = b.nodeRegion) (hz : a.nodeZone = b.nodeZone)
    (hc : cls a = cls b) (h1 : cls a ≤ 1) : topoLess a b = true ∧ topoLess b a = true := by
  have h01 : cls a = 0 ∨ cls a = 1 := by omega
  rcases h01 with h | h
  · exact ⟨topoLess_of_zone a b hn h, topoLess_of_zone b a hn.symm (hc ▸ h)⟩
  · exact ⟨topoLess_of_region a b hn hr hz h (by omega),
      topoLess_of_region b a hn.symm hr.symm hz.symm (hc ▸ h) (by omega)⟩

theorem topoLess_other_node (a b : ClientKey) (hn : a.node ≠ b.node) :
    topoLess a b = decide (a.node < b.node) := by
  unfold topoLess
  have : (a.node == b.node) = false := by simpa using hn
  simp [this]

theorem topoLess_asymm_across_nodes (a b : ClientKey) (hn : a.node ≠ b.node)
    (h : topoLess a b = true) : topoLess b a = false := by
  rw [topoLess_other_node a b hn] at h
  rw [topoLess_other_node b a (fun e => hn e.symm)]
  simp only [decide_eq_true_eq] at h
  simp only [decide_eq_false_iff_not]
  exact String.lt_asymm h

/-- "Sorted" as `sort.Sort` promises it for a strict weak order: no later element is less than an earlier one. -/
def SortedBy {α : Type} (lt : α → α → Bool) (l : List α) : Prop := l.Pairwise (fun a b => lt b a = false)

/-- Whatever (unstable) algorithm produced them, two sorted arrangements of the same reports show the same hostnames
at the same positions (reports with equal hostnames may be exchanged). -/
theorem sortedBy_host_determined {α : Type} (f : α → String) (l₁ l₂ : List α) (hp : l₁.Perm l₂)
    (h₁ : SortedBy (fun a b => hostLess (f a) (f b)) l₁)
    (h₂ : SortedBy (fun a b => hostLess (f a) (f b)) l₂) : l₁.map f = l₂.map f := by
  have conv : ∀ l : List α, SortedBy (fun a b => hostLess (f a) (f b)) l → (l.map f).Pairwise (· ≤ ·) := by
    intro l h
    rw [List.pairwise_map]
    refine h.imp ?_
    intro a b hab
    simp only [hostLess, decide_eq_false_iff_not, String.not_lt] at hab
    exact hab
  refine List.Perm.eq_of_pairwise (le := (· ≤ ·)) ?_ (conv l₁ h₁) (conv l₂ h₂) (hp.map f)
  intro a b _ _ hab hba
  exact String.le_antisymm hab hba

end Nsq.Proofs.ViewOrder
