import Nsq.Model.ChanDelete
import Nsq.Proofs.DeleteRace
/-
Invariant of the tree with fixes/F22 (a channel deletion unlinks only the object it looked up): an object
leaves the channel map only with its exit flag set and holding no consumer and no message.
-/
namespace Nsq.Proofs.ChanDelete
open Nsq.Model.ChanDelete Nsq.Proofs.DeleteRace

abbrev view : View CObj :=
  { id := (·.id), exiting := (·.exiting), exited := (·.exited), empty := fun T => T.subs = [] ∧ T.queue = [] }

abbrev FixedInv (s : CSt) : Prop := Inv view s.ownUnlink s.map s.unlinked s.deleters s.nextId

theorem fixedInv_init : FixedInv fixedTree := Inv.init

theorem mem_erase_or {l : List Nat} {x m : Nat} (h : x ∈ l) : x = m ∨ x ∈ l.erase m :=
  Decidable.or_iff_not_imp_left.2 fun hx => (List.mem_erase_of_ne hx).2 h

theorem findObj_map (s : CSt) (id : Nat) (T M : CObj) (h : findObj s id = some T) (hm : s.map = some M)
    (hid : M.id = id) : T = M := by
  unfold findObj at h
  rw [hm] at h
  simp only [hid, if_true] at h
  cases h; rfl

theorem unlink_deleters (s : CSt) (id : Nat) : (unlink s id).deleters = s.deleters := by
  unfold unlink
  split
  · rfl
  · split <;> rfl

/-- The identity-checked unlink of an exited object, whatever the bookkeeping lists become. -/
theorem fixedInv_unlink (s : CSt) (id : Nat) (T : CObj) (h : FixedInv s) (hf : findObj s id = some T)
    (hex : T.exited = true) (dl ls an : List Nat) (hdl : ∀ x ∈ dl, x ∈ s.deleters) :
    FixedInv { unlink s id with deleters := dl, losers := ls, answered := an } := by
  unfold unlink
  split
  · exact h.finish dl hdl
  · rename_i M hM
    split
    · exact h.finish dl hdl
    -- the name is registered and the identity test passed: the object that leaves the map is the one looked up, `T`
    · rename_i hcond
      have hid : M.id = id := by
        simp only [h.g, Bool.true_and, bne_iff_ne, ne_eq, Decidable.not_not] at hcond
        exact hcond
      cases findObj_map s id T M hf hM hid
      unfold FixedInv at h
      rw [hM] at h
      exact (h.unlink hex).finish dl hdl

theorem fixedInv_step (s s' : CSt) (a : CStep) (h : FixedInv s) (hs : cstep s a = some s') : FixedInv s' := by
  unfold FixedInv at h
  revert hs
  fun_cases cstep s a <;> intro hs <;> cases hs
  -- `sub` on a live object, `pub` into one: it grows
  case case3 _ _ T hT hx | case11 T hT hx => rw [hT] at h; exact h.grow (by simpa using hx) _ rfl rfl rfl
  -- `sub`, `create` under a free name: a fresh object
  case case4 _ _ hN | case6 hN => rw [hN] at h; exact h.register _ rfl rfl
  -- `leave`
  case case8 k _ =>
    exact h.shrink (fun T => { T with subs := T.subs.erase k }) (fun _ => rfl) (fun _ => rfl) (fun _ => rfl)
      fun T ⟨h3, h4⟩ => ⟨by show T.subs.erase k = []; rw [show T.subs = [] from h3]; rfl, h4⟩
  -- `delBegin` wins the flag; `delExit`; `delUnlink`, `loserUnlink`
  case case14 T hT _ => rw [hT] at h; exact h.begin _ rfl rfl rfl id
  case case17 id hdel _ _ _ =>
    exact h.exitStage hdel (fun T => { T with exited := true, subs := [], queue := [] }) (fun _ => rfl) (fun _ => rfl)
      (fun _ => ⟨rfl, rfl⟩)
  case case21 id _ T hf hcd =>
    exact fixedInv_unlink s id T h hf (by simpa using hcd) _ _ _ (fun x hx => List.mem_of_mem_erase hx)
  case case25 id _ T hf hcd =>
    exact fixedInv_unlink s id T h hf (by simpa using hcd) _ _ _ (fun x hx => by rw [unlink_deleters] at hx; exact hx)
  -- a refused `sub`, `create` of a registered name, `pub` to no or to an exiting object, `delBegin` that loses the flag
  all_goals exact h

theorem fixedInv_run (sched : List CStep) (s s' : CSt) (h : FixedInv s) (hs : crun s sched = some s') : FixedInv s' := by
  fun_induction crun s sched with
  | case1 => cases hs; exact h
  | case2 => cases hs
  | case3 s a _ s1 h1 ih => exact ih (fixedInv_step s s1 a h h1) hs

end Nsq.Proofs.ChanDelete
