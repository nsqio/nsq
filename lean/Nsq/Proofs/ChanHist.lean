/-
Pure lemmas about well-formed histories (`okHist`): what the per-id status automaton
implies about the order of events.  No state involved.  The inductions split on whether the event names the id: one that
does not leaves its status (`evSt_of_not_mem`); what one that does can make of it is said per event (`evSt_of_held`, `evSt_held`,
`evSt_gone`).  Also here: what `okHist3` says of a closed connection (`closed_rdy_zero`, for C03), and the ledger of C01 read
off the history (`fannedIds`, `removed`; `status_gone_iff`, `located_iff`).
-/
import Nsq.Proofs.ChanEv
namespace Nsq.Proofs.Chan
open Nsq.Model.Chan

theorem okHist_at {h2 h1 : List Ev} {ev : Ev} (h : okHist (h2 ++ ev :: h1) = true) : okEv h1 ev = true ∧ okHist h1 = true := by
  induction h2 with
  | nil => simpa only [List.nil_append, okHist, Bool.and_eq_true] using h
  | cons ev' h2 ih =>
    simp only [List.cons_append, okHist, Bool.and_eq_true] at h
    exact ih h.2

theorem okHist3_at {m : Int} {h2 h1 : List Ev} {ev : Ev} (h : okHist3 m (h2 ++ ev :: h1) = true) :
    okEv3 m h1 ev = true ∧ okHist3 m h1 = true := by
  induction h2 with
  | nil => simpa only [List.nil_append, okHist3, Bool.and_eq_true] using h
  | cons ev' h2 ih =>
    simp only [List.cons_append, okHist3, Bool.and_eq_true] at h
    exact ih h.2

/-- CLS sets the count to 0, and `okEv3` admits no RDY of a closed connection (a SUB under the same number opens it again,
with count 0) -/
theorem closed_rdy_zero {m : Int} {k : Nat} : ∀ {h : List Ev}, okHist3 m h = true → closedOf h k = true → rdyOf h k = 0
  | [], _, hc => by cases hc
  | ev :: h, hok, hc => by
    simp only [okHist3, Bool.and_eq_true] at hok
    have ih := closed_rdy_zero (k := k) hok.2
    cases ev <;> simp only [closedOf, rdyOf, okEv3] at hc hok ⊢ <;> try exact ih hc
    -- `rdySet`, `closed`, `joined`: of `k`, or of another connection
    all_goals split <;> simp_all

def concerns (ev : Ev) (id : Nat) : Bool := (evIds ev).contains id

theorem not_mem_of_not_concerns {ev : Ev} {id : Nat} (h : concerns ev id = false) : id ∉ evIds ev := by
  simpa [concerns] using h

theorem evSt_of_not_concerns {ev : Ev} {id : Nat} (h : concerns ev id = false) (s : St) : evSt ev id s = s :=
  evSt_of_not_mem (not_mem_of_not_concerns h) s

theorem nDeliver_of_not_concerns {ev : Ev} {id : Nat} (h : concerns ev id = false) (hs : List Ev) :
    nDeliver (ev :: hs) id = nDeliver hs id :=
  nDeliver_cons_of_not_mem (not_mem_of_not_concerns h) hs

theorem not_concerns_of_gone {rest : List Ev} {ev : Ev} {id : Nat} (hok : okEv rest ev = true)
    (hg : status rest id = .gone) : concerns ev id = false := by
  cases hc : concerns ev id with
  | false => rfl
  | true =>
    have hm : id ∈ evIds ev := by simpa [concerns] using hc
    rcases okEv_mem hok hm with ⟨_, _, h⟩ | h <;> rw [hg] at h <;> cases h

theorem gone_forever {h2 base : List Ev} {id : Nat} (hok : okHist (h2 ++ base) = true)
    (hg : status base id = .gone) : status (h2 ++ base) id = .gone ∧ ∀ ev ∈ h2, concerns ev id = false := by
  induction h2 with
  | nil => exact ⟨hg, by simp⟩
  | cons ev h2 ih =>
    simp only [List.cons_append, okHist, Bool.and_eq_true] at hok
    obtain ⟨ih1, ih2⟩ := ih hok.2
    have hnc := not_concerns_of_gone hok.1 ih1
    refine ⟨?_, ?_⟩
    · rw [List.cons_append, status_cons, evSt_of_not_concerns hnc, ih1]
    · intro ev' hev'
      simp only [List.mem_cons] at hev'
      rcases hev' with rfl | hev'
      · exact hnc
      · exact ih2 ev' hev'

def releases (ev : Ev) (id : Nat) : Bool :=
  match ev with
  | .reqOk _ i _ => i == id
  | .timeout i _ => i == id
  | _ => false

/-- an accepted event about a message that `k` holds is an answer of `k`, a timeout or an `Empty`; unless it releases the message it
leaves it held (a TOUCH) or gone -/
theorem evSt_of_held {rest : List Ev} {ev : Ev} {id k : Nat} (hok : okEv rest ev = true) (hs : status rest id = .held k)
    (hm : id ∈ evIds ev) (hr : releases ev id = false) : evSt ev id (.held k) = .held k ∨ evSt ev id (.held k) = .gone := by
  cases ev <;> simp_all [evSt, evIds, okEv, releases]

theorem held_until_released {h2 base : List Ev} {id k : Nat} (hok : okHist (h2 ++ base) = true)
    (hh : status base id = .held k) :
    (status (h2 ++ base) id = .held k ∨ status (h2 ++ base) id = .gone) ∨ ∃ ev ∈ h2, releases ev id = true := by
  induction h2 with
  | nil => exact .inl (.inl hh)
  | cons ev h2 ih =>
    simp only [List.cons_append, okHist, Bool.and_eq_true] at hok
    rw [List.cons_append, status_cons]
    rcases ih hok.2 with (ih | ih) | ⟨e, he, hr⟩
    · by_cases hm : id ∈ evIds ev
      · cases hr : releases ev id
        · rw [ih]; exact .inl (evSt_of_held hok.1 ih hm hr)
        · exact .inr ⟨ev, List.mem_cons_self, hr⟩
      · rw [evSt_of_not_mem hm, ih]; exact .inl (.inl rfl)
    · rw [evSt_of_not_concerns (not_concerns_of_gone hok.1 ih), ih]; exact .inl (.inr rfl)
    · exact .inr ⟨e, List.mem_cons_of_mem _ he, hr⟩

def lastDeliver : List Ev → Nat → Option Nat
  | [], _ => none
  | .deliver k i _ :: h, id => if i = id then some k else lastDeliver h id
  | _ :: h, id => lastDeliver h id

/-- only a delivery makes a message held: an event that names `id` sets its status to a constant (a TOUCH leaves it) -/
theorem evSt_held {ev : Ev} {id k : Nat} {s : St} (h : evSt ev id s = .held k) : s = .held k ∨ ∃ a, ev = .deliver k id a := by
  by_cases hm : id ∈ evIds ev
  · cases ev <;> simp_all [evSt, evIds] <;> split at h <;> cases h
  · exact .inl (evSt_of_not_mem hm s ▸ h)

theorem held_is_last_deliver {h : List Ev} {id k : Nat} (hs : status h id = .held k) :
    lastDeliver h id = some k := by
  induction h with
  | nil => cases hs
  | cons ev h ih =>
    rw [status_cons] at hs
    rcases evSt_held hs with h' | ⟨a, rfl⟩
    · cases ev with
      | deliver k' i a =>
        by_cases hi : i = id
        · simp only [evSt, hi, if_true, St.held.injEq] at hs; simp only [lastDeliver, hi, if_true, hs]
        · simp only [lastDeliver, hi, if_false]; exact ih h'
      | _ => exact ih h'
    · simp only [lastDeliver, if_true]

/-! history-level forms of the C02 theorems: they use nothing but `okHist`, so they apply to the
atomic model and to the micro-step model of the map / heap windows alike -/

theorem hist_redelivery_justified {hist : List Ev} (hok : okHist hist = true)
    {h3 h2 h1 : List Ev} {k1 k2 id a1 a2 : Nat}
    (hs : hist = h3 ++ Ev.deliver k2 id a2 :: (h2 ++ Ev.deliver k1 id a1 :: h1)) :
    ∃ ev ∈ h2, releases ev id = true := by
  obtain ⟨hev, hok3⟩ := okHist_at (hs ▸ hok)
  simp only [okEv, beq_iff_eq, Bool.and_eq_true] at hev
  -- the second delivery found the message queued; after the first it was held: it was released in between
  refine (held_until_released (k := k1) hok3 (by simp [status, evSt])).resolve_left fun h' => ?_
  rcases h' with h' | h' <;> rw [h'] at hev <;> cases hev.1

theorem hist_answer_by_holder {hist : List Ev} (hok : okHist hist = true) {h2 h1 : List Ev} {ev : Ev} {k id : Nat}
    (hs : hist = h2 ++ ev :: h1)
    (hev : ev = .finOk k id ∨ (∃ d, ev = .reqOk k id d) ∨ ev = .touchOk k id ∨ ev = .timeout id k) :
    lastDeliver h1 id = some k := by
  have hok2 := (okHist_at (hs ▸ hok)).1
  apply held_is_last_deliver
  rcases hev with rfl | ⟨d, rfl⟩ | rfl | rfl <;> simpa [okEv] using hok2

theorem hist_attempts_consecutive {hist : List Ev} (hok : okHist hist = true) {h2 h1 : List Ev} {k id a : Nat}
    (hs : hist = h2 ++ Ev.deliver k id a :: h1) :
    a = nDeliver h1 id + 1 ∧ (a < 65536 → wireAttempts a = nDeliver h1 id + 1) := by
  have hok2 := (okHist_at (hs ▸ hok)).1
  simp only [okEv, beq_iff_eq, Bool.and_eq_true] at hok2
  refine ⟨hok2.2, fun hlt => ?_⟩
  unfold wireAttempts
  rw [Nat.mod_eq_of_lt hlt]
  exact hok2.2

theorem hist_fin_final {hist : List Ev} (hok : okHist hist = true) {h2 h1 : List Ev} {k id : Nat}
    (hs : hist = h2 ++ Ev.finOk k id :: h1) :
    ∀ ev ∈ h2, concerns ev id = false ∧ ∀ k' a, ev ≠ .deliver k' id a := by
  rw [hs] at hok
  have hg : status (Ev.finOk k id :: h1) id = .gone := by simp [status, evSt]
  intro ev hev
  have hnc := (gone_forever hok hg).2 ev hev
  refine ⟨hnc, ?_⟩
  intro k' a heq
  subst heq
  simp [concerns, evIds] at hnc

def fannedIds : List Ev → List Nat
  | [] => []
  | .fanout i _ :: h => i :: fannedIds h
  | _ :: h => fannedIds h

def removedIn (ev : Ev) (id : Nat) : Bool :=
  match ev with
  | .finOk _ i => i == id
  | .emptied ids => ids.contains id
  | .sampledOut _ i => i == id
  | .ephDrop i => i == id
  | _ => false

def removed (h : List Ev) (id : Nat) : Bool := h.any (fun ev => removedIn ev id)

theorem mem_fannedIds {h : List Ev} {id : Nat} : id ∈ fannedIds h ↔ nFanout h id ≠ 0 := by
  induction h with
  | nil => simp [fannedIds, nFanout]
  | cons ev h ih =>
    rw [nFanout_cons]
    cases ev with
    | fanout i d =>
      by_cases hi : i = id
      · simp [fannedIds, hi]
      · simp only [fannedIds, List.mem_cons, ih, hi, if_false, Nat.add_zero, Ne.symm hi, false_or]
    | _ => exact ih

theorem status_none_iff {h : List Ev} (hok : okHist h = true) {id : Nat} :
    status h id = .none ↔ nFanout h id = 0 := by
  refine ⟨?_, status_none_of_nFanout_zero hok⟩
  intro hs
  induction h with
  | nil => rfl
  | cons ev h ih =>
    simp only [okHist, Bool.and_eq_true] at hok
    rw [status_cons] at hs
    rw [nFanout_cons, ih hok.2 (evSt_none hs)]
    cases ev with
    | fanout i d =>
      by_cases hi : i = id
      · simp only [evSt, hi, if_true] at hs; split at hs <;> cases hs
      · simp only [hi, if_false]
    | _ => rfl

theorem fannedIds_nodup {h : List Ev} (hok : okHist h = true) : (fannedIds h).Nodup := by
  induction h with
  | nil => simp [fannedIds]
  | cons ev h ih =>
    simp only [okHist, Bool.and_eq_true] at hok
    cases ev <;> simp only [fannedIds] <;> try exact ih hok.2
    case fanout i d =>
      simp only [List.nodup_cons]
      refine ⟨?_, ih hok.2⟩
      have := hok.1
      simp only [okEv, beq_iff_eq] at this
      rw [mem_fannedIds]
      have hz := (status_none_iff hok.2).1 this
      omega

theorem evSt_removed {ev : Ev} {id : Nat} {s : St} (h : removedIn ev id = true) : evSt ev id s = .gone := by
  cases ev <;> simp_all [evSt, removedIn]

theorem evSt_gone {ev : Ev} {id : Nat} {s : St} (h : evSt ev id s = .gone) : removedIn ev id = true ∨ s = .gone := by
  by_cases hm : id ∈ evIds ev
  · cases ev <;> simp_all [evSt, removedIn, evIds] <;> split at h <;> cases h
  · exact .inr (evSt_of_not_mem hm s ▸ h)

theorem status_gone_iff {h : List Ev} (hok : okHist h = true) {id : Nat} :
    status h id = .gone ↔ removed h id = true := by
  induction h with
  | nil => simp [status, removed]
  | cons ev h ih =>
    have hok' := hok
    simp only [okHist, Bool.and_eq_true] at hok
    rw [removed, List.any_cons, Bool.or_eq_true, ← removed, ← ih hok.2, status_cons]
    exact ⟨evSt_gone, fun hr => hr.elim evSt_removed fun hg => (gone_forever (h2 := [ev]) hok' hg).1⟩

theorem located_iff {h : List Ev} (hok : okHist h = true) {id : Nat} :
    (status h id).located = true ↔ id ∈ fannedIds h ∧ removed h id = false := by
  rw [mem_fannedIds, ← Bool.not_eq_true, ← status_gone_iff hok, Ne, ← status_none_iff hok]
  cases status h id <;> simp [St.located]

end Nsq.Proofs.Chan
