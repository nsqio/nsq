import Nsq.Model.Aggregate
import Nsq.Proofs.Int64
/-!
The integer counters of the cluster view under Go's int64 arithmetic. `Model.Aggregate` computes with `Int`;
nsqadmin's `TopicStats.Add` / `ChannelStats.Add` / `GetNSQDStats` (`MemoryDepth = Depth - BackendDepth`,
`DeliveryMsgCount = Zone + Region + Global`) / `nodeHandler` totals / `counterHandler` use int64 `+`, `-`, `+=`.
Because `wrap64` commutes with `+` and `-`, running everything in int64 gives `wrap64` of the `Int` result,
field by field — so the driver prints `wrap64` of the model's numbers, and the shown value equals the exact
sum iff the exact sum fits into int64.
-/
namespace Nsq.Proofs.AggregateWrap
open Nsq.Model.Aggregate Nsq.Model.Int64 Nsq.Proofs.Int64

def Counters.wrap (c : Counters) : Counters :=
  { depth := wrap64 c.depth, memDepth := wrap64 c.memDepth, backendDepth := wrap64 c.backendDepth,
    inFlight := wrap64 c.inFlight, deferred := wrap64 c.deferred, requeue := wrap64 c.requeue,
    timeout := wrap64 c.timeout, msgCount := wrap64 c.msgCount, delivery := wrap64 c.delivery,
    zoneLocal := wrap64 c.zoneLocal, regionLocal := wrap64 c.regionLocal, globalMsg := wrap64 c.globalMsg,
    clientCount := wrap64 c.clientCount }

/-- `ChannelStats.Add` / `TopicStats.Add` on int64 fields. -/
def Counters.goAdd (a b : Counters) : Counters :=
  { depth := add64 a.depth b.depth, memDepth := add64 a.memDepth b.memDepth,
    backendDepth := add64 a.backendDepth b.backendDepth, inFlight := add64 a.inFlight b.inFlight,
    deferred := add64 a.deferred b.deferred, requeue := add64 a.requeue b.requeue,
    timeout := add64 a.timeout b.timeout, msgCount := add64 a.msgCount b.msgCount,
    delivery := add64 a.delivery b.delivery, zoneLocal := add64 a.zoneLocal b.zoneLocal,
    regionLocal := add64 a.regionLocal b.regionLocal, globalMsg := add64 a.globalMsg b.globalMsg,
    clientCount := add64 a.clientCount b.clientCount }

/-- GetNSQDStats' recomputed fields on int64. -/
def Counters.goDerive (c : Counters) : Counters :=
  { c with memDepth := sub64 c.depth c.backendDepth,
           delivery := add64 (add64 c.zoneLocal c.regionLocal) c.globalMsg }

def Counters.fits (c : Counters) : Prop :=
  inRange c.depth ∧ inRange c.memDepth ∧ inRange c.backendDepth ∧ inRange c.inFlight ∧ inRange c.deferred ∧
  inRange c.requeue ∧ inRange c.timeout ∧ inRange c.msgCount ∧ inRange c.delivery ∧ inRange c.zoneLocal ∧
  inRange c.regionLocal ∧ inRange c.globalMsg ∧ inRange c.clientCount

theorem add64_wrap (a b : Counters) : Counters.goAdd (Counters.wrap a) b = Counters.wrap (a.add b) := by
  simp [Counters.goAdd, Counters.wrap, Counters.add, add64, wrap64_add_left]

theorem foldl_add64_wrap (l : List Counters) (acc : Counters) :
    l.foldl Counters.goAdd (Counters.wrap acc) = Counters.wrap (l.foldl Counters.add acc) := by
  induction l generalizing acc with
  | nil => rfl
  | cons x rest ih => simp only [List.foldl_cons, add64_wrap, ih]

theorem wrap_of_inRange (c : Counters) (h : Counters.fits c) : Counters.wrap c = c := by
  obtain ⟨h1, h2, h3, h4, h5, h6, h7, h8, h9, h10, h11, h12, h13⟩ := h
  simp [Counters.wrap, wrap64_id, *]

end Nsq.Proofs.AggregateWrap
