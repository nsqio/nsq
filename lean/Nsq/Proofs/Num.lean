import Nsq.Model.Num
import Nsq.Proofs.BitVecInt
import Nsq.Spec.ProtoSpec
/-! `ByteToBase10` returns the value of the digit string when that fits 64 bits, and an error otherwise. This is argued once,
on the loop over natural numbers (`Model.Base10`, `byteToBase10_iff`); the loop over 64-bit words (`Model.Num`) takes the same
steps (`b10loop_agree`, where the machine arithmetic is dealt with), so its specification `byteToBase10_spec` is a corollary;
`msToDuration` likewise. The facts about `Model.Base10` are declared in `Nsq.Proofs.Base10`, the namespace `Proofs/Base10.lean`
continues; the rest, in `Nsq.Proofs.Num`, ends with what a handler knows of its argument before its range test (`parsed_ms`,
`parseInt_range`, `ms_checked`). -/
namespace Nsq.Proofs.Base10
open Nsq.Model.Base10 Nsq.Spec.ProtoSpec

theorem decVal_ge : ∀ (ds : List UInt8) (m : Nat), m ≤ decVal ds m
  | [], m => Nat.le_refl m
  | d :: ds, m => by
    unfold decVal
    have := decVal_ge ds (m * 10 + (d.toNat - 48))
    omega

theorem b10loop_iff (d : List UInt8) (acc n : Nat) (hacc : acc ≤ maxU64) :
    (b10loop d acc = some n ↔ (∀ c ∈ d, IsDigit c) ∧ decVal d acc = n ∧ n ≤ maxU64) := by
  fun_induction b10loop d acc
  case case1 acc =>
    simp only [decVal, Option.some.injEq, List.not_mem_nil, false_implies, implies_true, true_and]
    exact ⟨fun h => h ▸ ⟨rfl, hacc⟩, fun h => h.1⟩
  case case2 c ds acc hd hov =>
    -- overflow at this digit: the value of the whole string is at least the accumulator, so it does not fit either
    have := decVal_ge ds (acc * 10 + (c.toNat - 48))
    simp only [reduceCtorEq, false_iff, decVal]
    unfold maxU64 at *
    omega
  case case3 c ds acc hd hov ih =>
    rw [ih (by unfold maxU64 at *; omega), List.forall_mem_cons, decVal]
    exact ⟨fun h => ⟨⟨hd, h.1⟩, h.2⟩, fun h => ⟨h.1.2, h.2⟩⟩
  case case4 c ds acc hd =>
    simp only [reduceCtorEq, false_iff, List.forall_mem_cons]
    exact fun h => hd h.1.1

theorem byteToBase10_iff (d : List UInt8) (n : Nat) :
    byteToBase10 d = some n ↔ (∀ c ∈ d, IsDigit c) ∧ decVal d 0 = n ∧ n ≤ maxU64 :=
  b10loop_iff d 0 n (by unfold maxU64; omega)

theorem msToDuration_min (ms : Nat) : msToDuration ms = min ((ms : Int) * 1000000) maxI64 := by
  unfold msToDuration maxI64; omega

end Nsq.Proofs.Base10

namespace Nsq.Proofs.Num
open Nsq.Model.Num

theorem decVal_mono (b : Bytes) {a c : Nat} (h : a ≤ c) : decVal b a ≤ decVal b c := by
  induction b generalizing a c with
  | nil => simpa [decVal]
  | cons d tl ih =>
    simp only [decVal]
    apply ih
    omega

theorem isDigit_iff (d : BitVec 8) : isDigit d = true ↔ 48 ≤ d.toNat ∧ d.toNat ≤ 57 := by
  simp [isDigit, BitVec.ule]

theorem digit_setWidth (d : BitVec 8) (h : isDigit d = true) :
    (BitVec.setWidth 64 (d - 48#8)).toNat = digitVal d := by
  rw [isDigit_iff] at h
  have : (d - 48#8).toNat = d.toNat - 48 := by
    rw [BitVec.toNat_sub]; simp; omega
  simp [digitVal, this]
  omega

theorem guard_iff (n : BitVec 64) (v : BitVec 64) :
    BitVec.ult ((maxUint64 - v) / 10#64) n = true ↔ 2 ^ 64 ≤ n.toNat * 10 + v.toNat := by
  have h1 : (maxUint64 - v).toNat = 18446744073709551615 - v.toNat := by
    rw [BitVec.toNat_sub]; simp [maxUint64]; omega
  simp only [BitVec.ult, decide_eq_true_eq, BitVec.toNat_udiv, h1]
  have : (10#64).toNat = 10 := rfl
  rw [this]
  omega

theorem step_toNat (n v : BitVec 64) (h : n.toNat * 10 + v.toNat < 2 ^ 64) :
    (n * 10#64 + v).toNat = n.toNat * 10 + v.toNat := by
  have hm : (n * 10#64).toNat = n.toNat * 10 := BitVec.toNat_mul_of_lt (Nat.lt_of_le_of_lt (Nat.le_add_right _ _) h)
  rw [BitVec.toNat_add_of_lt (hm ▸ h), hm]

/-- The loop on 64-bit words is the loop on natural numbers: the guard fires at the same steps (`guard_iff`) and where it
does not, the machine step is exact (`step_toNat`). -/
theorem b10loop_agree (b : Bytes) (n : BitVec 64) :
    b10loop b n = (Model.Base10.b10loop (b.map UInt8.ofBitVec) n.toNat).map (BitVec.ofNat 64) := by
  induction b generalizing n with
  | nil => simp [b10loop, Model.Base10.b10loop]
  | cons d tl ih =>
    rw [b10loop, List.map_cons, Model.Base10.b10loop, UInt8.toNat_ofBitVec]
    by_cases hd : isDigit d = true
    · have hv := digit_setWidth d hd
      have hg := guard_iff n (BitVec.setWidth 64 (d - 48#8))
      rw [hv, digitVal] at hg
      rw [if_pos hd, if_pos ((isDigit_iff d).mp hd)]
      by_cases hov : 2 ^ 64 ≤ n.toNat * 10 + (d.toNat - 48)
      · rw [if_pos (hg.mpr hov), if_pos (by unfold Model.Base10.maxU64; omega)]
        rfl
      · rw [if_neg (mt hg.mp hov), if_neg (by unfold Model.Base10.maxU64; omega), ih,
          step_toNat _ _ (by rw [hv, digitVal]; omega), hv]
        rfl
    · rw [if_neg hd, if_neg (mt (isDigit_iff d).mpr hd)]
      rfl

theorem byteToBase10_agree (b : Bytes) :
    byteToBase10 b = (Model.Base10.byteToBase10 (b.map UInt8.ofBitVec)).map (BitVec.ofNat 64) :=
  b10loop_agree b 0#64

open Nsq.Spec.ProtoSpec in
theorem allDigits_iff (b : Bytes) : allDigits b = true ↔ ∀ c ∈ b.map UInt8.ofBitVec, IsDigit c := by
  simp [allDigits, IsDigit, isDigit_iff]

theorem decVal_eq (b : Bytes) (acc : Nat) : Spec.ProtoSpec.decVal (b.map UInt8.ofBitVec) acc = decVal b acc := by
  induction b generalizing acc with
  | nil => rfl
  | cons d tl ih => exact ih _

/-- **ByteToBase10, complete specification**: for every byte string, success iff every byte is a
decimal digit and the denoted natural number fits 64 bits; the result is then that number. -/
theorem byteToBase10_spec (b : Bytes) :
    byteToBase10 b =
      if allDigits b = true ∧ value b < 2 ^ 64 then some (BitVec.ofNat 64 (value b)) else none := by
  rw [byteToBase10_agree, value, ← decVal_eq]
  have spec := Base10.byteToBase10_iff (b.map UInt8.ofBitVec)
  split
  · next h =>
    rw [(spec _).mpr ⟨(allDigits_iff b).mp h.1, rfl, by unfold Model.Base10.maxU64; omega⟩]
    rfl
  · next h =>
    cases hb : Model.Base10.byteToBase10 (b.map UInt8.ofBitVec) with
    | none => rfl
    | some n =>
      obtain ⟨hd, rfl, hle⟩ := (spec n).mp hb
      exact absurd ⟨(allDigits_iff b).mpr hd, by unfold Model.Base10.maxU64 at hle; omega⟩ h

theorem maxInt64_toInt : maxInt64.toInt = 9223372036854775807 := by decide

theorem msToDuration_toInt (ms : BitVec 64) : (msToDuration ms).toInt = Model.Base10.msToDuration ms.toNat := by
  unfold msToDuration Model.Base10.msToDuration
  by_cases h : ms.toNat > 9223372036854
  · rw [if_pos (by simp [BitVec.ult]; omega), if_pos h, maxInt64_toInt]
    rfl
  · have h2 : (ms * 1000000#64).toNat = ms.toNat * 1000000 :=
      BitVec.toNat_mul_of_lt (y := 1000000#64) (show ms.toNat * 1000000 < 2 ^ 64 by omega)
    rw [if_neg (by simp [BitVec.ult]; omega), if_neg h, BitVec.toInt_eq_toNat_cond, h2]
    split <;> omega

/-- What REQ and DPUB see of their argument. -/
theorem parsed_ms (s : Bytes) :
    (byteToBase10 s = none ∧ ¬ (allDigits s = true ∧ value s < 2 ^ 64)) ∨
    ∃ ms, byteToBase10 s = some ms ∧ allDigits s = true ∧ value s < 2 ^ 64 ∧
      (msToDuration ms).toInt = min ((value s : Int) * 1000000) 9223372036854775807 := by
  rw [byteToBase10_spec]
  split
  · next h => exact .inr ⟨_, rfl, h.1, h.2, by
      rw [msToDuration_toInt, Base10.msToDuration_min, BitVec.toNat_ofNat, Nat.mod_eq_of_lt h.2]; rfl⟩
  · next h => exact .inl ⟨rfl, h⟩

theorem zero_toInt : (0#64).toInt = 0 := rfl

theorem ite_none_some {α : Type} {c1 c2 : Prop} [Decidable c1] [Decidable c2] {x v : α}
    (h : (if c1 then none else if c2 then some x else none) = some v) : c2 ∧ x = v := by
  split at h
  · cases h
  · split at h
    · exact ⟨by assumption, Option.some.inj h⟩
    · cases h

/-- `strconv.ParseInt(s, 10, 64)` yields an int64 -/
theorem parseInt_range {s : Bytes} {v : Int} (hp : parseInt s = some v) : -(2:Int) ^ 63 ≤ v ∧ v < 2 ^ 63 := by
  cases s with
  | nil => cases hp
  | cons c tl =>
    simp only [parseInt] at hp
    split at hp
    · obtain ⟨_, rfl⟩ := ite_none_some hp; omega
    · split at hp
      · obtain ⟨_, rfl⟩ := ite_none_some hp; omega
      · obtain ⟨_, rfl⟩ := ite_none_some hp; omega

theorem toInt_million : (1000000#64).toInt = 1000000 := by decide +kernel

/-- `doPUB` and `SetMsgTimeout` compare a millisecond count with `int64(max / time.Millisecond)` and multiply afterwards
(`time.Duration(v) * time.Millisecond`): the comparison says `v` ms `≤ max`, and then the product does not wrap. -/
theorem ms_checked {max : BitVec 64} (hcfg : 0 ≤ max.toInt) (v : BitVec 64) :
    (v.toInt ≤ (BitVec.sdiv max 1000000#64).toInt ↔ v.toInt * 1000000 ≤ max.toInt) ∧
    (0 ≤ v.toInt → v.toInt * 1000000 ≤ max.toInt → (v * 1000000#64).toInt = v.toInt * 1000000) := by
  have hm := max.toInt_lt
  constructor
  · rw [BitVec.toInt_sdiv_of_ne_or_ne _ _ (Or.inr (by decide +kernel)), toInt_million, Int.tdiv_eq_ediv_of_nonneg hcfg]
    omega
  · exact fun h0 h => BitVecInt.toInt_mul_of_range toInt_million (by omega) (by omega)

-- lets examples compare results of the DPUB argument parser
instance : DecidableEq (Except DeferErr (BitVec 64)) := fun a b =>
  match a, b with
  | .ok x, .ok y => if h : x = y then isTrue (by rw [h]) else isFalse (fun h' => h (by cases h'; rfl))
  | .error x, .error y => if h : x = y then isTrue (by rw [h]) else isFalse (fun h' => h (by cases h'; rfl))
  | .ok _, .error _ => isFalse (fun h' => by cases h')
  | .error _, .ok _ => isFalse (fun h' => by cases h')

end Nsq.Proofs.Num
