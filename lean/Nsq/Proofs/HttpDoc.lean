import Nsq.Proofs.HttpCharChannel
import Nsq.Proofs.HttpCharPub
namespace Nsq.Proofs.HttpDoc
open Nsq.Model.HttpApi Nsq.Model.ProtoV2 Nsq.Model.Names Nsq.Model.Base10 Nsq.Model
open Nsq.Proofs.HttpApi Nsq.Proofs.HttpChar

section
variable {hc : HConf} {healthy : Bool} {b : Broker} {rq : Request}

theorem badArgs_of_arg (h : QueryBad rq ∨ arg rq kTopic = none ∨ (∃ t, arg rq kTopic = some t ∧ isValidName t = false) ∨
    arg rq kChannel = none ∨ (∃ c, arg rq kChannel = some c ∧ isValidName c = false) ∨ DeferBad hc rq) :
    BadArgs hc rq := by
  rcases query_cases rq with ⟨hq, -, -⟩ | ⟨kv, hkv, hq, ha⟩
  · exact .inl hq
  · simp only [DeferBad, ← ha, ← deferArg_none_iff] at h
    exact .inr (.inl ⟨kv, hkv, h.resolve_left hq⟩)

theorem badArgs_of_names (h : ¬ ∃ t c, GoodNames rq t c) : BadArgs hc rq := by
  refine badArgs_of_arg (.inr ?_)
  cases ht : arg rq kTopic with
  | none => exact .inl rfl
  | some t =>
    cases hv : isValidName t with
    | false => exact .inr (.inl ⟨t, rfl, hv⟩)
    | true =>
      cases hc' : arg rq kChannel with
      | none => exact .inr (.inr (.inl rfl))
      | some c =>
        cases hvc : isValidName c with
        | false => exact .inr (.inr (.inr (.inl ⟨c, rfl, hvc⟩)))
        | true => exact absurd ⟨t, c, ht, hv, hc', hvc⟩ h

theorem unknown_of_arg {t : Bytes} (ht : arg rq kTopic = some t)
    (h : hasTopic b t = false ∨ ∃ c, arg rq kChannel = some c ∧ chanExists b t c = false) : UnknownObject b rq := by
  rcases query_cases rq with ⟨-, -, ha⟩ | ⟨kv, hkv, -, ha⟩
  · rw [ha] at ht; cases ht
  · rw [← ha] at ht h
    exact ⟨kv, t, hkv, ht, h⟩

/-- What an admin handler answers: one of the two endpoint shapes, with an action that stays inside the named topic. -/
inductive AdminAnswer (b : Broker) (rq : Request) (r : Out) : Prop
  | topic {v m : Bool} {act : Bytes → Broker} :
      TopicEndpoint v m act b rq r → (∀ t, OnlyTopic t b (act t)) → AdminAnswer b rq r
  | channel {n : Bool} {act : Bytes → Bytes → Broker} :
      ChannelEndpoint n act b rq r → (∀ t c, OnlyTopic t b (act t c)) → AdminAnswer b rq r

theorem AdminAnswer.doc {r : Out} (h : AdminAnswer b rq r) : Documented hc healthy b rq r.1 := by
  cases h with
  | topic h =>
    have hs := (by decide : ∀ x ∈ _, x.status = .s400 ∨ x.status = .s404 ∨ x.status = .s200) _ h.exhaustive
    rcases hs with e | e | e
    · exact documented_of .s400 e (badArgs_of_arg
        ((h.status400.mp e).imp_right (.imp_right fun ⟨t, ht, _, hv⟩ => .inl ⟨t, ht, hv⟩)))
    · obtain ⟨t, ht, -, -, hh⟩ := h.status404.mp e
      exact documented_of .s404 e (unknown_of_arg ht (.inl hh))
    · exact documented_of .s200 e trivial
  | channel h =>
    have hs := (by decide : ∀ x ∈ _, x.status = .s400 ∨ x.status = .s404 ∨ x.status = .s200) _ h.exhaustive
    rcases hs with e | e | e
    · exact documented_of .s400 e (badArgs_of_names (h.status400.mp e))
    · obtain ⟨t, c, g, hh⟩ := h.status404.mp e
      exact documented_of .s404 e (unknown_of_arg g.1 (hh.imp id (fun hh => ⟨c, g.2.2.1, hh.2⟩)))
    · exact documented_of .s200 e trivial

theorem AdminAnswer.frame {r : Out} (h : AdminAnswer b rq r) :
    (r.1.status ≠ .s200 → r.2 = b) ∧ ∀ t, arg rq kTopic = some t → OnlyTopic t b r.2 := by
  cases h with
  | topic h hact =>
    refine ⟨h.unchanged, fun t ha => ?_⟩
    by_cases e : r.1.status = .s200
    · obtain ⟨t', ht', hv, hm⟩ := h.status200.mp e
      cases ha.symm.trans ht'
      rw [h.effect t ha hv hm]
      exact hact t
    · rw [h.unchanged e]
      exact onlyTopic_refl t b
  | channel h hact =>
    refine ⟨h.unchanged, fun t ha => ?_⟩
    by_cases e : r.1.status = .s200
    · obtain ⟨t', c, g, hh, hn⟩ := h.status200.mp e
      cases ha.symm.trans g.1
      rw [h.effect t c g hh hn]
      exact hact t c
    · rw [h.unchanged e]
      exact onlyTopic_refl t b

theorem documented_of_pub {r : Out} (h : PubEndpoint hc b rq r) : Documented hc healthy b rq r.1 := by
  have hs := (by decide : ∀ x ∈ _, x.status = .s413 ∨ x.status = .s400 ∨ x.status = .s200) _ h.exhaustive
  rcases hs with e | e | e
  · exact documented_of .s413 e ((h.status413.mp e).elim .inl (fun h => .inr (.inr (.inl h))))
  · refine documented_of .s400 e ?_
    rcases (h.status400.mp e).2 with h | h
    · exact .inr (.inr (.inl (by simp [h])))
    · exact badArgs_of_arg (h.imp_right (.imp_right (.imp_right fun h => .inr (.inr h))))
  · exact documented_of .s200 e trivial

end

section
variable (hc : HConf) (healthy : Bool) (b : Broker) (rq : Request)

/-- Eight handlers for ten endpoints: pause and unpause share one. -/
theorem admin_cases (h : Handler)
    (hadmin : h = .createTopic ∨ h = .deleteTopic ∨ h = .emptyTopic ∨ h = .pauseTopic ∨ h = .createChannel ∨
      h = .deleteChannel ∨ h = .emptyChannel ∨ h = .pauseChannel) :
    AdminAnswer b rq (runHandler hc healthy b rq h) := by
  rcases hadmin with rfl | rfl | rfl | rfl | rfl | rfl | rfl | rfl
  · exact .topic (doCreateTopic_char b rq) (onlyTopic_getTopic b)
  · exact .topic (doDeleteTopic_char b rq) (onlyTopic_deleteTopic b)
  · exact .topic (doEmptyTopic_char b rq) (fun t => onlyTopic_modifyTopic b t _ (fun _ => rfl))
  · exact .topic (doPauseTopic_char b rq rfl) (fun t => onlyTopic_modifyTopic b t _ (fun x => by simp [Broker.settle_name]))
  · exact .channel (doCreateChannel_char b rq) (onlyTopic_getChannel b)
  · exact .channel (doDeleteChannel_char b rq) (onlyTopic_deleteChannel b)
  · exact .channel (doEmptyChannel_char b rq) (fun t c => onlyTopic_modifyChan b t c _)
  · exact .channel (doPauseChannel_char b rq rfl) (fun t c => onlyTopic_modifyChan b t c _)

theorem topicFromQuery_badArgs (e : String) (he : topicFromQuery rq.rawQuery = .error e) : BadArgs hc rq := by
  unfold topicFromQuery at he
  split at he
  · exact .inl ‹_›
  · rename_i kv hkv
    split at he
    · exact .inr (.inl ⟨kv, hkv, .inl ‹_›⟩)
    · rename_i t ht
      split at he
      · cases he
      · rename_i hv
        exact .inr (.inl ⟨kv, hkv, .inr (.inl ⟨t, ht, by simpa using hv⟩)⟩)

theorem doMPUB_doc : Documented hc healthy b rq (doMPUB hc b rq).1 := by
  fun_cases doMPUB hc b rq
  · exact documented_of .s413 rfl (.inr (.inl ‹_›))
  · exact documented_of .s400 rfl (topicFromQuery_badArgs hc rq _ ‹_›)
  · exact documented_of .s413 rfl (.inr (.inr (.inr (.inr (.inl ⟨_, ‹_›⟩)))))
  · exact absurd ‹_› (Mpub.readMPUB_ne_panic _ _ _)
  · exact documented_of .s200 rfl trivial
  · exact documented_of .s413 rfl (.inr (.inr (.inr (.inl ⟨_, ‹_›⟩))))
  · exact documented_of .s200 rfl trivial

theorem doStats_doc : Documented hc healthy b rq (doStats b rq).1 := by
  unfold doStats
  split
  · exact documented_of .s400 rfl (.inl ‹_›)
  · exact documented_of .s200 rfl trivial

theorem doConfig_doc : Documented hc healthy b rq (doConfig hc b rq).1 := by
  fun_cases doConfig hc b rq
  case case1 => exact documented_of .notFoundOrRedirect rfl trivial
  case case2 hput hsz => exact documented_of .s413 rfl (oversize_of_put hput hsz)
  case case3 => exact documented_of .external rfl trivial
  case case4 | case7 => exact documented_of .s200 rfl trivial
  -- the three 400s: in `BadArgs` any `/config/:opt` path is a cause
  all_goals exact documented_of .s400 rfl (.inr (.inr (.inr ⟨_, ‹_›⟩)))

theorem runHandler_doc (h : Handler) (hp : h = .ping → rq.path = ascii "/ping") :
    Documented hc healthy b rq (runHandler hc healthy b rq h).1 := by
  cases h
  case ping =>
    cases healthy
    · exact documented_of .s500 rfl ⟨rfl, hp rfl⟩
    · exact documented_of .s200 rfl trivial
  case info => exact documented_of .s200 rfl trivial
  case pub => exact documented_of_pub (doPUB_char hc b rq)
  case mpub => exact doMPUB_doc hc healthy b rq
  case stats => exact doStats_doc hc healthy b rq
  case config => exact doConfig_doc hc healthy b rq
  case external => exact documented_of .external rfl trivial
  all_goals exact (admin_cases hc healthy b rq _ (by simp)).doc

end

theorem ping_path (method path : Bytes) (h : route method path = .handler .ping) : path = ascii "/ping" := by
  have hrow : ∀ r ∈ routeTable, r.2.2 = .ping → r.2.1 = "/ping" := by decide
  unfold route at h
  split at h
  · rename_i r hr
    have hp := List.find?_some hr
    simp only [Bool.and_eq_true] at hp
    have e := hrow r (List.mem_of_find?_eq_some hr) (Routed.handler.inj h)
    rw [e] at hp
    exact (beq_iff_eq.mp hp.2).symm
  · repeat' split at h
    all_goals cases h

end Nsq.Proofs.HttpDoc
