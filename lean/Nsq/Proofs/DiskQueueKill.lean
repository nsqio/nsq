import Nsq.Proofs.DiskQueueApi
/-!
What a process kill between two syncs does.  `Lag` (or "no metadata file") is kept by every API operation at
rest — as a bound (`QLe`): an operation adds what it delivered to `dup` and what it accepted to `new`, a sync on
the way cuts both short — and it determines the queue after a kill + `New` exactly: `dup ++ q`, nothing lost
(`retrieve_lag`, `crash_rep`; put together in `Props.E9Kill.kill_general`).
-/
namespace Nsq.Proofs.DiskQueue
open Nsq.Model.Wire Nsq.Model.DiskQueue

variable {s : St} {pre : Bytes} {recs : Nat → List Bytes}

/-- the metadata file `m` lags behind the live state `s` at rest by `dup`, the records handed to the consumer since
it was written, and `new`, the records appended since then -/
structure Lag (s : St) (m : Meta) (dup new : List Bytes) : Prop where
  rf : m.rf = s.rf
  wf : m.wf = s.wf
  /-- the persisted read position is a record boundary `enc dup` bytes before the live one -/
  rp : ∃ pre0, (s.fs.content s.rf).take s.rp = pre0 ++ enc dup ∧ m.rp = pre0.length
  vdup : ∀ d ∈ dup, ValidRec s.cfg d
  wp : m.wp + (enc new).length = s.wp
  depth : m.depth + (new.length : Int) = s.depth + (dup.length : Int)

def LagOpt (s : St) (dup new : List Bytes) : Prop := ∀ m, s.fs.md = some m → Lag s m dup new

theorem lag_cur (h : Rep s pre recs) :
    Lag s s.metaNow [] [] :=
  ⟨rfl, rfl, ⟨pre, by rw [rep_pre h]; simp [enc], h.rp⟩, fun d hd => absurd hd (by simp), by simp [enc, St.metaNow],
    by simp [St.metaNow]⟩

theorem lagOpt_cur (h : Rep s pre recs) (hc : Cur s) :
    LagOpt s [] [] := by
  intro m hm
  have : m = s.metaNow := by
    rw [show s.fs.md = some s.metaNow from hc] at hm
    injection hm with hm
    exact hm.symm
  rw [this]; exact lag_cur h

theorem lag_frame {s t : St} {m : Meta} {dup new : List Bytes} (hl : Lag s m dup new) (hu : Fr t s) : Lag t m dup new :=
  ⟨by rw [hu.rf]; exact hl.rf, by rw [hu.wf]; exact hl.wf, by rw [hu.fs, hu.rf, hu.rp]; exact hl.rp,
    by rw [hu.cfg]; exact hl.vdup, by rw [hu.wp]; exact hl.wp, by rw [hu.depth]; exact hl.depth⟩

theorem lagOpt_frame {s t : St} {dup new : List Bytes} (hl : LagOpt s dup new) (hu : Fr t s) : LagOpt t dup new := by
  intro m hm
  rw [hu.fs] at hm
  exact lag_frame (hl m hm) hu

/-- `Q s q`, and the metadata file, if there is one, lags by exactly `dup` / `new` -/
def QL (s : St) (q dup new : List Bytes) : Prop :=
  ∃ pre recs, Rep s pre recs ∧ Ready s recs ∧ absQ s recs = q ∧ LagOpt s dup new

theorem QL.toQ {s : St} {q dup new : List Bytes} (h : QL s q dup new) : Q s q := by
  obtain ⟨pre, recs, a, b, c, _⟩ := h
  exact ⟨pre, recs, a, b, c⟩

/-- the metadata file lags by at most `dup` / `new`: by suffixes of them (every sync on the way cuts the lag short).
Unlike the exact lag this is monotone, so each operation has ONE outcome: it adds what it delivered and accepted -/
def QLe (s : St) (q dup new : List Bytes) : Prop :=
  ∃ dup' new', QL s q dup' new' ∧ dup' <:+ dup ∧ new' <:+ new

theorem QL.le {s : St} {q dup new : List Bytes} (h : QL s q dup new) : QLe s q dup new :=
  ⟨dup, new, h, List.suffix_refl _, List.suffix_refl _⟩

theorem QLe.mono {s : St} {q dup new dup' new' : List Bytes} (h : QLe s q dup new) (hd : dup <:+ dup')
    (hn : new <:+ new') : QLe s q dup' new' := by
  obtain ⟨a, b, h, h1, h2⟩ := h
  exact ⟨a, b, h, h1.trans hd, h2.trans hn⟩

theorem QLe.step {s s' : St} {q q' dup new x y : List Bytes} (h : QLe s q dup new)
    (f : ∀ dup0 new0, QL s q dup0 new0 → QLe s' q' (dup0 ++ x) (new0 ++ y)) : QLe s' q' (dup ++ x) (new ++ y) := by
  obtain ⟨dup0, new0, h0, hd, hn⟩ := h
  exact (f dup0 new0 h0).mono (List.suffix_append_self_iff.mpr hd) (List.suffix_append_self_iff.mpr hn)

/-- the loop settles: the metadata was rewritten on the way (no lag left) or files and positions are untouched -/
theorem QLe_settle {t : St} {pre : Bytes} {recs : Nat → List Bytes} {dup new : List Bytes} (h : Rep t pre recs)
    (hl : t.needSync = true ∨ LagOpt t dup new) : QLe (settle t) (absQ t recs) dup new := by
  obtain ⟨pre', a, b, c, fr | ⟨hc, _⟩⟩ := settle_rep h
  · by_cases hd : t.count = t.cfg.syncEvery ∨ t.needSync = true
    · exact ⟨[], [], ⟨_, recs, a, b, c, lagOpt_cur a (cur_of_fr fr hd)⟩, List.nil_suffix, List.nil_suffix⟩
    · have e : syncDue t = t := if_neg hd
      rw [e] at fr
      exact QL.le ⟨_, recs, a, b, c, lagOpt_frame (hl.resolve_left (fun hn => hd (Or.inr hn))) fr⟩
  · exact ⟨[], [], ⟨pre', recs, a, b, c, lagOpt_cur a hc⟩, List.nil_suffix, List.nil_suffix⟩

theorem lagOpt_count {s : St} {dup new : List Bytes} (hl : LagOpt s dup new) (k : Nat) :
    LagOpt ({ s with count := k } : St) dup new :=
  lagOpt_frame hl ⟨rfl, rfl, rfl, rfl, rfl, rfl, rfl, rfl⟩

theorem lagOpt_append {t : St} {pre : Bytes} {recs : Nat → List Bytes} {dup new : List Bytes} (h : Rep t pre recs)
    (hl : LagOpt t dup new) (d : Bytes) : LagOpt (appendRec t d) dup (new ++ [d]) := by
  intro m hm
  have L := hl m hm
  refine ⟨L.rf, L.wf, ?_, L.vdup, ?_, ?_⟩
  · show ∃ pre0, ((appendRec t d).fs.content t.rf).take t.rp = pre0 ++ enc dup ∧ m.rp = pre0.length
    obtain ⟨x, -, x2, -⟩ := appendRec_readFile h d
    rw [x2, List.take_append_of_le_length h.files.rp_le]
    exact L.rp
  · show m.wp + (enc (new ++ [d])).length = t.wp + (4 + d.length)
    rw [enc_append, enc_cons, enc_nil, List.append_nil, List.length_append, dqRecord_length]
    have := L.wp
    omega
  · show m.depth + ((new ++ [d]).length : Int) = t.depth + 1 + (dup.length : Int)
    have := L.depth
    simp only [List.length_append, List.length_cons, List.length_nil]
    omega

theorem put_ok_QL {s : St} {q dup new : List Bytes} (h : QL s q dup new) (d : Bytes) (hv : ValidRec s.cfg d) :
    QLe (put s d).2 (q ++ [d]) dup (new ++ [d]) := by
  obtain ⟨pre, recs, a, _, c, l⟩ := h
  have a' := rep_count a
  rw [put_valid a.live d hv, ← c]
  by_cases hr : needRoll s d = true
  -- a roll of the write file rewrites the metadata first: the lag is then this record alone
  · rw [if_pos hr]
    obtain ⟨r1, r2⟩ := roll_rep a' (needRoll_pos hr)
    obtain ⟨a1, a2⟩ := append_rep r1 d hv
    have := QLe_settle a1 (Or.inr (lagOpt_append r1 (lagOpt_cur r1 rfl) d))
    rw [a2, r2] at this
    exact this.mono List.nil_suffix (List.suffix_append new [d])
  · rw [if_neg hr]
    obtain ⟨a1, a2⟩ := append_rep a' d hv
    have := QLe_settle a1 (Or.inr (lagOpt_append a' (lagOpt_count l _) d))
    rwa [a2] at this

theorem put_invalid_QL {s : St} {q dup new : List Bytes} (h : QL s q dup new) (d : Bytes) (hv : ¬ ValidRec s.cfg d) :
    QLe (put s d).2 q dup new := by
  obtain ⟨pre, recs, a, _, c, l⟩ := h
  rw [put_invalid a.live d hv, ← c]
  exact QLe_settle (rep_count a) (Or.inr (lagOpt_count l _))

theorem lagOpt_advance {dup new : List Bytes} (h : Rep s pre recs)
    (hl : LagOpt s dup new) {d : Bytes} {rest : List Bytes} (hr : recs s.rf = d :: rest) (c1 : s.nrf = s.rf)
    (c2 : s.nrp = s.rp + (4 + d.length)) :
    LagOpt { s with rf := s.nrf, rp := s.nrp, depth := s.depth - 1 } (dup ++ [d]) new := by
  intro m hm
  have L := hl m hm
  obtain ⟨pre0, p1, p2⟩ := L.rp
  rw [rep_pre h] at p1
  refine ⟨L.rf.trans c1.symm, L.wf, ⟨pre0, ?_, p2⟩, ?_, L.wp, ?_⟩
  · show (s.fs.content s.nrf).take s.nrp = _
    have ht : (s.fs.content s.rf).take (s.rp + (4 + d.length)) = pre ++ dqRecord d := by
      rw [h.crf, hr, enc_cons, ← List.append_assoc]
      exact List.take_left' (by rw [List.length_append, dqRecord_length, h.rp])
    rw [c1, c2, ht, p1, enc_append, enc_cons, enc_nil, List.append_nil, List.append_assoc]
  · intro x hx
    rcases List.mem_append.mp hx with h1 | h1
    · exact L.vdup x h1
    · rw [List.mem_singleton.mp h1]; exact h.vrec s.rf d (by rw [hr]; exact List.mem_cons_self ..)
  · show m.depth + (new.length : Int) = s.depth - 1 + ((dup ++ [d]).length : Int)
    have := L.depth
    simp only [List.length_append, List.length_cons, List.length_nil]
    omega

theorem recv_head_QL {s : St} {d : Bytes} {q dup new : List Bytes} (h : QL s (d :: q) dup new) :
    QLe (recv s).2 q (dup ++ [d]) new := by
  obtain ⟨pre, recs, a, b, c, l⟩ := h
  have hc := canRead_of a (Or.inr (c ▸ List.cons_ne_nil d q))
  have a' := rep_count a
  obtain ⟨d0, rest, b1, -, b3⟩ := b.2 hc
  rw [recv_live a.live hc]
  rcases b3 with ⟨c1, c2⟩ | ⟨c0, c1, c2, c3, c4⟩
  · obtain ⟨f1, m1, m2⟩ := moveForward_same a' b1 c1 c2
    obtain ⟨rfl, hq⟩ := List.cons.inj (c.symm.trans m2)
    have := QLe_settle m1 (Or.inr (f1 ▸ lagOpt_advance a' (lagOpt_count l _) b1 c1 c2))
    rwa [← hq] at this
  -- leaving the read file requests a sync, which clears the lag
  · obtain ⟨hns, m1, m2⟩ := moveForward_next a' (c1 ▸ b1) c0 c2 c3 c4
    obtain ⟨rfl, hq⟩ := List.cons.inj (c.symm.trans m2)
    rw [hq]; exact QLe_settle m1 (Or.inl hns)

theorem empty_QL {s : St} {q dup new : List Bytes} (h : QL s q dup new) :
    (empty s).1 = true ∧ QL (empty s).2 [] [] [] ∧ (empty s).2.fs.md = none := by
  obtain ⟨e1, e2, _, e4, _⟩ := empty_Q h.toQ
  obtain ⟨pre, recs, a, b, c⟩ := e2
  refine ⟨e1, ⟨pre, recs, a, b, c, ?_⟩, e4⟩
  intro m hm
  rw [e4] at hm
  exact absurd hm (by simp)

theorem reopen_QL {s : St} {q dup new : List Bytes} (h : QL s q dup new) (cfg' : Cfg) (hok : CfgOk cfg')
    (hmin : cfg'.minMsgSize = s.cfg.minMsgSize) (hmax : cfg'.maxMsgSize = s.cfg.maxMsgSize) :
    QLe (openQ cfg' (close s).fs) q [] [] := by
  obtain ⟨pre, recs, a, _, c, _⟩ := h
  have a' : Rep { s with fs := { s.fs with md := some s.metaNow } } pre recs := a.persisted
  obtain ⟨r1, r2⟩ := reopen_rep a' cfg' hok hmin hmax rfl
  have hcur : Cur (retrieve cfg' ({ s with fs := { s.fs with md := some s.metaNow } } : St).fs) := by
    rw [retrieve_cur a' cfg' rfl]; rfl
  have e : absQ ({ s with fs := { s.fs with md := some s.metaNow } } : St) recs = absQ s recs := rfl
  have := QLe_settle r1 (Or.inr (lagOpt_cur r1 hcur))
  rwa [r2, e, c] at this

/-- the records the reader will find after the restart: the re-read ones first; the file the writer skips
to is empty -/
def recsAfter (s : St) (recs : Nat → List Bytes) (dup : List Bytes) : Nat → List Bytes :=
  setRec (setRec recs s.rf (dup ++ recs s.rf)) (s.wf + 1) []

theorem qFrom_after (h : Rep s pre recs) (dup : List Bytes) :
    qFrom (recsAfter s recs dup) s.rf (s.wf - s.rf + 1) = dup ++ absQ s recs := by
  unfold recsAfter
  rw [qFrom_setRec_out _ [] (Or.inr (Nat.le_of_eq (range_end h.le))), qFrom_setRec_head, List.append_assoc]
  rfl

def restartSt (cfg' : Cfg) (s : St) (depth : Int) (rp wf' wp' : Nat) : St :=
  { cfg := cfg', fs := s.fs, depth := depth, rf := s.rf, rp := rp, wf := wf', wp := wp', nrf := s.rf, nrp := rp }

/-- the state `retrieveMetaData` builds from the lagging metadata, with `depth` set right, is a healthy
queue holding `dup ++ q` -/
theorem crash_rep {m : Meta} {dup new : List Bytes}
    (h : Rep s pre recs) (L : Lag s m dup new) (cfg' : Cfg) (hok : CfgOk cfg')
    (hmin : cfg'.minMsgSize = s.cfg.minMsgSize) (hmax : cfg'.maxMsgSize = s.cfg.maxMsgSize)
    (wf' wp' : Nat)
    (hcase : (wf' = s.wf ∧ wp' = s.wp) ∨ (wf' = s.wf + 1 ∧ wp' = 0 ∧ s.fs.dat s.wf ≠ none)) :
    ∃ pre0, Rep (restartSt cfg' s ((dup ++ absQ s recs).length : Int) m.rp wf' wp') pre0 (recsAfter s recs dup) ∧
      absQ (restartSt cfg' s ((dup ++ absQ s recs).length : Int) m.rp wf' wp') (recsAfter s recs dup) =
        dup ++ absQ s recs := by
  obtain ⟨pre0, p1, p2⟩ := L.rp
  rw [rep_pre h] at p1
  have hle := h.le
  have hq := qFrom_after h dup
  have tr : ∀ x, ValidRec s.cfg x → ValidRec cfg' x := fun x => (validRec_iff hmin hmax x).mpr
  have hvr : ∀ i, ∀ d ∈ recsAfter s recs dup i, ValidRec cfg' d :=
    mem_setRec (mem_setRec (fun i d hd => tr d (h.vrec i d hd)) (fun d hd => by
      rcases List.mem_append.mp hd with a | a
      · exact tr d (L.vdup d a)
      · exact tr d (h.vrec s.rf d a))) (fun d hd => absurd hd (by simp))
  -- the files seen from the persisted read position; the file the writer may skip to is still absent
  have hf : Files s.fs s.rf s.wf m.rp s.wp pre0 (recsAfter s recs dup) := by
    rw [p2]
    exact (h.files.rewind p1).congr hle (fun i _ h2 => setRec_ne _ [] (Nat.ne_of_lt (Nat.lt_succ_of_le h2)))
  refine ⟨pre0, ?_⟩
  cases hcase with
  | inl hc =>
    obtain ⟨c1, c2⟩ := hc
    subst c1 c2
    exact ⟨Rep.of_files_closed hok rfl hle hvr hf (congrArg (fun l : List Bytes => (l.length : Int)) hq).symm ⟨rfl, rfl⟩ rfl, hq⟩
  | inr hc =>
    obtain ⟨c1, c2, c3⟩ := hc
    subst c1 c2
    have hq2 : qFrom (recsAfter s recs dup) s.rf (s.wf + 1 - s.rf + 1) = dup ++ absQ s recs := by
      rw [qFrom_succ_range _ hle, hq]
      show _ ++ setRec _ (s.wf + 1) [] (s.wf + 1) = _
      rw [setRec_same, List.append_nil]
    exact ⟨Rep.of_files_closed hok rfl (Nat.le_succ_of_le hle) hvr (hf.roll c3 (setRec_same _ _ _))
      (congrArg (fun l : List Bytes => (l.length : Int)) hq2).symm ⟨rfl, rfl⟩ rfl, hq2⟩

theorem retrieve_lag {m : Meta} {dup new : List Bytes}
    (h : Rep s pre recs) (hmd : s.fs.md = some m) (L : Lag s m dup new) (cfg' : Cfg) :
    ∃ wf' wp', ((wf' = s.wf ∧ wp' = s.wp) ∨ (wf' = s.wf + 1 ∧ wp' = 0 ∧ s.fs.dat s.wf ≠ none)) ∧
      retrieve cfg' s.fs = restartSt cfg' s m.depth m.rp wf' wp' := by
  rw [retrieve_some cfg' s.fs m hmd, L.wf, L.rf]
  have hwp := L.wp
  by_cases hw : m.wp < (s.fs.content s.wf).length
  · rw [if_pos hw]
    refine ⟨s.wf + 1, 0, Or.inr ⟨rfl, rfl, fun hd => ?_⟩, rfl⟩
    rw [content_none hd] at hw
    exact Nat.not_lt_zero _ hw
  · rw [if_neg hw]
    have : m.wp = s.wp := by rw [h.wp] at hwp ⊢; omega
    exact ⟨s.wf, s.wp, Or.inl ⟨rfl, rfl⟩, by rw [this]; rfl⟩

end Nsq.Proofs.DiskQueue
