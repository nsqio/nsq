import Nsq.Model.GuidClock
import Nsq.Proofs.GuidExtra
/-!
One call of `NewGUID` at a reading behind the factory (error, state untouched), at a reading past it inside
the 41-bit horizon (success from a well-formed state), and beyond the horizon (error); at which reading
`Topic.GenerateID` returns (`generateID_returns`; `genMany_chain` for successive calls); ids across a restart
(`later_ms_above`). `InHorizon` and `WF` are the two notions `Props.C12Clock` is stated in.
-/
namespace Nsq.Proofs.GuidClock
open Nsq.Model.Guid Nsq.Model.GuidClock Nsq.Proofs.Guid Nsq.Proofs.GuidExtra

theorem newGUID_behind {f : St} {now : BitVec 64} (h : (tsOf now).toInt < f.lastTs.toInt) :
    newGUID f now = (f, 0#64, .timeBackwards) :=
  if_pos (BitVec.slt_iff_toInt_lt.mpr h)

theorem newGUID_lastTs_mono (f : St) (now : BitVec 64) :
    f.lastTs.toInt ≤ (newGUID f now).1.lastTs.toInt := by
  rcases newGUID_cases f now rfl rfl with ⟨-, e⟩ | ⟨ge, ⟨-, -, e⟩ | ⟨-, ⟨-, e⟩ | ⟨-, e⟩⟩⟩
  · rw [e]; exact Int.le_refl _
  · rw [e]; exact Int.le_refl _
  · rw [e]; exact slt_false.mp ge
  · rw [e]; exact slt_false.mp ge

theorem generateID_nodeID (f : St) (clock : List (BitVec 64)) :
    (generateID f clock).1.nodeID = f.nodeID := by
  fun_induction generateID f clock with
  | case1 => rfl
  | case2 f now rest r hok => exact nodeID_const f now
  | case3 f now rest r herr ih => rw [ih]; exact nodeID_const f now

theorem generateID_returns {f : St} {clock : List (BitVec 64)} {f' : St} {id : BitVec 64}
    (h : generateID f clock = (f', some id)) :
    (∃ now ∈ clock, f.lastTs.toInt ≤ (tsOf now).toInt ∧ f'.lastTs = tsOf now ∧
      ∃ s : BitVec 64, id = pack (tsOf now) f.nodeID (s &&& 4095#64)) ∧
    f.lastID.toInt < id.toInt ∧ f'.lastID = id := by
  fun_induction generateID f clock with
  | case1 => cases h
  | case2 f now rest r hok =>
    cases h
    obtain ⟨ts, s, rfl, rfl, ge, gt, (e : r = _)⟩ := newGUID_success hok
    rw [e]
    exact ⟨⟨now, List.mem_cons_self .., slt_false.mp ge, rfl, _, rfl⟩, not_sle.mp gt, rfl⟩
  | case3 f now rest r herr ih =>
    obtain ⟨⟨n, hn, a, b, s, hs⟩, c, d⟩ := ih h
    rw [newGUID_err herr] at c
    refine ⟨⟨n, List.mem_cons_of_mem _ hn, Int.le_trans (newGUID_lastTs_mono f now) a, b, s, ?_⟩,
      c, d⟩
    rw [hs, nodeID_const]

theorem generateID_none_lastID {f : St} {clock : List (BitVec 64)} {f' : St}
    (h : generateID f clock = (f', none)) : f'.lastID = f.lastID := by
  fun_induction generateID f clock with
  | case1 => cases h; rfl
  | case2 f now rest r hok => cases h
  | case3 f now rest r herr ih => rw [ih h, newGUID_err herr]

theorem genMany_chain (f : St) (cs : List (List (BitVec 64))) :
    (f.lastID :: (genMany f cs).1).Pairwise (fun a b => a.toInt < b.toInt) := by
  fun_induction genMany f cs with
  | case1 => exact List.pairwise_singleton _ _
  | case2 f c cs r id hg ih =>
    have ⟨h1, h2⟩ := (generateID_returns (Prod.ext rfl hg : generateID f c = (r.1, some id))).2
    rw [h2] at ih
    exact pairwise_cons_cons h1 ih
  | case3 f c cs r hg ih =>
    rw [generateID_none_lastID (Prod.ext rfl hg : generateID f c = (r.1, none))] at ih
    exact ih

/-- a pseudo-millisecond the id layout can hold: after `twepoch`, less than 2^41 later (≈ 2085) -/
def InHorizon (ts : BitVec 64) : Prop :=
  twepoch.toNat < ts.toNat ∧ ts.toNat < twepoch.toNat + 2 ^ 41

/-- states the factory can be in after any in-horizon history from a fresh factory: valid node id,
12-bit sequence, and the last id's time field is not after `lastTs` -/
def WF (f : St) : Prop :=
  f.nodeID.toNat < 1024 ∧ f.seq.toNat < 4096 ∧ f.lastTs.toNat < 2 ^ 63 ∧ f.lastID.toNat < 2 ^ 63 ∧
  (f.lastID.toNat / 2 ^ 22 + twepoch.toNat ≤ f.lastTs.toNat ∨ f.lastID.toNat < 2 ^ 22)

instance (ts : BitVec 64) : Decidable (InHorizon ts) :=
  inferInstanceAs (Decidable (twepoch.toNat < ts.toNat ∧ ts.toNat < twepoch.toNat + 2 ^ 41))
instance (f : St) : Decidable (WF f) :=
  inferInstanceAs (Decidable (f.nodeID.toNat < 1024 ∧ f.seq.toNat < 4096 ∧ f.lastTs.toNat < 2 ^ 63 ∧
    f.lastID.toNat < 2 ^ 63 ∧
    (f.lastID.toNat / 2 ^ 22 + twepoch.toNat ≤ f.lastTs.toNat ∨ f.lastID.toNat < 2 ^ 22)))

theorem InHorizon.lt {ts : BitVec 64} (h : InHorizon ts) : ts.toNat < 2 ^ 63 :=
  Nat.lt_trans h.2 (by decide)

theorem pack_field {ts node seq : BitVec 64} (h : InHorizon ts) (hn : node.toNat < 1024)
    (hs : seq.toNat < 4096) :
    (pack ts node seq).toNat / 2 ^ 22 + twepoch.toNat = ts.toNat ∧ (pack ts node seq).toNat < 2 ^ 63 := by
  have le : twepoch.toNat ≤ ts.toNat := Nat.le_of_lt h.1
  have e : (ts - twepoch).toNat = ts.toNat - twepoch.toNat :=
    BitVec.toNat_sub_of_le (BitVec.le_def.mpr le)
  have lt : (ts - twepoch).toNat < 2 ^ 41 := by
    rw [e]; exact Nat.sub_lt_left_of_lt_add le h.2
  obtain ⟨nn, tf, -, -⟩ := pack_unpack ts node seq lt hn hs
  refine ⟨?_, ?_⟩
  · rw [tf, e]; exact Nat.sub_add_cancel le
  · have := BitVec.toInt_pos_iff.mp nn
    omega

/-- the time field decides: that of `old.lastID` is at most `old.lastTs` (last conjunct of `WF`) -/
theorem later_ms_above (old : St) (hwf : WF old) (ts node s : BitVec 64) (hn : node.toNat < 1024)
    (hs : s.toNat < 4096) (hh : InHorizon ts) (hlt : old.lastTs.toNat < ts.toNat) :
    old.lastID.toInt < (pack ts node s).toInt := by
  obtain ⟨-, -, -, hid, hfield⟩ := hwf
  obtain ⟨pf, plt⟩ := pack_field hh hn hs
  rw [toInt_of_lt hid, toInt_of_lt plt]
  apply Int.ofNat_lt.mpr
  apply Nat.lt_of_div_lt_div (c := 2 ^ 22)
  have h1 := hh.1
  rcases hfield with hf | hf
  · omega
  · rw [Nat.div_eq_of_lt hf]; omega

theorem newGUID_fresh_ms {f : St} {now : BitVec 64} (hwf : WF f) (hh : InHorizon (tsOf now))
    (hlt : f.lastTs.toNat < (tsOf now).toNat) : (newGUID f now).2.2 = .none := by
  rcases newGUID_cases f now (ts := tsOf now) rfl rfl with ⟨lt, -⟩ | ⟨-, ⟨eq, -⟩ | ⟨-, ⟨le, -⟩ | ⟨-, e⟩⟩⟩
  · have := BitVec.slt_iff_toInt_lt.mp lt
    rw [toInt_of_lt hh.lt, toInt_of_lt hwf.2.2.1] at this
    exact absurd (Int.ofNat_lt.mp this) (Nat.lt_asymm hlt)
  · rw [eq] at hlt
    exact absurd hlt (Nat.lt_irrefl _)
  · exact absurd le (not_sle.mpr (later_ms_above f hwf _ _ _ hwf.1 (and_mask_lt _) hh hlt))
  · rw [e]

theorem newGUID_wf {f : St} {now : BitVec 64} (hwf : WF f) (hh : InHorizon (tsOf now)) :
    WF (newGUID f now).1 := by
  obtain ⟨hn, hs, hts, hid, hfield⟩ := hwf
  have hs' : (nextSeq f (tsOf now)).toNat < 4096 := and_mask_lt _
  rcases newGUID_cases f now (ts := tsOf now) rfl rfl with ⟨-, e⟩ | ⟨ge, ⟨-, -, e⟩ | ⟨-, ⟨-, e⟩ | ⟨-, e⟩⟩⟩
  · rw [e]; exact ⟨hn, hs, hts, hid, hfield⟩
  · rw [e]; exact ⟨hn, hs', hts, hid, hfield⟩
  · rw [e]
    refine ⟨hn, hs', hh.lt, hid, hfield.imp_left fun hf => ?_⟩
    exact Nat.le_trans hf (toNat_le_of_slt_false hh.lt hts ge)
  · rw [e]
    obtain ⟨pf, plt⟩ := pack_field hh hn hs'
    exact ⟨hn, hs', hh.lt, plt, Or.inl (Nat.le_of_eq pf)⟩

theorem newGUID_err_lastTs {f : St} {now : BitVec 64} (hwf : WF f) (hh : InHorizon (tsOf now))
    (herr : (newGUID f now).2.2 ≠ .none) : (newGUID f now).1.lastTs = f.lastTs := by
  have hge : ¬ f.lastTs.toNat < (tsOf now).toNat := fun hlt => herr (newGUID_fresh_ms hwf hh hlt)
  rcases newGUID_cases f now (ts := tsOf now) rfl rfl with ⟨-, e⟩ | ⟨ge, ⟨-, -, e⟩ | ⟨-, ⟨-, e⟩ | ⟨-, e⟩⟩⟩
  · rw [e]
  · rw [e]
  · rw [e]
    exact BitVec.eq_of_toNat_eq
      (Nat.le_antisymm (Nat.le_of_not_lt hge) (toNat_le_of_slt_false hh.lt hwf.2.2.1 ge))
  · rw [e] at herr; exact absurd rfl herr

theorem fresh_wf (node : BitVec 64) (hn : node.toNat < 1024) : WF (fresh node) :=
  ⟨hn, Nat.zero_lt_succ _, Nat.zero_lt_succ _, Nat.zero_lt_succ _, Or.inr (Nat.zero_lt_succ _)⟩

theorem runSt_wf (f : St) (clock : List (BitVec 64)) (hwf : WF f)
    (hh : ∀ now ∈ clock, InHorizon (tsOf now)) : WF (runSt f clock) := by
  induction clock generalizing f with
  | nil => exact hwf
  | cons now rest ih =>
    obtain ⟨hh0, hhr⟩ := List.forall_mem_cons.mp hh
    exact ih _ (newGUID_wf hwf hh0) hhr

/-- the shift puts bit 41 of the time on bit 63, and `|||` only adds bits, whatever `node` and `seq` are -/
theorem pack_negative (ts node seq : BitVec 64)
    (h : 2 ^ 41 ≤ (ts - twepoch).toNat ∧ (ts - twepoch).toNat < 2 ^ 42) : (pack ts node seq).toInt < 0 := by
  unfold pack
  generalize ts - twepoch = t at h
  apply BitVec.toInt_neg_iff.mpr
  rw [BitVec.toNat_or, BitVec.toNat_or, BitVec.toNat_shiftLeft]
  have a := @Nat.left_le_or (t.toNat <<< 22 % 2 ^ 64 ||| (node <<< 12).toNat) seq.toNat
  have b := @Nat.left_le_or (t.toNat <<< 22 % 2 ^ 64) (node <<< 12).toNat
  omega

theorem newGUID_beyond {f : St} {now : BitVec 64} (hid : 0 ≤ f.lastID.toInt)
    (h : 2 ^ 41 ≤ (tsOf now - twepoch).toNat ∧ (tsOf now - twepoch).toNat < 2 ^ 42) :
    (newGUID f now).2.2 ≠ .none := by
  intro hok
  have ⟨h1, _⟩ := newGUID_ok hok
  obtain ⟨s, hs⟩ := newGUID_ok_shape hok
  rw [hs] at h1
  exact absurd (pack_negative _ _ _ h) (Int.not_lt.mpr (Int.le_trans hid (Int.le_of_lt h1)))

end Nsq.Proofs.GuidClock
