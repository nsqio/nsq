/-
Envelope integrity on every queue path (C07.4). Every located message carries the envelope
(timestamp, body) it was put on the channel with; every delivery hands out that envelope; an id
has one envelope. Preserved by every step (atomic operations and all micro-steps).
Which steps enter a put in the envelope log `elog`: `put_puts`, `put_records`, `nonput_puts` (read at nsqd level and by `C07Path`).
-/
import Nsq.Proofs.ChanCount
namespace Nsq.Proofs.Chan
open Nsq.Model.Chan

def EnvSub (l' l : List Entry) : Prop := ∀ e' ∈ l', ∃ e ∈ l, e.id = e'.id ∧ e.env = e'.env

theorem EnvSub.refl (l : List Entry) : EnvSub l l := fun e he => ⟨e, he, rfl, rfl⟩
theorem EnvSub.trans {a b c : List Entry} (h1 : EnvSub a b) (h2 : EnvSub b c) : EnvSub a c := by
  intro e he
  obtain ⟨e1, he1, i1, v1⟩ := h1 e he
  obtain ⟨e2, he2, i2, v2⟩ := h2 e1 he1
  exact ⟨e2, he2, i2.trans i1, v2.trans v1⟩
theorem envSub_nil (l : List Entry) : EnvSub [] l := by intro e he; cases he
theorem envSub_setE (l : List Entry) (x a : Nat) (loc : Loc) : EnvSub (setE l x a loc) l := by
  intro e' he'
  obtain ⟨e, he, rfl⟩ := mem_setE.1 he'
  refine ⟨e, he, ?_, ?_⟩ <;> split <;> rfl
theorem envSub_removeE (l : List Entry) (x : Nat) : EnvSub (removeE l x) l :=
  fun e he => ⟨e, (mem_removeE.1 he).1, rfl, rfl⟩

def EnvFrame (c c' : Chan) : Prop := c'.elog = c.elog ∧ EnvSub c'.msgs c.msgs

theorem EnvFrame.refl (c : Chan) : EnvFrame c c := ⟨rfl, EnvSub.refl _⟩
theorem EnvFrame.trans {a b c : Chan} (h1 : EnvFrame a b) (h2 : EnvFrame b c) : EnvFrame a c :=
  ⟨h2.1.trans h1.1, h2.2.trans h1.2⟩

theorem enqueue_env (c : Chan) (x : Nat) : EnvFrame c (enqueue c x) := by
  rcases enqueue_cases c x with ⟨_, h⟩ | ⟨_, _, h⟩ | ⟨_, _, h⟩ <;> rw [h]
  · exact EnvFrame.refl c
  · exact ⟨rfl, envSub_removeE _ _⟩
  · exact EnvFrame.refl c

theorem eff_env_frame {conf : Conf} {c c' : Chan} {op : Op} {o : Out} (he : Eff conf c op c' o)
    (hput : isPut op = false) (hsend : isSend op = false) : EnvFrame c c' := by
  cases he with
  | put | putDeferred => cases hput
  | deliver | deliverArmed => cases hsend
  | sampleDrop | fin | finChan => exact ⟨rfl, envSub_removeE _ _⟩
  | reqLater | touch => exact ⟨rfl, envSub_setE _ _ _ _⟩
  | reqNow =>
    refine EnvFrame.trans ?_ (enqueue_env _ _)
    exact ⟨rfl, envSub_setE _ _ _ _⟩
  | scanInFlight => exact scanInFlight_rel EnvFrame.refl EnvFrame.trans enqueue_env (fun _ _ _ => ⟨rfl, envSub_setE _ _ _ _⟩) _ _
  | scanDeferred => exact scanDeferred_rel EnvFrame.refl EnvFrame.trans enqueue_env (fun _ _ => ⟨rfl, envSub_setE _ _ _ _⟩) _ _
  | empty => exact ⟨rfl, envSub_nil _⟩
  | _ => exact EnvFrame.refl c

structure EnvInv (c : Chan) : Prop where
  loc : ∀ e ∈ c.msgs, EEv.put e.id e.env ∈ c.elog
  del : ∀ k id a env, EEv.deliver k id a env ∈ c.elog → EEv.put id env ∈ c.elog
  uniq : ∀ id e1 e2, EEv.put id e1 ∈ c.elog → EEv.put id e2 ∈ c.elog → e1 = e2
  fresh : ∀ id env, EEv.put id env ∈ c.elog → nFanout c.hist id ≠ 0

theorem envInv_init (eph : Bool) (cap : Nat) : EnvInv { ephemeral := eph, memCap := cap } :=
  ⟨by simp, by simp, by simp, by simp⟩

theorem envInv_frame {c c' : Chan} (h : EnvInv c) (hfr : EnvFrame c c')
    (hf : ∀ id, nFanout c'.hist id = nFanout c.hist id) : EnvInv c' := by
  obtain ⟨hel, hsub⟩ := hfr
  refine ⟨?_, ?_, ?_, ?_⟩
  · intro e' he'
    obtain ⟨e, he, hid, henv⟩ := hsub e' he'
    rw [hel, ← hid, ← henv]; exact h.loc e he
  · intro k id a env hd; rw [hel] at hd ⊢; exact h.del k id a env hd
  · intro id e1 e2 h1 h2; rw [hel] at h1 h2; exact h.uniq id e1 e2 h1 h2
  · intro id env hp; rw [hel] at hp; rw [hf]; exact h.fresh id env hp

theorem envInv_delivered {c : Chan} (h : EnvInv c) (cl : Client) (k : Nat) {e : Entry} (he : e ∈ c.msgs) (now : Int) :
    EnvInv (delivered c cl k e now) := by
  refine ⟨?_, ?_, ?_, ?_⟩
  · intro e' he'
    obtain ⟨e0, he0, hid0, henv0⟩ := envSub_setE _ _ _ _ e' he'
    rw [← hid0, ← henv0]
    exact List.mem_cons_of_mem _ (h.loc e0 he0)
  · intro k' id' a env hd
    rcases List.mem_cons.1 hd with hd | hd
    · cases hd
      exact List.mem_cons_of_mem _ (h.loc e he)
    · exact List.mem_cons_of_mem _ (h.del k' id' a env hd)
  · intro i e1 e2 h1 h2
    simp only [delivered, List.mem_cons, reduceCtorEq, false_or] at h1 h2
    exact h.uniq i e1 e2 h1 h2
  · intro i env hp
    simp only [delivered, List.mem_cons, reduceCtorEq, false_or] at hp
    exact h.fresh i env hp

theorem envInv_putLike {c c' : Chan} (h : EnvInv c) (id : Nat) (env : Env)
    (hnew : nFanout c.hist id = 0)
    (hel : c'.elog = EEv.put id env :: c.elog)
    (hsub : ∀ e' ∈ c'.msgs, (e'.id = id ∧ e'.env = env) ∨ ∃ e ∈ c.msgs, e.id = e'.id ∧ e.env = e'.env)
    (hf : ∀ j, nFanout c'.hist j = nFanout c.hist j + (if id = j then 1 else 0)) : EnvInv c' := by
  refine ⟨?_, ?_, ?_, ?_⟩
  · intro e' he'
    rw [hel]
    rcases hsub e' he' with ⟨h1, h2⟩ | ⟨e, he, h1, h2⟩
    · rw [h1, h2]; exact List.mem_cons_self
    · rw [← h1, ← h2]; exact List.mem_cons_of_mem _ (h.loc e he)
  · intro k i a ev hd
    rw [hel] at hd ⊢
    simp only [List.mem_cons, reduceCtorEq, false_or] at hd
    exact List.mem_cons_of_mem _ (h.del k i a ev hd)
  · intro i e1 e2 h1 h2
    rw [hel] at h1 h2
    simp only [List.mem_cons] at h1 h2
    rcases h1 with h1 | h1 <;> rcases h2 with h2 | h2
    · cases h1; cases h2; rfl
    · cases h1; exact absurd hnew (h.fresh id e2 h2)
    · cases h2; exact absurd hnew (h.fresh id e1 h1)
    · exact h.uniq i e1 e2 h1 h2
  · intro i ev hp
    rw [hel] at hp
    rw [hf]
    simp only [List.mem_cons] at hp
    rcases hp with hp | hp
    · cases hp; simp
    · have := h.fresh i ev hp; omega

theorem eff_envInv {conf : Conf} {c c' : Chan} {op : Op} {o : Out} (h : EnvInv c) (he : Eff conf c op c' o) :
    EnvInv c' := by
  have hfr := fun hput hsend => envInv_frame h (eff_env_frame he hput hsend) (fun j => eff_nonput_nFanout he j hput)
  cases he with
  | put i e hf hn =>
    refine envInv_putLike h i e hf (enqueue_env _ _).1 (fun e' he' => ?_)
      (fun j => by rw [nFanout_enqueue, nFanout_cons])
    obtain ⟨e0, he0, hid, henv⟩ := (enqueue_env _ _).2 e' he'
    rcases List.mem_cons.1 he0 with rfl | he0
    · exact Or.inl ⟨hid.symm, henv.symm⟩
    · exact Or.inr ⟨e0, he0, hid, henv⟩
  | putDeferred i p e hf hn =>
    refine envInv_putLike h i e hf rfl (fun e' he' => ?_) (fun j => nFanout_cons _ _ _)
    rcases List.mem_cons.1 he' with rfl | he'
    · exact Or.inl ⟨rfl, rfl⟩
    · exact Or.inr ⟨e', he', rfl, rfl⟩
  | deliver k n cl e hc _ hf hq | deliverArmed k n cl e hc _ hf hq => exact envInv_delivered h cl k (mem_of_findE hf) n
  | _ => exact hfr rfl rfl

theorem step_envInv (conf : Conf) {c : Chan} (h : EnvInv c) (op : Op) : EnvInv (step conf c op).1 :=
  step_keeps h (eff_envInv h)

theorem put_puts (conf : Conf) (c : Chan) {id : Nat} {env : Env} {op : Op} (hp : IsPut id env op) (i : Nat) (ev : Env)
    (h : EEv.put i ev ∈ (step conf c op).1.elog) : EEv.put i ev ∈ c.elog ∨ (i = id ∧ ev = env) := by
  revert h
  refine step_keeps (P := fun c' => EEv.put i ev ∈ c'.elog → _) Or.inl (fun he h => ?_)
  have h' : EEv.put i ev ∈ EEv.put id env :: c.elog := by
    rcases hp with rfl | ⟨pri, rfl⟩ <;> cases he
    · rwa [(enqueue_env _ _).1] at h
    · exact h
  rcases List.mem_cons.1 h' with h | h
  · cases h; exact Or.inr ⟨rfl, rfl⟩
  · exact Or.inl h

theorem put_records (conf : Conf) {c : Chan} (hi : Inv 0 c) {id : Nat} {env : Env} {op : Op} (hp : IsPut id env op)
    (hnew : nFanout c.hist id = 0) : EEv.put id env ∈ (step conf c op).1.elog := by
  have hno := hasId_of_nFanout_zero hi hnew
  rcases hp with rfl | ⟨pri, rfl⟩ <;>
    simp only [step, hnew, hno, bne_self_eq_false, Bool.or_self, Bool.false_eq_true, ↓reduceIte]
  · rw [(enqueue_env _ _).1]; exact List.mem_cons_self
  · exact List.mem_cons_self

theorem nonput_puts (conf : Conf) (c : Chan) (op : Op) (hput : isPut op = false)
    (id : Nat) (ev : Env) (h : EEv.put id ev ∈ (step conf c op).1.elog) : EEv.put id ev ∈ c.elog := by
  revert h
  refine step_keeps (P := fun c' => EEv.put id ev ∈ c'.elog → _) (fun h => h) (fun he h => ?_)
  cases hsend : isSend op
  · rwa [(eff_env_frame he hput hsend).1] at h
  · cases he with
    | deliver | deliverArmed => simpa [delivered] using h
    | _ => cases hsend

theorem run_envInv (conf : Conf) (ops : List Op) {c : Chan} (h : EnvInv c) : EnvInv (run conf c ops) :=
  run_keeps (P := EnvInv) conf ops (fun _ op _ h => step_envInv conf h op) h

end Nsq.Proofs.Chan
