import Nsq.Model.InFlight
import Nsq.Proofs.InFlight
/-
C08, fixes/F27: what can still be delivered after `Channel.Empty` when REQ / TOUCH hold the channel's
read lock (`St.ansLock`).  Key notion: the *sources* of a state — the places from which an object can (re-)enter the
in-flight map without a new `put`: the queue, the in-flight map, the deferred map, and the hands of a REQ / TOUCH /
timeout scan in progress.  No step except `put` adds a source; after the three sections of `Empty` on a tree with
`ansLock` (no answer in progress can coexist with Empty) and with no scan holding a message, there is none.
-/
namespace Nsq.Proofs.InFlightEmpty
open Nsq.Model.InFlight Nsq.Proofs.InFlight

/-- the object an operation in progress will put back into a container -/
def srcCont : Cont → List Nat
  | .reqAfterPop o _ | .reqAfterRemove o _ | .touchAfterPop o | .touchAfterRemove o | .scanAfterPQPop o => [o]
  | _ => []

def srcs (cs : List Cont) : List Nat := (cs.map srcCont).flatten

def sources (s : St) : List Nat := s.queued ++ s.map ++ s.dmap ++ srcs s.conts

theorem mem_srcs_erase {x : Nat} {cs : List Cont} {c : Cont} (h : x ∈ srcs (cs.erase c)) : x ∈ srcs cs :=
  mem_collect_of_erase h

theorem mem_srcs_cons {x : Nat} {cs : List Cont} {c : Cont} : x ∈ srcs (c :: cs) ↔ x ∈ srcCont c ∨ x ∈ srcs cs := by
  simp [srcs]

theorem mem_sources {x : Nat} {s : St} : x ∈ sources s ↔ x ∈ s.queued ∨ x ∈ s.map ∨ x ∈ s.dmap ∨ x ∈ srcs s.conts := by
  simp [sources]

theorem src_of_cont {x : Nat} {cs : List Cont} {c : Cont} (hc : c ∈ cs) (hx : x ∈ srcCont c) : x ∈ srcs cs :=
  mem_collect.mpr ⟨c, hc, hx⟩

/-- `hsa`: the tree with the one-section scan (F16). An object enters a container or a parked operation only out of
another one. -/
theorem trans_sources {fixed : Bool} {s s' : St} {a : Step} (h : Trans fixed s a s')
    (hsa : s.scanAtomic = true) (hp : ∀ o, a ≠ Step.put o) : ∀ x ∈ sources s', x ∈ sources s := by
  intro x hx
  rw [mem_sources] at hx ⊢
  cases h with
  | put o => exact absurd rfl (hp o)
  -- only the heap, the objects or the deferred heap change
  | idle | scanStale | reload => exact hx
  -- … or a parked operation ends and puts nothing into a container
  | finRemove | reqPutDup | touchMapDup | touchPQDone | touchPQPush | startPQDone | startPQPush | deferPQPush
  | reqDeferPQPush | dscanPopGone | scanPopGone =>
    exact hx.imp_right (Or.imp_right (Or.imp_right mem_srcs_erase))
  -- … or an object moves from one source to another (a container, or a parked operation that counts as one: `srcCont`,
  -- `src_of_cont` for a member of `s.conts`) or leaves them; the premise of the constructor says where it was, and the
  -- other members only lose by `erase`
  | _ =>
    (try simp only [mem_srcs_cons, srcCont, dropCont, List.mem_cons, List.not_mem_nil, false_or, or_false] at hx)
    grind [mem_srcs_erase, src_of_cont, srcCont, List.mem_of_mem_erase]

def noPut (l : List Step) : Bool := l.all (fun a => match a with | .put _ => false | _ => true)

theorem run_sources (fixed : Bool) (sched : List Step) (s s' : St) (h : run fixed s sched = Res.ok s')
    (hsa : s.scanAtomic = true) (hnp : noPut sched = true) : ∀ x ∈ sources s', x ∈ sources s :=
  (run_induction (A := fun a => ∀ o, a ≠ Step.put o)
    (P := fun s' => s'.scanAtomic = true ∧ ∀ x ∈ sources s', x ∈ sources s)
    (fun _ _ _ hA hP ht => ⟨(trans_params ht).1.trans hP.1, fun x hx => hP.2 x (trans_sources ht hP.1 hA x hx)⟩)
    sched s s'
    (fun a ha o e => by
      have := List.all_eq_true.mp hnp a ha
      rw [e] at this; cases this)
    ⟨hsa, fun _ hx => hx⟩ h).2

/-- no timeout scan holds a message (between its heap+map pop and its `put`) -/
def noScanHeld (cs : List Cont) : Bool :=
  cs.all (fun k => match k with | Cont.scanAfterPQPop _ => false | _ => true)

theorem srcs_nil_of (cs : List Cont) (ha : cs.any Cont.isAnswer = false) (hs : noScanHeld cs = true) : srcs cs = [] := by
  apply List.eq_nil_iff_forall_not_mem.mpr
  intro x hx
  obtain ⟨c, hc, hxc⟩ := mem_collect.mp hx
  have h1 : c.isAnswer = false := by
    rw [List.any_eq_false] at ha
    simpa using ha c hc
  have h2 := List.all_eq_true.mp hs c hc
  cases c <;> simp [srcCont, Cont.isAnswer] at hxc h1 h2

theorem empty_then_nothing_in_flight (fixed : Bool) (s1 s2 : St) (hsa : s1.scanAtomic = true) (hal : s1.ansLock = true)
    (hns : noScanHeld s1.conts = true) (post : List Step) (hnp : noPut post = true)
    (h : run fixed s1 ([Step.emptyResetInflight, Step.emptyResetDeferred, Step.emptyRest] ++ post) = Res.ok s2) :
    s2.map = [] := by
  -- `h` becomes the run of `post` from the emptied state
  obtain ⟨hans, h⟩ := empty_sections h
  have hsrc := run_sources fixed post _ s2 h hsa hnp
  apply List.eq_nil_iff_forall_not_mem.mpr
  intro x hx
  have := hsrc x (mem_sources.mpr (Or.inr (Or.inl hx)))
  simp [mem_sources, srcs_nil_of s1.conts (hans hal) hns] at this

end Nsq.Proofs.InFlightEmpty
