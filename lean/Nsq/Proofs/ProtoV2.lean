import Nsq.Proofs.ProtoExec
import Nsq.Proofs.Identify
import Nsq.Proofs.Broker
/-! The TCP protocol model (`Nsq.Model.ProtoV2`). No handler reads the broker, and the result of a command has one of five
forms (`Act`). Every fact about a single step is read off the form, the facts about a run follow by induction over `loop`.
An act keeps neither the number a handler parsed nor the batch it decoded: what is said of those (`mpub_cases` here,
`Proofs/Base10`) walks the handler again.
`Examples` at the end holds the configuration and connection the non-vacuity examples of C09 run on. -/
namespace Nsq.Proofs.ProtoV2
open Nsq.Model.ProtoV2 Nsq.Model.Names Nsq.Model.Base10 Nsq.Model Nsq.Spec.ProtoSpec Nsq.Proofs.Mpub

/-- The same five ranges, size and timeout of the output buffer in the other order. -/
theorem identOk_iff_inRange (conf : Conf) (d : IdentifyData) : IdentOk conf d ↔ Identify.InRange conf d :=
  ⟨fun h => ⟨h.1, h.2.2.1, h.2.1, h.2.2.2⟩, fun h => ⟨h.1, h.2.2.1, h.2.1, h.2.2.2⟩⟩

/-- The codes the base model answers with `NewFatalClientErr` (connection closed); `Nsq.Tie.Proto` finds a call site
for each. -/
def modelFatal : List Code :=
  [.E_INVALID, .E_BAD_BODY, .E_BAD_TOPIC, .E_BAD_CHANNEL, .E_BAD_MESSAGE, .E_IDENTIFY_FAILED,
   .E_AUTH_DISABLED, .E_AUTH_FAILED, .E_UNAUTHORIZED, .E_AUTH_FIRST]

/-- The codes the base model answers with `NewClientErr` (connection kept). -/
def modelNonFatal : List Code := [.E_FIN_FAILED, .E_REQ_FAILED, .E_TOUCH_FAILED]

/-- The gate input ranges over what `CheckAuth` can return. -/
def AuthGateOk (conf : Conf) : Prop :=
  ∀ code, conf.authGate = some code → code = .E_AUTH_FIRST ∨ code = .E_AUTH_FAILED ∨ code = .E_UNAUTHORIZED

/-- An effect within the limits that is neither a publish nor a SUB: what `Act.conn` may emit. -/
def ConnEff (conf : Conf) (e : Effect) : Prop := EffOk conf e ∧ (∀ t ms, e ≠ .enq t ms) ∧ ∀ t c, e ≠ .sub t c

/-- What a command does, told without the broker: a fatal error (MPUB may have called `GetTopic` by then), a
non-fatal error, an accepted command that changes the connection only, an accepted publish, an accepted SUB.
The fields record what the checks passed on the way guarantee. -/
inductive Act (conf : Conf) (s : ConnState) (rest : Bytes) : Type
  | reject (c : Code) (s' : ConnState) (created : Option Bytes) (hc : c ∈ modelFatal ∨ conf.authGate = some c)
      (ht : ∀ t, created = some t → isValidName t = true)
  | refuse (c : Code) (hc : c ∈ modelNonFatal)
  | conn (ctl : Ctl) (r : Option Reply) (s' : ConnState) (rest' : Bytes) (eff : List Effect)
      (hctl : ctl = .cont ∨ ctl = .upgraded) (hr : ∀ c, r ≠ some (.err c)) (hrest : rest'.length ≤ rest.length)
      (heff : ∀ e ∈ eff, ConnEff conf e)
  | enqueue (t : Bytes) (ms : List Msg) (rest' : Bytes) (hrest : rest'.length ≤ rest.length)
      (hok : EffOk conf (.enq t ms))
  | subscribe (t c : Bytes) (hok : EffOk conf (.sub t c))

def Act.step {conf : Conf} {s : ConnState} {rest : Bytes} (b : Broker) : Act conf s rest → Step
  | .reject c s' created _ _ => fatal c s' (created.elim b (getTopic b))
  | .refuse c _ => nonfatal c s b rest
  | .conn ctl r s' rest' eff _ _ _ _ => ⟨ctl, r, s', b, rest', eff⟩
  | .enqueue t ms rest' _ _ => done (some .ok) s (publish b t ms) rest' [.enq t ms]
  | .subscribe t c _ =>
    done (some .ok) { s with st := .subscribed, sub := some (t, c) } (addClient (getChannel (getTopic b t) t c) t c)
      rest [.sub t c]

/-- `f`, a handler with the broker left open, is one act whatever the broker: the act is chosen without reading it. -/
def Acts (conf : Conf) (s : ConnState) (rest : Bytes) (f : Broker → Step) : Prop :=
  ∃ a : Act conf s rest, ∀ b, f b = a.step b

section handlers
variable {conf : Conf} {s : ConnState} {rest : Bytes}

theorem rejects {c : Code} (s' : ConnState) (hc : c ∈ modelFatal) : Acts conf s rest (fatal c s') :=
  ⟨.reject c s' none (.inl hc) (fun _ => nofun), fun _ => rfl⟩

theorem accepts (r : Option Reply) (s' : ConnState) (rest' : Bytes) (eff : List Effect)
    (hr : ∀ c, r ≠ some (.err c)) (hrest : rest'.length ≤ rest.length) (heff : ∀ e ∈ eff, ConnEff conf e) :
    Acts conf s rest (done r s' · rest' eff) :=
  ⟨.conn .cont r s' rest' eff (.inl rfl) hr hrest heff, fun _ => rfl⟩

theorem identify_act : Acts conf s rest (identify conf s · rest) := by
  unfold identify
  split
  · exact rejects s (by decide)
  split
  · exact rejects s (by decide)
  · exact absurd ‹_› (readBody_ne_panic _ _)
  rename_i body r hb
  have hr := (readBody_ok _ _ _ _ hb).2.2
  split
  · exact rejects s (by decide)
  rename_i d _
  split
  · exact rejects s (by decide)
  rename_i s' hs'
  have heff : ∀ e ∈ [Effect.identify d], ConnEff conf e := by
    simp [ConnEff, EffOk, (identOk_iff_inRange conf d).mpr ((Identify.applyIdentify_isSome conf s d).mp (by rw [hs']; rfl))]
  split
  · exact accepts _ s' r _ (fun _ => nofun) hr heff
  split
  · exact rejects s' (by decide)
  split
  · exact ⟨.conn .upgraded (some .json) s' r _ (.inr rfl) (fun _ => nofun) hr heff, fun _ => rfl⟩
  · exact accepts _ s' r _ (fun _ => nofun) hr heff

theorem auth_act (ps : List Bytes) : Acts conf s rest (auth conf s · ps rest) := by
  unfold auth
  split
  · exact rejects s (by decide)
  split
  · exact rejects s (by decide)
  split
  · exact rejects s (by decide)
  · exact absurd ‹_› (readBody_ne_panic _ _)
  rename_i body r hb
  unfold authStep
  split
  · exact rejects s (by decide)
  · exact rejects s (by decide)
  · exact rejects s (by decide)
  · exact rejects s (by decide)
  · exact accepts _ s r [] (fun _ => nofun) (readBody_ok _ _ _ _ hb).2.2 (fun _ => nofun)

theorem sub_act (ps : List Bytes) : Acts conf s rest (sub conf s · ps rest) := by
  unfold sub
  split
  · exact rejects s (by decide)
  split
  · exact rejects s (by decide)
  split
  · rename_i t c _
    split
    · exact rejects s (by decide)
    rename_i ht
    split
    · exact rejects s (by decide)
    rename_i hc
    split
    · exact ⟨.reject _ s none (.inr ‹_›) (fun _ => nofun), fun _ => rfl⟩
    · exact ⟨.subscribe t c ⟨by simpa using ht, by simpa using hc⟩, fun _ => rfl⟩
  · exact rejects s (by decide)

theorem rdySet_act (count : Int) : Acts conf s rest (rdySet conf s · rest count) := by
  unfold rdySet
  split
  · exact rejects s (by decide)
  · exact accepts none _ rest [.rdy count] (fun _ => nofun) (Nat.le_refl _) (by simp [ConnEff, EffOk]; omega)

theorem rdy_act (ps : List Bytes) : Acts conf s rest (rdy conf s · ps rest) := by
  unfold rdy
  split
  · exact accepts none s rest [] (fun _ => nofun) (Nat.le_refl _) (fun _ => nofun)
  split
  · exact rejects s (by decide)
  split
  · split
    · exact rejects s (by decide)
    · exact rdySet_act _
  · exact rdySet_act 1

theorem fin_act (ps : List Bytes) : Acts conf s rest (fin s · ps rest) := by
  unfold fin
  split
  · exact rejects s (by decide)
  split
  · split
    · exact rejects s (by decide)
    split
    · exact accepts none _ rest [.fin _] (fun _ => nofun) (Nat.le_refl _) (by simp [ConnEff, EffOk])
    · exact ⟨.refuse .E_FIN_FAILED (by decide), fun _ => rfl⟩
  · exact rejects s (by decide)

theorem req_act (ps : List Bytes) : Acts conf s rest (req conf s · ps rest) := by
  unfold req
  split
  · exact rejects s (by decide)
  split
  · split
    · exact rejects s (by decide)
    split
    · exact rejects s (by decide)
    split
    · refine accepts none _ rest [.req _ _] (fun _ => nofun) (Nat.le_refl _) ?_
      simp only [List.mem_singleton, forall_eq, ConnEff, EffOk, clampReq]
      refine ⟨fun h0 => ?_, fun _ _ => nofun, fun _ _ => nofun⟩
      split
      · omega
      · split <;> omega
    · exact ⟨.refuse .E_REQ_FAILED (by decide), fun _ => rfl⟩
  · exact rejects s (by decide)

theorem touch_act (ps : List Bytes) : Acts conf s rest (touch s · ps rest) := by
  unfold touch
  split
  · exact rejects s (by decide)
  split
  · split
    · exact rejects s (by decide)
    split
    · exact accepts none s rest [.touch _] (fun _ => nofun) (Nat.le_refl _) (by simp [ConnEff, EffOk])
    · exact ⟨.refuse .E_TOUCH_FAILED (by decide), fun _ => rfl⟩
  · exact rejects s (by decide)

theorem cls_act : Acts conf s rest (cls s · rest) := by
  unfold cls
  split
  · exact rejects s (by decide)
  · exact accepts _ _ rest [.cls] (fun _ => nofun) (Nat.le_refl _) (by simp [ConnEff, EffOk])

theorem pubBody_act (t : Bytes) (d : Int) (ht : isValidName t = true)
    (hd : d = 0 ∨ (0 ≤ d ∧ d ≤ conf.maxReqTimeoutNs)) : Acts conf s rest (pubBody conf s · t d rest) := by
  unfold pubBody
  split
  · exact rejects s (by decide)
  · exact absurd ‹_› (readBody_ne_panic _ _)
  rename_i body r hb
  have hbody := readBody_ok _ _ _ _ hb
  split
  · exact ⟨.reject _ s none (.inr ‹_›) (fun _ => nofun), fun _ => rfl⟩
  · refine ⟨.enqueue t [⟨body, d⟩] r hbody.2.2 ?_, fun _ => rfl⟩
    simp only [EffOk, List.mem_singleton, forall_eq, MsgOk]
    exact ⟨ht, Nat.le_refl _, .inl rfl, hbody.1, hbody.2.1, hd⟩

theorem pub_act (ps : List Bytes) : Acts conf s rest (pub conf s · ps rest) := by
  unfold pub
  split
  · split
    · exact rejects s (by decide)
    · rename_i ht
      exact pubBody_act _ 0 (by simpa using ht) (.inl rfl)
  · exact rejects s (by decide)

theorem dpub_act (ps : List Bytes) : Acts conf s rest (dpub conf s · ps rest) := by
  unfold dpub
  split
  · split
    · exact rejects s (by decide)
    rename_i ht
    split
    · exact rejects s (by decide)
    split
    · exact rejects s (by decide)
    · exact pubBody_act _ _ (by simpa using ht) (.inr (by omega))
  · exact rejects s (by decide)

theorem mpub_act (ps : List Bytes) : Acts conf s rest (mpub conf s · ps rest) := by
  unfold mpub
  split
  · rename_i t _
    split
    · exact rejects s (by decide)
    rename_i ht
    have ht : isValidName t = true := by simpa using ht
    have bad : ∀ {c : Code}, c ∈ modelFatal → Acts conf s rest (fun b => fatal c s (getTopic b t)) :=
      fun hc => ⟨.reject _ s (some t) (.inl hc) (fun _ h => by cases h; exact ht), fun _ => rfl⟩
    split
    · exact ⟨.reject _ s none (.inr ‹_›) (fun _ => nofun), fun _ => rfl⟩
    split
    · exact bad (by decide)
    rename_i n r hl
    split
    · exact bad (by decide)
    split
    · exact bad (by decide)
    rcases readMPUB_cases conf.maxMsgSize conf.maxBodySize (r.take n.toNat) with ⟨bodies, r2, hm⟩ | hm | hm
    · rw [hm]
      obtain ⟨hcount, hmax, hsize, hw⟩ := readMPUB_ok _ _ _ _ _ hm
      have hlen := congrArg List.length hw
      have h2 := readLen_len _ _ _ hl
      refine ⟨.enqueue t (toMsgs bodies) (r2 ++ r.drop n.toNat) ?_ ?_, fun _ => rfl⟩
      · simp only [List.length_append, List.length_drop] at hlen ⊢
        simp only [List.length_take] at hlen
        omega
      · simp only [EffOk, toMsgs, List.length_map]
        refine ⟨ht, hcount, .inr hmax, fun m hm' => ?_⟩
        obtain ⟨x, hx, rfl⟩ := List.mem_map.mp hm'
        exact ⟨(hsize x hx).1, (hsize x hx).2, .inl rfl⟩
    · rw [hm]; exact bad (by decide)
    · rw [hm]; exact bad (by decide)
  · exact rejects s (by decide)

end handlers

theorem exec_act (conf : Conf) (s : ConnState) (ps : List Bytes) (rest : Bytes) :
    ∃ a : Act conf s rest, ∀ b, exec conf s b ps rest = a.step b := by
  show Acts conf s rest (exec conf s · ps rest)
  cases ps with
  | nil => exact rejects s (by decide)
  | cons cmd tl =>
    simp only [exec_eq]
    split
    · exact rejects s (by decide)
    cases classify cmd with
    | identify => exact identify_act
    | auth => exact auth_act _
    | sub => exact sub_act _
    | pub => exact pub_act _
    | mpub => exact mpub_act _
    | dpub => exact dpub_act _
    | rdy => exact rdy_act _
    | fin => exact fin_act _
    | req => exact req_act _
    | touch => exact touch_act _
    | cls => exact cls_act
    | nop => exact accepts none s rest [] (fun _ => nofun) (Nat.le_refl _) (fun _ => nofun)
    | unknown => exact rejects s (by decide)

/-- What the loop asks of a step on the input `rest`; no panic: no handler reaches a `make` with a negative size. -/
def StepOk (conf : Conf) (rest : Bytes) (x : Step) : Prop :=
  x.ctl ≠ .panic ∧ x.rest.length ≤ rest.length ∧ ∀ e ∈ x.eff, EffOk conf e

theorem exec_ok (conf : Conf) (s : ConnState) (b : Broker) (ps : List Bytes) (rest : Bytes) :
    StepOk conf rest (exec conf s b ps rest) := by
  obtain ⟨a, h⟩ := exec_act conf s ps rest
  rw [h]
  cases a with
  | reject => exact ⟨nofun, Nat.zero_le _, fun _ => nofun⟩
  | refuse => exact ⟨nofun, Nat.le_refl _, fun _ => nofun⟩
  | conn _ _ _ _ _ hctl _ hrest heff =>
    exact ⟨by rcases hctl with rfl | rfl <;> nofun, hrest, fun e he => (heff e he).1⟩
  | enqueue _ _ _ hrest hok => exact ⟨nofun, hrest, fun e he => by cases List.mem_singleton.mp he; exact hok⟩
  | subscribe _ _ hok => exact ⟨nofun, Nat.le_refl _, fun e he => by cases List.mem_singleton.mp he; exact hok⟩

theorem exec_err (conf : Conf) (s : ConnState) (b : Broker) (ps : List Bytes) (rest : Bytes) (c : Code)
    (h : (exec conf s b ps rest).reply = some (.err c)) :
    Untouched b (exec conf s b ps rest).broker ∧ (exec conf s b ps rest).eff = [] := by
  obtain ⟨a, ha⟩ := exec_act conf s ps rest
  rw [ha] at h ⊢
  cases a with
  | reject _ _ created _ ht =>
    cases created with
    | none => exact ⟨.inl rfl, rfl⟩
    | some t => exact ⟨untouched_getTopic b t (ht t rfl), rfl⟩
  | refuse => exact ⟨.inl rfl, rfl⟩
  | conn _ _ _ _ _ _ hr => exact absurd h (hr c)
  | enqueue => cases h
  | subscribe => cases h

theorem exec_close (conf : Conf) (s : ConnState) (b : Broker) (ps : List Bytes) (rest : Bytes)
    (h : (exec conf s b ps rest).ctl = .close) : ∃ c, (exec conf s b ps rest).reply = some (.err c) := by
  obtain ⟨a, ha⟩ := exec_act conf s ps rest
  rw [ha] at h ⊢
  cases a with
  | reject c => exact ⟨c, rfl⟩
  | conn _ _ _ _ _ hctl => rcases hctl with rfl | rfl <;> cases h
  | _ => cases h

theorem exec_codes (conf : Conf) (s : ConnState) (b : Broker) (ps : List Bytes) (rest : Bytes) (c : Code)
    (hauth : AuthGateOk conf) (h : (exec conf s b ps rest).reply = some (.err c)) :
    ((exec conf s b ps rest).ctl = .close ∧ c ∈ modelFatal) ∨
    ((exec conf s b ps rest).ctl = .cont ∧ c ∈ modelNonFatal) := by
  obtain ⟨a, ha⟩ := exec_act conf s ps rest
  rw [ha] at h ⊢
  cases a with
  | reject c' _ _ hc =>
    cases h
    refine .inl ⟨rfl, hc.elim id fun hg => ?_⟩
    rcases hauth c hg with rfl | rfl | rfl <;> decide
  | refuse c' hc => cases h; exact .inr ⟨rfl, hc⟩
  | conn _ _ _ _ _ _ hr => exact absurd h (hr c)
  | enqueue => cases h
  | subscribe => cases h

theorem exec_enq (conf : Conf) (s : ConnState) (b : Broker) (ps : List Bytes) (rest : Bytes)
    (t : Bytes) (ms : List Msg) (h : (exec conf s b ps rest).eff = [.enq t ms]) :
    (exec conf s b ps rest).broker = publish b t ms ∧ (exec conf s b ps rest).reply = some .ok := by
  obtain ⟨a, ha⟩ := exec_act conf s ps rest
  rw [ha] at h ⊢
  cases a with
  | reject => cases h
  | refuse => cases h
  | conn _ _ _ _ eff _ _ _ heff =>
    exact absurd rfl ((heff (.enq t ms) (by rw [show eff = _ from h]; exact .head _)).2.1 t ms)
  | enqueue => cases h; exact ⟨rfl, rfl⟩
  | subscribe => cases h

theorem exec_sub_ok (conf : Conf) (s : ConnState) (b : Broker) (ps : List Bytes) (rest : Bytes)
    (t c : Bytes) (h : (exec conf s b ps rest).eff = [.sub t c]) :
    (exec conf s b ps rest).reply = some .ok := by
  obtain ⟨a, ha⟩ := exec_act conf s ps rest
  rw [ha] at h ⊢
  cases a with
  | reject => cases h
  | refuse => cases h
  | conn _ _ _ _ eff _ _ _ heff =>
    exact absurd rfl ((heff (.sub t c) (by rw [show eff = _ from h]; exact .head _)).2.2 t c)
  | enqueue => cases h
  | subscribe => rfl

def view (x : Step) : Ctl × Option Reply × ConnState × Bytes × List Effect := (x.ctl, x.reply, x.st, x.rest, x.eff)

theorem exec_view (conf : Conf) (s : ConnState) (b b' : Broker) (ps : List Bytes) (rest : Bytes) :
    view (exec conf s b ps rest) = view (exec conf s b' ps rest) := by
  obtain ⟨a, h⟩ := exec_act conf s ps rest
  rw [h, h]
  cases a <;> rfl

theorem mpub_cases (conf : Conf) (s : ConnState) (b : Broker) (ps : List Bytes) (rest : Bytes) :
    (∃ t n r bodies r2, ps[1]? = some t ∧ readLen rest = some (n, r) ∧ 1 ≤ n ∧ n ≤ conf.maxBodySize ∧
        Mpub.readMPUB conf.maxMsgSize conf.maxBodySize (r.take n.toNat) = .ok bodies r2 ∧
        (mpub conf s b ps rest).reply = some .ok ∧ (mpub conf s b ps rest).ctl = .cont ∧
        (mpub conf s b ps rest).broker = publish b t (toMsgs bodies) ∧
        (mpub conf s b ps rest).eff = [.enq t (toMsgs bodies)] ∧
        (mpub conf s b ps rest).rest = r2 ++ r.drop n.toNat) ∨
    (∃ c, (mpub conf s b ps rest).reply = some (.err c) ∧ (mpub conf s b ps rest).ctl = .close ∧
        Untouched b (mpub conf s b ps rest).broker ∧ (mpub conf s b ps rest).eff = []) := by
  -- branches in the order of `mpub`: 1 bad topic name, 2 gate; then, the topic created: 3-5 size field, 6 reader's
  -- error, 7 reader's panic (dead), 8 accepted; 9 too few parameters
  fun_cases mpub conf s b ps rest
  case case7 => exact absurd ‹_› (Mpub.readMPUB_ne_panic _ _ _)
  case case8 t _ _ _ n r hl h0 h1 bodies r2 hm =>
    exact .inl ⟨t, n, r, bodies, r2, rfl, hl, by omega, by omega, hm, rfl, rfl, rfl, rfl, rfl⟩
  case case1 | case2 | case9 => exact .inr ⟨_, rfl, rfl, .inl rfl, rfl⟩
  all_goals exact .inr ⟨_, rfl, rfl, untouched_getTopic _ _ (by simpa using ‹¬(!isValidName _) = true›), rfl⟩

theorem loop_fin (conf : Conf) (fuel : Nat) (s : ConnState) (b : Broker) (bs : Bytes) (h : bs.length < fuel) :
    (loop conf fuel s b bs).fin = .eof ∨ (loop conf fuel s b bs).fin = .closed ∨
      (loop conf fuel s b bs).fin = .upgraded := by
  fun_induction loop conf fuel s b bs
  case case1 => omega
  case case2 => exact .inl rfl
  case case3 => exact .inr (.inl rfl)
  case case4 fuel s b bs l rest hl _ ih =>
    exact ih (by have := readLine_len bs l rest hl; have := (exec_ok conf s b (splitSp l) rest).2.1; omega)
  case case5 => exact .inr (.inl rfl)
  case case6 => exact .inr (.inr rfl)
  case case7 hp => exact absurd hp (exec_ok _ _ _ _ _).1

theorem loop_eff (conf : Conf) (fuel : Nat) (s : ConnState) (b : Broker) (bs : Bytes) :
    ∀ e ∈ (loop conf fuel s b bs).eff, EffOk conf e := by
  fun_induction loop conf fuel s b bs
  case case4 ih => exact fun e he => (List.mem_append.mp he).elim ((exec_ok ..).2.2 e) (ih e)
  case case5 | case6 | case7 => exact (exec_ok ..).2.2
  all_goals exact fun _ => nofun

def rview (r : Run) : List Reply × End × ConnState × List Effect := (r.replies, r.fin, r.st, r.eff)

theorem loop_indep (conf : Conf) (fuel : Nat) (s : ConnState) (b b' : Broker) (bs : Bytes) :
    rview (loop conf fuel s b bs) = rview (loop conf fuel s b' bs) := by
  fun_induction loop conf fuel s b bs generalizing b'
  case case1 => rfl
  case case2 h => rw [loop.eq_2, h]; rfl
  case case3 h => rw [loop.eq_2, h]; rfl
  case case4 fuel s b bs l rest hl hc ih =>
    have h := exec_view conf s b b' (splitSp l) rest
    have ih := ih (exec conf s b' (splitSp l) rest).broker
    simp only [view, rview, Prod.mk.injEq] at h ih
    rw [loop.eq_2]
    simp only [hl, ← h, hc, rview, Run.cons, ih]
  case case5 fuel s b bs l rest hl hc | case6 fuel s b bs l rest hl hc | case7 fuel s b bs l rest hl hc =>
    have h := exec_view conf s b b' (splitSp l) rest
    simp only [view, Prod.mk.injEq] at h
    rw [loop.eq_2]
    simp only [hl, ← h, hc, rview, Run.stop]

theorem disconnect_rview (r : Run) : rview (disconnect r) = rview r := by
  fun_cases disconnect r
  all_goals rfl

theorem disconnect_fin (r : Run) : (disconnect r).fin = r.fin := congrArg (·.2.1) (disconnect_rview r)

theorem disconnect_eff (r : Run) : (disconnect r).eff = r.eff := congrArg (·.2.2.2) (disconnect_rview r)

namespace Examples

def conf : Conf :=
  { maxMsgSize := 8, maxBodySize := 64, maxRdy := 7, maxReqTimeoutNs := 90000000000,
    maxHeartbeatMs := 60000, minObtMs := 25, maxObtMs := 30000, maxObSize := 65536, maxMsgTimeoutMs := 900000,
    tlsGate := true, authGate := none, authCmd := .disabled, tlsConfigured := false,
    deflateEnabled := false, snappyEnabled := false, decode := fun _ => none }

def conn : ConnState := freshConn 30000000000 250000000 60000000000

end Examples

end Nsq.Proofs.ProtoV2
