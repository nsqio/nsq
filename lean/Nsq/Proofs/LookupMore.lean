import Nsq.Model.LookupMore
import Nsq.Proofs.LookupSyncConv
import Nsq.Proofs.Names
/-! The fixed shapes of the two layers of `Nsq.Model.LookupMore` are the base model. Of `Nsq.Model.LookupSync`: which
channels `precreateG` creates; names accepted by `validName` contain no command separator. -/
namespace Nsq.Proofs.LookupMore
open Nsq.Model.LookupSync Nsq.Proofs.LookupSync

theorem commandR_fixed (objs dead : List Ref) (apply : List Key → List Key) (p : Peer) (o : Outcome3) :
    commandR true objs dead apply p o = command objs dead apply p o.collapse := by
  simp [commandR]

theorem mapOutcomes3_fixed (objs dead : List Ref) (apply : List Key → List Key) (ps : List Peer) (outs : List Outcome3) :
    mapOutcomes3 (commandR true objs dead apply) ps outs =
      mapOutcomes (command objs dead apply) ps (outs.map Outcome3.collapse) := by
  induction ps generalizing outs with
  | nil => simp [mapOutcomes3, mapOutcomes]
  | cons p ps ih =>
    cases outs with
    | nil =>
      have := ih []
      simp only [List.map_nil] at this
      simp [mapOutcomes3, mapOutcomes, commandR_fixed, Outcome3.collapse, this]
    | cons o os => simp [mapOutcomes3, mapOutcomes, commandR_fixed, ih]

theorem stepR_fixed (s : State) (st : StepR) : stepR true s st = step s st.collapse := by
  cases st with
  | base st => rfl
  | notify r outs => simp only [stepR, StepR.collapse, step, mapOutcomes3_fixed]
  | tick outs => simp only [stepR, StepR.collapse, step, mapOutcomes3_fixed]
  | addPeer a o => simp only [stepR, StepR.collapse, step, commandR_fixed]

theorem runR_fixed (s : State) (steps : List StepR) : runR true s steps = run s (steps.map StepR.collapse) := by
  induction steps generalizing s with
  | nil => rfl
  | cons st rest ih =>
    simp only [runR, List.map_cons, run, stepR_fixed]
    cases step s st.collapse with
    | none => rfl
    | some s' => exact ih s'

def DelsDead (d : DelState) : Prop := ∀ r ∈ d.dels, r ∈ d.s.dead ∧ isTopic r = false

/-- with F22 a step of a deleter thread is a step of the base model or leaves its state alone: the loser of
`channel.Delete()` only joins `dels`, an unlink of an object that is gone removes nothing -/
theorem stepD_fixed_base {d d' : DelState} {st : StepD} (hd : DelsDead d) (h : stepD true d st = some d') :
    DelsDead d' ∧ (d'.s = d.s ∨ ∃ bst, step d.s bst = some d'.s) := by
  cases st with
  | base bst =>
    simp only [stepD, Option.map_eq_some_iff] at h
    obtain ⟨s', hs, rfl⟩ := h
    exact ⟨fun r hr' => ⟨dead_mono hs r (hd r hr').1, (hd r hr').2⟩, Or.inr ⟨bst, hs⟩⟩
  | delStart r =>
    simp only [stepD] at h
    split at h; · simp at h
    rename_i hnt
    split at h; · simp at h
    rename_i hin
    have hnt' : isTopic r = false := by simpa using hnt
    split at h
    · rename_i hdead
      simp only [Option.some.injEq] at h; subst h
      refine ⟨?_, Or.inl rfl⟩
      intro x hx
      simp only [List.mem_cons] at hx
      rcases hx with rfl | hx
      · exact ⟨by simpa using hdead, hnt'⟩
      · exact hd x hx
    · rename_i hdead
      simp only [Option.some.injEq] at h; subst h
      refine ⟨?_, ?_⟩
      · intro x hx
        simp only [List.mem_cons] at hx
        rcases hx with rfl | hx
        · exact ⟨List.mem_cons_self, hnt'⟩
        · exact ⟨List.mem_cons_of_mem _ (hd x hx).1, (hd x hx).2⟩
      · refine Or.inr ⟨.delBegin r, ?_⟩
        simp only [step]
        have h1 : r ∈ d.s.objs := by simpa using hin
        have h2 : r ∉ d.s.dead := by simpa using hdead
        simp [h1, h2]
  | delFinish r =>
    simp only [stepD] at h
    split at h; · simp at h
    rename_i hmem
    simp only [if_true, Option.some.injEq] at h; subst h
    have hrd := hd r (by simpa using hmem)
    refine ⟨?_, ?_⟩
    · intro x hx
      exact hd x (List.mem_of_mem_erase hx)
    · by_cases hin : r ∈ d.s.objs
      · refine Or.inr ⟨.delUnlink r, ?_⟩
        simp only [step]
        simp [hin, hrd.1, hrd.2]
      · exact Or.inl (by rw [List.erase_of_not_mem hin])

theorem runD_fixed_inv {d d' : DelState} {steps : List StepD} (hd : DelsDead d) (hI : Inv d.s)
    (h : runD true d steps = some d') : Inv d'.s := by
  induction steps generalizing d with
  | nil => simp only [runD, Option.some.injEq] at h; subst h; exact hI
  | cons st rest ih =>
    simp only [runD] at h
    split at h
    · simp at h
    · rename_i d1 h1
      obtain ⟨hd1, e | ⟨bst, hb⟩⟩ := stepD_fixed_base hd h1
      · exact ih hd1 (e ▸ hI) h
      · exact ih hd1 (inv_step hI hb) h

theorem delsDead_init : DelsDead DelState.init := by intro r hr; simp [DelState.init] at hr

theorem precreateG_exact (f35 : Bool) (ls : List Lookupd) (c : String) :
    c ∈ precreateG f35 ls ↔
      (∃ l ∈ ls, l.identified = true ∧ ∃ a, l.answer = some a ∧ c ∈ a) ∧ ephName c = false ∧
        (f35 = true → validName c = true) := by
  simp only [precreateG, List.mem_filter, List.mem_eraseDups, List.mem_flatten, List.mem_filterMap,
    Bool.and_eq_true, Bool.not_eq_true', Bool.or_eq_true]
  constructor
  · rintro ⟨⟨a, ⟨l, ⟨hl, hid⟩, ha⟩, hc⟩, he, hv⟩
    exact ⟨⟨l, hl, hid, a, ha, hc⟩, he, fun h => hv.resolve_left (by simp [h])⟩
  · rintro ⟨⟨l, hl, hid, a, ha, hc⟩, he, hv⟩
    refine ⟨⟨a, ⟨l, ⟨hl, hid⟩, ha⟩, hc⟩, he, ?_⟩
    cases f35
    · exact Or.inl rfl
    · exact Or.inr (hv rfl)

theorem validName_no_sep (s : String) (h : validName s = true) : '\n' ∉ s.toList ∧ ' ' ∉ s.toList := by
  simp only [validName, Bool.and_eq_true] at h
  have hb := Nsq.Proofs.Names.valid_bytes h.2
  constructor <;> intro hc
  · exact absurd (hb 10 (List.mem_map.mpr ⟨'\n', hc, by decide⟩)) (by decide)
  · exact absurd (hb 32 (List.mem_map.mpr ⟨' ', hc, by decide⟩)) (by decide)

end Nsq.Proofs.LookupMore
