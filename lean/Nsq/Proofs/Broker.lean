import Nsq.Model.ProtoV2Types
import Nsq.Proofs.Keyed
/-! The abstract broker (`Nsq.Model.ProtoV2Types`): lookups through `modifyTopic`, `deleteTopic`, `settle`, `getTopic`. -/
namespace Nsq.Proofs.Broker
open Nsq.Model.ProtoV2 Nsq.Model.Names

theorem findTopic_name {b : Broker} {t : Bytes} {tp : Topic} (h : findTopic b t = some tp) : tp.name = t :=
  (Keyed.find?_some h).2

theorem findChan_name {tp : Topic} {c : Bytes} {ch : Chan} (h : findChan tp c = some ch) : ch.name = c :=
  (Keyed.find?_some h).2

theorem findTopic_modify (b : Broker) (n m : Bytes) (f : Topic → Topic) (hf : ∀ t, (f t).name = t.name) :
    findTopic (modifyTopic b n f) m = if m = n then (findTopic b m).map f else findTopic b m :=
  Keyed.find?_upd hf

theorem findTopic_modify_eq (b : Broker) (n : Bytes) (f : Topic → Topic) (hf : ∀ t, (f t).name = t.name) :
    findTopic (modifyTopic b n f) n = (findTopic b n).map f :=
  (findTopic_modify b n n f hf).trans (if_pos rfl)

theorem findTopic_delete (b : Broker) (n m : Bytes) :
    findTopic (deleteTopic b n) m = if m = n then none else findTopic b m :=
  Keyed.find?_del

theorem findTopic_append_ne (b : Broker) (x : Topic) (m : Bytes) (h : m ≠ x.name) :
    findTopic (b ++ [x]) m = findTopic b m := by
  simp [findTopic, List.find?_append, Ne.symm h]

theorem settle_name (tp : Topic) : (settle tp).name = tp.name := by
  unfold settle; split <;> rfl

theorem hasChan_settle (tp : Topic) (c : Bytes) : hasChan (settle tp) c = hasChan tp c := by
  unfold settle
  split
  · rfl
  · unfold hasChan
    simp only [List.any_map]
    rfl

theorem hasTopic_getTopic (b : Broker) (t : Bytes) : hasTopic (getTopic b t) t = true := by
  unfold getTopic
  split
  · assumption
  · unfold hasTopic
    simp [List.any_append]

end Nsq.Proofs.Broker

/-! `GetTopic` on a name the broker does not have appends the still empty topic: all that a refused command can have
done to the broker, over TCP (`Proofs.ProtoV2`, whose namespace these are declared in) or HTTP (`Proofs.HttpApiEquiv`, `Props.C10`). -/
namespace Nsq.Proofs.ProtoV2
open Nsq.Model.ProtoV2 Nsq.Model.Names

def emptyTopic (t : Bytes) : Topic := { name := t, paused := false, count := 0, msgs := [], chans := [] }

theorem getTopic_cases (b : Broker) (t : Bytes) :
    getTopic b t = b ∨ (hasTopic b t = false ∧ getTopic b t = b ++ [emptyTopic t]) := by
  unfold getTopic
  split
  · exact Or.inl rfl
  · rename_i h
    exact Or.inr ⟨by simpa using h, rfl⟩

/-- What a step that answers with an error (fatal or not) can have done: nothing, or (MPUB with a
well-formed name) created the still empty topic. It has no effect in the `EffOk` sense. -/
def Untouched (b b' : Broker) : Prop :=
  b' = b ∨ ∃ t, isValidName t = true ∧ hasTopic b t = false ∧ b' = b ++ [emptyTopic t]

theorem untouched_getTopic (b : Broker) (t : Bytes) (h : isValidName t = true) : Untouched b (getTopic b t) := by
  rcases getTopic_cases b t with h1 | ⟨h1, h2⟩
  · exact Or.inl h1
  · exact Or.inr ⟨t, h, h1, h2⟩

end Nsq.Proofs.ProtoV2
