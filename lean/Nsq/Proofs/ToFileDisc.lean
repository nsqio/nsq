import Nsq.Model.ToFileDisc
/-! TopicDiscoverer of nsq_to_file (`Nsq.Model.ToFileDisc`): one poll as a fold over the list (`updateTopics_cons`), that loggers are
distinct and never dropped, and the invariant of `run()` over polls and signals. -/
namespace Nsq.Proofs.ToFileDisc
open Nsq.Model.Str Nsq.Model.ToFileDisc

theorem updateTopics_cons (e : Env) (ts : List Str) (x : Str) (rest : List Str) :
    updateTopics e ts (x :: rest) = updateTopics e
      (if x ∉ ts ∧ isTopicAllowed e.pattern (e.matched x) = true ∧ e.create x = true then ts ++ [x] else ts) rest := by
  rw [updateTopics]
  by_cases h1 : x ∈ ts
  · simp [h1]
  · by_cases h2 : isTopicAllowed e.pattern (e.matched x) = false
    · simp [h1, h2]
    · by_cases h3 : e.create x = false
      · simp [h1, h2, h3]
      · simp [h1, h2, h3]

theorem updateTopics_nodup (e : Env) (l : List Str) : ∀ (ts : List Str), ts.Nodup → (updateTopics e ts l).Nodup := by
  induction l with
  | nil => intro ts h; simpa [updateTopics] using h
  | cons x rest ih =>
    intro ts h
    rw [updateTopics_cons]
    apply ih
    split
    · rename_i hx
      rw [List.nodup_append]
      exact ⟨h, by simp, fun a ha b hb hab => hx.1 (by rw [List.mem_singleton.mp hb] at hab; exact hab ▸ ha)⟩
    · exact h

theorem updateTopics_prefix (e : Env) (l : List Str) : ∀ (ts : List Str), ts <+: updateTopics e ts l := by
  induction l with
  | nil => intro ts; simp [updateTopics]
  | cons x rest ih =>
    intro ts
    rw [updateTopics_cons]
    refine List.IsPrefix.trans ?_ (ih _)
    split
    · exact List.prefix_append ts [x]
    · exact List.prefix_refl _

structure Inv (s : St) : Prop where
  nodup : s.topics.Nodup
  live  : s.looping = true → s.termed = []
  done  : s.looping = false → s.termed = s.topics

theorem inv_start (e : Env) (l : List Str) : Inv (start e l) :=
  ⟨updateTopics_nodup e l [] List.nodup_nil, fun _ => rfl, fun h => by simp [start] at h⟩

theorem inv_step (e : Env) (p : Bool) (s : St) (ev : Ev) (h : Inv s) : Inv (step e p s ev) := by
  cases ev with
  | tick r =>
    simp only [step]
    by_cases hl : s.looping = false ∨ p = false
    · rw [if_pos hl]; exact h
    · rw [if_neg hl]
      cases r with
      | none => exact h
      | some l =>
        have hlo : s.looping = true := by
          cases hs : s.looping with
          | true => rfl
          | false => exact absurd (Or.inl hs) hl
        exact ⟨updateTopics_nodup e l _ h.nodup, fun _ => h.live hlo, fun hf => by simp [hlo] at hf⟩
  | term =>
    simp only [step]
    by_cases hl : s.looping = false
    · rw [if_pos hl]; exact h
    · rw [if_neg hl]
      have hlo : s.looping = true := by simpa using hl
      exact ⟨h.nodup, fun hf => by simp at hf, fun _ => by simp [h.live hlo]⟩
  | hup =>
    simp only [step]
    by_cases hl : s.looping = false
    · rw [if_pos hl]; exact h
    · rw [if_neg hl]
      exact ⟨h.nodup, h.live, h.done⟩

theorem inv_run (e : Env) (p : Bool) (evs : List Ev) : ∀ (s : St), Inv s → Inv (run e p s evs) := by
  induction evs with
  | nil => intro s h; exact h
  | cons ev evs ih => intro s h; exact ih _ (inv_step e p s ev h)

theorem step_stopped (e : Env) (p : Bool) (s : St) (ev : Ev) (h : s.looping = false) : step e p s ev = s := by
  cases ev <;> simp [step, h]

theorem run_stopped (e : Env) (p : Bool) (evs : List Ev) : ∀ (s : St), s.looping = false → run e p s evs = s := by
  induction evs with
  | nil => intro s _; rfl
  | cons ev evs ih => intro s h; simp only [run]; rw [step_stopped e p s ev h]; exact ih s h

theorem step_prefix (e : Env) (p : Bool) (s : St) (ev : Ev) : s.topics <+: (step e p s ev).topics := by
  cases ev with
  | tick r =>
    simp only [step]
    by_cases hl : s.looping = false ∨ p = false
    · rw [if_pos hl]; exact List.prefix_refl _
    · rw [if_neg hl]
      cases r with
      | none => exact List.prefix_refl _
      | some l => exact updateTopics_prefix e l _
  | term => simp only [step]; split <;> exact List.prefix_refl _
  | hup => simp only [step]; split <;> exact List.prefix_refl _

end Nsq.Proofs.ToFileDisc
