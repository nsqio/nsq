import Nsq.Model.BackedQueue
import Nsq.Proofs.DiskQueueApi
/-! The queue of one channel / topic (memory queue in front of a disk queue): one lemma per operation against
`Inv q disk` (the backend holds `disk`), `StepR` (one operation of a history by outcome), the `Ledger` along a history. -/
namespace Nsq.Proofs.BackedQueue
open Nsq.Model Nsq.Model.Wire
open Nsq.Model.BackedQueue (BQ PutOut Op Run stepRun fresh run openBQ flushInto)
open Nsq.Model.DiskQueue (St Cfg FS PutRes openQ)
open Nsq.Proofs.DiskQueue

/-- `Q` of the backend; the property files speak of `Inv`, E9's of `Q` -/
def Inv (q : BQ) (disk : List Bytes) : Prop := Q q.dq disk

theorem put_mem (q : BQ) (b : Bytes) (h : q.mem.length < q.memCap) :
    BackedQueue.put q b = (.mem, { q with mem := q.mem ++ [b] }) := by
  unfold BackedQueue.put
  rw [if_pos h]

theorem put_full (q : BQ) (b : Bytes) (h : ¬ q.mem.length < q.memCap) :
    BackedQueue.put q b = (.backend (DiskQueue.put q.dq b).1, { q with dq := (DiskQueue.put q.dq b).2 }) := by
  unfold BackedQueue.put
  rw [if_neg h]

theorem put_disk_ok {q : BQ} {disk : List Bytes} (hi : Inv q disk) (b : Bytes) (h : ¬ q.mem.length < q.memCap)
    (hv : ValidRec q.dq.cfg b) :
    (BackedQueue.put q b).1 = .backend .ok ∧ (BackedQueue.put q b).2.mem = q.mem ∧
      Inv (BackedQueue.put q b).2 (disk ++ [b]) := by
  rw [put_full q b h]
  obtain ⟨a1, a2⟩ := put_ok_Q hi b hv
  exact ⟨congrArg PutOut.backend a1, rfl, a2⟩

theorem put_disk_invalid {q : BQ} {disk : List Bytes} (hi : Inv q disk) (b : Bytes) (h : ¬ q.mem.length < q.memCap)
    (hv : ¬ ValidRec q.dq.cfg b) :
    (BackedQueue.put q b).1 = .backend .invalid ∧ (BackedQueue.put q b).2.mem = q.mem ∧
      Inv (BackedQueue.put q b).2 disk := by
  rw [put_full q b h]
  obtain ⟨a1, a2⟩ := put_invalid_Q hi b hv
  exact ⟨congrArg PutOut.backend a1, rfl, a2⟩

theorem bq_put_cfg (q : BQ) (b : Bytes) : (BackedQueue.put q b).2.dq.cfg = q.dq.cfg := by
  unfold BackedQueue.put
  split
  · rfl
  · exact put_cfg _ _

theorem takeMem_cons (q : BQ) (b : Bytes) (rest : List Bytes) (h : q.mem = b :: rest) :
    BackedQueue.takeMem q = (some b, { q with mem := rest }) := by
  unfold BackedQueue.takeMem
  rw [h]

theorem takeMem_nil (q : BQ) (h : q.mem = []) : BackedQueue.takeMem q = (none, q) := by
  unfold BackedQueue.takeMem
  rw [h]

theorem takeDisk_cons {q : BQ} {d : Bytes} {disk : List Bytes} (hi : Inv q (d :: disk)) :
    (BackedQueue.takeDisk q).1 = some d ∧ (BackedQueue.takeDisk q).2.mem = q.mem ∧
      Inv (BackedQueue.takeDisk q).2 disk := by
  obtain ⟨a1, a2⟩ := recv_head_Q hi
  exact ⟨a1, rfl, a2⟩

theorem takeDisk_nil {q : BQ} (hi : Inv q []) : BackedQueue.takeDisk q = (none, q) := by
  unfold BackedQueue.takeDisk
  rw [recv_none_Q hi]

theorem takeDisk_cfg (q : BQ) : (BackedQueue.takeDisk q).2.dq.cfg = q.dq.cfg := recv_cfg _

theorem empty_inv {q : BQ} {disk : List Bytes} (hi : Inv q disk) :
    (BackedQueue.empty q).1 = true ∧ Inv (BackedQueue.empty q).2 [] ∧
      (BackedQueue.empty q).2.dq.cfg = q.dq.cfg := by
  obtain ⟨a1, a2, _⟩ := empty_Q hi
  exact ⟨a1, a2, empty_cfg _⟩

theorem delete_files {q : BQ} {disk : List Bytes} (hi : Inv q disk) :
    (∀ i, (BackedQueue.delete q).dq.fs.dat i = none) ∧ (BackedQueue.delete q).dq.fs.md = none ∧
      (BackedQueue.delete q).dq.fs.bad = q.dq.fs.bad ∧ (BackedQueue.delete q).mem = [] ∧
      (BackedQueue.delete q).dq.exited = true := by
  obtain ⟨_, _, a3, a4, a5⟩ := empty_Q hi
  exact ⟨a3, a4, a5, rfl, rfl⟩

def validB (cfg : Cfg) (b : Bytes) : Bool := decide (ValidRec cfg b)

theorem flushInto_spec (l : List Bytes) : ∀ (d : St) (disk : List Bytes), Q d disk →
    Q (flushInto d l).1 (disk ++ l.filter (validB d.cfg)) ∧
      (flushInto d l).2 = l.filter (fun b => !validB d.cfg b) ∧ (flushInto d l).1.cfg = d.cfg := by
  induction l with
  | nil => intro d disk h; exact ⟨by rw [List.filter_nil, List.append_nil]; exact h, rfl, rfl⟩
  | cons b l ih =>
    intro d disk h
    unfold flushInto
    by_cases hv : ValidRec d.cfg b
    · obtain ⟨a1, a2⟩ := put_ok_Q h b hv
      obtain ⟨i1, i2, i3⟩ := ih _ _ a2
      have hb : validB d.cfg b = true := decide_eq_true hv
      rw [put_cfg d b, List.append_assoc] at i1
      rw [put_cfg d b] at i2 i3
      rw [if_pos a1, List.filter_cons_of_pos hb, List.filter_cons_of_neg (by rw [hb]; decide)]
      exact ⟨i1, i2, i3⟩
    · obtain ⟨a1, a2⟩ := put_invalid_Q h b hv
      obtain ⟨i1, i2, i3⟩ := ih _ _ a2
      have hb : validB d.cfg b = false := decide_eq_false hv
      rw [put_cfg d b] at i1 i2 i3
      rw [if_neg (by rw [a1]; decide), List.filter_cons_of_neg (by rw [hb]; decide),
        List.filter_cons_of_pos (by rw [hb]; rfl)]
      exact ⟨i1, congrArg (b :: ·) i2, i3⟩

/-- `Channel.Close` then `NewChannel` on the same data path: the memory queue went to the end of the
disk queue (valid records; the others are lost with a log line) -/
theorem restart_inv {q : BQ} {disk : List Bytes} (hi : Inv q disk) (cfg' : Cfg) (hok : CfgOk cfg')
    (hmin : cfg'.minMsgSize = q.dq.cfg.minMsgSize) (hmax : cfg'.maxMsgSize = q.dq.cfg.maxMsgSize) (memCap' : Nat) :
    Inv (openBQ memCap' cfg' (BackedQueue.close q).1.dq.fs) (disk ++ q.mem.filter (validB q.dq.cfg)) ∧
      (BackedQueue.close q).2 = q.mem.filter (fun b => !validB q.dq.cfg b) ∧
      (openBQ memCap' cfg' (BackedQueue.close q).1.dq.fs).dq.cfg = cfg' := by
  obtain ⟨f1, f2, f3⟩ := flushInto_spec q.mem q.dq disk hi
  exact ⟨reopen_Q f1 cfg' hok (f3 ▸ hmin) (f3 ▸ hmax), f2, openQ_cfg _ _⟩

theorem filter_all_valid (cfg : Cfg) (l : List Bytes) (h : ∀ b ∈ l, ValidRec cfg b) :
    l.filter (validB cfg) = l ∧ l.filter (fun b => !validB cfg b) = [] := by
  constructor
  · rw [List.filter_eq_self]
    intro b hb; exact decide_eq_true (h b hb)
  · rw [List.filter_eq_nil_iff]
    intro b hb; simp [validB, h b hb]

theorem fresh_inv (memCap : Nat) (cfg : Cfg) (hok : CfgOk cfg) : Inv (openBQ memCap cfg FS.empty) [] :=
  fresh_Q cfg hok

/-- every accepted record is in exactly one place — handed to a pump, dropped by `Empty` (from memory:
ghost `emptiedMem`; from disk: `gone`), lost in a `flush` because the backend refused it, still in
memory or still on disk -/
structure Ledger (cfg : Cfg) (memCap : Nat) (r : Run) (disk gone : List Bytes) : Prop where
  inv : Inv r.q disk
  cfg : r.q.dq.cfg = cfg
  cap : r.q.memCap = memCap
  bound : r.q.mem.length ≤ memCap
  perm : (r.taken ++ (r.emptiedMem ++ (gone ++ (r.flushLost ++ (r.q.mem ++ disk))))).Perm r.accepted

theorem Ledger.cfgOk {cfg : Cfg} {memCap : Nat} {r : Run} {disk gone : List Bytes}
    (h : Ledger cfg memCap r disk gone) : CfgOk cfg := by
  obtain ⟨_, _, a, _⟩ := h.inv
  exact h.cfg ▸ a.cfg

theorem stepRun_put (cfg : Cfg) (r : Run) (b : Bytes) : stepRun cfg r (.put b) =
    if (BackedQueue.put r.q b).1 = .mem ∨ (BackedQueue.put r.q b).1 = .backend .ok then
      { r with q := (BackedQueue.put r.q b).2, accepted := r.accepted ++ [b] }
    else { r with q := (BackedQueue.put r.q b).2, refused := r.refused ++ [b] } := rfl

theorem stepRun_takeMem (cfg : Cfg) (r : Run) : stepRun cfg r .takeMem =
    match (BackedQueue.takeMem r.q).1 with
    | some b => { r with q := (BackedQueue.takeMem r.q).2, taken := r.taken ++ [b] }
    | none => r := rfl

theorem stepRun_takeDisk (cfg : Cfg) (r : Run) : stepRun cfg r .takeDisk =
    match (BackedQueue.takeDisk r.q).1 with
    | some b => { r with q := (BackedQueue.takeDisk r.q).2, taken := r.taken ++ [b] }
    | none => { r with q := (BackedQueue.takeDisk r.q).2 } := rfl

theorem stepRun_restart (cfg : Cfg) (r : Run) : stepRun cfg r .restart =
    { r with q := openBQ r.q.memCap cfg (BackedQueue.close r.q).1.dq.fs,
             flushLost := r.flushLost ++ (BackedQueue.close r.q).2 } := rfl

theorem stepRun_empty (cfg : Cfg) (r : Run) : stepRun cfg r .empty =
    { r with q := (BackedQueue.empty r.q).2, emptiedMem := r.emptiedMem ++ r.q.mem } := rfl

/-- what the backend holds after operation `o`, as a function: the last index of `StepR`, which `stepRun_inv` shows it to be -/
def specDisk (cfg : Cfg) (r : Run) (disk : List Bytes) : Op → List Bytes
  | .put b => if r.q.mem.length < r.q.memCap then disk else if validB cfg b then disk ++ [b] else disk
  | .takeMem => disk
  | .takeDisk => disk.tail
  | .restart => disk ++ r.q.mem.filter (validB cfg)
  | .empty => []

def specGone (gone disk : List Bytes) : Op → List Bytes
  | .empty => gone ++ disk
  | _ => gone

/-- one operation on a queue whose backend holds `disk`, by outcome: the state and the backend content
afterwards, with the test that selects the outcome -/
inductive StepR (cfg : Cfg) (r : Run) (disk : List Bytes) : Op → Run → List Bytes → Prop
  | putMem (b : Bytes) (hm : r.q.mem.length < r.q.memCap) :
    StepR cfg r disk (.put b) { r with q := { r.q with mem := r.q.mem ++ [b] }, accepted := r.accepted ++ [b] } disk
  | putDisk (b : Bytes) (hm : ¬ r.q.mem.length < r.q.memCap) (hv : ValidRec cfg b) :
    StepR cfg r disk (.put b)
      { r with q := { r.q with dq := (DiskQueue.put r.q.dq b).2 }, accepted := r.accepted ++ [b] } (disk ++ [b])
  | putRefused (b : Bytes) (hm : ¬ r.q.mem.length < r.q.memCap) (hv : ¬ ValidRec cfg b) :
    StepR cfg r disk (.put b)
      { r with q := { r.q with dq := (DiskQueue.put r.q.dq b).2 }, refused := r.refused ++ [b] } disk
  | takeMemNil (hm : r.q.mem = []) : StepR cfg r disk .takeMem r disk
  | takeMemCons (b : Bytes) (rest : List Bytes) (hm : r.q.mem = b :: rest) :
    StepR cfg r disk .takeMem { r with q := { r.q with mem := rest }, taken := r.taken ++ [b] } disk
  | takeDiskNil (hd : disk = []) (ht : (BackedQueue.takeDisk r.q).1 = none) : StepR cfg r disk .takeDisk r []
  | takeDiskCons (d : Bytes) (rest : List Bytes) (hd : disk = d :: rest) (ht : (BackedQueue.takeDisk r.q).1 = some d) :
    StepR cfg r disk .takeDisk
      { r with q := { r.q with dq := (DiskQueue.recv r.q.dq).2 }, taken := r.taken ++ [d] } rest
  | restart : StepR cfg r disk .restart
      { r with q := openBQ r.q.memCap cfg (BackedQueue.close r.q).1.dq.fs,
               flushLost := r.flushLost ++ r.q.mem.filter (fun b => !validB cfg b) }
      (disk ++ r.q.mem.filter (validB cfg))
  | empty : StepR cfg r disk .empty { r with q := (BackedQueue.empty r.q).2, emptiedMem := r.emptiedMem ++ r.q.mem } []

theorem stepRun_inv {cfg : Cfg} {memCap : Nat} {r : Run} {disk gone : List Bytes}
    (h : Ledger cfg memCap r disk gone) (o : Op) :
    StepR cfg r disk o (stepRun cfg r o) (specDisk cfg r disk o) ∧ Inv (stepRun cfg r o).q (specDisk cfg r disk o) ∧
      (stepRun cfg r o).q.dq.cfg = cfg := by
  cases o with
  | put b =>
    rw [stepRun_put]
    simp only [specDisk]
    by_cases hm : r.q.mem.length < r.q.memCap
    · rw [if_pos hm, put_mem r.q b hm, if_pos (Or.inl rfl)]
      exact ⟨.putMem b hm, h.inv, h.cfg⟩
    · have hc : (BackedQueue.put r.q b).2.dq.cfg = cfg := (bq_put_cfg r.q b).trans h.cfg
      rw [if_neg hm]
      by_cases hv : ValidRec cfg b
      · obtain ⟨a1, _, a4⟩ := put_disk_ok h.inv b hm (h.cfg ▸ hv)
        rw [if_pos (Or.inr a1), if_pos (show validB cfg b = true from decide_eq_true hv)]
        rw [put_full r.q b hm] at a4 hc ⊢
        exact ⟨.putDisk b hm hv, a4, hc⟩
      · obtain ⟨a1, _, a4⟩ := put_disk_invalid h.inv b hm (h.cfg ▸ hv)
        rw [if_neg (by rw [a1]; decide), if_neg (by rw [show validB cfg b = false from decide_eq_false hv]; decide)]
        rw [put_full r.q b hm] at a4 hc ⊢
        exact ⟨.putRefused b hm hv, a4, hc⟩
  | takeMem =>
    rw [stepRun_takeMem]
    cases hm : r.q.mem with
    | nil =>
      rw [takeMem_nil r.q hm]
      exact ⟨.takeMemNil hm, h.inv, h.cfg⟩
    | cons b rest =>
      rw [takeMem_cons r.q b rest hm]
      exact ⟨.takeMemCons b rest hm, h.inv, h.cfg⟩
  | takeDisk =>
    rw [stepRun_takeDisk]
    show StepR _ _ _ _ _ disk.tail ∧ Inv _ disk.tail ∧ _
    have hi := h.inv
    cases disk with
    | nil =>
      rw [takeDisk_nil hi]
      exact ⟨.takeDiskNil rfl (by rw [takeDisk_nil hi]), hi, h.cfg⟩
    | cons d rest =>
      obtain ⟨a1, _, a4⟩ := takeDisk_cons hi
      rw [a1]
      exact ⟨.takeDiskCons d rest rfl a1, a4, (takeDisk_cfg r.q).trans h.cfg⟩
  | restart =>
    obtain ⟨a1, a2, a4⟩ := restart_inv h.inv cfg h.cfgOk (by rw [h.cfg]) (by rw [h.cfg]) r.q.memCap
    rw [stepRun_restart, a2]
    rw [h.cfg] at a1 ⊢
    exact ⟨.restart, a1, a4⟩
  | empty =>
    obtain ⟨_, a3, a5⟩ := empty_inv h.inv
    exact ⟨.empty, a3, a5.trans h.cfg⟩

theorem perm_cons_pass {α : Type} (l : List α) {x : α} {r r' : List α} (h : (x :: r).Perm r') :
    (x :: (l ++ r)).Perm (l ++ r') :=
  List.perm_middle.symm.trans (h.append_left l)

/-- the record an operation moves changes its place, not its number of copies -/
theorem ledger_step {cfg : Cfg} {memCap : Nat} {r : Run} {disk gone : List Bytes}
    (h : Ledger cfg memCap r disk gone) (o : Op) :
    Ledger cfg memCap (stepRun cfg r o) (specDisk cfg r disk o) (specGone gone disk o) := by
  obtain ⟨hs, hi, hc⟩ := stepRun_inv h o
  generalize stepRun cfg r o = r' at hs hi hc ⊢
  generalize specDisk cfg r disk o = disk' at hs hi ⊢
  cases hs with
  | putMem b hm =>
    refine ⟨hi, hc, h.cap, ?_, List.Perm.trans ?_ (h.perm.append_right [b])⟩
    · show (r.q.mem ++ [b]).length ≤ memCap
      rw [List.length_append, ← h.cap]
      exact hm
    · simpa only [specGone, List.append_assoc] using (List.perm_append_comm (l₁ := [b]) (l₂ := disk)).append_left
        (r.taken ++ (r.emptiedMem ++ (gone ++ (r.flushLost ++ r.q.mem))))
  | putDisk b hm hv =>
    refine ⟨hi, hc, h.cap, h.bound, ?_⟩
    simpa only [specGone, List.append_assoc] using h.perm.append_right [b]
  | putRefused b hm hv => exact ⟨hi, hc, h.cap, h.bound, h.perm⟩
  | takeMemNil hm => exact ⟨hi, hc, h.cap, h.bound, h.perm⟩
  | takeMemCons b rest hm =>
    have hb := h.bound
    rw [hm] at hb
    refine ⟨hi, hc, h.cap, Nat.le_of_succ_le hb, List.Perm.trans ?_ h.perm⟩
    rw [hm, ← List.append_cons]
    exact (perm_cons_pass _ (perm_cons_pass _ (perm_cons_pass _ (List.Perm.refl _)))).append_left _
  | takeDiskNil hd ht => exact ⟨hi, hc, h.cap, h.bound, hd ▸ h.perm⟩
  | takeDiskCons d rest hd ht =>
    refine ⟨hi, hc, h.cap, h.bound, List.Perm.trans ?_ h.perm⟩
    rw [hd, ← List.append_cons]
    exact (perm_cons_pass _ (perm_cons_pass _ (perm_cons_pass _ (perm_cons_pass _ (List.Perm.refl _))))).append_left _
  | restart =>
    refine ⟨hi, hc, h.cap, Nat.zero_le _, List.Perm.trans ?_ h.perm⟩
    -- the flush splits the memory queue into the records the backend takes and those it refuses
    have hf := List.filter_append_perm (validB cfg) r.q.mem
    simpa only [specGone, openBQ, List.append_assoc, List.nil_append] using
      ((List.perm_append_comm_assoc _ disk _).trans (((List.perm_append_comm.trans hf).append_left disk).trans
        List.perm_append_comm)).append_left (r.taken ++ (r.emptiedMem ++ (gone ++ r.flushLost)))
  | empty =>
    refine ⟨hi, hc, h.cap, Nat.zero_le _, List.Perm.trans ?_ h.perm⟩
    -- the memory queue goes behind `emptiedMem`, the disk content behind `gone`
    have e1 := List.perm_append_comm (l₁ := r.q.mem) (l₂ := gone ++ (disk ++ r.flushLost))
    have e2 := (List.perm_append_comm (l₁ := disk) (l₂ := r.flushLost ++ r.q.mem)).append_left gone
    simp only [List.append_assoc] at e1 e2
    simpa only [specGone, BackedQueue.empty, List.append_assoc, List.nil_append, List.append_nil] using
      (e1.trans e2).append_left (r.taken ++ r.emptiedMem)

theorem ledger_open {cfg : Cfg} {memCap : Nat} {fs : FS} (h : Inv (openBQ memCap cfg fs) []) :
    Ledger cfg memCap { q := openBQ memCap cfg fs } [] [] :=
  ⟨h, openQ_cfg _ _, rfl, Nat.zero_le _, List.Perm.refl _⟩

theorem ledger_fresh (cfg : Cfg) (hok : CfgOk cfg) (memCap : Nat) : Ledger cfg memCap (fresh memCap cfg) [] [] :=
  ledger_open (fresh_inv memCap cfg hok)

/-- the records the history puts, in order -/
def putsOf : List Op → List Bytes
  | [] => []
  | .put b :: ops => b :: putsOf ops
  | _ :: ops => putsOf ops

theorem putsOf_mem {ops : List Op} {b : Bytes} : b ∈ putsOf ops ↔ Op.put b ∈ ops := by
  induction ops with
  | nil => simp [putsOf]
  | cons o ops ih =>
    cases o <;> simp [putsOf, ih]

theorem putsOf_cons (o : Op) (ops : List Op) : putsOf (o :: ops) = putsOf [o] ++ putsOf ops := by
  cases o <;> rfl

/-- every record in the memory queue has a size the backend accepts: a flush loses none -/
def Clean (cfg : Cfg) (r : Run) : Prop := ∀ b ∈ r.q.mem, ValidRec cfg b

theorem ghost_step {cfg : Cfg} {r r' : Run} {disk disk' : List Bytes} {o : Op} (hs : StepR cfg r disk o r' disk') :
    (o ≠ .empty → r'.emptiedMem = r.emptiedMem) ∧ (∀ x ∈ r'.accepted, x ∈ r.accepted ∨ o = .put x) ∧
    (Clean cfg r → (∀ b, o = .put b → ValidRec cfg b) →
      Clean cfg r' ∧ r'.refused = r.refused ∧ r'.flushLost = r.flushLost ∧ r'.accepted = r.accepted ++ putsOf [o]) := by
  have hput : ∀ b x, x ∈ r.accepted ++ [b] → x ∈ r.accepted ∨ Op.put b = .put x := fun b x hx =>
    (List.mem_append.1 hx).imp id (fun h1 => congrArg Op.put (List.mem_singleton.1 h1).symm)
  cases hs with
  | putMem b hm =>
    refine ⟨fun _ => rfl, hput b, fun hc hv => ⟨fun x hx => ?_, rfl, rfl, rfl⟩⟩
    cases List.mem_append.1 hx with
    | inl h1 => exact hc x h1
    | inr h1 => exact List.mem_singleton.1 h1 ▸ hv b rfl
  | putDisk b hm hv => exact ⟨fun _ => rfl, hput b, fun hc _ => ⟨hc, rfl, rfl, rfl⟩⟩
  | putRefused b hm hv => exact ⟨fun _ => rfl, fun x hx => Or.inl hx, fun _ hv' => absurd (hv' b rfl) hv⟩
  | takeMemNil hm => exact ⟨fun _ => rfl, fun x hx => Or.inl hx, fun hc _ => ⟨hc, rfl, rfl, (List.append_nil _).symm⟩⟩
  | takeMemCons b rest hm =>
    refine ⟨fun _ => rfl, fun x hx => Or.inl hx, fun hc _ => ⟨fun x hx => ?_, rfl, rfl, (List.append_nil _).symm⟩⟩
    exact hc x (hm ▸ List.mem_cons_of_mem b hx)
  | takeDiskNil hd ht => exact ⟨fun _ => rfl, fun x hx => Or.inl hx, fun hc _ => ⟨hc, rfl, rfl, (List.append_nil _).symm⟩⟩
  | takeDiskCons d rest hd ht =>
    exact ⟨fun _ => rfl, fun x hx => Or.inl hx, fun hc _ => ⟨hc, rfl, rfl, (List.append_nil _).symm⟩⟩
  | restart =>
    refine ⟨fun _ => rfl, fun x hx => Or.inl hx, fun hc _ => ⟨fun x hx => absurd hx List.not_mem_nil, rfl, ?_,
      (List.append_nil _).symm⟩⟩
    show r.flushLost ++ r.q.mem.filter (fun b => !validB cfg b) = r.flushLost
    rw [(filter_all_valid cfg r.q.mem hc).2, List.append_nil]
  | empty =>
    exact ⟨fun hne => absurd rfl hne, fun x hx => Or.inl hx,
      fun _ _ => ⟨fun x hx => absurd hx List.not_mem_nil, rfl, rfl, (List.append_nil _).symm⟩⟩

theorem ledger_foldl (cfg : Cfg) (memCap : Nat) (ops : List Op) (r : Run) (disk gone : List Bytes)
    (h : Ledger cfg memCap r disk gone) :
    ∃ disk' gone', Ledger cfg memCap (ops.foldl (stepRun cfg) r) disk' gone' ∧
      ((∀ o ∈ ops, o ≠ .empty) → gone' = gone ∧ (ops.foldl (stepRun cfg) r).emptiedMem = r.emptiedMem) ∧
      (∀ x ∈ (ops.foldl (stepRun cfg) r).accepted, x ∈ r.accepted ∨ Op.put x ∈ ops) ∧
      ((∀ b, Op.put b ∈ ops → ValidRec cfg b) → Clean cfg r →
        Clean cfg (ops.foldl (stepRun cfg) r) ∧ (ops.foldl (stepRun cfg) r).refused = r.refused ∧
        (ops.foldl (stepRun cfg) r).flushLost = r.flushLost ∧
        (ops.foldl (stepRun cfg) r).accepted = r.accepted ++ putsOf ops) := by
  induction ops generalizing r disk gone with
  | nil => exact ⟨disk, gone, h, fun _ => ⟨rfl, rfl⟩, fun x hx => Or.inl hx, fun _ hc => ⟨hc, rfl, rfl, (List.append_nil _).symm⟩⟩
  | cons o ops ih =>
    obtain ⟨s1, s2, s3⟩ := ghost_step (stepRun_inv h o).1
    obtain ⟨d, g, hl, p1, p2, p3⟩ := ih _ _ _ (ledger_step h o)
    refine ⟨d, g, hl, fun hne => ?_, fun x hx => ?_, fun hv hc => ?_⟩
    · have ho := hne o List.mem_cons_self
      obtain ⟨e1, e2⟩ := p1 (fun x hx => hne x (List.mem_cons_of_mem o hx))
      refine ⟨e1.trans ?_, e2.trans (s1 ho)⟩
      cases o with
      | empty => exact absurd rfl ho
      | _ => rfl
    · cases p2 x hx with
      | inl h1 => exact (s2 x h1).imp id (fun (e : o = .put x) => e ▸ List.mem_cons_self)
      | inr h1 => exact Or.inr (List.mem_cons_of_mem o h1)
    · obtain ⟨t1, t2, t3, t4⟩ := s3 hc (fun b hb => hv b (hb ▸ List.mem_cons_self))
      obtain ⟨c1, c2, c3, c4⟩ := p3 (fun b hb => hv b (List.mem_cons_of_mem o hb)) t1
      exact ⟨c1, c2.trans t2, c3.trans t3, by rw [List.foldl_cons, c4, t4, List.append_assoc, ← putsOf_cons]⟩

theorem zero_mem_fifo_step {cfg : Cfg} {r r' : Run} {disk disk' gone : List Bytes} {o : Op}
    (hs : StepR cfg r disk o r' disk') (h : Ledger cfg 0 r disk gone) (he : r.accepted = r.taken ++ disk)
    (hne : o ≠ .empty) : r'.accepted = r'.taken ++ disk' := by
  have hmem : r.q.mem = [] := List.eq_nil_of_length_eq_zero (Nat.le_zero.1 h.bound)
  cases hs with
  | putMem b hm => exact absurd (h.cap ▸ hm) (Nat.not_lt_zero _)
  | putDisk b hm hv =>
    show r.accepted ++ [b] = r.taken ++ (disk ++ [b])
    rw [he, List.append_assoc]
  | putRefused b hm hv => exact he
  | takeMemNil hm => exact he
  | takeMemCons b rest hm => exact absurd (hm.symm.trans hmem) (List.cons_ne_nil b rest)
  | takeDiskNil hd ht => exact hd ▸ he
  | takeDiskCons d rest hd ht =>
    show r.accepted = (r.taken ++ [d]) ++ disk'
    rw [he, hd, List.append_assoc]
    rfl
  | restart =>
    show r.accepted = r.taken ++ (disk ++ r.q.mem.filter (validB cfg))
    rw [hmem, List.filter_nil, List.append_nil]
    exact he
  | empty => exact absurd rfl hne

/-- with `--mem-queue-size 0` the whole queue is the disk queue: in histories without `Empty` the records
handed out are a PREFIX of the records accepted (global FIFO) -/
theorem zero_mem_fifo_foldl (cfg : Cfg) (ops : List Op) (hne : ∀ o ∈ ops, o ≠ .empty)
    (r : Run) (disk gone : List Bytes) (h : Ledger cfg 0 r disk gone) (he : r.accepted = r.taken ++ disk) :
    ∃ disk' gone', Ledger cfg 0 (ops.foldl (stepRun cfg) r) disk' gone' ∧
      (ops.foldl (stepRun cfg) r).accepted = (ops.foldl (stepRun cfg) r).taken ++ disk' := by
  induction ops generalizing r disk gone with
  | nil => exact ⟨disk, gone, h, he⟩
  | cons o ops ih =>
    exact ih (fun x hx => hne x (List.mem_cons_of_mem o hx)) _ _ _ (ledger_step h o)
      (zero_mem_fifo_step (stepRun_inv h o).1 h he (hne o List.mem_cons_self))

end Nsq.Proofs.BackedQueue
