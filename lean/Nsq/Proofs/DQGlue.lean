import Nsq.Props.E9DiskQueue
import Nsq.Model.RestartDQ
import Nsq.Proofs.Wire
import Nsq.Proofs.Restart
/-!
Glue between engine E9 (`Props.E9DiskQueue.diskqueue_law`) and the properties whose own models assume
the disk queue (C05 `restart_preserves`, C07 `dq_roundtrip`).  Imports a `Props` module on purpose: the law
itself lives there.
-/
namespace Nsq.Proofs.DQGlue
open Nsq.Model Nsq.Model.Wire Nsq.Model.DiskQueue Nsq.Proofs.DiskQueue Nsq.Props.E9DiskQueue Nsq.Model.RestartDQ

theorem writeAll_eq (cfg : Cfg) (hok : CfgOk cfg) (s0 : St) (l : List Bytes) :
    writeAll s0 l = l.foldl (diskqueue_law cfg hok).put s0 := rfl

theorem drainQ_eq (cfg : Cfg) (hok : CfgOk cfg) : ∀ (n : Nat) (s : St),
    drainQ n s = DQLaw.drain (diskqueue_law cfg hok) n s := by
  intro n
  induction n with
  | zero => intro s; rfl
  | succ n ih =>
    intro s
    show (match (recv s).1 with | some d => d :: drainQ n (recv s).2 | none => []) =
      (match (recv s).1 with | some d => d :: DQLaw.drain (diskqueue_law cfg hok) n (recv s).2 | none => [])
    rw [ih]

theorem put_fresh (cfg : Cfg) (hok : CfgOk cfg) (d : Bytes) (hv : cfg.minMsgSize ≤ d.length ∧ d.length ≤ cfg.maxMsgSize) :
    RepFor cfg.minMsgSize cfg.maxMsgSize (put (openQ cfg FS.empty) d).2 [d] :=
  (diskqueue_law cfg hok).put_law (openQ cfg FS.empty) [] d (fresh_empty cfg hok) hv

theorem writeAll_next_ok (cfg' : Cfg) (hok : CfgOk cfg') (s0 : St) (q : List Bytes)
    (h : RepFor cfg'.minMsgSize cfg'.maxMsgSize s0 q) (l : List Bytes)
    (hv : ∀ x ∈ l, cfg'.minMsgSize ≤ x.length ∧ x.length ≤ cfg'.maxMsgSize) (d : Bytes)
    (hd : cfg'.minMsgSize ≤ d.length ∧ d.length ≤ cfg'.maxMsgSize) : (put (writeAll s0 l) d).1 = .ok := by
  have hp := (diskqueue_law cfg' hok).foldl_put l s0 q h hv
  exact (put_ok_Q hp.1 d ((validRec_iff hp.2.1 hp.2.2 d).mpr hd)).1

theorem filterMap_dec_enc {μ : Type} {a b : Nat} (K : Codec μ a b) (l : List μ) (h : ∀ m ∈ l, K.ok m) :
    (l.map K.enc).filterMap K.dec = l := by
  induction l with
  | nil => rfl
  | cons m l ih =>
    rw [List.map_cons, List.filterMap_cons, K.dec_enc m (h m (by simp))]
    simp only []
    rw [ih (fun x hx => h x (by simp [hx]))]

theorem decAll_cons {μ : Type} (dec : Bytes → Option μ) (b : Bytes) (bs : List Bytes) :
    decAll dec (b :: bs) = (match dec b, decAll dec bs with
      | some m, some ms => some (m :: ms)
      | _, _ => none) := rfl

theorem decAll_map {μ : Type} (dec : Bytes → Option μ) (enc : μ → Bytes) (l : List μ)
    (h : ∀ m ∈ l, dec (enc m) = some m) : decAll dec (l.map enc) = some l := by
  induction l with
  | nil => rfl
  | cons m l ih =>
    rw [List.map_cons, decAll_cons, h m (by simp), ih (fun x hx => h x (by simp [hx]))]

theorem decAll_dec_enc {μ : Type} {a b : Nat} (K : Codec μ a b) (l : List μ) (h : ∀ m ∈ l, K.ok m) :
    decAll K.dec (l.map K.enc) = some l :=
  decAll_map K.dec K.enc l (fun m hm => K.dec_enc m (h m hm))

theorem enc_valid_all {μ : Type} {a b : Nat} (K : Codec μ a b) (l : List μ) (h : ∀ m ∈ l, K.ok m) :
    ∀ d ∈ l.map K.enc, a ≤ d.length ∧ d.length ≤ b :=
  List.forall_mem_map.2 fun m hm => K.valid m (h m hm)

/-- the data part of a restart: what was on the disk queue, then what the shutdown flushed, comes
back — every message, in order, identical — from the files alone -/
theorem flush_reload {μ : Type} (cfg' : Cfg) (hok : CfgOk cfg') (K : Codec μ cfg'.minMsgSize cfg'.maxMsgSize)
    (s0 : St) (disk rest : List μ)
    (h0 : RepFor cfg'.minMsgSize cfg'.maxMsgSize s0 (disk.map K.enc))
    (hr : ∀ m ∈ rest, K.ok m) :
    RepFor cfg'.minMsgSize cfg'.maxMsgSize (openQ cfg' (flushTo K s0 rest)) ((disk ++ rest).map K.enc) := by
  rw [List.map_append]
  exact DQLaw.flush_then_restart (diskqueue_law cfg' hok) s0 _ _ h0 (enc_valid_all K rest hr)

theorem readBack_of_rep {μ : Type} (cfg' : Cfg) (hok : CfgOk cfg') (K : Codec μ cfg'.minMsgSize cfg'.maxMsgSize)
    (fs : FS) (l : List μ) (h : RepFor cfg'.minMsgSize cfg'.maxMsgSize (openQ cfg' fs) (l.map K.enc))
    (hl : ∀ m ∈ l, K.ok m) :
    (∀ n, l.length ≤ n → readBack K cfg' fs n = l) ∧ readAll K cfg' fs = l := by
  have hn : ∀ n, l.length ≤ n → readBack K cfg' fs n = l := by
    intro n hn
    unfold readBack
    rw [drainQ_eq cfg' hok, DQLaw.drain_all (diskqueue_law cfg' hok) _ _ h n (by rw [List.length_map]; exact hn)]
    exact filterMap_dec_enc K l hl
  refine ⟨hn, hn _ ?_⟩
  have hd : (openQ cfg' fs).depth = _ := (diskqueue_law cfg' hok).depth_law _ _ h
  rw [hd, List.length_map]
  exact Nat.le_refl _

theorem readAll_flush {μ : Type} (cfg' : Cfg) (hok : CfgOk cfg') (K : Codec μ cfg'.minMsgSize cfg'.maxMsgSize)
    (s0 : St) (disk rest : List μ) (h0 : RepFor cfg'.minMsgSize cfg'.maxMsgSize s0 (disk.map K.enc))
    (hall : ∀ m ∈ disk ++ rest, K.ok m) : readAll K cfg' (flushTo K s0 rest) = disk ++ rest :=
  (readBack_of_rep cfg' hok K _ _
    (flush_reload cfg' hok K s0 disk rest h0 (fun m hm => hall m (List.mem_append_right _ hm))) hall).2

/-- a history at the level of messages: publish (= `Put` of the encoding), a consumer receive,
`Empty`, `Close` + `New` -/
inductive HOp (μ : Type)
  | pub (m : μ) | recv | empty | reopen

def HOp.toOp {μ : Type} {a b : Nat} (K : Codec μ a b) : HOp μ → Op
  | .pub m => .put (K.enc m)
  | .recv => .recv
  | .empty => .empty
  | .reopen => .reopen

def specH {μ : Type} (q : List μ) : HOp μ → List μ
  | .pub m => q ++ [m]
  | .recv => q.tail
  | .empty => []
  | .reopen => q

theorem specOp_toOp {μ : Type} {a b : Nat} (cfg : Cfg) (ha : cfg.minMsgSize = a) (hb : cfg.maxMsgSize = b)
    (K : Codec μ a b) (q : List μ) (o : HOp μ) (hv : ∀ m, o = .pub m → K.ok m) :
    specOp cfg (q.map K.enc) (o.toOp K) = (specH q o).map K.enc := by
  cases o with
  | pub m =>
    show (if cfg.minMsgSize ≤ (K.enc m).length ∧ (K.enc m).length ≤ cfg.maxMsgSize then q.map K.enc ++ [K.enc m]
      else q.map K.enc) = (q ++ [m]).map K.enc
    rw [ha, hb, if_pos (K.valid m (hv m rfl)), List.map_append]; rfl
  | recv => cases q <;> rfl
  | empty => rfl
  | reopen => rfl

theorem spec_map {μ : Type} {a b : Nat} (cfg : Cfg) (ha : cfg.minMsgSize = a) (hb : cfg.maxMsgSize = b)
    (K : Codec μ a b) :
    ∀ (h : List (HOp μ)), (∀ m, HOp.pub m ∈ h → K.ok m) → ∀ (q : List μ),
    (h.map (HOp.toOp K)).foldl (specOp cfg) (q.map K.enc) = (h.foldl specH q).map K.enc := by
  intro h
  induction h with
  | nil => intro _ q; rfl
  | cons o h ih =>
    intro hv q
    simp only [List.map_cons, List.foldl_cons]
    rw [specOp_toOp cfg ha hb K q o (fun m e => hv m (by rw [e]; exact List.mem_cons_self ..))]
    exact ih (fun m hm => hv m (List.mem_cons_of_mem _ hm)) _

theorem specH_mem {μ : Type} : ∀ (h : List (HOp μ)) (q : List μ) (m : μ),
    m ∈ h.foldl specH q → m ∈ q ∨ HOp.pub m ∈ h := by
  intro h
  induction h with
  | nil => intro q m hm; exact Or.inl hm
  | cons o h ih =>
    intro q m hm
    simp only [List.foldl_cons] at hm
    rcases ih _ m hm with h1 | h1
    · cases o with
      | pub x =>
        rcases List.mem_append.mp h1 with h2 | h2
        · exact Or.inl h2
        · have : m = x := by simpa using h2
          subst this
          exact Or.inr (by simp)
      | recv => exact Or.inl (List.mem_of_mem_tail h1)
      | empty => cases h1
      | reopen => exact Or.inl h1
    · exact Or.inr (by simp [h1])

/-- what nsqd passes to `diskqueue.New`: `minValidMsgLength = 26`, `maxMsgSize = --max-msg-size + 26` -/
def nsqdCfg (maxBody maxBytesPerFile syncEvery : Nat) : Cfg :=
  { maxBytesPerFile := maxBytesPerFile, minMsgSize := 26, maxMsgSize := maxBody + 26, syncEvery := syncEvery }

theorem encode_valid (maxBody : Nat) (m : Wire.Msg) (hid : m.id.length = 16) (hb : m.body.length ≤ maxBody) :
    26 ≤ (encode m).length ∧ (encode m).length ≤ maxBody + 26 := by
  rw [Nsq.Proofs.Wire.encode_length m hid]
  omega

/-- `Message.WriteTo` / `decodeMessage` -/
def wireCodec (maxBody : Nat) : Codec Wire.Msg 26 (maxBody + 26) where
  ok := fun m => m.id.length = 16 ∧ m.body.length ≤ maxBody
  enc := encode
  dec := decode
  dec_enc := fun m h => Nsq.Proofs.Wire.decode_encode m h.1
  valid := fun m h => encode_valid maxBody m h.1 h.2

theorem toWire_id_length (m : Life.Msg) : (toWire m).id.length = 16 :=
  Nsq.Proofs.Wire.beBytes_length 16 m.id

theorem ofWire_toWire (maxBody : Nat) (m : Life.Msg) (h : LifeOk maxBody m) : ofWire (toWire m) = m := by
  obtain ⟨h1, h2, h3, h4, _⟩ := h
  have e1 : beVal (beBytes 16 m.id) = m.id := Nsq.Proofs.Wire.beVal_beBytes_of_lt 16 m.id h1
  have e2 : (BitVec.ofInt 64 m.ts).toInt = m.ts := BitVec.toInt_ofInt_eq_self (by decide) h2 h3
  have e3 : (BitVec.ofNat 16 m.attempts).toNat = m.attempts := by
    rw [BitVec.toNat_ofNat]; exact Nat.mod_eq_of_lt h4
  show ({ id := beVal (beBytes 16 m.id), ts := (BitVec.ofInt 64 m.ts).toInt,
          attempts := (BitVec.ofNat 16 m.attempts).toNat, body := m.body } : Life.Msg) = m
  rw [e1, e2, e3]

/-- the wire codec on `Life.Msg` (id rendered big-endian on 16 bytes) -/
def lifeCodec (maxBody : Nat) : Codec Life.Msg 26 (maxBody + 26) where
  ok := LifeOk maxBody
  enc := fun m => encode (toWire m)
  dec := fun b => (decode b).map ofWire
  dec_enc := by
    intro m h
    rw [Nsq.Proofs.Wire.decode_encode (toWire m) (toWire_id_length m)]
    show some (ofWire (toWire m)) = some m
    rw [ofWire_toWire maxBody m h]
  valid := fun m h => encode_valid maxBody (toWire m) (toWire_id_length m) h.2.2.2.2

theorem reload_topics (memCap : Nat) (p : Nsq.Model.Restart.Persist) :
    (Nsq.Model.Restart.reload memCap p).topics = reloadW (Nsq.Model.Restart.lookupDQ p.dq) p.metadata := rfl

theorem lookupDQ_mem (dq : List (Life.BName × List Life.Msg)) (b : Life.BName) (m : Life.Msg)
    (h : m ∈ Nsq.Model.Restart.lookupDQ dq b) : ∃ e ∈ dq, m ∈ e.2 := by
  unfold Nsq.Model.Restart.lookupDQ at h
  split at h
  · rename_i e he
    exact ⟨e, List.mem_of_find?_eq_some he, h⟩
  · cases h

theorem lookupDQ_all {P : Life.Msg → Prop} {dq : List (Life.BName × List Life.Msg)} (hmsg : ∀ e ∈ dq, ∀ m ∈ e.2, P m)
    {b : Life.BName} {l : List Life.Msg} (h : l.Perm (Nsq.Model.Restart.lookupDQ dq b)) : ∀ m ∈ l, P m := by
  intro m hm
  obtain ⟨e, he, hme⟩ := lookupDQ_mem dq b m (h.mem_iff.mp hm)
  exact hmsg e he m hme

theorem persisted_reloadW (cap : Nat) (look : Life.BName → List Life.Msg)
    (md : List (String × Bool × List (String × Bool))) :
    Life.persisted { memCap := cap, topics := reloadW look md } = md :=
  Nsq.Proofs.Restart.persisted_of_metadata cap md (reloadTopicW look) (reloadChanW look) (fun _ => ⟨rfl, rfl, rfl, rfl⟩)
    (fun _ _ => ⟨rfl, rfl, rfl⟩)

end Nsq.Proofs.DQGlue
