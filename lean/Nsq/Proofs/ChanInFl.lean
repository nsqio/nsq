/-
`in_flight_count` over ALL schedules (atomic ops and the micro-steps `finChan | finClient`,
`guard | deliverArmed`), after fix F13 (`Channel.Empty` subtracts what it dropped instead of
storing 0): a consumer's counter is the number of messages it holds in the in-flight map plus the
number of its FINs that completed on the channel and have not yet run `FinishedMessage`.
In particular it is never negative.

Under `Inv` the in-flight map and the history count the same messages (`Inv.held`), so the equation is kept in the form
`Owes`, which reads the clients, the history and the FIN window and not the messages: what a step does to `outstanding` is
computation.
-/
import Nsq.Proofs.ChanInv
namespace Nsq.Proofs.Chan
open Nsq.Model.Chan

def InFl (c : Chan) : Prop :=
  ∀ cl ∈ c.clients, cl.inFlight = (heldBy c.msgs cl.conn : Int) + (c.pendingFin.count cl.conn : Nat)

def owed (c : Chan) (k : Nat) : Int := outstanding c.hist k + (c.pendingFin.count k : Nat)

def Owes (c : Chan) : Prop := ∀ cl ∈ c.clients, cl.inFlight = owed c cl.conn

theorem inFl_iff {d : Nat} {c : Chan} (hi : Inv d c) : InFl c ↔ Owes c := by
  simp only [InFl, Owes, owed, hi.held]

theorem owes_same {c c' : Chan} (h : Owes c) (hc : c'.clients = c.clients) (ho : ∀ k, owed c' k = owed c k) : Owes c' := by
  intro cl hcl
  rw [hc] at hcl
  exact (h cl hcl).trans (ho cl.conn).symm

theorem owes_updC {c c' : Chan} (h : Owes c) {k : Nat} {f : Client → Client} (δ : Int)
    (hc : c'.clients = updC c.clients k f) (hf : ∀ cl, (f cl).conn = cl.conn ∧ (f cl).inFlight = cl.inFlight + δ)
    (ho : ∀ k', owed c' k' = owed c k' + (if k' = k then δ else 0)) : Owes c' := by
  rw [Owes, hc]
  refine forall_updC h (fun cl _ hk h0 => ?_) (fun cl _ hk h0 => ?_)
  · have := ho cl.conn
    simp only [(hf cl).1, (hf cl).2, hk, if_true] at this h0 ⊢
    omega
  · have := ho cl.conn
    simp only [hk, if_false] at this ⊢
    omega

theorem owes_removeC {c c' : Chan} {k : Nat} (h : Owes c) (hc : c'.clients = removeC c.clients k)
    (ho : ∀ k, owed c' k = owed c k) : Owes c' := by
  intro cl hcl
  rw [hc] at hcl
  exact (h cl (mem_removeC.1 hcl).1).trans (ho cl.conn).symm

theorem owes_enqueue {c : Chan} (h : Owes c) (x : Nat) : Owes (enqueue c x) := by
  rcases enqueue_cases c x with ⟨_, h'⟩ | ⟨_, _, h'⟩ | ⟨_, _, h'⟩ <;> rw [h'] <;> exact owes_same h rfl (fun _ => rfl)

theorem count_cons_int (k a : Nat) (l : List Nat) :
    (((k :: l).count a : Nat) : Int) = (l.count a : Nat) + (if a = k then 1 else 0) := by
  by_cases h : a = k
  · subst h; simp
  · have : (k == a) = false := by simpa using Ne.symm h
    simp [List.count_cons, this, h]

theorem count_erase_int {k : Nat} {l : List Nat} (hk : k ∈ l) (a : Nat) :
    (((l.erase k).count a : Nat) : Int) = (l.count a : Nat) - (if a = k then 1 else 0) := by
  have : (l.erase k).count a = l.count a - if (k == a) = true then 1 else 0 := List.count_erase
  have hpos : a = k → 0 < l.count a := fun h => h ▸ List.count_pos_iff.2 hk
  by_cases h : a = k
  · have hp := hpos h
    subst h; simp at this ⊢; omega
  · have : (k == a) = false := by simpa using Ne.symm h
    simp_all

theorem eff_owes {conf : Conf} {c c' : Chan} {op : Op} {o : Out} (hi : Inv 0 c) (h : Owes c)
    (he : Eff conf c op c' o) : Owes c' := by
  cases he with
  | put id env hf hn =>
    refine owes_enqueue ?_ _
    exact owes_same h rfl (fun _ => rfl)
  | putDeferred | sampleDrop | touch | pause | unpause => exact owes_same h rfl (fun _ => rfl)
  | addClient k mt sm hc hh hp =>
    intro cl hcl
    rcases List.mem_cons.1 hcl with rfl | hcl
    · have : c.pendingFin.count k = 0 := List.count_eq_zero.2 (by simpa using hp)
      simp [owed, outstanding, hi.held, hh, this]
    · exact h cl hcl
  | removeClient | rdyFatal | clsFatal => exact owes_removeC h rfl (fun _ => rfl)
  | rdyIgnored | resplit => exact h
  | rdy | cls | guardOk => exact owes_updC h 0 rfl (fun _ => ⟨rfl, (Int.add_zero _).symm⟩) (fun _ => by simp [owed, outstanding])
  | guardNo k cl hc hr => exact owes_updC h 0 rfl (fun _ => ⟨rfl, (Int.add_zero _).symm⟩) (fun _ => by simp [owed])
  | deliver | deliverArmed =>
    exact owes_updC h 1 rfl (fun _ => ⟨rfl, rfl⟩) (fun k' => by simp only [owed, delivered, outstanding]; split <;> omega)
  | fin k e p d hc hf hl =>
    exact owes_updC h (-1) rfl (fun _ => ⟨rfl, rfl⟩) (fun k' => by
      simp only [owed, finClientPart, finished, outstanding]; split <;> omega)
  | finChan k e p d hc hf hl =>
    exact owes_same h rfl (fun k' => by simp only [owed, finished, outstanding, count_cons_int]; split <;> omega)
  | finClient k hp =>
    exact owes_updC h (-1) rfl (fun _ => ⟨rfl, rfl⟩) (fun k' => by
      have := count_erase_int (List.contains_iff_mem.1 hp) k'
      simp only [owed, finClientPart, this]
      split <;> omega)
  | reqNow k now e p d hc hf hl =>
    refine owes_enqueue ?_ _
    exact owes_updC h (-1) rfl (fun _ => ⟨rfl, rfl⟩) (fun k' => by simp only [owed, outstanding]; split <;> omega)
  | reqLater k delay now e p d hc hf hl hd =>
    exact owes_updC h (-1) rfl (fun _ => ⟨rfl, rfl⟩) (fun k' => by simp only [owed, outstanding]; split <;> omega)
  | scanInFlight t =>
    exact scanInFlight_rel (R := fun a b => Owes a → Owes b) (fun _ h => h) (fun f g h => g (f h)) (fun _ x h => owes_enqueue h x)
      (fun _ _ _ h => owes_updC h (-1) rfl (fun _ => ⟨rfl, rfl⟩) (fun k' => by simp only [owed, outstanding]; split <;> omega)) _ c h
  | scanDeferred t =>
    exact scanDeferred_rel (R := fun a b => Owes a → Owes b) (fun _ h => h) (fun f g h => g (f h)) (fun _ x h => owes_enqueue h x)
      (fun _ _ h => owes_same h rfl (fun _ => rfl)) _ c h
  | empty =>
    intro cl hcl
    obtain ⟨cl0, hcl0, rfl⟩ := List.mem_map.1 hcl
    have h0 := h cl0 hcl0
    have := hi.held cl0.conn
    simp only [owed, outstanding] at h0 ⊢
    omega

theorem step_inFl (conf : Conf) {c : Chan} (hi : Inv 0 c) (h : InFl c) (op : Op) : InFl (step conf c op).1 :=
  (inFl_iff (step_inv conf hi op)).2 (step_keeps ((inFl_iff hi).1 h) (eff_owes hi ((inFl_iff hi).1 h)))

theorem inFl_init (eph : Bool) (cap : Nat) : InFl { ephemeral := eph, memCap := cap } := by
  intro cl hcl; cases hcl

theorem run_invFl (conf : Conf) (ops : List Op) {c : Chan} (hi : Inv 0 c) (h : InFl c) :
    Inv 0 (run conf c ops) ∧ InFl (run conf c ops) :=
  run_keeps (P := fun c => Inv 0 c ∧ InFl c) conf ops
    (fun _ op _ hh => ⟨step_inv conf hh.1 op, step_inFl conf hh.1 hh.2 op⟩) ⟨hi, h⟩

end Nsq.Proofs.Chan
