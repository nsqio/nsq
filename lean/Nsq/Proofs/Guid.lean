import Nsq.Model.Guid
/-!
The four outcomes of `NewGUID`, stated once (`newGUID_cases`), and what follows for the ids handed
out by a sequence of calls: they strictly increase, whatever the clock does.
-/
namespace Nsq.Proofs.Guid
open Nsq.Model.Guid

theorem not_sle {a b : BitVec 64} : (¬ (BitVec.sle a b = true)) ↔ b.toInt < a.toInt := by
  simp [BitVec.sle]

theorem slt_false {a b : BitVec 64} : BitVec.slt a b = false ↔ b.toInt ≤ a.toInt := by
  simp [BitVec.slt]

theorem toInt_of_lt {a : BitVec 64} (h : a.toNat < 2 ^ 63) : a.toInt = a.toNat :=
  BitVec.toInt_eq_toNat_of_lt (Nat.mul_lt_mul_of_pos_left h (by decide))

theorem toNat_le_of_slt_false {a b : BitVec 64} (ha : a.toNat < 2 ^ 63) (hb : b.toNat < 2 ^ 63)
    (h : BitVec.slt a b = false) : b.toNat ≤ a.toNat := by
  have := slt_false.mp h
  rw [toInt_of_lt ha, toInt_of_lt hb] at this
  exact Int.ofNat_le.mp this

theorem and_mask_lt (x : BitVec 64) : (x &&& 4095#64).toNat < 4096 := by
  rw [BitVec.toNat_and]
  exact Nat.lt_succ_of_le Nat.and_le_right

theorem and_mask_of_lt {x : BitVec 64} (h : x.toNat < 4096) : x &&& 4095#64 = x := by
  apply BitVec.eq_of_toNat_eq
  rw [BitVec.toNat_and]
  exact (Nat.and_two_pow_sub_one_eq_mod x.toNat 12).trans (Nat.mod_eq_of_lt h)

theorem toNat_add_one {x : BitVec 64} (h : x.toNat < 4095) : (x + 1#64).toNat = x.toNat + 1 := by
  rw [BitVec.toNat_add]
  exact Nat.mod_eq_of_lt (Nat.lt_trans (Nat.succ_lt_succ h) (by decide))

def nextSeq (f : St) (ts : BitVec 64) : BitVec 64 :=
  (if f.lastTs == ts then f.seq + 1#64 else 0#64) &&& 4095#64

theorem nextSeq_same (f : St) : nextSeq f f.lastTs = (f.seq + 1#64) &&& 4095#64 := by
  unfold nextSeq
  rw [if_pos (beq_self_eq_true _)]

theorem nextSeq_other {f : St} {ts : BitVec 64} (h : f.lastTs ≠ ts) : nextSeq f ts = 0#64 := by
  unfold nextSeq
  rw [if_neg (mt beq_iff_eq.mp h), BitVec.zero_and]

/-- The four outcomes of `NewGUID`, nested like its tests. `ts` and `s` come with their equations so
that a caller can have them in its own terms (`tsOf now`, `f.lastTs`, `f.seq + 1`); the others pass
`rfl rfl`. -/
theorem newGUID_cases (f : St) (now : BitVec 64) {ts s : BitVec 64}
    (ets : ts = BitVec.sshiftRight now 20) (es : s = nextSeq f ts) :
    (BitVec.slt ts f.lastTs = true ∧ newGUID f now = (f, 0#64, .timeBackwards)) ∨
    (BitVec.slt ts f.lastTs = false ∧
      ((f.lastTs = ts ∧ s = 0#64 ∧
          newGUID f now = ({ f with seq := s }, 0#64, .sequenceExpired)) ∨
       ((f.lastTs = ts → s ≠ 0#64) ∧
        ((BitVec.sle (pack ts f.nodeID s) f.lastID = true ∧
            newGUID f now = ({ f with seq := s, lastTs := ts }, 0#64, .idBackwards)) ∨
         (¬ BitVec.sle (pack ts f.nodeID s) f.lastID = true ∧
            newGUID f now = ({ f with seq := s, lastTs := ts, lastID := pack ts f.nodeID s },
              pack ts f.nodeID s, .none)))))) := by
  subst ets es
  unfold newGUID
  simp only []
  generalize BitVec.sshiftRight now 20 = ts
  by_cases h1 : BitVec.slt ts f.lastTs = true
  · exact Or.inl ⟨h1, if_pos h1⟩
  · rw [if_neg h1]
    refine Or.inr ⟨Bool.eq_false_iff.mpr h1, ?_⟩
    by_cases h2 : f.lastTs = ts
    · subst h2
      rw [if_pos (beq_self_eq_true _), nextSeq_same]
      generalize (f.seq + 1#64) &&& 4095#64 = s
      by_cases h3 : s = 0#64
      · exact Or.inl ⟨rfl, h3, if_pos (beq_iff_eq.mpr h3)⟩
      · rw [if_neg (mt beq_iff_eq.mp h3)]
        exact Or.inr ⟨fun _ => h3, (Decidable.em _).imp (fun h => ⟨h, if_pos h⟩) (fun h => ⟨h, if_neg h⟩)⟩
    · rw [if_neg (mt beq_iff_eq.mp h2), nextSeq_other h2]
      exact Or.inr ⟨fun e => absurd e h2,
        (Decidable.em _).imp (fun h => ⟨h, if_pos h⟩) (fun h => ⟨h, if_neg h⟩)⟩

theorem newGUID_success {f : St} {now : BitVec 64} (h : (newGUID f now).2.2 = .none) :
    ∃ ts s, ts = BitVec.sshiftRight now 20 ∧ s = nextSeq f ts ∧ BitVec.slt ts f.lastTs = false ∧
      ¬ BitVec.sle (pack ts f.nodeID s) f.lastID = true ∧
      newGUID f now = ({ f with seq := s, lastTs := ts, lastID := pack ts f.nodeID s },
        pack ts f.nodeID s, .none) := by
  rcases newGUID_cases f now rfl rfl with ⟨-, e⟩ | ⟨ge, ⟨-, -, e⟩ | ⟨-, ⟨-, e⟩ | ⟨gt, e⟩⟩⟩
  · rw [e] at h; cases h
  · rw [e] at h; cases h
  · rw [e] at h; cases h
  · exact ⟨_, _, rfl, rfl, ge, gt, e⟩

theorem newGUID_ok {f : St} {now : BitVec 64} (h : (newGUID f now).2.2 = .none) :
    f.lastID.toInt < (newGUID f now).2.1.toInt ∧ (newGUID f now).1.lastID = (newGUID f now).2.1 := by
  obtain ⟨ts, s, -, -, -, gt, e⟩ := newGUID_success h
  rw [e]
  exact ⟨not_sle.mp gt, rfl⟩

theorem newGUID_ok_shape {f : St} {now : BitVec 64} (h : (newGUID f now).2.2 = .none) :
    ∃ s : BitVec 64, (newGUID f now).2.1 = pack (BitVec.sshiftRight now 20) f.nodeID (s &&& 4095#64) := by
  obtain ⟨ts, s, rfl, rfl, -, -, e⟩ := newGUID_success h
  rw [e]
  exact ⟨_, rfl⟩

theorem newGUID_err {f : St} {now : BitVec 64} (h : (newGUID f now).2.2 ≠ .none) :
    (newGUID f now).1.lastID = f.lastID := by
  rcases newGUID_cases f now rfl rfl with ⟨-, e⟩ | ⟨-, ⟨-, -, e⟩ | ⟨-, ⟨-, e⟩ | ⟨-, e⟩⟩⟩
  · rw [e]
  · rw [e]
  · rw [e]
  · rw [e] at h; exact absurd rfl h

theorem newGUID_lastID_mono (f : St) (now : BitVec 64) :
    f.lastID.toInt ≤ (newGUID f now).1.lastID.toInt := by
  by_cases h : (newGUID f now).2.2 = .none
  · have := newGUID_ok h; rw [this.2]; omega
  · rw [newGUID_err h]; exact Int.le_refl _

theorem nodeID_const (f : St) (now : BitVec 64) : (newGUID f now).1.nodeID = f.nodeID := by
  rcases newGUID_cases f now rfl rfl with ⟨-, e⟩ | ⟨-, ⟨-, -, e⟩ | ⟨-, ⟨-, e⟩ | ⟨-, e⟩⟩⟩ <;> rw [e]

theorem run_cons (f : St) (now : BitVec 64) (rest : List (BitVec 64)) :
    run f (now :: rest) =
      if (newGUID f now).2.2 = .none then (newGUID f now).2.1 :: run (newGUID f now).1 rest
      else run (newGUID f now).1 rest := rfl

theorem generateID_cons (f : St) (now : BitVec 64) (rest : List (BitVec 64)) :
    generateID f (now :: rest) =
      if (newGUID f now).2.2 = .none then ((newGUID f now).1, some (newGUID f now).2.1)
      else generateID (newGUID f now).1 rest := rfl

theorem pairwise_cons_cons {m id : BitVec 64} {l : List (BitVec 64)} (h : m.toInt < id.toInt)
    (ih : (id :: l).Pairwise (fun a b => a.toInt < b.toInt)) :
    (m :: id :: l).Pairwise (fun a b => a.toInt < b.toInt) :=
  List.pairwise_cons.mpr
    ⟨List.forall_mem_cons.mpr ⟨h, fun x hx => Int.lt_trans h ((List.pairwise_cons.mp ih).1 x hx)⟩, ih⟩

theorem run_chain (f : St) (clock : List (BitVec 64)) :
    (f.lastID :: run f clock).Pairwise (fun a b => a.toInt < b.toInt) ∧
    ∀ x ∈ f.lastID :: run f clock, x.toInt ≤ (runSt f clock).lastID.toInt := by
  fun_induction run f clock with
  | case1 => exact ⟨List.pairwise_singleton _ _, List.forall_mem_singleton.mpr (Int.le_refl _)⟩
  | case2 f now rest r hok ih =>
    have ⟨h1, h2⟩ := newGUID_ok hok
    rw [h2] at ih
    have le := ih.2 _ (List.mem_cons_self ..)
    exact ⟨pairwise_cons_cons h1 ih.1,
      List.forall_mem_cons.mpr ⟨Int.le_of_lt (Int.lt_of_lt_of_le h1 le), ih.2⟩⟩
  | case3 f now rest r herr ih =>
    rw [newGUID_err herr] at ih
    exact ih

end Nsq.Proofs.Guid
