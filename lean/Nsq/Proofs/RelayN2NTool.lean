import Nsq.Model.RelayN2NTool
import Nsq.Proofs.Relay
/-!
nsq_to_nsq behind go-nsq's give-up rule: `consume` is `step` except on a delivery the library gives up on
(`consume_cases`), so a `fin` in a history has one of three origins, found with its position by `fin_split_pos`.
-/
namespace Nsq.Proofs.RelayN2NTool
open Nsq.Model.Relay Nsq.Model.Relay.N2N Nsq.Proofs.Relay.N2N

theorem append_split {α : Type} (A B pre post : List α) (x : α) (h : A ++ B = pre ++ x :: post) :
    (∃ q, A = pre ++ x :: q ∧ post = q ++ B) ∨ (∃ p, pre = A ++ p ∧ B = p ++ x :: post) := by
  rcases List.append_eq_append_iff.mp h with ⟨a', h1, h2⟩ | ⟨c', h1, h2⟩
  · exact Or.inr ⟨a', h1, h2⟩
  · cases c' with
    | nil => right; exact ⟨[], by simpa using h1.symm, by simpa using h2.symm⟩
    | cons y ys =>
      simp at h2
      obtain ⟨rfl, rfl⟩ := h2
      exact Or.inl ⟨ys, h1, rfl⟩

theorem consume_cases (c : Cfg) (k : Nat) (st : St) (t : TEv) :
    (∃ m f p ae, t.ev = .msg m f p ae ∧ Http.shouldFail k t.attempts = true ∧ consume c k st t = (st, [Out.fin m.id])) ∨
    consume c k st t = step c st t.ev := by
  unfold consume
  cases hev : t.ev with
  | result i ok => right; rfl
  | msg m f p ae =>
    by_cases hs : Http.shouldFail k t.attempts = true
    · left; exact ⟨m, f, p, ae, rfl, hs, by simp [hs]⟩
    · right; simp [hs]

/-- a configured filter dropped a delivery of that id (`Nsq.Props.C20N2NTool.FilterDropped` over `TEv`) -/
def Dropped (c : Cfg) (tevs : List TEv) (id : Nat) : Prop :=
  c.filterOn = true ∧ ∃ t ∈ tevs, ∃ m pick ae, t.ev = .msg m .drop pick ae ∧ m.id = id

/-- go-nsq gave up on a delivery of that id: `attempts` above a positive `max_attempts = k` -/
def GaveUp (k : Nat) (tevs : List TEv) (id : Nat) : Prop :=
  ∃ t ∈ tevs, ∃ m f p ae, t.ev = .msg m f p ae ∧ m.id = id ∧ Http.shouldFail k t.attempts = true

theorem consumeRun_eq_run (c : Cfg) (k : Nat) (tevs : List TEv) (st : St)
    (hno : ∀ t ∈ tevs, Http.shouldFail k t.attempts = false) :
    consumeRun c k st tevs = run c st (tevs.map (·.ev)) := by
  induction tevs generalizing st with
  | nil => rfl
  | cons t ts ih =>
    have hc : consume c k st t = step c st t.ev := by
      rcases consume_cases c k st t with ⟨_, _, _, _, _, hs, _⟩ | hc
      · rw [hno t (List.mem_cons_self ..)] at hs; cases hs
      · exact hc
    simp only [consumeRun, List.map_cons, run, hc]
    rw [ih _ (fun t' ht' => hno t' (List.mem_cons_of_mem _ ht'))]

theorem run_eq_consumeRun (c : Cfg) (evs : List Ev) (st : St) :
    run c st evs = consumeRun c 0 st (evs.map (fun e => ⟨0, e⟩)) := by
  rw [consumeRun_eq_run c 0 _ st (fun _ _ => by simp [Http.shouldFail]), List.map_map]
  exact congrArg _ (List.map_id' _).symm

/-- Where the published transaction `(a, id, b)` of an `accepted a id` comes from. `outT` is the output of `t`'s own step,
and the trace up to and including it is a prefix of `pre'`, what precedes the `accepted`: the delivery, and the publish it
caused, come before. -/
def OriginAt (c : Cfg) (k : Nat) (st : St) (tevs : List TEv) (pre' : List Out) (a id : Nat) (b : Bytes) : Prop :=
  (⟨a, id, b⟩ : Tx) ∈ st.outstanding ∨
  ∃ ts1 t ts2 outT rest, tevs = ts1 ++ t :: ts2 ∧
    consumeRun c k st (ts1 ++ [t]) = consumeRun c k st ts1 ++ outT ∧ Out.publish a id b ∈ outT ∧
    pre' = consumeRun c k st ts1 ++ outT ++ rest ∧
    ∃ m f p ae, t.ev = .msg m f p ae ∧ m.id = id ∧ (c.filterOn = false → b = m.body) ∧ (c.filterOn = true → f = .pass b)

/-- Every occurrence of `fin id`, with the position of the delivery that caused the accepted publish. Induction on the
history. The `fin` lies in the output of the first event, and that step decides (give-up, filter drop, or the result of a
transaction outstanding at the start); or it lies in the rest, and the induction hypothesis speaks from the next state: an
origin "outstanding at the start of the rest" is taken back through the first step by `step_outstanding`. -/
theorem fin_split_pos (c : Cfg) (k : Nat) (tevs : List TEv) (st : St) (id : Nat) (pre post : List Out)
    (h : consumeRun c k st tevs = pre ++ Out.fin id :: post) :
    (∃ pre' a b, pre = pre' ++ [Out.accepted a id] ∧ OriginAt c k st tevs pre' a id b) ∨ Dropped c tevs id ∨ GaveUp k tevs id := by
  induction tevs generalizing st pre with
  | nil => simp [consumeRun] at h
  | cons t ts ih =>
    unfold consumeRun at h
    rcases append_split _ _ _ _ _ h with ⟨q, hA, _⟩ | ⟨p, hpre, hB⟩
    · rcases consume_cases c k st t with ⟨m, f, pk, ae, hev, hsf, hc⟩ | hc
      · rw [hc] at hA
        -- the output of a give-up is the singleton `[fin m.id]`
        have hid : m.id = id := by
          cases pre with
          | nil => simp at hA; exact hA.1
          | cons x xs => simp at hA
        exact Or.inr (Or.inr ⟨t, List.mem_cons_self .., m, f, pk, ae, hev, hid, hsf⟩)
      · rw [hc] at hA
        rcases step_fin_split c st t.ev id pre q hA with ⟨i, tx, _, ho, hid, hp, _⟩ | ⟨hf, m, pick, ae, hev, hid, _, _⟩
        · left
          refine ⟨[], tx.addr, tx.body, by simpa using hp, Or.inl ?_⟩
          have := List.mem_of_getElem? ho
          rw [← hid]
          exact this
        · exact Or.inr (Or.inl ⟨hf, t, List.mem_cons_self .., m, pick, ae, hev, hid⟩)
    · rcases ih _ p hB with ⟨pre', a, b, hp, horig⟩ | ⟨hf, t', ht', hd⟩ | ⟨t', ht', hg⟩
      · left
        refine ⟨(consume c k st t).2 ++ pre', a, b, by rw [hpre, hp]; simp, ?_⟩
        rcases horig with hin | ⟨ts1, t', ts2, outT, rest, hts, hrun, hpub, hpre', hrest⟩
        · rcases consume_cases c k st t with ⟨m, f, pk, ae, hev, hsf, hc⟩ | hc
          · rw [hc] at hin; exact Or.inl hin
          · have hin' := hin
            rw [hc] at hin'
            rcases step_outstanding c st t.ev _ hin' with hin' | ⟨hpub, m, f, pk, ae, hev, hid, hb, hfl⟩
            · exact Or.inl hin'
            · refine Or.inr ⟨[], t, ts, (consume c k st t).2, pre', rfl, by simp [consumeRun], by rw [hc]; exact hpub,
                by simp [consumeRun], m, f, pk, ae, hev, hid, fun h' => hb h', hfl⟩
        · refine Or.inr ⟨t :: ts1, t', ts2, outT, rest, by rw [hts]; rfl, ?_, hpub, ?_, hrest⟩
          · simp only [List.cons_append, consumeRun, hrun, List.append_assoc]
          · simp only [consumeRun, hpre', List.append_assoc]
      · exact Or.inr (Or.inl ⟨hf, t', List.mem_cons_of_mem _ ht', hd⟩)
      · exact Or.inr (Or.inr ⟨t', List.mem_cons_of_mem _ ht', hg⟩)

end Nsq.Proofs.RelayN2NTool
