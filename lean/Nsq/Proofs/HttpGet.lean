import Nsq.Model.HttpGet
/-!
`queryUnescape` undoes `escapeByte` byte by byte: `escapeByte_cases` gives the three shapes of an escaped byte, and the
three equations of `queryUnescape` read each of them back (`unescape_escapeByte`). `render_split`: a template with one `%s`
renders as a fixed prefix, the argument, a fixed suffix.
-/
namespace Nsq.Proofs.HttpGet
open Nsq.Model.HttpGet

theorem unhex_hexDigit : ∀ n, n < 16 → unhexDigit (hexDigit n) = some n := by decide

theorem hexDigit_unreserved : ∀ n, n < 16 → unreserved (hexDigit n) = true := by decide

theorem unreserved_ne (b : UInt8) (h : unreserved b = true) : b ≠ 37 ∧ b ≠ 43 := by
  constructor
  · intro e; subst e; exact absurd h (by decide)
  · intro e; subst e; exact absurd h (by decide)

theorem toNat_div_lt (x : UInt8) : x.toNat / 16 < 16 := Nat.div_lt_of_lt_mul (UInt8.toNat_lt x)

theorem queryUnescape_other (b : UInt8) (rest : Bytes) (h37 : b ≠ 37) (h43 : b ≠ 43) :
    queryUnescape (b :: rest) = (queryUnescape rest).map (b :: ·) := by
  -- on the left only: a plain `unfold` would open the recursive call on the right as well
  conv => lhs; unfold queryUnescape
  simp only [h37, h43, if_false]

theorem queryUnescape_plus (rest : Bytes) : queryUnescape (43 :: rest) = (queryUnescape rest).map (32 :: ·) := by
  conv => lhs; unfold queryUnescape
  simp

theorem queryUnescape_pct (h l : UInt8) (rest : Bytes) (a c : Nat) (ha : unhexDigit h = some a) (hc : unhexDigit l = some c) :
    queryUnescape (37 :: h :: l :: rest) = (queryUnescape rest).map (UInt8.ofNat (a * 16 + c) :: ·) := by
  conv => lhs; unfold queryUnescape
  simp only [if_true, ha, hc]
  cases queryUnescape rest <;> rfl

theorem escapeByte_cases (x : UInt8) :
    (unreserved x = true ∧ escapeByte x = [x]) ∨ (x = 32 ∧ escapeByte x = [43]) ∨
    escapeByte x = [37, hexDigit (x.toNat / 16), hexDigit (x.toNat % 16)] := by
  unfold escapeByte
  by_cases hu : unreserved x = true
  · exact .inl ⟨hu, if_pos hu⟩
  · by_cases hs : x = 32
    · subst hs; exact .inr (.inl ⟨rfl, by decide⟩)
    · exact .inr (.inr (by rw [if_neg hu, if_neg hs]))

theorem unescape_escapeByte (x : UInt8) (rest : Bytes) :
    queryUnescape (escapeByte x ++ rest) = (queryUnescape rest).map (x :: ·) := by
  rcases escapeByte_cases x with ⟨hu, e⟩ | ⟨rfl, e⟩ | e <;> rw [e]
  · exact queryUnescape_other x rest (unreserved_ne x hu).1 (unreserved_ne x hu).2
  · exact queryUnescape_plus rest
  · show queryUnescape (37 :: hexDigit (x.toNat / 16) :: hexDigit (x.toNat % 16) :: rest) = _
    rw [queryUnescape_pct _ _ rest _ _ (unhex_hexDigit _ (toNat_div_lt x)) (unhex_hexDigit _ (Nat.mod_lt _ (by decide))), Nat.div_add_mod',
      UInt8.ofNat_toNat]

theorem render_split (ps : List Piece) :
    (nargs ps = 0 → ∃ l : Bytes, ∀ arg, render arg ps = l) ∧
    (nargs ps = 1 → ∃ l1 l2 : Bytes, ∀ arg, render arg ps = l1 ++ arg ++ l2) := by
  induction ps with
  | nil => exact ⟨fun _ => ⟨[], fun _ => rfl⟩, fun h => by simp [nargs] at h⟩
  | cons p ps ih =>
    cases p with
    | lit b =>
      constructor
      · intro h
        obtain ⟨l, hl⟩ := ih.1 (by simpa [nargs] using h)
        exact ⟨b :: l, fun arg => by simp [render, hl arg]⟩
      · intro h
        obtain ⟨l1, l2, hl⟩ := ih.2 (by simpa [nargs] using h)
        exact ⟨b :: l1, l2, fun arg => by simp [render, hl arg]⟩
    | arg =>
      constructor
      · intro h; simp [nargs] at h
      · intro h
        obtain ⟨l, hl⟩ := ih.1 (by simpa [nargs] using h)
        exact ⟨[], l, fun arg => by simp [render, hl arg]⟩

end Nsq.Proofs.HttpGet
