/-
C04 (timing half): the whole tick of `queueScanLoop` (`Nsq.Model.Timing.tickLoop`):
never panics, keeps the channel list and every channel's invariant, and a channel handed to a worker
with a clock reading ≥ d holds nothing due at d afterwards (and later rounds keep that).
-/
import Nsq.Proofs.Tick
import Nsq.Model.TickLoop
namespace Nsq.Proofs.TickLoop
open Nsq.Model.PQ Nsq.Model.Timing Nsq.Proofs.PQ Nsq.Proofs.Timing Nsq.Proofs.Tick

def AllInv (cs : List Chan) : Prop := ∀ c ∈ cs, ChanInv c

def ClearAt (cs : List Chan) (i : Nat) (d : Int) : Prop := ∀ c, cs[i]? = some c → nothingDue c d = true

theorem nothingDue_mono {c : Chan} {t d : Int} (h : nothingDue c t = true) (hd : d ≤ t) :
    nothingDue c d = true := by
  rw [nothingDue_iff] at h ⊢
  exact ⟨fun k hk => by have := h.1 k hk; omega, fun k hk => by have := h.2 k hk; omega⟩

/-- a worker pass only removes entries: what was clear at `d` stays clear at `d` -/
theorem scanChannel_keeps {c : Chan} {d : Int} (h : nothingDue c d = true) (t : Int) :
    nothingDue (scanChannel c t).chan d = true := by
  rw [nothingDue_iff] at h ⊢
  rw [scanChannel_chan]
  obtain ⟨g1, e2, _⟩ := scanInFlight_spec c t
  obtain ⟨g2, e1, _⟩ := scanDeferred_spec (scanInFlight c t).chan t
  simp only [late_iff_keys] at h ⊢
  exact ⟨fun x hx => h.1 x (g1.sub x (e1 ▸ hx)), fun x hx => h.2 x (e2 ▸ g2.sub x hx)⟩

theorem scanTick_slot {cs : List Chan} {sel : List Nat} {now : Nat → Int} {i : Nat} {c : Chan}
    (h : (scanTick cs sel now)[i]? = some c) :
    ∃ c0, cs[i]? = some c0 ∧ c = if sel.contains i then (scanChannel c0 (now i)).chan else c0 := by
  simp only [scanTick, List.getElem?_mapIdx, Option.map_eq_some_iff] at h
  obtain ⟨c0, h0, rfl⟩ := h
  exact ⟨c0, h0, rfl⟩

theorem scanTick_allInv {cs : List Chan} (h : AllInv cs) (sel : List Nat) (now : Nat → Int) :
    AllInv (scanTick cs sel now) := by
  intro c hc
  obtain ⟨i, hi⟩ := List.getElem?_of_mem hc
  obtain ⟨c0, h0, rfl⟩ := scanTick_slot hi
  have hc0 := h c0 (List.mem_of_getElem? h0)
  split
  · exact (scanChannel_spec c0 hc0 (now i)).1
  · exact hc0

theorem scanTick_keeps {cs : List Chan} {i : Nat} {d : Int} (h : ClearAt cs i d)
    (sel : List Nat) (now : Nat → Int) : ClearAt (scanTick cs sel now) i d := by
  intro c hc
  obtain ⟨c0, h0, rfl⟩ := scanTick_slot hc
  split
  · exact scanChannel_keeps (h c0 h0) (now i)
  · exact h c0 h0

theorem scanTick_selected {cs : List Chan} (hinv : AllInv cs) {i : Nat} {d : Int} {sel : List Nat}
    {now : Nat → Int} (hs : sel.contains i = true) (hd : d ≤ now i) : ClearAt (scanTick cs sel now) i d := by
  intro c hc
  obtain ⟨c0, h0, rfl⟩ := scanTick_slot hc
  rw [if_pos hs]
  exact nothingDue_mono (scanChannel_spec c0 (hinv c0 (List.mem_of_getElem? h0)) (now i)).2 hd

/-- after the equation: what selection gives, then the conjuncts of `Props.C04Live.tick_total` in its order -/
theorem tickLoop_spec (q pn pd : Nat) (rds : List Round) : ∀ (cs : List Chan), AllInv cs →
    ∃ cs' b k, tickLoop q pn pd cs rds = some (cs', b, k) ∧
      (∀ i d, everSelected q pn pd cs i d rds = true → ClearAt cs' i d) ∧
      cs'.length = cs.length ∧ AllInv cs' ∧
      k ≤ rds.length ∧ (rds ≠ [] → 1 ≤ k) ∧ (b = false → k = rds.length) ∧
      (∀ i d, ClearAt cs i d → ClearAt cs' i d) := by
  induction rds with
  | nil =>
    intro cs hinv
    exact ⟨cs, false, 0, rfl, fun _ _ h => by simp [everSelected] at h, rfl, hinv, Nat.le_refl _,
      fun h => absurd rfl h, fun _ => rfl, fun _ _ h => h⟩
  | cons rd rest ih =>
    intro cs hinv
    obtain ⟨sel, hsel, _⟩ := uniqRands_perm (min q cs.length) cs.length rd.r
    have hinv' := scanTick_allInv hinv sel rd.now
    by_cases hdirty : dirtyCount cs sel rd.now * pd > pn * min q cs.length
    · obtain ⟨cs', b, k, h1, h6, h2, h3, h4, _, h5b, h5⟩ := ih (scanTick cs sel rd.now) hinv'
      refine ⟨cs', b, k + 1, ?_, ?_, ?_, h3, ?_, fun _ => by omega, ?_, ?_⟩
      · simp [tickLoop, hsel, hdirty, h1]
      · intro i d he
        simp only [everSelected, hsel, hdirty, decide_true, Bool.true_and, Bool.or_eq_true,
          Bool.and_eq_true, decide_eq_true_eq] at he
        rcases he with ⟨hs, hd⟩ | he
        · exact h5 i d (scanTick_selected hinv hs hd)
        · exact h6 i d he
      · rw [h2, scanTick_length]
      · simp only [List.length_cons]; omega
      · intro hb; simp only [List.length_cons]; rw [h5b hb]
      · intro i d hc; exact h5 i d (scanTick_keeps hc sel rd.now)
    · refine ⟨scanTick cs sel rd.now, true, 1, ?_, ?_, scanTick_length _ _ _, hinv', ?_, fun _ => Nat.le_refl _,
        fun h => (by cases h), ?_⟩
      · simp [tickLoop, hsel, hdirty]
      · intro i d he
        simp only [everSelected, hsel, hdirty, decide_false, Bool.false_and, Bool.or_false,
          Bool.and_eq_true, decide_eq_true_eq] at he
        exact scanTick_selected hinv he.1 he.2
      · simp
      · intro i d hc; exact scanTick_keeps hc sel rd.now

theorem everSelected_small (q pn pd : Nat) (cs : List Chan) (hn : cs.length ≤ q) (rd : Round) (rest : List Round)
    (i : Nat) (hi : i < cs.length) (d : Int) (hd : d ≤ rd.now i) :
    everSelected q pn pd cs i d (rd :: rest) = true := by
  obtain ⟨sel, hsel, _, _, _, hperm⟩ := uniqRands_perm (min q cs.length) cs.length rd.r
  have hp : sel.Perm (List.range cs.length) := hperm (by omega)
  have hm : i ∈ sel := hp.mem_iff.2 (List.mem_range.2 hi)
  simp [everSelected, hsel, hm, hd]

end Nsq.Proofs.TickLoop
