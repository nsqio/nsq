import Nsq.Model.PQ
/-!
C04 (timing half): the two array heaps of `Nsq.Model.PQ`.

Order: `Hole f n i` says that the priorities `f` are heap-ordered on `[0, n)` up to the value in slot `i` (some heap
agrees with `f` everywhere else). That is the state after `Swap(i, n-1)`, and what `up` and `down` keep: a step puts into
the hole a value that fits there and opens a hole in the slot it took it from (`Hole.move`); when the sift stops, the
value in the hole fits (`Hole.ho`). Everything else a sift does is `Same a b m`: it only swaps below slot `m`.

What the next modules use: `Takes a i p` says of the outcome `p` of a `Pop` / `Remove` of slot `i` that it is the panic
exactly outside the array (`pop1_takes`, `remove1_takes`, `remove2_takes`), and `Took a i r` is what the caller holds of a
result `r` (`Takes.took`, `peekAndShift1_took`, `peekAndShift2_took`); `push_inv`, `push_keys` for `Push`; `pas_none` for a
`PeekAndShift` that does not fire.
-/
namespace Nsq.Proofs.PQ
open Nsq.Model.PQ

def HeapOrd (a : H) : Prop :=
  ∀ k (hk : k < a.size), 0 < k → (a[(k - 1) / 2]'(by omega)).pri ≤ a[k].pri

def IndexOK (a : H) : Prop := ∀ k (hk : k < a.size), a[k].index = (k : Int)

def Inv (a : H) : Prop := HeapOrd a ∧ IndexOK a

def key (e : E) : Nat × Int := (e.id, e.pri)

def keys (a : H) : List (Nat × Int) := a.toList.map key

theorem heapOrdOk_iff (a : H) : heapOrdOk a = true ↔ HeapOrd a := by
  unfold heapOrdOk HeapOrd
  simp only [List.all_eq_true, List.mem_range]
  constructor
  · intro h k hk h0
    have := h k hk
    simp only [hk, dite_true, Bool.or_eq_true, decide_eq_true_eq] at this
    rcases this with h1 | h1
    · omega
    · exact h1
  · intro h k hk
    simp only [hk, dite_true, Bool.or_eq_true, decide_eq_true_eq]
    by_cases h0 : k = 0
    · exact Or.inl h0
    · exact Or.inr (h k hk (by omega))

theorem indexOk_iff (a : H) : indexOk a = true ↔ IndexOK a := by
  unfold indexOk IndexOK
  simp only [List.all_eq_true, List.mem_range]
  constructor
  · intro h k hk
    have := h k hk
    simpa [hk] using this
  · intro h k hk
    simpa [hk] using h k hk

example : heapOrdOk #[⟨7, 1, 0⟩, ⟨8, 5, 1⟩, ⟨9, 3, 2⟩] = true := by decide +kernel
example : indexOk #[⟨7, 1, 0⟩, ⟨8, 5, 1⟩, ⟨9, 3, 2⟩] = true := by decide +kernel
example : heapOrdOk #[⟨7, 4, 0⟩, ⟨8, 5, 1⟩, ⟨9, 3, 2⟩] = false := by decide +kernel
example : indexOk #[⟨7, 1, 0⟩, ⟨8, 5, 2⟩, ⟨9, 3, 1⟩] = false := by decide +kernel

/-- the priorities of `a` as a total function, so that `HO` and `Hole` speak of functions and a swap is an update of
two values; what it returns outside the array (0) is never looked at -/
def P (a : H) (k : Nat) : Int := (a[k]?.map E.pri).getD 0

theorem P_eq (a : H) (k : Nat) (h : k < a.size) : P a k = a[k].pri := by simp [P, h]

theorem getElem?_swp (a : H) (i j : Nat) (hi : i < a.size) (hj : j < a.size) (k : Nat) :
    (swp a i j hi hj)[k]? =
      if k = j then some { a[i] with index := j }
      else if k = i then some { a[j] with index := i } else a[k]? := by
  simp only [swp, Array.getElem?_set]
  by_cases h1 : k = j
  · subst h1; simp
  · by_cases h2 : k = i
    · subst h2; simp [Ne.symm h1, h1]
    · simp [Ne.symm h1, Ne.symm h2, h1, h2]

theorem P_swp (a : H) (i j : Nat) (hi : i < a.size) (hj : j < a.size) (k : Nat) :
    P (swp a i j hi hj) k = if k = j then P a i else if k = i then P a j else P a k := by
  simp only [P, getElem?_swp]
  split
  · simp [hi]
  · split
    · simp [hj]
    · rfl

theorem P_swp_right {a : H} {i j : Nat} {hi : i < a.size} {hj : j < a.size} : P (swp a i j hi hj) j = P a i := by
  rw [P_swp, if_pos rfl]

theorem P_swp_left {a : H} {i j : Nat} {hi : i < a.size} {hj : j < a.size} (hij : i ≠ j) :
    P (swp a i j hi hj) i = P a j := by
  rw [P_swp, if_neg hij, if_pos rfl]

theorem P_swp_ne {a : H} {i j : Nat} {hi : i < a.size} {hj : j < a.size} {k : Nat} (h1 : k ≠ i) (h2 : k ≠ j) :
    P (swp a i j hi hj) k = P a k := by
  rw [P_swp, if_neg h2, if_neg h1]

def HO (f : Nat → Int) (n : Nat) : Prop := ∀ k, k < n → 0 < k → f ((k - 1) / 2) ≤ f k

theorem heapOrd_iff_HO (a : H) : HeapOrd a ↔ HO (P a) a.size := by
  constructor
  · intro h k hk h0
    rw [P_eq a k hk, P_eq a _ (by omega)]
    exact h k hk h0
  · intro h k hk h0
    have := h k hk h0
    rwa [P_eq a k hk, P_eq a _ (by omega)] at this

theorem HO.root_min {f : Nat → Int} {n : Nat} (h : HO f n) (k : Nat) (hk : k < n) : f 0 ≤ f k := by
  induction k using Nat.strongRecOn with
  | _ k ih =>
    by_cases h0 : k = 0
    · subst h0; exact Int.le_refl _
    · have h1 := ih ((k - 1) / 2) (by omega) (by omega)
      have h2 := h k hk (by omega)
      omega

theorem root_min (a : H) (h : HeapOrd a) (k : Nat) (hk : k < a.size) :
    (a[0]'(by omega)).pri ≤ a[k].pri := by
  have := ((heapOrd_iff_HO a).1 h).root_min k hk
  rwa [P_eq a k hk, P_eq a 0 (by omega)] at this

def Hole (f : Nat → Int) (n i : Nat) : Prop := ∃ g, HO g n ∧ ∀ k, k < n → k ≠ i → g k = f k

/-- the value in slot `i` is at most those of its children below `n` -/
def Below (f : Nat → Int) (n i : Nat) : Prop := ∀ k, k < n → 0 < k → (k - 1) / 2 = i → f i ≤ f k

section order
variable {f f' : Nat → Int} {n i : Nat}

theorem HO.hole (h : HO f n) (i : Nat) : Hole f n i := ⟨f, h, fun _ _ _ => rfl⟩

theorem HO.below (h : HO f n) (i : Nat) : Below f n i := fun k hk h0 hp => hp ▸ h k hk h0

theorem HO.mono {m : Nat} (h : HO f n) (hm : m ≤ n) : HO f m := fun k hk h0 => h k (by omega) h0

theorem Hole.congr (h : Hole f n i) (e : ∀ k, k < n → k ≠ i → f' k = f k) : Hole f' n i :=
  let ⟨g, hg, hgf⟩ := h
  ⟨g, hg, fun k hk hki => (hgf k hk hki).trans (e k hk hki).symm⟩

theorem Hole.edge (h : Hole f n i) {k : Nat} (hk : k < n) (h0 : 0 < k) (hki : k ≠ i) (hp : (k - 1) / 2 ≠ i) :
    f ((k - 1) / 2) ≤ f k := by
  obtain ⟨g, hg, e⟩ := h
  rw [← e k hk hki, ← e _ (by omega) hp]
  exact hg k hk h0

theorem Hole.across (h : Hole f n i) (hi0 : 0 < i) {k : Nat} (hk : k < n) (h0 : 0 < k) (hp : (k - 1) / 2 = i) :
    f ((i - 1) / 2) ≤ f k := by
  obtain ⟨g, hg, e⟩ := h
  rw [← e k hk (by omega), ← e _ (by omega) (by omega)]
  exact Int.le_trans (hg i (by omega) hi0) (hp ▸ hg k hk h0)

theorem Hole.ho (h : Hole f n i) (ha : 0 < i → f ((i - 1) / 2) ≤ f i) (hb : Below f n i) : HO f n := by
  intro k hk h0
  by_cases hki : k = i
  · subst hki; exact ha h0
  · by_cases hp : (k - 1) / 2 = i
    · rw [hp]; exact hb k hk h0 hp
    · exact h.edge hk h0 hki hp

/-- The hole moves from `i` to `j`: `f'` puts into slot `i` a value that fits there (`ha` above it, `hb` below) and
differs from `f` only in slots `i` and `j`.  (Filling the hole gives a heap, and a heap has a hole wherever one likes.) -/
theorem Hole.move {j : Nat} (h : Hole f n i) (ha : 0 < i → f ((i - 1) / 2) ≤ f' i)
    (hb : ∀ k, k < n → 0 < k → (k - 1) / 2 = i → f' i ≤ f k)
    (e : ∀ k, k ≠ i → k ≠ j → f' k = f k) : Hole f' n j := by
  have h1 : HO (fun k => if k = i then f' i else f k) n := by
    refine Hole.ho (h.congr fun k _ hki => if_neg hki) (fun h0 => ?_) (fun k hk h0 hp => ?_)
    · show (if (i - 1) / 2 = i then _ else _) ≤ (if i = i then _ else _)
      rw [if_pos rfl, if_neg (by omega)]; exact ha h0
    · show (if i = i then _ else _) ≤ (if k = i then _ else _)
      rw [if_pos rfl, if_neg (by omega)]; exact hb k hk h0 hp
  refine (h1.hole j).congr fun k _ hkj => ?_
  show f' k = if k = i then f' i else f k
  split
  · subst k; rfl
  · exact e k ‹_› hkj

theorem HO.hole_last (h : HO f n) : Hole f (n + 1) n := by
  refine ⟨fun k => if k = n then f ((n - 1) / 2) else f k, fun k hk h0 => ?_, fun k _ hkn => if_neg hkn⟩
  show (if (k - 1) / 2 = n then _ else _) ≤ (if k = n then _ else _)
  rw [if_neg (by omega)]
  split
  · subst k; exact Int.le_refl _
  · exact h k (by omega) h0

end order

theorem Hole.down_step {a : H} {n i c : Nat} {hi : i < a.size} {hc : c < a.size} (h : Hole (P a) n i) (hcn : c < n)
    (hc0 : 0 < c) (hci : (c - 1) / 2 = i) (hlt : P a c ≤ P a i)
    (hm : ∀ k, k < n → 0 < k → (k - 1) / 2 = i → P a c ≤ P a k) :
    Hole (P (swp a i c hi hc)) n c ∧ P (swp a i c hi hc) ((c - 1) / 2) ≤ P (swp a i c hi hc) c := by
  have hic : i ≠ c := by omega
  refine ⟨h.move (fun h0 => ?_) (fun k hk hk0 hp => ?_) fun k => P_swp_ne, ?_⟩
  · rw [P_swp_left hic]; exact h.across h0 hcn hc0 hci
  · rw [P_swp_left hic]; exact hm k hk hk0 hp
  · rw [hci, P_swp_left hic, P_swp_right]; exact hlt

theorem up_HO (a : H) (j : Nat) (hj : j < a.size) {n : Nat} (h : Hole (P a) n j) (hb : Below (P a) n j) :
    HO (P (up a j hj)) n := by
  fun_induction up a j hj with
  | case1 a hj => exact h.ho (fun h0 => absurd h0 (Nat.lt_irrefl 0)) hb
  | case2 a j hj h0 hge =>
    refine h.ho (fun _ => ?_) hb
    rw [P_eq a j hj, P_eq a _ (by omega)]
    exact hge
  | case3 a j hj h0 hlt ih =>
    have hlt' : P a j ≤ P a ((j - 1) / 2) := by
      rw [P_eq a j hj, P_eq a _ (by omega)]
      omega
    have hpj : (j - 1) / 2 ≠ j := by omega
    -- the hole goes to the parent, and the parent's children are above what it now holds
    refine ih
      (h.move (fun _ => ?_) (fun k hk hk0 hp => ?_) fun k h1 h2 => P_swp_ne h2 h1) fun k hk hk0 hp => ?_
    · rw [P_swp_right]; exact Int.le_refl _
    · rw [P_swp_right]; exact h.across (by omega) hk hk0 hp
    · rw [P_swp_left hpj]
      by_cases hkj : k = j
      · subst hkj; rw [P_swp_right]; exact hlt'
      · rw [P_swp_ne (by omega) hkj]
        exact Int.le_trans hlt' (hp ▸ h.edge hk hk0 hkj (by omega))

theorem child_min (tr : Bool) (a : H) (j1 n : Nat) (h1 : j1 < n) (hn : n ≤ a.size) :
    P a (child tr a j1 n h1 hn) ≤ P a j1 ∧
      (j1 + 1 < n → P a (child tr a j1 n h1 hn) ≤ P a (j1 + 1)) := by
  unfold child
  by_cases h2 : j1 + 1 < n
  · have e1 := P_eq a j1 (by omega)
    have e2 := P_eq a (j1 + 1) (by omega)
    simp only [h2, dite_true]
    cases tr
    · simp only [Bool.false_eq_true, if_false]
      split <;> (refine ⟨?_, fun _ => ?_⟩ <;> omega)
    · simp only [if_true]
      split <;> (refine ⟨?_, fun _ => ?_⟩ <;> omega)
  · simp [h2]

theorem child_le (tr : Bool) (a : H) (i n : Nat) (hn : n ≤ a.size) (h1 : 2 * i + 1 < n)
    (k : Nat) (hk : k < n) (hk0 : 0 < k) (hp : (k - 1) / 2 = i) :
    P a (child tr a (2 * i + 1) n h1 hn) ≤ P a k := by
  have hm := child_min tr a (2 * i + 1) n h1 hn
  rcases (show k = 2 * i + 1 ∨ k = 2 * i + 1 + 1 by omega) with e | e
  · subst e; exact hm.1
  · subst e; exact hm.2 hk

/-- The two outcomes `Remove` tells apart: nothing moved and the children of `i` are above it (`up(i)` will repair
the order), or the element moved down and the prefix is a heap. -/
theorem down_hole (tr : Bool) (a : H) (i n : Nat) (hn : n ≤ a.size) (h : Hole (P a) n i) :
    (down tr a i n hn = (a, i) ∧ Below (P a) n i) ∨
      (i < (down tr a i n hn).2 ∧ HO (P (down tr a i n hn).1) n) := by
  fun_induction down tr a i n hn with
  | case1 a i hn h1 hge =>
    have hcl := child_lt tr a (2 * i + 1) n h1 hn
    refine .inl ⟨rfl, fun k hk hk0 hp => Int.le_trans ?_ (child_le tr a i n hn h1 k hk hk0 hp)⟩
    rw [P_eq a i (by omega), P_eq a _ (by omega)]
    exact hge
  | case2 a i hn h1 hlt ih =>
    have hc := child_cases tr a (2 * i + 1) n h1 hn
    have hcl := child_lt tr a (2 * i + 1) n h1 hn
    have hlt' : P a (child tr a (2 * i + 1) n h1 hn) ≤ P a i := by
      rw [P_eq a i (by omega), P_eq a _ (by omega)]
      omega
    have hs := h.down_step (hi := by omega) (hc := by omega) hcl (by omega) (by omega) hlt' (child_le tr a i n hn h1)
    right
    rcases ih hs.1 with ⟨e, hb⟩ | ⟨hm, ho⟩
    · rw [e]
      exact ⟨by omega, hs.1.ho (fun _ => hs.2) hb⟩
    · exact ⟨by omega, ho⟩
  | case3 a i hn h1 => exact .inl ⟨rfl, fun k hk hk0 hp => by omega⟩

theorem indexOK_iff_getElem? (a : H) : IndexOK a ↔ ∀ (k : Nat) (e : E), a[k]? = some e → e.index = (k : Int) := by
  constructor
  · intro h k e hke
    obtain ⟨hk, rfl⟩ := Array.getElem?_eq_some_iff.1 hke
    exact h k hk
  · intro h k hk
    exact h k a[k] (Array.getElem?_eq_getElem hk)

theorem swp_index {a : H} {i j : Nat} {hi : i < a.size} {hj : j < a.size} (h : IndexOK a) :
    IndexOK (swp a i j hi hj) := by
  rw [indexOK_iff_getElem?] at *
  intro k e
  rw [getElem?_swp]
  split
  · rintro ⟨⟩; simp [*]
  · split
    · rintro ⟨⟩; simp [*]
    · exact h k e

theorem swp_keys {a : H} {i j : Nat} {hi : i < a.size} {hj : j < a.size} :
    (keys (swp a i j hi hj)).Perm (keys a) := by
  have e : (swp a i j hi hj).map key = (a.map key).swap i j (by simpa) (by simpa) := by
    simp [swp, Array.swap, Array.map_set, key]
  have := Array.swap_perm (xs := a.map key) (i := i) (j := j) (by simpa) (by simpa)
  rw [← e, Array.perm_iff_toList_perm] at this
  simpa [keys] using this

structure Same (a b : H) (m : Nat) : Prop where
  idx : IndexOK a → IndexOK b
  perm : (keys b).Perm (keys a)
  ge : ∀ k, m ≤ k → b[k]? = a[k]?

theorem Same.refl (a : H) (m : Nat) : Same a a m := ⟨id, .refl _, fun _ _ => rfl⟩

theorem Same.swp {a b : H} {m i j : Nat} {hi : i < a.size} {hj : j < a.size} (h : Same (swp a i j hi hj) b m)
    (him : i < m) (hjm : j < m) : Same a b m where
  idx := fun ok => h.idx (swp_index ok)
  perm := h.perm.trans swp_keys
  ge := fun k hk => by
    rw [h.ge k hk, getElem?_swp, if_neg (by omega), if_neg (by omega)]

theorem Same.trans {a b c : H} {m m' : Nat} (h : Same a b m) (h' : Same b c m') (hm : m' ≤ m) : Same a c m :=
  ⟨h'.idx ∘ h.idx, h'.perm.trans h.perm, fun k hk => (h'.ge k (by omega)).trans (h.ge k hk)⟩

theorem up_same (a : H) (j : Nat) (hj : j < a.size) : Same a (up a j hj) (j + 1) := by
  fun_induction up a j hj with
  | case1 | case2 => exact .refl _ _
  | case3 a j hj h0 hlt ih =>
    exact Same.swp ⟨ih.idx, ih.perm, fun k hk => ih.ge k (by omega)⟩ (by omega) (by omega)

theorem down_same (tr : Bool) (a : H) (i n : Nat) (hn : n ≤ a.size) : Same a (down tr a i n hn).1 n := by
  fun_induction down tr a i n hn with
  | case1 | case3 => exact .refl _ _
  | case2 a i hn h1 hlt ih =>
    have := child_lt tr a (2 * i + 1) n h1 hn
    exact ih.swp (by omega) this

theorem keys_pop (c : H) (hc : 0 < c.size) :
    (key c[c.size - 1] :: keys c.pop).Perm (keys c) := by
  have hne : c.toList ≠ [] := by simpa using Nat.ne_of_gt hc
  have e := List.dropLast_concat_getLast hne
  rw [Array.getLast_toList, Array.back_eq_getElem hc, ← Array.toList_pop] at e
  unfold keys
  rw [← e, List.map_append]
  exact List.perm_append_comm (l₁ := [_])

theorem P_pop_lt (c : H) (k : Nat) (hk : k < c.size - 1) : P c.pop k = P c k := by
  unfold P
  have : k < c.size := by omega
  simp [hk, this]

/-! ### `Swap(i, n-1)`, sift, then take the last: the common core of `Pop` and `Remove` -/

/-- `c` is `a` rearranged (`IndexOK` kept) so that the entry of slot `i` is last and, if `a` was ordered, the slots before it are -/
structure Core (a : H) (i : Nat) (hi : i < a.size) (c : H) : Prop where
  size : c.size = a.size
  idx : IndexOK a → IndexOK c
  ord : HeapOrd a → HO (P c) (a.size - 1)
  perm : (keys c).Perm (keys a)
  last : ∃ e', c[a.size - 1]? = some e' ∧ key e' = key a[i]

/-- what the caller of a `Pop` / `Remove` of slot `i` holds: `r.2` is the entry of that slot, marked `index = -1`, and
`r.1` the rest, a heap with right indices if `a` was one -/
structure Took (a : H) (i : Nat) (r : H × E) : Prop where
  lt : i < a.size
  inv : Inv a → Inv r.1
  perm : (key r.2 :: keys r.1).Perm (keys a)
  same : key r.2 = key a[i]
  index : r.2.index = -1

theorem Took.pri {a : H} {i : Nat} {r : H × E} (h : Took a i r) : r.2.pri = (a[i]'h.lt).pri :=
  congrArg Prod.snd h.same

theorem Took.sub {a : H} {i : Nat} {r : H × E} (h : Took a i r) : ∀ k ∈ keys r.1, k ∈ keys a :=
  fun _ hk => h.perm.mem_iff.1 (List.mem_cons_of_mem _ hk)

theorem Took.stays {a : H} {i : Nat} {r : H × E} (h : Took a i r) {t : Int} (hle : r.2.pri ≤ t)
    (k : Nat × Int) (hk : k ∈ keys a) (ht : t < k.2) : k ∈ keys r.1 := by
  rcases List.mem_cons.1 (h.perm.mem_iff.2 hk) with rfl | h1
  · simp only [key] at ht; omega
  · exact h1

theorem Core.took {a c : H} {i : Nat} {hi : i < a.size} (h : Core a i hi c) (hc : 0 < c.size) :
    Took a i (takeLast c hc) := by
  unfold takeLast
  refine ⟨hi, ?_, ?_, ?_, rfl⟩
  · rintro ⟨h1, h2⟩
    constructor
    · rw [heapOrd_iff_HO]
      intro k hk hk0
      simp only [Array.size_pop] at hk
      rw [P_pop_lt c k hk, P_pop_lt c _ (by omega)]
      exact h.ord h1 k (h.size ▸ hk) hk0
    · have := h.idx h2
      intro k hk
      simp only [Array.getElem_pop]
      exact this k (by simp at hk; omega)
  · exact (keys_pop c hc).trans h.perm
  · obtain ⟨e', he, hk⟩ := h.last
    rw [← h.size] at he
    obtain ⟨_, rfl⟩ := Array.getElem?_eq_some_iff.1 he
    simpa [key] using hk

theorem core_last (a : H) (i : Nat) (hi : i < a.size) (hl : a.size - 1 = i) : Core a i hi a where
  size := rfl
  idx := id
  ord := fun h k hk hk0 => (heapOrd_iff_HO a).1 h k (by omega) hk0
  perm := List.Perm.refl _
  last := ⟨a[i], by subst hl; simp, rfl⟩

theorem swp_hole (a : H) (i : Nat) (hi : i < a.size) (h : HeapOrd a) :
    Hole (P (swp a i (a.size - 1) hi (by omega))) (a.size - 1) i :=
  ((((heapOrd_iff_HO a).1 h).mono (Nat.sub_le _ _)).hole i).congr fun _ hk hki => P_swp_ne hki (by omega)

theorem core_of_same {a c : H} {i : Nat} {hi : i < a.size} (h : Same (swp a i (a.size - 1) hi (by omega)) c (a.size - 1))
    (ho : HeapOrd a → HO (P c) (a.size - 1)) : Core a i hi c where
  size := by simpa [keys] using (h.perm.trans swp_keys).length_eq
  idx := fun ok => h.idx (swp_index ok)
  ord := ho
  perm := h.perm.trans swp_keys
  last := by
    rw [h.ge _ (Nat.le_refl _), getElem?_swp, if_pos rfl]
    exact ⟨_, rfl, rfl⟩

/-- `Swap(i, n-1); down(i, n-1)` keeping the sifted array when the element moved, else `up(i)`
(this covers `remove2`, and `remove1` because `up` on a heap is harmless) -/
theorem core_down_up (tr : Bool) (a : H) (i : Nat) (hi : i < a.size) (hl : ¬ a.size - 1 = i)
    (hb : i < (down tr (swp a i (a.size - 1) hi (by omega)) i (a.size - 1) (by simp)).1.size) :
    Core a i hi
      (up (down tr (swp a i (a.size - 1) hi (by omega)) i (a.size - 1) (by simp)).1 i hb) := by
  have hin : i < a.size - 1 := by omega
  refine core_of_same ((down_same _ _ _ _ _).trans (up_same _ _ _) hin) fun h => ?_
  rcases down_hole tr _ i (a.size - 1) (by simp) (swp_hole a i hi h) with ⟨e, hb⟩ | ⟨_, ho⟩
  · exact up_HO _ _ _ (e ▸ swp_hole a i hi h) (e ▸ hb)
  · exact up_HO _ _ _ (ho.hole i) (ho.below i)

/-- `Swap(i, n-1); down(i, n-1)` without `up`: fine when the element moved (`remove2`), and
for `i = 0` (`pop1`) -/
theorem core_down (tr : Bool) (a : H) (i : Nat) (hi : i < a.size)
    (hm : i = 0 ∨
      i < (down tr (swp a i (a.size - 1) hi (by omega)) i (a.size - 1) (by simp)).2) :
    Core a i hi (down tr (swp a i (a.size - 1) hi (by omega)) i (a.size - 1) (by simp)).1 := by
  refine core_of_same (down_same _ _ _ _ _) fun h => ?_
  rcases down_hole tr _ i (a.size - 1) (by simp) (swp_hole a i hi h) with ⟨e, hb⟩ | ⟨_, ho⟩
  · rw [e] at hm ⊢
    exact (swp_hole a i hi h).ho (fun h0 => by omega) hb
  · exact ho

theorem push_size (a : H) (id : Nat) (pri : Int) : (push a id pri).size = a.size + 1 := by
  unfold push
  rw [up_size]
  simp

theorem P_push_lt (a : H) (x : E) (k : Nat) (hk : k < a.size) : P (a.push x) k = P a k := by
  unfold P
  have : k < a.size + 1 := by omega
  simp [hk, this, Array.getElem_push]

theorem push_inv (a : H) (id : Nat) (pri : Int) (h : Inv a) : Inv (push a id pri) := by
  obtain ⟨h1, h2⟩ := h
  unfold push
  constructor
  · rw [heapOrd_iff_HO, up_size]
    rw [heapOrd_iff_HO] at h1
    rw [Array.size_push]
    exact up_HO _ _ _
      (h1.hole_last.congr fun k _ hk => P_push_lt _ _ k (by omega)) fun k hk hk0 hp => by omega
  · apply (up_same _ _ _).idx
    intro k hk
    simp only [Array.getElem_push]
    split
    · exact h2 k (by assumption)
    · simp only [Array.size_push] at hk
      have : k = a.size := by omega
      simp [this]

theorem push_keys (a : H) (id : Nat) (pri : Int) :
    (keys (push a id pri)).Perm ((id, pri) :: keys a) := by
  unfold push
  refine (up_same _ _ _).perm.trans ?_
  unfold keys
  simp only [Array.toList_push, List.map_append, List.map_cons, List.map_nil]
  exact List.perm_append_comm

/-- `p` is the outcome of a `Pop` / `Remove` of slot `i`: the panic exactly when `i` is outside the array, else
`takeLast` of an array with `Core` -/
def Takes (a : H) (i : Nat) (p : Option (H × E)) : Prop :=
  if hi : i < a.size then ∃ c hc, Core a i hi c ∧ p = some (takeLast c hc) else p = none

theorem Takes.ex {a : H} {i : Nat} {p : Option (H × E)} (h : Takes a i p) (hi : i < a.size) :
    ∃ b e, p = some (b, e) := by
  rw [Takes, dif_pos hi] at h
  obtain ⟨c, hc, _, e⟩ := h
  exact ⟨_, _, e⟩

theorem Takes.took {a : H} {i : Nat} {p : Option (H × E)} {r : H × E} (h : Takes a i p) (hp : p = some r) :
    Took a i r := by
  unfold Takes at h
  split at h
  · obtain ⟨c, hc, hcore, e⟩ := h
    cases e.symm.trans hp
    exact hcore.took hc
  · cases h.symm.trans hp

theorem pop1_takes (a : H) : Takes a 0 (pop1 a) := by
  unfold Takes
  split
  next h =>
    have hs := down_size true (swp a 0 (a.size - 1) h (by omega)) 0 (a.size - 1) (by simp)
    refine ⟨_, ?_, core_down true a 0 h (Or.inl rfl), ?_⟩
    · rw [hs]; simpa using h
    · simp [pop1, h]
  next h => simp [pop1, h]

theorem remove1_takes (a : H) (i : Nat) : Takes a i (remove1 a i) := by
  unfold Takes
  split
  next h =>
    by_cases hl : a.size - 1 = i
    · exact ⟨a, by omega, core_last a i h hl, by simp [remove1, h, hl]⟩
    · have hs := down_size true (swp a i (a.size - 1) h (by omega)) i (a.size - 1) (by simp)
      refine ⟨_, ?_, core_down_up true a i h hl (by rw [hs]; simpa using h), ?_⟩
      · rw [up_size, hs]; simp; omega
      · simp [remove1, h, hl]
  next h => simp [remove1, h]

theorem remove2_takes (a : H) (i : Nat) : Takes a i (remove2 a i) := by
  unfold Takes
  split
  next h =>
    by_cases hl : a.size - 1 = i
    · exact ⟨a, by omega, core_last a i h hl, by simp [remove2, h, hl]⟩
    · have hs := down_size false (swp a i (a.size - 1) h (by omega)) i (a.size - 1) (by simp)
      by_cases hm : i < (down false (swp a i (a.size - 1) h (by omega)) i (a.size - 1) (by simp)).2
      · refine ⟨_, ?_, core_down false a i h (Or.inr hm), ?_⟩
        · rw [hs]; simp; omega
        · simp [remove2, h, hl, hm]
      · refine ⟨_, ?_, core_down_up false a i h hl (by rw [hs]; simpa using h), ?_⟩
        · rw [up_size, hs]; simp; omega
        · simp [remove2, h, hl, hm]
  next h => simp [remove2, h]

theorem pop1_root {a b : H} {e : E} (hp : pop1 a = some (b, e)) :
    ∃ h0 : 0 < a.size, e.pri = a[0].pri ∧ e.id = a[0].id :=
  have h := (pop1_takes a).took hp
  ⟨h.lt, h.pri, congrArg Prod.fst h.same⟩

/-! ### `PeekAndShift(max)` of either heap; `p` is the outcome of its `Pop()` resp. `heap.Remove(pq, 0)` -/

theorem pas_some {a : H} {t : Int} {p : Option (H × E)} {r : H × E}
    (hr : (if h : 0 < a.size then if a[0].pri > t then none else p else none) = some r) :
    (∃ h0 : 0 < a.size, a[0].pri ≤ t) ∧ p = some r := by
  split at hr
  · rename_i h0
    split at hr
    · cases hr
    · exact ⟨⟨h0, by omega⟩, hr⟩
  · cases hr

theorem pas_some_iff {a : H} {t : Int} {p : Option (H × E)} (hp : Takes a 0 p) :
    (∃ b e, (if h : 0 < a.size then if a[0].pri > t then none else p else none) = some (b, e)) ↔
      ∃ h : 0 < a.size, a[0].pri ≤ t := by
  constructor
  · rintro ⟨b, e, hr⟩
    exact (pas_some hr).1
  · rintro ⟨h0, hle⟩
    have : ¬ a[0].pri > t := by omega
    simp only [h0, dite_true, this, if_false]
    exact hp.ex h0

theorem pas_took {a : H} {t : Int} {p : Option (H × E)} {r : H × E} (hp : Takes a 0 p)
    (hr : (if h : 0 < a.size then if a[0].pri > t then none else p else none) = some r) :
    Took a 0 r ∧ r.2.pri ≤ t := by
  obtain ⟨⟨h0, hle⟩, e⟩ := pas_some hr
  exact ⟨hp.took e, (hp.took e).pri ▸ hle⟩

theorem peekAndShift1_some_iff (a : H) (t : Int) :
    (∃ b e, peekAndShift1 a t = some (b, e)) ↔ ∃ h : 0 < a.size, a[0].pri ≤ t :=
  pas_some_iff (pop1_takes a)

theorem peekAndShift2_some_iff (a : H) (t : Int) :
    (∃ b e, peekAndShift2 a t = some (b, e)) ↔ ∃ h : 0 < a.size, a[0].pri ≤ t :=
  pas_some_iff (remove2_takes a 0)

theorem peekAndShift1_took {a : H} {t : Int} {r : H × E} (hr : peekAndShift1 a t = some r) :
    Took a 0 r ∧ r.2.pri ≤ t := pas_took (pop1_takes a) hr

theorem peekAndShift2_took {a : H} {t : Int} {r : H × E} (hr : peekAndShift2 a t = some r) :
    Took a 0 r ∧ r.2.pri ≤ t := pas_took (remove2_takes a 0) hr

theorem pas_none {a : H} {t : Int} {r : Option (H × E)} (ho : HeapOrd a)
    (hiff : (∃ b e, r = some (b, e)) ↔ ∃ h : 0 < a.size, a[0].pri ≤ t) (h : r = none) :
    ∀ k (hk : k < a.size), t < a[k].pri := by
  intro k hk
  have h0 : 0 < a.size := by omega
  have hr := root_min a ho k hk
  by_cases hle : a[0].pri ≤ t
  · obtain ⟨b, e, hs⟩ := hiff.2 ⟨h0, hle⟩
    rw [h] at hs; cases hs
  · omega

end Nsq.Proofs.PQ
