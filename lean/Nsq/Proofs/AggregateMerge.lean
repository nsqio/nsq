import Nsq.Model.Aggregate
import Nsq.Proofs.AggregateSums
import Nsq.Proofs.AggregateFetch
import Nsq.Proofs.Upsert
/-!
The channel map GetNSQDStats builds is exactly the per-node channel reports it returns, grouped by
key (channel name, or "topic:channel" when no topic is selected): one entry per key, made by
folding `ChannelStats.Add` over the reports with that key in order. The map never decides a fault or a report:
`ChanMap.addNode` touches the first entry with the key only, which is every such entry because the keys of the map are
distinct, and its only fault is that of the one `ChannelStats.Add` it makes, whatever the map holds (`addNode_eq`). So on
every tree each loop of GetNSQDStats is its reports, computed with all its faults and without the map (`chanNodes`,
`topicNodes`, `statsNodes`), paired with update-or-append (`Upsert`) of those reports into the map (`*_split`,
`nsqdStats_split`); the failures are the failed `/stats` requests; the grouping is `Upsert.Inv` of that fold.
-/
namespace Nsq.Proofs.AggregateMerge
open Nsq.Model.Aggregate Nsq.Proofs Nsq.Proofs.AggregateSums Nsq.Proofs.AggregateFetch

def lookup (m : ChanMap) (k : String) : Option ChanAgg :=
  match m.find? (·.1 == k) with
  | some kc => some kc.2
  | none => none

/-- `ChannelStats.Add` without the fault. -/
def addPure (c : ChanAgg) (a : ChanNode) : ChanAgg :=
  { c with node := "*", cnt := c.cnt.add a.cnt, paused := c.paused || a.paused,
           nodes := c.nodes ++ [a], clients := c.clients ++ a.clients }

def fresh (a : ChanNode) : ChanAgg := { node := a.node, topic := a.topic, name := a.name }

def chanKey (sel : String) (cn : ChanNode) : String :=
  if sel == "" then cn.topic ++ ":" ++ cn.name else cn.name

theorem chanAgg_add (fx : Fixes) (c : ChanAgg) (a : ChanNode) : c.add fx a =
    if !a.e2e && !fx.nilE2e then .error (.nilDeref "ChannelStats.Add a.E2eProcessingLatency") else .ok (addPure c a) := rfl

theorem chanNodeOf_key (fx : Fixes) (p : Producer) (sel topic : String) (c : Chan) (cn : ChanNode)
    (h : chanNodeOf fx p topic c = .ok cn) :
    chanKey sel cn = (if sel == "" then topic ++ ":" ++ c.name else c.name) := by
  unfold chanNodeOf at h
  cases hc : clientsOf fx p.addr c.clients with
  | error e => simp [hc] at h
  | ok cl =>
    simp only [hc, Except.ok.injEq] at h
    subst h
    rfl

def chansOfTopics (ts : List TopicNode) : List ChanNode := ts.flatMap (·.channels)

def addNodePure (sel : String) : ChanMap → ChanNode → ChanMap :=
  Upsert.upsert Prod.fst (chanKey sel) (fun a => (chanKey sel a, addPure (fresh a) a)) (fun kc a => (kc.1, addPure kc.2 a))

/-- With distinct keys, the first entry under `key` is every such entry; the only fault is that of the one `Add`. -/
theorem addNode_go_eq {fx : Fixes} {key : String} {a : ChanNode} : ∀ {m : ChanMap}, (m.map (·.1)).Nodup →
    m.any (·.1 == key) = true → ChanMap.addNode.go fx key a m =
      if !a.e2e && !fx.nilE2e then .error (.nilDeref "ChannelStats.Add a.E2eProcessingLatency")
      else .ok (m.map (fun kc => if kc.1 == key then (kc.1, addPure kc.2 a) else kc)) := by
  intro m
  induction m with
  | nil => intro _ h; exact Bool.noConfusion h
  | cons kc rest ih =>
    intro hnd hany
    obtain ⟨k, c⟩ := kc
    rw [List.map_cons, List.nodup_cons] at hnd
    unfold ChanMap.addNode.go
    split <;> rename_i hk
    · -- no later entry has the key
      have hrest : rest.map (fun kc => if kc.1 == key then (kc.1, addPure kc.2 a) else kc) = rest :=
        (List.map_congr_left fun kc hkc => if_neg fun (hx : (kc.1 == key) = true) =>
          hnd.1 (beq_iff_eq.1 hk ▸ (beq_iff_eq.1 hx).symm ▸ List.mem_map.2 ⟨kc, hkc, rfl⟩)).trans (List.map_id rest)
      rw [chanAgg_add, List.map_cons, if_pos hk, hrest]
      cases (!a.e2e && !fx.nilE2e) <;> rfl
    · rw [List.any_cons, Bool.or_eq_true] at hany
      rw [ih hnd.2 (hany.resolve_left hk), List.map_cons, if_neg hk]
      cases (!a.e2e && !fx.nilE2e) <;> rfl

theorem addNode_eq {fx : Fixes} {sel : String} {m : ChanMap} {a : ChanNode} (hnd : (m.map (·.1)).Nodup) :
    ChanMap.addNode fx m (chanKey sel a) a =
      if !a.e2e && !fx.nilE2e then .error (.nilDeref "ChannelStats.Add a.E2eProcessingLatency")
      else .ok (addNodePure sel m a) := by
  unfold ChanMap.addNode addNodePure Upsert.upsert
  split <;> rename_i hany
  · exact addNode_go_eq hnd hany
  · rw [chanAgg_add]
    cases (!a.e2e && !fx.nilE2e) <;> rfl

theorem nodup_addNodePure (sel : String) (as : List ChanNode) (m : ChanMap) (h : (m.map (·.1)).Nodup) :
    ((as.foldl (addNodePure sel) m).map (·.1)).Nodup := by
  exact Upsert.nodup_foldl (key := Prod.fst) (keyOf := chanKey sel) (init := fun a => (chanKey sel a, addPure (fresh a) a))
    (step := fun kc a => (kc.1, addPure kc.2 a)) (fun _ _ => rfl) (fun _ => rfl) as m h

/-- The channel reports of one topic object, with every fault of `chansOfTopic`, without the map: a report's
`ChannelStats.Add` faults on its own account. -/
def chanNodes (fx : Fixes) (p : Producer) (topic : String) : List (Option Chan) → Except Fault (List ChanNode)
  | [] => .ok []
  | none :: rest =>
    if fx.nilElems then chanNodes fx p topic rest else .error (.nilDeref "GetNSQDStats channel.Node")
  | some c :: rest =>
    match chanNodeOf fx p topic c with
    | .error e => .error e
    | .ok cn =>
      if !cn.e2e && !fx.nilE2e then .error (.nilDeref "ChannelStats.Add a.E2eProcessingLatency")
      else match chanNodes fx p topic rest with
        | .error e => .error e
        | .ok cns => .ok (cn :: cns)

theorem chansOfTopic_split {fx : Fixes} {p : Producer} {sel topic : String} (chans : List (Option Chan)) :
    ∀ m : ChanMap, (m.map (·.1)).Nodup → chansOfTopic fx p sel topic chans m =
      match chanNodes fx p topic chans with
      | .error e => .error e
      | .ok cns => .ok (cns, cns.foldl (addNodePure sel) m) := by
  induction chans with
  | nil => intro m _; rfl
  | cons c rest ih =>
    intro m hnd
    cases c with
    | none =>
      unfold chansOfTopic chanNodes
      split
      · exact ih m hnd
      · rfl
    | some c =>
      unfold chansOfTopic chanNodes
      cases hcn : chanNodeOf fx p topic c with
      | error e => rfl
      | ok cn =>
        simp only []
        rw [← chanNodeOf_key fx p sel topic c cn hcn, addNode_eq hnd]
        cases (!cn.e2e && !fx.nilE2e)
        · simp only [Bool.false_eq_true, if_false, ih (addNodePure sel m cn) (nodup_addNodePure sel [cn] m hnd)]
          cases chanNodes fx p topic rest <;> rfl
        · rfl

def topicNodes (fx : Fixes) (p : Producer) (sel : String) : List (Option Topic) → Except Fault (List TopicNode)
  | [] => .ok []
  | none :: rest =>
    if fx.nilElems then topicNodes fx p sel rest else .error (.nilDeref "GetNSQDStats topic.Node")
  | some t :: rest =>
    if sel != "" && t.name != sel then topicNodes fx p sel rest
    else
      match chanNodes fx p t.name t.channels with
      | .error e => .error e
      | .ok cns =>
        match topicNodes fx p sel rest with
        | .error e => .error e
        | .ok tns =>
          .ok ({ node := p.addr, hostname := p.hostname, name := t.name, cnt := t.cnt.derive,
                 paused := t.paused, channels := cns, e2e := t.e2e } :: tns)

theorem topicsOfNode_split {fx : Fixes} {p : Producer} {sel : String} (topics : List (Option Topic)) :
    ∀ m : ChanMap, (m.map (·.1)).Nodup → topicsOfNode fx p sel topics m =
      match topicNodes fx p sel topics with
      | .error e => .error e
      | .ok tns => .ok (tns, (chansOfTopics tns).foldl (addNodePure sel) m) := by
  induction topics with
  | nil => intro m _; rfl
  | cons t rest ih =>
    intro m hnd
    cases t with
    | none =>
      unfold topicsOfNode topicNodes
      split
      · exact ih m hnd
      · rfl
    | some t =>
      unfold topicsOfNode topicNodes
      split
      · exact ih m hnd
      · rw [chansOfTopic_split t.channels m hnd]
        cases chanNodes fx p t.name t.channels with
        | error e => rfl
        | ok cns =>
          simp only [ih _ (nodup_addNodePure sel cns m hnd)]
          cases topicNodes fx p sel rest with
          | error e => rfl
          | ok tns => simp only [chansOfTopics, List.flatMap_cons, List.foldl_append]

def statsNodes (fx : Fixes) (w : World) (sel selc : String) (incl : Bool) : List Producer → Except Fault (List TopicNode)
  | [] => .ok []
  | p :: rest =>
    match statsOf w p.addr sel (if sel == "" then "" else selc) incl with
    | none => statsNodes fx w sel selc incl rest
    | some ans =>
      if statsDecodes fx ans then
        match topicNodes fx p sel ans with
        | .error e => .error e
        | .ok tns =>
          match statsNodes fx w sel selc incl rest with
          | .error e => .error e
          | .ok new => .ok (tns ++ new)
      else .error (.nilMapWrite "E2eProcessingLatencyAggregate.UnmarshalJSON p[\"min\"]")

theorem nsqdStatsGo_split {fx : Fixes} {w : World} {sel selc : String} {incl : Bool} (ps : List Producer) :
    ∀ ts (m : ChanMap) f, (m.map (·.1)).Nodup → nsqdStatsGo fx w sel selc incl ps ts m f =
      match statsNodes fx w sel selc incl ps with
      | .error e => .error e
      | .ok new => .ok (ts ++ new, (chansOfTopics new).foldl (addNodePure sel) m,
          f + countFailed (statsAnswers w ps sel selc incl)) := by
  induction ps with
  | nil => intro ts m f _; simp [nsqdStatsGo, statsNodes, chansOfTopics, statsAnswers, countFailed]
  | cons p rest ih =>
    intro ts m f hnd
    unfold nsqdStatsGo statsNodes
    cases ha : statsOf w p.addr sel (if sel == "" then "" else selc) incl with
    | none =>
      simp only [ih ts m (f + 1) hnd, statsAnswers, List.map_cons, ha, countFailed_cons_none, Nat.add_assoc, Nat.add_comm 1]
    | some ans =>
      simp only [nodeAnswer]
      cases statsDecodes fx ans
      · rfl
      · simp only [if_true, topicsOfNode_split ans m hnd]
        cases topicNodes fx p sel ans with
        | error e => rfl
        | ok tns =>
          simp only [ih _ _ f (nodup_addNodePure sel (chansOfTopics tns) m hnd)]
          cases statsNodes fx w sel selc incl rest with
          | error e => rfl
          | ok new =>
            simp only [statsAnswers, List.map_cons, ha, countFailed_cons_some, chansOfTopics, List.flatMap_append,
              List.foldl_append, List.append_assoc]

theorem nsqdStats_split (fx : Fixes) (w : World) (ps : List Producer) (sel selc : String) (incl : Bool) :
    nsqdStats fx w ps sel selc incl =
      match statsNodes fx w sel selc incl ps with
      | .error e => .error e
      | .ok ts => .ok (fetched (statsAnswers w ps sel selc incl) (ts, (chansOfTopics ts).foldl (addNodePure sel) [])) := by
  rw [nsqdStats, nsqdStatsGo_split ps [] [] 0 List.nodup_nil]
  cases statsNodes fx w sel selc incl ps with
  | error e => rfl
  | ok ts => simp only [List.nil_append, Nat.zero_add, ← apply_ite Except.ok, fetched, statsAnswers, List.length_map]

theorem nsqdStats_val {fx : Fixes} {w : World} {ps : List Producer} {sel selc : String} {incl : Bool}
    {r : Fetched (List TopicNode × ChanMap)} (h : nsqdStats fx w ps sel selc incl = .ok r) :
    ∃ ts, fetched (statsAnswers w ps sel selc incl) (ts, (chansOfTopics ts).foldl (addNodePure sel) []) = r := by
  rw [nsqdStats_split] at h
  split at h
  · cases h
  · exact ⟨_, Except.ok.inj h⟩

theorem lookup_fold (sel : String) (cs : List ChanNode) (k : String) :
    lookup (cs.foldl (addNodePure sel) []) k = match cs.filter (fun c => chanKey sel c == k) with
      | [] => none
      | a :: rest => some ((a :: rest).foldl addPure (fresh a)) := by
  have h := Upsert.inv_fold (key := Prod.fst) (keyOf := chanKey sel) (init := fun a => (chanKey sel a, addPure (fresh a) a))
    (step := fun kc a => (kc.1, addPure kc.2 a)) (fun _ _ => rfl) (fun _ => rfl) cs
  have hsnd : ∀ (l : List ChanNode) (b : String × ChanAgg),
      (l.foldl (fun kc a => (kc.1, addPure kc.2 a)) b).2 = l.foldl addPure b.2 := by
    intro l; induction l with
    | nil => intro b; rfl
    | cons a rest ih => intro b; rw [List.foldl_cons, ih]; rfl
  unfold lookup
  rw [show (cs.foldl (addNodePure sel) []).find? (·.1 == k) = _ from h.find k]
  unfold Upsert.entryOf
  cases cs.filter (fun c => chanKey sel c == k) with
  | nil => rfl
  | cons a rest => exact congrArg some (hsnd rest _)

theorem nsqdStats_lookup {fx : Fixes} {w : World} {ps : List Producer} {sel selc : String} {incl : Bool}
    {ts : List TopicNode} {m : ChanMap} {f : Nat}
    (h : nsqdStats fx w ps sel selc incl = .ok (.got (ts, m) f)) (k : String) :
    lookup m k = match (chansOfTopics ts).filter (fun c => chanKey sel c == k) with
      | [] => none
      | a :: rest => some ((a :: rest).foldl addPure (fresh a)) := by
  obtain ⟨ts', hr⟩ := nsqdStats_val h
  cases (fetched_got hr).1
  exact lookup_fold sel _ k

theorem fold_addPure_spec (l : List ChanNode) : ∀ (c : ChanAgg),
    (l.foldl addPure c).cnt = sumFrom c.cnt (l.map (·.cnt)) ∧
    (l.foldl addPure c).clients = c.clients ++ l.flatMap (·.clients) ∧
    (l.foldl addPure c).nodes = c.nodes ++ l ∧
    (l.foldl addPure c).paused = (c.paused || l.any (·.paused)) := by
  induction l with
  | nil => intro c; simp [sumFrom]
  | cons a rest ih =>
    intro c
    obtain ⟨h1, h2, h3, h4⟩ := ih (addPure c a)
    simp only [List.foldl_cons]
    refine ⟨?_, ?_, ?_, ?_⟩
    · simpa [sumFrom, addPure] using h1
    · simpa [addPure, List.append_assoc] using h2
    · simpa [addPure, List.append_assoc] using h3
    · rw [h4]; simp [addPure, Bool.or_assoc]

end Nsq.Proofs.AggregateMerge
