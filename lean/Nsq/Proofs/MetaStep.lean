import Nsq.Model.Meta
/-! The enabled steps of `Model.Meta` (`memEffect`, `pstep`, `step`) as relations: the guards that hold and the
successor as an explicit term, one constructor per branch. The invariants of C06 are proved by `cases` on these and
lifted to `Reach` by `reach_induct`. -/
namespace Nsq.Proofs.Meta
open Nsq.Model.FS Nsq.Model.Meta

variable {β : Type}

inductive MemEff (fix : Bool) (stamp : Nat) (m : Mem) : MemStep → Mem × Nat × List Handler → Prop
  | createTopic {t eph} : hasTopic m t = false →
      MemEff fix stamp m (.createTopic t eph) (m ++ [⟨t, false, eph, false, []⟩], b2n (!eph), [])
  | createChan {t c eph tp} : getTopic m t = some tp → getChan tp c = none →
      MemEff fix stamp m (.createChan t c eph)
        (modTopic m t (fun x => { x with chans := x.chans ++ [⟨c, false, eph, false⟩] }), b2n (!eph), [])
  | delTopicBegin {t tp} : getTopic m t = some tp → tp.exiting = false →
      MemEff fix stamp m (.delTopicBegin t) (modTopic m t (fun x => { x with exiting := true }), b2n (!tp.eph), [])
  | delTopicChan {t c tp ch} : getTopic m t = some tp → tp.exiting = true → getChan tp c = some ch →
      MemEff fix stamp m (.delTopicChan t c) (modTopic m t (fun x => dropChan x c), b2n (!ch.eph && !ch.exiting), [])
  | delTopicUnlink {t tp} : getTopic m t = some tp → tp.exiting = true →
      MemEff fix stamp m (.delTopicUnlink t) (dropTopic m t, 0, if fix && !tp.eph then [⟨.del, stamp⟩] else [])
  | delChanBegin {t c tp ch} : getTopic m t = some tp → getChan tp c = some ch → ch.exiting = false →
      MemEff fix stamp m (.delChanBegin t c)
        (modTopic m t (fun x => modChan x c (fun y => { y with exiting := true })), b2n (!ch.eph), [])
  | delChanUnlink {t c tp ch} : getTopic m t = some tp → getChan tp c = some ch → ch.exiting = true →
      MemEff fix stamp m (.delChanUnlink t c)
        (modTopic m t (fun x => dropChan x c), 0, if fix && !ch.eph then [⟨.del, stamp⟩] else [])
  | pauseTopic {t flag tp} : getTopic m t = some tp →
      MemEff fix stamp m (.pauseTopic t flag)
        (modTopic m t (fun x => { x with paused := flag }), 0, [⟨.pause t none flag, stamp⟩])
  | pauseChan {t c flag tp ch} : getTopic m t = some tp → getChan tp c = some ch →
      MemEff fix stamp m (.pauseChan t c flag)
        (modTopic m t (fun x => modChan x c (fun y => { y with paused := flag })), 0,
          [⟨.pause t (some c) flag, stamp⟩])

theorem of_guard {σ : Type} {c : Prop} [Decidable c] {x y : σ} (h : (if c then none else some x) = some y) :
    ¬c ∧ x = y :=
  (Option.ite_none_left_eq_some.mp h).imp id Option.some.inj

theorem memEffect_inv {fix : Bool} {stamp : Nat} {m : Mem} {ms : MemStep} {r : Mem × Nat × List Handler}
    (h : memEffect fix stamp m ms = some r) : MemEff fix stamp m ms r := by
  cases ms <;> simp only [memEffect] at h
  case createTopic t eph =>
    obtain ⟨hn, rfl⟩ := of_guard h
    exact .createTopic (eq_false_of_ne_true hn)
  case createChan t c eph =>
    split at h
    · cases h
    · next tp hg =>
      obtain ⟨hn, rfl⟩ := of_guard h
      exact .createChan hg (Option.not_isSome_iff_eq_none.mp hn)
  case delTopicBegin t =>
    split at h
    · cases h
    · next tp hg =>
      obtain ⟨hn, rfl⟩ := of_guard h
      exact .delTopicBegin hg (eq_false_of_ne_true hn)
  case delTopicChan t c =>
    split at h
    · cases h
    · next tp hg =>
      split at h
      · cases h
      · next hn =>
        split at h
        · cases h
        · next ch hc => cases h; exact .delTopicChan hg (by simpa using hn) hc
  case delTopicUnlink t =>
    split at h
    · cases h
    · next tp hg =>
      obtain ⟨hn, rfl⟩ := of_guard h
      exact .delTopicUnlink hg (by simpa using hn)
  case delChanBegin t c =>
    split at h
    · cases h
    · next tp hg =>
      split at h
      · cases h
      · next ch hc =>
        obtain ⟨hn, rfl⟩ := of_guard h
        exact .delChanBegin hg hc (eq_false_of_ne_true hn)
  case delChanUnlink t c =>
    split at h
    · cases h
    · next tp hg =>
      split at h
      · cases h
      · next ch hc =>
        obtain ⟨hn, rfl⟩ := of_guard h
        exact .delChanUnlink hg hc (by simpa using hn)
  case pauseTopic t flag =>
    split at h
    · cases h
    · next tp hg => cases h; exact .pauseTopic hg
  case pauseChan t c flag =>
    split at h
    · cases h
    · next tp hg =>
      split at h
      · cases h
      · next ch hc => cases h; exact .pauseChan hg hc

/-- The four steps between the snapshot and the rename; the invariants treat them as one case (`Advance.keeps`). -/
inductive Advance (cd : Codec β) (p : Persist) (fs : FS β) : PStep → Persist → FS β → Prop
  | openTmp {r} : p.phase = .snapped →
      Advance cd p fs (.openTmp r) { p with phase := .opened, tmp := r } (fs.setTmp r (cd.cut 0 (cd.marshal p.done)))
  | writePart {k} : p.phase = .opened ∨ p.phase = .partialW →
      Advance cd p fs (.writePart k) { p with phase := .partialW } (fs.setTmp p.tmp (cd.cut k (cd.marshal p.done)))
  | writeRest : p.phase = .opened ∨ p.phase = .partialW →
      Advance cd p fs .writeRest { p with phase := .written } (fs.setTmp p.tmp (cd.marshal p.done))
  | sync : p.phase = .written → Advance cd p fs .sync { p with phase := .synced } fs

inductive PTrans (cd : Codec β) (s : Sys β) : PStep → Sys β → Prop
  | beginNotify : s.persist = none → s.pending ≠ 0 →
      PTrans cd s .beginNotify
        { s with pending := s.pending - 1, persist := some ⟨none, [], .reading, 0, s.hist.length - 1⟩ }
  | beginHandler {i h} : s.persist = none → s.handlers[i]? = some h →
      PTrans cd s (.beginHandler i)
        { s with handlers := s.handlers.eraseIdx i, persist := some ⟨some h, [], .reading, 0, s.hist.length - 1⟩ }
  | readMore {p e} : s.persist = some p → p.phase = .reading → (snap s.mem)[p.done.length]? = some e →
      PTrans cd s .read { s with persist := some { p with done := p.done ++ [e] } }
  | readDone {p} : s.persist = some p → p.phase = .reading → (snap s.mem)[p.done.length]? = none →
      PTrans cd s .read { s with persist := some { p with phase := .snapped }, taken := s.taken ++ [p.done] }
  | advance {ps p p' fs'} : s.persist = some p → Advance cd p s.fs ps p' fs' →
      PTrans cd s ps { s with persist := some p', fs := fs' }
  | rename {p} : s.persist = some p → p.phase = .synced →
      PTrans cd s .rename
        { s with persist := some { p with phase := .renamedP }, fs := s.fs.renameTmp p.tmp,
                 renamed := s.renamed ++ [p.done] }
  | finish {p} : s.persist = some p → p.phase = .renamedP →
      PTrans cd s .finish
        { s with persist := none,
                 acks := match p.owner with
                         | some h => s.acks ++ [⟨h, p.done⟩]
                         | none => s.acks }

theorem eq_or_eq_of_not_ne_and_ne {α : Type} [DecidableEq α] {x a b : α} (h : ¬(x ≠ a ∧ x ≠ b)) :
    x = a ∨ x = b := by
  by_cases h1 : x = a
  · exact Or.inl h1
  · exact Or.inr (Decidable.not_not.mp (fun h2 => h ⟨h1, h2⟩))

theorem pstep_inv {cd : Codec β} {s s' : Sys β} {ps : PStep} (hs : pstep cd s ps = some s') :
    PTrans cd s ps s' := by
  cases hp : s.persist with
  | none =>
    cases ps <;> simp only [pstep, hp, Option.isSome_none, Bool.false_eq_true, ↓reduceIte, reduceCtorEq] at hs
    case beginNotify =>
      obtain ⟨hn, rfl⟩ := of_guard hs
      exact .beginNotify hp hn
    case beginHandler i =>
      split at hs
      · cases hs
      · next h hg => cases hs; exact .beginHandler hp hg
  | some p =>
    cases ps <;> simp only [pstep, hp, Option.isSome_some, ↓reduceIte, reduceCtorEq] at hs
    case read =>
      split at hs
      · cases hs
      · next hph =>
        split at hs
        · next e he => cases hs; exact .readMore hp (Decidable.not_not.mp hph) he
        · next he => cases hs; exact .readDone hp (Decidable.not_not.mp hph) he
    case openTmp r =>
      obtain ⟨hph, rfl⟩ := of_guard hs
      exact .advance hp (.openTmp (Decidable.not_not.mp hph))
    case writePart k =>
      obtain ⟨hph, rfl⟩ := of_guard hs
      exact .advance hp (.writePart (eq_or_eq_of_not_ne_and_ne hph))
    case writeRest =>
      obtain ⟨hph, rfl⟩ := of_guard hs
      exact .advance hp (.writeRest (eq_or_eq_of_not_ne_and_ne hph))
    case sync =>
      obtain ⟨hph, rfl⟩ := of_guard hs
      exact .advance hp (.sync (Decidable.not_not.mp hph))
    case rename =>
      obtain ⟨hph, rfl⟩ := of_guard hs
      exact .rename hp (Decidable.not_not.mp hph)
    case finish =>
      obtain ⟨hph, rfl⟩ := of_guard hs
      exact .finish hp (Decidable.not_not.mp hph)

inductive STrans (cd : Codec β) (fix : Bool) (s : Sys β) : Step → Sys β → Prop
  | locked : s.alive = true → STrans cd fix s .start { s with lastStart := .locked }
  | fresh : s.alive = false → s.fs.dat = none → STrans cd fix s .start (boot s [])
  | load {b d} : s.alive = false → s.fs.dat = some b → cd.parse b = some d →
      STrans cd fix s .start (boot s (loadDoc d))
  | badFile {b} : s.alive = false → s.fs.dat = some b → cd.parse b = none →
      STrans cd fix s .start { s with lastStart := .badFile }
  | kill : s.alive = true →
      STrans cd fix s .kill
        { s with alive := false, mem := [], pending := 0, handlers := [], persist := none, exiting := false }
  | exitBegin : s.alive = true → s.exiting = false →
      STrans cd fix s .exitBegin
        { s with exiting := true, handlers := s.handlers ++ [⟨.exit, s.hist.length - 1⟩] }
  | exitEnd : s.alive = true → s.exiting = true → s.persist = none → (∀ h ∈ s.handlers, h.kind ≠ .exit) →
      STrans cd fix s .exitEnd
        { s with alive := false, mem := [], pending := 0, handlers := [], persist := none, exiting := false }
  | mem {ms r} : s.alive = true → (needsLock ms = true → s.persist = none) →
      MemEff fix s.hist.length s.mem ms r →
      STrans cd fix s (.mem ms)
        { s with mem := r.1, pending := s.pending + r.2.1, handlers := s.handlers ++ r.2.2, hist := s.hist ++ [r.1] }
  | persist {ps s'} : s.alive = true → PTrans cd s ps s' → STrans cd fix s (.persist ps) s'

theorem step_inv {cd : Codec β} {fix : Bool} {s s' : Sys β} {st : Step} (hs : step cd fix s st = some s') :
    STrans cd fix s st s' := by
  cases st <;> simp only [step] at hs
  case start =>
    split at hs
    · next ha => cases hs; exact .locked ha
    · next ha =>
      have ha := eq_false_of_ne_true ha
      split at hs
      · next hd => cases hs; exact .fresh ha hd
      · next b hd =>
        split at hs
        · next d hp => cases hs; exact .load ha hd hp
        · next hp => cases hs; exact .badFile ha hd hp
  case kill =>
    split at hs
    · next ha => cases hs; exact .kill ha
    · cases hs
  case exitBegin =>
    split at hs
    · cases hs
    · next hc =>
      cases hs
      simp only [Bool.or_eq_true, Bool.not_eq_true', not_or, Bool.not_eq_false, Bool.not_eq_true] at hc
      exact .exitBegin hc.1 hc.2
  case exitEnd =>
    split at hs
    · next hc =>
      cases hs
      simp only [Bool.and_eq_true, Option.isNone_iff_eq_none, List.all_eq_true, bne_iff_ne] at hc
      exact .exitEnd hc.1.1.1 hc.1.1.2 hc.1.2 hc.2
    · cases hs
  case mem ms =>
    split at hs
    · cases hs
    · next ha =>
      split at hs
      · cases hs
      · next hl =>
        split at hs
        · cases hs
        · next r hr =>
          cases hs
          refine .mem (by simpa using ha) (fun hn => ?_) (memEffect_inv hr)
          simpa [hn] using hl
  case persist ps =>
    split at hs
    · cases hs
    · next ha => exact .persist (by simpa using ha) (pstep_inv hs)

theorem reach_induct {cd : Codec β} {fix : Bool} (P : Sys β → Prop) (h0 : P Sys.init)
    (hstep : ∀ s s' st, P s → step cd fix s st = some s' → P s') :
    ∀ s, Reach cd fix s → P s := by
  intro s ⟨steps, hr⟩
  suffices h : ∀ (steps : List Step) (s0 : Sys β), P s0 → run cd fix s0 steps = some s → P s from
    h steps _ h0 hr
  intro steps
  induction steps with
  | nil => intro s0 h0 hr; cases hr; exact h0
  | cons st rest ih =>
    intro s0 h0 hr
    simp only [run] at hr
    split at hr
    · cases hr
    · next s1 h1 => exact ih s1 (hstep _ _ _ h0 h1) hr

end Nsq.Proofs.Meta
