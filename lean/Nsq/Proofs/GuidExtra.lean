import Nsq.Proofs.Guid
/-!
* the 16-character hex rendering is ordered like the (non-negative) ids and uses only `0-9a-f`;
* the three bit fields of an id (timestamp, node, sequence) do not overlap;
* at most 4096 ids are handed out per pseudo-millisecond, and 4096 is reached.
-/
namespace Nsq.Proofs.GuidExtra
open Nsq.Model.Guid Nsq.Proofs.Guid

theorem hexBE_length : ∀ w n, (hexBE w n).length = w := by
  intro w
  induction w with
  | zero => intro n; rfl
  | succ w ih => intro n; rw [hexBE, List.length_append, ih]; rfl

theorem hexDigit_toNat {n : Nat} (h : n < 16) :
    (hexDigit n).toNat = if n < 10 then 48 + n else 87 + n := by
  unfold hexDigit
  split
  · rw [Nat.toUInt8_eq, UInt8.toNat_ofNat']
    exact Nat.mod_eq_of_lt (by omega)
  · rw [Nat.toUInt8_eq, UInt8.toNat_ofNat']
    exact Nat.mod_eq_of_lt (by omega)

theorem hexDigit_strictMono {a b : Nat} (hb : b < 16) (hab : a < b) : hexDigit a < hexDigit b := by
  rw [UInt8.lt_iff_toNat_lt, hexDigit_toNat hb, hexDigit_toNat (Nat.lt_trans hab hb)]
  split
  · split
    · omega
    · omega
  · split
    · omega
    · omega

theorem lt_append_of_length_eq {α : Type} [LT α] {l₁ l₂ : List α} (x y : List α)
    (h : l₁ < l₂) (hl : l₁.length = l₂.length) : l₁ ++ x < l₂ ++ y := by
  rw [← List.lex_lt] at h ⊢
  induction h with
  | nil => simp at hl
  | rel h => exact List.Lex.rel h
  | cons _ ih => exact List.Lex.cons (ih (by simpa using hl))

theorem hexBE_strictMono (w : Nat) (a b : Nat) (hb : b < 16 ^ w) (hab : a < b) :
    hexBE w a < hexBE w b := by
  induction w generalizing a b with
  | zero => simp at hb; omega
  | succ w ih =>
    rw [hexBE, hexBE]
    rw [Nat.pow_succ] at hb
    by_cases hq : a / 16 < b / 16
    · exact lt_append_of_length_eq _ _ (ih _ _ (Nat.div_lt_of_lt_mul (Nat.mul_comm _ _ ▸ hb)) hq)
        (by rw [hexBE_length, hexBE_length])
    · have hq' : a / 16 = b / 16 := Nat.le_antisymm (Nat.div_le_div_right (Nat.le_of_lt hab)) (Nat.le_of_not_lt hq)
      rw [hq']
      apply List.append_left_lt
      apply List.lex_lt.mp
      exact List.Lex.rel (hexDigit_strictMono (Nat.mod_lt _ (by decide)) (by omega))

theorem hexBE_inj (w : Nat) : ∀ a b : Nat, a < 16 ^ w → b < 16 ^ w → hexBE w a = hexBE w b → a = b := by
  intro a b ha hb h
  rcases Nat.lt_trichotomy a b with lt | eq | gt
  · exact absurd (h ▸ hexBE_strictMono w a b hb lt) (List.lt_irrefl _)
  · exact eq
  · exact absurd (h ▸ hexBE_strictMono w b a ha gt) (List.lt_irrefl _)

theorem hex_strictMono (a b : BitVec 64) (ha : 0 ≤ a.toInt) (hab : a.toInt < b.toInt) :
    hex a < hex b := by
  have hb : 0 ≤ b.toInt := Int.le_trans ha (Int.le_of_lt hab)
  rw [BitVec.toInt_eq_toNat_of_lt (BitVec.toInt_pos_iff.mp ha),
    BitVec.toInt_eq_toNat_of_lt (BitVec.toInt_pos_iff.mp hb)] at hab
  exact hexBE_strictMono 16 _ _ b.isLt (Int.ofNat_lt.mp hab)

theorem hexDigit_charset {n : Nat} (h : n < 16) :
    (48 ≤ (hexDigit n).toNat ∧ (hexDigit n).toNat ≤ 57) ∨
    (97 ≤ (hexDigit n).toNat ∧ (hexDigit n).toNat ≤ 102) := by
  rw [hexDigit_toNat h]
  split
  · omega
  · omega

theorem hexBE_charset (w n : Nat) : ∀ c ∈ hexBE w n,
    (48 ≤ c.toNat ∧ c.toNat ≤ 57) ∨ (97 ≤ c.toNat ∧ c.toNat ≤ 102) := by
  induction w generalizing n with
  | zero => intro c hc; cases hc
  | succ w ih =>
    intro c hc
    rw [hexBE, List.mem_append, List.mem_singleton] at hc
    rcases hc with hc | rfl
    · exact ih _ c hc
    · exact hexDigit_charset (Nat.mod_lt _ (by decide))

theorem hex_charset (g : BitVec 64) : ∀ c ∈ hex g,
    (48 ≤ c.toNat ∧ c.toNat ≤ 57) ∨ (97 ≤ c.toNat ∧ c.toNat ≤ 102) :=
  hexBE_charset 16 g.toNat

theorem or_fields {t n s : Nat} (hn : n < 1024) (hs : s < 4096) :
    (t <<< 22 ||| n <<< 12) ||| s = s + (n + t * 1024) * 4096 := by
  rw [Nat.or_assoc, ← Nat.shiftLeft_add_eq_or_of_lt (i := 12) hs n,
    ← Nat.shiftLeft_add_eq_or_of_lt (i := 22) (by omega) t]
  omega

/-- the id as a number: sequence, node and time are its digits to the bases 4096 and 1024 -/
theorem pack_toNat (ts node seq : BitVec 64) (hts : (ts - twepoch).toNat < 2 ^ 41)
    (hn : node.toNat < 1024) (hs : seq.toNat < 4096) :
    (pack ts node seq).toNat = seq.toNat + (node.toNat + (ts - twepoch).toNat * 1024) * 4096 := by
  unfold pack
  generalize ts - twepoch = t at hts ⊢
  -- neither shift loses a bit
  rw [BitVec.toNat_or, BitVec.toNat_or, BitVec.toNat_shiftLeft, BitVec.toNat_shiftLeft,
    Nat.mod_eq_of_lt (by omega), Nat.mod_eq_of_lt (by omega)]
  exact or_fields hn hs

theorem pack_toInt (ts node seq : BitVec 64) (hts : (ts - twepoch).toNat < 2 ^ 41)
    (hn : node.toNat < 1024) (hs : seq.toNat < 4096) :
    (pack ts node seq).toInt =
      (seq.toNat + (node.toNat + (ts - twepoch).toNat * 1024) * 4096 : Nat) := by
  have h := pack_toNat ts node seq hts hn hs
  rw [toInt_of_lt (by omega), h]

theorem pack_unpack (ts node seq : BitVec 64) (hts : (ts - twepoch).toNat < 2 ^ 41)
    (hn : node.toNat < 1024) (hs : seq.toNat < 4096) :
    0 ≤ (pack ts node seq).toInt ∧
    (pack ts node seq).toNat / 2 ^ 22 = (ts - twepoch).toNat ∧
    (pack ts node seq).toNat / 2 ^ 12 % 1024 = node.toNat ∧
    (pack ts node seq).toNat % 4096 = seq.toNat := by
  have low : (pack ts node seq).toNat / 4096 = node.toNat + (ts - twepoch).toNat * 1024 := by
    rw [pack_toNat ts node seq hts hn hs, Nat.add_mul_div_right _ _ (by decide),
      Nat.div_eq_of_lt hs, Nat.zero_add]
  refine ⟨?_, ?_, ?_, ?_⟩
  · rw [pack_toInt ts node seq hts hn hs]
    exact Int.natCast_nonneg _
  · rw [← Nat.div_div_eq_div_mul _ 4096 1024, low, Nat.add_mul_div_right _ _ (by decide),
      Nat.div_eq_of_lt hn, Nat.zero_add]
  · rw [low, Nat.add_mul_mod_self_right, Nat.mod_eq_of_lt hn]
  · rw [pack_toNat ts node seq hts hn hs, Nat.add_mul_mod_self_right, Nat.mod_eq_of_lt hs]

theorem pack_injective (ts ts' node node' seq seq' : BitVec 64)
    (hts : (ts - twepoch).toNat < 2 ^ 41) (hn : node.toNat < 1024) (hs : seq.toNat < 4096)
    (hts' : (ts' - twepoch).toNat < 2 ^ 41) (hn' : node'.toNat < 1024) (hs' : seq'.toNat < 4096)
    (h : pack ts node seq = pack ts' node' seq') : ts = ts' ∧ node = node' ∧ seq = seq' := by
  obtain ⟨-, t1, n1, s1⟩ := pack_unpack ts node seq hts hn hs
  obtain ⟨-, t2, n2, s2⟩ := pack_unpack ts' node' seq' hts' hn' hs'
  rw [h] at t1 n1 s1
  exact ⟨(BitVec.sub_left_inj twepoch).mp (BitVec.eq_of_toNat_eq (t1.symm.trans t2)),
    BitVec.eq_of_toNat_eq (n1.symm.trans n2), BitVec.eq_of_toNat_eq (s1.symm.trans s2)⟩

theorem run_nodup (f : St) (clock : List (BitVec 64)) : (run f clock).Nodup := by
  refine List.Pairwise.imp ?_ (List.pairwise_cons.mp (run_chain f clock).1).2
  intro a b hab heq
  subst heq
  omega

theorem run_mem_shape (f : St) (clock : List (BitVec 64)) :
    ∀ x ∈ run f clock, ∃ now ∈ clock, ∃ s : BitVec 64,
      x = pack (BitVec.sshiftRight now 20) f.nodeID (s &&& 4095#64) := by
  fun_induction run f clock with
  | case1 => intro x hx; cases hx
  | case2 f now rest r hok ih =>
    refine List.forall_mem_cons.mpr ⟨?_, fun x hx => ?_⟩
    · obtain ⟨s, hs⟩ := newGUID_ok_shape hok
      exact ⟨now, List.mem_cons_self .., s, hs⟩
    · obtain ⟨n, hn, s, hs⟩ := ih x hx
      exact ⟨n, List.mem_cons_of_mem _ hn, s, by rw [hs, nodeID_const]⟩
  | case3 f now rest r herr ih =>
    intro x hx
    obtain ⟨n, hn, s, hs⟩ := ih x hx
    exact ⟨n, List.mem_cons_of_mem _ hn, s, by rw [hs, nodeID_const]⟩

def slots (ts node : BitVec 64) : List (BitVec 64) :=
  (List.range 4096).map (fun k => pack ts node (BitVec.ofNat 64 k))

theorem mem_slots (ts node s : BitVec 64) : pack ts node (s &&& 4095#64) ∈ slots ts node :=
  List.mem_map.mpr ⟨(s &&& 4095#64).toNat, List.mem_range.mpr (and_mask_lt s),
    by rw [BitVec.ofNat_toNat, BitVec.setWidth_eq]⟩

theorem burst_4096 (f : St) (ts : BitVec 64) (clock : List (BitVec 64))
    (h : ∀ now ∈ clock, BitVec.sshiftRight now 20 = ts) : (run f clock).length ≤ 4096 := by
  have sub : run f clock ⊆ slots ts f.nodeID := by
    intro x hx
    obtain ⟨now, hnow, s, rfl⟩ := run_mem_shape f clock x hx
    rw [h now hnow]
    exact mem_slots ts f.nodeID s
  have := (run_nodup f clock).length_le_of_subset sub
  rwa [slots, List.length_map, List.length_range] at this

theorem pack_lt_pack {ts node s s' : BitVec 64} (hts : (ts - twepoch).toNat < 2 ^ 41)
    (hn : node.toNat < 1024) (hs : s.toNat < s'.toNat) (hs' : s'.toNat < 4096) :
    (pack ts node s).toInt < (pack ts node s').toInt := by
  rw [pack_toInt ts node s hts hn (Nat.lt_trans hs hs'), pack_toInt ts node s' hts hn hs']
  exact Int.ofNat_lt.mpr (Nat.add_lt_add_right hs _)

theorem newGUID_next (f : St) (now : BitVec 64)
    (hts : f.lastTs = BitVec.sshiftRight now 20)
    (hid : f.lastID = pack f.lastTs f.nodeID f.seq)
    (hr : (f.lastTs - twepoch).toNat < 2 ^ 41) (hn : f.nodeID.toNat < 1024)
    (hk : f.seq.toNat < 4095) :
    newGUID f now =
      ({ f with seq := f.seq + 1#64, lastID := pack f.lastTs f.nodeID (f.seq + 1#64) },
        pack f.lastTs f.nodeID (f.seq + 1#64), .none) := by
  have h1 : (f.seq + 1#64).toNat = f.seq.toNat + 1 := toNat_add_one hk
  have lt1 : f.seq.toNat < (f.seq + 1#64).toNat := h1 ▸ Nat.lt_succ_self _
  have lt2 : (f.seq + 1#64).toNat < 4096 := h1 ▸ Nat.succ_lt_succ hk
  have es : f.seq + 1#64 = nextSeq f f.lastTs := by rw [nextSeq_same, and_mask_of_lt lt2]
  rcases newGUID_cases f now hts es with ⟨lt, -⟩ | ⟨-, ⟨-, s0, -⟩ | ⟨-, ⟨le, -⟩ | ⟨-, e⟩⟩⟩
  · exact absurd (BitVec.slt_iff_toInt_lt.mp lt) (Int.lt_irrefl _)
  · rw [s0] at h1
    exact absurd h1.symm (Nat.succ_ne_zero _)
  · rw [hid] at le
    exact absurd le (not_sle.mpr (pack_lt_pack hr hn lt1 lt2))
  · exact e

theorem run_replicate_length (now : BitVec 64) (j : Nat) : ∀ (f : St),
    f.lastTs = BitVec.sshiftRight now 20 →
    f.lastID = pack f.lastTs f.nodeID f.seq →
    (f.lastTs - twepoch).toNat < 2 ^ 41 → f.nodeID.toNat < 1024 →
    f.seq.toNat + j ≤ 4095 →
    (run f (List.replicate j now)).length = j := by
  induction j with
  | zero => intro f _ _ _ _ _; rfl
  | succ j ih =>
    intro f hts hid hr hn hj
    have hk : f.seq.toNat < 4095 := by omega
    have hstep := newGUID_next f now hts hid hr hn hk
    have h1 : (f.seq + 1#64).toNat = f.seq.toNat + 1 := toNat_add_one hk
    rw [List.replicate_succ, run_cons, hstep, if_pos rfl, List.length_cons]
    congr 1
    exact ih _ hts rfl hr hn (by show (f.seq + 1#64).toNat + j ≤ 4095; omega)

def tightSt0 : St := { nodeID := 7#64, seq := 0#64, lastTs := 0#64, lastID := 0#64 }
def tightNow : BitVec 64 := 1700000000000000000#64

/-- 4096 successive calls at the same clock reading from a fresh state all return an id: the first opens the
pseudo-millisecond with sequence number 0, the other 4095 are `newGUID_next`. -/
theorem burst_tight : (run tightSt0 (List.replicate 4096 tightNow)).length = 4096 := by
  have first : newGUID tightSt0 tightNow =
      ({ tightSt0 with lastTs := BitVec.sshiftRight tightNow 20,
                       lastID := pack (BitVec.sshiftRight tightNow 20) 7#64 0#64 },
        pack (BitVec.sshiftRight tightNow 20) 7#64 0#64, .none) := by decide +kernel
  rw [List.replicate_succ (n := 4095), run_cons, first, if_pos rfl, List.length_cons]
  exact congrArg (· + 1)
    (run_replicate_length tightNow 4095 _ rfl rfl (by decide) (by decide) (by decide))

end Nsq.Proofs.GuidExtra
