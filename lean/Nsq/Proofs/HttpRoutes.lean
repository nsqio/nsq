import Nsq.Model.HttpApi
/-! Which handler each fixed path of the HTTP API reaches: the route table evaluated against itself once
(`route_of_row`), each path read off its row. -/
namespace Nsq.Proofs.HttpApi
open Nsq.Model.HttpApi Nsq.Model.Names

theorem route_of_row : ∀ r ∈ routeTable, route (ascii r.1) (ascii r.2.1) = .handler r.2.2 := by decide +kernel

theorem route_pub : route (ascii "POST") (ascii "/pub") = .handler .pub :=
  route_of_row ("POST", "/pub", .pub) (by decide +kernel)

theorem route_stats : route (ascii "GET") (ascii "/stats") = .handler .stats :=
  route_of_row ("GET", "/stats", .stats) (by decide +kernel)

theorem route_ping : route (ascii "GET") (ascii "/ping") = .handler .ping :=
  route_of_row ("GET", "/ping", .ping) (by decide +kernel)

theorem route_topic_create : route (ascii "POST") (ascii "/topic/create") = .handler .createTopic :=
  route_of_row ("POST", "/topic/create", .createTopic) (by decide +kernel)

theorem route_topic_delete : route (ascii "POST") (ascii "/topic/delete") = .handler .deleteTopic :=
  route_of_row ("POST", "/topic/delete", .deleteTopic) (by decide +kernel)

theorem route_topic_empty : route (ascii "POST") (ascii "/topic/empty") = .handler .emptyTopic :=
  route_of_row ("POST", "/topic/empty", .emptyTopic) (by decide +kernel)

theorem route_topic_pause : route (ascii "POST") (ascii "/topic/pause") = .handler .pauseTopic :=
  route_of_row ("POST", "/topic/pause", .pauseTopic) (by decide +kernel)

theorem route_topic_unpause : route (ascii "POST") (ascii "/topic/unpause") = .handler .pauseTopic :=
  route_of_row ("POST", "/topic/unpause", .pauseTopic) (by decide +kernel)

theorem route_channel_create : route (ascii "POST") (ascii "/channel/create") = .handler .createChannel :=
  route_of_row ("POST", "/channel/create", .createChannel) (by decide +kernel)

theorem route_channel_delete : route (ascii "POST") (ascii "/channel/delete") = .handler .deleteChannel :=
  route_of_row ("POST", "/channel/delete", .deleteChannel) (by decide +kernel)

theorem route_channel_empty : route (ascii "POST") (ascii "/channel/empty") = .handler .emptyChannel :=
  route_of_row ("POST", "/channel/empty", .emptyChannel) (by decide +kernel)

theorem route_channel_pause : route (ascii "POST") (ascii "/channel/pause") = .handler .pauseChannel :=
  route_of_row ("POST", "/channel/pause", .pauseChannel) (by decide +kernel)

theorem route_channel_unpause : route (ascii "POST") (ascii "/channel/unpause") = .handler .pauseChannel :=
  route_of_row ("POST", "/channel/unpause", .pauseChannel) (by decide +kernel)

end Nsq.Proofs.HttpApi
