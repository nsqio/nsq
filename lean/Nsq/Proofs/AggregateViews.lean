import Nsq.Model.Aggregate
import Nsq.Model.Int64
import Nsq.Proofs.AggregateSums
import Nsq.Proofs.AggregateMerge
import Nsq.Proofs.AggregateSafe
import Nsq.Proofs.AggregateChannels
import Nsq.Proofs.AggregateInactive
import Nsq.Proofs.AggregateFetch
import Nsq.Proofs.Int64
import Nsq.Proofs.Upsert
/-!
The views over the closed form of GetNSQDStats: the per-node reports are a pure function of each responding producer's
own `/stats` answer (`reportsOf`), the link between the views and the contents of the upstreams; the views themselves
have two shapes (`oneStage`, `twoStage`), each with its 200+warning / 502 rule.
-/
namespace Nsq.Proofs.AggregateViews
open Nsq.Model.Aggregate Nsq.Proofs.AggregateSums Nsq.Proofs.AggregateMerge Nsq.Proofs.AggregateSafe
open Nsq.Proofs.AggregateFetch Nsq.Proofs

theorem nsqdStats_reports (w : World) (ps : List Producer) (sel selc : String) (incl : Bool)
    (ts : List TopicNode) (m : ChanMap) (f : Nat)
    (h : nsqdStats Fixes.all w ps sel selc incl = .ok (.got (ts, m) f)) :
    ts = ps.flatMap (reportsOf w sel selc incl) := by
  rw [nsqdStats_eq Guards.all] at h
  exact (statsFetched_clean (Except.ok.inj h)).1

theorem mem_topicReports (p : Producer) (sel : String) (ans : List (Option Topic)) (r : TopicNode) :
    r ∈ topicReports p sel ans ↔ ∃ t, some t ∈ ans ∧ (sel = "" ∨ t.name = sel) ∧ r = topicReport p t := by
  simp only [topicReports_eq, List.mem_map, List.mem_filter, List.mem_filterMap, id, exists_eq_right, Bool.or_eq_true,
    beq_iff_eq, and_assoc, eq_comm (a := r)]

theorem mem_reports (w : World) (sel selc : String) (incl : Bool) (ps : List Producer) (r : TopicNode) :
    r ∈ ps.flatMap (reportsOf w sel selc incl) ↔
      ∃ p ∈ ps, ∃ ans t, statsOf w p.addr sel (if sel == "" then "" else selc) incl = some ans ∧
        some t ∈ ans ∧ (sel = "" ∨ t.name = sel) ∧ r = topicReport p t := by
  simp only [List.mem_flatMap]
  constructor
  · rintro ⟨p, hp, hr⟩
    unfold reportsOf at hr
    split at hr
    · cases hr
    · rename_i ans hst
      obtain ⟨t, ht, hs, rfl⟩ := (mem_topicReports p sel ans r).1 hr
      exact ⟨p, hp, ans, t, hst, ht, hs, rfl⟩
  · rintro ⟨p, hp, ans, t, hst, ht, hsel, rfl⟩
    refine ⟨p, hp, ?_⟩
    unfold reportsOf
    rw [hst]
    exact (mem_topicReports p sel ans _).2 ⟨t, ht, hsel, rfl⟩

/-- What the view shows of a number whose exact value is the sum of `l`: Go's running int64 sum of `l`. -/
theorem shown_sum (x : Int) (l : List Int) (h : x = isum l) :
    Nsq.Model.Int64.wrap64 x = Nsq.Model.Int64.goSum l := by
  rw [h, isum_eq_sum, Nsq.Proofs.Int64.goSum_eq]

/-- The (key, value) pairs counterHandler walks over: for every entry of the channel map, one per node report. -/
def counterEntries (m : ChanMap) : List (String × Int) :=
  m.flatMap (fun kc => kc.2.nodes.map (fun n => (kc.2.topic ++ ":" ++ kc.2.name ++ ":" ++ n.node, n.cnt.msgCount)))

def counterFold (acc : List (String × Int)) (l : List (String × Int)) : List (String × Int) :=
  l.foldl (fun acc kv => counterAdd acc kv.1 kv.2) acc

theorem counterOf_eq (m : ChanMap) : counterOf m = counterFold [] (counterEntries m) := by
  unfold counterOf counterFold counterEntries
  generalize ([] : List (String × Int)) = acc
  induction m generalizing acc with
  | nil => rfl
  | cons kc rest ih =>
    simp only [List.foldl_cons, List.flatMap_cons, List.foldl_append, List.foldl_map]
    exact ih _

def valueAt (m : List (String × Int)) (k : String) : Int := isum ((m.filter (·.1 == k)).map (·.2))

theorem counterFold_eq (l : List (String × Int)) :
    counterFold [] l = l.foldl (Upsert.upsert Prod.fst Prod.fst id (fun b a => (b.1, b.2 + a.2))) [] := rfl

theorem foldl_add_snd (rest : List (String × Int)) : ∀ b : String × Int,
    rest.foldl (fun b a => (b.1, b.2 + a.2)) b = (b.1, b.2 + isum (rest.map (·.2))) := by
  induction rest with
  | nil => intro b; simp [isum]
  | cons a rest ih => intro b; rw [List.foldl_cons, ih, List.map_cons, isum_cons, Int.add_assoc]

theorem counterFold_spec (l : List (String × Int)) :
    ((counterFold [] l).map (·.1)).Nodup ∧
    (∀ k, k ∈ (counterFold [] l).map (·.1) ↔ k ∈ l.map (·.1)) ∧
    (∀ k, valueAt (counterFold [] l) k = valueAt l k) := by
  have hinv := Upsert.inv_fold (key := Prod.fst) (keyOf := Prod.fst) (init := id)
    (step := fun (b a : String × Int) => (b.1, b.2 + a.2)) (fun _ _ => rfl) (fun _ => rfl) l
  rw [← counterFold_eq] at hinv
  -- an entry's value is the sum of the values `l` gives under its key; under a key that does not occur both sides are 0
  have hentry : ∀ b ∈ counterFold [] l, b.2 = valueAt l b.1 := by
    intro b hb
    obtain ⟨a0, rest, hf, this⟩ := hinv.entry_cons hb
    rw [foldl_add_snd] at this
    subst this
    have hf' : l.filter (fun x => x.1 == a0.1) = a0 :: rest := hf
    show a0.2 + _ = valueAt l a0.1
    rw [valueAt, hf', List.map_cons, isum_cons]
  refine ⟨hinv.nodup, hinv.mem_keys, fun k => ?_⟩
  · by_cases hk : k ∈ (counterFold [] l).map (·.1)
    · obtain ⟨b, hb, rfl⟩ := List.mem_map.1 hk
      rw [← hentry b hb, valueAt, Keyed.filter_key_of_mem hinv.nodup hb]
      simp [isum]
    · have h0 : ∀ m : List (String × Int), k ∉ m.map (·.1) → valueAt m k = 0 := by
        intro m hm
        have : m.filter (fun x => x.1 == k) = [] := by
          rw [List.filter_eq_nil_iff]
          intro x hx hxk
          exact hm (List.mem_map.2 ⟨x, hx, beq_iff_eq.1 hxk⟩)
        simp [valueAt, this, isum]
      rw [h0 _ hk, h0 l (fun hl => hk ?_)]
      obtain ⟨a, ha, rfl⟩ := List.mem_map.1 hl
      exact hinv.cover a ha

/-- The producer GetNSQDProducers builds from one nsqd's `/info` and `/stats` answers. -/
def producerOfInfo (i : Info) (ans : List (Option Topic)) : Producer :=
  { hostname := i.hostname, addr := i.addr, tcp := i.tcp, version := i.version, ver := i.ver,
    remote := "", topics := (topicNames ans).map (fun n => ⟨n, false⟩) }

theorem nsqdProducer_eq (w : World) (a : String) (p : Producer) :
    nsqdProducer w a = some p ↔
      ∃ i ans, infoOf w a = some i ∧ statsOf w a "" "" false = some ans ∧ p = producerOfInfo i ans := by
  unfold nsqdProducer producerOfInfo
  cases hi : infoOf w a with
  | none => simp
  | some i =>
    cases hs : statsOf w a "" "" false with
    | none => simp
    | some ans =>
      simp only [Option.some.injEq]
      constructor
      · intro h; exact ⟨i, ans, rfl, rfl, h.symm⟩
      · rintro ⟨i', ans', hi', hs', rfl⟩
        cases hi'; cases hs'; rfl

def oneStage {β : Type} (body : β → Body) : Fetched β → View
  | .allFailed => { status := 502 }
  | .got x f => { status := 200, warn := f > 0, body := body x }

theorem oneStage_rule {α β : Type} {body : β → Body} {answers : List (Option α)} {x : β} {v : View}
    (hv : oneStage body (fetched answers x) = v) :
    (v.status = 502 ↔ ∀ a ∈ answers, a = none) ∧ (v.status = 200 ∨ v.status = 502) ∧
    (v.status = 200 → v.warn = decide (countFailed answers > 0)) ∧ (v.status = 200 → v.body = body x) := by
  subst hv
  cases hr : fetched answers x with
  | allFailed =>
    exact ⟨⟨fun _ => fetched_allFailed.1 hr, fun _ => rfl⟩, Or.inr rfl, fun h => (nomatch h), fun h => (nomatch h)⟩
  | got y f =>
    obtain ⟨rfl, rfl, hne⟩ := fetched_got hr
    exact ⟨⟨fun h => (nomatch h), fun hn => absurd hn hne⟩, Or.inl rfl, fun _ => rfl, fun _ => rfl⟩

theorem topicsView_eq (w : World) :
    topicsView w = oneStage .topics (if !w.lookupds.isEmpty then lookupdTopics w.lookupds else nsqdTopics w) := by
  unfold topicsView
  cases (if !w.lookupds.isEmpty then lookupdTopics w.lookupds else nsqdTopics w) <;> rfl

theorem nodesView_eq {fx : Fixes} {w : World} {r : Fetched (List Producer)} (h : getProducers fx w = .ok r) :
    nodesView fx w = .ok (oneStage .nodes r) := by
  unfold nodesView; rw [h]; cases r <;> rfl

/-! `/api/topics/:t`, `/api/topics/:t/:c` and `/api/counter` have one shape: a producer fetch, then GetNSQDStats over the
producers found, then the view's own last step on what both returned; a fetch with nothing usable answers 502. -/

def twoStage (fx : Fixes) (w : World) (g : Except Fault (Fetched (List Producer))) (sel selc : String) (incl : Bool)
    (fin : List Producer → Nat → List TopicNode → ChanMap → Nat → Except Fault View) : Except Fault View :=
  match g with
  | .error e => .error e
  | .ok .allFailed => .ok { status := 502 }
  | .ok (.got ps f1) =>
    match nsqdStats fx w ps sel selc incl with
    | .error e => .error e
    | .ok .allFailed => .ok { status := 502 }
    | .ok (.got (ts, m) f2) => fin ps f1 ts m f2

theorem topicView_eq (fx : Fixes) (w : World) (name : String) :
    topicView fx w name = twoStage fx w (getTopicProducers fx w name) name "" false (fun _ f1 ts _ f2 =>
      match TopicAgg.addAll fx ts { name := name } with
      | .error _ => .ok recovered500
      | .ok t => .ok { status := 200, warn := f1 > 0 || f2 > 0, body := .topic t }) := rfl

theorem channelView_eq (fx : Fixes) (w : World) (topic chan : String) :
    channelView fx w topic chan = twoStage fx w (getTopicProducers fx w topic) topic chan true (fun _ f1 _ m f2 =>
      match m.find? (·.1 == chan) with
      | none => .ok (if fx.chanNotFound then { status := 404 } else recovered500)
      | some (_, c) => .ok { status := 200, warn := f1 > 0 || f2 > 0, body := .channel c }) := rfl

theorem counterView_eq (fx : Fixes) (w : World) :
    counterView fx w = twoStage fx w (getProducers fx w) "" "" false (fun _ f1 _ m f2 =>
      .ok { status := 200, warn := f1 > 0 || f2 > 0, body := .counter (counterOf m) }) := rfl

/-- The rule of the two-stage views: 502 when a stage got no answer at all; otherwise whatever (`Q`) the view's last
step makes of what the second stage returned, with its failures counted. -/
theorem twoStage_rule {fx : Fixes} {w : World} {g : Except Fault (Fetched (List Producer))} {sel selc : String}
    {incl : Bool} {fin : List Producer → Nat → List TopicNode → ChanMap → Nat → Except Fault View} {v : View}
    (h : twoStage fx w g sel selc incl fin = .ok v) {Q : List Producer → Nat → Prop}
    (hQ : ∀ ps f1 ts m,
      nsqdStats fx w ps sel selc incl = .ok (.got (ts, m) (countFailed (statsAnswers w ps sel selc incl))) →
      fin ps f1 ts m (countFailed (statsAnswers w ps sel selc incl)) = .ok v → Q ps f1) :
    ∃ s1, g = .ok s1 ∧
      match s1 with
      | .allFailed => v.status = 502
      | .got ps f1 =>
        ((∀ a ∈ statsAnswers w ps sel selc incl, a = none) → v.status = 502) ∧
        ((∃ a ∈ statsAnswers w ps sel selc incl, a ≠ none) → Q ps f1) := by
  cases g with
  | error e => cases h
  | ok s1 =>
    refine ⟨s1, rfl, ?_⟩
    cases s1 with
    | allFailed => cases Except.ok.inj h; rfl
    | got ps f1 =>
      simp only [twoStage] at h
      split at h
      next => cases h
      next hs =>
        obtain ⟨_, hr⟩ := nsqdStats_val hs
        exact ⟨fun _ => by cases Except.ok.inj h; rfl, fun ⟨a, ha, hne⟩ => absurd (fetched_allFailed.1 hr a ha) hne⟩
      next ts m f2 hs =>
        obtain ⟨_, hr⟩ := nsqdStats_val hs
        obtain ⟨-, rfl, hne⟩ := fetched_got hr
        exact ⟨fun hall => absurd hall hne, fun _ => hQ ps f1 ts m hs h⟩

theorem twoStage_done {fx : Fixes} {w : World} {g : Except Fault (Fetched (List Producer))} {sel selc : String}
    {incl : Bool} {fin : List Producer → Nat → List TopicNode → ChanMap → Nat → Except Fault View} {v : View}
    (h : twoStage fx w g sel selc incl fin = .ok v) (hv : v.status ≠ 502) :
    ∃ ps f1 ts m f2, g = .ok (.got ps f1) ∧ nsqdStats fx w ps sel selc incl = .ok (.got (ts, m) f2) ∧
      fin ps f1 ts m f2 = .ok v := by
  cases g with
  | error e => cases h
  | ok s1 =>
    cases s1 with
    | allFailed => cases Except.ok.inj h; exact absurd rfl hv
    | got ps f1 =>
      simp only [twoStage] at h
      split at h
      next => cases h
      next => cases Except.ok.inj h; exact absurd rfl hv
      next ts m f2 hs => exact ⟨ps, f1, ts, m, f2, rfl, hs, h⟩

theorem twoStage_ok {fx : Fixes} (g : Guards fx) {w : World} {gp : Except Fault (Fetched (List Producer))}
    {sel selc : String} {incl : Bool} {fin : List Producer → Nat → List TopicNode → ChanMap → Nat → Except Fault View}
    (hg : ∃ r, gp = .ok r)
    (hfin : ∀ ps f1 ts m f2, CleanTs ts → ∃ v, fin ps f1 ts m f2 = .ok v ∧ v.status ≠ 500) :
    ∃ v, twoStage fx w gp sel selc incl fin = .ok v ∧ v.status ≠ 500 := by
  obtain ⟨r, rfl⟩ := hg
  cases r with
  | allFailed => exact ⟨_, rfl, by decide⟩
  | got ps f1 =>
    simp only [twoStage, nsqdStats_eq g]
    cases h2 : statsFetched w ps sel selc incl with
    | allFailed => exact ⟨_, rfl, by decide⟩
    | got tm f2 => exact hfin ps f1 tm.1 tm.2 f2 (statsFetched_clean h2).2

/-- Every view of a guarded tree completes, and never through the router's panic handler. -/
theorem view_ok {fx : Fixes} (g : Guards fx) (w : World) (req : Request) :
    ∃ v, view fx w req = .ok v ∧ v.status ≠ 500 := by
  cases req with
  | topics =>
    refine ⟨_, rfl, ?_⟩
    unfold topicsView
    split <;> simp
  | nodes =>
    obtain ⟨r, h⟩ := getProducers_ok g w
    rw [view, nodesView_eq h]
    cases r <;> exact ⟨_, rfl, by simp [oneStage]⟩
  | topic n =>
    rw [view, topicView_eq]
    refine twoStage_ok g (getTopicProducers_ok g w n) fun ps f1 ts m f2 hcl => ?_
    simp only [AggregateChannels.addAll_eq g.nilE2e ts n hcl]
    exact ⟨_, rfl, by simp⟩
  | channel t c =>
    rw [view, channelView_eq]
    refine twoStage_ok g (getTopicProducers_ok g w t) fun ps f1 ts m f2 _ => ?_
    simp only [g.chanNotFound]
    cases m.find? (·.1 == c) <;> exact ⟨_, rfl, by simp⟩
  | counter =>
    rw [view, counterView_eq]
    exact twoStage_ok g (getProducers_ok g w) fun ps f1 ts m f2 _ => ⟨_, rfl, by simp⟩
  | node a =>
    simp only [view, nodeView]
    obtain ⟨r, h⟩ := getProducers_ok g w
    simp only [h]
    cases r with
    | allFailed => exact ⟨_, rfl, by simp⟩
    | got ps f =>
      simp only []
      cases hf : ps.find? (·.addr == a) with
      | none => exact ⟨_, rfl, by simp⟩
      | some p =>
        simp only [nsqdStats_eq g]
        cases statsFetched w [p] "" "" true with
        | allFailed => exact ⟨_, rfl, by simp⟩
        | got tm f2 => exact ⟨_, rfl, by simp⟩
  | topicsInactive =>
    simp only [view, topicsInactiveView]
    split
    · split <;> exact ⟨_, rfl, by simp⟩
    · split
      · exact ⟨_, rfl, by simp⟩
      · rename_i ts f _
        obtain ⟨r, h, -⟩ := AggregateChannels.inactiveGo_spec g.tombBounds g.nilElems w ts
        simp only [h]
        cases r with
        | none => exact ⟨_, rfl, by simp⟩
        | some x => exact ⟨_, rfl, by simp⟩

end Nsq.Proofs.AggregateViews
