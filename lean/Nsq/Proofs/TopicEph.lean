/-
E2 / C01 — `Nsq.Model.TopicEph` (`#ephemeral` topics): what `putTE` / `putManyTE` keep and drop (`putTE_cases`,
`putManyTE_count`, `putManyTE_dropped`), an accepted `pubE` / `mpubE` in the terms of the topic found (`pubE_step`,
`mpubE_step`), and a run of publishes to one topic (`run_pubE`).
-/
import Nsq.Model.TopicEph
import Nsq.Proofs.Keyed
namespace Nsq.Proofs.TopicEph
open Nsq.Model.Chan (Env Out)
open Nsq.Model.ChanNsqd Nsq.Model.TopicEph

theorem findT_tid {l : List Topic} {t : Nat} {tp : Topic} (h : findT l t = some tp) : tp.tid = t :=
  (Keyed.find?_some h).2

theorem findT_updT_const {l : List Topic} {t : Nat} {tp c : Topic} (h : findT l t = some tp) (hc : c.tid = t) :
    findT (updT l t (fun _ => c)) t = some c := by
  have hg : ∀ x : Topic, (if x.tid == t then c else x).tid = x.tid := fun x => by split <;> simp_all
  rw [findT, updT, Keyed.find?_map hg, ← findT, h, Option.map_some, if_pos (by simpa using findT_tid h)]

theorem putTE_kept {t : Topic} {id size d : Nat} {env : Env} {taken : Bool} (h : roomTE t taken = true) :
    putTE t id size d env taken =
      ({ t with queue := ⟨id, size, d, .mem, env⟩ :: t.queue, envlog := (id, env) :: t.envlog }, false) := by
  simp [putTE, h]

theorem putTE_dropped {t : Topic} {id size d : Nat} {env : Env} {taken : Bool} (h : roomTE t taken = false) :
    putTE t id size d env taken = (t, true) := by
  simp [putTE, h]

theorem putTE_tid (t : Topic) (id size d : Nat) (env : Env) (taken : Bool) :
    (putTE t id size d env taken).1.tid = t.tid ∧ (putTE t id size d env taken).1.memCap = t.memCap := by
  unfold putTE; split <;> simp

theorem putTE_cases (t : Topic) (id size d : Nat) (env : Env) (taken : Bool) :
    (roomTE t taken = true ∧ (putTE t id size d env taken).2 = false ∧
      (putTE t id size d env taken).1.queue = ⟨id, size, d, .mem, env⟩ :: t.queue) ∨
    (roomTE t taken = false ∧ (putTE t id size d env taken).2 = true ∧ (putTE t id size d env taken).1 = t) := by
  cases h : roomTE t taken
  · right; simp [putTE_dropped h]
  · left; simp [putTE_kept h]

theorem memLenT_cons_mem (t : Topic) (m : TMsg) (hm : m.place = .mem) (el : List (Nat × Env)) :
    memLenT { t with queue := m :: t.queue, envlog := el } = memLenT t + 1 := by
  simp [memLenT, hm]

theorem putManyTE_tid (t : Topic) (id : Nat) (szs : List Nat) (envs : List Env) (tks : List Bool) :
    (putManyTE t id szs envs tks).1.tid = t.tid := by
  induction szs generalizing t id envs tks with
  | nil => rfl
  | cons sz rest ih => exact (ih ..).trans (putTE_tid t id sz 0 (envs.headD {}) (tks.headD false)).1

theorem putManyTE_count (t : Topic) (id : Nat) (szs : List Nat) (envs : List Env) (tks : List Bool) :
    (putManyTE t id szs envs tks).1.queue.length + (putManyTE t id szs envs tks).2.length =
      t.queue.length + szs.length := by
  induction szs generalizing t id envs tks with
  | nil => simp [putManyTE]
  | cons sz rest ih =>
    simp only [putManyTE, List.length_append, List.length_cons]
    have h2 := ih (putTE t id sz 0 (envs.headD {}) (tks.headD false)).1 (id + 1) envs.tail tks.tail
    rcases putTE_cases t id sz 0 (envs.headD {}) (tks.headD false) with ⟨_, hd, hq⟩ | ⟨_, hd, hq⟩
    · rw [hd]; rw [hq] at h2; simp at h2 ⊢; omega
    · rw [hd]; rw [hq] at h2 ⊢; simp; omega

theorem putManyTE_dropped (t : Topic) (id : Nat) (szs : List Nat) (envs : List Env) (tks : List Bool)
    (p : Nat × Nat) (hp : p ∈ (putManyTE t id szs envs tks).2) :
    ∃ j, j < szs.length ∧ p = (t.tid, id + j) ∧
      roomTE (putManyTE t id (szs.take j) envs tks).1 ((tks.drop j).headD false) = false := by
  induction szs generalizing t id envs tks with
  | nil => simp [putManyTE] at hp
  | cons sz rest ih =>
    simp only [putManyTE, List.mem_append] at hp
    rcases hp with hp | hp
    · obtain ⟨j, hj, hpj, hn⟩ := ih _ _ _ _ hp
      refine ⟨j + 1, by simp [hj], ?_, ?_⟩
      · rw [hpj, (putTE_tid t id sz 0 (envs.headD {}) (tks.headD false)).1]
        simp; omega
      · simp only [List.take_succ_cons, putManyTE]
        have : (tks.drop (j + 1)) = tks.tail.drop j := by
          cases tks <;> simp
        rw [this]; exact hn
    · refine ⟨0, by simp, ?_, ?_⟩
      · split at hp
        · simpa using hp
        · simp at hp
      · simp only [List.take_zero, putManyTE, List.drop_zero]
        rcases putTE_cases t id sz 0 (envs.headD {}) (tks.headD false) with ⟨_, hd, _⟩ | ⟨hr, _, _⟩
        · rw [hd] at hp; simp at hp
        · exact hr

theorem pubE_accepted {es : ES} {t size delay : Nat} {env : Env} {taken : Bool} {l : List Nat}
    (h : (stepE es (.pubE t size delay env taken)).2 = .ids l) :
    t ∈ es.eph ∧ ∃ tp, findT es.s.topics t = some tp := by
  by_cases he : t ∈ es.eph
  · cases hf : findT es.s.topics t with
    | none => simp [stepE, he, hf] at h
    | some tp => exact ⟨he, tp, rfl⟩
  · simp [stepE, he] at h

theorem mpubE_accepted {es : ES} {t : Nat} {sizes : List Nat} {envs : List Env} {tks : List Bool} {l : List Nat}
    (h : (stepE es (.mpubE t sizes envs tks)).2 = .ids l) :
    t ∈ es.eph ∧ ∃ tp, findT es.s.topics t = some tp := by
  by_cases he : t ∈ es.eph
  · cases hf : findT es.s.topics t with
    | none => simp [stepE, he, hf] at h
    | some tp => exact ⟨he, tp, rfl⟩
  · simp [stepE, he] at h

theorem pubE_eq {es : ES} {t : Nat} {tp : Topic} (he : t ∈ es.eph) (hf : findT es.s.topics t = some tp)
    (size delay : Nat) (env : Env) (taken : Bool) :
    stepE es (.pubE t size delay env taken) =
      ({ es with s := { es.s with topics := updT es.s.topics t (fun _ =>
                          { (putTE tp es.s.nextId size delay env taken).1 with
                              msgCount := tp.msgCount + 1, msgBytes := tp.msgBytes + size, acked := es.s.nextId :: tp.acked }),
                                  nextId := es.s.nextId + 1 },
                 dropped := if (putTE tp es.s.nextId size delay env taken).2 then (t, es.s.nextId) :: es.dropped
                            else es.dropped }, .ids [es.s.nextId]) := by
  simp [stepE, he, hf]

theorem mpubE_eq {es : ES} {t : Nat} {tp : Topic} (he : t ∈ es.eph) (hf : findT es.s.topics t = some tp)
    (sizes : List Nat) (envs : List Env) (tks : List Bool) :
    stepE es (.mpubE t sizes envs tks) =
      ({ es with s := { es.s with topics := updT es.s.topics t (fun _ =>
                          { (putManyTE tp es.s.nextId sizes envs tks).1 with
                              msgCount := tp.msgCount + sizes.length, msgBytes := tp.msgBytes + sizes.sum,
                              acked := (idsFrom es.s.nextId sizes.length).reverse ++ tp.acked }),
                                  nextId := es.s.nextId + sizes.length },
                 dropped := (putManyTE tp es.s.nextId sizes envs tks).2 ++ es.dropped },
       .ids (idsFrom es.s.nextId sizes.length)) := by
  simp [stepE, he, hf]

theorem create_dropped (es : ES) (t : Nat) : (stepE es (.createEphTopic t)).1.dropped = es.dropped := by
  simp only [stepE]
  split
  · split <;> rfl
  · rfl

theorem pubE_step {es : ES} {t : Nat} {tp : Topic} (he : t ∈ es.eph) (hf : findT es.s.topics t = some tp)
    (size delay : Nat) (env : Env) (taken : Bool) :
    (stepE es (.pubE t size delay env taken)).2 = .ids [es.s.nextId] ∧
    t ∈ (stepE es (.pubE t size delay env taken)).1.eph ∧
    ∃ tp1, findT (stepE es (.pubE t size delay env taken)).1.s.topics t = some tp1 ∧
      tp1.msgCount = tp.msgCount + 1 ∧ tp1.msgBytes = tp.msgBytes + size ∧ tp1.memCap = tp.memCap ∧
      tp1.acked = es.s.nextId :: tp.acked ∧
      ((roomTE tp taken = true ∧ tp1.queue = ⟨es.s.nextId, size, delay, .mem, env⟩ :: tp.queue ∧
          (stepE es (.pubE t size delay env taken)).1.dropped = es.dropped) ∨
       (roomTE tp taken = false ∧ tp1.queue = tp.queue ∧
          (stepE es (.pubE t size delay env taken)).1.dropped = (t, es.s.nextId) :: es.dropped)) := by
  have htid := findT_tid hf
  have hc := putTE_tid tp es.s.nextId size delay env taken
  rw [pubE_eq he hf]
  refine ⟨rfl, he, _, findT_updT_const hf (by simpa [htid] using hc.1), rfl, rfl, hc.2, rfl, ?_⟩
  cases hr : roomTE tp taken
  · right; simp [putTE_dropped hr]
  · left; simp [putTE_kept hr]

theorem mpubE_step {es : ES} {t : Nat} {tp : Topic} (he : t ∈ es.eph) (hf : findT es.s.topics t = some tp)
    (sizes : List Nat) (envs : List Env) (tks : List Bool) :
    (stepE es (.mpubE t sizes envs tks)).2 = .ids (idsFrom es.s.nextId sizes.length) ∧
    (stepE es (.mpubE t sizes envs tks)).1.dropped = (putManyTE tp es.s.nextId sizes envs tks).2 ++ es.dropped ∧
    ∃ tp1, findT (stepE es (.mpubE t sizes envs tks)).1.s.topics t = some tp1 ∧
      tp1.msgCount = tp.msgCount + sizes.length ∧ tp1.msgBytes = tp.msgBytes + sizes.sum ∧
      tp1.acked = (idsFrom es.s.nextId sizes.length).reverse ++ tp.acked ∧
      tp1.queue = (putManyTE tp es.s.nextId sizes envs tks).1.queue := by
  have htid := findT_tid hf
  have hc := putManyTE_tid tp es.s.nextId sizes envs tks
  rw [mpubE_eq he hf]
  exact ⟨rfl, rfl, _, findT_updT_const hf (by simpa [htid] using hc), rfl, rfl, rfl, rfl⟩

/-- the last implication: the queue never shrinks, stays within the capacity, and nothing is dropped before it is full — so
it holds `min` of what it was offered and its capacity -/
theorem run_pubE (es : ES) (t : Nat) (tp : Topic) (he : t ∈ es.eph) (hf : findT es.s.topics t = some tp)
    (ps : List PubArg) :
    ∃ tp', findT (runE es (pubOps t ps)).s.topics t = some tp' ∧
      tp'.msgCount = tp.msgCount + ps.length ∧
      tp'.msgBytes = tp.msgBytes + (ps.map (·.1)).sum ∧
      tp'.queue.length + nDropped (runE es (pubOps t ps)) t = tp.queue.length + nDropped es t + ps.length ∧
      (0 < tp.memCap → memLenT tp = tp.queue.length → tp.queue.length ≤ tp.memCap →
        tp.queue.length ≤ tp'.queue.length ∧ tp'.queue.length ≤ tp.memCap ∧
        (tp'.queue.length < tp.memCap → (runE es (pubOps t ps)).dropped = es.dropped)) := by
  induction ps generalizing es tp with
  | nil => exact ⟨tp, hf, by simp, by simp, by simp [pubOps, runE], fun _ _ hle => ⟨Nat.le_refl _, hle, fun _ => rfl⟩⟩
  | cons p rest ih =>
    obtain ⟨_, he1, tp1, hf1, hmc, hmb, hc1, _, hq⟩ := pubE_step he hf p.1 p.2.1 p.2.2.1 p.2.2.2
    obtain ⟨tp', h1, h2, h3, h4, h5⟩ := ih _ tp1 he1 hf1
    refine ⟨tp', h1, ?_, ?_, ?_, fun hcap hm hle => ?_⟩
    · rw [h2, hmc]; simp; omega
    · rw [h3, hmb]; simp; omega
    · simp only [pubOps, List.map_cons, runE] at h4 ⊢
      rw [h4]
      rcases hq with ⟨_, hq, hd⟩ | ⟨_, hq, hd⟩
      · simp [hd, hq, nDropped]; omega
      · simp [hd, hq, nDropped]; omega
    · simp only [roomTE, hcap, ↓reduceIte, hm, decide_eq_true_eq, decide_eq_false_iff_not] at hq
      rcases hq with ⟨hr, hq, hd⟩ | ⟨hr, hq, hd⟩
      · obtain ⟨g2, g3, g4⟩ := h5 (hc1 ▸ hcap) (by simp [memLenT, hq] at hm ⊢; exact hm) (by rw [hq, hc1]; exact hr)
        rw [hq, hc1] at *
        exact ⟨by simp at g2; omega, g3, fun h => (g4 h).trans hd⟩
      · -- full already: it stays full, so the premise of the last clause fails
        obtain ⟨g2, g3, _⟩ := h5 (hc1 ▸ hcap) (by simp only [memLenT, hq] at hm ⊢; exact hm) (by rw [hq, hc1]; exact hle)
        rw [hq, hc1] at *
        exact ⟨g2, g3, fun h => by omega⟩

theorem freshE_spec (memq t : Nat) :
    t ∈ (freshE memq t).eph ∧ findT (freshE memq t).s.topics t = some { tid := t, memCap := memq } ∧
    (freshE memq t).dropped = [] := by
  simp [freshE, stepE, findT, ensureTopic]

end Nsq.Proofs.TopicEph
