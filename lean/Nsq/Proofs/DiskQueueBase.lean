import Nsq.Model.DiskQueue
import Nsq.Proofs.Wire
namespace Nsq.Proofs.DiskQueue
open Nsq.Model.Wire Nsq.Model.DiskQueue

def enc (l : List Bytes) : Bytes := (l.map dqRecord).flatten

theorem enc_nil : enc [] = [] := rfl
theorem enc_cons (d : Bytes) (l : List Bytes) : enc (d :: l) = dqRecord d ++ enc l := by simp [enc]
theorem enc_append (a b : List Bytes) : enc (a ++ b) = enc a ++ enc b := by simp [enc]

theorem dqRecord_length (d : Bytes) : (dqRecord d).length = 4 + d.length := by
  simp [dqRecord, lp, Nsq.Proofs.Wire.beBytes_length]

theorem enc_eq_nil (l : List Bytes) (h : (enc l).length = 0) : l = [] := by
  cases l with
  | nil => rfl
  | cons d l => rw [enc_cons, List.length_append, dqRecord_length] at h; omega

theorem writeAt_append (c x : Bytes) : writeAt c c.length x = c ++ x := by
  simp [writeAt]

/-- the ghost queue: records of the files `i, i+1, …, i+n-1` -/
def qFrom (recs : Nat → List Bytes) : Nat → Nat → List Bytes
  | _, 0 => []
  | i, n + 1 => recs i ++ qFrom recs (i + 1) n

theorem qFrom_congr (r1 r2 : Nat → List Bytes) (i n : Nat) (h : ∀ j, i ≤ j → j < i + n → r1 j = r2 j) :
    qFrom r1 i n = qFrom r2 i n := by
  induction n generalizing i with
  | zero => rfl
  | succ n ih =>
    simp only [qFrom]
    rw [h i (Nat.le_refl _) (by omega), ih (i + 1) (fun j h1 h2 => h j (by omega) (by omega))]

theorem qFrom_snoc (r : Nat → List Bytes) (i n : Nat) : qFrom r i (n + 1) = qFrom r i n ++ r (i + n) := by
  induction n generalizing i with
  | zero => simp [qFrom]
  | succ n ih =>
    have e : i + 1 + n = i + (n + 1) := by omega
    rw [qFrom, ih (i + 1), qFrom, List.append_assoc, e]

/-! index arithmetic of the file range `i … j`, which holds `j - i + 1` files -/

theorem range_end {i j : Nat} (h : i ≤ j) : i + (j - i + 1) = j + 1 := by
  rw [← Nat.add_assoc, Nat.add_sub_cancel' h]

theorem range_tail {i j : Nat} (h : i < j) : j - (i + 1) + 1 = j - i := by
  rw [Nat.sub_add_eq, Nat.sub_add_cancel (Nat.sub_pos_of_lt h)]

theorem qFrom_succ_range (r : Nat → List Bytes) {i j : Nat} (h : i ≤ j) :
    qFrom r i (j + 1 - i + 1) = qFrom r i (j - i + 1) ++ r (j + 1) := by
  rw [Nat.succ_sub h, qFrom_snoc, range_end h]

theorem qFrom_skip_nil (r : Nat → List Bytes) {i j : Nat} (hlt : i < j) (hr : r i = []) :
    qFrom r (i + 1) (j - (i + 1) + 1) = qFrom r i (j - i + 1) := by
  rw [range_tail hlt]
  show _ = r i ++ _
  rw [hr, List.nil_append]

theorem qFrom_nil (i n : Nat) : qFrom (fun _ => ([] : List Bytes)) i n = [] := by
  induction n generalizing i with
  | zero => rfl
  | succ n ih => exact ih (i + 1)

def setRec (recs : Nat → List Bytes) (j : Nat) (v : List Bytes) : Nat → List Bytes :=
  fun i => if i = j then v else recs i

theorem setRec_same (recs : Nat → List Bytes) (j : Nat) (v : List Bytes) : setRec recs j v j = v := if_pos rfl

theorem setRec_ne (recs : Nat → List Bytes) {i j : Nat} (v : List Bytes) (h : i ≠ j) : setRec recs j v i = recs i :=
  if_neg h

theorem qFrom_setRec_out (recs : Nat → List Bytes) {i n j : Nat} (v : List Bytes) (h : j < i ∨ i + n ≤ j) :
    qFrom (setRec recs j v) i n = qFrom recs i n :=
  qFrom_congr _ _ _ _ (fun k h1 h2 => setRec_ne recs v (by omega))

theorem qFrom_setRec_head (recs : Nat → List Bytes) (i n : Nat) (v : List Bytes) :
    qFrom (setRec recs i v) i (n + 1) = v ++ qFrom recs (i + 1) n := by
  show setRec recs i v i ++ qFrom (setRec recs i v) (i + 1) n = _
  rw [setRec_same, qFrom_setRec_out recs v (Or.inl (Nat.lt_succ_self i))]

theorem qFrom_setRec_last (recs : Nat → List Bytes) {i n j : Nat} (v : List Bytes) (hj : j = i + n) :
    qFrom (setRec recs j (recs j ++ v)) i (n + 1) = qFrom recs i (n + 1) ++ v := by
  subst hj
  rw [qFrom_snoc, qFrom_snoc, setRec_same, qFrom_setRec_out recs _ (Or.inr (Nat.le_refl _)), List.append_assoc]

theorem mem_setRec {P : Bytes → Prop} {recs : Nat → List Bytes} {j : Nat} {v : List Bytes}
    (h : ∀ i, ∀ d ∈ recs i, P d) (hv : ∀ d ∈ v, P d) : ∀ i, ∀ d ∈ setRec recs j v i, P d := by
  intro i d hd
  by_cases e : i = j
  · rw [e, setRec_same] at hd; exact hv d hd
  · rw [setRec_ne recs v e] at hd; exact h i d hd

theorem consume_stream (rbuf : Bytes) (rfd : Nat) (content : Bytes) (n : Nat)
    (hfd : rfd ≤ content.length) (hn : n ≤ (rbuf ++ content.drop rfd).length) :
    (consume rbuf rfd content n).1 ++ content.drop (consume rbuf rfd content n).2 = (rbuf ++ content.drop rfd).drop n ∧
      (consume rbuf rfd content n).2 ≤ content.length := by
  unfold consume
  simp only [List.length_append, List.length_drop] at hn
  by_cases h1 : n ≤ rbuf.length
  · rw [if_pos h1]
    refine ⟨?_, hfd⟩
    simp only []
    rw [List.drop_append_of_le_length h1]
  · rw [if_neg h1]
    have hd : (rbuf ++ content.drop rfd).drop n = (content.drop rfd).drop (n - rbuf.length) := by
      rw [List.drop_append, List.drop_eq_nil_of_le (by omega), List.nil_append]
    by_cases h2 : bufSize ≤ n - rbuf.length
    · rw [if_pos h2]
      simp only [List.nil_append]
      exact ⟨by rw [hd, List.drop_drop], by omega⟩
    · rw [if_neg h2]
      have hk : n - rbuf.length ≤ ((content.drop rfd).take bufSize).length := by
        simp only [List.length_take, List.length_drop, Nat.le_min]; omega
      refine ⟨?_, by simp only [List.length_take, List.length_drop]; omega⟩
      -- the bytes fetched are a prefix of the file from `rfd` on, and what follows them there is the rest of the file
      rw [hd, ← List.drop_drop, ← List.drop_append_of_le_length hk,
        List.prefix_iff_eq_append.1 (List.take_prefix bufSize _)]

end Nsq.Proofs.DiskQueue
