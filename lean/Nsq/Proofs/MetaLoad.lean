import Nsq.Model.MetaLoad
import Nsq.Proofs.MetaMaps
import Nsq.Proofs.Keyed
/-! The `LoadMetadata` loop, entry by entry: each entry keeps the maps well-formed (`Props.C06Load.loadRaw_wf` folds
this over any document), and on a document with unique valid names the loop is the idealised loader of `Model.Meta`
(`loadRaw_persist`). Then the restart round trip on a well-formed state (`snap_persist`, `loadDoc_snap`), which topic
names exist after an entry, and that a pause is kept. -/
namespace Nsq.Proofs.MetaLoad
open Nsq.Model.FS Nsq.Model.Meta Nsq.Model.MetaLoad Nsq.Proofs.Meta

/-- Stated over `step` and `g` because the channel loop and the topic loop of `LoadMetadata` both have this shape. -/
theorem foldl_append_map {α γ : Type} (step : List γ → α → List γ) (g : α → γ) (na : α → String)
    (ng : γ → String) (ok : α → Prop) (hg : ∀ a, ng (g a) = na a)
    (hstep : ∀ acc a, ok a → (∀ x ∈ acc, (ng x == na a) = false) → step acc a = acc ++ [g a]) :
    ∀ (l : List α) (acc : List γ), (l.map na).Nodup → (∀ a ∈ l, ok a) →
      (∀ a ∈ l, ∀ x ∈ acc, (ng x == na a) = false) → l.foldl step acc = acc ++ l.map g := by
  intro l
  induction l with
  | nil => intro acc _ _ _; exact (List.append_nil acc).symm
  | cons a rest ih =>
    intro acc hnd hok hdis
    rw [List.map_cons, List.nodup_cons] at hnd
    rw [List.foldl_cons, hstep acc a (hok a List.mem_cons_self) (hdis a List.mem_cons_self),
      ih _ hnd.2 (fun b hb => hok b (List.mem_cons_of_mem _ hb)), List.append_assoc]
    · rfl
    · intro b hb x hx
      rcases List.mem_append.mp hx with h1 | h1
      · exact hdis b (List.mem_cons_of_mem _ hb) x h1
      · cases List.mem_singleton.mp h1
        rw [hg, beq_eq_false_iff_ne]
        exact fun heq => hnd.1 (heq ▸ List.mem_map_of_mem hb)

/-- the common shape of `chansWF` and `WF` -/
def WFBy {α : Type} (nm : α → String) (ok : α → Prop) (l : List α) : Prop :=
  (l.map nm).Nodup ∧ ∀ x ∈ l, ok x

theorem chansWF_iff {cs : List Chan} : chansWF cs ↔ WFBy (·.name) (chanOK · = true) cs := Iff.rfl

theorem WF_iff {m : Mem} : WF m ↔ WFBy (·.name) topicOK m := Iff.rfl

theorem WFBy.modFirst {α : Type} {nm : α → String} {ok : α → Prop} {l : List α} (h : WFBy nm ok l)
    (p : α → Bool) (f : α → α) (hn : ∀ x, nm (f x) = nm x) (hf : ∀ x, ok x → ok (f x)) :
    WFBy nm ok (modFirst p f l) :=
  ⟨by rw [modFirst_map p f nm hn]; exact h.1, modFirst_forall ok p f l h.2 hf⟩

/-- `GetTopic` / `GetChannel`: the existing object of that name, or a new one at the end -/
theorem WFBy.ensure {α : Type} {nm : α → String} {ok : α → Prop} {l : List α} (h : WFBy nm ok l)
    (c : String) (y : α) (hy : nm y = c) (hok : ok y) :
    WFBy nm ok (if l.any (fun x => nm x == c) then l else l ++ [y]) := by
  split
  · exact h
  · next hany =>
    exact ⟨Keyed.nodup_append_fresh h.1 fun x hx e => hany (List.any_eq_true.2 ⟨x, hx, beq_iff_eq.2 (e.trans hy)⟩),
      List.forall_mem_append.mpr ⟨h.2, fun x hx => by cases List.mem_singleton.mp hx; exact hok⟩⟩

theorem ensure_fresh {α : Type} {nm : α → String} {l : List α} {c : String} (y : α)
    (h : ∀ x ∈ l, (nm x == c) = false) : (if l.any (fun x => nm x == c) then l else l ++ [y]) = l ++ [y] :=
  if_neg (fun hany => by
    obtain ⟨x, hx, hxe⟩ := List.any_eq_true.mp hany
    exact Bool.false_ne_true ((h x hx).symm.trans hxe))

theorem chanOK_iff {c : Chan} :
    chanOK c = true ↔ validName c.name = true ∧ c.eph = ephName c.name ∧ c.exiting = false := by
  simp only [chanOK, Bool.and_eq_true, beq_iff_eq, Bool.not_eq_true', and_assoc]

theorem loadChanEntry_wf (cs : List Chan) (c : ChanM) (h : chansWF cs) : chansWF (loadChanEntry cs c) := by
  rw [chansWF_iff] at h ⊢
  unfold loadChanEntry
  split
  · next hv =>
    have he := h.ensure c.name ⟨c.name, false, ephName c.name, false⟩ rfl (chanOK_iff.mpr ⟨hv, rfl, rfl⟩)
    split
    · exact he.modFirst _ _ (fun _ => rfl) (fun _ hx => hx)
    · exact he
  · exact h

theorem loadTopicEntry_wf (m : Mem) (t : TopicM) (h : WF m) : WF (loadTopicEntry m t) := by
  rw [WF_iff] at h ⊢
  unfold loadTopicEntry
  split
  · next hv =>
    have he := h.ensure t.name ⟨t.name, false, ephName t.name, false, []⟩ rfl
      ⟨hv, rfl, rfl, List.nodup_nil, List.forall_mem_nil _⟩
    refine WFBy.modFirst ?_ _ _ (fun _ => rfl)
      (fun x hx => ⟨hx.1, hx.2.1, hx.2.2.1,
        List.foldlRecOn _ loadChanEntry hx.2.2.2 fun cs h c _ => loadChanEntry_wf cs c h⟩)
    split
    · exact he.modFirst _ _ (fun _ => rfl) (fun _ hx => hx)
    · exact he
  · exact h

theorem wf_nil : WF [] := ⟨List.nodup_nil, List.forall_mem_nil _⟩

theorem loadChanEntry_fresh (acc : List Chan) (c : ChanM) (hv : validName c.name = true)
    (hacc : ∀ x ∈ acc, (x.name == c.name) = false) : loadChanEntry acc c = acc ++ [loadChanE c] := by
  have he : ensureChan acc c.name = acc ++ [⟨c.name, false, ephName c.name, false⟩] := ensure_fresh _ hacc
  unfold loadChanEntry
  rw [if_pos hv, he]
  cases hp : c.paused
  · rw [if_neg Bool.false_ne_true]; simp only [loadChanE, hp]
  · rw [if_pos rfl, pauseChanNamed, modFirst_decomp _ acc [] _ hacc (beq_self_eq_true _)]; simp only [loadChanE, hp]

theorem loadChans_good (l : List ChanM) (hg : chansGood l) : l.foldl loadChanEntry [] = l.map loadChanE :=
  (foldl_append_map loadChanEntry loadChanE (·.name) (·.name) (fun c => validName c.name = true) (fun _ => rfl)
    loadChanEntry_fresh l [] hg.1 hg.2 (fun _ _ => List.forall_mem_nil _)).trans (List.nil_append _)

theorem loadTopicEntry_fresh (acc : Mem) (t : TopicM) (hg : validName t.name = true ∧ chansGood t.chans)
    (hacc : ∀ x ∈ acc, (x.name == t.name) = false) : loadTopicEntry acc t = acc ++ [loadTopicE t] := by
  have he : ensureTopic acc t.name = acc ++ [⟨t.name, false, ephName t.name, false, []⟩] :=
    ensure_fresh _ hacc
  have hself : (t.name == t.name) = true := beq_self_eq_true _
  unfold loadTopicEntry
  rw [if_pos hg.1, he]
  cases hp : t.paused
  · rw [if_neg Bool.false_ne_true, modTopic, modFirst_decomp _ acc [] _ hacc hself]
    simp only [loadTopicE, hp, loadChans_good _ hg.2]
  · rw [if_pos rfl, modTopic, modTopic, modFirst_decomp _ acc [] _ hacc hself,
      modFirst_decomp _ acc [] _ hacc hself]
    simp only [loadTopicE, hp, loadChans_good _ hg.2]

theorem loadRaw_good (d : Doc) (h : DocGood d) : loadRaw d = d.map loadTopicE :=
  (foldl_append_map loadTopicEntry loadTopicE (·.name) (·.name)
    (fun t => validName t.name = true ∧ chansGood t.chans) (fun _ => rfl)
    loadTopicEntry_fresh d [] h.1 h.2 (fun _ _ => List.forall_mem_nil _)).trans (List.nil_append _)

theorem loadE_eq_load (d : Doc) (h : ∀ t ∈ d, ephName t.name = false ∧ ∀ c ∈ t.chans, ephName c.name = false) :
    d.map loadTopicE = loadDoc d := by
  unfold loadDoc
  apply List.map_congr_left
  intro t ht
  obtain ⟨h1, h2⟩ := h t ht
  have : t.chans.map loadChanE = t.chans.map loadChan :=
    List.map_congr_left (fun c hc => by simp [loadChanE, loadChan, h2 c hc])
  simp [loadTopicE, loadTopic, h1, this]

theorem loadRaw_persist (d : Doc) (h : DocPersist d) : loadRaw d = loadDoc d :=
  (loadRaw_good d h.1).trans (loadE_eq_load d h.2)

theorem snap_persist (m : Mem) (h : WF m) : DocPersist (snap m) := by
  refine ⟨⟨?_, fun e he => ?_⟩, fun e he => ?_⟩
  · show (((m.filter _).map snapTopic).map _).Nodup
    rw [List.map_map]
    exact Keyed.nodup_filter _ h.1
  · obtain ⟨t, ht, -, rfl⟩ := mem_snap.mp he
    obtain ⟨hv, -, -, hnd, hok⟩ := h.2 t ht
    refine ⟨hv, ?_, fun c hc => ?_⟩
    · show (((t.chans.filter _).map snapChan).map _).Nodup
      rw [List.map_map]
      exact Keyed.nodup_filter _ hnd
    · obtain ⟨x, hx, -, rfl⟩ := mem_snapTopic_chans.mp hc
      exact (chanOK_iff.mp (hok x hx)).1
  · obtain ⟨t, ht, hne, rfl⟩ := mem_snap.mp he
    obtain ⟨-, hte, -, -, hok⟩ := h.2 t ht
    refine ⟨hte ▸ hne, fun c hc => ?_⟩
    obtain ⟨x, hx, hxe, rfl⟩ := mem_snapTopic_chans.mp hc
    exact (chanOK_iff.mp (hok x hx)).2.1 ▸ hxe

theorem loadChan_snapChan {c : Chan} (he : c.eph = false) (hx : c.exiting = false) :
    loadChan (snapChan c) = c := by
  cases c; cases he; cases hx; rfl

theorem loadDoc_snap (m : Mem) (h : WF m) : loadDoc (snap m) = stripEph m := by
  unfold loadDoc snap stripEph
  rw [List.map_map]
  refine List.map_congr_left fun t ht => ?_
  obtain ⟨ht, hne⟩ := List.mem_filter.mp ht
  obtain ⟨-, -, hx, -, hok⟩ := h.2 t ht
  have hch : ((t.chans.filter (fun c => !c.eph)).map snapChan).map loadChan = t.chans.filter (fun c => !c.eph) := by
    rw [List.map_map]
    refine (List.map_congr_left fun c hc => ?_).trans (List.map_id _)
    obtain ⟨hc, hce⟩ := List.mem_filter.mp hc
    exact loadChan_snapChan ((Bool.not_eq_true' _).mp hce) (chanOK_iff.mp (hok c hc)).2.2
  cases t
  cases hx
  cases (Bool.not_eq_true' _).mp hne
  exact congrArg (Topic.mk _ _ false false) hch

theorem mem_names_loadTopicEntry (m : Mem) (e : TopicM) (t : String) :
    t ∈ (loadTopicEntry m e).map (·.name) ↔ t ∈ m.map (·.name) ∨ e.name = t ∧ validName t = true := by
  have hmod : ∀ (m : Mem) (f : Topic → Topic), (∀ x, (f x).name = x.name) →
      (modTopic m e.name f).map (·.name) = m.map (·.name) :=
    fun m f hn => modFirst_map _ f (·.name) hn m
  have hens : t ∈ (ensureTopic m e.name).map (·.name) ↔ t ∈ m.map (·.name) ∨ e.name = t := by
    unfold ensureTopic
    split
    · next h =>
      refine ⟨Or.inl, fun ht => ht.elim id ?_⟩
      rintro rfl
      obtain ⟨x, hx, hxe⟩ := List.any_eq_true.mp h
      exact List.mem_map.mpr ⟨x, hx, beq_iff_eq.mp hxe⟩
    · rw [List.map_append, List.mem_append, List.map_singleton, List.mem_singleton, eq_comm]
  unfold loadTopicEntry
  split
  · next hv =>
    -- both `modTopic` layers keep the names, so the names are those of `ensureTopic m e.name`
    have key : ∀ l : Mem, l.map (·.name) = (ensureTopic m e.name).map (·.name) →
        (t ∈ l.map (·.name) ↔ t ∈ m.map (·.name) ∨ e.name = t ∧ validName t = true) :=
      fun l hl => hl ▸ hens.trans (or_congr_right ⟨fun h => ⟨h, h ▸ hv⟩, And.left⟩)
    refine key _ ((hmod _ _ (by intro; rfl)).trans ?_)
    split
    · exact hmod _ _ (by intro; rfl)
    · rfl
  · next hv => exact ⟨Or.inl, fun h => h.elim id (fun h => absurd (h.1 ▸ h.2) hv)⟩

theorem mem_names_foldl (d : Doc) : ∀ (m : Mem) (t : String),
    t ∈ (d.foldl loadTopicEntry m).map (·.name) ↔
      t ∈ m.map (·.name) ∨ ∃ e ∈ d, e.name = t ∧ validName t = true := by
  induction d with
  | nil => intro m t; simp
  | cons e rest ih =>
    intro m t
    rw [List.foldl_cons, ih, mem_names_loadTopicEntry]
    simp only [List.mem_cons, or_and_right, exists_or, exists_eq_left, or_assoc]

def PausedTopic (t : String) (x : Topic) : Prop := x.name = t ∧ x.paused = true

theorem loadTopicEntry_keeps_pause (t : String) (m : Mem) (e : TopicM) (h : ∃ x ∈ m, PausedTopic t x) :
    ∃ x ∈ loadTopicEntry m e, PausedTopic t x := by
  have he : ∃ x ∈ ensureTopic m e.name, PausedTopic t x := by
    obtain ⟨x, hx, hP⟩ := h
    unfold ensureTopic
    split
    · exact ⟨x, hx, hP⟩
    · exact ⟨x, List.mem_append_left _ hx, hP⟩
  unfold loadTopicEntry
  split
  · apply modFirst_exists (PausedTopic t) _ _ (by intro x hx; exact hx)
    split
    · exact modFirst_exists (PausedTopic t) _ _ (by intro x hx; exact ⟨hx.1, rfl⟩) _ he
    · exact he
  · exact h

end Nsq.Proofs.MetaLoad
