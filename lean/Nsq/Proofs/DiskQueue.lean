import Nsq.Proofs.DiskQueueBase
/-! The representation invariant `Rep` of go-diskqueue's state (files ↔ a FIFO of records), kept by every step of the model;
the two frames `E` (fields that never influence the data files) and `Fr` (what a read leaves alone); what `retrieve` builds
from a metadata file that is current (`reopen_rep`). -/
namespace Nsq.Proofs.DiskQueue
open Nsq.Model.Wire Nsq.Model.DiskQueue

structure CfgOk (c : Cfg) : Prop where
  sync : 0 < c.syncEvery
  max : c.maxMsgSize < 2147483648

def ValidRec (c : Cfg) (d : Bytes) : Prop := c.minMsgSize ≤ d.length ∧ d.length ≤ c.maxMsgSize

instance (c : Cfg) (d : Bytes) : Decidable (ValidRec c d) := by unfold ValidRec; infer_instance

theorem validRec_iff {c : Cfg} {a b : Nat} (hmin : c.minMsgSize = a) (hmax : c.maxMsgSize = b) (d : Bytes) :
    ValidRec c d ↔ a ≤ d.length ∧ d.length ≤ b := by
  unfold ValidRec; rw [hmin, hmax]

/-- the read-ahead: nothing valid is pending (the loop will read again), or `pending` is the first
unconsumed record of the read file and `next*` is the position behind it (rolled to the next file
when that record was the last of a completed file) -/
def Pend (s : St) (recs : Nat → List Bytes) : Prop :=
  (s.nrf = s.rf ∧ s.nrp = s.rp) ∨
  ∃ d rest, recs s.rf = d :: rest ∧ s.pending = d ∧
    ((s.nrf = s.rf ∧ s.nrp = s.rp + (4 + d.length)) ∨
     (s.rf < s.wf ∧ rest = [] ∧ s.nrf = s.rf + 1 ∧ s.nrp = 0 ∧ s.rOpen = false))

/-- `pre` = the consumed bytes of the read file, `recs i` = the records of file `i` still to be
delivered.  The queue represented is `qFrom recs rf (wf - rf + 1)`. -/
structure Rep (s : St) (pre : Bytes) (recs : Nat → List Bytes) : Prop where
  cfg : CfgOk s.cfg
  live : s.exited = false
  le : s.rf ≤ s.wf
  vrec : ∀ i, ∀ d ∈ recs i, ValidRec s.cfg d
  crf : s.fs.content s.rf = pre ++ enc (recs s.rf)
  rp : s.rp = pre.length
  cmid : ∀ i, s.rf < i → i ≤ s.wf → s.fs.content i = enc (recs i)
  ex : ∀ i, s.rf ≤ i → i < s.wf → s.fs.dat i ≠ none
  wex : s.fs.dat s.wf = none ↔ s.wp = 0
  wp : s.wp = (s.fs.content s.wf).length
  out : ∀ i, i < s.rf ∨ s.wf < i → s.fs.dat i = none
  depth : s.depth = ((qFrom recs s.rf (s.wf - s.rf + 1)).length : Int)
  pend : Pend s recs
  coh : s.rOpen = true → s.nrf = s.rf ∧ s.stream = (s.fs.content s.rf).drop s.nrp ∧
    s.rfd ≤ (s.fs.content s.rf).length ∧ s.nrp ≤ (s.fs.content s.rf).length
  mbr : s.rOpen = true → s.rf < s.wf → s.mbr = (s.fs.content s.rf).length

/-- the second case of `Pend`: a record is pending -/
def PendB (s : St) (recs : Nat → List Bytes) : Prop :=
  ∃ d rest, recs s.rf = d :: rest ∧ s.pending = d ∧
    ((s.nrf = s.rf ∧ s.nrp = s.rp + (4 + d.length)) ∨
     (s.rf < s.wf ∧ rest = [] ∧ s.nrf = s.rf + 1 ∧ s.nrp = 0 ∧ s.rOpen = false))

def absQ (s : St) (recs : Nat → List Bytes) : List Bytes := qFrom recs s.rf (s.wf - s.rf + 1)

theorem content_none {fs : FS} {i : Nat} (h : fs.dat i = none) : fs.content i = [] := by
  simp [FS.content, h]

theorem content_some {fs : FS} {i : Nat} {c : Bytes} (h : fs.dat i = some c) : fs.content i = c := by
  simp [FS.content, h]

theorem content_congr {fs fs' : FS} {i : Nat} (h : fs'.dat i = fs.dat i) : fs'.content i = fs.content i := by
  unfold FS.content
  rw [h]

theorem content_set {fs fs' : FS} {k : Nat} {c : Bytes} (hd : ∀ j, fs'.dat j = if j = k then some c else fs.dat j)
    (j : Nat) : fs'.content j = if j = k then c else fs.content j := by
  by_cases e : j = k
  · rw [if_pos e]; exact content_some (by rw [hd, if_pos e])
  · rw [if_neg e]; exact content_congr (by rw [hd, if_neg e])

theorem absQ_eq (s : St) (recs : Nat → List Bytes) :
    absQ s recs = recs s.rf ++ qFrom recs (s.rf + 1) (s.wf - s.rf) := rfl

/-! ### the data files

The conjuncts of `Rep` that speak of the data files, over variables: what each operation does to the files
is proved once, whichever function of the model performs it. -/

structure Files (fs : FS) (rf wf rp wp : Nat) (pre : Bytes) (recs : Nat → List Bytes) : Prop where
  crf : fs.content rf = pre ++ enc (recs rf)
  rp : rp = pre.length
  cmid : ∀ i, rf < i → i ≤ wf → fs.content i = enc (recs i)
  ex : ∀ i, rf ≤ i → i < wf → fs.dat i ≠ none
  wex : fs.dat wf = none ↔ wp = 0
  wp : wp = (fs.content wf).length
  out : ∀ i, i < rf ∨ wf < i → fs.dat i = none

theorem Rep.files {s : St} {pre : Bytes} {recs : Nat → List Bytes} (h : Rep s pre recs) :
    Files s.fs s.rf s.wf s.rp s.wp pre recs :=
  ⟨h.crf, h.rp, h.cmid, h.ex, h.wex, h.wp, h.out⟩

namespace Files
variable {fs fs' : FS} {rf wf rp wp : Nat} {pre : Bytes} {recs : Nat → List Bytes}

theorem rp_le (h : Files fs rf wf rp wp pre recs) : rp ≤ (fs.content rf).length := by
  rw [h.crf, h.rp, List.length_append]; omega

theorem wp_same (h : Files fs rf wf rp wp pre recs) (e : rf = wf) : wp = rp + (enc (recs rf)).length := by
  rw [h.wp, ← e, h.crf, h.rp, List.length_append]

theorem none_at (hall : ∀ i, fs.dat i = none) (k : Nat) : Files fs k k 0 0 [] (fun _ => []) :=
  ⟨content_none (hall k), rfl, fun i _ _ => content_none (hall i), fun i h1 h2 => absurd h2 (Nat.not_lt.mpr h1),
    ⟨fun _ => rfl, fun _ => hall k⟩, by rw [content_none (hall k)]; rfl, fun i _ => hall i⟩

theorem append (h : Files fs rf wf rp wp pre recs) (hle : rf ≤ wf) (d : Bytes)
    (hd : ∀ j, fs'.dat j = if j = wf then some (fs.content wf ++ dqRecord d) else fs.dat j) :
    Files fs' rf wf rp (wp + (4 + d.length)) pre (setRec recs wf (recs wf ++ [d])) := by
  have hc := content_set hd
  have henc : enc (recs wf ++ [d]) = enc (recs wf) ++ dqRecord d := by
    rw [enc_append, enc_cons, enc_nil, List.append_nil]
  refine ⟨?_, h.rp, ?_, ?_, ?_, ?_, ?_⟩
  · rw [hc]
    by_cases e : rf = wf
    · rw [if_pos e, e, setRec_same, henc, ← List.append_assoc, ← e, h.crf]
    · rw [if_neg e, setRec_ne recs _ e]; exact h.crf
  · intro i h1 h2
    rw [hc]
    by_cases e : i = wf
    · rw [if_pos e, e, setRec_same, henc, h.cmid wf (e ▸ h1) (Nat.le_refl _)]
    · rw [if_neg e, setRec_ne recs _ e]; exact h.cmid i h1 h2
  · intro i h1 h2
    rw [hd, if_neg (Nat.ne_of_lt h2)]; exact h.ex i h1 h2
  · rw [hd, if_pos rfl]
    exact ⟨nofun, fun hh => by omega⟩
  · rw [hc, if_pos rfl, List.length_append, dqRecord_length, ← h.wp]
  · intro i hi
    rw [hd, if_neg (hi.elim (fun h1 => Nat.ne_of_lt (Nat.lt_of_lt_of_le h1 hle)) Nat.ne_of_gt)]; exact h.out i hi

/-- `writeOne`'s roll; `retrieveMetaData` finding the write file longer than the metadata says -/
theorem roll (h : Files fs rf wf rp wp pre recs) (hw : fs.dat wf ≠ none) (hr : recs (wf + 1) = []) :
    Files fs rf (wf + 1) rp 0 pre recs := by
  have hnone : fs.dat (wf + 1) = none := h.out _ (Or.inr (Nat.lt_succ_self _))
  refine ⟨h.crf, h.rp, ?_, ?_, ⟨fun _ => rfl, fun _ => hnone⟩, by rw [content_none hnone]; rfl,
    fun i hi => h.out i (hi.imp id Nat.lt_of_succ_lt)⟩
  · intro i h1 h2
    by_cases e : i = wf + 1
    · rw [e, content_none hnone, hr]; rfl
    · exact h.cmid i h1 (Nat.le_of_lt_succ (Nat.lt_of_le_of_ne h2 e))
  · intro i h1 h2
    by_cases e : i = wf
    · rw [e]; exact hw
    · exact h.ex i h1 (Nat.lt_of_le_of_ne (Nat.le_of_lt_succ h2) e)

theorem advance (h : Files fs rf wf rp wp pre recs) {d : Bytes} {rest : List Bytes} (hr : recs rf = d :: rest) :
    Files fs rf wf (rp + (4 + d.length)) wp (pre ++ dqRecord d) (setRec recs rf rest) :=
  ⟨by rw [setRec_same, h.crf, hr, enc_cons, List.append_assoc],
    by rw [h.rp, List.length_append, dqRecord_length],
    fun i h1 h2 => by rw [setRec_ne recs _ (Nat.ne_of_gt h1)]; exact h.cmid i h1 h2,
    h.ex, h.wex, h.wp, h.out⟩

/-- the read file removed by `moveForward` or renamed by `handleReadError` -/
theorem next (h : Files fs rf wf rp wp pre recs) (hlt : rf < wf)
    (hd : ∀ j, fs'.dat j = if j = rf then none else fs.dat j) : Files fs' (rf + 1) wf 0 wp [] recs := by
  have hc : ∀ j, j ≠ rf → fs'.content j = fs.content j := fun j hj => content_congr (by rw [hd, if_neg hj])
  refine ⟨?_, rfl, ?_, ?_, ?_, ?_, ?_⟩
  · rw [hc _ (Nat.succ_ne_self rf), List.nil_append]; exact h.cmid _ (Nat.lt_succ_self rf) hlt
  · intro i h1 h2
    rw [hc _ (Nat.ne_of_gt (Nat.lt_of_succ_lt h1))]; exact h.cmid i (Nat.lt_of_succ_lt h1) h2
  · intro i h1 h2
    rw [hd, if_neg (Nat.ne_of_gt h1)]; exact h.ex i (Nat.le_of_lt h1) h2
  · rw [hd, if_neg (Nat.ne_of_gt hlt)]; exact h.wex
  · rw [hc _ (Nat.ne_of_gt hlt)]; exact h.wp
  · intro i hi
    rw [hd]
    by_cases e : i = rf
    · rw [if_pos e]
    · rw [if_neg e]; exact h.out i (hi.imp (fun h1 => Nat.lt_of_le_of_ne (Nat.le_of_lt_succ h1) e) id)

theorem rewind (h : Files fs rf wf rp wp pre recs) {pre0 : Bytes} {dup : List Bytes} (hp : pre = pre0 ++ enc dup) :
    Files fs rf wf pre0.length wp pre0 (setRec recs rf (dup ++ recs rf)) :=
  ⟨by rw [setRec_same, enc_append, ← List.append_assoc, ← hp]; exact h.crf, rfl,
    fun i h1 h2 => by rw [setRec_ne recs _ (Nat.ne_of_gt h1)]; exact h.cmid i h1 h2,
    h.ex, h.wex, h.wp, h.out⟩

theorem of_dat (h : Files fs rf wf rp wp pre recs) (hd : ∀ j, fs'.dat j = fs.dat j) : Files fs' rf wf rp wp pre recs :=
  ⟨by rw [content_congr (hd rf)]; exact h.crf, h.rp, fun i h1 h2 => by rw [content_congr (hd i)]; exact h.cmid i h1 h2,
    fun i h1 h2 => by rw [hd]; exact h.ex i h1 h2, by rw [hd]; exact h.wex, by rw [content_congr (hd wf)]; exact h.wp,
    fun i hi => by rw [hd]; exact h.out i hi⟩

theorem congr (h : Files fs rf wf rp wp pre recs) (hle : rf ≤ wf) {recs' : Nat → List Bytes}
    (e : ∀ i, rf ≤ i → i ≤ wf → recs' i = recs i) : Files fs rf wf rp wp pre recs' :=
  ⟨by rw [e rf (Nat.le_refl _) hle]; exact h.crf, h.rp,
    fun i h1 h2 => by rw [e i (Nat.le_of_lt h1) h2]; exact h.cmid i h1 h2, h.ex, h.wex, h.wp, h.out⟩

end Files

variable {s : St} {pre : Bytes} {recs : Nat → List Bytes}

theorem rep_pre (h : Rep s pre recs) :
    (s.fs.content s.rf).take s.rp = pre := by
  rw [h.crf, h.rp]; simp

theorem Rep.of_files (cfg : CfgOk s.cfg) (live : s.exited = false)
    (le : s.rf ≤ s.wf) (vrec : ∀ i, ∀ d ∈ recs i, ValidRec s.cfg d) (f : Files s.fs s.rf s.wf s.rp s.wp pre recs)
    (depth : s.depth = ((absQ s recs).length : Int)) (pend : Pend s recs)
    (coh : s.rOpen = true → s.nrf = s.rf ∧ s.stream = (s.fs.content s.rf).drop s.nrp ∧
      s.rfd ≤ (s.fs.content s.rf).length ∧ s.nrp ≤ (s.fs.content s.rf).length)
    (mbr : s.rOpen = true → s.rf < s.wf → s.mbr = (s.fs.content s.rf).length) : Rep s pre recs :=
  ⟨cfg, live, le, vrec, f.crf, f.rp, f.cmid, f.ex, f.wex, f.wp, f.out, depth, pend, coh, mbr⟩

theorem Rep.of_files_closed (cfg : CfgOk s.cfg)
    (live : s.exited = false) (le : s.rf ≤ s.wf) (vrec : ∀ i, ∀ d ∈ recs i, ValidRec s.cfg d)
    (f : Files s.fs s.rf s.wf s.rp s.wp pre recs) (depth : s.depth = ((absQ s recs).length : Int))
    (hn : s.nrf = s.rf ∧ s.nrp = s.rp) (hc : s.rOpen = false) : Rep s pre recs :=
  Rep.of_files cfg live le vrec f depth (Or.inl hn) (fun ho => absurd ho (by rw [hc]; simp))
    (fun ho => absurd ho (by rw [hc]; simp))

theorem canRead_iff (s : St) : canRead s = true ↔ s.rf < s.wf ∨ s.rp < s.wp := by
  simp only [canRead, Bool.or_eq_true, decide_eq_true_eq]

theorem tail_facts (h : Rep s pre recs)
    (hc : ¬ (s.rf < s.wf ∨ s.rp < s.wp)) : s.rf = s.wf ∧ s.rp = s.wp ∧ absQ s recs = [] ∧ s.depth = 0 := by
  have hle := h.le
  have e : s.rf = s.wf := by omega
  have hw := h.files.wp_same e
  have hr := enc_eq_nil (recs s.rf) (by omega)
  have hq : absQ s recs = [] := by
    rw [absQ_eq, hr, e, Nat.sub_self]; rfl
  refine ⟨e, by omega, hq, ?_⟩
  rw [h.depth]
  unfold absQ at hq
  rw [hq]; rfl

theorem checkTail_id (h : Rep s pre recs) : checkTail s = s := by
  unfold checkTail
  by_cases hc : s.rf < s.wf ∨ s.rp < s.wp
  · rw [if_pos hc]
  · rw [if_neg hc]
    obtain ⟨e1, e2, _, e3⟩ := tail_facts h hc
    rw [if_neg (by simp [e3]), if_neg (by omega)]

theorem checkTail_eq (s : St) : checkTail s =
    if s.rf < s.wf ∨ s.rp < s.wp then s
    else if s.rf ≠ s.wf ∨ s.rp ≠ s.wp then { skipToNextRWFile s with needSync := true }
    else if s.depth ≠ 0 then { s with depth := 0, needSync := true } else s := by
  unfold checkTail
  by_cases hA : s.rf < s.wf ∨ s.rp < s.wp
  · rw [if_pos hA, if_pos hA]
  · rw [if_neg hA, if_neg hA]
    by_cases hD : s.depth ≠ 0
    · rw [if_pos hD]
      by_cases hB : s.rf ≠ s.wf ∨ s.rp ≠ s.wp
      · rw [if_pos hB, if_pos hB]; rfl
      · rw [if_neg hB, if_neg hB, if_pos hD]
    · rw [if_neg hD]
      by_cases hB : s.rf ≠ s.wf ∨ s.rp ≠ s.wp
      · rw [if_pos hB, if_pos hB]
      · rw [if_neg hB, if_neg hB, if_neg hD]

theorem checkTail_keeps {α : Type} (f : St → α) (hskip : ∀ u : St, f { skipToNextRWFile u with needSync := true } = f u)
    (hdepth : ∀ u : St, f { u with depth := 0, needSync := true } = f u) (s : St) : f (checkTail s) = f s := by
  rw [checkTail_eq]
  split
  · rfl
  · split
    · exact hskip s
    · split
      · exact hdepth s
      · rfl

def upd (s : St) (dp : Int) (ns : Bool) (ct : Nat) (md : Option Meta) : St :=
  { s with depth := dp, needSync := ns, count := ct, fs := { s.fs with md := md } }

/-- states that differ at most in depth, `needSync`, count and the metadata file -/
def E (s s' : St) : Prop := ∃ dp ns ct md, s' = upd s dp ns ct md

theorem E.refl (s : St) : E s s := ⟨s.depth, s.needSync, s.count, s.fs.md, rfl⟩

theorem E.symm {s s' : St} (h : E s s') : E s' s := by
  obtain ⟨dp, ns, ct, md, rfl⟩ := h
  exact ⟨s.depth, s.needSync, s.count, s.fs.md, rfl⟩

theorem E.trans {a b c : St} (h1 : E a b) (h2 : E b c) : E a c := by
  obtain ⟨dp, ns, ct, md, rfl⟩ := h1
  obtain ⟨dp', ns', ct', md', rfl⟩ := h2
  exact ⟨dp', ns', ct', md', rfl⟩

structure EPos (s s' : St) : Prop where
  rf : s'.rf = s.rf
  rp : s'.rp = s.rp
  wf : s'.wf = s.wf
  wp : s'.wp = s.wp
  nrf : s'.nrf = s.nrf
  nrp : s'.nrp = s.nrp
  cfg : s'.cfg = s.cfg
  exited : s'.exited = s.exited
  pending : s'.pending = s.pending
  dat : s'.fs.dat = s.fs.dat
  bad : s'.fs.bad = s.fs.bad

theorem E_pos {s s' : St} (h : E s s') : EPos s s' := by
  obtain ⟨dp, ns, ct, md, rfl⟩ := h
  exact ⟨rfl, rfl, rfl, rfl, rfl, rfl, rfl, rfl, rfl, rfl, rfl⟩

/-- for an `f` that is itself an `E`-step from every state (`syncDue`, a depth reset); when `f` changes other fields
too, `E_of_upd` (DiskQueueDepthFree) -/
theorem E_conj {f : St → St} (hf : ∀ t, E t (f t)) {s s' : St} (h : E s s') : E (f s) (f s') :=
  E.trans (E.symm (hf s)) (E.trans h (hf s'))

theorem Rep.upd (h : Rep s pre recs) (ns : Bool) (ct : Nat) (md : Option Meta) : Rep (upd s s.depth ns ct md) pre recs :=
  ⟨h.cfg, h.live, h.le, h.vrec, h.crf, h.rp, h.cmid, h.ex, h.wex, h.wp, h.out, h.depth, h.pend, h.coh, h.mbr⟩

/-- the files after `sync` / `Close`: the metadata file written from the state as it stands -/
theorem Rep.persisted (h : Rep s pre recs) : Rep (DiskQueue.upd s s.depth s.needSync s.count (some s.metaNow)) pre recs :=
  h.upd _ _ _

theorem syncDue_E (s : St) : E s (syncDue s) := by
  unfold syncDue
  split
  · exact ⟨_, _, _, _, rfl⟩
  · exact E.refl s

theorem syncDue_needSync (s : St) : (syncDue s).needSync = false := by
  unfold syncDue
  split
  · rfl
  · rename_i hh
    exact (Bool.not_eq_true _).mp (fun hn => hh (Or.inr hn))

theorem rep_syncDue (h : Rep s pre recs) : Rep (syncDue s) pre recs := by
  unfold syncDue
  split
  · exact h.upd _ _ _
  · exact h

/-- what a read leaves alone, and all that the metadata lag depends on -/
structure Fr (a b : St) : Prop where
  fs : a.fs = b.fs
  cfg : a.cfg = b.cfg
  rf : a.rf = b.rf
  rp : a.rp = b.rp
  wf : a.wf = b.wf
  wp : a.wp = b.wp
  depth : a.depth = b.depth
  needSync : a.needSync = b.needSync

theorem Fr.refl (a : St) : Fr a a := ⟨rfl, rfl, rfl, rfl, rfl, rfl, rfl, rfl⟩

theorem Fr.trans {a b c : St} (h1 : Fr a b) (h2 : Fr b c) : Fr a c :=
  ⟨h1.fs.trans h2.fs, h1.cfg.trans h2.cfg, h1.rf.trans h2.rf, h1.rp.trans h2.rp, h1.wf.trans h2.wf,
    h1.wp.trans h2.wp, h1.depth.trans h2.depth, h1.needSync.trans h2.needSync⟩

theorem Fr.metaNow {a b : St} (h : Fr a b) : a.metaNow = b.metaNow := by
  unfold St.metaNow
  rw [h.depth, h.rf, h.rp, h.wf, h.wp]

def readCore (s1 : St) : Bool × St :=
  match dqRead s1.cfg.minMsgSize s1.cfg.maxMsgSize s1.stream with
  | none => (false, { s1 with rOpen := false })
  | some r => (true, afterRead (consumed s1 r.1) r.1)

theorem readOne_eq (s : St) : readOne s =
    match openRead s with
    | none => (false, { s with rOpen := false })
    | some s1 => readCore s1 := by
  unfold readOne readCore
  rfl

theorem openRead_frame {s s1 : St} (ho : openRead s = some s1) : Fr s1 s := by
  unfold openRead at ho
  split at ho
  · injection ho with ho; rw [← ho]; exact Fr.refl s
  · split at ho
    · exact absurd ho (by simp)
    · injection ho with ho; rw [← ho]; exact ⟨rfl, rfl, rfl, rfl, rfl, rfl, rfl, rfl⟩

theorem readCore_frame (s1 : St) : Fr (readCore s1).2 s1 := by
  unfold readCore
  split
  · exact ⟨rfl, rfl, rfl, rfl, rfl, rfl, rfl, rfl⟩
  · simp only []
    unfold afterRead
    split <;> exact ⟨rfl, rfl, rfl, rfl, rfl, rfl, rfl, rfl⟩

theorem readOne_frame (s : St) : Fr (readOne s).2 s := by
  rw [readOne_eq]
  cases ho : openRead s with
  | none => exact ⟨rfl, rfl, rfl, rfl, rfl, rfl, rfl, rfl⟩
  | some s1 => exact Fr.trans (readCore_frame s1) (openRead_frame ho)

theorem consumed_stream (s1 : St) (d : Bytes) (rest : Bytes) (hs : s1.stream = dqRecord d ++ rest)
    (hfd : s1.rfd ≤ (s1.fs.content s1.rf).length) :
    (consumed s1 d).stream = rest ∧ (consumed s1 d).rfd ≤ (s1.fs.content s1.rf).length := by
  have hs' : s1.rbuf ++ (s1.fs.content s1.rf).drop s1.rfd = dqRecord d ++ rest := hs
  obtain ⟨a1, a2⟩ := consume_stream s1.rbuf s1.rfd (s1.fs.content s1.rf) 4 hfd
    (by rw [hs', List.length_append, dqRecord_length]; omega)
  unfold consumed St.stream
  simp only []
  generalize consume s1.rbuf s1.rfd (s1.fs.content s1.rf) 4 = p at a1 a2 ⊢
  obtain ⟨b1, b2⟩ := consume_stream p.1 p.2 (s1.fs.content s1.rf) d.length a2
    (by rw [a1, hs', List.length_drop, List.length_append, dqRecord_length]; omega)
  refine ⟨?_, b2⟩
  rw [b1, a1, List.drop_drop, hs']
  exact List.drop_left' (by rw [dqRecord_length])

theorem readCore_cons (s1 : St) (d : Bytes) (rest : Bytes) (hs : s1.stream = dqRecord d ++ rest)
    (hv : ValidRec s1.cfg d) (hc : CfgOk s1.cfg) :
    readCore s1 = (true, afterRead (consumed s1 d) d) := by
  unfold readCore
  rw [hs, Nsq.Proofs.Wire.dq_roundtrip d rest _ _ hv.1 hv.2 (Nat.lt_of_le_of_lt hv.2 hc.max)]

theorem readCore_nil (s1 : St) (hs : s1.stream = []) : readCore s1 = (false, { s1 with rOpen := false }) := by
  unfold readCore
  rw [hs]
  simp [dqRead]

theorem after_rep {d : Bytes} {rest : List Bytes} {t : St} {b : Bytes} {f m : Nat}
    (h : Rep s pre recs) (hr : recs s.rf = d :: rest) (ht : t = { s with rOpen := true, rbuf := b, rfd := f, mbr := m })
    (hs : t.stream = dqRecord d ++ enc rest)
    (hfd : f ≤ (s.fs.content s.rf).length) (hm : s.rf < s.wf → m = (s.fs.content s.rf).length) :
    Rep (afterRead (consumed t d) d) pre recs ∧ PendB (afterRead (consumed t d) d) recs := by
  subst ht
  obtain ⟨c1, c2⟩ := consumed_stream _ d (enc rest) hs hfd
  have hcont : s.fs.content s.rf = pre ++ (dqRecord d ++ enc rest) := by rw [h.crf, hr, enc_cons]
  have hclen : (s.fs.content s.rf).length = s.rp + (4 + d.length) + (enc rest).length := by
    rw [hcont, h.rp]; simp only [List.length_append, dqRecord_length, Nat.add_assoc]
  unfold afterRead
  split
  · -- the record was the last of a completed file: the reader is closed, the next read opens the next file
    rename_i hroll
    replace hroll : s.rf < s.wf ∧ m ≤ s.rp + (4 + d.length) := hroll
    have hrest : rest = [] := enc_eq_nil _ (by have := hm hroll.1; omega)
    refine ⟨Rep.of_files h.cfg h.live h.le h.vrec h.files h.depth (Or.inr ?pend) nofun nofun, ?pend⟩
    exact ⟨d, rest, hr, rfl, Or.inr ⟨hroll.1, hrest, rfl, rfl, rfl⟩⟩
  · refine ⟨Rep.of_files h.cfg h.live h.le h.vrec h.files h.depth (Or.inr ?ahead) (fun _ => ⟨rfl, ?_, c2, ?_⟩)
      (fun _ hlt => hm hlt), ?ahead⟩
    · exact ⟨d, rest, hr, rfl, Or.inl ⟨rfl, rfl⟩⟩
    · show (consumed { s with rOpen := true, rbuf := b, rfd := f, mbr := m } d).stream =
        (s.fs.content s.rf).drop (s.rp + (4 + d.length))
      rw [c1, hcont, h.rp, ← List.append_assoc]
      exact (List.drop_left' (by simp only [List.length_append, dqRecord_length])).symm
    · show s.rp + (4 + d.length) ≤ (s.fs.content s.rf).length
      rw [hclen]; exact Nat.le_add_right _ _

/-- `t` is pinned by an equation only so that the opened state is written once; the users `subst` it -/
theorem openRead_spec (h : Rep s pre recs) (hn : s.nrp = s.rp) :
    (openRead s = none ∧ s.fs.content s.rf = []) ∨
    ∃ t b f m, t = { s with rOpen := true, rbuf := b, rfd := f, mbr := m } ∧ openRead s = some t ∧ t.stream = (s.fs.content s.rf).drop s.rp ∧
      f ≤ (s.fs.content s.rf).length ∧ (s.rf < s.wf → m = (s.fs.content s.rf).length) := by
  unfold openRead
  by_cases ho : s.rOpen = true
  · rw [if_pos ho]
    obtain ⟨_, c2, c3, _⟩ := h.coh ho
    refine Or.inr ⟨_, s.rbuf, s.rfd, s.mbr, rfl, ?_, by rw [← hn]; exact c2, c3, h.mbr ho⟩
    cases s; cases ho; rfl
  · rw [if_neg ho]
    cases hd : s.fs.dat s.rf with
    | none => exact Or.inl ⟨rfl, content_none hd⟩
    | some c =>
      exact Or.inr ⟨_, [], s.rp, _, rfl, rfl, rfl, h.files.rp_le, fun hlt => by rw [if_pos hlt, content_some hd]⟩

theorem readOne_cons {d : Bytes} {rest : List Bytes}
    (h : Rep s pre recs) (hn : s.nrp = s.rp) (hr : recs s.rf = d :: rest) :
    (readOne s).1 = true ∧ Rep (readOne s).2 pre recs ∧ PendB (readOne s).2 recs := by
  have hcont : s.fs.content s.rf = pre ++ (dqRecord d ++ enc rest) := by rw [h.crf, hr, enc_cons]
  have hdrop : (s.fs.content s.rf).drop s.rp = dqRecord d ++ enc rest := by
    rw [hcont, h.rp]; exact List.drop_left' rfl
  rw [readOne_eq]
  rcases openRead_spec h hn with ⟨_, e0⟩ | ⟨t, b, f, m, ht, e, hs, hf, hm⟩
  · have := congrArg List.length (hcont.symm.trans e0)
    simp only [List.length_append, dqRecord_length, List.length_nil] at this
    omega
  · subst ht
    rw [e]
    simp only []
    rw [readCore_cons _ d (enc rest) (hs.trans hdrop) (h.vrec _ d (by rw [hr]; simp)) h.cfg]
    exact ⟨rfl, after_rep h hr rfl (hs.trans hdrop) hf hm⟩

theorem readOne_nil (h : Rep s pre recs) (hn : s.nrp = s.rp) (hr : recs s.rf = []) :
    (readOne s).1 = false ∧ ∃ b f m, (readOne s).2 = { s with rOpen := false, rbuf := b, rfd := f, mbr := m } := by
  have hdrop : (s.fs.content s.rf).drop s.rp = [] := by
    rw [h.crf, hr, enc_nil, List.append_nil, h.rp]; exact List.drop_eq_nil_of_le (Nat.le_refl _)
  rw [readOne_eq]
  rcases openRead_spec h hn with ⟨e, _⟩ | ⟨t, b, f, m, ht, e, hs, _, _⟩
  · rw [e]
    exact ⟨rfl, s.rbuf, s.rfd, s.mbr, rfl⟩
  · subst ht
    rw [e]
    simp only []
    rw [readCore_nil _ (hs.trans hdrop)]
    exact ⟨rfl, b, f, m, rfl⟩

theorem quarantine_dat (fs : FS) (i j : Nat) : (quarantine fs i).dat j = if j = i then none else fs.dat j := by
  unfold quarantine
  cases h : fs.dat i with
  | none =>
    simp only []
    by_cases e : j = i
    · rw [if_pos e, e, h]
    · rw [if_neg e]
  | some c => simp only [setFile]

theorem quarantine_content (fs : FS) (i j : Nat) (hne : j ≠ i) : (quarantine fs i).content j = fs.content j := by
  unfold FS.content
  rw [quarantine_dat, if_neg hne]

/-- the read error at the end of a completely consumed, completed file: skip to the next file -/
theorem handle_rep {t : St} (h : Rep s pre recs)
    (hr : recs s.rf = []) (hlt : s.rf < s.wf) {b : Bytes} {f m : Nat}
    (ht : t = { s with rOpen := false, rbuf := b, rfd := f, mbr := m }) :
    Rep (handleReadError t) [] recs ∧ (handleReadError t).rf = s.rf + 1 ∧ (handleReadError t).wf = s.wf ∧
      (handleReadError t).needSync = true := by
  subst ht
  have hrep : Rep { s with fs := quarantine s.fs s.rf, rf := s.rf + 1, rp := 0, nrf := s.rf + 1, nrp := 0, needSync := true, rOpen := false, rbuf := b, rfd := f, mbr := m } [] recs :=
    Rep.of_files_closed h.cfg h.live hlt h.vrec (h.files.next hlt (quarantine_dat s.fs s.rf))
      (by show s.depth = ((qFrom recs (s.rf + 1) (s.wf - (s.rf + 1) + 1)).length : Int)
          rw [qFrom_skip_nil recs hlt hr]; exact h.depth)
      ⟨rfl, rfl⟩ rfl
  unfold handleReadError
  rw [if_neg (show ¬ s.rf = s.wf from Nat.ne_of_lt hlt), checkTail_id hrep]
  exact ⟨hrep, rfl, rfl, rfl⟩

/-- after `settle`: the metadata is not waiting to be written and, when the loop offers `ReadChan`,
`pending` is the head of the queue -/
def Ready (s : St) (recs : Nat → List Bytes) : Prop :=
  s.needSync = false ∧ (canRead s = true → PendB s recs)

theorem canRead_nil_lt (h : Rep s pre recs)
    (hc : canRead s = true) (hr : recs s.rf = []) : s.rf < s.wf := by
  refine ((canRead_iff s).mp hc).elim id (fun h2 => Nat.lt_of_le_of_ne h.le (fun e => ?_))
  have hw := h.files.wp_same e
  rw [hr, enc_nil, List.length_nil, Nat.add_zero] at hw
  exact absurd h2 (hw ▸ Nat.lt_irrefl _)

theorem settleStep_rep (h : Rep s pre recs) :
    ((settleStep s).1 = true → Rep (settleStep s).2 [] recs ∧ (settleStep s).2.rf = s.rf + 1 ∧
        (settleStep s).2.wf = s.wf ∧ s.rf < s.wf ∧ recs s.rf = [] ∧ (settleStep s).2.needSync = true) ∧
    ((settleStep s).1 = false → Rep (settleStep s).2 pre recs ∧ Ready (settleStep s).2 recs ∧
        Fr (settleStep s).2 (syncDue s)) := by
  have ht : Rep (syncDue s) pre recs := rep_syncDue h
  have hrf := (E_pos (syncDue_E s)).rf
  have hwf := (E_pos (syncDue_E s)).wf
  have hns := syncDue_needSync s
  unfold settleStep
  by_cases hc : canRead (syncDue s) = true
  · rw [if_pos hc]
    by_cases hn : (syncDue s).nrp = (syncDue s).rp
    · rw [if_pos hn]
      -- by `Rep` the stream at `rp` starts with a valid record unless `recs rf = []`: the only read error of a healthy
      -- queue is EOF at the end of a consumed, completed file
      cases hr : recs (syncDue s).rf with
      | nil =>
        obtain ⟨r1, b, f, m, r2⟩ := readOne_nil ht hn hr
        have hlt := canRead_nil_lt ht hc hr
        rw [r1]
        simp only [Bool.false_eq_true, if_false]
        obtain ⟨g1, g2, g3, g4⟩ := handle_rep ht hr hlt r2
        refine ⟨fun _ => ⟨g1, by rw [g2, hrf], by rw [g3, hwf], by rw [← hrf, ← hwf]; exact hlt, by rw [← hrf]; exact hr, g4⟩, nofun⟩
      | cons d rest =>
        obtain ⟨r1, r2, r3⟩ := readOne_cons ht hn hr
        have q := readOne_frame (syncDue s)
        rw [r1]
        simp only [if_true]
        exact ⟨nofun, fun _ => ⟨r2, ⟨by rw [q.needSync, hns], fun _ => r3⟩, q⟩⟩
    · rw [if_neg hn]
      exact ⟨nofun, fun _ => ⟨ht, ⟨hns, fun _ => Or.resolve_left ht.pend (fun a => hn a.2)⟩, Fr.refl _⟩⟩
  · rw [if_neg hc]
    exact ⟨nofun, fun _ => ⟨ht, ⟨hns, fun hh => absurd hh hc⟩, Fr.refl _⟩⟩

/-- the metadata file is the live state -/
def Cur (s : St) : Prop := s.fs.md = some s.metaNow

theorem cur_of_fr {t : St} (fr : Fr t (syncDue s)) (hd : s.count = s.cfg.syncEvery ∨ s.needSync = true) : Cur t := by
  show t.fs.md = some t.metaNow
  rw [fr.fs, fr.metaNow]
  unfold syncDue
  rw [if_pos hd]
  rfl

/-- the loop parks after at most `wf - rf + 1` passes, one per completely consumed file.  Either it took one pass, or
a consumed file was skipped, and then the metadata has been rewritten since (`Cur`) -/
theorem settleN_rep (n : Nat) : ∀ {s : St} {pre : Bytes} {recs : Nat → List Bytes}, Rep s pre recs → s.wf - s.rf < n →
    ∃ pre', Rep (settleN n s) pre' recs ∧ Ready (settleN n s) recs ∧ absQ (settleN n s) recs = absQ s recs ∧
      (Fr (settleN n s) (syncDue s) ∨ (Cur (settleN n s) ∧ s.rf < s.wf ∧ recs s.rf = [])) := by
  induction n with
  | zero => intro s pre recs _ hlt; exact absurd hlt (Nat.not_lt_zero _)
  | succ n ih =>
    intro s pre recs h hlt
    obtain ⟨a, b⟩ := settleStep_rep h
    unfold settleN
    cases hb : (settleStep s).1 with
    | true =>
      obtain ⟨a1, a2, a3, a4, a5, a6⟩ := a hb
      simp only [if_true]
      obtain ⟨pre', i1, i2, i3, i4⟩ := ih a1 (by rw [a2, a3]; omega)
      refine ⟨pre', i1, i2, ?_, Or.inr ⟨i4.elim (fun c => cur_of_fr c (Or.inr a6)) (fun c => c.1), a4, a5⟩⟩
      rw [i3]
      unfold absQ
      rw [a2, a3]
      exact qFrom_skip_nil recs a4 a5
    | false =>
      obtain ⟨b1, b2, fr⟩ := b hb
      simp only [Bool.false_eq_true, if_false]
      exact ⟨pre, b1, b2, by unfold absQ; rw [fr.rf, fr.wf, (E_pos (syncDue_E s)).rf, (E_pos (syncDue_E s)).wf], Or.inl fr⟩

theorem settle_rep (h : Rep s pre recs) :
    ∃ pre', Rep (settle s) pre' recs ∧ Ready (settle s) recs ∧ absQ (settle s) recs = absQ s recs ∧
      (Fr (settle s) (syncDue s) ∨ (Cur (settle s) ∧ s.rf < s.wf ∧ recs s.rf = [])) :=
  settleN_rep _ h (by have := h.le; omega)

theorem appendRec_dat {t : St} {pre : Bytes} {recs : Nat → List Bytes} (h : Rep t pre recs) (d : Bytes) (j : Nat) :
    (appendRec t d).fs.dat j = if j = t.wf then some (t.fs.content t.wf ++ dqRecord d) else t.fs.dat j := by
  show (if j = t.wf then some (writeAt (t.fs.content t.wf) t.wp (dqRecord d)) else t.fs.dat j) = _
  rw [h.wp, writeAt_append]

theorem appendRec_content_ne (t : St) (d : Bytes) {j : Nat} (hne : j ≠ t.wf) :
    (appendRec t d).fs.content j = t.fs.content j :=
  content_congr (if_neg hne)

/-- an append seen from the reader: its file gains `x` at the far end — the new record when the writer is in that
file, nothing otherwise -/
theorem appendRec_readFile {t : St} {pre : Bytes} {recs : Nat → List Bytes} (h : Rep t pre recs) (d : Bytes) :
    ∃ x, setRec recs t.wf (recs t.wf ++ [d]) t.rf = recs t.rf ++ x ∧
      (appendRec t d).fs.content t.rf = t.fs.content t.rf ++ enc x ∧ (t.rf < t.wf → x = []) := by
  rw [content_set (appendRec_dat h d)]
  by_cases e : t.rf = t.wf
  · exact ⟨[d], by rw [e, setRec_same], by rw [if_pos e, e, enc_cons, enc_nil, List.append_nil],
      fun hlt => absurd e (Nat.ne_of_lt hlt)⟩
  · exact ⟨[], by rw [setRec_ne recs _ e, List.append_nil], by rw [if_neg e, enc_nil, List.append_nil], fun _ => rfl⟩

theorem append_rep {t : St} {pre : Bytes} {recs : Nat → List Bytes} (h : Rep t pre recs) (d : Bytes)
    (hv : ValidRec t.cfg d) :
    Rep (appendRec t d) pre (setRec recs t.wf (recs t.wf ++ [d])) ∧
      absQ (appendRec t d) (setRec recs t.wf (recs t.wf ++ [d])) = absQ t recs ++ [d] := by
  have hle := h.le
  have hq : absQ (appendRec t d) (setRec recs t.wf (recs t.wf ++ [d])) = absQ t recs ++ [d] := by
    show qFrom (setRec recs t.wf (recs t.wf ++ [d])) t.rf (t.wf - t.rf + 1) = qFrom recs t.rf (t.wf - t.rf + 1) ++ [d]
    exact qFrom_setRec_last recs [d] (Nat.add_sub_cancel' hle).symm
  obtain ⟨x, x1, x2, x3⟩ := appendRec_readFile h d
  refine ⟨Rep.of_files h.cfg h.live hle ?_ (h.files.append hle d (appendRec_dat h d)) ?_ ?_ ?_ ?_, hq⟩
  · exact mem_setRec h.vrec (fun x hx => by
      rcases List.mem_append.mp hx with h1 | h1
      · exact h.vrec _ x h1
      · rw [List.mem_singleton.mp h1]; exact hv)
  · show t.depth + 1 = _
    rw [hq, List.length_append, h.depth]
    rfl
  · exact Or.imp id (fun ⟨d0, rest, b1, b2, b3⟩ => ⟨d0, rest ++ x, x1.trans (congrArg (· ++ x) b1), b2,
      b3.imp id (fun c => ⟨c.1, by rw [c.2.1, x3 c.1]; rfl, c.2.2⟩)⟩) h.pend
  · -- what the reader has buffered is a snapshot of a prefix; the read file only ever grows at its end
    intro ho
    obtain ⟨c1, c2, c3, c4⟩ := h.coh ho
    refine ⟨c1, ?_, ?_, ?_⟩
    · show t.rbuf ++ ((appendRec t d).fs.content t.rf).drop t.rfd = ((appendRec t d).fs.content t.rf).drop t.nrp
      rw [x2, List.drop_append_of_le_length c3, List.drop_append_of_le_length c4, ← List.append_assoc]
      exact congrArg (· ++ enc x) c2
    · show t.rfd ≤ ((appendRec t d).fs.content t.rf).length
      rw [x2, List.length_append]; exact Nat.le_add_right_of_le c3
    · show t.nrp ≤ ((appendRec t d).fs.content t.rf).length
      rw [x2, List.length_append]; exact Nat.le_add_right_of_le c4
  · intro ho hlt
    show t.mbr = ((appendRec t d).fs.content t.rf).length
    rw [x2, x3 hlt, enc_nil, List.append_nil]
    exact h.mbr ho hlt

theorem roll_rep (h : Rep s pre recs) (hw : 0 < s.wp) :
    Rep (rollWrite s) pre (setRec recs (s.wf + 1) []) ∧
      absQ (rollWrite s) (setRec recs (s.wf + 1) []) = absQ s recs := by
  have hle := h.le
  have hq : absQ (rollWrite s) (setRec recs (s.wf + 1) []) = absQ s recs := by
    show qFrom (setRec recs (s.wf + 1) []) s.rf (s.wf + 1 - s.rf + 1) = qFrom recs s.rf (s.wf - s.rf + 1)
    rw [qFrom_succ_range _ hle, setRec_same, List.append_nil, qFrom_setRec_out recs [] (Or.inr (Nat.le_of_eq (range_end hle)))]
  have hf : Files s.fs s.rf (s.wf + 1) s.rp 0 pre (setRec recs (s.wf + 1) []) :=
    (h.files.congr hle (fun i _ h2 => setRec_ne recs [] (Nat.ne_of_lt (Nat.lt_succ_of_le h2)))).roll
      (fun hh => Nat.ne_of_gt hw (h.wex.mp hh)) (setRec_same recs _ _)
  refine ⟨Rep.of_files h.cfg h.live (Nat.le_succ_of_le hle)
    (mem_setRec h.vrec nofun) (hf.of_dat (fun _ => rfl)) ?_ ?_ h.coh ?_, hq⟩
  · show s.depth = _
    rw [hq]; exact h.depth
  · exact Or.imp id (fun ⟨d0, rest, b1, b2, b3⟩ =>
      ⟨d0, rest, (setRec_ne recs _ (Nat.ne_of_lt (Nat.lt_succ_of_le hle))).trans b1, b2,
        b3.imp id (fun c => ⟨Nat.lt_succ_of_lt c.1, c.2⟩)⟩) h.pend
  · intro ho _
    show (if s.rf = s.wf then s.wp else s.mbr) = (s.fs.content s.rf).length
    by_cases e : s.rf = s.wf
    · rw [if_pos e, e]; exact h.wp
    · rw [if_neg e]; exact h.mbr ho (Nat.lt_of_le_of_ne hle e)

theorem validSize_iff (c : Cfg) (d : Bytes) : validSize c d = true ↔ ValidRec c d := by
  simp only [validSize, Bool.and_eq_true, decide_eq_true_eq]; rfl

theorem writeOne_valid (s : St) (d : Bytes) (hv : ValidRec s.cfg d) :
    writeOne s d = (true, if needRoll s d then appendRec (rollWrite s) d else appendRec s d) := by
  unfold writeOne
  rw [if_neg (by rw [(validSize_iff s.cfg d).mpr hv]; simp)]
  split <;> rfl

theorem writeOne_invalid (s : St) (d : Bytes) (hv : ¬ ValidRec s.cfg d) : writeOne s d = (false, s) := by
  unfold writeOne
  rw [if_pos (Bool.eq_false_iff.mpr (fun hh => hv ((validSize_iff s.cfg d).mp hh)))]

theorem needRoll_pos {s : St} {d : Bytes} (h : needRoll s d = true) : 0 < s.wp := by
  simp only [needRoll, Bool.and_eq_true, decide_eq_true_eq] at h
  exact h.1

theorem written_rep (h : Rep s pre recs) (d : Bytes) (hv : ValidRec s.cfg d) :
    ∃ recs', Rep (if needRoll s d then appendRec (rollWrite s) d else appendRec s d) pre recs' ∧
      absQ (if needRoll s d then appendRec (rollWrite s) d else appendRec s d) recs' = absQ s recs ++ [d] := by
  by_cases hr : needRoll s d = true
  · rw [if_pos hr]
    obtain ⟨r1, r2⟩ := roll_rep h (needRoll_pos hr)
    obtain ⟨a1, a2⟩ := append_rep r1 d hv
    exact ⟨_, a1, by rw [a2, r2]⟩
  · rw [if_neg hr]
    exact ⟨_, append_rep h d hv⟩

theorem depth_tail {n : Int} {d : Bytes} {x x' q : List Bytes} (h : n = (q.length : Int)) (e : q = d :: x) (e' : x' = x) :
    n - 1 = (x'.length : Int) := by
  subst e e'
  simp only [List.length_cons] at h
  omega

theorem moveForward_same (h : Rep s pre recs) {d : Bytes}
    {rest : List Bytes} (hr : recs s.rf = d :: rest) (c1 : s.nrf = s.rf) (c2 : s.nrp = s.rp + (4 + d.length)) :
    moveForward s = { s with rf := s.nrf, rp := s.nrp, depth := s.depth - 1 } ∧
      Rep (moveForward s) (pre ++ dqRecord d) (setRec recs s.rf rest) ∧
      absQ s recs = d :: absQ (moveForward s) (setRec recs s.rf rest) := by
  have hqs : absQ s recs = d :: (rest ++ qFrom recs (s.rf + 1) (s.wf - s.rf)) := by rw [absQ_eq, hr]; rfl
  have hrep : Rep { s with rf := s.nrf, rp := s.nrp, depth := s.depth - 1 } (pre ++ dqRecord d) (setRec recs s.rf rest) ∧
      absQ { s with rf := s.nrf, rp := s.nrp, depth := s.depth - 1 } (setRec recs s.rf rest) =
        rest ++ qFrom recs (s.rf + 1) (s.wf - s.rf) := by
    rw [c1]
    have hq : qFrom (setRec recs s.rf rest) s.rf (s.wf - s.rf + 1) = rest ++ qFrom recs (s.rf + 1) (s.wf - s.rf) :=
      qFrom_setRec_head recs _ _ rest
    exact ⟨Rep.of_files h.cfg h.live h.le
      (mem_setRec h.vrec (fun x hx => h.vrec s.rf x (by rw [hr]; exact List.mem_cons_of_mem _ hx)))
      (c2 ▸ h.files.advance hr) (depth_tail h.depth hqs hq)
      (Or.inl ⟨rfl, rfl⟩) (fun ho => ⟨rfl, (h.coh ho).2⟩) h.mbr, hq⟩
  have hm : moveForward s = { s with rf := s.nrf, rp := s.nrp, depth := s.depth - 1 } := by
    unfold moveForward
    rw [if_neg (by rw [c1]; simp), checkTail_id hrep.1]
  rw [hm]
  exact ⟨rfl, hrep.1, by rw [hqs, hrep.2]⟩

theorem moveForward_next (h : Rep s pre recs) {d : Bytes}
    (hr : recs s.rf = [d]) (c0 : s.rf < s.wf) (c2 : s.nrf = s.rf + 1) (c3 : s.nrp = 0) (c4 : s.rOpen = false) :
    (moveForward s).needSync = true ∧ Rep (moveForward s) [] recs ∧ absQ s recs = d :: absQ (moveForward s) recs := by
  have hqs : absQ s recs = d :: qFrom recs (s.rf + 1) (s.wf - s.rf) := by rw [absQ_eq, hr]; rfl
  have hq : qFrom recs s.nrf (s.wf - s.nrf + 1) = qFrom recs (s.rf + 1) (s.wf - s.rf) := by rw [c2, range_tail c0]
  have hrep : Rep { s with fs := { s.fs with dat := setFile s.fs.dat s.rf none }, rf := s.nrf, rp := s.nrp, depth := s.depth - 1, needSync := true } [] recs :=
    Rep.of_files_closed h.cfg h.live (c2 ▸ c0) h.vrec (by rw [c2, c3]; exact h.files.next c0 (fun _ => rfl))
      (depth_tail h.depth hqs hq) ⟨rfl, rfl⟩ c4
  unfold moveForward
  rw [if_pos (by rw [c2]; exact Nat.ne_of_lt (Nat.lt_succ_self _)), checkTail_id hrep]
  exact ⟨rfl, hrep, hqs.trans (congrArg (d :: ·) hq.symm)⟩

theorem moveForward_rep (h : Rep s pre recs) (hb : PendB s recs) :
    ∃ pre' recs', Rep (moveForward s) pre' recs' ∧ absQ s recs = s.pending :: absQ (moveForward s) recs' := by
  obtain ⟨d, rest, b1, b2, b3⟩ := hb
  rw [b2]
  rcases b3 with ⟨c1, c2⟩ | ⟨c0, c1, c2, c3, c4⟩
  · exact ⟨_, _, (moveForward_same h b1 c1 c2).2⟩
  · exact ⟨_, _, (moveForward_next h (c1 ▸ b1) c0 c2 c3 c4).2⟩

theorem empty_rep (h : Rep s pre recs) :
    Rep { deleteAllFiles s with count := 0 } [] (fun _ => []) ∧
      (∀ i, ({ deleteAllFiles s with count := 0 } : St).fs.dat i = none) := by
  have hle := h.le
  have hall : ∀ i, rmRange s.fs.dat s.rf s.wf i = none := by
    intro i
    unfold rmRange
    by_cases e : s.rf ≤ i ∧ i ≤ s.wf
    · rw [if_pos e]
    · rw [if_neg e]; exact h.out i (by omega)
  refine ⟨Rep.of_files_closed h.cfg h.live (Nat.le_refl _) nofun
    (Files.none_at hall _) ?_ ⟨rfl, rfl⟩ rfl, hall⟩
  show (0 : Int) = ((qFrom (fun _ => ([] : List Bytes)) _ _).length : Int)
  rw [qFrom_nil]; rfl

theorem settleN_one {t : St} (n : Nat) (h : (settleStep t).1 = false) : settleN (n + 1) t = (settleStep t).2 := by
  unfold settleN
  rw [h]
  rfl

theorem settle_at_tail {t : St} (hc : canRead t = false) (hn : t.needSync = false) (hcnt : t.count ≠ t.cfg.syncEvery) :
    settle t = t := by
  have hs : syncDue t = t := by
    unfold syncDue
    rw [if_neg (by rw [hn]; simp; exact hcnt)]
  have hstep : settleStep t = (false, t) := by
    unfold settleStep
    rw [hs, if_neg (by rw [hc]; simp)]
  unfold settle
  cases t.wf + 3 - t.rf with
  | zero => rfl
  | succ n => rw [settleN_one n (by rw [hstep]), hstep]

theorem retrieve_some (cfg' : Cfg) (fs : FS) (m : Meta) (hmd : fs.md = some m) :
    retrieve cfg' fs =
      if m.wp < (fs.content m.wf).length then
        { cfg := cfg', fs := fs, depth := m.depth, rf := m.rf, rp := m.rp, wf := m.wf + 1, wp := 0, nrf := m.rf, nrp := m.rp }
      else { cfg := cfg', fs := fs, depth := m.depth, rf := m.rf, rp := m.rp, wf := m.wf, wp := m.wp, nrf := m.rf, nrp := m.rp } := by
  unfold retrieve
  rw [hmd]
  simp only []
  cases hd : fs.dat m.wf with
  | none => rw [content_none hd, if_neg (show ¬ m.wp < ([] : Bytes).length from Nat.not_lt_zero _)]
  | some c => rw [content_some hd]

theorem retrieve_cur (h : Rep s pre recs) (cfg' : Cfg) (hmd : Cur s) :
    retrieve cfg' s.fs = { cfg := cfg', fs := s.fs, depth := s.depth, rf := s.rf, rp := s.rp, wf := s.wf,
                           wp := s.wp, nrf := s.rf, nrp := s.rp } := by
  rw [retrieve_some cfg' s.fs s.metaNow hmd,
    if_neg (show ¬ s.metaNow.wp < (s.fs.content s.metaNow.wf).length from Nat.not_lt.mpr (Nat.le_of_eq h.wp.symm))]
  rfl

theorem reopen_rep (h : Rep s pre recs) (cfg' : Cfg)
    (hok : CfgOk cfg') (hmin : cfg'.minMsgSize = s.cfg.minMsgSize) (hmax : cfg'.maxMsgSize = s.cfg.maxMsgSize)
    (hmd : Cur s) :
    Rep (retrieve cfg' s.fs) pre recs ∧ absQ (retrieve cfg' s.fs) recs = absQ s recs := by
  rw [retrieve_cur h cfg' hmd]
  exact ⟨Rep.of_files_closed hok rfl h.le (fun i x hx => (validRec_iff hmin hmax x).mpr (h.vrec i x hx)) h.files h.depth
    ⟨rfl, rfl⟩ rfl, rfl⟩

end Nsq.Proofs.DiskQueue
