import Nsq.Model.LookupPeer
import Nsq.Proofs.LookupSync
/-! What the tick-count statements of C16 (`Nsq.Props.C16Ticks`, `C16Drain`) are written in — a command round (`isRound`:
a tick or a notification, one `Command` per peer), `rounds`, `ticks`, and `OkRun a s steps`: no fault of the lookupd at
`a` along `steps` — and the measure they are proved with: the `rank` of a connection to `a` drops by one in every such
round (`rank_run`). `allOk_succ` (of `Nsq.Model.LookupPeer`) serves `C16Ticks.command_refines_fine`. -/
namespace Nsq.Proofs.LookupTicks
open Nsq.Model.LookupSync Nsq.Proofs.LookupSync

/-- distance of a peer connection from "connected and alive": a stale connection needs one command to be
noticed (→ down) and one more to be re-established (→ up) -/
def rank : Conn → Nat
  | .up => 0
  | .down => 1
  | .stale => 2

theorem rank_le_two (c : Conn) : rank c ≤ 2 := by cases c <;> simp [rank]

theorem rank_le_one {c : Conn} (h : c ≠ .stale) : rank c ≤ 1 := by cases c <;> simp_all [rank]

theorem rank_zero_iff (c : Conn) : rank c = 0 ↔ c = .up := by cases c <;> simp [rank]

theorem command_addr (objs dead : List Ref) (apply : List Key → List Key) (p : Peer) (o : Outcome) :
    (command objs dead apply p o).addr = p.addr := by
  unfold command
  cases p.conn <;> cases o <;> rfl

theorem rank_command_ok (objs dead : List Ref) (apply : List Key → List Key) (p : Peer) :
    rank (command objs dead apply p .ok).conn = rank p.conn - 1 := by
  unfold command
  cases h : p.conn <;> simp [rank]

theorem allOk_succ (net : List Bool) (n : Nat) : allOk net (n + 1) = (allOk net n && net.getD n false) := by
  simp [allOk, List.range_succ]

def isRound : Step → Bool
  | .tick _ => true
  | .notify _ _ => true
  | _ => false

def isTick : Step → Bool
  | .tick _ => true
  | _ => false

def rounds (steps : List Step) : Nat := (steps.filter isRound).length
def ticks (steps : List Step) : Nat := (steps.filter isTick).length

theorem ticks_le_rounds (steps : List Step) : ticks steps ≤ rounds steps := by
  induction steps with
  | nil => simp [ticks, rounds]
  | cons st rest ih =>
    simp only [ticks, rounds, List.filter_cons] at ih ⊢
    cases st <;> simp [isTick, isRound] <;> omega

def outsOkFor (a : Nat) (peers : List Peer) (outs : List Outcome) : Prop :=
  ∀ (i : Nat) (p : Peer), peers[i]? = some p → p.addr = a → outs[i]? = some Outcome.ok

/-- the step is no fault of the lookupd at address `a`. Its removal is allowed: the theorems over `OkRun` speak of the
peer entries for `a` that exist at the end. -/
def OkFor (a : Nat) (s : State) : Step → Prop
  | .tick outs => outsOkFor a s.peers outs
  | .notify _ outs => outsOkFor a s.peers outs
  | .lookupdDrop b => b ≠ a
  | .removePeer _ => True
  | .addPeer b o => b = a → o = .ok
  | _ => True

def OkRun (a : Nat) : State → List Step → Prop
  | _, [] => True
  | s, st :: rest => OkFor a s st ∧ ∀ s', step s st = some s' → OkRun a s' rest

theorem rank_round {a : Nat} {objs dead : List Ref} {apply : List Key → List Key} {peers : List Peer}
    {outs : List Outcome} {n : Nat} (hok : outsOkFor a peers outs)
    (h : ∀ p ∈ peers, p.addr = a → rank p.conn ≤ n) :
    ∀ q ∈ mapOutcomes (command objs dead apply) peers outs, q.addr = a → rank q.conn ≤ n - 1 := by
  intro q hq ha
  obtain ⟨i, p, hp, hm, rfl⟩ := mem_mapOutcomes hq
  rw [command_addr] at ha
  have ho := hok i p hp ha
  rw [ho]
  simp only [Option.getD_some]
  rw [rank_command_ok]
  have := h p hm ha
  omega

theorem rank_step {a : Nat} {s s' : State} {st : Step} {n : Nat} (hs : step s st = some s') (hok : OkFor a s st)
    (h : ∀ p ∈ s.peers, p.addr = a → rank p.conn ≤ n) :
    ∀ q ∈ s'.peers, q.addr = a → rank q.conn ≤ (if isRound st then n - 1 else n) := by
  cases st with
  | createTopic t => obtain ⟨_, rfl⟩ := step_some hs; simpa [isRound] using h
  | createChan t c => obtain ⟨_, _, _, rfl⟩ := step_some hs; simpa [isRound] using h
  | delBegin r => obtain ⟨_, _, rfl⟩ := step_some hs; simpa [isRound] using h
  | delUnlink r => obtain ⟨_, _, _, rfl⟩ := step_some hs; simpa [isRound] using h
  | notify r outs =>
    obtain ⟨_, rfl⟩ := step_some hs
    simp only [isRound, if_true]
    exact rank_round hok h
  | tick outs =>
    obtain rfl : s' = _ := step_some hs
    simp only [isRound, if_true]
    exact rank_round hok h
  | lookupdDrop b =>
    obtain rfl : s' = _ := step_some hs
    simp only [isRound, Bool.false_eq_true, if_false]
    intro q hq ha
    simp only [List.mem_map] at hq
    obtain ⟨p, hp, rfl⟩ := hq
    have hb : b ≠ a := hok
    by_cases hpa : (p.addr == b) = true
    · simp only [hpa, if_true] at ha
      have : p.addr = b := by simpa using hpa
      exact absurd (this.symm.trans ha) hb
    · simp only [hpa] at ha ⊢
      exact h p hp ha
  | addPeer b o =>
    obtain rfl : s' = _ := step_some hs
    simp only [isRound, Bool.false_eq_true, if_false]
    intro q hq ha
    simp only [List.mem_append, List.mem_singleton] at hq
    rcases hq with hq | rfl
    · exact h q hq ha
    · rw [command_addr] at ha
      have ho : o = .ok := hok ha
      subst ho
      rw [rank_command_ok]
      simp [rank]
  | removePeer b =>
    obtain rfl : s' = _ := step_some hs
    simp only [isRound, Bool.false_eq_true, if_false]
    intro q hq ha
    exact h q (List.mem_filter.mp hq).1 ha

theorem rank_run {a : Nat} {steps : List Step} {s s' : State} (n : Nat) (hr : run s steps = some s')
    (hok : OkRun a s steps) (h : ∀ p ∈ s.peers, p.addr = a → rank p.conn ≤ n) :
    ∀ q ∈ s'.peers, q.addr = a → rank q.conn ≤ n - rounds steps := by
  induction steps generalizing s n with
  | nil =>
    simp only [run, Option.some.injEq] at hr; subst hr
    simpa [rounds] using h
  | cons st rest ih =>
    obtain ⟨s1, hs, hr⟩ := run_cons.mp hr
    have h2 := ih _ hr (hok.2 s1 hs) (rank_step hs hok.1 h)
    intro q hq ha
    have := h2 q hq ha
    by_cases hrd : isRound st = true
    · simp only [hrd, if_true] at this
      simp only [rounds, List.filter_cons, hrd, if_true, List.length_cons] at this ⊢
      omega
    · simp only [hrd] at this
      simp only [rounds, List.filter_cons, hrd] at this ⊢
      simpa using this

end Nsq.Proofs.LookupTicks
