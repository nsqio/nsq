import Nsq.Proofs.ToFileTrack
/-!
Line-level invariant of the `ToFile` router model.

`Nsq.Proofs.ToFile.Inv` only says that `body ++ "\n"` of a finished message is an *infix* of the
durable bytes of some file.  Here every *occurrence* in `finished` (and in `pending`) is assigned a
ghost record `Rec = (message, path, offset)`: the file at `path` holds `line m` at `offset`, the
bytes before the offset are empty or end in "\n" (the record starts a line), finished records lie in
the durable prefix of `data`, and the byte ranges of records in the same file are pairwise disjoint.
Renames re-path the records.  The statement needs the file behind `f.out` to be empty or
"\n"-terminated whenever a record is appended (`NlOk`): guaranteed by O_EXCL, by fix F47
(`Cfg.sealsTail`; with its follow-up F47b, `Cfg.sealReadWarns`, only while the last byte of the re-opened file can be
read: `ReadsOk`), or by the hypothesis that every pre-existing / foreign file is "\n"-terminated.
-/
namespace Nsq.Proofs.ToFileLines
open Nsq.Model.ToFile Nsq.Proofs.ToFile Nsq.Proofs.ToFileTrack

variable {c : Cfg} {nlAll : Bool} {io : Nat → Fault}

def nlEnded (b : Bytes) : Prop := b = [] ∨ ∃ a, b = a ++ [10]

theorem nlEndedB_iff (b : Bytes) : nlEndedB b = true ↔ nlEnded b := by
  unfold nlEndedB nlEnded
  cases b with
  | nil => simp
  | cons x xs =>
    simp only [List.isEmpty_cons, Bool.false_or, beq_iff_eq, reduceCtorEq, false_or]
    exact List.getLast?_eq_some_iff

theorem nlEnded_nil : nlEnded [] := Or.inl rfl

theorem nlEnded_append_nl (a : Bytes) {b : Bytes} (hb : b ≠ []) (h : nlEnded b) : nlEnded (a ++ b) := by
  cases h with
  | inl h => exact absurd h hb
  | inr h => obtain ⟨x, hx⟩ := h; exact Or.inr ⟨a ++ x, by rw [hx]; simp⟩

theorem nlEnded_append {a b : Bytes} (hb : nlEnded b) (ha : nlEnded a) : nlEnded (a ++ b) := by
  by_cases e : b = []
  · subst e; simpa using ha
  · exact nlEnded_append_nl a e hb

theorem nlEnded_line (a : Bytes) (m : Msg) : nlEnded (a ++ line m) :=
  Or.inr ⟨a ++ m.body, by simp [line]⟩

structure Rec where
  m    : Msg
  path : Path
  off  : Nat

def RecAt (d : Bytes) (o : Nat) (m : Msg) : Prop := ∃ a b, d = a ++ line m ++ b ∧ a.length = o ∧ nlEnded a

theorem RecAt_mono {d x : Bytes} {o : Nat} {m : Msg} (h : RecAt d o m) : RecAt (d ++ x) o m := by
  obtain ⟨a, b, hd, ho, hn⟩ := h
  exact ⟨a, b ++ x, by rw [hd]; simp, ho, hn⟩

theorem RecAt_bound {d : Bytes} {o : Nat} {m : Msg} (h : RecAt d o m) : o + (line m).length ≤ d.length := by
  obtain ⟨a, b, hd, ho, _⟩ := h
  rw [hd, ← ho]; simp

def FinOk (fs : FS) (r : Rec) : Prop :=
  ∃ f, fs.get r.path = some f ∧ RecAt f.data r.off r.m ∧ r.off + (line r.m).length ≤ f.durable

def OpenOk (gz : Bool) (st : St) (r : Rec) : Prop :=
  st.hasOut = true ∧ st.outOpen = true ∧ r.path = st.outPath ∧
    ∃ f, st.fs.get st.outPath = some f ∧ RecAt (wv gz f) r.off r.m

theorem FinOk.bound {fs : FS} {r : Rec} {f : File} (h : FinOk fs r) (hg : fs.get r.path = some f) :
    r.off + (line r.m).length ≤ f.content.length := by
  obtain ⟨g, hg', hrec, _⟩ := h
  rw [hg] at hg'; cases hg'
  exact Nat.le_trans (RecAt_bound hrec) (wv_le_content false f)

theorem OpenOk.bound {gz : Bool} {st : St} {r : Rec} {f : File} (h : OpenOk gz st r) (hg : st.fs.get st.outPath = some f) :
    r.off + (line r.m).length ≤ f.content.length := by
  obtain ⟨_, _, _, g, hg', hrec⟩ := h
  rw [hg] at hg'; cases hg'
  exact Nat.le_trans (RecAt_bound hrec) (wv_le_content gz f)

def Disj (a b : Rec) : Prop :=
  a.path = b.path → a.off + (line a.m).length ≤ b.off ∨ b.off + (line b.m).length ≤ a.off

theorem Disj_symm {a b : Rec} (h : Disj a b) : Disj b a := fun e => (h e.symm).symm

theorem FinOk_mono {fs fs' : FS} {r : Rec} (hle : FSLe fs fs') (h : FinOk fs r) : FinOk fs' r := by
  obtain ⟨f, hf, h1, h2⟩ := h
  obtain ⟨f', hf', ⟨⟨x, hx⟩, hd⟩, _⟩ := hle _ _ hf
  exact ⟨f', hf', by rw [hx]; exact RecAt_mono h1, Nat.le_trans h2 hd⟩

theorem OpenOk_mono {gz : Bool} {st : St} {fs' : FS} {r : Rec} (hle : FSLe st.fs fs') (h : OpenOk gz st r) :
    OpenOk gz { st with fs := fs' } r := by
  obtain ⟨a, b, e, f, hf, hr⟩ := h
  obtain ⟨f', hf', hle'⟩ := hle _ _ hf
  obtain ⟨y, hy⟩ := hle'.wv gz
  exact ⟨a, b, e, f', hf', by rw [hy]; exact RecAt_mono hr⟩

/-- the ledger: `rf`, `rp` are the records of `finished` and `pending`, occurrence by occurrence (`mf`, `mp`); a finished record is
durably in its file (`vf`), a pending one is so or sits in what was written to the open file (`vp`); all are pairwise disjoint (`dj`) -/
structure Core (c : Cfg) (st : St) (rf rp : List Rec) : Prop where
  mf : rf.map (·.m) = st.finished
  mp : st.status = .running → rp.map (·.m) = st.pending
  vf : ∀ r ∈ rf, FinOk st.fs r
  vp : st.status = .running → ∀ r ∈ rp, FinOk st.fs r ∨ OpenOk c.gzip st r
  dj : (rp ++ rf).Pairwise Disj

def NlOk (nlAll : Bool) (st : St) : Prop :=
  st.status = .running →
    (nlAll = true → ∀ p f, st.fs.get p = some f → nlEnded f.content) ∧
    (st.hasOut = true → st.outOpen = true → ∃ f, st.fs.get st.outPath = some f ∧ nlEnded f.content)

theorem nl_set {fs : FS} {q : Path} {F : File} (hq : nlEnded F.content)
    (hoth : ∀ p g, fs.get p = some g → nlEnded g.content) : ∀ p g, (fs.set q F).get p = some g → nlEnded g.content := by
  intro p g hp
  by_cases e : p = q
  · subst e
    have : g = F := by simpa using hp.symm
    rw [this]; exact hq
  · rw [get_set_ne _ _ _ _ e] at hp
    exact hoth p g hp

def ADur (st : St) (rp : List Rec) : Prop := st.status = .running → ∀ r ∈ rp, FinOk st.fs r

theorem Core.dead {st s' : St} {rf rp : List Rec} (h : Core c st rf rp) (hd : Dead st s') :
    Core c s' rf rp := by
  obtain ⟨hs, hfs, hfin, hho, hop⟩ := hd
  exact ⟨by rw [hfin]; exact h.mf, fun hr => absurd hr hs, by rw [hfs]; exact h.vf, fun hr => absurd hr hs, h.dj⟩

theorem Core.grow {st : St} {fs' : FS} {rf rp : List Rec} (h : Core c st rf rp) (hle : FSLe st.fs fs') :
    Core c { st with fs := fs' } rf rp :=
  ⟨h.mf, h.mp, fun r hr => FinOk_mono hle (h.vf r hr), fun hr r hm => (h.vp hr r hm).imp (FinOk_mono hle) (OpenOk_mono hle),
    h.dj⟩

def LI (nlAll : Bool) (c : Cfg) (st : St) : Prop := ∃ rf rp, Core c st rf rp ∧ NlOk nlAll st

theorem li_dead {st s' : St} {rf rp : List Rec} (h : Core c st rf rp) (hd : Dead st s') : LI nlAll c s' :=
  ⟨rf, rp, h.dead hd, fun hr => absurd hr hd.1⟩

theorem LI.new {st : St} {p : Path} {F : File} (h : LI nlAll c st) (hfree : st.fs.get p = none)
    (hF : nlAll = true → nlEnded F.content) : LI nlAll c { st with fs := st.fs.set p F } := by
  obtain ⟨rf, rp, h1, h2⟩ := h
  refine ⟨rf, rp, h1.grow (FSLe_new _ hfree), fun hrun => ⟨fun hall => nl_set (hF hall) ((h2 hrun).1 hall), fun hho hoo => ?_⟩⟩
  -- the open file exists, `p` was free
  obtain ⟨f, hf, hn⟩ := (h2 hrun).2 hho hoo
  exact ⟨f, (get_set_ne _ _ _ _ fun e => by rw [e, hfree] at hf; cases hf).trans hf, hn⟩

def rep (src dst : Path) (r : Rec) : Rec := { r with path := if r.path = src then dst else r.path }

theorem FinOk_rename {fs : FS} {src dst : Path} {f : File} {r : Rec} (hs : fs.get src = some f)
    (hfree : fs.get dst = none) (h : FinOk fs r) : FinOk ((fs.set dst f).del src) (rep src dst r) := by
  obtain ⟨g, hg, h1, h2⟩ := h
  exact ⟨g, get_rename hs hfree hg, h1, h2⟩

theorem Disj_rep {fs : FS} {src dst : Path} {a b : Rec} (hfree : fs.get dst = none) (ha : FinOk fs a) (hb : FinOk fs b)
    (h : Disj a b) : Disj (rep src dst a) (rep src dst b) := by
  -- no record lives at the free name `dst`, so re-pathing is injective on the paths that occur
  have na : a.path ≠ dst := by intro e; obtain ⟨g, hg, _⟩ := ha; rw [e, hfree] at hg; cases hg
  have nb : b.path ≠ dst := by intro e; obtain ⟨g, hg, _⟩ := hb; rw [e, hfree] at hg; cases hg
  intro e
  apply h
  simp only [rep] at e
  by_cases ea : a.path = src <;> by_cases eb : b.path = src
  · rw [ea, eb]
  · rw [if_pos ea, if_neg eb] at e; exact absurd e.symm nb
  · rw [if_neg ea, if_pos eb] at e; exact absurd e na
  · rw [if_neg ea, if_neg eb] at e; exact e

/-- no read of a last byte fails: every existing file the tool re-opens for appending is readable by it (the fault
`Fault.rdErr` never occurs). The hypothesis the torn-tail guarantee needs under F47b (`Cfg.sealReadWarns`). -/
def ReadsOk (io : Nat → Fault) : Prop := ∀ t, io t ≠ .rdErr

/-- which configurations never append behind a torn tail: fix F47 (committed shape: a failed read of the last byte is a
fatal exit; F47b shape `Cfg.sealReadWarns`: it is a warning, so the reads must succeed), O_EXCL, or every file
"\n"-terminated -/
def Mode (nlAll : Bool) (c : Cfg) (io : Nat → Fault) : Prop :=
  (c.sealsTail = true ∧ (c.sealReadWarns = true → ReadsOk io)) ∨ c.excl = true ∨ nlAll = true

theorem Core.adur {st : St} {rf rp : List Rec} (h : Core c st rf rp) (hs : Synced c st ∨ Closed st) : ADur st rp := by
  intro hr r hm
  rcases h.vp hr r hm with hf | ⟨hho, hoo, hpath, F, hF, hrec⟩
  · exact hf
  · rcases hs with hs | hcl
    · obtain ⟨e, hlen⟩ := hs F hF
      rw [e] at hrec
      exact ⟨F, by rw [hpath]; exact hF, hrec, Nat.le_trans (RecAt_bound hrec) hlen⟩
    · exact (hcl.not_open hho hoo).elim

theorem Core.settle {st : St} {fs' : FS} {ho oo : Bool} {q : Path} {rf rp : List Rec} (h : Core c st rf rp) (ha : ADur st rp)
    (hle : FSLe st.fs fs') : Core c { st with fs := fs', hasOut := ho, outOpen := oo, outPath := q } rf rp :=
  ⟨h.mf, h.mp, fun r hr => FinOk_mono hle (h.vf r hr), fun hr r hm => Or.inl (FinOk_mono hle (ha hr r hm)), h.dj⟩

theorem Core.record {st : St} {f F : File} {fs' : FS} {rf rp : List Rec} (m : Msg) (hg : Grew st f F fs')
    (hwv : wv c.gzip F = f.content ++ line m) (hnl : nlEnded f.content) (h : Core c st rf rp) :
    Core c { st with fs := fs', pending := m :: st.pending } rf (⟨m, st.outPath, f.content.length⟩ :: rp) := by
  have k : Core c { st with fs := fs' } rf rp := h.grow hg.fsle
  refine ⟨k.mf, fun hr => ?_, k.vf, fun hr r hm => ?_, ?_⟩
  · simp only [List.map_cons]; rw [k.mp hr]
  · cases hm with
    | head => exact Or.inr ⟨hg.ho, hg.oo, rfl, F, hg.get', ⟨f.content, [], by rw [hwv]; simp, rfl, hnl⟩⟩
    | tail _ hm => exact k.vp hr r hm
  · rw [List.cons_append, List.pairwise_cons]
    -- every record of the open file ends before the end of what was written; the new one starts there
    refine ⟨fun r' hm' e => Or.inr ?_, k.dj⟩
    have hg' : st.fs.get r'.path = some f := (show st.outPath = r'.path from e) ▸ hg.get
    rcases List.mem_append.mp hm' with hmp | hmf
    · rcases h.vp hg.run r' hmp with hf | ho
      · exact hf.bound hg'
      · exact ho.bound hg.get
    · exact (h.vf r' hmf).bound hg'

theorem Core.fin {st : St} {m : Msg} {rest : List Msg} {rf rp : List Rec} (hr : st.status = .running)
    (hp : st.pending = m :: rest) (ha : ADur st rp) (h : Core c st rf rp) :
    ∃ r rp', Core c { st with finished := m :: st.finished, pending := rest } (r :: rf) rp' := by
  have hmp := h.mp hr
  rw [hp] at hmp
  cases rp with
  | nil => simp at hmp
  | cons r rp' =>
    simp only [List.map_cons, List.cons.injEq] at hmp
    refine ⟨r, rp', by simp [h.mf, hmp.1], fun _ => hmp.2, ?_, ?_, ?_⟩
    · exact List.forall_mem_cons.mpr ⟨ha hr r (List.mem_cons_self ..), h.vf⟩
    · intro _ x hx; exact Or.inl (ha hr x (List.mem_cons_of_mem _ hx))
    -- `r` moves from the head of `rp` to the head of `rf`: a permutation of `rp ++ rf`, and `Disj` is symmetric
    · exact (List.Perm.pairwise_iff (fun {x y} => @Disj_symm x y) (List.perm_middle (a := r) (l₁ := rp') (l₂ := rf))).mpr h.dj

theorem Core.rename {st : St} {dst : Path} {f : File} {rf rp : List Rec} (hr : st.status = .running)
    (hs : st.fs.get st.outPath = some f) (hfree : st.fs.get dst = none) (ha : ADur st rp)
    (h : Core c st rf rp) :
    Core c { st with fs := (st.fs.set dst f).del st.outPath } (rf.map (rep st.outPath dst)) (rp.map (rep st.outPath dst)) := by
  have hall : ∀ r ∈ rp ++ rf, FinOk st.fs r := by
    intro r hm
    cases List.mem_append.mp hm with
    | inl hm => exact ha hr r hm
    | inr hm => exact h.vf r hm
  have hmap : ∀ l : List Rec, (l.map (rep st.outPath dst)).map (·.m) = l.map (·.m) := fun l => List.map_map
  have hfin : ∀ r ∈ rp ++ rf, FinOk ((st.fs.set dst f).del st.outPath) (rep st.outPath dst r) :=
    fun r hm => FinOk_rename hs hfree (hall r hm)
  refine ⟨by rw [hmap]; exact h.mf, fun _ => by rw [hmap]; exact h.mp hr, ?_, fun _ => ?_, ?_⟩
  · exact List.forall_mem_map.mpr fun r hm => hfin r (List.mem_append_right _ hm)
  · exact List.forall_mem_map.mpr fun r hm => Or.inl (hfin r (List.mem_append_left _ hm))
  · rw [← List.map_append, List.pairwise_map]
    exact h.dj.imp_of_mem (fun {a b} hma hmb hab => Disj_rep hfree (hall a hma) (hall b hmb) hab)

theorem NlOk.closed {st : St} {ho oo : Bool} (h : NlOk nlAll st) (hcl : ho = false ∨ oo = false) :
    NlOk nlAll { st with hasOut := ho, outOpen := oo } :=
  fun hr => ⟨(h hr).1, fun hho hoo => (Closed.not_open (st := { st with hasOut := ho, outOpen := oo }) hcl hho hoo).elim⟩

theorem NlOk.at {st s' : St} {F : File} (h : NlOk nlAll st) (hr : st.status = .running) (q : Path)
    (hF : s'.fs.get q = some F) (hq : nlEnded F.content) (hoth : ∀ p, p ≠ q → s'.fs.get p = st.fs.get p)
    (hop : s'.outPath = q) : NlOk nlAll s' := by
  refine fun _ => ⟨fun hall p g hp => ?_, fun _ _ => ⟨F, by rw [hop]; exact hF, hq⟩⟩
  by_cases e : p = q
  · subst e; rw [hF] at hp; cases hp; exact hq
  · rw [hoth p e] at hp; exact (h hr).1 hall p g hp

theorem NlOk.open {st : St} {f f' : File} {fs' : FS} (h : NlOk nlAll st) (hg : Grew st f f' fs') : nlEnded f.content := by
  obtain ⟨f0, hf, hn⟩ := (h hg.run).2 hg.ho hg.oo
  rw [hg.get] at hf; cases hf; exact hn

theorem lines_act (hmode : Mode nlAll c io) {st s' : St} (h : Act c io st s') (hl : LI nlAll c st) : LI nlAll c s' := by
  obtain ⟨rf, rp, h1, h2⟩ := hl
  cases h with
  | same => exact ⟨rf, rp, ⟨h1.mf, h1.mp, h1.vf, h1.vp, h1.dj⟩, h2⟩
  | stop hd => exact li_dead h1 hd
  | @grow f f' fs' hg hct =>
    exact ⟨rf, rp, h1.grow hg.fsle, h2.at hg.run st.outPath hg.get' (hct ▸ h2.open hg) hg.oth rfl⟩
  | @tear f f' fs' _ hg hd =>
    exact li_dead (h1.grow hg.fsle) hd.1
  | @record f F fs' m hg hwv hct =>
    refine ⟨rf, _, h1.record m hg hwv (h2.open hg), h2.at hg.run st.outPath hg.get' ?_ hg.oth rfl⟩
    rw [hct]; exact nlEnded_line _ m
  | fin m rest hr hp hs =>
    obtain ⟨r, rp', k⟩ := h1.fin hr hp (h1.adur (Or.inl hs))
    exact ⟨_, rp', k, fun _ => h2 hr⟩
  | close hr _ hs => exact ⟨rf, rp, h1.settle (h1.adur (Or.inl hs)) (FSLe_refl _), h2.closed (Or.inr rfl)⟩
  | clear hr hcl => exact ⟨rf, rp, h1.settle (h1.adur (Or.inr hcl)) (FSLe_refl _), h2.closed (Or.inl rfl)⟩
  | link dst f hr _ _ _ hs hfree => exact LI.new ⟨rf, rp, h1, h2⟩ hfree fun hall => (h2 hr).1 hall _ f hs
  | rename dst f hr _ hoo _ hs hfree =>
    refine ⟨_, _, h1.rename hr hs hfree (h1.adur (Or.inr (Or.inr hoo))),
      fun _ => ⟨fun hall p g hg => ?_, fun _ hh => by simp [hoo] at hh⟩⟩
    -- every file was there before, under this name or the old one
    by_cases ep : p = st.outPath
    · subst ep; simp at hg
    · simp only [] at hg
      rw [get_del_ne _ _ _ ep] at hg
      exact nl_set ((h2 hr).1 hall _ f hs) ((h2 hr).1 hall) p g hg
  | openNew p hr hcl hg =>
    exact ⟨rf, rp, h1.settle (h1.adur (Or.inr hcl)) (FSLe_new _ hg),
      h2.at hr p (get_set_same ..) (Or.inl rfl) (fun q hq => get_set_ne _ _ _ _ hq) rfl⟩
  | openOld p f hr hcl hg _ hnx hunt =>
    refine ⟨rf, rp, h1.settle (h1.adur (Or.inr hcl)) (FSLe_refl _), h2.at hr p hg ?_ (fun _ _ => rfl) rfl⟩
    -- left alone: the mode must say why the next record still starts a line
    rcases hmode with hs | hx | hall
    · rcases hunt with ⟨hw, t, ht⟩ | hc
      · exact absurd ht (hs.2 hw t)
      · exact (nlEndedB_iff _).mp (hc hs.1)
    · rw [hnx] at hx; cases hx
    · exact (h2 hr).1 hall p f hg
  | openSeal p f hr hcl hg =>
    refine ⟨rf, rp, h1.settle (h1.adur (Or.inr hcl)) (FSLe_set hg (FLe_write ..)),
      h2.at hr p (get_set_same ..) ?_ (fun q hq => get_set_ne _ _ _ _ hq) rfl⟩
    rw [content_write]; exact Or.inr ⟨f.content, rfl⟩
  | openStop p f hr hcl hg _ _ hd =>
    exact li_dead (h1.settle (ho := true) (q := p) (h1.adur (Or.inr hcl)) (FSLe_refl _)) hd.1

/-- what the environment may do: in mode `nlAll` files dropped by other processes are "\n"-terminated; what another
O_APPEND writer of a shared plain file appends with one write(2) is a sequence of whole records -/
def EvOk (nlAll : Bool) : Ev → Prop
  | .ext _ data => nlAll = true → nlEnded data
  | .extAppend _ data => nlEnded data
  | _ => True

theorem lines_extAppend {st : St} {p : Path} {data : Bytes} {f : File}
    (hev : EvOk nlAll (.extAppend p data)) (hg : st.fs.get p = some f)
    (h : LI nlAll c st) : LI nlAll c { st with fs := st.fs.set p (fileWrite false data f) } := by
  obtain ⟨rf, rp, h1, h2⟩ := h
  have hnl : nlEnded f.content → nlEnded (fileWrite false data f).content := fun hn => by
    rw [content_write]; exact nlEnded_append hev hn
  refine ⟨rf, rp, h1.grow (FSLe_set hg (FLe_write false data f)),
    fun hrun => ⟨fun hall => nl_set (hnl ((h2 hrun).1 hall p f hg)) ((h2 hrun).1 hall), fun hho hoo => ?_⟩⟩
  obtain ⟨g, hgo, hn⟩ := (h2 hrun).2 hho hoo
  by_cases e : st.outPath = p
  · rw [e, hg] at hgo; cases hgo
    exact ⟨_, by rw [e]; exact get_set_same .., hnl hn⟩
  · exact ⟨g, (get_set_ne _ _ _ _ e).trans hgo, hn⟩

theorem lines_step (st : St) (ev : Ev) (starved : Bool) (hmode : Mode nlAll c io) (hev : EvOk nlAll ev)
    (h : LI nlAll c st) : LI nlAll c (step c io st ev starved) :=
  step_keeps (E := EvOk nlAll) (fun _ _ a => lines_act hmode a)
    (fun _ _ _ hev _ hfree h => h.new hfree (by simpa [File.content, EvOk] using hev))
    (fun _ _ _ _ hev _ hg _ h => lines_extAppend hev hg h) st ev starved hev h

theorem lines_run (evs : List (Ev × Bool)) (st : St) (hmode : Mode nlAll c io) (hevs : ∀ e ∈ evs, EvOk nlAll e.1)
    (h : LI nlAll c st) : LI nlAll c (run c io st evs) :=
  run_preserves (fun st ev s hev h => lines_step st ev s hmode hev h) evs hevs st h

def OwnRecs (fs : FS) (finished : List Msg) : Prop :=
  ∃ rf : List Rec, rf.map (·.m) = finished ∧ (∀ r ∈ rf, FinOk fs r) ∧ rf.Pairwise Disj

theorem LI.own {st : St} (h : LI nlAll c st) : OwnRecs st.fs st.finished := by
  obtain ⟨rf, rp, k, _⟩ := h
  exact ⟨rf, k.mf, k.vf, (List.pairwise_append.mp k.dj).2.1⟩

/-- a run that starts on the directory `fs` with the FIN log of earlier runs, every entry owning its record -/
theorem lines_init_fin (nlAll : Bool) (c : Cfg) (fs : FS) (fin : List Msg) (h1 : OwnRecs fs fin)
    (h0 : nlAll = true → ∀ p f, fs.get p = some f → nlEnded f.content) : LI nlAll c { init fs with finished := fin } := by
  obtain ⟨rf, k1, k2, k3⟩ := h1
  exact ⟨rf, [], ⟨k1, fun _ => rfl, k2, fun _ r hr => (by cases hr), (by simpa using k3)⟩,
    fun _ => ⟨h0, fun hh => (by simp [init] at hh)⟩⟩

theorem lines_init (nlAll : Bool) (c : Cfg) (fs : FS)
    (h0 : nlAll = true → ∀ p f, fs.get p = some f → nlEnded f.content) : LI nlAll c (init fs) :=
  lines_init_fin nlAll c fs [] ⟨[], rfl, fun _ h => (by cases h), List.Pairwise.nil⟩ h0

theorem LI.pending_own {st : St} (h : LI nlAll c st) (hr : st.status = .running) :
    ∃ rf rp : List Rec, rf.map (·.m) = st.finished ∧ rp.map (·.m) = st.pending ∧ (∀ r ∈ rf, FinOk st.fs r) ∧
      (∀ r ∈ rp, FinOk st.fs r ∨ OpenOk c.gzip st r) ∧ (rp ++ rf).Pairwise Disj := by
  obtain ⟨rf, rp, k, _⟩ := h
  exact ⟨rf, rp, k.mf, k.mp hr, k.vf, k.vp hr, k.dj⟩

end Nsq.Proofs.ToFileLines
