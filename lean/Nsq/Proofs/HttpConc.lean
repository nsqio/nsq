import Nsq.Model.HttpConc
/-! `Own … i w`: `w` is `serve` of request `i` on a broker the history went through. `Inv`: every pending request finds
such a `w` in its slot and every client has received one; `Still b`: the history has seen no broker but `b`. -/
namespace Nsq.Proofs.HttpConc
open Nsq.Model.HttpConc Nsq.Model.HttpFull Nsq.Model.HttpApi Nsq.Model.ProtoV2

def Own (hc : HConf) (healthy : Bool) (reqs : List Request) (seen : List Broker) (i : Nat) (w : Wire) : Prop :=
  ∃ rq b, reqs[i]? = some rq ∧ b ∈ seen ∧ w = (serve hc healthy b rq).1

theorem Own.mono {hc healthy reqs seen i w} (b0 : Broker) (h : Own hc healthy reqs seen i w) :
    Own hc healthy reqs (b0 :: seen) i w := by
  obtain ⟨rq, b, h1, h2, h3⟩ := h
  exact ⟨rq, b, h1, List.mem_cons_of_mem _ h2, h3⟩

structure Inv (hc : HConf) (healthy : Bool) (reqs : List Request) (slot : Nat → Nat) (s : CSt) : Prop where
  pend : ∀ i ∈ s.pending, ∃ w, slotGet (slot i) s.held = some w ∧ Own hc healthy reqs s.seen i w
  out : ∀ p ∈ s.out, Own hc healthy reqs s.seen p.1 p.2

theorem inv_init (hc : HConf) (healthy : Bool) (reqs : List Request) (slot : Nat → Nat) (b : Broker) :
    Inv hc healthy reqs slot (init b) :=
  ⟨by simp [init], by simp [init]⟩

/-- An `encode` fills the slot of its own request, and no other pending request has that slot (`inj`); a `write`
delivers what the slot of its request holds. -/
theorem inv_step {hc : HConf} {healthy : Bool} {reqs : List Request} {slot : Nat → Nat} {s : CSt}
    (inj : ∀ i j, slot i = slot j → i = j) (h : Inv hc healthy reqs slot s) (st : CStep) :
    Inv hc healthy reqs slot (step hc healthy reqs slot s st) := by
  fun_cases step hc healthy reqs slot s st with
  | case2 i rq hr =>     -- `encode i`, request `i` exists
    refine ⟨fun j hj => ?_, fun p hp => (h.out p hp).mono _⟩
    by_cases hji : j = i
    · subst hji
      exact ⟨_, by simp [slotGet], rq, s.broker, hr, by simp, rfl⟩
    · obtain ⟨w, hw, ho⟩ := h.pend j ((List.mem_cons.mp hj).resolve_left hji)
      have hne : slot i ≠ slot j := fun e => hji (inj _ _ e).symm
      exact ⟨w, by simpa [slotGet, hne] using hw, ho.mono _⟩
  | case4 i hi w hg =>   -- `write i`, request `i` is pending and its slot holds `w`
    refine ⟨fun j hj => h.pend j (List.mem_filter.mp hj).1, fun p hp => ?_⟩
    rcases List.mem_cons.mp hp with rfl | hp
    · obtain ⟨w', hw', ho⟩ := h.pend i hi
      cases hg.symm.trans hw'
      exact ho
    · exact h.out p hp
  | _ => exact h         -- no such request, nothing pending or nothing held: the state stays

theorem inv_run (hc : HConf) (healthy : Bool) (reqs : List Request) (slot : Nat → Nat)
    (inj : ∀ i j, slot i = slot j → i = j) (sched : List CStep) (s : CSt)
    (h : Inv hc healthy reqs slot s) :
    Inv hc healthy reqs slot (sched.foldl (step hc healthy reqs slot) s) :=
  List.foldlRecOn sched _ h fun _ hs st _ => inv_step inj hs st

structure Still (b : Broker) (s : CSt) : Prop where
  broker : s.broker = b
  seen : ∀ x ∈ s.seen, x = b

theorem still_step {hc : HConf} {healthy : Bool} {reqs : List Request} {slot : Nat → Nat} {s : CSt} {b : Broker}
    (ro : ReadOnly hc healthy b reqs) (h : Still b s) (st : CStep) : Still b (step hc healthy reqs slot s st) := by
  fun_cases step hc healthy reqs slot s st with
  | case2 i rq hr =>
    exact ⟨by rw [h.broker]; exact ro rq (List.mem_of_getElem? hr),
      fun x hx => (List.mem_cons.mp hx).elim (fun e => e ▸ h.broker) (h.seen x)⟩
  | case4 => exact ⟨h.broker, h.seen⟩
  | _ => exact h

theorem still_run (hc : HConf) (healthy : Bool) (reqs : List Request) (slot : Nat → Nat) (b : Broker)
    (ro : ReadOnly hc healthy b reqs) (sched : List CStep) (s : CSt) (h : Still b s) :
    Still b (sched.foldl (step hc healthy reqs slot) s) :=
  List.foldlRecOn sched _ h fun _ hs st _ => still_step ro hs st

/-! Two requests that leave the broker alone, encoded one after the other and then written: what the clients
receive depends only on whether the two slots differ. -/
section
variable {hc : HConf} {healthy : Bool} {b : Broker} {rq0 rq1 : Request} {w0 w1 : Wire}

theorem run_two_own (slot : Nat → Nat) (hne : slot 1 ≠ slot 0)
    (h0 : serve hc healthy b rq0 = (w0, b)) (h1 : serve hc healthy b rq1 = (w1, b)) :
    (run hc healthy [rq0, rq1] slot b [.encode 0, .encode 1, .write 0, .write 1]).out = [(1, w1), (0, w0)] := by
  simp [run, step, init, slotGet, h0, h1, hne]

theorem run_two_shared (slot : Nat → Nat) (he : slot 1 = slot 0)
    (h0 : serve hc healthy b rq0 = (w0, b)) (h1 : serve hc healthy b rq1 = (w1, b)) :
    (run hc healthy [rq0, rq1] slot b [.encode 0, .encode 1, .write 0]).out = [(0, w1)] := by
  simp [run, step, init, slotGet, h0, h1, he]

end

end Nsq.Proofs.HttpConc
