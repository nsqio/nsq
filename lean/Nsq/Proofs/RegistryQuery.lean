import Nsq.Proofs.RegistryWF
import Nsq.Proofs.Keyed
/-! Every query answer of the model is the answer the plain registry `abs r` gives
(as a set, and without duplicates). -/
namespace Nsq.Proofs.RegistryQuery
open Nsq.Model.Registry Nsq.Model.Registry.AMap Nsq.Proofs.RegistryMap Nsq.Proofs.RegistryDB
open Nsq.Spec.RegistrySpec Nsq.Proofs.RegistryRefine Nsq.Proofs.RegistryWF

theorem nodup_findRegistrations (db : DB) (cat : Cat) (key sub : Name) (h : (mkeys db).Nodup) :
    (findRegistrations db cat key sub).Nodup := by
  unfold findRegistrations
  split
  · exact List.Pairwise.filter _ h
  · split <;> simp

theorem mem_qTopics (r : Registry) (t : Name) : t ∈ qTopics r ↔ (abs r).topics t := by
  unfold qTopics Spec.topics
  simp only [List.mem_map, mem_findRegistrations, abs, isMatch_topic_star]
  constructor
  · intro ⟨k, ⟨hk, hm⟩, ht⟩
    rw [hm, ht] at hk; exact hk
  · intro h
    exact ⟨topicKey t, ⟨h, rfl⟩, rfl⟩

theorem nodup_qTopics (r : Registry) (h : WF r) : (qTopics r).Nodup := by
  unfold qTopics
  apply Keyed.nodup_map_of_inj_on (nodup_findRegistrations _ _ _ _ h.db.1)
  intro a ha b hb hab
  rw [mem_findRegistrations, isMatch_topic_star] at ha hb
  rw [ha.2, hb.2, hab]

theorem mem_qChannels (r : Registry) (t c : Name) (ht : t ≠ star) :
    c ∈ qChannels r t ↔ (abs r).channels t c := by
  unfold qChannels Spec.channels
  simp only [List.mem_map, mem_findRegistrations, abs, isMatch_chan_star _ _ ht]
  constructor
  · intro ⟨k, ⟨hk, hm⟩, hc⟩
    rw [hm, hc] at hk; exact hk
  · intro h
    exact ⟨chanKey t c, ⟨h, rfl⟩, rfl⟩

theorem nodup_qChannels (r : Registry) (t : Name) (ht : t ≠ star) (h : WF r) : (qChannels r t).Nodup := by
  unfold qChannels
  apply Keyed.nodup_map_of_inj_on (nodup_findRegistrations _ _ _ _ h.db.1)
  intro a ha b hb hab
  rw [mem_findRegistrations, isMatch_chan_star _ _ ht] at ha hb
  rw [ha.2, hb.2, hab]

theorem mem_producersOf (db : DB) (k : Key) (id : Nat) (tb : Tomb) (h : DBWF db) :
    (id, tb) ∈ producersOf db k ↔ getP db k id = some tb := by
  unfold producersOf getP
  cases hg : mget db k with
  | none => simp
  | some pm =>
    simp only [Option.bind_some]
    constructor
    · intro hm; exact mget_of_mem_nodup pm id tb (h.2 k pm hg) hm
    · intro hm; exact mget_mem pm id tb hm

theorem nodup_producersOf (db : DB) (k : Key) (h : DBWF db) : (mkeys (producersOf db k)).Nodup := by
  unfold producersOf
  cases hg : mget db k with
  | none => simp [mkeys]
  | some pm => exact h.2 k pm hg

theorem tombActive_abs (c : Conf) (r : Registry) (now : Int) (p : Nat) (t : Name) (tb : Tomb)
    (hg : getP r.db (topicKey t) p = some tb) :
    (abs r).tombActive c now p t ↔ isTombstoned tb c.tombLife now = true := by
  unfold Spec.tombActive isTombstoned
  simp only [abs, hg, Option.some.injEq, Bool.and_eq_true, decide_eq_true_eq]
  constructor
  · intro ⟨τ, h1, h2⟩; rw [h1]; exact ⟨rfl, h2⟩
  · intro ⟨h1, h2⟩
    refine ⟨tb.tombAt, ?_, h2⟩
    cases tb; simp_all

theorem activeB_iff (c : Conf) (r : Registry) (lifetime now : Int) (e : Nat × Tomb) :
    activeB r c.inactive lifetime now e = true ↔ (abs r).recent c now e.1 ∧ isTombstoned e.2 lifetime now = false := by
  unfold activeB Spec.recent
  simp only [abs]
  cases mget r.peers e.1 <;> simp [Int.not_lt]

theorem qLookup_none_iff (c : Conf) (r : Registry) (t : Name) (now : Int) (ht : t ≠ star) :
    qLookup c r t now = none ↔ ¬ (abs r).lookupFound t := by
  have hm := fun k => isMatch_exact k .topic t [] (by simp [needFilter, ht, star_ne_nil])
  have : qLookup c r t now = none ↔ (findRegistrations r.db .topic t []).isEmpty = true := by
    unfold qLookup; split <;> simp [*]
  rw [this, findRegistrations_isEmpty]
  simp only [hm]
  exact ⟨fun h hk => h _ hk rfl, fun h k hk e => h (by subst e; exact hk)⟩

/-- `pm` is any producer list that holds, for `p`, its entry under the topic key of `t`: `t` is the queried topic, or the
topic representing `p` when the query is `topic=*`. -/
theorem mem_active_producers (c : Conf) (r : Registry) (t : Name) (now : Int) (pm : PMap) (h : WF r) (p : Nat) (i : Info)
    (hpm : ∀ tb, (p, tb) ∈ pm ↔ getP r.db (topicKey t) p = some tb) :
    (p, i) ∈ peerInfos r (filterByActive r c.inactive c.tombLife now pm) ↔
      (abs r).producers c t now p ∧ ∃ pr, (abs r).peer p = some pr ∧ pr.info = i := by
  simp only [peerInfos, filterByActive, List.mem_filterMap, List.mem_filter, Option.map_eq_some_iff,
    Prod.mk.injEq]
  unfold Spec.producers
  constructor
  · intro ⟨e, ⟨hmem, hact⟩, pr, hpr, hp, hi⟩
    subst hp
    have hg : getP r.db (topicKey t) e.1 = some e.2 := (hpm e.2).mp hmem
    obtain ⟨hrec, htomb⟩ := (activeB_iff c r _ now e).mp hact
    have hreg : (abs r).topicReg e.1 t := by simp [abs, hg]
    refine ⟨⟨hreg, h.live _ (h.peerKnown (topicKey t) e.1 hreg), hrec, ?_⟩, pr, hpr, hi⟩
    rw [tombActive_abs c r now e.1 t e.2 hg, htomb]
    exact Bool.false_ne_true
  · intro ⟨⟨hreg, _, hrec, htomb⟩, pr, hpr, hi⟩
    cases hg : getP r.db (topicKey t) p with
    | none => simp [abs, hg] at hreg
    | some tb =>
      rw [tombActive_abs c r now p t tb hg] at htomb
      exact ⟨(p, tb), ⟨(hpm tb).mpr hg, (activeB_iff c r _ now (p, tb)).mpr ⟨hrec, by simpa using htomb⟩⟩, pr, hpr, rfl, hi⟩

theorem qLookup_some (c : Conf) (r : Registry) (t : Name) (now : Int) (a : LookupAns) (ha : qLookup c r t now = some a) :
    a = ⟨qChannels r t, peerInfos r (filterByActive r c.inactive c.tombLife now (producersOf r.db (topicKey t)))⟩ := by
  unfold qLookup at ha
  split at ha
  · cases ha
  · exact (Option.some.inj ha).symm

theorem mem_lookup_producers (c : Conf) (r : Registry) (t : Name) (now : Int) (a : LookupAns)
    (h : WF r) (ha : qLookup c r t now = some a) (p : Nat) (i : Info) :
    (p, i) ∈ a.producers ↔
      (abs r).producers c t now p ∧ ∃ pr, (abs r).peer p = some pr ∧ pr.info = i := by
  rw [qLookup_some c r t now a ha]
  exact mem_active_producers c r t now _ h p i (fun tb => mem_producersOf r.db _ p tb h.db)

theorem mem_map_fst_producers {l : List (Nat × Info)} {s : Spec} {P : Nat → Prop}
    (hl : ∀ p i, (p, i) ∈ l ↔ P p ∧ ∃ pr, s.peer p = some pr ∧ pr.info = i)
    (hP : ∀ p, P p → ∃ pr, s.peer p = some pr) (p : Nat) : p ∈ l.map (·.1) ↔ P p := by
  simp only [List.mem_map]
  constructor
  · rintro ⟨⟨q, i⟩, he, rfl⟩
    exact ((hl q i).mp he).1
  · intro hp
    obtain ⟨pr, hpr⟩ := hP p hp
    exact ⟨(p, pr.info), (hl p pr.info).mpr ⟨hp, pr, hpr, rfl⟩, rfl⟩

theorem mem_lookup_producer_ids (c : Conf) (r : Registry) (t : Name) (now : Int) (a : LookupAns)
    (h : WF r) (ha : qLookup c r t now = some a) (p : Nat) :
    p ∈ a.producers.map (·.1) ↔ (abs r).producers c t now p :=
  mem_map_fst_producers (mem_lookup_producers c r t now a h ha) (fun _ hp => hp.2.2.1.imp fun _ e => e.1) p

theorem lookup_channels (c : Conf) (r : Registry) (t : Name) (now : Int) (a : LookupAns)
    (ha : qLookup c r t now = some a) : a.channels = qChannels r t := by
  rw [qLookup_some c r t now a ha]

theorem nodup_peerInfos (r : Registry) (pm : PMap) (h : (mkeys pm).Nodup) :
    ((peerInfos r pm).map (·.1)).Nodup :=
  Keyed.nodup_filterMap_key (fun e : Nat × Tomb => (mget r.peers e.1).map (fun pr => (e.1, pr.info))) (·.1) (·.1)
    (fun a b hb => by obtain ⟨pr, _, rfl⟩ := Option.map_eq_some_iff.mp hb; rfl) pm h

theorem nodup_lookup_producers (c : Conf) (r : Registry) (t : Name) (now : Int) (a : LookupAns)
    (h : WF r) (ha : qLookup c r t now = some a) : (a.producers.map (·.1)).Nodup := by
  rw [qLookup_some c r t now a ha]
  exact nodup_peerInfos r _ (Keyed.nodup_filter _ (nodup_producersOf _ _ h.db))

theorem mget_producersOf (db : DB) (k : Key) (id : Nat) : mget (producersOf db k) id = getP db k id := by
  unfold producersOf getP
  cases mget db k <;> simp

theorem tombFlag_iff (c : Conf) (r : Registry) (id : Nat) (t : Name) (now : Int) :
    tombFlag c r id t now = true ↔ (abs r).tombActive c now id t := by
  unfold tombFlag
  rw [mget_producersOf]
  cases hg : getP r.db (topicKey t) id with
  | none => simp [Spec.tombActive, abs, hg]
  | some tb => simp only; exact (tombActive_abs c r now id t tb hg).symm

theorem mem_topicsOf (db : DB) (id : Nat) (t : Name) (hn : (mkeys db).Nodup) :
    t ∈ topicsOf db id ↔ (getP db (topicKey t) id).isSome = true := by
  unfold topicsOf
  simp only [List.mem_map, List.mem_filter, mem_lookupRegistrations_iff _ _ _ hn, isMatch_topic_star]
  constructor
  · intro ⟨k, ⟨hs, hk⟩, ht⟩
    subst ht
    rw [← hk]; exact hs
  · intro h; exact ⟨topicKey t, ⟨h, rfl⟩, rfl⟩

theorem nodup_topicsOf (db : DB) (id : Nat) (hn : (mkeys db).Nodup) : (topicsOf db id).Nodup := by
  unfold topicsOf
  apply Keyed.nodup_map_of_inj_on
  · exact List.Pairwise.filter _ (Keyed.nodup_filter _ hn)
  · intro a ha b hb hab
    simp only [List.mem_filter, isMatch_topic_star] at ha hb
    rw [ha.2, hb.2, hab]

theorem nodeTopics_eq (c : Conf) (r : Registry) (id : Nat) (now : Int) :
    nodeTopics c r id now = (topicsOf r.db id).map (fun t => (t, tombFlag c r id t now)) := by
  simp only [nodeTopics, topicsOf, List.map_map]; rfl

theorem mem_nodeTopics (c : Conf) (r : Registry) (id : Nat) (now : Int) (h : WF r) (t : Name) (b : Bool) :
    (t, b) ∈ nodeTopics c r id now ↔
      (abs r).nodeTopic id t ∧ (b = true ↔ (abs r).tombActive c now id t) := by
  simp only [nodeTopics_eq, List.mem_map, Prod.mk.injEq, mem_topicsOf _ _ _ h.db.1, ← tombFlag_iff]
  constructor
  · rintro ⟨_, hk, rfl, rfl⟩; exact ⟨hk, Iff.rfl⟩
  · rintro ⟨hk, hb⟩; exact ⟨t, hk, rfl, by cases b <;> cases hf : tombFlag c r id t now <;> simp_all⟩

theorem nodup_nodeTopics (c : Conf) (r : Registry) (id : Nat) (now : Int) (h : WF r) :
    ((nodeTopics c r id now).map (·.1)).Nodup := by
  simpa only [nodeTopics_eq, List.map_map, Function.comp_def, List.map_id'] using nodup_topicsOf r.db id h.db.1

theorem mem_qNodes (c : Conf) (r : Registry) (now : Int) (h : WF r) (n : NodeAns) :
    n ∈ qNodes c r now ↔
      (abs r).nodes c now n.id ∧ (∃ pr, (abs r).peer n.id = some pr ∧ pr.info = n.info) ∧
        n.topics = nodeTopics c r n.id now := by
  unfold qNodes Spec.nodes
  simp only [filterByActive, List.mem_filterMap, List.mem_filter, Option.map_eq_some_iff]
  constructor
  · intro ⟨e, ⟨hmem, hact⟩, pr, hpr, hn⟩
    have hg : getP r.db clientKey e.1 = some e.2 := (mem_producersOf _ _ _ _ h.db).mp hmem
    rw [← hn]
    exact ⟨⟨by simp [abs, hg], ((activeB_iff c r 0 now e).mp hact).1⟩, ⟨pr, hpr, rfl⟩, rfl⟩
  · intro ⟨⟨hlive, hrec⟩, ⟨pr, hpr, hi⟩, htop⟩
    cases hg : getP r.db clientKey n.id with
    | none => simp [abs, hg] at hlive
    | some tb =>
      -- entries of the `client` registration are never tombstoned
      have hnt : tb.tombstoned = false := by
        cases htb : tb.tombstoned with
        | false => rfl
        | true => exact absurd (h.tombTopicOnly clientKey n.id tb hg htb) (by simp [clientKey])
      refine ⟨(n.id, tb), ⟨(mem_producersOf _ _ _ _ h.db).mpr hg,
        (activeB_iff c r 0 now (n.id, tb)).mpr ⟨hrec, by simp [isTombstoned, hnt]⟩⟩, pr, hpr, ?_⟩
      cases n; simp_all

theorem mem_qNodes_ids (c : Conf) (r : Registry) (now : Int) (h : WF r) (p : Nat) :
    p ∈ (qNodes c r now).map (·.id) ↔ (abs r).nodes c now p := by
  simp only [List.mem_map]
  constructor
  · rintro ⟨n, hn, rfl⟩
    exact ((mem_qNodes c r now h n).mp hn).1
  · intro hp
    obtain ⟨pr, hpr, _⟩ := hp.2
    exact ⟨⟨p, pr.info, nodeTopics c r p now⟩, (mem_qNodes c r now h _).mpr ⟨hp, ⟨pr, hpr, rfl⟩, rfl⟩, rfl⟩

theorem not_listed_of_not_live (c : Conf) (r : Registry) (h : WF r) (p : Nat) (now : Int)
    (hnone : getP r.db clientKey p = none) :
    (∀ t a, qLookup c r t now = some a → p ∉ a.producers.map (·.1)) ∧ p ∉ (qNodes c r now).map (·.id) := by
  have hnl : ¬ (abs r).live p := fun hl => by simp [abs, hnone] at hl
  exact ⟨fun t a ha hm => hnl ((mem_lookup_producer_ids c r t now a h ha p).mp hm).2.1,
    fun hm => hnl ((mem_qNodes_ids c r now h p).mp hm).1⟩

theorem nodup_qNodes (c : Conf) (r : Registry) (now : Int) (h : WF r) : ((qNodes c r now).map (·.id)).Nodup := by
  unfold qNodes
  refine Keyed.nodup_filterMap_key _ (fun e : Nat × Tomb => e.1) (fun n : NodeAns => n.id) ?_ _
    (Keyed.nodup_filter (activeB r c.inactive 0 now) (nodup_producersOf r.db clientKey h.db))
  intro a b hb
  obtain ⟨pr, _, rfl⟩ := Option.map_eq_some_iff.mp hb
  rfl

end Nsq.Proofs.RegistryQuery
