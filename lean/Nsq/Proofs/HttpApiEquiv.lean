import Nsq.Proofs.HttpApi
import Nsq.Proofs.Num
/-! HTTP publish endpoints against the TCP publish commands of `Nsq.Model.ProtoV2`. -/
namespace Nsq.Proofs.HttpApiEquiv
open Nsq.Model.HttpApi Nsq.Model.ProtoV2 Nsq.Model.Names Nsq.Model.Base10 Nsq.Model
open Nsq.Proofs.ProtoV2 Nsq.Proofs.HttpApi Nsq.Proofs.Mpub Nsq.Spec.ProtoSpec

/-- The HTTP server and the TCP server of one nsqd read the same options (`msg`, `body`, `req`). The other fields are side
conditions of the comparison: `auth`, because HTTP publishes without AUTH; `reqBelowSat`, because with max-req-timeout at
2^63−1 ns TCP saturates and accepts a delay that HTTP refuses. -/
structure Linked (conf : Conf) (hc : HConf) : Prop where
  msg : hc.maxMsgSize = conf.maxMsgSize
  body : hc.maxBodySize = conf.maxBodySize
  req : hc.maxReqTimeoutMs = conf.maxReqTimeoutNs / 1000000
  auth : conf.authGate = none
  msgNonneg : 0 ≤ conf.maxMsgSize
  reqNonneg : 0 ≤ conf.maxReqTimeoutNs
  reqBelowSat : conf.maxReqTimeoutNs < maxI64

/-- What a TCP client puts after the command line: 4-byte size, body (then whatever follows). -/
def wire (body rest : Bytes) : Bytes := Mpub.be32 body.length ++ (body ++ rest)

theorem readBody_wire (limit : Int) (body rest : Bytes) (hlen : body.length < 2147483648) :
    readBody limit (wire body rest) =
      if (body.length : Int) ≤ 0 then .bad else if (body.length : Int) > limit then .bad else .ok body rest := by
  unfold readBody wire
  rw [Nsq.Proofs.Mpub.readLen_be32 _ _ hlen]
  simp only
  split
  · rfl
  · split
    · rfl
    · have h3 : ¬ ((body.length : Int) < 0) := by omega
      simp only [h3, if_false, Int.toNat_natCast]
      simp

-- from here on the wire image is opaque: `simp` in later proofs must not unfold it
attribute [irreducible] wire

/-- The request carries its complete body: the declared length is the real one, or there is none. -/
def Complete (rq : Request) : Prop := rq.contentLength = rq.body.length ∨ rq.contentLength = -1

/-- The conclusion of the three `*_equiv_tcp` theorems of `Props.C10`, which spell it out: HTTP answer `r` and TCP step `x`
from broker `b` accept together, then with the same broker; a refusal on either side leaves every queue as it was. -/
def Agrees (b : Broker) (r : Out) (x : Step) : Prop :=
  (r.1.status = .s200 ↔ x.reply = some .ok) ∧ (r.1.status = .s200 → r.2 = x.broker) ∧
  (r.1.status ≠ .s200 → Untouched b r.2 ∧ Untouched b x.broker)

theorem agree_of_accept {b : Broker} {r : Out} {x : Step} (hr : r.1.status = .s200) (hx : x.reply = some .ok)
    (e : r.2 = x.broker) : Agrees b r x :=
  ⟨⟨fun _ => hx, fun _ => hr⟩, fun _ => e, fun h => absurd hr h⟩

theorem agree_of_reject {b : Broker} {r : Out} {x : Step} (hr : r.1.status ≠ .s200) (hx : x.reply ≠ some .ok)
    (ur : Untouched b r.2) (ux : Untouched b x.broker) : Agrees b r x :=
  ⟨⟨fun h => absurd h hr, fun h => absurd h hx⟩, fun h => absurd h hr, fun _ => ⟨ur, ux⟩⟩

theorem digitsVal_digits : ∀ (d : Bytes) (n : Nat), (∀ c ∈ d, IsDigit c) → digitsVal d n = some (decVal d n)
  | [], n, _ => by simp [digitsVal, decVal]
  | c :: cs, n, h => by
    unfold digitsVal decVal
    have hc := h c (List.mem_cons_self)
    unfold IsDigit at hc
    simp only [hc, and_self, if_true]
    exact digitsVal_digits cs _ (fun x hx => h x (List.mem_cons_of_mem _ hx))

theorem parseInt64_digits (d : Bytes) (hd : d ≠ []) (hall : ∀ c ∈ d, IsDigit c) :
    parseInt64 d = if (decVal d 0 : Int) ≤ maxI64 then some (decVal d 0 : Int) else none := by
  cases d with
  | nil => exact absurd rfl hd
  | cons c cs =>
    have hc := hall c (List.mem_cons_self)
    unfold IsDigit at hc
    have h43 : c ≠ 43 := by
      intro h; subst h; simp at hc
    have h45 : c ≠ 45 := by
      intro h; subst h; simp at hc
    unfold parseInt64
    simp only [h43, h45, if_false]
    rw [digitsVal_digits _ _ hall]

def deferTcp (conf : Conf) (d : Bytes) : Option Int :=
  match byteToBase10 d with
  | none => none
  | some ms => if msToDuration ms < 0 ∨ msToDuration ms > conf.maxReqTimeoutNs then none else some (msToDuration ms)

theorem dpub_deferTcp (conf : Conf) (s : ConnState) (b : Broker) (cmd t d : Bytes) (tl : List Bytes) (w : Bytes) :
    dpub conf s b (cmd :: t :: d :: tl) w =
      if !isValidName t then fatal .E_BAD_TOPIC s b
      else match deferTcp conf d with
        | none => fatal .E_INVALID s b
        | some ns => pubBody conf s b t ns w := by
  show (if _ then _ else _) = _
  unfold deferTcp
  cases byteToBase10 d with
  | none => rfl
  | some ms =>
    dsimp only
    by_cases hr : msToDuration ms < 0 ∨ msToDuration ms > conf.maxReqTimeoutNs <;> simp only [hr, if_true, if_false]

/-- For every non-empty string of digits `d`: `/pub?defer=d` accepts the delay exactly when `DPUB … d`
does, and with the same value in nanoseconds. -/
theorem defer_equiv (conf : Conf) (hc : HConf) (hl : Linked conf hc) (kv : List (Bytes × Bytes)) (d : Bytes)
    (hdq : qget kv kDefer = some d) (hd : d ≠ []) (hall : ∀ c ∈ d, IsDigit c) :
    deferArg hc kv = deferTcp conf d := by
  unfold deferArg deferTcp
  simp only [hdq]
  rw [parseInt64_digits d hd hall]
  have hreq := hl.req
  have h0 := hl.reqNonneg
  have hs := hl.reqBelowSat
  cases hb : byteToBase10 d with
  | none =>
    have : ¬ decVal d 0 ≤ maxU64 := fun hle =>
      nomatch hb ▸ (Nsq.Proofs.Base10.byteToBase10_iff d _).mpr ⟨hall, rfl, hle⟩
    rw [if_neg (by unfold maxI64 maxU64 at *; omega)]
  | some ms =>
    obtain ⟨_, rfl, _⟩ := (Nsq.Proofs.Base10.byteToBase10_iff d ms).mp hb
    simp only [Nsq.Proofs.Base10.msToDuration_min]
    unfold maxI64 at *
    -- up to max-req-timeout the product stays below the saturation point and both sides return it; above, both refuse
    by_cases hr : (decVal d 0 : Int) ≤ hc.maxReqTimeoutMs
    · rw [if_pos (by omega), if_neg (by omega)]
      exact (if_neg (by omega)).trans (congrArg some (by omega))
    · rw [if_pos (c := _ ∨ _ > conf.maxReqTimeoutNs) (by omega)]
      by_cases hfit : (decVal d 0 : Int) ≤ 9223372036854775807
      · rw [if_pos hfit]; exact if_pos (.inr (by omega))
      · rw [if_neg hfit]

theorem topicFromQuery_of (q : Bytes) (kv : List (Bytes × Bytes)) (t : Bytes)
    (hq : parseQuery q = some kv) (ht : qget kv kTopic = some t) :
    topicFromQuery q = if isValidName t then .ok t else .error "INVALID_TOPIC" := by
  unfold topicFromQuery
  simp only [hq, ht]

instance (maxMsg : Int) (body : Bytes) : Decidable (BodyOk maxMsg body) :=
  inferInstanceAs (Decidable (1 ≤ body.length ∧ (body.length : Int) ≤ maxMsg))

theorem pubBody_wire (conf : Conf) (s : ConnState) (b : Broker) (t : Bytes) (dn : Int) (body rest : Bytes)
    (hauth : conf.authGate = none) (hlen : body.length < 2147483648) :
    pubBody conf s b t dn (wire body rest) =
      if BodyOk conf.maxMsgSize body then
        done (some .ok) s (publish b t [⟨body, dn⟩]) rest [.enq t [⟨body, dn⟩]]
      else fatal .E_BAD_MESSAGE s b := by
  have hrb := readBody_wire conf.maxMsgSize body rest hlen
  generalize wire body rest = w at hrb ⊢
  rw [pubBody, hrb, hauth]
  by_cases h1 : (body.length : Int) ≤ 0
  · have : ¬ BodyOk conf.maxMsgSize body := by unfold BodyOk; omega
    rw [if_pos h1, if_neg this]
  · rw [if_neg h1]
    by_cases h2 : (body.length : Int) > conf.maxMsgSize
    · have : ¬ BodyOk conf.maxMsgSize body := by unfold BodyOk; omega
      rw [if_pos h2, if_neg this]
    · have : BodyOk conf.maxMsgSize body := by unfold BodyOk; omega
      rw [if_neg h2, if_pos this]

theorem doPUB_of_topic (hc : HConf) (b : Broker) (rq : Request) (kv : List (Bytes × Bytes)) (t : Bytes)
    (h0 : 0 ≤ hc.maxMsgSize) (hcomp : Complete rq)
    (hq : parseQuery rq.rawQuery = some kv) (ht : qget kv kTopic = some t) :
    (BodyOk hc.maxMsgSize rq.body ∧ isValidName t = true →
      doPUB hc b rq = match deferArg hc kv with
        | none => resp .s400 "INVALID_DEFER" (getTopic b t)
        | some d => resp .s200 "OK" (publish b t [⟨rq.body, d⟩])) ∧
    (¬ (BodyOk hc.maxMsgSize rq.body ∧ isValidName t = true) →
      (doPUB hc b rq).1.status ≠ .s200 ∧ (doPUB hc b rq).2 = b) := by
  unfold BodyOk doPUB
  -- a body above max-msg-size fills the limited read, so one of the two 413 tests fires whether or not the length is
  -- declared; otherwise the limited read is the whole body and a complete request passes both
  by_cases hbig : (rq.body.length : Int) > hc.maxMsgSize
  · have hfull : ((rq.body.take (hc.maxMsgSize + 1).toNat).length : Int) = hc.maxMsgSize + 1 := by
      rw [List.length_take]; omega
    refine ⟨fun h => absurd h.1.2 (by omega), fun _ => ?_⟩
    by_cases hcl : rq.contentLength > hc.maxMsgSize
    · rw [if_pos hcl]; exact ⟨by simp [resp], rfl⟩
    · rw [if_neg hcl, if_pos hfull]; exact ⟨by simp [resp], rfl⟩
  · have hall : rq.body.take (hc.maxMsgSize + 1).toNat = rq.body :=
      List.take_of_length_le (by omega)
    have hcl : ¬ rq.contentLength > hc.maxMsgSize := by rcases hcomp with h | h <;> omega
    have hne : ¬ ((rq.body.length : Int) = hc.maxMsgSize + 1) := by omega
    rw [if_neg hcl, hall, if_neg hne, topicFromQuery_of _ _ _ hq ht, hq]
    cases hb : rq.body with
    | nil => exact ⟨fun h => by simp at h, fun _ => ⟨by simp [resp], rfl⟩⟩
    | cons x xs =>
      by_cases hv : isValidName t = true
      · simp only [hv, if_true, List.isEmpty_cons, Bool.false_eq_true, if_false, Option.getD_some]
        exact ⟨fun _ => rfl, fun h => absurd ⟨⟨by simp, by rw [← hb]; omega⟩, trivial⟩ h⟩
      · simp only [hv, if_false, List.isEmpty_cons, Bool.false_eq_true]
        exact ⟨fun h => h.2.elim, fun _ => ⟨by simp [resp], rfl⟩⟩

/-- `/pub` with a topic argument against the TCP step that checks the topic name, takes the delay the query
gives (`deferArg`) and reads the body: `PUB` and `DPUB` are the two instances. -/
theorem pubBody_agrees (conf : Conf) (hc : HConf) (hl : Linked conf hc) (s : ConnState) (b : Broker) (rq : Request)
    (kv : List (Bytes × Bytes)) (t rest : Bytes)
    (hq : parseQuery rq.rawQuery = some kv) (ht : qget kv kTopic = some t)
    (hcomp : Complete rq) (hlen : rq.body.length < 2147483648) :
    Agrees b (doPUB hc b rq)
      (if !isValidName t then fatal .E_BAD_TOPIC s b
       else match deferArg hc kv with
         | none => fatal .E_INVALID s b
         | some ns => pubBody conf s b t ns (wire rq.body rest)) := by
  have h0 : 0 ≤ hc.maxMsgSize := by rw [hl.msg]; exact hl.msgNonneg
  obtain ⟨hgood, hbad⟩ := doPUB_of_topic hc b rq kv t h0 hcomp hq ht
  by_cases hv : isValidName t = true
  · simp only [hv, Bool.not_true, Bool.false_eq_true, if_false]
    by_cases hsz : BodyOk hc.maxMsgSize rq.body
    · rw [hgood ⟨hsz, hv⟩]
      cases deferArg hc kv with
      | none => exact agree_of_reject (by simp [resp]) (by simp [fatal]) (untouched_getTopic _ _ hv) (.inl rfl)
      | some ns =>
        simp only
        rw [pubBody_wire conf s b t ns rq.body rest hl.auth hlen, ← hl.msg, if_pos hsz]
        exact agree_of_accept rfl rfl rfl
    · obtain ⟨h1, h2⟩ := hbad (fun h => hsz h.1)
      cases deferArg hc kv with
      | none => exact agree_of_reject h1 (by simp [fatal]) (.inl h2) (.inl rfl)
      | some ns =>
        simp only
        rw [pubBody_wire conf s b t ns rq.body rest hl.auth hlen, ← hl.msg, if_neg hsz]
        exact agree_of_reject h1 (by simp [fatal]) (.inl h2) (.inl rfl)
  · have hnv : ((!isValidName t) = true) := by simpa using hv
    rw [if_pos hnv]
    obtain ⟨h1, h2⟩ := hbad (fun h => hv h.2)
    exact agree_of_reject h1 (by simp [fatal]) (.inl h2) (.inl rfl)

/-- What a TCP client sends after `MPUB t\n`: the size of the batch, then the batch. -/
def mwire (batch : Bytes) : Bytes := Mpub.be32 batch.length ++ batch

theorem readLen_mwire (batch : Bytes) (hlen : batch.length < 2147483648) :
    readLen (mwire batch) = some ((batch.length : Int), batch) :=
  Nsq.Proofs.Mpub.readLen_be32 _ _ hlen

theorem mpub_mwire (conf : Conf) (s : ConnState) (b : Broker) (cmd t : Bytes) (tl : List Bytes) (batch : Bytes)
    (hauth : conf.authGate = none) (hv : isValidName t = true) (hlen : batch.length < 2147483648) :
    mpub conf s b (cmd :: t :: tl) (mwire batch) =
      if (batch.length : Int) ≤ 0 then fatal .E_BAD_BODY s (getTopic b t)
      else if (batch.length : Int) > conf.maxBodySize then fatal .E_BAD_BODY s (getTopic b t)
      else match Mpub.readMPUB conf.maxMsgSize conf.maxBodySize batch with
        | .err c => fatal c s (getTopic b t)
        | .panic => panicStep s (getTopic b t)
        | .ok bodies r2 => done (some .ok) s (publish b t (toMsgs bodies)) r2 [.enq t (toMsgs bodies)] := by
  have hrl := readLen_mwire batch hlen
  generalize mwire batch = w at hrl ⊢
  rw [mpub]
  simp only [hv, Bool.not_true, Bool.false_eq_true, if_false, hauth, hrl, Int.toNat_natCast, List.take_length,
    List.drop_length, List.append_nil]
  rfl

attribute [irreducible] mwire

theorem doMPUB_binary (hc : HConf) (b : Broker) (rq : Request) (kv : List (Bytes × Bytes)) (t : Bytes)
    (hq : parseQuery rq.rawQuery = some kv) (ht : qget kv kTopic = some t) (hbin : binaryMode kv = true)
    (hv : isValidName t = true) (hcl : ¬ rq.contentLength > hc.maxBodySize)
    (hfit : (rq.body.length : Int) ≤ hc.maxBodySize) :
    doMPUB hc b rq =
      match Mpub.readMPUB hc.maxMsgSize hc.maxBodySize rq.body with
      | .err c => resp .s413 (codeTail c) (getTopic b t)
      | .panic => resp .s500 "INTERNAL_ERROR" (getTopic b t)
      | .ok bodies _ => resp .s200 "OK" (publish b t (toMsgs bodies)) := by
  have htake : rq.body.take hc.maxBodySize.toNat = rq.body := by
    apply List.take_of_length_le; omega
  rw [doMPUB, if_neg hcl, topicFromQuery_of _ _ _ hq ht, if_pos hv]
  simp only [hq, Option.getD_some, hbin, if_true, htake]
  rfl

end Nsq.Proofs.HttpApiEquiv
