/-
E2 — what a step of the nsqd-level model (`Nsq.Model.ChanNsqd`) does, seen from one message: it leaves the queue of its
topic only through the accepted `pumpTopic` of that very message, which hands it to every channel of the topic; on a
channel its location moves along the graph of `Nsq.Proofs.ChanLive.trans`, because each elementary change of the step, by
its stage, creates the channel without messages, is one step of the channel model, takes the channel away, or leaves it.
`Nsq.Props.C01Topic` instantiates `Nsq.Proofs.ChanLive.trace_eventually_delivered` with `nloc`.
-/
import Nsq.Proofs.ChanLive
import Nsq.Proofs.ChanNsqd
namespace Nsq.Proofs.TopicLive
open Nsq.Model.Chan Nsq.Model.ChanNsqd Nsq.Proofs.Chan Nsq.Proofs.ChanLive Nsq.Proofs.ChanNsqd

def chanAtL (l : List Topic) (t c : Nat) : Option Chan :=
  (findT l t).bind (fun tp => (findN tp.chans c).map (·.ch))

def chanAt (s : State) (t c : Nat) : Option Chan := chanAtL s.topics t c

/-- where message `id` is on channel `(t, c)`; `none` = the channel does not own it (or does not exist) -/
def nloc (s : State) (t c id : Nat) : Option Loc :=
  (chanAt s t c).bind (fun ch => locOf ch id)

/-- message `id` sits in the queue of topic `t` (memory or disk) -/
def inTQ (s : State) (t id : Nat) : Prop :=
  ∃ tp, findT s.topics t = some tp ∧ id ∈ tp.queue.map (·.id)

theorem findT_updT (l : List Topic) (t' t : Nat) (f : Topic → Topic) (hf : ∀ y, (f y).tid = y.tid) :
    findT (updT l t' f) t = (findT l t).map (fun y => if y.tid == t' then f y else y) :=
  Keyed.find?_map (Keyed.key_upd hf)

theorem findN_map (l : List NChan) (c : Nat) (g : NChan → NChan) (hg : ∀ x, (g x).cid = x.cid) :
    findN (l.map g) c = (findN l c).map g :=
  Keyed.find?_map hg

theorem findN_updN (l : List NChan) (c' c : Nat) (g : Chan → Chan) :
    findN (updN l c' g) c = (findN l c).map (fun x => if x.cid == c' then { x with ch := g x.ch } else x) := by
  unfold updN
  apply findN_map
  intro x; split <;> rfl

theorem findN_filter_ne (l : List NChan) {c' c : Nat} (h : c ≠ c') :
    findN (l.filter (fun x => x.cid != c')) c = findN l c :=
  Keyed.find?_del.trans (if_neg h)

theorem findN_filter_eq (l : List NChan) (c : Nat) :
    findN (l.filter (fun x => x.cid != c)) c = none :=
  Keyed.find?_del.trans (if_pos rfl)

theorem findN_append (l : List NChan) (nc : NChan) (c : Nat) :
    findN (l ++ [nc]) c = (findN l c).or (if nc.cid == c then some nc else none) := by
  unfold findN
  rw [List.find?_append, List.find?_singleton]

theorem findT_ensure_some {s : State} {t : Nat} {x : Topic} (t' : Nat) (h : findT s.topics t = some x) :
    findT (ensureTopic s t').topics t = some x := by
  unfold ensureTopic
  cases h' : findT s.topics t' with
  | some _ => exact h
  | none =>
    show findT (s.topics ++ [_]) t = some x
    unfold findT at h ⊢
    rw [List.find?_append, h]; rfl

theorem chanAt_ensure (s : State) (t' t c : Nat) : chanAt (ensureTopic s t') t c = chanAt s t c := by
  unfold chanAt chanAtL ensureTopic
  cases h' : findT s.topics t' with
  | some _ => rfl
  | none =>
    show (findT (s.topics ++ [_]) t).bind _ = _
    unfold findT
    rw [List.find?_append]
    cases h : s.topics.find? _ with
    | some x => rfl
    | none =>
      simp only [Option.none_or, List.find?_cons]
      split <;> rfl

theorem chanAtL_updT (l : List Topic) (t' : Nat) (f : Topic → Topic) (t c : Nat) (hf : ∀ y, (f y).tid = y.tid) :
    chanAtL (updT l t' f) t c =
      if t = t' then (findT l t).bind (fun y => (findN (f y).chans c).map (·.ch)) else chanAtL l t c := by
  unfold chanAtL
  rw [findT_updT _ _ _ _ hf]
  cases h : findT l t with
  | none => split <;> rfl
  | some y =>
    simp only [Option.map_some, Option.bind_some, (findT_some h).2, beq_iff_eq]
    split <;> rfl

theorem chanAt_updT {s s' : State} {t' : Nat} {f : Topic → Topic} (hs : s'.topics = updT s.topics t' f)
    (hf : ∀ y, (f y).tid = y.tid) (t c : Nat) :
    chanAt s' t c =
      if t = t' then (findT s.topics t).bind (fun y => (findN (f y).chans c).map (·.ch)) else chanAt s t c := by
  unfold chanAt
  rw [hs]; exact chanAtL_updT _ _ _ _ _ hf

def pumpF (conf : NConf) (id : Nat) (m : TMsg) (kept : Bool) (pris : List (Nat × Int)) (tp : Topic) : Topic :=
  { tp with queue := tp.queue.filter (fun x => x.id != id),
            chans := tp.chans.map (fanOne conf tp.pump m kept pris),
            pumped := id :: tp.pumped }

theorem chanAt_some {s : State} {t c : Nat} {ch : Chan} (h : chanAt s t c = some ch) :
    ∃ tp nc, findT s.topics t = some tp ∧ findN tp.chans c = some nc ∧ nc.ch = ch := by
  unfold chanAt chanAtL at h
  cases h1 : findT s.topics t with
  | none => simp [h1] at h
  | some tp =>
    cases h2 : findN tp.chans c with
    | none => simp [h1, h2] at h
    | some nc => exact ⟨tp, nc, rfl, h2, by simpa [h1, h2] using h⟩

theorem fanOne_ch (conf : NConf) (pump : List Nat) (m : TMsg) (kept : Bool) (pris : List (Nat × Int)) (nc : NChan) :
    (fanOne conf pump m kept pris nc).ch = nc.ch ∨
    ∃ op, (fanOne conf pump m kept pris nc).ch = (Nsq.Model.Chan.step conf.chan nc.ch op).1 := by
  rcases fanOne_eq conf pump m kept pris nc with ⟨_, h⟩ | ⟨_, cop, _, h⟩ <;> rw [h]
  · exact .inl rfl
  · exact .inr ⟨cop, rfl⟩

/-- what an elementary change of a stage may do to one channel: `pre` creates it without messages, `mid` is one `Chan.step`, `post`
takes it away, each or nothing -/
def StageEff (conf : Conf) : Stage → Option Chan → Option Chan → Prop
  | .pre, a, b => b = a ∨ (a = none ∧ ∃ ch, b = some ch ∧ ch.msgs = [])
  | .mid, a, b => b = a ∨ ∃ ch op, a = some ch ∧ b = some (Nsq.Model.Chan.step conf ch op).1
  | .post, a, b => b = a ∨ b = none

theorem StageEff.refl (conf : Conf) (k : Stage) (a : Option Chan) : StageEff conf k a a := by
  cases k <;> exact .inl rfl

theorem chanAtL_updT_rel {R : Option Chan → Option Chan → Prop} (hr : ∀ a, R a a) {l : List Topic} {t' : Nat} {f : Topic → Topic}
    (hf : ∀ y, (f y).tid = y.tid) {c : Nat}
    (h : ∀ y, findT l t' = some y → R ((findN y.chans c).map (·.ch)) ((findN (f y).chans c).map (·.ch))) (t : Nat) :
    R (chanAtL l t c) (chanAtL (updT l t' f) t c) := by
  rw [chanAtL_updT _ _ _ _ _ hf]
  split
  next ht =>
    subst ht
    unfold chanAtL
    cases h3 : findT l t with
    | none => exact hr _
    | some y => exact h y h3
  next => exact hr _

/-- Every elementary change but `ensure` and `subscribe` updates one topic: the other topics are framed by `chanAtL_updT_rel`, and in the
updated one the channel list is the same (`same`), one longer (`add`), updated at one channel, mapped by the fan-out, or filtered. -/
theorem prim_eff {p : Perm} {k : Stage} {s s' : State} (hp : Prim p s k s') (t c : Nat) :
    StageEff s.conf.chan k (chanAt s t c) (chanAt s' t c) := by
  have same : ∀ (t' : Nat) (f : Topic → Topic), (∀ y, (f y).tid = y.tid ∧ (f y).chans = y.chans) →
      StageEff s.conf.chan k (chanAtL s.topics t c) (chanAtL (updT s.topics t' f) t c) := fun t' f hf =>
    chanAtL_updT_rel (StageEff.refl _ k) (fun y => (hf y).1) (fun y _ => (hf y).2 ▸ StageEff.refl _ k _) t
  have add : ∀ (t' : Nat) (f : Topic → Topic) (nc : NChan), (∀ y, (f y).tid = y.tid ∧ (f y).chans = y.chans ++ [nc]) →
      nc.ch.msgs = [] → StageEff s.conf.chan .pre (chanAtL s.topics t c) (chanAtL (updT s.topics t' f) t c) := fun t' f nc hf hm =>
    chanAtL_updT_rel (StageEff.refl _ .pre) (fun y => (hf y).1) (fun y _ => by
      rw [(hf y).2, findN_append]
      cases findN y.chans c with
      | some x => exact .inl rfl
      | none =>
        rw [Option.none_or]
        split
        · exact .inr ⟨rfl, _, rfl, hm⟩
        · exact .inl rfl) t
  cases hp with
  | ensure t' => exact .inl (chanAt_ensure s t' t c)
  | subscribe => exact .inl rfl
  | addChan t' c' eph => exact add t' _ ⟨c', s.nextId, newChan s.conf eph⟩ (fun _ => ⟨rfl, rfl⟩) rfl
  | addChanRaw t' c' eph => exact add t' _ ⟨c', s.nextId, newChan s.conf eph⟩ (fun _ => ⟨rfl, rfl⟩) rfl
  | refresh t' => exact same t' _ fun _ => ⟨rfl, rfl⟩
  | pauseTopic t' => exact same t' _ fun _ => ⟨rfl, rfl⟩
  | publish t' n ids f hf => exact same t' f hf.tid
  | chan t' c' cop tp nc hft hfn =>
    refine chanAtL_updT_rel (StageEff.refl _ .mid) (fun _ => by rfl) (fun y hy => ?_) t
    obtain rfl : tp = y := Option.some.inj (hft.symm.trans hy)
    dsimp only
    rw [findN_updN]
    cases hx : findN tp.chans c with
    | none => exact .inl rfl
    | some x =>
      simp only [Option.map_some, (findN_some hx).2, beq_iff_eq]
      split
      next hc => subst hc; obtain rfl : nc = x := Option.some.inj (hfn.symm.trans hx); exact .inr ⟨_, cop, rfl, rfl⟩
      next => exact .inl rfl
  | pump t' tp m kept pris =>
    refine chanAtL_updT_rel (StageEff.refl _ .mid) (fun _ => by rfl) (fun y _ => ?_) t
    dsimp only
    rw [findN_map _ _ _ (fanOne_cid _ _ _ _ _)]
    cases findN y.chans c with
    | none => exact .inl rfl
    | some x =>
      rcases fanOne_ch s.conf y.pump m kept pris x with h | ⟨op, h⟩
      · exact .inl (congrArg some h)
      · exact .inr ⟨_, op, rfl, congrArg some h⟩
  | reap t' c' k =>
    refine chanAtL_updT_rel (StageEff.refl _ .post) (fun y => (reap_keeps y c').1) (fun y _ => ?_) t
    unfold reapEphemeral
    split
    · split
      · by_cases hc : c = c'
        · subst hc; rw [findN_filter_eq]; exact .inr rfl
        · rw [findN_filter_ne _ hc]; exact .inl rfl
      · exact .inl rfl
    · exact .inl rfl

theorem pres_eff {p : Perm} {s s' : State} (hp : Pres p s s') (t c : Nat) :
    s'.conf = s.conf ∧ StageEff s.conf.chan .pre (chanAt s t c) (chanAt s' t c) := by
  induction hp with
  | refl => exact ⟨rfl, .inl rfl⟩
  | cons hp _ ih =>
    obtain ⟨ic, ih⟩ := ih
    refine ⟨ic.trans (prim_conf hp), ?_⟩
    rcases prim_eff hp t c with h | ⟨h1, ch, h3, h4⟩
    · rw [h] at ih; exact ih
    · rcases ih with ih | ⟨ih, _⟩
      · exact .inr ⟨h1, ch, ih.trans h3, h4⟩
      · rw [h3] at ih; cases ih

/-- channel `c` of topic `t` recorded a delivery of `id` as its one event between `s` and `s'` -/
def NDeliv (s s' : State) (t c id : Nat) : Prop :=
  ∃ ch ch' k att, chanAt s t c = some ch ∧ chanAt s' t c = some ch' ∧ ch'.hist = Ev.deliver k id att :: ch.hist

/-- The location of a message on a channel across a chain of elementary changes.  Those of stage `pre` move no message (a channel that
is created owns nothing yet), the one of stage `mid` is at most one step of the channel model (`step_move`), and a channel
that is gone afterwards owns nothing. -/
theorem chain_move {p : Perm} {s s' : State} (hc : Chain p s s') (t c id : Nat) :
    Move (NDeliv s s' t c id) (nloc s t c id) (nloc s' t c id) := by
  obtain ⟨s1, s2, hpre, hmid, hpost⟩ := hc
  obtain ⟨hconf, h1⟩ := pres_eff hpre t c
  have h2 : StageEff s.conf.chan .mid (chanAt s1 t c) (chanAt s2 t c) := by
    rcases hmid with rfl | hm
    · exact .inl rfl
    · exact hconf ▸ prim_eff hm t c
  have h3 : StageEff s.conf.chan .post (chanAt s2 t c) (chanAt s' t c) := by
    rcases hpost with rfl | hp
    · exact .inl rfl
    · exact prim_eff hp t c
  unfold nloc NDeliv
  rcases h3 with h3 | h3
  case inr => rw [h3]; exact move_none _
  rw [h3]
  rcases h2 with h2 | ⟨ch, op, ha, hb⟩
  · rw [h2]
    rcases h1 with h1 | ⟨h1, ch, hb, hnil⟩
    · rw [h1]; exact .inl rfl
    · rw [h1, hb]; exact .inl (locOf_of_msgs_nil hnil id)
  · have hm := step_move s.conf.chan ch op id
    rw [hb]
    rcases h1 with h1 | ⟨h1, ch0, hb0, hnil⟩
    · rw [← h1, ha]
      exact hm.mono fun ⟨k, att, h⟩ => ⟨ch, _, k, att, rfl, rfl, h⟩
    · obtain rfl : ch0 = ch := Option.some.inj (hb0.symm.trans ha)
      rw [h1]
      rw [locOf_of_msgs_nil hnil id] at hm
      exact hm.imp_right fun h => ⟨h.1, nofun⟩

theorem nstep_move (s : State) (op : Nsq.Model.ChanNsqd.Op) (t c id : Nat) :
    Move (NDeliv s (Nsq.Model.ChanNsqd.step s op).1 t c id) (nloc s t c id) (nloc (Nsq.Model.ChanNsqd.step s op).1 t c id) :=
  chain_move (nstep_chain s op) t c id

theorem nloc_chanStep {s : State} {t c id : Nat} {l : Loc} (op : Nsq.Model.Chan.Op) (h : nloc s t c id = some l) :
    ∃ ch, locOf ch id = some l ∧ nloc (chanStep s t c op).1 t c id = locOf (Nsq.Model.Chan.step s.conf.chan ch op).1 id := by
  unfold nloc at h ⊢
  cases hc : chanAt s t c with
  | none => rw [hc] at h; cases h
  | some ch =>
    obtain ⟨tp, nc, h1, h2, rfl⟩ := chanAt_some hc
    refine ⟨nc.ch, by rwa [hc] at h, ?_⟩
    suffices chanAt (chanStep s t c op).1 t c = some (Nsq.Model.Chan.step s.conf.chan nc.ch op).1 by rw [this]; rfl
    unfold chanStep
    simp only [h1, h2]
    refine (chanAtL_updT _ _ _ t c fun _ => by rfl).trans ?_
    simp only [h1, Option.bind_some, findN_updN, h2, Option.map_some, (findN_some h2).2, beq_self_eq_true, if_true]

theorem nscanInFlight_releases (s : State) (t c id : Nat) {time : Int} {k : Nat} {p d : Int}
    (hl : nloc s t c id = some (.inflight k p d)) (hp : p ≤ time) :
    nloc (Nsq.Model.ChanNsqd.step s (.scanInFlight t c time)).1 t c id = some .queued ∨
    nloc (Nsq.Model.ChanNsqd.step s (.scanInFlight t c time)).1 t c id = none := by
  obtain ⟨ch, hl', h⟩ := nloc_chanStep (.scanInFlight time) hl
  simp only [Nsq.Model.ChanNsqd.step, h]
  exact scanInFlight_releases_due _ hl' hp

theorem nscanDeferred_releases (s : State) (t c id : Nat) {time : Int} {p : Int}
    (hl : nloc s t c id = some (.deferred p)) (hp : p ≤ time) :
    nloc (Nsq.Model.ChanNsqd.step s (.scanDeferred t c time)).1 t c id = some .queued ∨
    nloc (Nsq.Model.ChanNsqd.step s (.scanDeferred t c time)).1 t c id = none := by
  obtain ⟨ch, hl', h⟩ := nloc_chanStep (.scanDeferred time) hl
  simp only [Nsq.Model.ChanNsqd.step, h]
  exact scanDeferred_releases_due _ hl' hp

def QKeepL (l l' : List Topic) : Prop :=
  ∀ t tp, findT l t = some tp → ∃ tp', findT l' t = some tp' ∧ ∀ m ∈ tp.queue, m ∈ tp'.queue

def QKeep (s s' : State) : Prop := QKeepL s.topics s'.topics

theorem qkeep_refl (s : State) : QKeep s s := fun _ tp h => ⟨tp, h, fun _ hm => hm⟩

theorem qkeep_trans {a b c : State} (h1 : QKeep a b) (h2 : QKeep b c) : QKeep a c := by
  intro t tp h
  obtain ⟨tp1, h3, h4⟩ := h1 t tp h
  obtain ⟨tp2, h5, h6⟩ := h2 t tp1 h3
  exact ⟨tp2, h5, fun m hm => h6 m (h4 m hm)⟩

theorem qkeepL_updT (l : List Topic) (t' : Nat) (f : Topic → Topic) (hf : ∀ y, (f y).tid = y.tid)
    (hq : ∀ y, ∀ m ∈ y.queue, m ∈ (f y).queue) : QKeepL l (updT l t' f) := by
  intro t tp h
  rw [findT_updT _ _ _ _ hf, h]
  simp only [Option.map_some]
  refine ⟨_, rfl, ?_⟩
  split
  · exact hq tp
  · exact fun m hm => hm

theorem qkeep_ensure (s : State) (t' : Nat) : QKeep s (ensureTopic s t') :=
  fun _ tp h => ⟨tp, findT_ensure_some t' h, fun _ hm => hm⟩

theorem qkeep_reap (s : State) (t' c' : Nat) (subs : List Sub) :
    QKeep s { s with subs := subs, topics := updT s.topics t' (fun tp => reapEphemeral tp c') } := by
  unfold QKeep; dsimp only
  exact qkeepL_updT _ _ _ (fun y => (reap_keeps y _).1) (fun y m hm => (reap_keeps y _).2.1 ▸ hm)

theorem prim_qkeep {p : Perm} (hf : p.fanout = false) {k : Stage} {s s' : State} (hp : Prim p s k s') :
    QKeep s s' := by
  cases hp with
  | ensure t => exact qkeep_ensure s t
  | reap t c k => exact qkeep_reap s t c _
  | subscribe k t c => exact qkeep_refl s
  | publish t n ids f hpub _ =>
    unfold QKeep; dsimp only
    refine qkeepL_updT _ _ _ (fun y => (hpub.tid y).1) (fun y m hm => ?_)
    obtain ⟨q, el, ak, un, nb, hq, _, _, _, _, _, _, hsub⟩ := hpub.spec y
    rw [hq]; exact hsub m hm
  | pump t tp m kept pris hft hen hm hk hp => rw [hf] at hp; cases hp
  | _ => unfold QKeep; dsimp only; exact qkeepL_updT _ _ _ (fun _ => rfl) (fun _ _ hm => hm)

theorem qkeep_step (s : State) (op : Nsq.Model.ChanNsqd.Op) (hop : ∀ t id kept pris, op ≠ .pumpTopic t id kept pris) :
    QKeep s (Nsq.Model.ChanNsqd.step s op).1 :=
  nstep_keeps (J := QKeep s) op (qkeep_refl s)
    (fun h hp => qkeep_trans h (prim_qkeep (by cases op <;> first | rfl | exact absurd rfl (hop _ _ _ _)) hp))

theorem inTQ_of_qkeep {s s' : State} (h : QKeep s s') {t id : Nat} (hq : inTQ s t id) : inTQ s' t id := by
  obtain ⟨tp, h1, h2⟩ := hq
  obtain ⟨tp', h3, h4⟩ := h t tp h1
  obtain ⟨m, hm, rfl⟩ := List.mem_map.1 h2
  exact ⟨tp', h3, List.mem_map.2 ⟨m, h4 m hm, rfl⟩⟩

/-- `op` is the fan-out of message `id` of topic `t` and is accepted -/
def PumpAccepted (s : State) (op : Nsq.Model.ChanNsqd.Op) (t id : Nat) : Prop :=
  ∃ kept pris tp m, op = .pumpTopic t id kept pris ∧ findT s.topics t = some tp ∧ pumpEnabled tp = true ∧
    m ∈ tp.queue ∧ m.id = id ∧
    (Nsq.Model.ChanNsqd.step s op).1.topics = updT s.topics t (pumpF s.conf id m kept pris)

theorem tq_unless (s : State) (op : Nsq.Model.ChanNsqd.Op) (t id : Nat) (h : inTQ s t id) :
    inTQ (Nsq.Model.ChanNsqd.step s op).1 t id ∨ PumpAccepted s op t id := by
  by_cases hop : ∃ t' id' kept pris, op = .pumpTopic t' id' kept pris
  rotate_left
  · exact Or.inl (inTQ_of_qkeep (qkeep_step s op fun t' id' kept pris he => hop ⟨t', id', kept, pris, he⟩) h)
  · obtain ⟨t', id', kept, pris, rfl⟩ := hop
    rcases pumpTopic_cases s t' id' kept pris rfl with hs | ⟨tp', m, h3, hpe, hm, hid, _, hs⟩
    · rw [hs]; exact .inl h
    · by_cases hsame : t' = t ∧ id' = id
      · obtain ⟨rfl, rfl⟩ := hsame
        exact .inr ⟨kept, pris, tp', m, rfl, h3, hpe, hm, hid, by rw [hs]; rfl⟩
      · obtain ⟨tp, h1, h2⟩ := h
        left
        rw [hs]
        unfold inTQ
        dsimp only
        rw [findT_updT _ _ _ _ (by intro _; rfl), h1]
        refine ⟨_, rfl, ?_⟩
        simp only [(findT_some h1).2, beq_iff_eq]
        split
        next ht => subst ht; exact mem_filter_ne_id.2 ⟨h2, fun he => hsame ⟨rfl, he.symm⟩⟩
        · exact h2

/-- `NInv` is needed for `pfresh`: the pump's snapshot is the channel map, so the fan-out reaches EVERY channel of the topic -/
theorem pump_fans_out {s : State} (hi : NInv s) {op : Nsq.Model.ChanNsqd.Op} {t id : Nat} (h : PumpAccepted s op t id)
    {c : Nat} {ch : Chan} (hc : chanAt s t c = some ch) :
    ∃ ch', chanAt (Nsq.Model.ChanNsqd.step s op).1 t c = some ch' ∧ nFanout ch'.hist id = nFanout ch.hist id + 1 ∧
      nFanout ch.hist id = 0 := by
  obtain ⟨kept, pris, tp, m, rfl, h1, _, hm, hid, hs⟩ := h
  have htp := (findT_some h1).1
  have hti := hi.topics tp htp
  obtain ⟨tp', nc, h1', h4, rfl⟩ := chanAt_some hc
  obtain rfl : tp = tp' := Option.some.inj (h1.symm.trans h1')
  rw [chanAt_updT (f := pumpF s.conf id m kept pris) hs (fun _ => rfl), if_pos rfl]
  simp only [h1, Option.bind_some]
  show ∃ ch', Option.map (fun x => x.ch) (findN (tp.chans.map (fanOne s.conf tp.pump m kept pris)) c) = some ch' ∧ _
  rw [findN_map _ _ _ (fanOne_cid _ _ _ _ _), h4]
  have hnc := (findN_some h4).1
  have hnew := (hti.queued_new hm).2 nc hnc
  obtain ⟨_, _, hf, _⟩ := fanOne_spec s.conf tp.pump m kept pris (hti.chans nc hnc) hnew (hti.cenv nc hnc)
  refine ⟨_, rfl, ?_, hid ▸ hnew⟩
  rw [hf id, if_pos ⟨hti.in_pump hnc, hid⟩]

structure NExec where
  ops  : Nat → Nsq.Model.ChanNsqd.Op
  st   : Nat → State
  next : ∀ n, st (n + 1) = (Nsq.Model.ChanNsqd.step (st n) (ops n)).1
  api  : ∀ n, Op.api (ops n) = true
  inv0 : NInv (st 0)

theorem NExec.inv (ex : NExec) (n : Nat) : NInv (ex.st n) := by
  induction n with
  | zero => exact ex.inv0
  | succ n ih => rw [ex.next n]; exact nstep_inv ih _ (ex.api n)

end Nsq.Proofs.TopicLive
