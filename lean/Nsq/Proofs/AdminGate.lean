import Nsq.Model.AdminGate
/-!
Each static judgement of `Nsq.Model.AdminGate` on a skeleton says something about every run of it: the structural
judgements by the cases of their own definitions (`fun_induction`), those stated on `paths` through `run_path`.
-/
namespace Nsq.Proofs.AdminGate
open Nsq.Model.AdminGate

theorem runSt_ite (env : Env) (c : Cond) (t e : Skel) (st : St) :
    runSt env (.ite c t e) st = if evalCond env st c then runSt env t st else runSt env e st := rfl

theorem guarded_runSt (env : Env) (h : isAdmin env.conf env.req = false) (sk : Skel) :
    ∀ st : St, guarded sk = true → runSt env sk st = (403, st.obs.reverse) := by
  fun_induction guarded sk with
  | case1 e => intro st _; simp only [runSt, evalCond, h]; rfl
  | case2 t e _ => intro st hg; cases hg
  | case3 c t e _ _ iht ihe =>
    intro st hg
    rw [Bool.and_eq_true] at hg
    rw [runSt_ite]
    split
    · exact iht st hg.1
    · exact ihe st hg.2
  | case4 sk _ _ _ => intro st hg; cases hg

theorem guarded_run (env : Env) (sk : Skel) (hg : guarded sk = true)
    (h : isAdmin env.conf env.req = false) : run env sk = (403, []) :=
  guarded_runSt env h sk {} hg

/-- Replaces everything `isAdmin` reads. -/
def withIdentity (env : Env) (users : List String) (hdr : String) (hs : List (String × String)) : Env :=
  { env with conf := { env.conf with adminUsers := users, aclHeader := hdr },
             req := { env.req with headers := hs } }

theorem evalCond_withIdentity (env : Env) (users : List String) (hdr : String)
    (hs : List (String × String)) (st : St) (c : Cond) (hc : c ≠ .notAdmin) :
    evalCond (withIdentity env users hdr hs) st c = evalCond env st c := by
  cases c <;> first | rfl | exact absurd rfl hc

theorem doEff_withIdentity (env : Env) (users : List String) (hdr : String)
    (hs : List (String × String)) (st : St) (e : Eff) :
    doEff (withIdentity env users hdr hs) st e = doEff env st e := by
  cases e <;> rfl

theorem authFree_runSt (env : Env) (users : List String) (hdr : String) (hs : List (String × String))
    (sk : Skel) : ∀ st : St, authFree sk = true →
      runSt (withIdentity env users hdr hs) sk st = runSt env sk st := by
  fun_induction authFree sk with
  | case1 code => intro st _; rfl
  | case2 e k ih => intro st ha; simp only [runSt, doEff_withIdentity]; exact ih _ ha
  | case3 t e => intro st ha; cases ha
  | case4 txt t e => intro st ha; cases ha
  | case5 c t e hc _ iht ihe =>
    intro st ha
    rw [Bool.and_eq_true] at ha
    rw [runSt_ite, runSt_ite, evalCond_withIdentity env users hdr hs st c hc, iht st ha.1, ihe st ha.2]
  | case6 why => intro st ha; cases ha

def obsOf : Eff → Option Obs
  | .decodeBody => some .bodyRead
  | .readBody => some .bodyRead
  | .upstream n => some (.upstream n)
  | .upstreamMany n => some (.upstream n)
  | .notify a => some (.notify a)
  | .configWrite => some .configWrite
  | .localCall _ => none
  | .pureCall _ => none

theorem doEff_obs (env : Env) (st : St) (e : Eff) :
    (doEff env st e).obs.reverse = st.obs.reverse ++ (obsOf e).toList := by
  cases e <;> simp [doEff, obsOf]

def stateDep : Cond → Bool
  | .errNotNil => true
  | .errNotPartial => true
  | _ => false

theorem evalCond_state_free (env : Env) (st : St) (c : Cond) (h : stateDep c = false) :
    evalCond env st c = evalCond env {} c := by
  cases c <;> first | rfl | cases h

/-- Only the conditions that do not depend on the running state are checked: enough for the fan-out statement. -/
def pathHolds (env : Env) (cs : List (Cond × Bool)) : Bool :=
  cs.all (fun cb => stateDep cb.1 || evalCond env {} cb.1 == cb.2)

theorem pathHolds_cons (env : Env) (st : St) (c : Cond) (cs : List (Cond × Bool))
    (h : pathHolds env cs = true) : pathHolds env ((c, evalCond env st c) :: cs) = true := by
  simp only [pathHolds, List.all_cons, Bool.and_eq_true, Bool.or_eq_true, beq_iff_eq]
  refine ⟨?_, h⟩
  cases hs : stateDep c
  · exact Or.inr (evalCond_state_free env st c hs).symm
  · exact Or.inl rfl

theorem pathHolds_mem (env : Env) (cs : List (Cond × Bool)) (h : pathHolds env cs = true)
    (c : Cond) (b : Bool) (hm : (c, b) ∈ cs) (hs : stateDep c = false) : evalCond env {} c = b := by
  have := List.all_eq_true.1 h (c, b) hm
  simpa [hs] using this

theorem run_follows_path (env : Env) :
    ∀ (sk : Skel) (st : St), ∃ p ∈ paths sk,
      (runSt env sk st).1 = p.2.2 ∧
      (runSt env sk st).2 = st.obs.reverse ++ p.2.1.filterMap obsOf ∧
      pathHolds env p.1 = true := by
  intro sk
  induction sk with
  | ret code => intro st; exact ⟨([], [], code), List.mem_singleton.2 rfl, rfl, (List.append_nil _).symm, rfl⟩
  | unknown w =>
    intro st; exact ⟨([], [], unknownStatus), List.mem_singleton.2 rfl, rfl, (List.append_nil _).symm, rfl⟩
  | eff e k ih =>
    intro st
    obtain ⟨p, hp, h1, h2, h3⟩ := ih (doEff env st e)
    refine ⟨(p.1, e :: p.2.1, p.2.2), List.mem_map.2 ⟨p, hp, rfl⟩, h1, ?_, h3⟩
    simp only [runSt, h2, doEff_obs]
    cases h : obsOf e <;> simp [h]
  | ite c t e iht ihe =>
    intro st
    rw [runSt_ite]
    cases hev : evalCond env st c
    · obtain ⟨p, hp, h1, h2, h3⟩ := ihe st
      exact ⟨((c, false) :: p.1, p.2.1, p.2.2), List.mem_append_right _ (List.mem_map.2 ⟨p, hp, rfl⟩), h1, h2,
        hev ▸ pathHolds_cons env st c p.1 h3⟩
    · obtain ⟨p, hp, h1, h2, h3⟩ := iht st
      exact ⟨((c, true) :: p.1, p.2.1, p.2.2), List.mem_append_left _ (List.mem_map.2 ⟨p, hp, rfl⟩), h1, h2,
        hev ▸ pathHolds_cons env st c p.1 h3⟩

theorem run_path {sk : Skel} {good : List (Cond × Bool) × List Eff × Nat → Bool} (h : (paths sk).all good = true)
    (env : Env) : ∃ p, good p = true ∧ run env sk = (p.2.2, p.2.1.filterMap obsOf) ∧ pathHolds env p.1 = true := by
  obtain ⟨p, hp, h1, h2, h3⟩ := run_follows_path env sk {}
  exact ⟨p, List.all_eq_true.1 h p hp, Prod.ext h1 h2, h3⟩

theorem netGuardedOrDeny_runSt (env : Env) (hout : env.inNet = false) (sk : Skel) :
    ∀ st : St, netGuarded.netGuardedOrDeny sk = true →
      (400 ≤ (runSt env sk st).1 ∧ (runSt env sk st).1 < 500) ∧ (runSt env sk st).2 = st.obs.reverse := by
  fun_induction netGuarded.netGuardedOrDeny sk with
  | case1 code =>
    intro st hg
    simp only [Bool.and_eq_true, decide_eq_true_eq] at hg
    exact ⟨hg, rfl⟩
  | case2 e => intro st _; simp [runSt, evalCond, hout]
  | case3 t e _ => intro st hg; cases hg
  | case4 c t e _ _ iht ihe =>
    intro st hg
    rw [Bool.and_eq_true] at hg
    rw [runSt_ite]
    split
    · exact iht st hg.1
    · exact ihe st hg.2
  | case5 e k ih =>
    intro st hg
    rw [Bool.and_eq_true] at hg
    have hobs : (doEff env st e).obs = st.obs := by
      cases e <;> first | rfl | cases hg.1
    simpa only [runSt, hobs] using ih (doEff env st e) hg.2
  | case6 why => intro st hg; cases hg

theorem cidrGuarded_run (env : Env) (sk : Skel) (hg : cidrGuarded sk = true)
    (hset : env.conf.cidrSet = true) (hout : env.inNet = false) :
    (400 ≤ (run env sk).1 ∧ (run env sk).1 < 500) ∧ (run env sk).2 = [] := by
  unfold cidrGuarded at hg
  split at hg
  · simpa [run, runSt_ite, evalCond, hset] using netGuardedOrDeny_runSt env hout _ {} hg
  · cases hg

theorem isAdmin_iff (conf : Conf) (req : Req) :
    isAdmin conf req = true ↔
      conf.adminUsers = [] ∨ headerGet req.headers conf.aclHeader ∈ conf.adminUsers := by
  unfold isAdmin
  by_cases h : conf.adminUsers = []
  · simp [h]
  · have hl : ¬ conf.adminUsers.length = 0 := by simpa using h
    simp only [beq_iff_eq, hl, if_false, h, false_or, List.any_eq_true]
    constructor
    · rintro ⟨v, hv, he⟩; exact he ▸ hv
    · intro hm; exact ⟨_, hm, rfl⟩

end Nsq.Proofs.AdminGate
