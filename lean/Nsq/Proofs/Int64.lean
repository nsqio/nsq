import Nsq.Model.Int64
/-! Facts about `wrap64`: it is core's balanced remainder `Int.bmod · (2^64)` (what `BitVec.toInt_add` speaks of), hence the
identity exactly on the int64 range and compatible with `+` and `-`, so a running int64 sum equals the wrapped exact sum
whatever the intermediate overflows. -/
namespace Nsq.Proofs.Int64
open Nsq.Model.Int64

theorem wrap64_eq_bmod (x : Int) : wrap64 x = x.bmod 18446744073709551616 := by
  unfold wrap64 two63 two64 Int.bmod
  simp only []   -- beta-reduces the `let` of `Int.bmod`, so that `omega` sees `%` on literals
  omega

theorem wrap64_inRange (x : Int) : inRange (wrap64 x) :=
  wrap64_eq_bmod x ▸ ⟨Int.le_bmod (by decide), Int.bmod_lt (by decide)⟩

theorem wrap64_id (x : Int) (h : inRange x) : wrap64 x = x :=
  (wrap64_eq_bmod x).trans (Int.bmod_eq_of_le h.1 h.2)

theorem wrap64_eq_iff (x : Int) : wrap64 x = x ↔ inRange x :=
  ⟨fun h => h ▸ wrap64_inRange x, wrap64_id x⟩

theorem wrap64_add_left (a b : Int) : wrap64 (wrap64 a + b) = wrap64 (a + b) := by
  simp only [wrap64_eq_bmod, Int.bmod_add_bmod]

theorem wrap64_add_right (a b : Int) : wrap64 (a + wrap64 b) = wrap64 (a + b) := by
  simp only [wrap64_eq_bmod, Int.add_bmod_bmod]

theorem wrap64_idem (a : Int) : wrap64 (wrap64 a) = wrap64 a := wrap64_id _ (wrap64_inRange a)

theorem wrap64_sub (a b : Int) : wrap64 (wrap64 a - wrap64 b) = wrap64 (a - b) := by
  simp only [wrap64_eq_bmod, Int.bmod_sub_bmod, Int.sub_bmod_bmod]

theorem foldl_add64 (l : List Int) (acc : Int) :
    l.foldl add64 (wrap64 acc) = wrap64 (acc + l.sum) := by
  induction l generalizing acc with
  | nil => simp
  | cons x rest ih =>
    simp only [List.foldl_cons, List.sum_cons, add64]
    rw [wrap64_add_left, ih (acc + x)]
    congr 1
    omega

theorem goSum_eq (l : List Int) : goSum l = wrap64 l.sum := by
  have := foldl_add64 l 0
  simpa [goSum, wrap64_id 0 (by unfold inRange two63; omega)] using this

theorem sum_nonneg (l : List Int) (h : ∀ x ∈ l, 0 ≤ x) : 0 ≤ l.sum := by
  induction l with
  | nil => simp
  | cons x rest ih =>
    simp only [List.sum_cons]
    have := h x (List.mem_cons_self)
    have := ih (fun y hy => h y (List.mem_cons_of_mem _ hy))
    omega

end Nsq.Proofs.Int64
