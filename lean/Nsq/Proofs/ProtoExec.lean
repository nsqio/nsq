import Nsq.Model.ProtoV2
import Nsq.Spec.ProtoSpec
import Nsq.Proofs.Mpub
/-! The TCP protocol model (`Nsq.Model.ProtoV2`), reading and dispatch: what `readLine` / `readBody` hand on, and `Exec`
dispatches on the command word as the table classifies it (`exec_eq`: the step is `handler … (classify cmd)`, or the TLS
refusal). What a handler then does is told twice, side by side: as one of five forms (`Act`, in `ProtoV2`) and against
the table of defects (`Judged`, in `ProtoSpec`). Declared in `Nsq.Proofs.ProtoV2`, the namespace `Proofs/ProtoV2.lean`
continues. -/
namespace Nsq.Proofs.ProtoV2
open Nsq.Model.ProtoV2 Nsq.Model.Names Nsq.Model.Base10 Nsq.Model Nsq.Spec.ProtoSpec Nsq.Proofs.Mpub

theorem splitLine_len (bs l r : Bytes) (h : splitLine bs = some (l, r)) : bs.length = l.length + 1 + r.length := by
  revert l r
  fun_induction splitLine bs
  case case1 => nofun
  case case2 => rintro l r ⟨⟩; simp only [List.length_cons, List.length_nil]; omega
  case case3 => nofun
  case case4 c cs _ l' r' heq ih =>
    rintro l r ⟨⟩
    have := ih l' r' heq
    simp only [List.length_cons]; omega

theorem readLine_len (bs l rest : Bytes) (h : readLine bs = .line l rest) : rest.length < bs.length := by
  revert h
  fun_cases readLine bs
  case case1 l' r' heq _ =>
    rintro ⟨⟩
    have := splitLine_len bs l' rest heq
    omega
  all_goals nofun

/-- The `make` branch of `readBody` is dead: the size was tested before. -/
theorem readBody_ne_panic (limit : Int) (bs : Bytes) : readBody limit bs ≠ .panic := by
  fun_cases readBody limit bs
  case case4 => omega
  all_goals nofun

theorem readBody_ok (limit : Int) (bs body r : Bytes) (h : readBody limit bs = .ok body r) :
    1 ≤ body.length ∧ (body.length : Int) ≤ limit ∧ r.length ≤ bs.length := by
  revert h
  fun_cases readBody limit bs
  case case6 n r0 hl _ _ _ _ =>
    rintro ⟨⟩
    have := readLen_len bs n r0 hl
    simp only [List.length_take, List.length_drop]
    omega
  all_goals nofun

theorem classify_identify : classify cIDENTIFY = .identify := by decide +kernel
theorem classify_auth : classify cAUTH = .auth := by decide +kernel
theorem classify_sub : classify cSUB = .sub := by decide +kernel
theorem classify_pub : classify cPUB = .pub := by decide +kernel
theorem classify_mpub : classify cMPUB = .mpub := by decide +kernel
theorem classify_dpub : classify cDPUB = .dpub := by decide +kernel
theorem classify_rdy : classify cRDY = .rdy := by decide +kernel
theorem classify_fin : classify cFIN = .fin := by decide +kernel
theorem classify_req : classify cREQ = .req := by decide +kernel
theorem classify_touch : classify cTOUCH = .touch := by decide +kernel
theorem classify_cls : classify cCLS = .cls := by decide +kernel
theorem classify_nop : classify cNOP = .nop := by decide +kernel

theorem classify_ne_identify {cmd : Bytes} (h : cmd ≠ cIDENTIFY) : classify cmd ≠ .identify := by
  fun_cases classify cmd
  case case1 h1 => exact absurd h1 h
  all_goals nofun

def handler (conf : Conf) (s : ConnState) (ps : List Bytes) (rest : Bytes) : Cmd → Broker → Step
  | .identify => (identify conf s · rest)
  | .auth => (auth conf s · ps rest)
  | .sub => (sub conf s · ps rest)
  | .pub => (pub conf s · ps rest)
  | .mpub => (mpub conf s · ps rest)
  | .dpub => (dpub conf s · ps rest)
  | .rdy => (rdy conf s · ps rest)
  | .fin => (fin s · ps rest)
  | .req => (req conf s · ps rest)
  | .touch => (touch s · ps rest)
  | .cls => (cls s · rest)
  | .nop => (done none s · rest [])
  | .unknown => fatal .E_INVALID s

theorem exec_eq (conf : Conf) (s : ConnState) (b : Broker) (cmd : Bytes) (tl : List Bytes) (rest : Bytes) :
    exec conf s b (cmd :: tl) rest =
      if classify cmd ≠ .identify ∧ conf.tlsGate = false then fatal .E_INVALID s b
      else handler conf s (cmd :: tl) rest (classify cmd) b := by
  simp only [exec]
  by_cases h1 : cmd = cIDENTIFY
  · rw [if_pos h1, h1, classify_identify, if_neg (fun h => h.1 rfl)]; rfl
  by_cases hf : conf.tlsGate = false
  · rw [if_neg h1, if_pos (by simp [hf]), if_pos ⟨classify_ne_identify h1, hf⟩]
  have ht : conf.tlsGate = true := by simpa using hf
  rw [if_neg h1, if_neg (c := classify cmd ≠ .identify ∧ conf.tlsGate = false) (fun h => hf h.2)]
  simp only [ht, Bool.not_true, Bool.false_eq_true, if_false]
  by_cases h2 : cmd = cFIN
  · rw [if_pos h2, h2, classify_fin]; rfl
  rw [if_neg h2]
  by_cases h3 : cmd = cRDY
  · rw [if_pos h3, h3, classify_rdy]; rfl
  rw [if_neg h3]
  by_cases h4 : cmd = cREQ
  · rw [if_pos h4, h4, classify_req]; rfl
  rw [if_neg h4]
  by_cases h5 : cmd = cPUB
  · rw [if_pos h5, h5, classify_pub]; rfl
  rw [if_neg h5]
  by_cases h6 : cmd = cMPUB
  · rw [if_pos h6, h6, classify_mpub]; rfl
  rw [if_neg h6]
  by_cases h7 : cmd = cDPUB
  · rw [if_pos h7, h7, classify_dpub]; rfl
  rw [if_neg h7]
  by_cases h8 : cmd = cNOP
  · rw [if_pos h8, h8, classify_nop]; rfl
  rw [if_neg h8]
  by_cases h9 : cmd = cTOUCH
  · rw [if_pos h9, h9, classify_touch]; rfl
  rw [if_neg h9]
  by_cases h10 : cmd = cSUB
  · rw [if_pos h10, h10, classify_sub]; rfl
  rw [if_neg h10]
  by_cases h11 : cmd = cCLS
  · rw [if_pos h11, h11, classify_cls]; rfl
  rw [if_neg h11]
  by_cases h12 : cmd = cAUTH
  · rw [if_pos h12, h12, classify_auth]; rfl
  rw [if_neg h12]
  -- none of the twelve words; `classify` tests them in another order
  simp only [cIDENTIFY, cFIN, cRDY, cREQ, cPUB, cMPUB, cDPUB, cNOP, cTOUCH, cSUB, cCLS, cAUTH] at h1 h2 h3 h4 h5 h6 h7 h8 h9 h10 h11 h12
  unfold classify
  rw [if_neg h1, if_neg h12, if_neg h10, if_neg h5, if_neg h6, if_neg h7, if_neg h3, if_neg h2, if_neg h4,
    if_neg h9, if_neg h11, if_neg h8]
  rfl

end Nsq.Proofs.ProtoV2
