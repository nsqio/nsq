import Nsq.Proofs.LookupSync
/-! The convergence invariant of C16 (tree with F14 + F15): for every connected peer, what that lookupd holds is
justified by the names currently live in nsqd's maps and by the notifications still pending. No hypothesis on the
order in which notifications are consumed is needed.

It is said with two predicates on keys, `ObjLive` and `Pending`: a step of nsqd's own maps is described by what it does
to these two (`RegsOK.churn`), a notification by the one key that stops being pending (`regsOK_notify`). -/
namespace Nsq.Proofs.LookupSync
open Nsq.Model.LookupSync

def Pending (bag : List Ref) (k : Key) : Prop := ∃ r ∈ bag, r.key = k

theorem not_pending_nil (k : Key) : ¬ Pending [] k := fun ⟨_, h, _⟩ => nomatch h

/-- `has`: every live name with no notification pending for it is held; `only`: every held key has a notification
pending or an object that is not exiting. That object may have an exiting topic while the topic's notification is pending:
`UNREGISTER topic` will then remove the key (the topic cannot be unlinked, hence not re-created, before that object is). -/
structure RegsOK (objs dead bag : List Ref) (regs : List Key) : Prop where
  has : ∀ k, ObjLive objs dead (k.1, "") → ObjLive objs dead k → ¬ Pending bag k → k ∈ regs
  only : ∀ k ∈ regs, Pending bag k ∨ (ObjLive objs dead k ∧ (ObjLive objs dead (k.1, "") ∨ Pending bag (k.1, "")))

theorem RegsOK.mem_iff {objs dead bag : List Ref} {regs : List Key} (h : RegsOK objs dead bag regs) {k : Key}
    (h1 : ¬ Pending bag k) (h2 : ¬ Pending bag (k.1, "")) : k ∈ regs ↔ NameLive objs dead k := by
  rw [nameLive_iff_objLive]
  exact ⟨fun hk => have ⟨a, b⟩ := (h.only k hk).resolve_left h1; ⟨b.resolve_right h2, a⟩,
    fun ⟨a, b⟩ => h.has k a b h1⟩

def PeerOK (s : State) (p : Peer) : Prop := p.conn = .up → RegsOK s.objs s.dead s.bag p.regs

/-- Kept because a channel is created only in a topic that is in the map, and a topic is unlinked only after its channels
(the guard of `delUnlink`). -/
def ChanHasTopic (objs : List Ref) : Prop :=
  ∀ r ∈ objs, r.chan ≠ "" → ∃ T ∈ objs, T.chan = "" ∧ T.topic = r.topic

structure Inv (s : State) : Prop where
  chanTopic : ChanHasTopic s.objs
  peers : ∀ p ∈ s.peers, PeerOK s p

theorem regsOK_callback (objs dead bag : List Ref) : RegsOK objs dead bag (callbackRegs objs dead) where
  has k h1 h2 _ := (mem_callbackRegs _ _ _).mpr ((nameLive_iff_objLive _ _ _).mpr ⟨h1, h2⟩)
  only k hk := by
    obtain ⟨h1, h2⟩ := (nameLive_iff_objLive _ _ _).mp ((mem_callbackRegs _ _ _).mp hk)
    exact Or.inr ⟨h2, Or.inl h1⟩

theorem peerOK_command {s s' : State} {apply : List Key → List Key} {p : Peer} {o : Outcome} (hP : PeerOK s p)
    (h : ∀ regs, RegsOK s.objs s.dead s.bag regs → RegsOK s'.objs s'.dead s'.bag (apply regs)) :
    PeerOK s' (command s.objs s.dead apply p o) := by
  intro hup
  rcases command_up hup with ⟨hc, e⟩ | e <;> rw [e]
  · exact h _ (hP hc)
  · exact h _ (regsOK_callback _ _ _)

theorem RegsOK.churn {objs dead bag objs' dead' bag' : List Ref} {regs : List Key} (h : RegsOK objs dead bag regs)
    (hnew : ∀ k, ObjLive objs' dead' (k.1, "") → ObjLive objs' dead' k → ¬ Pending bag' k →
      ObjLive objs dead (k.1, "") ∧ ObjLive objs dead k)
    (hold : ∀ k, ObjLive objs dead k → ObjLive objs' dead' k ∨ Pending bag' k)
    (hpend : ∀ k, Pending bag k → Pending bag' k) : RegsOK objs' dead' bag' regs where
  has k h1 h2 hn :=
    have ⟨a, b⟩ := hnew k h1 h2 hn
    h.has k a b fun hp => hn (hpend k hp)
  only k hk := by
    rcases h.only k hk with hp | ⟨hl, ht⟩
    · exact Or.inl (hpend k hp)
    · rcases hold k hl with hl' | hp'
      · exact Or.inr ⟨hl', ht.elim (hold _) fun hp => Or.inr (hpend _ hp)⟩
      · exact Or.inl hp'

theorem Inv.churn {s s' : State} (hI : Inv s) (hp : s'.peers = s.peers) (hct : ChanHasTopic s'.objs)
    (hnew : ∀ k, ObjLive s'.objs s'.dead (k.1, "") → ObjLive s'.objs s'.dead k → ¬ Pending s'.bag k →
      ObjLive s.objs s.dead (k.1, "") ∧ ObjLive s.objs s.dead k)
    (hold : ∀ k, ObjLive s.objs s.dead k → ObjLive s'.objs s'.dead k ∨ Pending s'.bag k)
    (hpend : ∀ k, Pending s.bag k → Pending s'.bag k) : Inv s' :=
  ⟨hct, fun p hm hup => (hI.peers p (hp ▸ hm) hup).churn hnew hold hpend⟩

/-- the only notification that stops being pending is the one for the name of `r`: `REGISTER` / `UNREGISTER` chosen from
the current state of that name sets exactly that key right. Besides it, `REGISTER t c` inserts `(t, "")`, live with
`(t, c)`, and `UNREGISTER t` removes every `(t, _)`, none of them live without `t`. -/
theorem regsOK_notify {objs dead bag : List Ref} {r : Ref} (regs : List Key) (h : RegsOK objs dead bag regs) :
    RegsOK objs dead (bag.erase r)
      ((if nameLive objs dead r.topic r.chan then register r.topic r.chan else unregister r.topic r.chan) regs) := by
  have pend_old : ∀ k, Pending bag k → Pending (bag.erase r) k ∨ k = r.key := by
    intro k ⟨x, hx, hxk⟩
    by_cases hxr : x = r
    · exact Or.inr (hxr ▸ hxk.symm)
    · exact Or.inl ⟨x, (List.mem_erase_of_ne hxr).mpr hx, hxk⟩
  by_cases hlive : NameLive objs dead (r.topic, r.chan)
  · have lt : ObjLive objs dead (r.topic, "") := ((nameLive_iff_objLive _ _ _).mp hlive).1
    have lr : ObjLive objs dead r.key := ((nameLive_iff_objLive _ _ _).mp hlive).2
    rw [if_pos ((nameLive_iff _ _ _ _).mpr hlive)]
    refine ⟨fun k h1 h2 hn => ?_, fun k hk => ?_⟩
    · rw [mem_register]
      by_cases hp : Pending bag k
      · exact (pend_old k hp).elim (fun h' => absurd h' hn) Or.inl
      · exact Or.inr (Or.inr (h.has k h1 h2 hp))
    · rw [mem_register] at hk
      rcases hk with rfl | rfl | hk
      · exact Or.inr ⟨lr, Or.inl lt⟩
      · exact Or.inr ⟨lt, Or.inl lt⟩
      · rcases h.only k hk with hp | ⟨hl, ht⟩
        · rcases pend_old k hp with h' | rfl
          · exact Or.inl h'
          · exact Or.inr ⟨lr, Or.inl lt⟩
        · refine Or.inr ⟨hl, ht.elim Or.inl fun hp => ?_⟩
          rcases pend_old _ hp with h' | h'
          · exact Or.inr h'
          · exact Or.inl (h' ▸ lr)
  · have nl : ∀ k, ObjLive objs dead (k.1, "") → ObjLive objs dead k → k ≠ r.key := by
      rintro k h1 h2 rfl
      exact hlive ((nameLive_iff_objLive _ _ _).mpr ⟨h1, h2⟩)
    rw [if_neg (mt (nameLive_iff _ _ _ _).mp hlive)]
    refine ⟨fun k h1 h2 hn => ?_, fun k hk => ?_⟩
    · refine (mem_unregister _ _ _ _).mpr ⟨?_, ?_⟩
      · by_cases hp : Pending bag k
        · exact (pend_old k hp).elim (fun h' => absurd h' hn) fun e => absurd e (nl k h1 h2)
        · exact h.has k h1 h2 hp
      · -- a live key is not what `UNREGISTER` of a name that is not live removes
        split
        · rename_i hc
          exact fun heq => nl (k.1, "") h1 h1 (Prod.ext heq hc.symm)
        · exact nl k h1 h2
    · obtain ⟨hk, hrem⟩ := (mem_unregister _ _ _ _).mp hk
      rcases h.only k hk with hp | ⟨hl, ht⟩
      · rcases pend_old k hp with h' | rfl
        · exact Or.inl h'
        · split at hrem <;> exact absurd rfl hrem
      · refine Or.inr ⟨hl, ht.elim Or.inl fun hp => ?_⟩
        rcases pend_old _ hp with h' | h'
        · exact Or.inr h'
        · -- the notification is the one for the topic of `k`, which is not live: `UNREGISTER topic` has removed `k`
          have hc : r.chan = "" := (congrArg Prod.snd h').symm
          rw [if_pos hc] at hrem
          exact absurd (congrArg Prod.fst h') hrem

theorem inv_create {s : State} (hI : Inv s) (r0 : Ref)
    (hct : r0.chan ≠ "" → ∃ T ∈ s.objs, T.chan = "" ∧ T.topic = r0.topic)
    (hnotopic : r0.chan = "" → ∀ x ∈ s.objs, x.topic ≠ r0.topic) (g : Nat) :
    Inv { s with objs := s.objs ++ [r0], bag := r0 :: s.bag, nextGen := g } := by
  have old : ∀ k, ObjLive (s.objs ++ [r0]) s.dead k → ObjLive s.objs s.dead k ∨ k = r0.key := by
    intro k ⟨x, hx, hxk, hxd⟩
    rcases List.mem_append.mp hx with hx | hx
    · exact Or.inl ⟨x, hx, hxk, hxd⟩
    · exact Or.inr (List.mem_singleton.mp hx ▸ hxk.symm)
  refine hI.churn rfl ?_ (fun k h1 h2 hn => ?_) (fun k ⟨x, hx, h⟩ => Or.inl ⟨x, List.mem_append_left _ hx, h⟩)
    (fun k ⟨x, hx, h⟩ => ⟨x, List.mem_cons_of_mem _ hx, h⟩)
  · intro r hr hc
    obtain ⟨T, hT, h⟩ := (List.mem_append.mp hr).elim (fun hr => hI.chanTopic r hr hc)
      fun hr => List.mem_singleton.mp hr ▸ hct (List.mem_singleton.mp hr ▸ hc)
    exact ⟨T, List.mem_append_left _ hT, h⟩
  · have hk : ObjLive s.objs s.dead k :=
      (old k h2).resolve_right fun e => hn ⟨r0, List.mem_cons_self, e.symm⟩
    refine ⟨(old _ h1).resolve_right fun e => ?_, hk⟩
    -- the new object would be the topic of `k`, whose object is in the maps already
    obtain ⟨x, hx, hxk, _⟩ := hk
    exact hnotopic (congrArg Prod.snd e).symm x hx ((congrArg Prod.fst hxk).trans (congrArg Prod.fst e))

theorem inv_step {s s' : State} {st : Step} (hI : Inv s) (hs : step s st = some s') : Inv s' := by
  cases st with
  | createTopic t =>
    obtain ⟨hk, rfl⟩ := step_some hs
    refine inv_create hI ⟨t, "", s.nextGen⟩ (fun h => absurd rfl h) (fun _ x hx hxt => ?_) _
    by_cases hc : x.chan = ""
    · exact hk ⟨x, hx, hxt, hc⟩
    · obtain ⟨T, hT, h1, h2⟩ := hI.chanTopic x hx hc
      exact hk ⟨T, hT, by rw [h2, hxt], h1⟩
  | createChan t c =>
    obtain ⟨hc, ⟨T, hT, h1, h2⟩, _, rfl⟩ := step_some hs
    exact inv_create hI ⟨t, c, s.nextGen⟩ (fun _ => ⟨T, hT, h2, h1⟩) (fun h => absurd h hc) _
  | delBegin r =>
    obtain ⟨_, _, rfl⟩ := step_some hs
    have anti : ∀ k, ObjLive s.objs (r :: s.dead) k → ObjLive s.objs s.dead k :=
      fun k ⟨x, hx, hxk, hxd⟩ => ⟨x, hx, hxk, fun h => hxd (List.mem_cons_of_mem _ h)⟩
    refine hI.churn rfl hI.chanTopic (fun k h1 h2 _ => ⟨anti _ h1, anti _ h2⟩) (fun k ⟨x, hx, hxk, hxd⟩ => ?_)
      (fun k ⟨x, hx, h⟩ => ⟨x, List.mem_cons_of_mem _ hx, h⟩)
    by_cases hxr : x = r
    · exact Or.inr ⟨r, List.mem_cons_self, hxr ▸ hxk⟩
    · exact Or.inl ⟨x, hx, hxk, fun h => (List.mem_cons.mp h).elim hxr hxd⟩
  | delUnlink r =>
    obtain ⟨_, hrd, hguard, rfl⟩ := step_some hs
    have hne : ∀ x, x ∉ s.dead → x ≠ r := fun x hxd e => hxd (e ▸ hrd)
    refine hI.churn rfl ?_ (fun k h1 h2 _ => ?_)
      (fun k ⟨x, hx, hxk, hxd⟩ => Or.inl ⟨x, (List.mem_erase_of_ne (hne x hxd)).mpr hx, hxk, hxd⟩) (fun _ h => h)
    · intro x hx hc
      have hxo : x ∈ s.objs := List.mem_of_mem_erase hx
      obtain ⟨T, hT, h1, h2⟩ := hI.chanTopic x hxo hc
      by_cases hTr : T = r
      · -- a topic is unlinked only after its channels
        subst hTr
        exfalso
        apply hguard
        simp only [Bool.and_eq_true, List.any_eq_true]
        refine ⟨by simp [isTopic, h1], x, hxo, ?_⟩
        simp [isTopic, hc, h2]
      · exact ⟨T, (List.mem_erase_of_ne hTr).mpr hT, h1, h2⟩
    · have up : ∀ k, ObjLive (s.objs.erase r) s.dead k → ObjLive s.objs s.dead k :=
        fun k ⟨x, hx, h⟩ => ⟨x, List.mem_of_mem_erase hx, h⟩
      exact ⟨up _ h1, up _ h2⟩
  | notify r outs =>
    obtain ⟨_, rfl⟩ := step_some hs
    refine ⟨hI.chanTopic, fun q hq => ?_⟩
    obtain ⟨_, p, -, hp, rfl⟩ := mem_mapOutcomes hq
    exact peerOK_command (hI.peers p hp) regsOK_notify
  | tick outs =>
    obtain rfl : s' = _ := step_some hs
    refine ⟨hI.chanTopic, fun q hq => ?_⟩
    obtain ⟨_, p, -, hp, rfl⟩ := mem_mapOutcomes hq
    exact peerOK_command (hI.peers p hp) (fun _ h => h)
  | lookupdDrop a =>
    obtain rfl : s' = _ := step_some hs
    refine ⟨hI.chanTopic, fun q hq => ?_⟩
    simp only [List.mem_map] at hq
    obtain ⟨p, hp, rfl⟩ := hq
    split
    · -- a dropped connection is `down` or `stale`, never `up`
      intro (hup : (if p.conn == .down then Conn.down else .stale) = .up)
      split at hup <;> cases hup
    · exact hI.peers p hp
  | addPeer a o =>
    obtain rfl : s' = _ := step_some hs
    refine ⟨hI.chanTopic, fun q hq => ?_⟩
    simp at hq
    rcases hq with hq | rfl
    · exact hI.peers q hq
    · exact peerOK_command (p := ⟨a, .down, []⟩) (fun hup => nomatch hup) (fun _ h => h)
  | removePeer a =>
    obtain rfl : s' = _ := step_some hs
    exact ⟨hI.chanTopic, fun q hq => hI.peers q (List.mem_filter.mp hq).1⟩

theorem inv_init : Inv State.init := by
  refine ⟨?_, ?_⟩ <;> simp [State.init, ChanHasTopic]

theorem inv_run {s s' : State} {steps : List Step} (hI : Inv s) (hr : run s steps = some s') : Inv s' := by
  induction steps generalizing s with
  | nil => simp [run] at hr; subst hr; exact hI
  | cons st rest ih =>
    obtain ⟨s1, h1, hr⟩ := run_cons.mp hr
    exact ih (inv_step hI h1) hr

theorem nameLive_iff_in_maps (objs dead : List Ref) (hs : ChanHasTopic objs) (hq : ∀ r ∈ objs, r ∉ dead) (k : Key) :
    NameLive objs dead k ↔ ∃ r ∈ objs, r.key = k := by
  rw [nameLive_iff_objLive]
  constructor
  · rintro ⟨_, x, hx, hxk, _⟩
    exact ⟨x, hx, hxk⟩
  · rintro ⟨r, hr, rfl⟩
    refine ⟨?_, r, hr, rfl, hq r hr⟩
    by_cases hc : r.chan = ""
    · exact ⟨r, hr, Prod.ext rfl hc, hq r hr⟩
    · obtain ⟨T, hT, h1, h2⟩ := hs r hr hc
      exact ⟨T, hT, Prod.ext h2 h1, hq T hT⟩

end Nsq.Proofs.LookupSync
