/-
E2 — proofs about the timed micro-step model `Nsq.Model.ChanMicroT`:
the untimed component is stepped by `ChanMicro.step` (projection), `msg.pri` and the timed ghost log
move together, and every timeout is decided at/after the deadline stamped last (both code shapes).
-/
import Nsq.Model.ChanMicroT
import Nsq.Proofs.ChanMicro
namespace Nsq.Proofs.ChanMicroT
open Nsq.Model.ChanMicro Nsq.Model.ChanMicroT Nsq.Proofs.ChanMicro

/-- what a timed step does to the timed log and `pri`: nothing, a stamp recorded in both, or a time-out at or after the
deadline `priOf` gives -/
def TL (s s' : TS) : Prop :=
  (s'.tlog = s.tlog ∧ s'.pri = s.pri) ∨
  (∃ id d, s'.tlog = .stamp id d :: s.tlog ∧ s'.pri = (id, d) :: s.pri) ∨
  (∃ id t d, s'.tlog = .timedOut id t :: s.tlog ∧ s'.pri = s.pri ∧ priOf s id = some d ∧ d ≤ t)

/-- the walk through `stepT` that `step_ms` and `step_inv` read (`ChanMicroTF` needs `hk` and the result, which this forgets,
and walks `stepT` itself); `l` has two steps where the fixed shape inserts into map and heap in one critical section -/
theorem step_view (fixed : Bool) (s : TS) (op : TOp) :
    (∃ l : List Op, (stepT fixed s op).1.ms = run s.ms l) ∧ TL s (stepT fixed s op).1 := by
  have same : ∀ r : Res, (∃ l : List Op, (s, r).1.ms = run s.ms l) ∧ TL s (s, r).1 := fun _ => ⟨⟨[], rfl⟩, .inl ⟨rfl, rfl⟩⟩
  have one : ∀ {o ms1 r}, step s.ms o = (ms1, r) → ms1 = run s.ms [o] := fun h => by simp [run, h]
  have hpush : ∀ (o : Op) (id : Nat) (d : Int),
      (∃ l : List Op, (pushWith fixed s o id d).1.ms = run s.ms l) ∧ TL s (pushWith fixed s o id d).1 := by
    intro o id d
    unfold pushWith
    split
    · rename_i ms1 h
      cases fixed
      · exact ⟨⟨[o], one h⟩, .inr (.inl ⟨id, d, rfl, rfl⟩)⟩
      · exact ⟨⟨[o, .heapPush id], by simp [run, h]⟩, .inr (.inl ⟨id, d, rfl, rfl⟩)⟩
    · exact same _
  cases op with
  | plain o =>
    simp only [stepT]
    split
    · exact same _
    · split
      · rename_i h
        split
        · exact ⟨⟨_, one h⟩, .inl ⟨rfl, rfl⟩⟩
        · exact same _
      · rename_i h; exact ⟨⟨_, one h⟩, .inl ⟨rfl, rfl⟩⟩
      · rename_i h; exact ⟨⟨_, one h⟩, .inl ⟨rfl, rfl⟩⟩
  | delMapPush k id now to => exact hpush _ _ _
  | touchMapPush k id now to => exact hpush _ _ _
  | scanPop id t =>
    simp only [stepT]
    split
    · rename_i m d hm hd
      split
      · rename_i hg
        simp only [Bool.and_eq_true, decide_eq_true_eq] at hg
        split
        · rename_i h; exact ⟨⟨_, one h⟩, .inr (.inr ⟨id, t, d, rfl, rfl, hd, hg.2⟩)⟩
        · rename_i h; exact ⟨⟨_, one h⟩, .inl ⟨rfl, rfl⟩⟩
      · exact same _
    · exact same _
  | scanIdle t =>
    simp only [stepT]
    split
    · exact same _
    · split <;> exact same _

theorem step_ms (fixed : Bool) (s : TS) (op : TOp) : ∃ l : List Op, (stepT fixed s op).1.ms = run s.ms l :=
  (step_view fixed s op).1

theorem run_append (s : MS) (l1 l2 : List Op) : run (run s l1) l2 = run s (l1 ++ l2) := by
  induction l1 generalizing s with
  | nil => rfl
  | cons o l1 ih => exact ih _

theorem runT_reaches (fixed : Bool) (s : TS) (ops : List TOp) : ∃ l : List Op, (runT fixed s ops).ms = run s.ms l := by
  induction ops generalizing s with
  | nil => exact ⟨[], rfl⟩
  | cons op ops ih =>
    obtain ⟨l1, h1⟩ := step_ms fixed s op
    obtain ⟨l2, h2⟩ := ih (stepT fixed s op).1
    exact ⟨l1 ++ l2, by rw [← run_append, ← h1]; exact h2⟩

/-- so the ownership theorems of `C02Micro` apply to the timed model, in both shapes -/
theorem runT_minv (fixed : Bool) (s : TS) (h : MInv s.ms) (ops : List TOp) : MInv (runT fixed s ops).ms := by
  obtain ⟨l, hl⟩ := runT_reaches fixed s ops
  rw [hl]; exact run_minv h l

/-- `msg.pri` is what the last stamp wrote -/
def SInv (s : TS) : Prop := ∀ id, lastStamp s.tlog id = priOf s id

/-- every recorded timeout `timedOut id t` comes after a stamp of `id`, and the LATEST stamp before it is `≤ t` -/
def NeverEarly (s : TS) : Prop :=
  ∀ post pre id t, s.tlog = post ++ .timedOut id t :: pre → ∃ d, lastStamp pre id = some d ∧ d ≤ t

theorem inv_init : SInv {} ∧ NeverEarly {} :=
  ⟨fun _ => rfl, fun post pre id t h => by cases post <;> simp at h⟩

theorem step_inv (fixed : Bool) (s : TS) (op : TOp) (h1 : SInv s) (h2 : NeverEarly s) :
    SInv (stepT fixed s op).1 ∧ NeverEarly (stepT fixed s op).1 := by
  rcases (step_view fixed s op).2 with ⟨ht, hp⟩ | ⟨i, d, ht, hp⟩ | ⟨i, t, d, ht, hp, hd, hle⟩
  · refine ⟨?_, ?_⟩
    · intro id; unfold priOf; rw [ht, hp]; exact h1 id
    · intro post pre id t hs; rw [ht] at hs; exact h2 post pre id t hs
  · refine ⟨?_, ?_⟩
    · intro id
      unfold priOf
      rw [ht, hp]
      simp only [lastStamp, List.lookup_cons]
      by_cases he : i = id
      · subst he; simp
      · have : (id == i) = false := by simp; exact fun h => he h.symm
        simp only [he, ↓reduceIte, this]
        exact h1 id
    · intro post pre id t hs
      rw [ht] at hs
      cases post with
      | nil => simp at hs
      | cons e post' =>
        simp only [List.cons_append, List.cons.injEq] at hs
        exact h2 post' pre id t hs.2
  · refine ⟨?_, ?_⟩
    · intro id; unfold priOf; rw [ht, hp]; simp only [lastStamp]; exact h1 id
    · intro post pre id t' hs
      rw [ht] at hs
      cases post with
      | nil =>
        simp only [List.nil_append, List.cons.injEq, TEv.timedOut.injEq] at hs
        obtain ⟨⟨rfl, rfl⟩, rfl⟩ := hs
        exact ⟨d, (h1 i).trans hd, hle⟩
      | cons e post' =>
        simp only [List.cons_append, List.cons.injEq] at hs
        exact h2 post' pre id t' hs.2

theorem runT_inv (fixed : Bool) (s : TS) (ops : List TOp) (h1 : SInv s) (h2 : NeverEarly s) :
    SInv (runT fixed s ops) ∧ NeverEarly (runT fixed s ops) := by
  induction ops generalizing s with
  | nil => exact ⟨h1, h2⟩
  | cons op ops ih =>
    obtain ⟨a, b⟩ := step_inv fixed s op h1 h2
    exact ih _ a b

end Nsq.Proofs.ChanMicroT
