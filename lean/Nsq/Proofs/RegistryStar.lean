import Nsq.Spec.RegistryStarSpec
import Nsq.Proofs.RegistryQuery
/-! Refinement of the wild-card operations of nsqlookupd (the tombstone and `/lookup` of `topic=*`), which have one result
per pick: sets of results against sets of results. -/
namespace Nsq.Proofs.RegistryStar
open Nsq.Model.Registry Nsq.Model.Registry.AMap Nsq.Proofs.RegistryMap Nsq.Proofs.RegistryDB
open Nsq.Spec.RegistrySpec Nsq.Proofs.RegistryRefine Nsq.Proofs.RegistryWF Nsq.Proofs.RegistryQuery

theorem topicsOf_ne_nil_iff (db : DB) (id : Nat) (hn : (mkeys db).Nodup) :
    topicsOf db id ≠ [] ↔ ∃ t, (getP db (topicKey t) id).isSome = true := by
  rw [List.ne_nil_iff_length_pos, List.length_pos_iff_exists_mem]
  exact exists_congr fun t => mem_topicsOf db id t hn

theorem pickValid_abs (r : Registry) (pick : Pick) (hn : (mkeys r.db).Nodup) :
    PickValid r.db pick ↔ (abs r).PickValid pick := by
  unfold PickValid Spec.PickValid
  simp only [topicsOf_ne_nil_iff _ _ hn, mem_topicsOf _ _ _ hn, abs]

theorem firstPick_valid (db : DB) : PickValid db (firstPick db) := by
  intro id h
  unfold firstPick
  cases hl : topicsOf db id with
  | nil => exact absurd hl h
  | cons a l => simp

theorem abs_tombstoneStar (r : Registry) (pick : Pick) (node : Name) (now : Int) :
    abs (tombstoneStar r pick node now) = (abs r).tombstoneStar pick node now := by
  unfold tombstoneStar Spec.tombstoneStar
  simp only [nodeIs_abs]
  refine abs_eq (fun t => ?_) (fun t c => ?_) (fun q t => ?_) (fun q t c => ?_) (fun q t τ => ?_) (fun q => ?_)
    (fun _ => rfl)
  · rw [has_tombstoneStarDB]; exact Iff.rfl
  · rw [has_tombstoneStarDB]; exact Iff.rfl
  · rw [getP_tombstoneStarDB, isSome_ite_map]; exact Iff.rfl
  · rw [getP_tombstoneStarDB, isSome_ite_map]; exact Iff.rfl
  · simp only [getP_tombstoneStarDB, ite_map_const_eq_some, isMatchKey, tmatch, true_or, true_and, Tomb.mk.injEq]
    by_cases h : t = pick q
    · subst h; simp only [topicKey, true_and, and_left_comm, abs]
    · simp only [topicKey, h, Ne.symm h, false_and, abs]
  · rw [getP_tombstoneStarDB, isSome_ite_map]; exact Iff.rfl

theorem starNode_tombstone (a : HttpArgs) (now : Int) :
    (Op.tombstone a now).starNode =
      if a.badQuery = false ∧ a.topic = some star then a.node.map (fun n => (n, now)) else none := rfl

/-- `abs` is a functional bisimulation on well-formed registries -/
theorem StepSet_abs (r : Registry) (op : Op) (hw : WF r) :
    (∀ r', StepSet r op r' → (abs r).StepSet op (abs r') ∧ WF r') ∧
    (∀ s', (abs r).StepSet op s' → ∃ r', StepSet r op r' ∧ abs r' = s') := by
  unfold StepSet Spec.StepSet
  cases hn : op.starNode with
  | none =>
    exact ⟨fun r' hs => by subst hs; exact ⟨abs_step r op hn, WF_step r op hw⟩,
      fun s' hs => ⟨_, rfl, by rw [hs]; exact abs_step r op hn⟩⟩
  | some nn =>
    obtain ⟨node, now⟩ := nn
    constructor
    · rintro r' ⟨pick, hv, rfl⟩
      exact ⟨⟨pick, (pickValid_abs r pick hw.db.1).mp hv, abs_tombstoneStar r pick node now⟩,
             WF_tombstoneStar r pick node now hw⟩
    · rintro s' ⟨pick, hv, rfl⟩
      exact ⟨_, ⟨pick, (pickValid_abs r pick hw.db.1).mpr hv, rfl⟩, abs_tombstoneStar r pick node now⟩

theorem step_mem_StepSet (r : Registry) (op : Op) : StepSet r op (step r op).1 := by
  unfold StepSet
  cases hn : op.starNode with
  | none => rfl
  | some nn =>
    obtain ⟨node, now⟩ := nn
    simp only
    cases op with
    | tombstone a now' =>
      rw [starNode_tombstone] at hn
      by_cases hc : a.badQuery = false ∧ a.topic = some star
      · rw [if_pos hc] at hn
        cases hnode : a.node with
        | none => simp [hnode] at hn
        | some n =>
          simp only [hnode, Option.map_some, Option.some.injEq, Prod.mk.injEq] at hn
          obtain ⟨rfl, rfl⟩ := hn
          -- the step marks, for each node, the first of its topics (`tombstoneDB_star`): the pick `firstPick`, which is valid
          refine ⟨firstPick r.db, firstPick_valid r.db, ?_⟩
          simp [step, tombstone, hc.1, hc.2, hnode, tombstoneDB_star, tombstoneStar]
      · rw [if_neg hc] at hn; simp at hn
    | _ => simp [Op.starNode] at hn

theorem RunSet_sound (r : Registry) (ops : List Op) (r' : Registry) (hw : WF r) (h : RunSet r ops r') :
    (abs r).RunSet ops (abs r') ∧ WF r' := by
  induction h with
  | nil r => exact ⟨Spec.RunSet.nil _, hw⟩
  | cons hs _ ih =>
    have h1 := (StepSet_abs _ _ hw).1 _ hs
    have h2 := ih h1.2
    exact ⟨Spec.RunSet.cons h1.1 h2.1, h2.2⟩

theorem RunSet_complete (ops : List Op) : ∀ (r : Registry) (s' : Spec), WF r → (abs r).RunSet ops s' →
    ∃ r', RunSet r ops r' ∧ abs r' = s' := by
  induction ops with
  | nil =>
    intro r s' _ h
    cases h
    exact ⟨r, RunSet.nil r, rfl⟩
  | cons op ops ih =>
    intro r s' hw h
    cases h with
    | cons hs hr =>
      obtain ⟨r1, h1, e1⟩ := (StepSet_abs r op hw).2 _ hs
      have hw1 := ((StepSet_abs r op hw).1 r1 h1).2
      rw [← e1] at hr
      obtain ⟨r', h2, e2⟩ := ih r1 s' hw1 hr
      exact ⟨r', RunSet.cons h1 h2, e2⟩

theorem run_mem_RunSet (ops : List Op) : ∀ r : Registry, RunSet r ops (run r ops) := by
  induction ops with
  | nil => intro r; exact RunSet.nil r
  | cons op ops ih => intro r; exact RunSet.cons (step_mem_StepSet r op) (ih _)

theorem mem_qChannels_star (r : Registry) (ch : Name) :
    ch ∈ qChannels r star ↔ (abs r).channelsStar ch := by
  unfold qChannels Spec.channelsStar
  simp only [List.mem_map, mem_findRegistrations, abs, isMatch_iff, true_or, and_true]
  constructor
  · intro ⟨k, ⟨hk, hc⟩, hs⟩
    refine ⟨k.key, ?_⟩
    have : chanKey k.key ch = k := by cases k; simp_all [chanKey]
    rw [this]; exact hk
  · intro ⟨t, ht⟩
    exact ⟨chanKey t ch, ⟨ht, rfl⟩, rfl⟩

theorem qLookupStar_none_iff (c : Conf) (r : Registry) (pick : Pick) (now : Int) :
    qLookupStar c r pick now = none ↔ ¬ (abs r).lookupStarFound := by
  have : qLookupStar c r pick now = none ↔ (findRegistrations r.db .topic star []).isEmpty = true := by
    unfold qLookupStar; split <;> simp [*]
  rw [this, findRegistrations_isEmpty]
  simp only [isMatch_topic_star]
  exact ⟨fun h ⟨t, ht⟩ => h _ ht rfl, fun h k hk e => h ⟨k.key, show has r.db (topicKey k.key) = true by rw [← e]; exact hk⟩⟩

theorem mem_topicPeers (db : DB) (id : Nat) : id ∈ topicPeers db ↔ topicsOf db id ≠ [] := by
  rw [List.ne_nil_iff_length_pos, List.length_pos_iff_exists_mem]
  simp only [topicPeers, topicsOf, lookupRegistrations, List.mem_eraseDups, List.mem_flatMap, List.mem_filter,
    List.mem_map, ← mem_mkeys_iff, mkeys]
  constructor
  · rintro ⟨e, ⟨he, hk⟩, hid⟩
    exact ⟨_, e.1, ⟨⟨e, ⟨he, hid⟩, rfl⟩, hk⟩, rfl⟩
  · rintro ⟨_, k, ⟨⟨e, ⟨he, hid⟩, rfl⟩, hk⟩, _⟩
    exact ⟨e, ⟨he, hk⟩, hid⟩

theorem mem_pickedProducers (db : DB) (pick : Pick) (h : DBWF db) (id : Nat) (tb : Tomb) :
    (id, tb) ∈ pickedProducers db pick ↔ getP db (topicKey (pick id)) id = some tb := by
  unfold pickedProducers
  simp only [List.mem_filterMap, Option.map_eq_some_iff, Prod.mk.injEq]
  constructor
  · intro ⟨id', _, tb', hg, hid, htb⟩
    subst hid; subst htb
    exact hg
  · intro hg
    exact ⟨id, (mem_topicPeers db id).mpr ((topicsOf_ne_nil_iff db id h.1).mpr ⟨pick id, by simp [hg]⟩), tb, hg, rfl, rfl⟩

theorem qLookupStar_some (c : Conf) (r : Registry) (pick : Pick) (now : Int) (a : LookupAns)
    (ha : qLookupStar c r pick now = some a) :
    a = ⟨qChannels r star,
         peerInfos r (filterByActive r c.inactive c.tombLife now (pickedProducers r.db pick))⟩ := by
  unfold qLookupStar at ha
  split at ha
  · cases ha
  · exact (Option.some.inj ha).symm

theorem mem_lookupStar_producers (c : Conf) (r : Registry) (pick : Pick) (now : Int) (a : LookupAns)
    (h : WF r) (ha : qLookupStar c r pick now = some a) (p : Nat) (i : Info) :
    (p, i) ∈ a.producers ↔
      (abs r).lookupStarProducers c pick now p ∧ ∃ pr, (abs r).peer p = some pr ∧ pr.info = i := by
  rw [qLookupStar_some c r pick now a ha]
  exact mem_active_producers c r (pick p) now _ h p i (fun tb => mem_pickedProducers r.db pick h.db p tb)

theorem mem_lookupStar_producer_ids (c : Conf) (r : Registry) (pick : Pick) (now : Int) (a : LookupAns)
    (h : WF r) (ha : qLookupStar c r pick now = some a) (p : Nat) :
    p ∈ a.producers.map (·.1) ↔ (abs r).lookupStarProducers c pick now p :=
  mem_map_fst_producers (mem_lookupStar_producers c r pick now a h ha) (fun _ hp => hp.2.2.1.imp fun _ e => e.1) p

theorem pickValidB_iff (db : DB) (pick : Pick) (h : DBWF db) : pickValidB db pick = true ↔ PickValid db pick := by
  unfold pickValidB PickValid
  simp only [List.all_eq_true, List.contains_iff_mem, mem_topicPeers]

end Nsq.Proofs.RegistryStar
