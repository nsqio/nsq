/-
Which operation records which event: the table `Records` and `step_records` (the history grows by events of the table), off
which the facts about one kind of event (the deliberate drops, the fan-outs) are read; the ledger for one id under `Inv` (`owns_iff`).
-/
import Nsq.Proofs.ChanInv
import Nsq.Proofs.ChanHist
namespace Nsq.Proofs.Chan
open Nsq.Model.Chan

/-- which operation records which event, and what held in the state `c` it was applied to -/
def Records (c : Chan) (op : Op) : Ev → Prop
  | .fanout i d => (∃ e, op = .put i e ∧ d = false) ∨ ∃ p e, op = .putDeferred i p e ∧ d = true
  | .deliver k i _ => ∃ now, op = .deliver k i now ∨ op = .deliverArmed k i now
  | .finOk k i => op = .fin k i ∨ op = .finChan k i
  | .reqOk k i d => ∃ now, op = .req k i d now
  | .touchOk k i => ∃ now, op = .touch k i now
  | .timeout _ _ => ∃ t, op = .scanInFlight t
  | .deferDue _ => ∃ t, op = .scanDeferred t
  | .emptied _ => op = .empty
  | .sampledOut k i =>
    op = .sampleDrop k i ∧ ∃ cl, findC c.clients k = some cl ∧ cl.sample ≠ 0 ∧ ready c.paused cl = true
  | .ephDrop _ => c.ephemeral = true
  | .rdySet k n => op = .rdy k n
  | .closed k => op = .cls k
  | .joined k => ∃ mt sm, op = .addClient k mt sm
  | .pauseSet p => (op = .pause ∧ p = true) ∨ (op = .unpause ∧ p = false)
  | .guardOk k => op = .guard k ∧ ∃ cl, findC c.clients k = some cl ∧ ready c.paused cl = true

/-- the history of `c'` is that of `c` with events satisfying `P` in front; `ephemeral` is a constant of the channel, and
`Records` reads it (`ephDrop`) -/
def Grows (P : Ev → Prop) (c c' : Chan) : Prop :=
  c'.ephemeral = c.ephemeral ∧ ∃ evs, c'.hist = evs ++ c.hist ∧ ∀ ev ∈ evs, P ev

theorem Grows.refl (P : Ev → Prop) (c : Chan) : Grows P c c := ⟨rfl, [], rfl, nofun⟩

theorem Grows.trans {P : Ev → Prop} {a b c : Chan} (h1 : Grows P a b) (h2 : Grows P b c) : Grows P a c := by
  obtain ⟨e1, l1, r1, p1⟩ := h1
  obtain ⟨e2, l2, r2, p2⟩ := h2
  refine ⟨e2.trans e1, l2 ++ l1, by rw [r2, r1, List.append_assoc], fun ev hev => ?_⟩
  rcases List.mem_append.1 hev with h | h
  · exact p2 ev h
  · exact p1 ev h

theorem Grows.one {P : Ev → Prop} {c c' : Chan} {ev : Ev} (he : c'.ephemeral = c.ephemeral) (hh : c'.hist = ev :: c.hist)
    (hp : P ev) : Grows P c c' :=
  ⟨he, [ev], hh, fun _ h => List.mem_singleton.1 h ▸ hp⟩

theorem Grows.nEv {P : Ev → Prop} {c c' : Chan} (h : Grows P c c') (p : Ev → Bool) (hp : ∀ ev, P ev → p ev = false) :
    Nsq.Model.Chan.nEv p c'.hist = Nsq.Model.Chan.nEv p c.hist := by
  obtain ⟨_, evs, hh, hP⟩ := h
  rw [hh, Nsq.Model.Chan.nEv, List.countP_append, List.countP_eq_zero.2 (fun ev hev => by rw [hp ev (hP ev hev)]; decide),
    Nat.zero_add]
  rfl

theorem Grows.of_nEv_ne {P : Ev → Prop} {c c' : Chan} (h : Grows P c c') (p : Ev → Bool)
    (hne : Nsq.Model.Chan.nEv p c'.hist ≠ Nsq.Model.Chan.nEv p c.hist) : ∃ ev, p ev = true ∧ P ev := by
  apply Classical.byContradiction
  intro hno
  refine hne (h.nEv p (fun ev hP => ?_))
  cases hp : p ev
  · rfl
  · exact absurd ⟨ev, hp, hP⟩ hno

theorem grows_enqueue {P : Ev → Prop} {c c1 : Chan} (h : Grows P c c1) (hE : c.ephemeral = true → ∀ i, P (.ephDrop i)) (x : Nat) :
    Grows P c (enqueue c1 x) := by
  refine h.trans ?_
  rcases enqueue_cases c1 x with ⟨_, h'⟩ | ⟨_, h2, h'⟩ | ⟨_, _, h'⟩ <;> rw [h']
  · exact Grows.refl _ c1
  · exact Grows.one rfl rfl (hE (h.1 ▸ h2) x)
  · exact Grows.refl _ c1

theorem enqueue_count (p : Ev → Bool) (hp : ∀ i, p (.ephDrop i) = false) (c : Chan) (x : Nat) :
    nEv p (enqueue c x).hist = nEv p c.hist :=
  (grows_enqueue (P := fun ev => ∃ i, ev = .ephDrop i) (Grows.refl _ c) (fun _ i => ⟨i, rfl⟩) x).nEv p (fun _ ⟨i, h⟩ => h ▸ hp i)

theorem eff_records {conf : Conf} {c c' : Chan} {op : Op} {o : Out} (he : Eff conf c op c' o) :
    Grows (Records c op) c c' := by
  cases he with
  | put id env =>
    refine grows_enqueue ?_ (fun h _ => h) _
    exact Grows.one rfl rfl (Or.inl ⟨env, rfl, rfl⟩)
  | putDeferred id pri env => exact Grows.one rfl rfl (Or.inr ⟨pri, env, rfl, rfl⟩)
  | addClient k mt sm => exact Grows.one rfl rfl ⟨mt, sm, rfl⟩
  | rdy | cls | empty => exact Grows.one rfl rfl rfl
  | pause => exact Grows.one rfl rfl (Or.inl ⟨rfl, rfl⟩)
  | unpause => exact Grows.one rfl rfl (Or.inr ⟨rfl, rfl⟩)
  | deliver k now => exact Grows.one rfl rfl ⟨now, Or.inl rfl⟩
  | deliverArmed k now => exact Grows.one rfl rfl ⟨now, Or.inr rfl⟩
  | guardOk k cl hc hr => exact Grows.one rfl rfl ⟨rfl, cl, hc, hr⟩
  | sampleDrop k cl e hc hr hs => exact Grows.one rfl rfl ⟨rfl, cl, hc, hs, hr⟩
  | fin => exact Grows.one rfl rfl (Or.inl rfl)
  | finChan => exact Grows.one rfl rfl (Or.inr rfl)
  | reqNow k now =>
    refine grows_enqueue ?_ (fun h _ => h) _
    exact Grows.one rfl rfl ⟨now, rfl⟩
  | reqLater k delay now => exact Grows.one rfl rfl ⟨now, rfl⟩
  | touch k now => exact Grows.one rfl rfl ⟨now, rfl⟩
  | scanInFlight t =>
    -- `Records c op` reads `c` through `ephemeral` (and, for the kinds a scan does not record, the clients): carry the flag along
    exact scanInFlight_rel (R := fun a b => a.ephemeral = c.ephemeral → Grows (Records c (.scanInFlight t)) a b)
      (fun _ _ => Grows.refl _ _) (fun h1 h2 h => (h1 h).trans (h2 ((h1 h).1.trans h)))
      (fun _ _ h => grows_enqueue (Grows.refl _ _) (fun h' _ => h.symm.trans h') _)
      (fun _ _ _ _ => Grows.one rfl rfl ⟨t, rfl⟩) _ c rfl
  | scanDeferred t =>
    exact scanDeferred_rel (R := fun a b => a.ephemeral = c.ephemeral → Grows (Records c (.scanDeferred t)) a b)
      (fun _ _ => Grows.refl _ _) (fun h1 h2 h => (h1 h).trans (h2 ((h1 h).1.trans h)))
      (fun _ _ h => grows_enqueue (Grows.refl _ _) (fun h' _ => h.symm.trans h') _)
      (fun _ _ _ => Grows.one rfl rfl ⟨t, rfl⟩) _ c rfl
  | _ => exact Grows.refl _ c

theorem step_records (conf : Conf) (c : Chan) (op : Op) : Grows (Records c op) c (step conf c op).1 :=
  step_keeps (Grows.refl _ c) eff_records

theorem sampled_only (conf : Conf) (c : Chan) (op : Op)
    (h : nEv isSampled (step conf c op).1.hist ≠ nEv isSampled c.hist) :
    ∃ k id cl, op = .sampleDrop k id ∧ findC c.clients k = some cl ∧ cl.sample ≠ 0 ∧ ready c.paused cl = true := by
  obtain ⟨ev, hp, hr⟩ := (step_records conf c op).of_nEv_ne _ h
  cases ev with
  | sampledOut k i => obtain ⟨h1, cl, h2⟩ := hr; exact ⟨k, i, cl, h1, h2⟩
  | _ => cases hp

theorem ephDrop_only_ephemeral (conf : Conf) (c : Chan) (op : Op) (h : c.ephemeral = false) :
    nEv isEphDrop (step conf c op).1.hist = nEv isEphDrop c.hist ∧ (step conf c op).1.ephemeral = false := by
  have hg := step_records conf c op
  refine ⟨hg.nEv _ (fun ev hr => ?_), hg.1.trans h⟩
  cases ev with
  | ephDrop i => rw [show c.ephemeral = true from hr] at h; cases h
  | _ => rfl

theorem length_partition (l : List Entry) :
    l.length = l.countP isQueued + l.countP isInflight + l.countP isDeferred := by
  induction l with
  | nil => rfl
  | cons e l ih =>
    simp only [List.length_cons, List.countP_cons, ih]
    cases hl : e.loc <;> simp [isQueued, isInflight, isDeferred, hl] <;> omega

def fanoutOf (id : Nat) : Ev → Bool := fun e => match e with | .fanout i _ => i == id | _ => false

theorem nFanout_eq (h : List Ev) (id : Nat) : nFanout h id = nEv (fanoutOf id) h := rfl

theorem nFanout_enqueue (c : Chan) (x id : Nat) : nFanout (enqueue c x).hist id = nFanout c.hist id :=
  enqueue_count (fanoutOf id) (fun _ => rfl) c x

theorem eff_nonput_nFanout {conf : Conf} {c c' : Chan} {op : Op} {o : Out} (he : Eff conf c op c' o) (id : Nat)
    (hput : isPut op = false) : nFanout c'.hist id = nFanout c.hist id :=
  (eff_records he).nEv (fanoutOf id) (fun ev hr => by
    cases ev <;> first | rfl | skip
    rcases hr with ⟨e, rfl, _⟩ | ⟨p, e, rfl, _⟩ <;> cases hput)

theorem nonput_nFanout (conf : Conf) (c : Chan) (op : Op) (id : Nat) (hput : isPut op = false) :
    nFanout (step conf c op).1.hist id = nFanout c.hist id :=
  step_keeps (P := fun c' => nFanout c'.hist id = nFanout c.hist id) rfl (fun he => eff_nonput_nFanout he id hput)

theorem owns_iff {d : Nat} {c : Chan} (hi : Inv d c) (id : Nat) :
    (∃ e ∈ c.msgs, e.id = id) ↔ (id ∈ fannedIds c.hist ∧ removed c.hist id = false) :=
  Iff.trans ⟨fun ⟨e, he, hid⟩ => by rw [← hid, hi.status he]; exact locSt_located e.loc, hi.core.absent id⟩
    (located_iff hi.okh)

theorem removed_of_fanned {d : Nat} {c : Chan} (hi : Inv d c) {id : Nat} (hf : id ∈ fannedIds c.hist)
    (hgone : ∀ e ∈ c.msgs, e.id ≠ id) : ∃ ev ∈ c.hist, removedIn ev id = true := by
  cases hr : removed c.hist id
  · obtain ⟨e, he, hid⟩ := (owns_iff hi id).2 ⟨hf, hr⟩
    exact absurd hid (hgone e he)
  · simpa [removed] using hr

theorem hasId_of_nFanout_zero {d : Nat} {c : Chan} (hi : Inv d c) {id : Nat} (hnew : nFanout c.hist id = 0) :
    hasId c.msgs id = false :=
  hasId_false.2 (fun e he hid => mem_fannedIds.1 ((owns_iff hi id).1 ⟨e, he, hid⟩).1 hnew)

theorem put_nFanout (conf : Conf) {c : Chan} (hi : Inv 0 c) {id : Nat} {env : Env} {op : Op} (hp : IsPut id env op)
    (hnew : nFanout c.hist id = 0) (j : Nat) :
    nFanout (step conf c op).1.hist j = nFanout c.hist j + (if id = j then 1 else 0) := by
  have hno := hasId_of_nFanout_zero hi hnew
  rcases hp with rfl | ⟨pri, rfl⟩ <;>
    simp only [step, hnew, hno, bne_self_eq_false, Bool.or_self, Bool.false_eq_true, ↓reduceIte]
  · rw [nFanout_enqueue, nFanout_cons]
  · rw [nFanout_cons]

end Nsq.Proofs.Chan
