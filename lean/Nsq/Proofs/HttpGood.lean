import Nsq.Model.HttpFull
import Nsq.Proofs.HttpApi
/-! What an answer of the whole-table HTTP model has to be. The results a decorated handler may return are stated once
(`GoodV1`, `GoodPlain`); the documented causes (`DocFull`) and the envelope (`WireOK`) are both read off them (`.doc`,
`.wire`). -/
namespace Nsq.Proofs.HttpFull
open Nsq.Model.HttpFull Nsq.Model.HttpApi Nsq.Model.ProtoV2 Nsq.Model.Names Nsq.Model.Base10 Nsq.Model
open Nsq.Proofs.HttpApi

theorem codeTail_mem (c : Code) : codeTail c ∈ errorMessages :=
  List.mem_append_right _ (List.mem_map_of_mem (by cases c <;> decide))

def BaseRes (r : Response) : Prop :=
  (r.status = .s200 ∧ (r.msg = "OK" ∨ r.msg = "")) ∨
  ((r.status = .s400 ∨ r.status = .s404 ∨ r.status = .s413 ∨ r.status = .s500) ∧ r.msg ∈ errorMessages)

instance (r : Response) : Decidable (BaseRes r) := by unfold BaseRes; infer_instance

theorem topicFromQuery_msg (q : Bytes) (e : String) (h : topicFromQuery q = .error e) : e ∈ errorMessages := by
  revert h
  fun_cases topicFromQuery q
  all_goals rintro ⟨⟩
  all_goals decide

theorem mpubText_msg (hc : HConf) (body : Bytes) (e : String) (h : mpubText hc body = .error e) :
    e ∈ errorMessages := by
  rcases textLoop_error _ _ _ _ h with rfl | ⟨-, rfl⟩ <;> decide

theorem doMPUB_base (hc : HConf) (b : Broker) (rq : Request) : BaseRes (doMPUB hc b rq).1 := by
  fun_cases doMPUB hc b rq
  · exact .inr ⟨.inr (.inr (.inl rfl)), (by decide : "BODY_TOO_BIG" ∈ errorMessages)⟩
  · exact .inr ⟨.inl rfl, topicFromQuery_msg _ _ ‹_›⟩
  · exact .inr ⟨.inr (.inr (.inl rfl)), codeTail_mem _⟩
  · exact .inr ⟨.inr (.inr (.inr rfl)), (by decide : "INTERNAL_ERROR" ∈ errorMessages)⟩
  · exact .inl ⟨rfl, .inl rfl⟩
  · exact .inr ⟨.inr (.inr (.inl rfl)), mpubText_msg _ _ _ ‹_›⟩
  · exact .inl ⟨rfl, .inl rfl⟩

/-- 400 causes of the handlers shared with `HttpApi` (its `BadArgs` without the catch-all for
`/config`). -/
def BadArgsCore (hc : HConf) (rq : Request) : Prop :=
  parseQuery rq.rawQuery = none ∨
  (∃ kv, parseQuery rq.rawQuery = some kv ∧
    (qget kv kTopic = none ∨ (∃ t, qget kv kTopic = some t ∧ isValidName t = false) ∨
     qget kv kChannel = none ∨ (∃ c, qget kv kChannel = some c ∧ isValidName c = false) ∨
     deferArg hc kv = none)) ∨
  (pubData hc rq).isEmpty

/-- The four 400 exits of `doConfigFull`, in the order of its text. -/
def ConfigBad (hc : HConf) (rq : Request) : Prop :=
  ∃ opt, configOpt rq.path = some opt ∧
    ((rq.method = ascii "PUT" ∧ opt = kLookupdAddrs ∧ isStrArrayJson (pubData hc rq) = false) ∨
     (rq.method = ascii "PUT" ∧ opt = kLogLevel ∧ parseLogLevel (pubData hc rq) = none) ∨
     (rq.method = ascii "PUT" ∧ opt ≠ kLookupdAddrs ∧ opt ≠ kLogLevel) ∨
     (rq.method ≠ ascii "PUT" ∧ hc.cfgNames.contains opt = false))

/-- The 400 of `setBlockRate`: no `rate` argument, or one that is not an integer. It does not look at the route: every
request without a `rate` argument satisfies it. -/
def RateBad (rq : Request) : Prop :=
  ∀ v, qget (lenientPairs (splitOn 38 rq.rawQuery)) (ascii "rate") = some v → parseInt64 v = none

def BadArgsFull (hc : HConf) (rq : Request) : Prop := BadArgsCore hc rq ∨ ConfigBad hc rq ∨ RateBad rq

structure DocFull (hc : HConf) (healthy : Bool) (b : Broker) (rq : Request) (w : Wire) : Prop where
  s413 : w.status = .s413 → Oversize hc rq
  s400 : w.status = .s400 → BadArgsFull hc rq
  s404 : w.status = .s404 → UnknownObject b rq
  s500 : w.status = .s500 → healthy = false ∧ rq.path = ascii "/ping"
  s403 : w.status = .s403 → hc.tlsRefuse = true
  s405 : w.status = .s405 → routeFull rq.method rq.path = .methodNotAllowed
  ext : w.status = .external → ∃ name, routeFull rq.method rq.path = .handler name .raw

def CauseFull (hc : HConf) (healthy : Bool) (b : Broker) (rq : Request) : Status → Prop
  | .s413 => Oversize hc rq
  | .s400 => BadArgsFull hc rq
  | .s404 => UnknownObject b rq
  | .s500 => healthy = false ∧ rq.path = ascii "/ping"
  | .s403 => hc.tlsRefuse = true
  | .s405 => routeFull rq.method rq.path = .methodNotAllowed
  | .external => ∃ name, routeFull rq.method rq.path = .handler name .raw
  | .s200 | .notFoundOrRedirect => True

theorem docFull_of {hc : HConf} {healthy : Bool} {b : Broker} {rq : Request} {w : Wire} (s : Status)
    (hs : w.status = s) (h : CauseFull hc healthy b rq s) : DocFull hc healthy b rq w := by
  subst hs
  constructor <;> intro e <;> rw [e] at h <;> exact h

theorem renderV1_ofResponse_status (r : Response) : (renderV1 (ofResponse r)).status = r.status := by
  fun_cases ofResponse r
  all_goals simp [renderV1, *]

def isJsonBody : Body → Bool
  | .errJson _ => true | .tlsJson => true | .json _ => true | _ => false

/-- What "a well-formed response" means for the part nsqd's code decides. -/
structure WireOK (hc : HConf) (w : Wire) : Prop where
  ct_iff : w.ctJson = isJsonBody w.body
  err_msg : ∀ m, w.body = .errJson m → m ∈ errorMessages ∧ w.nsqHdr = true ∧ w.status ≠ .s200
  tls : w.body = .tlsJson → hc.tlsRefuse = true ∧ w.status = .s403
  v1_error : w.nsqHdr = true → w.status ≠ .s200 → (∃ m, w.body = .errJson m) ∨ w.body = .tlsJson
  ok_body : w.status = .s200 → ∀ m, w.body ≠ .errJson m

section
variable (hc : HConf) (healthy : Bool) (b : Broker) (rq : Request)

/-- The results a `V1`-decorated handler may return. -/
def GoodV1 : HRes → Prop
  | .err s m => m ∈ errorMessages ∧ s ≠ .s200 ∧ CauseFull hc healthy b rq s
  | .errText _ => False
  | .external => False
  | _ => True

/-- The results a `PlainText`-decorated handler may return: errors are free text. -/
def GoodPlain : HRes → Prop
  | .okJson _ => False
  | .external => False
  | .err _ _ => False
  | .errText s => s ≠ .s200 ∧ CauseFull hc healthy b rq s
  | _ => True

theorem good_ping (hpath : rq.path = ascii "/ping") :
    GoodPlain hc healthy b rq (if healthy = true then HRes.okStr "OK" else HRes.errText .s500) := by
  cases healthy
  · exact ⟨nofun, rfl, hpath⟩
  · trivial

theorem good_stats : GoodV1 hc healthy b rq (doStatsFull b rq) := by
  fun_cases doStatsFull b rq
  · exact ⟨by decide, nofun, .inl (.inl ‹_›)⟩
  all_goals trivial

theorem good_config : GoodV1 hc healthy b rq (doConfigFull hc rq) := by
  fun_cases doConfigFull hc rq
  -- the leaves in the order of the definition's text; the errors among them: 1 no option in the path, 2 the 413,
  -- then the four 400s (4, 6, 7, 10): the disjuncts of `ConfigBad` in that order
  case case1 => exact ⟨by decide, nofun, trivial⟩
  case case2 hput hsz => exact ⟨by decide, nofun, oversize_of_put hput hsz⟩
  case case4 hput _ hj hopt =>
    exact ⟨by decide, nofun, .inr (.inl ⟨_, hopt, .inl ⟨hput, rfl, by simpa [pubData] using hj⟩⟩)⟩
  case case6 hput _ hp hopt _ =>
    exact ⟨by decide, nofun, .inr (.inl ⟨_, hopt, .inr (.inl ⟨hput, rfl, by simpa [pubData] using hp⟩)⟩)⟩
  case case7 opt hopt hput _ hnl hnv =>
    exact ⟨by decide, nofun, .inr (.inl ⟨opt, hopt, .inr (.inr (.inl ⟨hput, hnl, hnv⟩))⟩)⟩
  case case10 opt hopt hget hc' =>
    exact ⟨by decide, nofun, .inr (.inl ⟨opt, hopt, .inr (.inr (.inr ⟨hget, by simpa using hc'⟩))⟩)⟩
  all_goals trivial

theorem good_rate : GoodPlain hc healthy b rq (setBlockRate rq) := by
  unfold setBlockRate
  split
  · rename_i hq
    exact ⟨nofun, .inr (.inr (fun v hv => by rw [hq] at hv; cases hv))⟩
  · rename_i v hq
    split
    · trivial
    · rename_i hp
      exact ⟨nofun, .inr (.inr (fun v' hv => by rw [hq] at hv; cases hv; simpa using hp))⟩

variable {hc healthy b rq}

theorem GoodV1.doc {r : HRes} (h : GoodV1 hc healthy b rq r) : DocFull hc healthy b rq (renderV1 r) := by
  cases r <;> simp only [GoodV1] at h
  case err s m => exact docFull_of s rfl h.2.2
  all_goals exact docFull_of .s200 rfl trivial

theorem GoodPlain.doc {r : HRes} (h : GoodPlain hc healthy b rq r) : DocFull hc healthy b rq (renderPlain r) := by
  cases r <;> simp only [GoodPlain] at h
  case errText s => exact docFull_of s rfl h.2
  all_goals exact docFull_of .s200 rfl trivial

theorem GoodV1.wire {r : HRes} (h : GoodV1 hc healthy b rq r) : WireOK hc (renderV1 r) := by
  cases r <;> simp only [GoodV1] at h
  case err s m =>
    exact ⟨rfl, fun m' hm => by simp [renderV1] at hm; subst hm; exact ⟨h.1, rfl, h.2.1⟩, by simp [renderV1],
      fun _ _ => Or.inl ⟨m, rfl⟩, fun hs => absurd hs h.2.1⟩
  all_goals exact ⟨rfl, by simp [renderV1], by simp [renderV1], by simp [renderV1], by simp [renderV1]⟩

theorem GoodPlain.wire {r : HRes} (h : GoodPlain hc healthy b rq r) : WireOK hc (renderPlain r) := by
  cases r <;> simp only [GoodPlain] at h
  all_goals exact ⟨rfl, by simp [renderPlain], by simp [renderPlain], by simp [renderPlain], by simp [renderPlain]⟩

end

end Nsq.Proofs.HttpFull
