/-
E2 / C03 — the connection's output history run at frame level and through C07's byte-level `bufio.Writer` model
(`Nsq.Model.Wire.bufWrite / bufFlush`), and the invariant `Agree` that joins the two runs.
-/
import Nsq.Proofs.WireStream
namespace Nsq.Proofs.PumpBytes
open Nsq.Model.Wire Nsq.Proofs.Wire

/-- the output history of one connection: frame `f` written (in chunks), or `Flush` -/
inductive OAct (F : Type) where
  | write (f : F)
  | flush

/-- frame level (as in `Nsq.Model.Pump`): socket content and buffer as frame lists -/
def frameRun {F : Type} : List F × List F → List (OAct F) → List F × List F
  | s, [] => s
  | (sock, buf), .write f :: as => frameRun (sock, buf ++ [f]) as
  | (sock, buf), .flush :: as => frameRun (sock ++ buf, []) as

def writeChunks (w : BufW) : List Bytes → BufW
  | [] => w
  | c :: cs => writeChunks (bufWrite w c) cs

/-- byte level: `chunks f` are the `Write` calls that emit frame `f` -/
def byteRun {F : Type} (chunks : F → List Bytes) : BufW → List (OAct F) → BufW
  | w, [] => w
  | w, .write f :: as => byteRun chunks (writeChunks w (chunks f)) as
  | w, .flush :: as => byteRun chunks (bufFlush w) as

def enc {F : Type} (chunks : F → List Bytes) (l : List F) : Bytes := l.flatMap (fun f => (chunks f).flatten)

theorem writeChunks_wrote (w : BufW) (cs : List Bytes) : Wrote w cs.flatten (writeChunks w cs) := by
  induction cs generalizing w with
  | nil => exact .refl w
  | cons c cs ih => exact (bufWrite_wrote w c).trans (ih _)

/-- the byte-level writer holds the encoding of what the frame-level one holds, and has at least as much of it on
the socket -/
structure Agree {F : Type} (chunks : F → List Bytes) (w : BufW) (s : List F × List F) : Prop where
  stream : w.sink ++ w.buf = enc chunks (s.1 ++ s.2)
  sock : ∃ r, w.sink = enc chunks s.1 ++ r
  bounded : w.buf.length ≤ w.cap

theorem agree_write {F : Type} {chunks : F → List Bytes} {w w' : BufW} {sock buf : List F} (f : F)
    (h : Agree chunks w (sock, buf)) (hw : Wrote w (chunks f).flatten w') : Agree chunks w' (sock, buf ++ [f]) := by
  obtain ⟨r, e⟩ := h.sock
  obtain ⟨r', e'⟩ := hw.sink
  exact ⟨by rw [hw.stream, h.stream]; simp [enc, List.flatMap_append], ⟨r ++ r', by rw [e', e, List.append_assoc]⟩,
    hw.cap ▸ hw.bounded h.bounded⟩

theorem agree_flush {F : Type} {chunks : F → List Bytes} {w : BufW} {sock buf : List F}
    (h : Agree chunks w (sock, buf)) : Agree chunks (bufFlush w) (sock ++ buf, []) :=
  ⟨by simpa [bufFlush] using h.stream, ⟨[], by simpa [bufFlush] using h.stream⟩, Nat.zero_le _⟩

theorem runs_agree {F : Type} (chunks : F → List Bytes) (as : List (OAct F)) (w : BufW) (s : List F × List F)
    (h : Agree chunks w s) :
    Agree chunks (byteRun chunks w as) (frameRun s as) ∧ (byteRun chunks w as).cap = w.cap := by
  induction as generalizing w s with
  | nil => exact ⟨h, rfl⟩
  | cons a as ih =>
    obtain ⟨sock, buf⟩ := s
    cases a with
    | write f =>
      have hw := writeChunks_wrote w (chunks f)
      exact (ih _ _ (agree_write f h hw)).imp_right (·.trans hw.cap)
    | flush => exact ih _ _ (agree_flush h)

theorem agree_fresh {F : Type} (chunks : F → List Bytes) (cap : Nat) : Agree chunks { cap := cap } ([], []) :=
  ⟨rfl, ⟨[], rfl⟩, Nat.zero_le _⟩

end Nsq.Proofs.PumpBytes
