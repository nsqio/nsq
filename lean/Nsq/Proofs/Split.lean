import Nsq.Proofs.Lines
/-!
The to_nsq clause of C20: the `ReadBytes` loop publishes exactly the non-empty delimiter-separated records of its
input, for any trimming rule that strips the delimiter of a terminated line and leaves the last piece alone
(`published_records`). `rawLines` is the structural form of the loop that examples evaluate.
-/
namespace Nsq.Proofs.Split
open Nsq.Model.Split Nsq.Proofs.Lines

/-- the raw lines `ReadBytes` hands out one after the other (delimiter attached; the last one is
the unterminated rest, possibly empty) -/
def rawLines (d : UInt8) : Bytes → List Bytes
  | [] => [[]]
  | b :: rest =>
    if b = d then [d] :: rawLines d rest
    else match rawLines d rest with
      | [] => [[b]]
      | l :: ls => (b :: l) :: ls

theorem rawLines_ne_nil (d : UInt8) (input : Bytes) : rawLines d input ≠ [] := by
  cases input with
  | nil => simp [rawLines]
  | cons b rest =>
    unfold rawLines
    by_cases hb : b = d
    · simp [hb]
    · simp only [hb, if_false]; split <;> simp

theorem rawLines_last (d : UInt8) : ∀ s : Bytes, d ∉ s → rawLines d s = [s]
  | [], _ => rfl
  | c :: s, h => by
    rw [List.mem_cons, not_or] at h
    simp only [rawLines, if_neg (Ne.symm h.1), rawLines_last d s h.2]

theorem rawLines_line (d : UInt8) : ∀ hd rest : Bytes, d ∉ hd →
    rawLines d (hd ++ d :: rest) = (hd ++ [d]) :: rawLines d rest
  | [], rest, _ => by simp [rawLines]
  | c :: hd, rest, h => by
    rw [List.mem_cons, not_or] at h
    simp only [List.cons_append, rawLines, if_neg (Ne.symm h.1), rawLines_line d hd rest h.2]

/-- what the loop publishes for one raw line: the trimmed line, unless that is empty -/
def keep (trim : UInt8 → Bytes → Bytes) (d : UInt8) (l : Bytes) : Option Bytes :=
  if (trim d l).length = 0 then none else some (trim d l)

theorem published_last (trim : UInt8 → Bytes → Bytes) (d : UInt8) (s : Bytes) (h : d ∉ s) :
    published trim d s = (keep trim d s).toList := by
  rw [published, readBytes_last d s h, dif_pos rfl]
  unfold keep
  split <;> simp [*]

theorem published_line (trim : UInt8 → Bytes → Bytes) (d : UInt8) (hd rest : Bytes) (h : d ∉ hd) :
    published trim d (hd ++ d :: rest) = (keep trim d (hd ++ [d])).toList ++ published trim d rest := by
  rw [published, readBytes_line d hd rest h, dif_neg Bool.false_ne_true]
  unfold keep
  split <;> simp [*]

theorem published_eq (trim : UInt8 → Bytes → Bytes) (d : UInt8) (input : Bytes) :
    published trim d input = (rawLines d input).filterMap (keep trim d) := by
  induction input using lines_induction d with
  | last s h =>
    rw [published_last trim d s h, rawLines_last d s h, List.filterMap_cons]
    cases keep trim d s <;> rfl
  | line hd rest h ih =>
    rw [published_line trim d hd rest h, rawLines_line d hd rest h, List.filterMap_cons, ih]
    cases keep trim d (hd ++ [d]) <;> rfl

theorem trimFixed_terminated (d : UInt8) (p : Bytes) : trimFixed d (p ++ [d]) = p := by
  unfold trimFixed; simp

theorem trimFixed_unterminated (d : UInt8) (p : Bytes) (h : d ∉ p) : trimFixed d p = p := by
  unfold trimFixed
  by_cases hl : p.getLast? = some d
  · exact absurd (List.mem_of_getLast? hl) h
  · simp [hl]

theorem trimOld_terminated (d : UInt8) (p : Bytes) : trimOld d (p ++ [d]) = p := by
  unfold trimOld; simp

/-- `hlast` asks of the last piece of THIS input only, so that `trimOld` qualifies on delimiter-terminated input. -/
theorem published_records (trim : UInt8 → Bytes → Bytes) (d : UInt8) (hterm : ∀ p, trim d (p ++ [d]) = p)
    (input : Bytes) (hlast : ∀ p, (splitOn d input).getLast? = some p → trim d p = p) :
    published trim d input = records d input := by
  unfold records
  induction input using lines_induction d with
  | last s h =>
    rw [splitOn_last d s h] at hlast ⊢
    rw [published_last trim d s h, keep, hlast s rfl]
    cases s <;> rfl
  | line hd rest h ih =>
    rw [splitOn_getLast_line d hd rest h] at hlast
    rw [published_line trim d hd rest h, keep, hterm, ih hlast, splitOn_line d hd rest h]
    cases hd <;> rfl

theorem published_fixed (d : UInt8) (input : Bytes) : published trimFixed d input = records d input :=
  published_records trimFixed d (trimFixed_terminated d) input fun p hp =>
    trimFixed_unterminated d p (splitOn_no_delim d input p (List.mem_of_getLast? hp))

theorem splitOn_last_of_terminated (d : UInt8) (input : Bytes) (h : input = [] ∨ input.getLast? = some d) :
    (splitOn d input).getLast? = some [] := by
  rcases h with rfl | h
  · rfl
  · obtain ⟨s, rfl⟩ := List.getLast?_eq_some_iff.mp h
    rw [splitOn_snoc_delim, List.getLast?_append, List.getLast?_singleton]
    rfl

theorem received_append (i : Nat) (a b : List (Nat × Bytes)) : received i (a ++ b) = received i a ++ received i b := by
  simp [received, List.filterMap_append]

theorem received_map (i : Nat) (r : Bytes) (l : List Nat) (hnd : l.Nodup) :
    received i (l.map (fun k => (k, r))) = if i ∈ l then [r] else [] := by
  induction l with
  | nil => rfl
  | cons a as ih =>
    obtain ⟨ha, hnd'⟩ := List.nodup_cons.mp hnd
    have hrec := ih hnd'
    simp only [received, List.map_cons, List.filterMap_cons] at hrec ⊢
    by_cases e : a = i
    · subst e; simp [hrec, ha]
    · have : i ≠ a := fun h => e h.symm
      simp [hrec, e, this]

theorem received_deliver (n i : Nat) (hi : i < n) (recs : List Bytes) : received i (deliver n recs) = recs := by
  induction recs with
  | nil => rfl
  | cons r rs ih =>
    unfold deliver at ih ⊢
    rw [List.flatMap_cons, received_append, ih, received_map i r _ List.nodup_range, if_pos (List.mem_range.mpr hi)]
    rfl

end Nsq.Proofs.Split
