/-
E2 / C13 — the ATOMIC channel invariant `InvA` lifted to the nsqd level: every channel of
every topic of every daemon state reachable by atomic API-level operations satisfies `InvA`, hence the client-counter
theorems `C13.client_counters`, `nonneg` hold for it (`Props.C13Nsqd`) — not only for a standalone channel.
-/
import Nsq.Proofs.ChanNsqd
import Nsq.Proofs.ChanInvA
namespace Nsq.Proofs.ChanNsqdA
open Nsq.Model.Chan Nsq.Model.ChanNsqd Nsq.Proofs.Chan Nsq.Proofs.ChanNsqd

def AInvL (conf : Conf) (l : List Topic) : Prop := ∀ t ∈ l, ∀ nc ∈ t.chans, InvA conf nc.ch

theorem ainvL_updT {conf : Conf} {l : List Topic} (h : AInvL conf l) (t : Nat) (f : Topic → Topic)
    (hf : ∀ y ∈ l, ∀ nc' ∈ (f y).chans, InvA conf nc'.ch) : AInvL conf (updT l t f) :=
  forall_updT (fun y hy _ => hf y hy) (fun y hy _ => h y hy)

/-- the nsqd-level ops whose channel-level step is atomic (everything but the FIN / pump micro-steps) -/
def chanAtomic : Nsq.Model.ChanNsqd.Op → Bool
  | .finChan .. => false
  | .finClient .. => false
  | .guard .. => false
  | .deliverArmed .. => false
  | _ => true

theorem fanOne_ainv (nconf : NConf) (hconf : 0 ≤ nconf.chan.maxRdy) (pump : List Nat) (m : TMsg) (kept : Bool)
    (pris : List (Nat × Int)) {nc : NChan} (h : InvA nconf.chan nc.ch) : InvA nconf.chan (fanOne nconf pump m kept pris nc).ch := by
  rcases fanOne_eq nconf pump m kept pris nc with ⟨_, he⟩ | ⟨_, cop, hc, he⟩ <;> rw [he]
  · exact h
  · rcases hc with rfl | ⟨pri, rfl⟩ <;> exact step_invA _ hconf h _ rfl

/-- `c0`: the configuration, which no change touches -/
theorem prim_ainv {p : Perm} (hat : p.micro = false) {c0 : NConf} (hconf : 0 ≤ c0.chan.maxRdy)
    {k : Stage} {s s' : State} (h : AInvL c0.chan s.topics ∧ s.conf = c0) (hp : Prim p s k s') :
    AInvL c0.chan s'.topics ∧ s'.conf = c0 := by
  obtain ⟨h, hc⟩ := h
  refine ⟨?_, (prim_conf hp).trans hc⟩
  have same : ∀ (t : Nat) (f : Topic → Topic), (∀ y, (f y).chans = y.chans) → AInvL c0.chan (updT s.topics t f) :=
    fun t f hf => ainvL_updT h t f (fun y hy nc' hnc' => h y hy nc' (hf y ▸ hnc'))
  have appended : ∀ {y : Topic} {nc' : NChan} {c n : Nat} {eph : Bool}, y ∈ s.topics →
      nc' ∈ y.chans ++ [({ cid := c, born := n, ch := newChan s.conf eph } : NChan)] → InvA c0.chan nc'.ch := by
    intro y nc' c n eph hy hnc'
    rcases List.mem_append.1 hnc' with hm | hm
    · exact h y hy nc' hm
    · rw [List.mem_singleton.1 hm]; exact invA_init _ _ _
  cases hp with
  | ensure t =>
    intro x hx nc hnc
    rcases mem_ensureTopic hx with hx | rfl
    · exact h x hx nc hnc
    · cases hnc
  | addChan t c eph tp hft hfn _ => exact ainvL_updT h t _ (fun y hy nc' hnc' => appended hy hnc')
  | addChanRaw t c eph tp hft hfn _ => exact ainvL_updT h t _ (fun y hy nc' hnc' => appended hy hnc')
  | refresh t _ => exact same t _ (fun _ => rfl)
  | chan t c cop tp nc hft hfn hput hatc =>
    refine ainvL_updT h t _ fun y hy => ?_
    dsimp only
    refine forall_updN (fun _ _ _ => ?_) (fun nc0 hnc0 _ => h y hy nc0 hnc0)
    rw [hc]
    exact step_invA _ hconf (h tp (findT_some hft).1 nc (findN_some hfn).1) cop (hatc hat)
  | reap t c k => exact ainvL_updT h t _ (fun y hy nc' hnc' => h y hy nc' ((reap_keeps y c).2.2.2 nc' hnc'))
  | subscribe k t c => exact h
  | publish t n ids f hf _ => exact same t f (fun y => (hf.tid y).2)
  | pump t tp m kept pris hft hen hm hk _ =>
    refine ainvL_updT h t _ (fun y hy nc' hnc' => ?_)
    simp only at hnc'
    obtain ⟨nc, hnc, rfl⟩ := List.mem_map.1 hnc'
    rw [hc]
    exact fanOne_ainv c0 hconf _ _ _ _ (h y hy nc hnc)
  | pauseTopic t b => exact same t _ (fun _ => rfl)

theorem perm_micro {op : Nsq.Model.ChanNsqd.Op} (hat : chanAtomic op = true) : (perm op).micro = false := by
  cases op <;> first | rfl | cases hat

theorem nstep_ainv {s : State} (hconf : 0 ≤ s.conf.chan.maxRdy) (h : AInvL s.conf.chan s.topics)
    (op : Nsq.Model.ChanNsqd.Op) (hat : chanAtomic op = true) :
    AInvL s.conf.chan (Nsq.Model.ChanNsqd.step s op).1.topics ∧ (Nsq.Model.ChanNsqd.step s op).1.conf = s.conf :=
  nstep_keeps (J := fun x => AInvL s.conf.chan x.topics ∧ x.conf = s.conf) op ⟨h, rfl⟩
    (prim_ainv (perm_micro hat) hconf)

theorem nrun_ainv {s : State} (hconf : 0 ≤ s.conf.chan.maxRdy) (h : AInvL s.conf.chan s.topics)
    (ops : List Nsq.Model.ChanNsqd.Op) (hat : ∀ op ∈ ops, chanAtomic op = true) :
    AInvL s.conf.chan (Nsq.Model.ChanNsqd.run s ops).topics ∧ (Nsq.Model.ChanNsqd.run s ops).conf = s.conf :=
  nrun_keeps (J := fun x => AInvL s.conf.chan x.topics ∧ x.conf = s.conf) ops
    (fun _ op ho hx => nstep_keeps op hx (prim_ainv (perm_micro (hat _ ho)) hconf)) ⟨h, rfl⟩

end Nsq.Proofs.ChanNsqdA
