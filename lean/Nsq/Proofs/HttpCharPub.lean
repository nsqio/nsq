import Nsq.Proofs.HttpChar
namespace Nsq.Proofs.HttpChar
open Nsq.Model.HttpApi Nsq.Model.ProtoV2 Nsq.Model.Names Nsq.Model.Base10 Nsq.Model
open Nsq.Proofs.HttpApi

/-- 413 of `/pub`: the declared length exceeds max-msg-size, or the limited read
(`io.LimitReader(req.Body, max-msg-size+1)`) was filled. -/
def PubTooBig (hc : HConf) (rq : Request) : Prop :=
  rq.contentLength > hc.maxMsgSize ∨ ((pubData hc rq).length : Int) = hc.maxMsgSize + 1

def PubBodyOk (hc : HConf) (rq : Request) : Prop := ¬ PubTooBig hc rq ∧ pubData hc rq ≠ []

/-- There is a `defer` argument and it is not an integer of 0 … max-req-timeout ms: under a query that parses, `deferNs`
(the delay in ns, 0 without the argument) is `none` exactly then (`deferArg_none_iff`). -/
def DeferBad (hc : HConf) (rq : Request) : Prop :=
  ∃ d, arg rq kDefer = some d ∧ ∀ di, parseInt64 d = some di → di < 0 ∨ di > hc.maxReqTimeoutMs

def deferNs (hc : HConf) (rq : Request) : Option Int :=
  match parseQuery rq.rawQuery with
  | none => none
  | some kv => deferArg hc kv

theorem deferArg_none_iff (hc : HConf) (kv : List (Bytes × Bytes)) :
    deferArg hc kv = none ↔
      ∃ d, qget kv kDefer = some d ∧ ∀ di, parseInt64 d = some di → di < 0 ∨ di > hc.maxReqTimeoutMs := by
  unfold deferArg
  cases hd : qget kv kDefer with
  | none => simp
  | some d =>
    cases hp : parseInt64 d with
    | none => simp [hp]
    | some di =>
      simp [hp]
      omega

structure PubEndpoint (hc : HConf) (b : Broker) (rq : Request) (r : Out) : Prop where
  tooBig : r.1 = ⟨.s413, "MSG_TOO_BIG"⟩ ↔ PubTooBig hc rq
  empty : r.1 = ⟨.s400, "MSG_EMPTY"⟩ ↔ ¬ PubTooBig hc rq ∧ pubData hc rq = []
  invalidRequest : r.1 = ⟨.s400, "INVALID_REQUEST"⟩ ↔ PubBodyOk hc rq ∧ QueryBad rq
  missingTopic : r.1 = ⟨.s400, "MISSING_ARG_TOPIC"⟩ ↔ PubBodyOk hc rq ∧ ¬ QueryBad rq ∧ arg rq kTopic = none
  invalidTopic : r.1 = ⟨.s400, "INVALID_TOPIC"⟩ ↔
    PubBodyOk hc rq ∧ ∃ t, arg rq kTopic = some t ∧ isValidName t = false
  invalidDefer : r.1 = ⟨.s400, "INVALID_DEFER"⟩ ↔
    PubBodyOk hc rq ∧ (∃ t, arg rq kTopic = some t ∧ isValidName t = true) ∧ DeferBad hc rq
  ok : r.1 = ⟨.s200, "OK"⟩ ↔
    PubBodyOk hc rq ∧ (∃ t, arg rq kTopic = some t ∧ isValidName t = true) ∧ ¬ DeferBad hc rq
  status413 : r.1.status = .s413 ↔ PubTooBig hc rq
  status200 : r.1.status = .s200 ↔
    PubBodyOk hc rq ∧ (∃ t, arg rq kTopic = some t ∧ isValidName t = true) ∧ ¬ DeferBad hc rq
  status400 : r.1.status = .s400 ↔ ¬ PubTooBig hc rq ∧
    (pubData hc rq = [] ∨ QueryBad rq ∨ arg rq kTopic = none ∨
     (∃ t, arg rq kTopic = some t ∧ isValidName t = false) ∨ DeferBad hc rq)
  effect : ∀ t ns, PubBodyOk hc rq → arg rq kTopic = some t → isValidName t = true → deferNs hc rq = some ns →
    r = (⟨.s200, "OK"⟩, publish b t [⟨pubData hc rq, ns⟩])
  deferCreates : ∀ t, r.1 = ⟨.s400, "INVALID_DEFER"⟩ → arg rq kTopic = some t → r.2 = getTopic b t
  unchanged : r.1.status ≠ .s200 → r.1.msg ≠ "INVALID_DEFER" → r.2 = b
  exhaustive : r.1 ∈ [⟨.s413, "MSG_TOO_BIG"⟩, ⟨.s400, "MSG_EMPTY"⟩, ⟨.s400, "INVALID_REQUEST"⟩,
    ⟨.s400, "MISSING_ARG_TOPIC"⟩, ⟨.s400, "INVALID_TOPIC"⟩, ⟨.s400, "INVALID_DEFER"⟩, ⟨.s200, "OK"⟩]

theorem doPUB_char (hc : HConf) (b : Broker) (rq : Request) : PubEndpoint hc b rq (doPUB hc b rq) := by
  unfold doPUB topicFromQuery
  have hpd : pubData hc rq = rq.body.take (hc.maxMsgSize + 1).toNat := rfl
  generalize rq.body.take (hc.maxMsgSize + 1).toNat = data at hpd ⊢
  by_cases h1 : rq.contentLength > hc.maxMsgSize
  · constructor <;> simp [PubTooBig, PubBodyOk, h1, resp]
  by_cases h2 : (data.length : Int) = hc.maxMsgSize + 1
  · constructor <;> simp [PubTooBig, PubBodyOk, hpd, h1, h2, resp]
  have hbig : ¬ PubTooBig hc rq := by simp [PubTooBig, hpd, h1, h2]
  rw [if_neg h1, if_neg h2]
  by_cases h3 : data = []
  · have hne : ¬ PubBodyOk hc rq := fun h => h.2 (hpd.trans h3)
    constructor <;> simp [hbig, hne, hpd, h3, resp]
  have hok : PubBodyOk hc rq := ⟨hbig, by rwa [hpd]⟩
  have h3' : data.isEmpty = false := by simpa using h3
  rw [h3', if_neg Bool.false_ne_true]
  rcases query_cases rq with ⟨hq', hq, ha⟩ | ⟨kv, hkv, hq, ha⟩
  · simp only [hq']
    constructor <;> simp [hbig, hok, hq, ha, hpd, h3, DeferBad, deferNs, hq', resp]
  · simp only [hkv, ha, Option.getD_some]
    have hdn : deferNs hc rq = deferArg hc kv := by simp [deferNs, hkv]
    have hdb : DeferBad hc rq ↔ deferArg hc kv = none := by
      rw [deferArg_none_iff]; simp [DeferBad, ha]
    cases ht : arg rq kTopic with
    | none => constructor <;> simp [hbig, hok, hq, ht, hpd, h3, resp]
    | some t =>
      cases hv : isValidName t with
      | false =>
        constructor <;> simp [hbig, hok, hq, ht, hv, hpd, h3, resp]
        case effect => rintro _ _ rfl h; rw [hv] at h; cases h
      | true =>
        cases hd : deferArg hc kv with
        | none => constructor <;> simp [hbig, hok, hq, ht, hv, hdn, hdb, hd, hpd, h3, resp]
        | some ns => constructor <;> simp [hbig, hok, hq, ht, hv, hdn, hdb, hd, hpd, h3, resp]

end Nsq.Proofs.HttpChar
