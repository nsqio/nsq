/-
E2 / C01 — fan-out completeness over runs of `Nsq.Model.ChanNsqd` that INCLUDE the raw halves of channel creation
`createChanRaw | refreshPump`.

`NInv`/`TInv` (Proofs/ChanNsqd) contain `pfresh : pump = chans.map cid` and `fan` keyed on the field `born` (assigned at
the map insert): both are false between the halves. Here a ghost `E tid cid : Option Nat` = value of the id counter when
channel `cid` of topic `tid` ENTERED the pump's snapshot (`refreshPump`, or the atomic `createChan` / `sub`; reset to `none`
by `createChanRaw` of a new channel) accompanies the unchanged `step`, and the weaker invariant `FI` is preserved by
EVERY op (`gstep_fi`), raw halves included.
-/
import Nsq.Proofs.ChanNsqd
namespace Nsq.Proofs.ChanNsqdRaw
open Nsq.Model.Chan Nsq.Model.ChanNsqd Nsq.Proofs.Chan Nsq.Proofs.ChanNsqd

abbrev Gh := Nat → Nat → Option Nat

def setE (E : Gh) (t c : Nat) (v : Option Nat) : Gh := fun t' c' => if t' = t ∧ c' = c then v else E t' c'

/-- does `GetChannel t c` create the channel? (the test `step` itself makes, after `ensureTopic`) -/
def isNew (s : State) (t c : Nat) : Bool :=
  match findT (ensureTopic s t).topics t with
  | some tp => (findN tp.chans c).isNone
  | none => false

def gnext (s : State) (E : Gh) : Nsq.Model.ChanNsqd.Op → Gh
  | .createChanRaw t c _ => if isNew s t c then setE E t c none else E
  | .createChan t c _ => if isNew s t c then setE E t c (some s.nextId) else E
  | .sub k t c _ _ _ => if s.everSub.contains k then E else if isNew s t c then setE E t c (some s.nextId) else E
  | .refreshPump t => fun t' c' => if t' = t then (match E t' c' with | none => some s.nextId | some b => some b) else E t' c'
  | _ => E

def gstep (x : State × Gh) (op : Nsq.Model.ChanNsqd.Op) : State × Gh :=
  ((Nsq.Model.ChanNsqd.step x.1 op).1, gnext x.1 x.2 op)

def grun (x : State × Gh) : List Nsq.Model.ChanNsqd.Op → State × Gh
  | [] => x
  | op :: ops => grun (gstep x op) ops

theorem grun_fst (x : State × Gh) (ops : List Nsq.Model.ChanNsqd.Op) : (grun x ops).1 = Nsq.Model.ChanNsqd.run x.1 ops := by
  induction ops generalizing x with
  | nil => rfl
  | cons op ops ih => simp only [grun, Nsq.Model.ChanNsqd.run]; rw [ih]; rfl

structure FT (n : Nat) (e : Nat → Option Nat) (t : Topic) : Prop where
  chans  : ∀ nc ∈ t.chans, Inv 0 nc.ch
  cnodup : (t.chans.map (·.cid)).Nodup
  vis    : ∀ nc ∈ t.chans, (e nc.cid).isSome = true → t.pump.contains nc.cid = true
  fan    : ∀ nc ∈ t.chans, ∀ b, e nc.cid = some b → ∀ i ∈ t.pumped, b ≤ i → nFanout nc.ch.hist i ≠ 0
  ackq   : ∀ i ∈ t.acked, i ∈ t.queue.map (·.id) ∨ i ∈ t.pumped
  lt     : ∀ i, (i ∈ t.queue.map (·.id) ∨ i ∈ t.pumped) → i < n

structure FI (x : State × Gh) : Prop where
  topics : ∀ t ∈ x.1.topics, FT x.1.nextId (x.2 t.tid) t
  tnodup : (x.1.topics.map (·.tid)).Nodup

theorem FT.mono {n m : Nat} {e : Nat → Option Nat} {t : Topic} (h : FT n e t) (hnm : n ≤ m) : FT m e t :=
  { h with lt := fun i hi => Nat.lt_of_lt_of_le (h.lt i hi) hnm }

theorem fi_init (conf : NConf) (E : Gh) : FI ({ conf := conf }, E) := ⟨by simp, by simp⟩

/-- `subs`, `ever`: `FI` reads neither field, so the conclusion holds with any -/
theorem fi_updT {s : State} {E : Gh} (hi : FI (s, E)) (t : Nat) (f : Topic → Topic) (n : Nat) (E' : Gh)
    (hn : s.nextId ≤ n) (hE : ∀ t', t' ≠ t → E' t' = E t') (htid : ∀ y, (f y).tid = y.tid)
    (hf : ∀ y ∈ s.topics, y.tid = t → FT n (E' y.tid) (f y)) (subs : List Sub) (ever : List Nat) :
    FI ({ s with topics := updT s.topics t f, nextId := n, subs := subs, everSub := ever }, E') :=
  ⟨forall_updT (Q := fun x => FT n (E' x.tid) x) (fun y hy hk => htid y ▸ hf y hy hk)
      (fun y hy hk => hE _ hk ▸ (hi.topics y hy).mono hn),
    (map_tid_updT _ t f htid).symm ▸ hi.tnodup⟩

theorem ft_chan {n : Nat} {e : Nat → Option Nat} {t : Topic} (hi : FT n e t) (conf : Conf) {c : Nat} {nc : NChan}
    (hfn : findN t.chans c = some nc) (cop : Nsq.Model.Chan.Op) (hput : isPut cop = false) :
    FT n e { t with chans := updN t.chans c (fun _ => (Nsq.Model.Chan.step conf nc.ch cop).1) } := by
  have h := forall_updN_found hi.cnodup hfn (Nsq.Model.Chan.step conf nc.ch cop).1
    (Q := fun x => Inv 0 x.ch ∧ ∀ b, e x.cid = some b → ∀ i ∈ t.pumped, b ≤ i → nFanout x.ch.hist i ≠ 0)
    (fun y hy => ⟨hi.chans y hy, hi.fan y hy⟩)
    (fun ⟨h1, h2⟩ => ⟨step_inv conf h1 cop, fun b hb i hip hbi => by rw [nonput_nFanout conf nc.ch cop i hput]; exact h2 b hb i hip hbi⟩)
  exact { hi with
    chans := fun x hx => (h x hx).1
    cnodup := by simp only [map_cid_updN]; exact hi.cnodup
    vis := forall_updN_found hi.cnodup hfn _ hi.vis id
    fan := fun x hx => (h x hx).2 }

theorem ft_reap {n : Nat} {e : Nat → Option Nat} {t : Topic} (hi : FT n e t) (c : Nat) : FT n e (reapEphemeral t c) := by
  unfold reapEphemeral
  split
  · split
    · rename_i nc0 hfn _
      have hc0 := (findN_some hfn).2
      exact {
        chans := fun nc hnc => hi.chans nc (List.mem_filter.1 hnc).1
        cnodup := hi.cnodup.sublist (List.filter_sublist.map _)
        vis := by
          intro nc hnc hs
          have hm := List.mem_filter.1 hnc
          have := hi.vis nc hm.1 hs
          simp only [List.contains_eq_mem, List.mem_filter, decide_eq_true_eq] at this ⊢
          exact ⟨this, by simpa using hm.2⟩
        fan := fun nc hnc => hi.fan nc (List.mem_filter.1 hnc).1
        ackq := hi.ackq, lt := hi.lt }
    · exact hi
  · exact hi

theorem ft_empty (n t memq : Nat) (e : Nat → Option Nat) : FT n e { tid := t, memCap := memq } :=
  { chans := by simp, cnodup := by simp, vis := by simp, fan := by simp, ackq := by simp, lt := by simp }

theorem setE_other (E : Gh) (t c : Nat) (v : Option Nat) : ∀ t', t' ≠ t → setE E t c v t' = E t' := by
  intro t' h; funext c'; simp [setE, h]

theorem setE_same_ne (E : Gh) (t c : Nat) (v : Option Nat) {c' : Nat} (h : c' ≠ c) : setE E t c v t c' = E t c' := by
  simp [setE, h]

theorem setE_same (E : Gh) (t c : Nat) (v : Option Nat) : setE E t c v t c = v := by simp [setE]

/-- `inSnap`: whether the pump's snapshot is refreshed in the same step -/
theorem ft_addChan {n : Nat} {E : Gh} {y : Topic} (hy' : FT n (E y.tid) y) (c : Nat) (ch0 : Chan) (born : Nat)
    (hch : Inv 0 ch0) (hfresh : ∀ z ∈ y.chans, z.cid ≠ c) (inSnap : Bool) :
    FT n (setE E y.tid c (if inSnap then some n else none) y.tid)
      { y with chans := y.chans ++ [(⟨c, born, ch0⟩ : NChan)],
               pump := if inSnap then (y.chans ++ [(⟨c, born, ch0⟩ : NChan)]).map (·.cid) else y.pump } := by
  exact {
    chans := by
      intro nc hnc
      simp only [List.mem_append, List.mem_singleton] at hnc
      rcases hnc with hnc | rfl
      · exact hy'.chans nc hnc
      · exact hch
    cnodup := Keyed.nodup_append_fresh hy'.cnodup hfresh
    vis := by
      intro nc hnc hs
      cases inSnap with
      | true =>
        simp only [if_true, List.contains_eq_mem, decide_eq_true_eq, List.mem_map]
        exact ⟨nc, hnc, rfl⟩
      | false =>
        simp only [Bool.false_eq_true, if_false] at hs ⊢
        simp only [List.mem_append, List.mem_singleton] at hnc
        rcases hnc with hnc | rfl
        · rw [setE_same_ne _ _ _ _ (hfresh nc hnc)] at hs
          exact hy'.vis nc hnc hs
        · rw [setE_same] at hs; cases hs
    fan := by
      intro nc hnc b hb i hip hbi
      simp only [List.mem_append, List.mem_singleton] at hnc
      rcases hnc with hnc | rfl
      · rw [setE_same_ne _ _ _ _ (hfresh nc hnc)] at hb
        exact hy'.fan nc hnc b hb i hip hbi
      · rw [setE_same] at hb
        have := hy'.lt i (Or.inr hip)
        cases inSnap with
        | true => simp only [if_true, Option.some.injEq] at hb; omega
        | false => simp at hb
    ackq := hy'.ackq, lt := hy'.lt }

theorem ft_publish {n m : Nat} {e : Nat → Option Nat} {t : Topic} (hi : FT n e t) {ids : List Nat}
    {f : Topic → Topic} (hf : Publishes n m ids f) : FT m e (f t) := by
  obtain ⟨q, el, ak, un, nb, hft, hq, _, _, hak, _⟩ := hf.spec t
  rw [hft]
  exact { hi with
    ackq := by
      intro i hia
      simp only [hq, List.mem_append, or_assoc]
      exact (hak i hia).imp_right (hi.ackq i)
    lt := by
      intro i hiq
      simp only [hq, List.mem_append, or_assoc] at hiq
      exact hiq.elim (fun h => (hf.range i h).2) fun h => Nat.lt_of_lt_of_le (hi.lt i h) hf.le }

theorem isPutOf_fan (conf : Conf) {c : Chan} (hi : Inv 0 c) {m : TMsg} {cop : Nsq.Model.Chan.Op} (h : IsPut m.id m.env cop) :
    (∀ j, nFanout c.hist j ≠ 0 → nFanout (Nsq.Model.Chan.step conf c cop).1.hist j ≠ 0) ∧
    nFanout (Nsq.Model.Chan.step conf c cop).1.hist m.id ≠ 0 := by
  by_cases hnew : nFanout c.hist m.id = 0
  · have hf := put_nFanout conf hi h hnew
    exact ⟨fun j hj => by rw [hf j]; omega, by rw [hf m.id]; simp⟩
  · have : (Nsq.Model.Chan.step conf c cop).1 = c := by
      rcases h with rfl | ⟨pri, rfl⟩ <;> simp [Nsq.Model.Chan.step, hnew]
    rw [this]; exact ⟨fun _ h => h, hnew⟩

theorem fanOne_fan (conf : NConf) (pump : List Nat) (m : TMsg) (kept : Bool) (pris : List (Nat × Int)) {nc : NChan}
    (hi : Inv 0 nc.ch) :
    Inv 0 (fanOne conf pump m kept pris nc).ch ∧
    (∀ j, nFanout nc.ch.hist j ≠ 0 → nFanout (fanOne conf pump m kept pris nc).ch.hist j ≠ 0) ∧
    (pump.contains nc.cid = true → nFanout (fanOne conf pump m kept pris nc).ch.hist m.id ≠ 0) := by
  rcases fanOne_eq conf pump m kept pris nc with ⟨hp, h⟩ | ⟨hp, cop, hc, h⟩ <;> rw [h]
  · exact ⟨hi, fun _ h => h, fun h => by rw [hp] at h; cases h⟩
  · exact ⟨step_inv _ hi _, (isPutOf_fan _ hi hc).1, fun _ => (isPutOf_fan _ hi hc).2⟩

theorem ft_pump {n : Nat} {e : Nat → Option Nat} {t : Topic} (hi : FT n e t) (conf : NConf) {m : TMsg} (hm : m ∈ t.queue)
    (kept : Bool) (pris : List (Nat × Int)) :
    FT n e { t with queue := t.queue.filter (fun x => x.id != m.id),
                    chans := t.chans.map (fanOne conf t.pump m kept pris),
                    pumped := m.id :: t.pumped } := by
  have hspec := fun nc (hnc : nc ∈ t.chans) => fanOne_fan conf t.pump m kept pris (hi.chans nc hnc)
  exact {
    chans := by
      intro x hx
      obtain ⟨nc, hnc, rfl⟩ := List.mem_map.1 hx
      exact (hspec nc hnc).1
    cnodup := by
      show ((t.chans.map (fanOne conf t.pump m kept pris)).map (·.cid)).Nodup
      rw [map_cid_fanOne]; exact hi.cnodup
    vis := by
      intro x hx hs
      obtain ⟨nc, hnc, rfl⟩ := List.mem_map.1 hx
      rw [fanOne_cid] at hs ⊢
      exact hi.vis nc hnc hs
    fan := by
      intro x hx b hb i hip hbi
      obtain ⟨nc, hnc, rfl⟩ := List.mem_map.1 hx
      rw [fanOne_cid] at hb
      rcases List.mem_cons.1 hip with rfl | hip
      · exact (hspec nc hnc).2.2 (hi.vis nc hnc (by rw [hb]; rfl))
      · exact (hspec nc hnc).2.1 i (hi.fan nc hnc b hb i hip hbi)
    ackq := fun i hia => (mem_pumped hm t.pumped i).2 (hi.ackq i hia)
    lt := fun i hiq => hi.lt i ((mem_pumped hm t.pumped i).1 hiq) }

theorem prim_fi {p : Perm} (hraw : p.raw = false) (hcr : p.create = false) {k : Stage} {s s' : State} {E : Gh}
    (hi : FI (s, E)) (hp : Prim p s k s') : FI (s', E) := by
  have upd : ∀ (t : Nat) (f : Topic → Topic) (n : Nat) (subs : List Sub), s.nextId ≤ n → (∀ y, (f y).tid = y.tid) →
      (∀ y ∈ s.topics, y.tid = t → FT n (E y.tid) (f y)) →
      FI ({ s with topics := updT s.topics t f, nextId := n, subs := subs }, E) :=
    fun t f n subs hn htid hf => fi_updT hi t f n E hn (fun _ _ => rfl) htid hf subs s.everSub
  have found : ∀ {t : Nat} {tp : Topic} {f : Topic → Topic}, findT s.topics t = some tp → (∀ y, (f y).tid = y.tid) →
      (FT s.nextId (E tp.tid) tp → FT s.nextId (E tp.tid) (f tp)) → FI ({ s with topics := updT s.topics t f }, E) :=
    fun hft htid h => upd _ _ _ _ (Nat.le_refl _) htid fun y hy hyt =>
      eq_of_findT hi.tnodup hft hy hyt ▸ h (hi.topics _ (findT_some hft).1)
  cases hp with
  | ensure t =>
    refine ⟨fun x hx => ?_, ensureTopic_nodup hi.tnodup t⟩
    show FT (ensureTopic s t).nextId (E x.tid) x
    rw [(ensureTopic_nextId s t).1]
    rcases mem_ensureTopic hx with h | rfl
    · exact hi.topics x h
    · exact ft_empty _ _ _ _
  | addChan t c eph tp hft hfn hp => rw [hcr] at hp; cases hp
  | addChanRaw t c eph tp hft hfn hp => rw [hraw] at hp; cases hp
  | refresh t hp => rw [hraw] at hp; cases hp
  | chan t c cop tp nc hft hfn hput hat => exact found hft (fun _ => rfl) fun h => ft_chan h s.conf.chan hfn cop hput
  | reap t c k =>
    exact upd t _ _ _ (Nat.le_refl _) (fun y => (reap_keeps y c).1) fun y hy _ => ft_reap (hi.topics y hy) c
  | subscribe k t c => exact ⟨hi.topics, hi.tnodup⟩
  | publish t n ids f hf _ => exact upd t f n _ hf.le (fun y => (hf.tid y).1) fun y hy _ => ft_publish (hi.topics y hy) hf
  | pump t tp m kept pris hft hen hm hk _ => exact found hft (fun _ => rfl) fun h => ft_pump h s.conf hm kept pris
  | pauseTopic t b =>
    -- no field of `FT` reads `paused`
    exact upd t _ _ _ (Nat.le_refl _) (fun _ => rfl) fun y hy _ => { hi.topics y hy with }

theorem fi_ensureTopic {s : State} {E : Gh} (hi : FI (s, E)) (t : Nat) : FI (ensureTopic s t, E) :=
  prim_fi (p := {}) rfl rfl hi (.ensure t)

/-- a new channel `c` of topic `t`; `inSnap` as in `ft_addChan` -/
theorem fi_addChan {s : State} {E : Gh} (hi : FI (s, E)) {t c : Nat} {tp : Topic} (hft : findT s.topics t = some tp)
    (hfn : findN tp.chans c = none) (eph inSnap : Bool) :
    FI ({ s with topics := updT s.topics t (fun tp =>
          { tp with chans := tp.chans ++ [(⟨c, s.nextId, newChan s.conf eph⟩ : NChan)],
                    pump := if inSnap then (tp.chans ++ [(⟨c, s.nextId, newChan s.conf eph⟩ : NChan)]).map (·.cid) else tp.pump }) },
        setE E t c (if inSnap then some s.nextId else none)) := by
  refine fi_updT hi t _ _ _ (Nat.le_refl _) (setE_other E t c _) (by intro _; rfl) ?_ _ _
  intro y hy hyt
  obtain rfl := eq_of_findT hi.tnodup hft hy hyt
  subst hyt
  exact ft_addChan (hi.topics y hy) c _ _ (inv_init _ _) (findN_none hfn) inSnap

theorem fi_doCreateChan {s : State} {E : Gh} (hi : FI (s, E)) (t c : Nat) (eph : Bool) :
    FI ((doCreateChan s t c eph).1, if isNew s t c then setE E t c (some s.nextId) else E) := by
  have h1 := fi_ensureTopic hi t
  cases hft : findT (ensureTopic s t).topics t with
  | none => simp only [doCreateChan, isNew, hft]; simpa using h1
  | some tp =>
    cases hfn : findN tp.chans c with
    | some _ => simp only [doCreateChan, isNew, hft, hfn]; simpa using h1
    | none =>
      simp only [doCreateChan, isNew, hft, hfn, Option.isNone_none, if_true]
      simpa [(ensureTopic_nextId s t).1] using fi_addChan h1 hft hfn eph true

theorem fi_createChanRaw {s : State} {E : Gh} (hi : FI (s, E)) (t c : Nat) (eph : Bool) :
    FI ((Nsq.Model.ChanNsqd.step s (.createChanRaw t c eph)).1, if isNew s t c then setE E t c none else E) := by
  have h1 := fi_ensureTopic hi t
  cases hft : findT (ensureTopic s t).topics t with
  | none => simp only [Nsq.Model.ChanNsqd.step, isNew, hft]; simpa using h1
  | some tp =>
    cases hfn : findN tp.chans c with
    | some _ => simp only [Nsq.Model.ChanNsqd.step, isNew, hft, hfn]; simpa using h1
    | none =>
      simp only [Nsq.Model.ChanNsqd.step, isNew, hft, hfn, Option.isNone_none, if_true]
      simpa using fi_addChan h1 hft hfn eph false

theorem fi_refreshPump {s : State} {E : Gh} (hi : FI (s, E)) (t : Nat) :
    FI ((Nsq.Model.ChanNsqd.step s (.refreshPump t)).1, gnext s E (.refreshPump t)) := by
  simp only [Nsq.Model.ChanNsqd.step, gnext]
  refine fi_updT hi t _ _ _ (Nat.le_refl _) ?_ (by intro _; rfl) ?_ _ _
  · intro t' h; funext c'; simp [h]
  · intro y hy hyt
    have hy' : FT s.nextId (E y.tid) y := hi.topics y hy
    subst hyt
    exact {
      chans := hy'.chans, cnodup := hy'.cnodup
      vis := by
        intro nc hnc _
        simp only [List.contains_eq_mem, decide_eq_true_eq, List.mem_map]
        exact ⟨nc, hnc, rfl⟩
      fan := by
        intro nc hnc b hb i hip hbi
        simp only [if_true] at hb
        cases he : E y.tid nc.cid with
        | none =>
          simp only [he, Option.some.injEq] at hb
          have := hy'.lt i (Or.inr hip)
          omega
        | some b0 =>
          simp only [he, Option.some.injEq] at hb
          exact hy'.fan nc hnc b (by rw [he, hb]) i hip hbi
      ackq := hy'.ackq, lt := hy'.lt }

theorem gstep_fi {x : State × Gh} (hi : FI x) (op : Nsq.Model.ChanNsqd.Op) : FI (gstep x op) := by
  obtain ⟨s, E⟩ := x
  cases op with
  | createChanRaw t c e => exact fi_createChanRaw hi t c e
  | refreshPump t => exact fi_refreshPump hi t
  | createChan t c e => exact fi_doCreateChan hi t c e
  | sub k t c e mt sm =>
    simp only [gstep, gnext, Nsq.Model.ChanNsqd.step]
    by_cases hk : s.everSub.contains k = true
    · simp only [hk, if_true]; exact hi
    · simp only [hk, Bool.false_eq_true, if_false]
      have h1 := fi_doCreateChan hi t c e
      split
      · have h2 := (Chain.mid (opt_chanStep {} _ t c (.addClient k mt sm) rfl (fun _ => rfl))).keeps (prim_fi rfl rfl) h1
        -- the step also conses to `subs`, `everSub`, which `FI` does not read
        exact ⟨h2.topics, h2.tnodup⟩
      · exact h1
  | _ => exact nstep_keeps (J := fun x => FI (x, E)) _ hi (prim_fi rfl rfl)

theorem grun_fi {x : State × Gh} (hi : FI x) (ops : List Nsq.Model.ChanNsqd.Op) : FI (grun x ops) := by
  induction ops generalizing x with
  | nil => exact hi
  | cons op ops ih => exact ih (gstep_fi hi op)

end Nsq.Proofs.ChanNsqdRaw
