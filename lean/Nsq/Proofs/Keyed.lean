/-!
Lists addressed by a key field. The models keep their collections (entries by id, clients by connection, topics and
channels by name) as a `List α` and spell the operations out each time: look-up `l.find? (fun x => key x == k)`,
update `l.map (fun x => if key x == k then f x else x)`, removal `l.filter (fun x => key x != k)`, and distinct keys
`(l.map key).Nodup`. The laws are stated here on those spellings, so that a model's `findX`/`updX`/`removeX` is an
instance by unfolding.
-/
namespace Nsq.Proofs.Keyed

variable {α κ : Type} {key : α → κ} {l : List α} {a b : α}

theorem eq_of_key_eq (h : (l.map key).Nodup) (ha : a ∈ l) (hb : b ∈ l) (hk : key a = key b) : a = b :=
  have h := List.pairwise_map.1 h
  List.Pairwise.forall_of_forall_of_flip (R := fun a b => key a = key b → a = b) (fun _ _ _ => rfl)
    (h.imp fun hne e => absurd e hne) (h.imp fun hne e => absurd e.symm hne) ha hb hk

theorem nodup_map_of_inj_on (hn : l.Nodup) (hinj : ∀ a ∈ l, ∀ b ∈ l, key a = key b → a = b) : (l.map key).Nodup :=
  List.pairwise_map.mpr (hn.imp_of_mem fun ha hb hne e => hne (hinj _ ha _ hb e))

theorem nodup_filter (p : α → Bool) (h : (l.map key).Nodup) : ((l.filter p).map key).Nodup :=
  h.sublist (List.filter_sublist.map _)

theorem nodup_filterMap_key {α β γ : Type} (f : α → Option β) (k : α → γ) (k' : β → γ)
    (hk : ∀ a b, f a = some b → k' b = k a) (l : List α) (h : (l.map k).Nodup) : ((l.filterMap f).map k').Nodup := by
  induction l with
  | nil => simp
  | cons e l ih =>
    simp only [List.map_cons, List.nodup_cons] at h
    simp only [List.filterMap_cons]
    cases hg : f e with
    | none => exact ih h.2
    | some b =>
      simp only [List.map_cons, List.nodup_cons]
      refine ⟨fun hm => h.1 ?_, ih h.2⟩
      simp only [List.mem_map, List.mem_filterMap] at hm ⊢
      obtain ⟨x, ⟨y, hy, hx⟩, he⟩ := hm
      exact ⟨y, hy, by rw [← hk y x hx, he, hk e b hg]⟩

theorem nodup_append_fresh (h : (l.map key).Nodup) (hx : ∀ y ∈ l, key y ≠ key a) : ((l ++ [a]).map key).Nodup := by
  rw [List.map_append, List.nodup_append]
  refine ⟨h, by simp, fun k hk k' hk' => ?_⟩
  obtain ⟨y, hy, rfl⟩ := List.mem_map.1 hk
  obtain rfl : k' = key a := by simpa using hk'
  exact hx y hy

variable {f g : α → α}

theorem map_key_map (hg : ∀ x, key (g x) = key x) : (l.map g).map key = l.map key := by
  rw [List.map_map]; exact List.map_congr_left fun x _ => hg x

theorem nodup_map (hg : ∀ x, key (g x) = key x) (h : (l.map key).Nodup) : ((l.map g).map key).Nodup :=
  (map_key_map hg).symm ▸ h

variable [BEq κ] {k j : κ}

theorem find?_map (hg : ∀ x, key (g x) = key x) :
    (l.map g).find? (fun x => key x == k) = (l.find? (fun x => key x == k)).map g := by
  rw [List.find?_map]; congr 2; funext x; simp [hg]

theorem key_upd (hf : ∀ x, key (f x) = key x) (x : α) : key (if key x == k then f x else x) = key x := by
  split <;> simp [hf]

theorem map_key_upd (hf : ∀ x, key (f x) = key x) :
    (l.map (fun x => if key x == k then f x else x)).map key = l.map key :=
  map_key_map (key_upd hf)

variable [LawfulBEq κ]

theorem find?_some (h : l.find? (fun x => key x == k) = some a) : a ∈ l ∧ key a = k :=
  ⟨List.mem_of_find?_eq_some h, eq_of_beq (List.find?_some h :)⟩

theorem find?_none : l.find? (fun x => key x == k) = none ↔ ∀ a ∈ l, key a ≠ k := by simp

theorem find?_of_unique (ha : a ∈ l) (hu : ∀ b ∈ l, key b = key a → b = a) : l.find? (fun x => key x == key a) = some a := by
  cases hf : l.find? (fun x => key x == key a) with
  | none => exact absurd rfl (find?_none.1 hf a ha)
  | some b => obtain ⟨hb, hk⟩ := find?_some hf; rw [hu b hb hk]

theorem find?_of_mem (h : (l.map key).Nodup) (ha : a ∈ l) : l.find? (fun x => key x == key a) = some a :=
  find?_of_unique ha fun _ hb => eq_of_key_eq h hb ha

theorem filter_key_of_mem (h : (l.map key).Nodup) (ha : a ∈ l) : l.filter (fun x => key x == key a) = [a] := by
  induction l with
  | nil => cases ha
  | cons x rest ih =>
    rw [List.map_cons, List.nodup_cons] at h
    rcases List.mem_cons.1 ha with rfl | ha'
    · have : rest.filter (fun x => key x == key a) = [] :=
        List.filter_eq_nil_iff.2 fun y hy hyb => h.1 (eq_of_beq hyb ▸ List.mem_map.2 ⟨y, hy, rfl⟩)
      rw [List.filter_cons, if_pos (beq_self_eq_true _), this]
    · have hne : (key x == key a) = false :=
        Bool.eq_false_iff.2 fun hx => h.1 (eq_of_beq hx ▸ List.mem_map.2 ⟨a, ha', rfl⟩)
      rw [List.filter_cons, hne]
      exact ih h.2 ha'

theorem forall_upd {Q : α → Prop} (hk : ∀ x ∈ l, key x = k → Q (f x)) (hne : ∀ x ∈ l, key x ≠ k → Q x) :
    ∀ x ∈ l.map (fun x => if key x == k then f x else x), Q x := by
  intro x hx
  obtain ⟨y, hy, rfl⟩ := List.mem_map.1 hx
  split
  · exact hk y hy (eq_of_beq ‹_›)
  · exact hne y hy fun e => ‹¬_› (beq_iff_eq.2 e)

theorem upd_at {Q : α → Prop} (hk : ∀ x ∈ l, key x = k → Q (f x)) :
    ∀ x ∈ l.map (fun x => if key x == k then f x else x), key x = k → Q x :=
  forall_upd (fun x hx hc _ => hk x hx hc) (fun _ _ hne hc => absurd hc hne)

theorem find?_upd [DecidableEq κ] (hf : ∀ x, key (f x) = key x) :
    (l.map (fun x => if key x == k then f x else x)).find? (fun x => key x == j)
      = if j = k then (l.find? (fun x => key x == j)).map f else l.find? (fun x => key x == j) := by
  rw [find?_map (key_upd hf)]
  cases hx : l.find? (fun x => key x == j) with
  | none => simp
  | some x => obtain rfl := (find?_some hx).2; by_cases e : key x = k <;> simp [e]

theorem find?_del [DecidableEq κ] : (l.filter (fun x => key x != k)).find? (fun x => key x == j)
    = if j = k then none else l.find? (fun x => key x == j) := by
  rw [List.find?_filter]
  split
  · subst j; simp
  · next h => congr 1; funext x; by_cases hx : key x = j <;> simp [hx, h]

end Nsq.Proofs.Keyed
