import Nsq.Model.Aggregate
/-!
Lemmas about `uniq` (stringy.Uniq / stringy.Add) and `sortNames` (sort.Strings): the result is
strictly increasing, has exactly the members of the input, and depends only on the *set* of input
names — in particular not on the order in which upstream answers arrive.
-/
namespace Nsq.Proofs.AggregateNames
open Nsq.Model.Aggregate

theorem mem_uniq (l : List String) (x : String) : x ∈ uniq l ↔ x ∈ l := by
  induction l with
  | nil => simp [uniq]
  | cons a rest ih =>
    simp only [uniq, List.mem_cons, List.mem_filter, bne_iff_ne, ne_eq]
    constructor
    · rintro (h | ⟨h, _⟩)
      · exact Or.inl h
      · exact Or.inr (ih.1 h)
    · rintro (h | h)
      · exact Or.inl h
      · by_cases hx : x = a
        · exact Or.inl hx
        · exact Or.inr ⟨ih.2 h, hx⟩

theorem nodup_uniq (l : List String) : (uniq l).Nodup := by
  induction l with
  | nil => simp [uniq]
  | cons a rest ih =>
    rw [uniq, List.nodup_cons]
    refine ⟨?_, List.Pairwise.filter _ ih⟩
    intro hm
    have := (List.mem_filter.1 hm).2
    simp at this

theorem sortNames_perm (l : List String) : (sortNames l).Perm l := List.mergeSort_perm _ _

theorem mem_sortNames (l : List String) (x : String) : x ∈ sortNames l ↔ x ∈ l :=
  (sortNames_perm l).mem_iff

theorem sortNames_sorted (l : List String) : (sortNames l).Pairwise (· ≤ ·) := by
  have h := List.pairwise_mergeSort (le := fun a b : String => decide (a ≤ b))
    (fun a b c hab hbc => by
      simp only [decide_eq_true_eq] at *
      exact String.le_trans hab hbc)
    (fun a b => by
      simp only [Bool.or_eq_true, decide_eq_true_eq]
      exact String.le_total a b) l
  exact h.imp (fun hab => by simpa using hab)

theorem sortNames_strict (l : List String) (hnd : l.Nodup) : (sortNames l).Pairwise (· < ·) := by
  have hs := sortNames_sorted l
  have hn : (sortNames l).Nodup := (sortNames_perm l).nodup_iff.2 hnd
  exact (hs.and hn).imp (fun h => Std.lt_of_le_of_ne h.1 h.2)

theorem names_sorted (l : List String) : (sortNames (uniq l)).Pairwise (· < ·) :=
  sortNames_strict _ (nodup_uniq l)

theorem names_mem (l : List String) (x : String) : x ∈ sortNames (uniq l) ↔ x ∈ l := by
  rw [mem_sortNames, mem_uniq]

theorem names_ext (l₁ l₂ : List String) (h : ∀ x, x ∈ l₁ ↔ x ∈ l₂) :
    sortNames (uniq l₁) = sortNames (uniq l₂) := by
  have hp : (sortNames (uniq l₁)).Perm (sortNames (uniq l₂)) := by
    refine (List.perm_ext_iff_of_nodup ?_ ?_).2 ?_
    · exact (sortNames_perm _).nodup_iff.2 (nodup_uniq l₁)
    · exact (sortNames_perm _).nodup_iff.2 (nodup_uniq l₂)
    · intro x; rw [names_mem, names_mem]; exact h x
  refine List.Perm.eq_of_pairwise (le := (· < ·)) ?_ (names_sorted l₁) (names_sorted l₂) hp
  intro a b _ _ hab hba
  exact absurd (String.lt_trans hab hba) (String.lt_irrefl a)

theorem names_perm (l₁ l₂ : List String) (h : l₁.Perm l₂) :
    sortNames (uniq l₁) = sortNames (uniq l₂) :=
  names_ext l₁ l₂ (fun _ => h.mem_iff)

end Nsq.Proofs.AggregateNames
