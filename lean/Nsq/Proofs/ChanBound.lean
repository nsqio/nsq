/-
C03 — the in-flight BOUND at micro-step granularity.

Ghost instrumentation of `Nsq.Model.Chan.step` (the channel component of `grun` IS `run`: `grun_fst`):
* `gr k`   — `rdy` of connection `k` at its last SUCCESSFUL guard evaluation (`guard k` answered `ok`, or the guard
             inside an atomic `deliver k` that sent); 0 at SUB;
* `base k` — `inFlight` of `k` at its last `RDY` / `CLS` command answered `OK` (an `RDY` ignored after `CLS` included; 0 at SUB).
`BInv`: the bounds `Bd` on `inFlight` for every connected consumer.  Preserved by EVERY op (`gstep_binv`), atomic `deliver` included.
-/
import Nsq.Proofs.ChanStep
namespace Nsq.Proofs.ChanBound
open Nsq.Model.Chan Nsq.Proofs.Chan

def rdyOf (c : Chan) (k : Nat) : Int := match findC c.clients k with | some cl => cl.rdy | none => 0
def inFlightOf (c : Chan) (k : Nat) : Int := match findC c.clients k with | some cl => cl.inFlight | none => 0

structure Gh where
  gr   : Nat → Int := fun _ => 0
  base : Nat → Int := fun _ => 0

def upd (f : Nat → Int) (k : Nat) (v : Int) : Nat → Int := fun j => if j = k then v else f j

/-- the ghost update that accompanies one step (reads only the state before the step and the step's answer) -/
def gnext (conf : Conf) (c : Chan) (g : Gh) (op : Op) : Gh :=
  match op with
  | .guard k => if (step conf c op).2 = .ok then { g with gr := upd g.gr k (rdyOf c k) } else g
  | .deliver k _ _ =>
    match (step conf c op).2 with
    | .msg _ => { g with gr := upd g.gr k (rdyOf c k) }
    | _ => g
  | .rdy k _ => if (step conf c op).2 = .ok then { g with base := upd g.base k (inFlightOf c k) } else g
  | .cls k => if (step conf c op).2 = .ok then { g with base := upd g.base k (inFlightOf c k) } else g
  | .addClient k _ _ => if (step conf c op).2 = .ok then { gr := upd g.gr k 0, base := upd g.base k 0 } else g
  | _ => g

def gstep (conf : Conf) (s : Chan × Gh) (op : Op) : Chan × Gh := ((step conf s.1 op).1, gnext conf s.1 s.2 op)

def grun (conf : Conf) (s : Chan × Gh) : List Op → Chan × Gh
  | [] => s
  | op :: ops => grun conf (gstep conf s op) ops

theorem grun_fst (conf : Conf) (s : Chan × Gh) (ops : List Op) : (grun conf s ops).1 = run conf s.1 ops := by
  induction ops generalizing s with
  | nil => rfl
  | cons op ops ih => simp only [grun, run]; rw [ih]; rfl

def CMono (cs' cs : List Client) : Prop :=
  ∀ j cl', findC cs' j = some cl' →
    ∃ cl, findC cs j = some cl ∧ cl'.inFlight ≤ cl.inFlight ∧ cl'.rdy = cl.rdy ∧ (cl'.armed = true → cl.armed = true)

theorem cmono_refl (cs : List Client) : CMono cs cs := fun _ cl h => ⟨cl, h, Int.le_refl _, rfl, fun a => a⟩

theorem cmono_trans {a b c : List Client} (h1 : CMono a b) (h2 : CMono b c) : CMono a c := by
  intro j cl hf
  obtain ⟨c1, f1, l1, r1, a1⟩ := h1 j cl hf
  obtain ⟨c2, f2, l2, r2, a2⟩ := h2 j c1 f1
  exact ⟨c2, f2, Int.le_trans l1 l2, r1.trans r2, fun a => a2 (a1 a)⟩

theorem cmono_updC (cs : List Client) (k : Nat) (f : Client → Client)
    (hf : ∀ c, (f c).conn = c.conn ∧ (f c).inFlight ≤ c.inFlight ∧ (f c).rdy = c.rdy ∧ ((f c).armed = true → c.armed = true)) :
    CMono (updC cs k f) cs := by
  intro j cl' h
  obtain ⟨cl, hc, hh⟩ := findC_updC_some h (fun c => (hf c).1)
  refine ⟨cl, hc, ?_⟩
  rcases hh with ⟨_, rfl⟩ | ⟨_, rfl⟩
  · exact (hf cl).2
  · exact ⟨Int.le_refl _, rfl, fun a => a⟩

theorem cmono_map (cs : List Client) (f : Client → Client)
    (hf : ∀ c, (f c).conn = c.conn ∧ (f c).inFlight ≤ c.inFlight ∧ (f c).rdy = c.rdy ∧ ((f c).armed = true → c.armed = true)) :
    CMono (cs.map f) cs := by
  intro j cl' h
  rw [findC_map _ _ _ (fun c => (hf c).1)] at h
  cases hc : findC cs j with
  | none => simp [hc] at h
  | some cl =>
    simp only [hc, Option.map_some, Option.some.injEq] at h
    subst h
    exact ⟨cl, rfl, (hf cl).2⟩

theorem cmono_removeC (cs : List Client) (k : Nat) : CMono (removeC cs k) cs := by
  intro j cl' h
  rw [findC_removeC] at h
  by_cases hj : j = k
  · simp [hj] at h
  · simp only [hj, if_false] at h
    exact ⟨cl', h, Int.le_refl _, rfl, fun a => a⟩

theorem enqueue_clients (c : Chan) (id : Nat) : (enqueue c id).clients = c.clients := by
  rcases enqueue_cases c id with ⟨_, h⟩ | ⟨_, _, h⟩ | ⟨_, _, h⟩ <;> rw [h]

theorem cmono_dec (cs : List Client) (k : Nat) (f : Client → Client)
    (hf : ∀ c, (f c).conn = c.conn ∧ (f c).inFlight = c.inFlight - 1 ∧ (f c).rdy = c.rdy ∧ (f c).armed = c.armed) :
    CMono (updC cs k f) cs :=
  cmono_updC _ _ _ (fun c => ⟨(hf c).1, by rw [(hf c).2.1]; omega, (hf c).2.2.1, fun a => (hf c).2.2.2 ▸ a⟩)

/-- the ops that move a ghost or may raise `inFlight` / arm a connection -/
def special : Op → Bool
  | .guard _ => true
  | .deliver .. => true
  | .deliverArmed .. => true
  | .rdy .. => true
  | .cls _ => true
  | .addClient .. => true
  | _ => false

theorem eff_cmono {conf : Conf} {c c' : Chan} {op : Op} {o : Out} (he : Eff conf c op c' o) (hop : special op = false) :
    CMono c'.clients c.clients := by
  cases he with
  | guardOk | guardNo | deliver | deliverArmed | rdyIgnored | rdyFatal | rdy | clsFatal | cls | addClient => cases hop
  | put => rw [enqueue_clients]; exact cmono_refl _
  | removeClient => exact cmono_removeC _ _
  | fin | finClient => exact cmono_dec _ _ _ (fun _ => ⟨rfl, rfl, rfl, rfl⟩)
  | reqNow => rw [enqueue_clients]; exact cmono_dec _ _ _ (fun _ => ⟨rfl, rfl, rfl, rfl⟩)
  | reqLater => exact cmono_dec _ _ _ (fun _ => ⟨rfl, rfl, rfl, rfl⟩)
  | scanInFlight =>
    exact scanInFlight_rel (R := fun a b => CMono b.clients a.clients) (fun _ => cmono_refl _) (fun h1 h2 => cmono_trans h2 h1)
      (fun c x => by rw [enqueue_clients]; exact cmono_refl _) (fun _ _ _ => cmono_dec _ _ _ (fun _ => ⟨rfl, rfl, rfl, rfl⟩)) _ _
  | scanDeferred =>
    exact scanDeferred_rel (R := fun a b => CMono b.clients a.clients) (fun _ => cmono_refl _) (fun h1 h2 => cmono_trans h2 h1)
      (fun c x => by rw [enqueue_clients]; exact cmono_refl _) (fun _ _ => cmono_refl _) _ _
  -- `simp only []` reduces the projection of the record update, so that `omega` sees `cl.inFlight - …` (here and below)
  | empty => exact cmono_map _ _ (fun cl => ⟨rfl, by simp only []; omega, rfl, fun a => a⟩)
  | _ => exact cmono_refl _

/-- `inFlight` is at most `gr`, and below it while the pump is armed (a delivery is still licensed); it is at most `rdy`, or one more
than `base`, and an armed pump has either not used that one overshoot yet or is licensed by the current `rdy` -/
structure Bd (cl : Client) (gr base : Int) : Prop where
  le_gr    : cl.inFlight ≤ gr
  armed_lt : cl.armed = true → cl.inFlight < gr
  le_base  : cl.inFlight ≤ cl.rdy ∨ cl.inFlight ≤ base + 1
  armed_or : cl.armed = true → cl.inFlight ≤ base ∨ cl.inFlight < cl.rdy

def BInv (s : Chan × Gh) : Prop := ∀ j cl, findC s.1.clients j = some cl → Bd cl (s.2.gr j) (s.2.base j)

theorem bd_mono {cl cl' : Client} {g b : Int} (h : Bd cl g b) (hi : cl'.inFlight ≤ cl.inFlight) (hr : cl'.rdy = cl.rdy)
    (ha : cl'.armed = true → cl.armed = true) : Bd cl' g b := by
  refine ⟨Int.le_trans hi h.le_gr, fun a => ?_, ?_, fun a => ?_⟩
  · have := h.armed_lt (ha a); omega
  · rcases h.le_base with h1 | h1
    · left; omega
    · right; omega
  · rcases h.armed_or (ha a) with h1 | h1
    · left; omega
    · right; omega

theorem binv_init (eph : Bool) (cap : Nat) : BInv ({ ephemeral := eph, memCap := cap }, {}) := by
  intro j cl h; simp [findC] at h

/-- `gnext`, reading the answer as a parameter -/
def gnextOut (c : Chan) (g : Gh) (op : Op) (o : Out) : Gh :=
  match op with
  | .guard k => if o = .ok then { g with gr := upd g.gr k (rdyOf c k) } else g
  | .deliver k _ _ =>
    match o with
    | .msg _ => { g with gr := upd g.gr k (rdyOf c k) }
    | _ => g
  | .rdy k _ => if o = .ok then { g with base := upd g.base k (inFlightOf c k) } else g
  | .cls k => if o = .ok then { g with base := upd g.base k (inFlightOf c k) } else g
  | .addClient k _ _ => if o = .ok then { gr := upd g.gr k 0, base := upd g.base k 0 } else g
  | _ => g

theorem gnext_eq (conf : Conf) (c : Chan) (g : Gh) (op : Op) : gnext conf c g op = gnextOut c g op (step conf c op).2 := by
  cases op <;> rfl

theorem gnextOut_refused (c : Chan) (g : Gh) (op : Op) {o : Out} (h : Refused o) : gnextOut c g op o = g := by
  cases op with
  | deliver => cases o <;> first | rfl | exact h.elim
  | guard | rdy | cls | addClient => exact if_neg h.ne_ok
  | _ => rfl

theorem gnextOut_plain (c : Chan) (g : Gh) {op : Op} (h : special op = false) (o : Out) : gnextOut c g op o = g := by
  cases op <;> first | rfl | cases h

theorem upd_ne {f : Nat → Int} {k j : Nat} {v : Int} (h : j ≠ k) : upd f k v j = f j := if_neg h

theorem binv_cmono {c c' : Chan} {g : Gh} (h : BInv (c, g)) (hm : CMono c'.clients c.clients) : BInv (c', g) := by
  intro j cl' hf
  obtain ⟨cl, hcf, hi, hr, ha⟩ := hm j cl' hf
  exact bd_mono (h j cl hcf) hi hr ha

theorem binv_updC {c c' : Chan} {g g' : Gh} (h : BInv (c, g)) {k : Nat} {cl : Client} (hc : findC c.clients k = some cl)
    {f : Client → Client} (hcs : c'.clients = updC c.clients k f) (hf : ∀ c, (f c).conn = c.conn)
    (hg : ∀ j, j ≠ k → g'.gr j = g.gr j ∧ g'.base j = g.base j)
    (hk : Bd cl (g.gr k) (g.base k) → Bd (f cl) (g'.gr k) (g'.base k)) : BInv (c', g') := by
  intro j cl' hf'
  rw [hcs] at hf'
  obtain ⟨cl1, hcj, hh⟩ := findC_updC_some hf' hf
  rcases hh with ⟨rfl, rfl⟩ | ⟨hj, rfl⟩
  · rw [hc] at hcj; cases hcj
    exact hk (h j cl hc)
  · rw [(hg j hj).1, (hg j hj).2]; exact h j cl' hcj

theorem gstep_binv (conf : Conf) {s : Chan × Gh} (h : BInv s) (op : Op) : BInv (gstep conf s op) := by
  obtain ⟨c, g⟩ := s
  show BInv ((step conf c op).1, gnext conf c g op)
  rw [gnext_eq]
  refine step_elim (motive := fun c' o => BInv (c', gnextOut c g op o)) (fun o hr => ?_) (fun {c' o} he => ?_)
  · rw [gnextOut_refused c g op hr]; exact h
  by_cases hsp : special op = false
  · -- the ghosts do not move, the clients only shrink
    rw [gnextOut_plain c g hsp]
    exact binv_cmono h (eff_cmono he hsp)
  cases he with
  | guardOk k cl hc hr =>
    have hr := ready_iff.1 hr
    refine binv_updC h hc rfl (fun _ => rfl) (fun j hj => ⟨upd_ne hj, rfl⟩) (fun hb => ?_)
    simp only [gnextOut, upd, if_true, rdyOf, hc]
    exact ⟨by simp only []; omega, fun _ => by simp only []; omega, hb.le_base, fun _ => Or.inr hr.2.2⟩
  | guardNo k cl hc hr => exact binv_cmono h (cmono_updC _ _ _ (fun _ => ⟨rfl, Int.le_refl _, rfl, nofun⟩))
  | deliver k now cl e hc hr _ _ =>
    have hr := ready_iff.1 hr
    refine binv_updC h hc rfl (fun _ => rfl) (fun j hj => ⟨upd_ne hj, rfl⟩) (fun hb => ?_)
    simp only [gnextOut, upd, if_true, rdyOf, hc]
    exact ⟨by simp only []; omega, nofun, Or.inl (by simp only []; omega), nofun⟩
  | deliverArmed k now cl e hc ha _ _ =>
    refine binv_updC h hc rfl (fun _ => rfl) (fun _ _ => ⟨rfl, rfl⟩) (fun hb => ?_)
    have h1 := hb.armed_lt ha
    show Bd _ (g.gr k) (g.base k)
    refine ⟨by simp only []; omega, nofun, ?_, nofun⟩
    rcases hb.armed_or ha with h2 | h2
    · right; simp only []; omega
    · left; simp only []; omega
  | rdyIgnored k n cl0 hc hcl =>
    -- ignored: nothing changes but `base k := inFlight`
    intro j cl' hf
    by_cases hk : j = k
    · subst hk
      rw [hc] at hf; cases hf
      have hb := h j cl0 hc
      simp only [gnextOut, upd, if_true, inFlightOf, hc]
      exact ⟨hb.le_gr, hb.armed_lt, Or.inr (by omega), fun _ => Or.inl (Int.le_refl _)⟩
    · simp only [gnextOut, upd, hk, if_true, if_false]; exact h j cl' hf
  | rdyFatal | clsFatal => exact binv_cmono h (cmono_removeC _ _)
  | rdy k _ cl hc | cls k cl hc =>
    refine binv_updC h hc rfl (fun _ => rfl) (fun j hj => ⟨rfl, upd_ne hj⟩) (fun hb => ?_)
    simp only [gnextOut, upd, if_true, inFlightOf, hc]
    exact ⟨hb.le_gr, hb.armed_lt, Or.inr (by simp only []; omega), fun _ => Or.inl (Int.le_refl _)⟩
  | addClient k mt sm hc hh hp =>
    intro j cl' hf
    simp only [findC, List.find?_cons] at hf
    by_cases hk : j = k
    · subst hk
      simp only [beq_self_eq_true, Option.some.injEq] at hf
      subst hf
      simp only [gnextOut, upd, if_true]
      exact ⟨Int.le_refl _, fun a => (by cases a), Or.inl (Int.le_refl _), fun a => (by cases a)⟩
    · have : (k == j) = false := by simpa using fun e => hk e.symm
      simp only [this] at hf
      simp only [gnextOut, upd, hk, if_true, if_false]
      exact h j cl' hf
  | _ => exact absurd rfl hsp

theorem grun_binv (conf : Conf) {s : Chan × Gh} (h : BInv s) (ops : List Op) : BInv (grun conf s ops) := by
  induction ops generalizing s with
  | nil => exact h
  | cons op ops ih => exact ih (gstep_binv conf h op)

end Nsq.Proofs.ChanBound
