import Nsq.Model.Relay
/-!
What one step of a relay handler can do, once per tool, as a relation over its output: `Http.Handled` for one
`HandleMessage` of nsq_to_http, `N2N.Steps` for one event of nsq_to_nsq. The statements of `Nsq.Props.C20` are read off
these by `cases`.
-/
namespace Nsq.Proofs.Relay
open Nsq.Model.Relay

namespace Http
open Nsq.Model.Relay.Http

def targets (c : Cfg) (counter pick : Nat) : List Nat :=
  if c.mode = .all then List.range c.naddr else if c.mode = .roundRobin then [(counter + 1) % c.naddr] else [pick]

theorem targets_all {c : Cfg} (counter pick : Nat) (h : c.mode = .all) : targets c counter pick = List.range c.naddr :=
  if_pos h

theorem targets_one {c : Cfg} (counter pick : Nat) (h : c.mode ≠ .all) : ∃ a, targets c counter pick = [a] := by
  unfold targets; rw [if_neg h]; split <;> exact ⟨_, rfl⟩

theorem sendAll_cases (post : Bool) (body : Bytes) (resp : Nat → Option Nat) (as : List Nat) :
    ((∀ a ∈ as, accepts post (resp a) = true) ∧ sendAll post body resp as = (as.map (Out.request · body true), true)) ∨
    ∃ pre a rest, as = pre ++ a :: rest ∧ (∀ x ∈ pre, accepts post (resp x) = true) ∧ accepts post (resp a) = false ∧
      sendAll post body resp as = (pre.map (Out.request · body true) ++ [Out.request a body false], false) := by
  induction as with
  | nil => exact Or.inl ⟨nofun, rfl⟩
  | cons a as ih =>
    cases hacc : accepts post (resp a) with
    | false => exact Or.inr ⟨[], a, as, rfl, nofun, hacc, by simp [sendAll, hacc]⟩
    | true =>
      rcases ih with ⟨h, e⟩ | ⟨pre, b, rest, e, hpre, hb, e2⟩
      · exact Or.inl ⟨List.forall_mem_cons.mpr ⟨hacc, h⟩, by simp [sendAll, hacc, e]⟩
      · exact Or.inr ⟨a :: pre, b, rest, by rw [e]; rfl, List.forall_mem_cons.mpr ⟨hacc, hpre⟩, hb, by simp [sendAll, hacc, e2]⟩

theorem step_sampled (c : Cfg) (counter : Nat) (m : Msg) (pick : Nat) (resp : Nat → Option Nat)
    (hs : c.sampling = true) : step c counter m true pick resp = (counter, [Out.fin m.id]) := by
  simp [step, handle, hs]

theorem step_rr_zero (c : Cfg) (counter : Nat) (m : Msg) (so : Bool) (pick : Nat) (resp : Nat → Option Nat)
    (hs : ¬(c.sampling = true ∧ so = true)) (hm : c.mode = .roundRobin) (hn : c.naddr = 0) :
    step c counter m so pick resp = (counter + 1, [Out.panic]) := by
  unfold step handle
  rw [if_neg hs, if_neg (by rw [hm]; decide), if_pos hm, if_pos hn]

theorem step_targets (c : Cfg) (counter : Nat) (m : Msg) (so : Bool) (pick : Nat) (resp : Nat → Option Nat)
    (hs : ¬(c.sampling = true ∧ so = true)) (hz : ¬(c.mode = .roundRobin ∧ c.naddr = 0)) :
    (step c counter m so pick resp).2 = (sendAll c.post m.body resp (targets c counter pick)).1 ++
      [if (sendAll c.post m.body resp (targets c counter pick)).2 then Out.fin m.id else Out.req m.id] := by
  have one : ∀ a, sendAll c.post m.body resp [a] =
      ([Out.request a m.body (accepts c.post (resp a))], accepts c.post (resp a)) := fun a => by
    cases h : accepts c.post (resp a) <;> simp [sendAll, h]
  unfold step handle targets
  rw [if_neg hs]
  by_cases hall : c.mode = .all
  · rw [if_pos hall, if_pos hall]; cases (sendAll c.post m.body resp (List.range c.naddr)).2 <;> rfl
  · rw [if_neg hall, if_neg hall]
    by_cases hrr : c.mode = .roundRobin
    · rw [if_pos hrr, if_pos hrr, if_neg fun h => hz ⟨hrr, h⟩, one]
      cases accepts c.post (resp ((counter + 1) % c.naddr)) <;> rfl
    · rw [if_neg hrr, if_neg hrr, one]; cases accepts c.post (resp pick) <;> rfl

inductive Handled (c : Cfg) (counter : Nat) (m : Msg) (so : Bool) (pick : Nat) (resp : Nat → Option Nat) : List Out → Prop
  | sampled (hs : c.sampling = true) (hso : so = true) : Handled c counter m so pick resp [Out.fin m.id]
  | panic (hm : c.mode = .roundRobin) (hn : c.naddr = 0) : Handled c counter m so pick resp [Out.panic]
  | accepted (hs : ¬(c.sampling = true ∧ so = true)) (hacc : ∀ a ∈ targets c counter pick, accepts c.post (resp a) = true) :
    Handled c counter m so pick resp ((targets c counter pick).map (Out.request · m.body true) ++ [Out.fin m.id])
  | rejected {pre a rest} (hs : ¬(c.sampling = true ∧ so = true)) (e : targets c counter pick = pre ++ a :: rest)
      (hpre : ∀ x ∈ pre, accepts c.post (resp x) = true) (ha : accepts c.post (resp a) = false) :
    Handled c counter m so pick resp (pre.map (Out.request · m.body true) ++ [Out.request a m.body false, Out.req m.id])

theorem step_handled (c : Cfg) (counter : Nat) (m : Msg) (so : Bool) (pick : Nat) (resp : Nat → Option Nat) :
    Handled c counter m so pick resp (step c counter m so pick resp).2 := by
  by_cases hs : c.sampling = true ∧ so = true
  · obtain ⟨h1, rfl⟩ := hs
    rw [step_sampled c counter m pick resp h1]; exact .sampled h1 rfl
  by_cases hz : c.mode = .roundRobin ∧ c.naddr = 0
  · rw [step_rr_zero c counter m so pick resp hs hz.1 hz.2]; exact .panic hz.1 hz.2
  rw [step_targets c counter m so pick resp hs hz]
  rcases sendAll_cases c.post m.body resp (targets c counter pick) with ⟨h, e⟩ | ⟨pre, a, rest, e, hpre, ha, e2⟩
  · rw [e]; exact .accepted hs h
  · rw [e2, List.append_assoc]; exact .rejected hs e hpre ha

theorem run_mem (c : Cfg) (counter : Nat) (ins : List In) (i : In) (hi : i ∈ ins) :
    ∃ pre n post, run c counter ins = pre ++ (step c n i.m i.sampledOut i.pick i.resp).2 ++ post := by
  induction ins generalizing counter with
  | nil => cases hi
  | cons j js ih =>
    cases hi with
    | head => exact ⟨[], counter, _, rfl⟩
    | tail _ hi =>
      obtain ⟨pre, n, post, e⟩ := ih (step c counter j.m j.sampledOut j.pick j.resp).1 hi
      exact ⟨_ ++ pre, n, post, by rw [run, e, List.append_assoc, List.append_assoc, List.append_assoc]⟩

end Http

namespace N2N
open Nsq.Model.Relay.N2N

inductive Steps (c : Cfg) (st : St) : Ev → List Tx → List Out → Prop
  | drop {m pick ae} (hf : c.filterOn = true) : Steps c st (.msg m .drop pick ae) st.outstanding [Out.fin m.id]
  | requeue {m f pick ae} : Steps c st (.msg m f pick ae) st.outstanding [Out.req m.id]
  | panic {m f pick ae} : Steps c st (.msg m f pick ae) st.outstanding [Out.panic]
  | publish {m f pick ae} (a : Nat) (body : Bytes) (hb : c.filterOn = false → body = m.body)
      (hf : c.filterOn = true → f = .pass body) :
    Steps c st (.msg m f pick ae) (st.outstanding ++ [⟨a, m.id, body⟩]) [Out.publish a m.id body]
  | stale {i ok} (h : st.outstanding[i]? = none) : Steps c st (.result i ok) st.outstanding []
  | accepted {i tx} (h : st.outstanding[i]? = some tx) :
    Steps c st (.result i true) (st.outstanding.eraseIdx i) [Out.accepted tx.addr tx.id, Out.fin tx.id]
  | rejected {i tx} (h : st.outstanding[i]? = some tx) :
    Steps c st (.result i false) (st.outstanding.eraseIdx i) [Out.rejected tx.addr tx.id, Out.req tx.id]

theorem step_steps (c : Cfg) (st : St) (ev : Ev) : Steps c st ev (step c st ev).1.outstanding (step c st ev).2 := by
  cases ev with
  | result i ok =>
    cases ho : st.outstanding[i]? with
    | none => simp only [step, ho]; exact .stale ho
    | some tx =>
      cases ok
      · simp only [step, ho]; exact .rejected ho
      · simp only [step, ho]; exact .accepted ho
  | msg m f pick ae =>
    have pub : ∀ body, (c.filterOn = false → body = m.body) → (c.filterOn = true → f = .pass body) →
        Steps c st (.msg m f pick ae) (publishTo c st m body pick ae).1.outstanding (publishTo c st m body pick ae).2 := by
      intro body hb hf
      unfold publishTo
      by_cases h1 : c.roundRobin = true ∧ c.naddr = 0
      · rw [if_pos h1]; exact .panic
      · rw [if_neg h1]
        cases ae
        · exact .publish _ body hb hf
        · exact .requeue
    simp only [step]
    cases hfo : c.filterOn
    · exact pub m.body (fun _ => rfl) (fun h => by rw [hfo] at h; cases h)
    · cases f with
      | drop => exact .drop hfo
      | backoff => exact .requeue
      | marshalErr => exact .requeue
      | pass b => exact pub b (fun h => by rw [hfo] at h; cases h) (fun _ => rfl)

theorem step_fin_split (c : Cfg) (st : St) (ev : Ev) (id : Nat) (p q : List Out)
    (h : (step c st ev).2 = p ++ Out.fin id :: q) :
    (∃ i tx, ev = .result i true ∧ st.outstanding[i]? = some tx ∧ tx.id = id ∧ p = [Out.accepted tx.addr id] ∧ q = []) ∨
    (c.filterOn = true ∧ ∃ m pick ae, ev = .msg m .drop pick ae ∧ m.id = id ∧ p = [] ∧ q = []) := by
  have hs := step_steps c st ev
  generalize (step c st ev).1.outstanding = os at hs
  generalize (step c st ev).2 = out at hs h
  -- five of the seven outputs hold no `fin`: an equation with `p ++ fin id :: q` is false of them and `simp` closes the case
  cases hs <;> simp [List.cons_eq_append_iff] at h
  case drop hf => exact Or.inr ⟨hf, _, _, _, rfl, h.2.1.symm, h.1, h.2.2⟩
  case accepted i tx ho =>
    obtain ⟨_, hp, rfl, rfl, hq⟩ := h
    exact Or.inl ⟨i, tx, rfl, ho, rfl, hp, hq⟩

theorem step_outstanding (c : Cfg) (st : St) (ev : Ev) (tx : Tx) (h : tx ∈ (step c st ev).1.outstanding) :
    tx ∈ st.outstanding ∨
    (Out.publish tx.addr tx.id tx.body ∈ (step c st ev).2 ∧
      ∃ m f pick ae, ev = .msg m f pick ae ∧ m.id = tx.id ∧ (c.filterOn = false → tx.body = m.body)
        ∧ (c.filterOn = true → f = .pass tx.body)) := by
  have hs := step_steps c st ev
  generalize (step c st ev).1.outstanding = os at hs h
  generalize (step c st ev).2 = out at hs ⊢
  cases hs with
  | publish a body hb hf =>
    rcases List.mem_append.mp h with h | h
    · exact Or.inl h
    · cases List.mem_singleton.mp h
      exact Or.inr ⟨List.mem_singleton.mpr rfl, _, _, _, _, rfl, rfl, hb, hf⟩
  | accepted => exact Or.inl (List.mem_of_mem_eraseIdx h)
  | rejected => exact Or.inl (List.mem_of_mem_eraseIdx h)
  | _ => exact Or.inl h

end N2N
end Nsq.Proofs.Relay
