import Nsq.Proofs.Meta
/-! Invariant I (C06): with the fix, "nothing outstanding" implies `nsqd.dat = marshal (snap mem)`. -/
namespace Nsq.Proofs.Meta
open Nsq.Model.FS Nsq.Model.Meta

variable {β : Type}
variable {cd : Codec β} {s s' : Sys β} {ps : PStep} {st : Step} {stamp : Nat} {m : Mem} {ms : MemStep}
  {r : Mem × Nat × List Handler}

/-- a topic deletion is in progress on a persisted topic (its unlink will request a persist) -/
def exitingNE (m : Mem) : Prop := ∃ t ∈ m, t.exiting = true ∧ t.eph = false

theorem exitingNE_modTopic (m : Mem) (t : String) (f : Topic → Topic)
    (hf : ∀ x, (f x).eph = x.eph ∧ (x.exiting = true → (f x).exiting = true))
    (h : exitingNE m) : exitingNE (modTopic m t f) :=
  modFirst_exists (fun x : Topic => x.exiting = true ∧ x.eph = false) _ f
    (fun x hx => ⟨(hf x).2 hx.1, (hf x).1.trans hx.2⟩) m h

/-- The four disjuncts of `InvI` for the successor (the third as: the snapshot does not change), with `r.2.1` the
`Notify`s issued and `r.2.2` the persists requested by the step (`memEffect`). -/
theorem MemEff.clean (h : MemEff true stamp m ms r) :
    0 < r.2.1 ∨ r.2.2 ≠ [] ∨ snap r.1 = snap m ∨ exitingNE r.1 := by
  cases h with
  | @createTopic t eph _ =>
    cases eph
    · exact .inl Nat.one_pos
    · exact .inr (.inr (.inl ((snap_append _ _).trans (List.append_nil _))))
  | @createChan t c eph _ _ _ =>
    cases eph
    · exact .inl Nat.one_pos
    · refine .inr (.inr (.inl (snap_modTopic_same _ _ _ (fun x => ⟨rfl, ?_⟩))))
      simp [snapTopic]
  | delTopicBegin => exact .inr (.inr (.inl (snap_modTopic_same _ _ _ (fun _ => ⟨rfl, rfl⟩))))
  | @delTopicChan t c tp ch hg hex _ =>
    obtain ⟨l1, l2, rfl, hmod, -⟩ := getTopic_split hg
    rw [hmod]
    cases hte : tp.eph
    · exact .inr (.inr (.inr ⟨dropChan tp c, List.mem_append_right _ List.mem_cons_self, hex, hte⟩))
    · exact .inr (.inr (.inl (snap_update l1 l2 rfl (fun h => nomatch hte.symm.trans h))))
  | @delTopicUnlink t tp hg _ =>
    cases hte : tp.eph
    · exact .inr (.inl (List.cons_ne_nil _ _))
    · exact .inr (.inr (.inl (snap_dropTopic_eph hg hte)))
  | delChanBegin =>
    refine .inr (.inr (.inl (snap_modTopic_same _ _ _ (fun x => ⟨rfl, ?_⟩))))
    exact snapTopic_modChan_same _ _ _ (fun _ => ⟨rfl, rfl⟩)
  | @delChanUnlink t c tp ch hg hc _ =>
    cases hce : ch.eph
    · exact .inr (.inl (List.cons_ne_nil _ _))
    · obtain ⟨l1, l2, rfl, hmod, -⟩ := getTopic_split hg
      refine .inr (.inr (.inl ?_))
      rw [hmod]
      exact snap_update l1 l2 rfl (fun _ => snapTopic_dropChan_eph hc hce)
  | pauseTopic | pauseChan => exact .inr (.inl (List.cons_ne_nil _ _))

theorem MemEff.exiting (hx : exitingNE m) (h : MemEff true stamp m ms r) : r.2.2 ≠ [] ∨ exitingNE r.1 := by
  cases h with
  | createTopic =>
    obtain ⟨x, hm, hx⟩ := hx
    exact .inr ⟨x, List.mem_append_left _ hm, hx⟩
  | delTopicBegin => exact .inr (exitingNE_modTopic m _ _ (fun _ => ⟨rfl, fun _ => rfl⟩) hx)
  | createChan | delTopicChan | delChanBegin | delChanUnlink =>
    exact .inr (exitingNE_modTopic m _ _ (fun _ => ⟨rfl, id⟩) hx)
  | @delTopicUnlink t tp hg _ =>
    cases hte : tp.eph
    · exact .inl (List.cons_ne_nil _ _)
    · obtain ⟨l1, l2, rfl, -, hdrop⟩ := getTopic_split hg
      obtain ⟨x, hm, h1, h2⟩ := hx
      refine .inr ⟨x, ?_, h1, h2⟩
      rw [hdrop]
      rcases List.mem_append.mp hm with hm | hm
      · exact List.mem_append_left _ hm
      · rcases List.mem_cons.mp hm with rfl | hm
        · exact nomatch hte.symm.trans h2
        · exact List.mem_append_right _ hm
  | pauseTopic | pauseChan => exact .inl (List.cons_ne_nil _ _)

/-- "The file is current" (`D` the document of the live maps) when a persist may be running: without one the file
holds `D`; while one reads, what it has read is a prefix of `D`; from its snapshot on, its document is `D`. -/
def CleanP (cd : Codec β) (dat : Option β) (D : Doc) : Option Persist → Prop
  | none => dat = some (cd.marshal D)
  | some p => (p.phase = .reading → p.done <+: D) ∧ (p.phase ≠ .reading → p.done = D)

/-- A live daemon has a `Notify` pending, a persist queued, a current file, or a persisted topic half-way through its
deletion. The last is needed because `delTopicChan` can drop a channel that is itself exiting from such a topic with
no `Notify`: the file is stale until the persist that `delTopicUnlink` requests. -/
def InvI (cd : Codec β) (s : Sys β) : Prop :=
  s.alive = true →
    0 < s.pending ∨ s.handlers ≠ [] ∨ CleanP cd s.fs.dat (snap s.mem) s.persist ∨ exitingNE s.mem

theorem InvI.mono (h : InvI cd s) (ha : s'.alive = true → s.alive = true)
    (hp : s'.pending = s.pending) (hh : s'.handlers = s.handlers) (hm : s'.mem = s.mem)
    (hc : CleanP cd s.fs.dat (snap s.mem) s.persist → CleanP cd s'.fs.dat (snap s.mem) s'.persist) :
    InvI cd s' := by
  intro ha'
  rw [hp, hh, hm]
  exact (h (ha ha')).imp_right (Or.imp_right (Or.imp_left hc))

theorem invI_ptrans (hA : InvA cd s) (h : InvI cd s) (ht : PTrans cd s ps s') : InvI cd s' := by
  cases ht with
  | beginNotify | beginHandler =>
    exact fun _ => .inr (.inr (.inl ⟨fun _ => List.nil_prefix, fun hn => absurd rfl hn⟩))
  | @readMore p e hp hph he =>
    refine h.mono id rfl rfl rfl fun hc => ?_
    rw [hp] at hc
    exact ⟨fun _ => prefix_snoc_getElem (hc.1 hph) he, fun hn => absurd hph hn⟩
  | @readDone p hp hph he =>
    refine h.mono id rfl rfl rfl fun hc => ?_
    rw [hp] at hc
    exact ⟨nofun, fun _ => prefix_full (hc.1 hph) he⟩
  | @advance ps p p' fs' hp had =>
    refine h.mono id rfl rfl rfl fun hc => ?_
    rw [hp] at hc
    exact ⟨fun hr => absurd hr had.mid.2.1, fun _ => had.keeps.2.1 ▸ hc.2 had.mid.1.1⟩
  | @rename p hp hph =>
    refine h.mono id rfl rfl rfl fun hc => ?_
    rw [hp] at hc
    exact ⟨nofun, fun _ => hc.2 (by rw [hph]; nofun)⟩
  | @finish p hp hph =>
    -- the file is this persist's document, which is current
    refine h.mono id rfl rfl rfl fun hc => ?_
    rw [hp] at hc
    show s.fs.dat = _
    rw [(hA.run p hp).datDone hph, hc.2 (by rw [hph]; nofun)]

theorem invI_step (hA : InvA cd s) (h : InvI cd s) (hs : step cd true s st = some s') : InvI cd s' := by
  cases step_inv hs with
  | locked | badFile => exact h.mono id rfl rfl rfl id
  | fresh | load => exact fun _ => .inr (.inl (List.cons_ne_nil _ _))
  | kill | exitEnd => exact nofun
  | exitBegin => exact fun _ => .inr (.inl (List.append_ne_nil_of_right_ne_nil _ (List.cons_ne_nil _ _)))
  | @mem ms r ha _ he =>
    intro _
    rcases h ha with h0 | h0 | h0 | h0
    · exact .inl (Nat.add_pos_left h0 _)
    · exact .inr (.inl (List.append_ne_nil_of_left_ne_nil h0 _))
    · rcases he.clean with h1 | h1 | h1 | h1
      · exact .inl (Nat.add_pos_right _ h1)
      · exact .inr (.inl (List.append_ne_nil_of_right_ne_nil _ h1))
      · exact .inr (.inr (.inl (h1 ▸ h0)))
      · exact .inr (.inr (.inr h1))
    · rcases he.exiting h0 with h1 | h1
      · exact .inr (.inl (List.append_ne_nil_of_right_ne_nil _ h1))
      · exact .inr (.inr (.inr h1))
  | persist _ ht => exact invI_ptrans hA h ht

theorem invI_init (cd : Codec β) : InvI cd (Sys.init : Sys β) := nofun

theorem reach_invI (h : Reach cd true s) : InvI cd s :=
  (reach_induct (fun s => InvA cd s ∧ InvI cd s) ⟨invA_init cd, invI_init cd⟩
    (fun _ _ _ hi hs => ⟨invA_step hi.1 hs, invI_step hi.1 hi.2 hs⟩) s h).2

end Nsq.Proofs.Meta
