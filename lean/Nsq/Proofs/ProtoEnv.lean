import Nsq.Model.ProtoEnv
import Nsq.Proofs.ProtoV2
/-! The protocol model with the consumer limit, backend faults and the authorization state (`Nsq.Model.ProtoEnv`): a step
is the base step or one of two refusals (`execX_cases`), so the facts about `exec` carry over to `execX` and `loopX`.
(`tdiv2_pos` serves the ticker-option check `newAccepts` of the same model file.) -/
namespace Nsq.Proofs.ProtoEnv
open Nsq.Model.ProtoV2 Nsq.Model.Names Nsq.Model.ProtoEnv Nsq.Model Nsq.Spec.ProtoSpec
open Nsq.Proofs.ProtoV2

theorem tdiv2_pos (c : Int) : 0 < Int.tdiv c 2 ↔ 2 ≤ c := by
  by_cases h : c < 0
  · have e : c = -(-c) := by omega
    rw [e, Int.neg_tdiv, Int.tdiv_eq_ediv_of_nonneg (by omega)]; omega
  · rw [Int.tdiv_eq_ediv_of_nonneg (by omega)]; omega

abbrev baseStep (xc : XConf) (x : XState) (b : Broker) (ps : List Bytes) (rest : Bytes) : Step :=
  exec (stepConf xc x ps rest) x.conn b ps rest

theorem execX_cases (xc : XConf) (x : XState) (b : Broker) (ps : List Bytes) (rest : Bytes) :
    (∃ t c, (baseStep xc x b ps rest).eff = [.sub t c] ∧ limitHit xc b t c = true ∧
        execX xc x b ps rest = (subRefused x b t c, x)) ∨
    (∃ t ms k, (baseStep xc x b ps rest).eff = [.enq t ms] ∧ x.putsOk = some k ∧ k < ms.length ∧
        execX xc x b ps rest = (pubFailed x b ps t ms k, { x with putsOk := some 0 })) ∨
    (execX xc x b ps rest).1 = baseStep xc x b ps rest := by
  unfold baseStep
  fun_cases execX xc x b ps rest
  case case1 t c he hl => exact .inl ⟨t, c, he, hl, rfl⟩
  case case4 t ms he k hk hlt => exact .inr (.inl ⟨t, ms, k, he, hk, hlt, rfl⟩)
  all_goals exact .inr (.inr rfl)

theorem pubFailCode_ne_sub (ps : List Bytes) : pubFailCode ps ≠ .E_SUB_FAILED := by
  fun_cases pubFailCode ps <;> nofun

theorem gate_ok (xc : XConf) (x : XState) (ps : List Bytes) (rest : Bytes) :
    AuthGateOk (stepConf xc x ps rest) := by
  intro code
  show gate xc x (gateArgs ps).1 (gateArgs ps).2 = some code → _
  fun_cases gate xc x (gateArgs ps).1 (gateArgs ps).2
  case case2 | case3 => rintro ⟨⟩; exact .inl rfl
  case case5 => rintro ⟨⟩; exact .inr (.inr rfl)
  all_goals nofun

theorem effOk_stepConf (xc : XConf) (x : XState) (ps : List Bytes) (rest : Bytes) (e : Effect) :
    EffOk (stepConf xc x ps rest) e ↔ EffOk xc.base e := by
  cases e <;> simp [EffOk, MsgOk, IdentOk, stepConf]

theorem effOk_take {conf : Conf} {t : Bytes} {ms : List Msg} {k : Nat} (h : EffOk conf (.enq t ms)) (h0 : k ≠ 0)
    (hk : k < ms.length) : EffOk conf (.enq t (ms.take k)) := by
  simp only [EffOk] at h ⊢
  obtain ⟨hv, hlen, hcnt, hm⟩ := h
  have hl : (ms.take k).length = k := by simp; omega
  refine ⟨hv, by omega, ?_, fun m hmm => hm m (List.mem_of_mem_take hmm)⟩
  rcases hcnt with h1 | h1
  · omega
  · right; rw [hl]; omega

/-- The effect of a failed publish is the prefix that was written (`effOk_take`). -/
theorem execX_ok (xc : XConf) (x : XState) (b : Broker) (ps : List Bytes) (rest : Bytes) :
    StepOk xc.base rest (execX xc x b ps rest).1 := by
  have hb := exec_ok (stepConf xc x ps rest) x.conn b ps rest
  have heff : ∀ e ∈ (baseStep xc x b ps rest).eff, EffOk xc.base e :=
    fun e he => (effOk_stepConf xc x ps rest e).mp (hb.2.2 e he)
  rcases execX_cases xc x b ps rest with ⟨t, c, _, _, h⟩ | ⟨t, ms, k, he, _, hk, h⟩ | h
  · rw [h]; exact ⟨nofun, Nat.zero_le _, fun _ => nofun⟩
  · rw [h]
    refine ⟨nofun, Nat.zero_le _, ?_⟩
    simp only [pubFailed]
    split
    · exact fun _ => nofun
    · exact fun e h1 => by cases List.mem_singleton.mp h1; exact effOk_take (heff _ (by rw [he]; exact .head _)) ‹_› hk
  · rw [h]; exact ⟨hb.1, hb.2.1, heff⟩

theorem loopX_fin (xc : XConf) (fuel : Nat) (x : XState) (b : Broker) (bs : Bytes) (h : bs.length < fuel) :
    (loopX xc fuel x b bs).fin = .eof ∨ (loopX xc fuel x b bs).fin = .closed ∨
      (loopX xc fuel x b bs).fin = .upgraded := by
  fun_induction loopX xc fuel x b bs
  case case1 => omega
  case case2 => exact .inl rfl
  case case3 => exact .inr (.inl rfl)
  case case4 fuel x b bs l rest hl _ ih =>
    exact ih (by have := readLine_len bs l rest hl; have := (execX_ok xc x b (splitSp l) rest).2.1; omega)
  case case5 => exact .inr (.inl rfl)
  case case6 => exact .inr (.inr rfl)
  case case7 hp => exact absurd hp (execX_ok _ _ _ _ _).1

theorem loopX_eff (xc : XConf) (fuel : Nat) (x : XState) (b : Broker) (bs : Bytes) :
    ∀ e ∈ (loopX xc fuel x b bs).eff, EffOk xc.base e := by
  fun_induction loopX xc fuel x b bs
  case case4 ih => exact fun e he => (List.mem_append.mp he).elim ((execX_ok ..).2.2 e) (ih e)
  case case5 | case6 | case7 => exact (execX_ok ..).2.2
  all_goals exact fun _ => nofun

def viewX (r : Step × XState) : (Ctl × Option Reply × ConnState × Bytes × List Effect) × XState := (view r.1, r.2)

/-- One command against two brokers on which the consumer limit of the SUB it accepts comes out the same: both steps are
the same refusal, or both are the base step followed by the same next state. So a relation between the two results
holds once it holds in these three cases. -/
theorem execX_rel (xc : XConf) (x : XState) (b b' : Broker) (ps : List Bytes) (rest : Bytes)
    (Q : Step × XState → Step × XState → Prop)
    (hl : ∀ t c, (baseStep xc x b ps rest).eff = [.sub t c] → limitHit xc b t c = limitHit xc b' t c)
    (hsub : ∀ t c, Q (subRefused x b t c, x) (subRefused x b' t c, x))
    (hpub : ∀ t ms k x', Q (pubFailed x b ps t ms k, x') (pubFailed x b' ps t ms k, x'))
    (hbase : ∀ x', Q (baseStep xc x b ps rest, x') (baseStep xc x b' ps rest, x')) :
    Q (execX xc x b ps rest) (execX xc x b' ps rest) := by
  have hv := exec_view (stepConf xc x ps rest) x.conn b b' ps rest
  simp only [view, Prod.mk.injEq] at hv
  obtain ⟨h1, _, h3, _, h5⟩ := hv
  have hadv : advance xc x ps rest (baseStep xc x b' ps rest) = advance xc x ps rest (baseStep xc x b ps rest) := by
    simp only [advance, baseStep, h1, h3]
  unfold baseStep at hl hbase hadv
  unfold execX
  -- the two base steps have the same effects (`h5`) and the same next state (`hadv`), so the `match` on the effects takes the
  -- same branch on both sides; in the SUB branch `hl` makes the two tests of the limit one
  generalize exec (stepConf xc x ps rest) x.conn b ps rest = X at *
  generalize exec (stepConf xc x ps rest) x.conn b' ps rest = Y at *
  rw [← h5, hadv]
  split
  · rename_i t c he
    rw [← hl t c he]
    split
    · exact hsub t c
    · exact hbase _
  · rename_i t ms he
    split
    · exact hbase _
    · split
      · exact hpub _ _ _ _
      · exact hbase _
  · exact hbase _

theorem execX_view_at (xc : XConf) (x : XState) (b b' : Broker) (ps : List Bytes) (rest : Bytes)
    (hl : ∀ t c, (baseStep xc x b ps rest).eff = [.sub t c] → limitHit xc b t c = limitHit xc b' t c) :
    viewX (execX xc x b ps rest) = viewX (execX xc x b' ps rest) :=
  execX_rel xc x b b' ps rest (viewX · = viewX ·) hl (fun _ _ => rfl) (fun _ _ _ _ => rfl)
    fun x' => congrArg (·, x') (exec_view (stepConf xc x ps rest) x.conn b b' ps rest)

end Nsq.Proofs.ProtoEnv
