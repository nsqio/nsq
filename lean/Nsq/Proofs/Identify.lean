import Nsq.Model.Identify
/-! The field-by-field IDENTIFY model (`Nsq.Model.Identify`): its setter sequence agrees with `ProtoV2.applyIdentify`,
success is `InRange`, the coarse `ProtoV2.identify` is its projection. -/
namespace Nsq.Proofs.Identify
open Nsq.Model.Identify Nsq.Model.ProtoV2 Nsq.Model.Names Nsq.Model

theorem setOutputBufferP_eq (conf : Conf) (sz t dS dT : Int) :
    setOutputBufferP conf sz t dS dT =
      match setObTimeout conf t dT with
      | none => (sz, t, false)
      | some t' =>
        match setObSize conf sz dS with
        | none => (sz, t', false)
        | some sz' => (sz', if dS = -1 then 0 else t', true) := by
  fun_cases setOutputBufferP conf sz t dS dT
  all_goals simp [setObTimeout, setObSize, *]

theorem identifySeq_agrees (conf : Conf) (c : Client) (x : IdFull) :
    (identifySeq conf c x).1.info = x.info ∧
    (identifySeq conf c x).2 = (applyIdentify conf c.conn x.d).isSome ∧
    ∀ s', applyIdentify conf c.conn x.d = some s' → (identifySeq conf c x).1.conn = s' := by
  unfold identifySeq applyIdentify
  cases hhb : setHeartbeat conf c.conn.hbNs x.d.heartbeat with
  | none => simp
  | some hb =>
    simp only []
    rw [setOutputBufferP_eq]
    cases ht : setObTimeout conf c.conn.obtNs x.d.outBufTimeout with
    | none => simp
    | some t =>
      simp only []
      cases hs : setObSize conf c.conn.obSize x.d.outBufSize with
      | none => simp
      | some sz =>
        simp only []
        by_cases hsr : x.d.sampleRate < 0 ∨ x.d.sampleRate > 99
        · simp [hsr]
        · simp only [hsr, if_false]
          cases hm : setMsgTimeout conf c.conn.msgTimeoutNs x.d.msgTimeout with
          | none => simp
          | some mt => simp [withOb]

def replyOf : Outcome → Reply
  | .badBody _ => .err .E_BAD_BODY
  | .ok _ => .ok
  | .failed _ => .err .E_IDENTIFY_FAILED
  | .doc _ _ _ => .json

def upgrades : Outcome → Bool
  | .doc _ _ n => n.tlsv1 || n.snappy || n.deflate
  | _ => false

def clientOf : Outcome → Client
  | .badBody c => c | .ok c => c | .failed c => c | .doc c _ _ => c

theorem clientOf_identifyFull (conf : Conf) (nc : NConf) (c : Client) (x : IdFull) :
    clientOf (identifyFull conf nc c x) = (identifySeq conf c x).1 := by
  fun_cases identifyFull conf nc c x <;> rfl

theorem identifyFull_doc {conf : Conf} {nc : NConf} {c c' : Client} {x : IdFull} {r : Resp} {n : Negot}
    (h : identifyFull conf nc c x = .doc c' r n) :
    (identifySeq conf c x).2 = true ∧ ¬ ((negotiate conf nc x).deflate && (negotiate conf nc x).snappy) = true ∧
      c' = (identifySeq conf c x).1 ∧ n = negotiate conf nc x ∧ r = respDoc conf nc c'.conn n := by
  revert h
  fun_cases identifyFull conf nc c x
  case case4 hok _ hboth => rintro ⟨⟩; exact ⟨by simpa using hok, hboth, rfl, rfl, rfl⟩
  all_goals nofun

theorem identify_agrees (conf : Conf) (nc : NConf) (s : ConnState) (b : Broker) (rest body r : Bytes)
    (x : IdFull) (info : Meta) (hst : s.st = .init) (hb : readBody conf.maxBodySize rest = .ok body r)
    (hd : conf.decode body = some x.d) :
    (identify conf s b rest).reply = some (replyOf (identifyFull conf nc ⟨info, s⟩ x)) ∧
    ((identify conf s b rest).ctl = .upgraded ↔ upgrades (identifyFull conf nc ⟨info, s⟩ x) = true) ∧
    (replyOf (identifyFull conf nc ⟨info, s⟩ x) ≠ .err .E_BAD_BODY →
      (identify conf s b rest).st = (clientOf (identifyFull conf nc ⟨info, s⟩ x)).conn) := by
  obtain ⟨-, hok, hconn⟩ := identifySeq_agrees conf ⟨info, s⟩ x
  unfold identify identifyFull
  simp only [hst, ne_eq, not_true_eq_false, if_false, hb, hd]
  cases ha : applyIdentify conf s x.d with
  | none => simp [hok, ha, fatal, replyOf, upgrades]
  | some s' =>
    have hc := hconn s' ha
    -- with `negotiate` unfolded both sides branch on the same three Bool expressions
    simp only [hok, ha, Option.isSome_some, Bool.true_eq_false, if_false, negotiate]
    cases hfn : x.d.featureNegotiation
    · simp [done, replyOf, upgrades, clientOf, hc]
    by_cases hboth : ((conf.deflateEnabled && x.d.deflate) && (conf.snappyEnabled && x.d.snappy)) = true
    · simp [hboth, fatal, replyOf, upgrades, clientOf, hc]
    · by_cases hup : ((conf.tlsConfigured && x.d.tlsv1) || (conf.snappyEnabled && x.d.snappy)
          || (conf.deflateEnabled && x.d.deflate)) = true <;> simp [hboth, hup, done, replyOf, upgrades, clientOf, hc]

def HbOK (conf : Conf) (d : Int) : Prop := d = -1 ∨ d = 0 ∨ (1000 ≤ d ∧ d ≤ conf.maxHeartbeatMs)
def ObtOK (conf : Conf) (d : Int) : Prop := d = -1 ∨ d = 0 ∨ (conf.minObtMs ≤ d ∧ d ≤ conf.maxObtMs)
def ObsOK (conf : Conf) (d : Int) : Prop := d = -1 ∨ d = 0 ∨ (64 ≤ d ∧ d ≤ conf.maxObSize)
def SrOK (d : Int) : Prop := 0 ≤ d ∧ d ≤ 99
def MtOK (conf : Conf) (d : Int) : Prop := d = 0 ∨ (1000 ≤ d ∧ d ≤ conf.maxMsgTimeoutMs)

def InRange (conf : Conf) (d : IdentifyData) : Prop :=
  HbOK conf d.heartbeat ∧ ObtOK conf d.outBufTimeout ∧ ObsOK conf d.outBufSize ∧ SrOK d.sampleRate ∧
  MtOK conf d.msgTimeout

/-- The three setters with a "disable" value share one shape: −1, 0 (keep the current value) or a range. -/
theorem range_isSome (a cur v d lo hi : Int) :
    (if d = -1 then some a else if d = 0 then some cur else if d ≥ lo ∧ d ≤ hi then some v else none).isSome = true ↔
      d = -1 ∨ d = 0 ∨ (lo ≤ d ∧ d ≤ hi) := by
  by_cases h1 : d = -1
  · simp [h1]
  by_cases h2 : d = 0
  · simp [h2]
  by_cases h3 : d ≥ lo ∧ d ≤ hi <;> simp [h1, h2, h3]

theorem setHeartbeat_isSome (conf : Conf) (cur d : Int) : (setHeartbeat conf cur d).isSome = true ↔ HbOK conf d :=
  range_isSome ..

theorem setObTimeout_isSome (conf : Conf) (cur d : Int) : (setObTimeout conf cur d).isSome = true ↔ ObtOK conf d :=
  range_isSome ..

theorem setObSize_isSome (conf : Conf) (cur d : Int) : (setObSize conf cur d).isSome = true ↔ ObsOK conf d :=
  range_isSome ..

theorem setMsgTimeout_isSome (conf : Conf) (cur d : Int) : (setMsgTimeout conf cur d).isSome = true ↔ MtOK conf d := by
  unfold setMsgTimeout MtOK
  by_cases h2 : d = 0
  · simp [h2]
  by_cases h3 : d ≥ 1000 ∧ d ≤ conf.maxMsgTimeoutMs <;> simp [h2, h3]

theorem applyIdentify_isSome (conf : Conf) (s : ConnState) (d : IdentifyData) :
    (applyIdentify conf s d).isSome = true ↔ InRange conf d := by
  unfold InRange
  rw [← setHeartbeat_isSome conf s.hbNs, ← setObTimeout_isSome conf s.obtNs, ← setObSize_isSome conf s.obSize,
    ← setMsgTimeout_isSome conf s.msgTimeoutNs]
  -- the first three setters accepted: 4 sample rate out of range, 5 msg timeout refused, 6 all accepted; 1-3 one of the three refused
  fun_cases applyIdentify conf s d
  case case4 h1 _ h2 _ h3 hsr => simp only [h1, h2, h3, SrOK]; simp; omega
  case case5 h1 _ h2 _ h3 hsr h4 => simp [h1, h2, h3, h4]
  case case6 h1 _ h2 _ h3 hsr _ h4 => simp only [h1, h2, h3, h4, SrOK]; simp; omega
  all_goals simp [*]

theorem seq_ok_iff (conf : Conf) (c : Client) (x : IdFull) :
    (identifySeq conf c x).2 = true ↔ InRange conf x.d := by
  rw [(identifySeq_agrees conf c x).2.1, applyIdentify_isSome]

theorem clampLevel_bounds (max want : Int) (deflate : Bool) (h1 : 1 ≤ max) :
    1 ≤ clampLevel max deflate want ∧ clampLevel max deflate want ≤ max := by
  unfold clampLevel
  by_cases hd : (deflate && decide (want > 0)) = true
  · have hw : want > 0 := by
      have := (Bool.and_eq_true _ _ ▸ hd).2
      simpa using this
    simp only [hd, if_true]
    split <;> omega
  · simp only [hd, Bool.false_eq_true, if_false]
    split <;> omega

theorem clampLevel_granted (max want : Int) (h1 : 1 ≤ want) (h2 : want ≤ max) :
    clampLevel max true want = want := by
  unfold clampLevel
  have : (true && decide (want > 0)) = true := by simp; omega
  simp only [this, if_true]
  split <;> omega

theorem clampLevel_default (max want : Int) (deflate : Bool) (h : deflate = false ∨ want ≤ 0) :
    clampLevel max deflate want = if max < 6 then max else 6 := by
  unfold clampLevel
  have : (deflate && decide (want > 0)) = false := by
    rcases h with h | h
    · simp [h]
    · simp; intro _; omega
  simp [this]

theorem msgTimeout_echo (conf : Conf) (cur d mt : Int) (h : setMsgTimeout conf cur d = some mt) :
    (d = 0 ∧ mt = cur) ∨ (d ≠ 0 ∧ Int.tdiv mt 1000000 = d) := by
  unfold setMsgTimeout at h
  by_cases h0 : d = 0
  · simp [h0] at h; exact Or.inl ⟨h0, h.symm⟩
  · simp only [h0, if_false] at h
    split at h
    · simp at h; subst h; exact Or.inr ⟨h0, by rw [Int.mul_tdiv_cancel _ (by decide)]⟩
    · cases h

theorem applyIdentify_msgTimeout (conf : Conf) (s s' : ConnState) (d : IdentifyData)
    (h : applyIdentify conf s d = some s') :
    setMsgTimeout conf s.msgTimeoutNs d.msgTimeout = some s'.msgTimeoutNs := by
  revert h
  fun_cases applyIdentify conf s d
  case case6 hmt => rintro ⟨⟩; exact hmt
  all_goals nofun

end Nsq.Proofs.Identify
