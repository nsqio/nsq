/-!
Reading the characters of a string without `String.toList`, which decodes UTF-8 by indexing into the byte array (the kernel
evaluates it in time quadratic in the length of the string).
* The characters of an ASCII string are its bytes: for any string, literal or computed, reading the characters off
  `String.toByteArray` gives the same list (`toList_of_isAscii`, `toList_eq_chars`).
* The characters of a literal are there to be read: `texts`, `search_of_texts`.
Core Lean only.
-/
namespace Nsq.Proofs.AsciiString

def bytesOf (s : String) : List UInt8 := s.toByteArray.data.toList

def asciiChars (s : String) : List Char := (bytesOf s).map fun b => Char.ofNat b.toNat

def isAscii (s : String) : Bool := (bytesOf s).all (· < 128)

theorem bytesOf_ofList (l : List Char) : bytesOf (String.ofList l) = l.flatMap String.utf8EncodeChar := by
  simp [bytesOf, List.utf8Encode]

/-- a character all of whose UTF-8 bytes are below 128 is encoded by the one byte that is its code: every longer
encoding starts with a byte ≥ 0xc0 -/
theorem utf8EncodeChar_ascii (c : Char) (h : (String.utf8EncodeChar c).all (· < 128) = true) :
    (String.utf8EncodeChar c).map (fun b => Char.ofNat b.toNat) = [c] := by
  unfold String.utf8EncodeChar at h ⊢
  by_cases h1 : c.val.toNat ≤ 127
  · simp only [if_pos h1, List.map_cons, List.map_nil, UInt8.toNat_ofNat']
    rw [Nat.mod_eq_of_lt (by omega)]
    exact congrArg (· :: []) (Char.ofNat_toNat c)
  · exfalso
    simp only [if_neg h1] at h
    split at h <;> try split at h
    all_goals
      simp only [List.all_cons, Bool.and_eq_true, decide_eq_true_eq, UInt8.lt_iff_toNat_lt, UInt8.toNat_ofNat'] at h
      have := h.1
      simp at this
      omega

theorem chars_of_ascii (l : List Char) (h : (l.flatMap String.utf8EncodeChar).all (· < 128) = true) :
    (l.flatMap String.utf8EncodeChar).map (fun b => Char.ofNat b.toNat) = l := by
  induction l with
  | nil => rfl
  | cons c l ih =>
    rw [List.flatMap_cons, List.all_append, Bool.and_eq_true] at h
    rw [List.flatMap_cons, List.map_append, utf8EncodeChar_ascii c h.1, ih h.2]; rfl

theorem toList_of_isAscii (s : String) (h : isAscii s = true) : s.toList = asciiChars s := by
  rw [← String.ofList_toList (s := s)] at h ⊢
  rw [isAscii, bytesOf_ofList] at h
  rw [String.toList_ofList, asciiChars, bytesOf_ofList, chars_of_ascii _ h]

def chars (s : String) : List Char := if isAscii s then asciiChars s else s.toList

theorem toList_eq_chars : String.toList = chars := by
  funext s
  unfold chars
  split
  · next h => exact toList_of_isAscii s h
  · rfl

/-! ### the characters of literals
A literal `"ab"` is `String.ofList ['a', 'b']` to the kernel, and the unifier solves `"ab" =?= String.ofList ?cs` the same
way: `String.toList_ofList` hands over the characters of a literal and nothing is encoded or decoded. `texts_cons` does
that along a list of literals (`repeat apply texts_cons`, then `rfl` for the empty rest, finds `L` with `texts l = L`). -/

def texts (l : List String) : List (List Char) := l.map String.toList

theorem texts_cons {cs : List Char} {ss : List String} {L : List (List Char)} (h : texts ss = L) :
    texts (String.ofList cs :: ss) = cs :: L := by
  rw [← h, texts, List.map_cons, String.toList_ofList]; rfl

theorem eq_of_texts {a b : List String} (h : texts a = texts b) : a = b :=
  (List.map_inj_right fun _ _ => String.toList_injective).mp h

/-- which of the patterns `calls` each entry of `skel` matches first: a search that reads strings only through their
characters is a search over the texts -/
theorem search_of_texts {occ : List Char → List Char → Bool} {calls skel found : List String} {C S F : List (List Char)}
    (hc : texts calls = C) (hs : texts skel = S) (hf : texts found = F)
    (h : (S.filterMap fun st => C.find? fun c => occ c st) = F) :
    (skel.filterMap fun st => calls.find? fun c => occ c.toList st.toList) = found := by
  apply eq_of_texts
  rw [hf, ← h, ← hc, ← hs]
  simp only [texts, List.filterMap_map, List.map_filterMap, List.find?_map]
  rfl

end Nsq.Proofs.AsciiString
