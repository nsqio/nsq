import Nsq.Model.LookupSync
/-! The predicates the statements of C16 are written in, and what one `Command`, one round of them and one step of
`Nsq.Model.LookupSync` do. -/
namespace Nsq.Proofs.LookupSync
open Nsq.Model.LookupSync

theorem mem_ins (k x : Key) (l : List Key) : k ∈ ins x l ↔ k = x ∨ k ∈ l := by
  unfold ins
  split
  · rename_i h
    constructor
    · intro hk; exact Or.inr hk
    · rintro (rfl | hk)
      · simpa using h
      · exact hk
  · simp

theorem mem_register (k : Key) (t c : String) (regs : List Key) :
    k ∈ register t c regs ↔ k = (t, c) ∨ k = (t, "") ∨ k ∈ regs := by
  unfold register
  split
  · rename_i h; subst h; simp [mem_ins]
  · simp [mem_ins]

theorem mem_unregister (k : Key) (t c : String) (regs : List Key) :
    k ∈ unregister t c regs ↔ k ∈ regs ∧ (if c = "" then k.1 ≠ t else k ≠ (t, c)) := by
  unfold unregister
  split <;> simp

theorem mem_applyRegisters (k : Key) (cmds regs : List Key) :
    k ∈ applyRegisters cmds regs ↔ k ∈ regs ∨ ∃ x ∈ cmds, k = x ∨ k = (x.1, "") := by
  unfold applyRegisters
  induction cmds generalizing regs with
  | nil => simp
  | cons x xs ih =>
    simp only [List.foldl_cons]
    rw [ih, mem_register]
    constructor
    · rintro ((h | h | h) | ⟨y, hy, h⟩)
      · exact Or.inr ⟨x, by simp, Or.inl (by simpa using h)⟩
      · exact Or.inr ⟨x, by simp, Or.inr h⟩
      · exact Or.inl h
      · exact Or.inr ⟨y, by simp [hy], h⟩
    · rintro (h | ⟨y, hy, h⟩)
      · exact Or.inl (Or.inr (Or.inr h))
      · rcases List.mem_cons.mp hy with rfl | hy'
        · rcases h with h | h
          · exact Or.inl (Or.inl (by simpa using h))
          · exact Or.inl (Or.inr (Or.inl h))
        · exact Or.inr ⟨y, hy', h⟩

theorem getElem?_mapOutcomes (f : Peer → Outcome → Peer) (ps : List Peer) (outs : List Outcome) (i : Nat) :
    (mapOutcomes f ps outs)[i]? = ps[i]?.map (fun p => f p (outs[i]?.getD .fail)) := by
  induction ps generalizing outs i with
  | nil => simp [mapOutcomes]
  | cons p ps ih =>
    cases outs with
    | nil =>
      cases i with
      | zero => simp [mapOutcomes]
      | succ j => simp [mapOutcomes, ih]
    | cons o os =>
      cases i with
      | zero => simp [mapOutcomes]
      | succ j => simp [mapOutcomes, ih]

theorem length_mapOutcomes (f : Peer → Outcome → Peer) (ps : List Peer) (outs : List Outcome) :
    (mapOutcomes f ps outs).length = ps.length := by
  induction ps generalizing outs with
  | nil => simp [mapOutcomes]
  | cons p ps ih => cases outs <;> simp [mapOutcomes, ih]

theorem mem_mapOutcomes {f : Peer → Outcome → Peer} {ps : List Peer} {outs : List Outcome} {q : Peer}
    (h : q ∈ mapOutcomes f ps outs) :
    ∃ (i : Nat) (p : Peer), ps[i]? = some p ∧ p ∈ ps ∧ q = f p (outs[i]?.getD .fail) := by
  obtain ⟨i, hi⟩ := List.mem_iff_getElem?.mp h
  rw [getElem?_mapOutcomes] at hi
  obtain ⟨p, hp, rfl⟩ := Option.map_eq_some_iff.mp hi
  exact ⟨i, p, hp, List.mem_of_getElem? hp, rfl⟩

theorem hasKey_iff (objs : List Ref) (t c : String) :
    hasKey objs t c = true ↔ ∃ r ∈ objs, r.topic = t ∧ r.chan = c := by
  simp [hasKey]

theorem step_some {s s' : State} {st : Step} (h : step s st = some s') :
    match st with
    | .createTopic t => (¬ ∃ r ∈ s.objs, r.topic = t ∧ r.chan = "") ∧
        s' = { s with objs := s.objs ++ [⟨t, "", s.nextGen⟩], bag := ⟨t, "", s.nextGen⟩ :: s.bag, nextGen := s.nextGen + 1 }
    | .createChan t c => c ≠ "" ∧ (∃ r ∈ s.objs, r.topic = t ∧ r.chan = "") ∧ (¬ ∃ r ∈ s.objs, r.topic = t ∧ r.chan = c) ∧
        s' = { s with objs := s.objs ++ [⟨t, c, s.nextGen⟩], bag := ⟨t, c, s.nextGen⟩ :: s.bag, nextGen := s.nextGen + 1 }
    | .delBegin r => r ∈ s.objs ∧ r ∉ s.dead ∧ s' = { s with dead := r :: s.dead, bag := r :: s.bag }
    | .delUnlink r => r ∈ s.objs ∧ r ∈ s.dead ∧
        ¬ (isTopic r && s.objs.any (fun x => !isTopic x && x.topic == r.topic)) = true ∧
        s' = { s with objs := s.objs.erase r }
    | .notify r outs => r ∈ s.bag ∧
        s' = { s with bag := s.bag.erase r, peers := (mapOutcomes (command s.objs s.dead
          (if nameLive s.objs s.dead r.topic r.chan then register r.topic r.chan else unregister r.topic r.chan))
          s.peers outs) }
    | .tick outs => s' = { s with peers := mapOutcomes (command s.objs s.dead id) s.peers outs }
    | .lookupdDrop a => s' = { s with peers := s.peers.map (fun p =>
        if p.addr == a then { p with conn := (if p.conn == .down then .down else .stale), regs := [] } else p) }
    | .addPeer a o => s' = { s with peers := s.peers ++ [command s.objs s.dead id ⟨a, .down, []⟩ o] }
    | .removePeer a => s' = { s with peers := s.peers.filter (fun p => p.addr != a) } := by
  cases st <;> simp only [step] at h ⊢
  case createTopic =>
    split at h
    · cases h
    · rename_i hk; exact ⟨fun e => hk ((hasKey_iff _ _ _).mpr e), (Option.some.inj h).symm⟩
  case createChan =>
    split at h
    · cases h
    · split at h
      · cases h
      · split at h
        · cases h
        · rename_i hc hk hk2
          exact ⟨hc, (hasKey_iff _ _ _).mp (by simpa using hk), fun e => hk2 ((hasKey_iff _ _ _).mpr e),
            (Option.some.inj h).symm⟩
  case delBegin =>
    split at h
    · cases h
    · split at h
      · cases h
      · rename_i h1 h2; exact ⟨by simpa using h1, by simpa using h2, (Option.some.inj h).symm⟩
  case delUnlink =>
    split at h
    · cases h
    · split at h
      · cases h
      · split at h
        · cases h
        · rename_i h1 h2 h3; exact ⟨by simpa using h1, by simpa using h2, h3, (Option.some.inj h).symm⟩
  case notify =>
    split at h
    · cases h
    · rename_i h1; exact ⟨by simpa using h1, (Option.some.inj h).symm⟩
  case addPeer =>
    split at h
    · cases h
    · exact (Option.some.inj h).symm
  case tick | lookupdDrop | removePeer => exact (Option.some.inj h).symm

theorem dead_mono {s s' : State} {st : Step} (h : step s st = some s') : ∀ r ∈ s.dead, r ∈ s'.dead := by
  intro r hr
  cases st with
  | createTopic t => obtain ⟨_, rfl⟩ := step_some h; exact hr
  | createChan t c => obtain ⟨_, _, _, rfl⟩ := step_some h; exact hr
  | delBegin r0 => obtain ⟨_, _, rfl⟩ := step_some h; exact List.mem_cons_of_mem _ hr
  | delUnlink r0 => obtain ⟨_, _, _, rfl⟩ := step_some h; exact hr
  | notify r0 outs => obtain ⟨_, rfl⟩ := step_some h; exact hr
  | tick outs => obtain rfl : s' = _ := step_some h; exact hr
  | lookupdDrop a => obtain rfl : s' = _ := step_some h; exact hr
  | addPeer a o => obtain rfl : s' = _ := step_some h; exact hr
  | removePeer a => obtain rfl : s' = _ := step_some h; exact hr

theorem isTopic_iff (r : Ref) : isTopic r = true ↔ r.chan = "" := by simp [isTopic]

def TopicLive (objs dead : List Ref) (t : String) : Prop :=
  ∃ T ∈ objs, T.chan = "" ∧ T.topic = t ∧ T ∉ dead

def NameLive (objs dead : List Ref) (k : Key) : Prop :=
  TopicLive objs dead k.1 ∧ (k.2 = "" ∨ ∃ r ∈ objs, r.topic = k.1 ∧ r.chan = k.2 ∧ r ∉ dead)

theorem nameLive_iff (objs dead : List Ref) (t c : String) :
    nameLive objs dead t c = true ↔ NameLive objs dead (t, c) := by
  simp only [nameLive, NameLive, TopicLive, Bool.and_eq_true, List.any_eq_true, Bool.or_eq_true, beq_iff_eq,
    Bool.not_eq_true', isTopic]
  constructor
  · rintro ⟨⟨T, hT, ⟨h1, h2⟩, h3⟩, h⟩
    refine ⟨⟨T, hT, h1, h2, by simpa using h3⟩, ?_⟩
    rcases h with h | ⟨r, hr, ⟨h4, h5⟩, h6⟩
    · exact Or.inl h
    · exact Or.inr ⟨r, hr, h4, h5, by simpa using h6⟩
  · rintro ⟨⟨T, hT, h1, h2, h3⟩, h⟩
    refine ⟨⟨T, hT, ⟨h1, h2⟩, by simpa using h3⟩, ?_⟩
    rcases h with h | ⟨r, hr, h4, h5, h6⟩
    · exact Or.inl h
    · exact Or.inr ⟨r, hr, ⟨h4, h5⟩, by simpa using h6⟩

def ObjLive (objs dead : List Ref) (k : Key) : Prop := ∃ x ∈ objs, x.key = k ∧ x ∉ dead

theorem nameLive_iff_objLive (objs dead : List Ref) (k : Key) :
    NameLive objs dead k ↔ ObjLive objs dead (k.1, "") ∧ ObjLive objs dead k := by
  constructor
  · rintro ⟨⟨T, hT, hc, ht, hd⟩, h⟩
    refine ⟨⟨T, hT, Prod.ext ht hc, hd⟩, ?_⟩
    rcases h with h | ⟨x, hx, h1, h2, h3⟩
    · exact ⟨T, hT, Prod.ext ht (hc.trans h.symm), hd⟩
    · exact ⟨x, hx, Prod.ext h1 h2, h3⟩
  · rintro ⟨⟨T, hT, hk, hd⟩, x, hx, hxk, hxd⟩
    exact ⟨⟨T, hT, congrArg Prod.snd hk, congrArg Prod.fst hk, hd⟩,
      Or.inr ⟨x, hx, congrArg Prod.fst hxk, congrArg Prod.snd hxk, hxd⟩⟩

theorem command_up {objs dead : List Ref} {apply : List Key → List Key} {p : Peer} {o : Outcome}
    (h : (command objs dead apply p o).conn = .up) :
    (p.conn = .up ∧ (command objs dead apply p o).regs = apply p.regs) ∨
      (command objs dead apply p o).regs = apply (callbackRegs objs dead) := by
  unfold command at h ⊢
  cases hc : p.conn <;> cases o <;> simp_all

/-- `connectCallback` registers exactly the live names: every command of a live topic `T` names `T` and a live channel of
it (or `T` alone when it has none), and `REGISTER` adds the topic key each time. -/
theorem mem_callbackRegs (objs dead : List Ref) (k : Key) :
    k ∈ callbackRegs objs dead ↔ NameLive objs dead k := by
  rw [nameLive_iff_objLive]
  unfold callbackRegs callbackCmds
  simp only [mem_applyRegisters, List.not_mem_nil, false_or, List.mem_flatMap, List.mem_filter]
  constructor
  · rintro ⟨x, ⟨T, ⟨hT, hc⟩, hx⟩, hk⟩
    simp [isTopic] at hc
    have hTl : ObjLive objs dead (T.topic, "") := ⟨T, hT, Prod.ext rfl hc.1, hc.2⟩
    split at hx
    · obtain rfl : x = (T.topic, "") := List.mem_singleton.mp hx
      obtain rfl : k = (T.topic, "") := hk.elim id id
      exact ⟨hTl, hTl⟩
    · simp only [List.mem_map, List.mem_filter] at hx
      obtain ⟨r, ⟨hr, hcond⟩, rfl⟩ := hx
      simp [isTopic] at hcond
      rcases hk with rfl | rfl
      · exact ⟨hTl, r, hr, Prod.ext hcond.1.2 rfl, hcond.2⟩
      · exact ⟨hTl, hTl⟩
  · rintro ⟨⟨T, hT, hTk, hTd⟩, y, hy, hyk, hyd⟩
    have hTc : T.chan = "" := congrArg Prod.snd hTk
    have hTt : k.1 = T.topic := (congrArg Prod.fst hTk).symm
    have hyt : y.topic = T.topic := (congrArg Prod.fst hyk).trans hTt
    have hyc : k.2 = y.chan := (congrArg Prod.snd hyk).symm
    have hTm : T ∈ objs ∧ (isTopic T && !dead.contains T) = true := ⟨hT, by simp [isTopic, hTc, hTd]⟩
    by_cases hemp : (objs.filter (fun r => !isTopic r && r.topic == T.topic && !dead.contains r)).isEmpty = true
    · refine ⟨(T.topic, ""), ⟨T, hTm, by rw [if_pos hemp]; exact List.mem_singleton.mpr rfl⟩, Or.inl (Prod.ext hTt ?_)⟩
      -- `T` has no live channel, so `k` is its topic key
      rw [List.isEmpty_iff, List.filter_eq_nil_iff] at hemp
      have := hemp y hy
      simp [isTopic, hyd, hyt] at this
      exact hyc.trans this
    · by_cases hc : k.2 = ""
      · obtain ⟨r, hr⟩ := List.isEmpty_eq_false_iff_exists_mem.mp (Bool.eq_false_iff.mpr hemp)
        exact ⟨(T.topic, r.chan), ⟨T, hTm, by rw [if_neg hemp]; exact List.mem_map.mpr ⟨r, hr, rfl⟩⟩,
          Or.inr (Prod.ext hTt hc)⟩
      · have hym : y ∈ objs.filter (fun r => !isTopic r && r.topic == T.topic && !dead.contains r) := by
          have : y.chan ≠ "" := fun e => hc (hyc.trans e)
          simp [List.mem_filter, hy, isTopic, this, hyd, hyt]
        exact ⟨(T.topic, y.chan), ⟨T, hTm, by rw [if_neg hemp]; exact List.mem_map.mpr ⟨y, hym, rfl⟩⟩,
          Or.inl (Prod.ext hTt hyc)⟩

theorem run_cons {s s' : State} {st : Step} {rest : List Step} :
    run s (st :: rest) = some s' ↔ ∃ s1, step s st = some s1 ∧ run s1 rest = some s' := by
  simp only [run]
  cases step s st <;> simp

theorem run_append (s : State) (xs ys : List Step) :
    run s (xs ++ ys) = (run s xs).bind (fun s1 => run s1 ys) := by
  induction xs generalizing s with
  | nil => simp [run]
  | cons x xs ih =>
    simp only [List.cons_append, run]
    cases step s x with
    | none => simp
    | some s1 => simp [ih]

end Nsq.Proofs.LookupSync
