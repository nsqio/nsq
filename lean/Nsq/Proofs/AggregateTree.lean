import Nsq.Proofs.AggregateSafe
import Nsq.Proofs.AggregateChannels
import Nsq.Proofs.AggregateFetch
/-!
The committed tree `Fixes.tree` (= `Fixes.all` with the switch of the reverted F58 off) and `Fixes.all` agree on every
function of the view model except the `?inactive=true` handler (`inactiveStep` / `inactiveGo` / `topicsInactiveView`),
the only place that reads `Fixes.inactiveErrs`. Hence every theorem stated for `Fixes.all` about any other function or
view is a theorem about the committed tree (rewrite with the `*_tree` equations), and
`view Fixes.tree w q = view Fixes.all w q` for every request `q ≠ .topicsInactive` (`Props.C18.tree_view_eq_all`). The
inactive handler of the committed tree: `AggregateChannels.inactiveGo_spec` (in `Proofs/AggregateInactive`).
-/
namespace Nsq.Proofs.AggregateTree
open Nsq.Model.Aggregate Nsq.Proofs.AggregateSafe Nsq.Proofs.AggregateChannels Nsq.Proofs.AggregateFetch

/-! Both trees have the guards (`Guards.tree`, `Guards.all`), and a fetch function of a guarded tree is its closed form
whatever the switch of F58 says. -/

theorem lookupdProducers_tree (ls : List Lookupd) : lookupdProducers Fixes.tree ls = lookupdProducers Fixes.all ls := by
  rw [AggregateProducers.lookupdProducers_eq rfl rfl, AggregateProducers.lookupdProducers_eq rfl rfl]

theorem lookupdTopicProducers_tree (ls : List Lookupd) :
    lookupdTopicProducers Fixes.tree ls = lookupdTopicProducers Fixes.all ls := by
  rw [AggregateProducers.lookupdTopicProducers_eq rfl rfl, AggregateProducers.lookupdTopicProducers_eq rfl rfl]

theorem getTopicProducers_tree (w : World) (topic : String) :
    getTopicProducers Fixes.tree w topic = getTopicProducers Fixes.all w topic := by
  simp only [getTopicProducers, lookupdTopicProducers_tree]

theorem nsqdStats_tree (w : World) (ps : List Producer) (sel selc : String) (incl : Bool) :
    nsqdStats Fixes.tree w ps sel selc incl = nsqdStats Fixes.all w ps sel selc incl := by
  rw [nsqdStats_eq Guards.tree, nsqdStats_eq Guards.all]

theorem getProducers_tree (w : World) : getProducers Fixes.tree w = getProducers Fixes.all w := by
  simp only [getProducers, lookupdProducers_tree]

/-! The functions of the topic handler can fault on any tree (a `nodes` member in an aggregate); they do not read
`inactiveErrs`, so once the other switches are evaluated the two sides are the same recursive program and each equation is
checked by unfolding. (`smartUnfolding`, which makes the elaborator wait for a constructor before it unfolds a structural
recursion, is off: the lists are variables, and it is the two recursor bodies that are compared.) -/
section
set_option smartUnfolding false

theorem tombAt_tree : tombAt Fixes.tree = tombAt Fixes.all := rfl

theorem chanAgg_add_tree (c : ChanAgg) (a : ChanNode) : c.add Fixes.tree a = c.add Fixes.all a := rfl

theorem pctDecodes_tree : pctDecodes Fixes.tree = pctDecodes Fixes.all := rfl

theorem addAll_tree (as : List TopicNode) : ∀ t, TopicAgg.addAll Fixes.tree as t = TopicAgg.addAll Fixes.all as t :=
  fun _ => rfl

end

theorem topicView_tree (w : World) (name : String) : topicView Fixes.tree w name = topicView Fixes.all w name := by
  simp only [topicView, getTopicProducers_tree, nsqdStats_tree, addAll_tree]

theorem channelView_tree (w : World) (topic chan : String) :
    channelView Fixes.tree w topic chan = channelView Fixes.all w topic chan := by
  simp only [channelView, getTopicProducers_tree, nsqdStats_tree]; rfl

theorem nodesView_tree (w : World) : nodesView Fixes.tree w = nodesView Fixes.all w := by
  simp only [nodesView, getProducers_tree]

theorem nodeView_tree (w : World) (addr : String) : nodeView Fixes.tree w addr = nodeView Fixes.all w addr := by
  simp only [nodeView, getProducers_tree, nsqdStats_tree]

theorem counterView_tree (w : World) : counterView Fixes.tree w = counterView Fixes.all w := by
  simp only [counterView, getProducers_tree, nsqdStats_tree]

end Nsq.Proofs.AggregateTree
