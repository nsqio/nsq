import Nsq.Model.Latency
/-!
`E2eProcessingLatencyAggregate`: `unmarshal` in closed form with and without the F53 guard (`unmarshal_fixed`,
`unmarshal_unfixed`); an aggregate without a nil map (`AllSome`) stays one under `Add`, which only reads the other side
(`add_spec`, `addAll_spec`, with the keys of the result).
-/
namespace Nsq.Proofs.Latency
open Nsq.Model.Latency

/-- No nil map in the slice. -/
def AllSome (p : List Pct) : Prop := ∀ x ∈ p, x ≠ none

theorem allSome_nil : AllSome [] := by intro x hx; cases hx

theorem allSome_tail {x : Pct} {xs : List Pct} (h : AllSome (x :: xs)) : AllSome xs :=
  fun y hy => h y (List.mem_cons_of_mem _ hy)

theorem allSome_cons_some (q : Nat) {xs : List Pct} (h : AllSome xs) : AllSome (some q :: xs) := by
  intro y hy
  cases hy with
  | head => simp
  | tail _ hy => exact h y hy

theorem unmarshal_fixed (l : List Pct) : unmarshal true l = .ok (l.filter (·.isSome)) := by
  induction l with
  | nil => rfl
  | cons x xs ih =>
    cases x with
    | none => simp [unmarshal, ih]
    | some q => simp [unmarshal, ih]

theorem filter_allSome (l : List Pct) : AllSome (l.filter (·.isSome)) := by
  intro x hx
  have := (List.mem_filter.mp hx).2
  cases x with
  | none => simp at this
  | some q => simp

/-- before F53 the first nil map is written to: one fault, whatever the document, and otherwise the document as it is -/
theorem unmarshal_unfixed : ∃ e, ∀ l, unmarshal false l = if none ∈ l then .error e else .ok l := by
  refine ⟨.nilMapWrite "E2eProcessingLatencyAggregate.UnmarshalJSON p[\"min\"]", fun l => ?_⟩
  induction l with
  | nil => rfl
  | cons x xs ih =>
    cases x with
    | none => simp [unmarshal]
    | some q => by_cases h : none ∈ xs <;> simp [unmarshal, ih, h]

theorem addOne_spec (p : List Pct) (k : Nat) (h : AllSome p) :
    ∃ r, addOne p k = .ok r ∧ AllSome r ∧
      r.map key = (if k ∈ p.map key then p.map key else p.map key ++ [k]) := by
  induction p with
  | nil => exact ⟨[some k], rfl, allSome_cons_some k allSome_nil, by simp [key]⟩
  | cons x xs ih =>
    cases x with
    | none => exact absurd rfl (h none (by simp))
    | some q =>
      obtain ⟨r, hr, hs, hk⟩ := ih (allSome_tail h)
      by_cases hq : q = k
      · subst hq
        exact ⟨some q :: xs, by simp [addOne], h, by simp [key]⟩
      · refine ⟨some q :: r, by simp [addOne, hq, hr], allSome_cons_some q hs, ?_⟩
        have hkq : ¬ k = q := fun e => hq e.symm
        by_cases hm : k ∈ xs.map key
        · simp [key, hk, hm]
        · simp only [List.map_cons, key, hk, hm, if_false, List.mem_cons, hkq, false_or,
            List.cons_append]

/-- `Add` never writes to a nil map when the aggregate holds none, whatever `e2` holds: its entries are only read. -/
theorem add_spec (e2 : List Pct) : ∀ (p : List Pct), AllSome p →
    ∃ r, add p e2 = .ok r ∧ AllSome r ∧
      (∀ k, k ∈ r.map key ↔ k ∈ p.map key ∨ k ∈ e2.map key) ∧
      ((p.map key).Nodup → (r.map key).Nodup) ∧
      (∃ ext, r.map key = p.map key ++ ext) := by
  induction e2 with
  | nil =>
    intro p h
    exact ⟨p, rfl, h, by simp, id, ⟨[], by simp⟩⟩
  | cons v rest ih =>
    intro p h
    obtain ⟨p1, h1, hs1, hk1⟩ := addOne_spec p (key v) h
    obtain ⟨r, hr, hsr, hmem, hnd, ⟨ext, hext⟩⟩ := ih p1 hs1
    refine ⟨r, by simp [add, h1, hr], hsr, ?_, ?_, ?_⟩
    · intro k
      -- `addOne` adds exactly `key v` to the keys
      have h1k : k ∈ p1.map key ↔ k ∈ p.map key ∨ k = key v := by
        rw [hk1]
        split
        · next hm => exact ⟨.inl, fun h => h.elim id (· ▸ hm)⟩
        · simp
      rw [hmem k, h1k, List.map_cons, List.mem_cons, or_assoc]
    · intro hp
      apply hnd
      rw [hk1]
      by_cases hm : key v ∈ p.map key
      · simpa [hm] using hp
      · simp only [hm, if_false]
        rw [List.nodup_append]
        refine ⟨hp, by simp, ?_⟩
        intro a ha b hb
        simp only [List.mem_singleton] at hb
        subst hb
        intro e; subst e; exact hm ha
    · rw [hext, hk1]
      by_cases hm : key v ∈ p.map key
      · exact ⟨ext, by simp [hm]⟩
      · exact ⟨[key v] ++ ext, by simp [hm]⟩

theorem addAll_spec (ds : List (List Pct)) : ∀ (p : List Pct), AllSome p →
    ∃ r, addAll p ds = .ok r ∧ AllSome r ∧
      (∀ k, k ∈ r.map key ↔ k ∈ p.map key ∨ ∃ d ∈ ds, k ∈ d.map key) ∧
      ((p.map key).Nodup → (r.map key).Nodup) := by
  induction ds with
  | nil =>
    intro p h
    exact ⟨p, rfl, h, by simp, id⟩
  | cons d rest ih =>
    intro p h
    obtain ⟨p1, h1, hs1, hm1, hn1, _⟩ := add_spec d p h
    obtain ⟨r, hr, hsr, hmem, hnd⟩ := ih p1 hs1
    refine ⟨r, by simp [addAll, h1, hr], hsr, ?_, fun hp => hnd (hn1 hp)⟩
    intro k
    rw [hmem k, hm1 k, or_assoc]
    simp only [List.mem_cons, exists_eq_or_imp]

theorem decodeAll_fixed (docs : List (List Pct)) :
    decodeAll true docs = .ok (docs.map (fun d => d.filter (·.isSome))) := by
  induction docs with
  | nil => rfl
  | cons d rest ih => simp [decodeAll, unmarshal_fixed, ih]

theorem decodeAll_unfixed : ∃ e, ∀ docs, decodeAll false docs = if none ∈ docs.flatten then .error e else .ok docs := by
  obtain ⟨e, he⟩ := unmarshal_unfixed
  refine ⟨e, fun docs => ?_⟩
  induction docs with
  | nil => rfl
  | cons d rest ih =>
    simp only [decodeAll, he, ih, List.flatten_cons, List.mem_append]
    by_cases hd : none ∈ d
    · simp only [hd, if_true, true_or]
    · by_cases hr : none ∈ rest.flatten <;> simp only [hd, hr, if_true, if_false, false_or, or_self]

theorem mem_keys_filter (d : List Pct) (k : Nat) :
    k ∈ (d.filter (·.isSome)).map key ↔ some k ∈ d := by
  constructor
  · intro h
    obtain ⟨x, hx, hk⟩ := List.mem_map.mp h
    obtain ⟨hxd, hs⟩ := List.mem_filter.mp hx
    cases x with
    | none => simp at hs
    | some q => simp only [key] at hk; subst hk; exact hxd
  · intro h
    exact List.mem_map.mpr ⟨some k, List.mem_filter.mpr ⟨h, rfl⟩, rfl⟩

end Nsq.Proofs.Latency
