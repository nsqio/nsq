/-
The invariant of the *atomic* model: on top of `Inv`, every connected client's
`InFlightCount` is exactly the number of messages it holds (so it is never negative), equals the
consumer-side bookkeeping `outstanding`, never exceeds the RDY value at its last delivery, and
every delivery in the history satisfied the guard.  Preserved by every atomic operation
(`Op.atomic`: neither half of a split FIN, so that none lies around a `Channel.Empty` (window F8), nor of the split pump).

The in-flight equation is `InFl` of `Nsq.Proofs.ChanInFl` (all schedules) with an empty FIN window; what is proved here on top
of `Inv` and `InFl` is `AOnly`, which reads the clients and the history and not the messages.
-/
import Nsq.Proofs.ChanInFl
namespace Nsq.Proofs.Chan
open Nsq.Model.Chan

def ClOkA (maxRdy : Int) (msgs : List Entry) (h : List Ev) (cl : Client) : Prop :=
  cl.inFlight = (heldBy msgs cl.conn : Int) ∧ cl.finCount = nFinBy h cl.conn ∧ cl.rdy ≤ maxRdy ∧
  cl.inFlight ≤ cl.lgr ∧ (cl.decr = false → cl.lgr ≤ cl.rdy)

structure InvA (conf : Conf) (c : Chan) : Prop where
  inv : Inv 0 c
  pend : c.pendingFin = []
  okh3 : okHist3 conf.maxRdy c.hist = true
  clA : ∀ cl ∈ c.clients, ClOkA conf.maxRdy c.msgs c.hist cl

theorem heldBy_nonneg (l : List Entry) (k : Nat) : (0 : Int) ≤ heldBy l k := Int.natCast_nonneg _

def ClRest (maxRdy : Int) (h : List Ev) (cl : Client) : Prop :=
  cl.finCount = nFinBy h cl.conn ∧ cl.rdy ≤ maxRdy ∧ cl.inFlight ≤ cl.lgr ∧ (cl.decr = false → cl.lgr ≤ cl.rdy)

def AOnly (conf : Conf) (c : Chan) : Prop :=
  c.pendingFin = [] ∧ okHist3 conf.maxRdy c.hist = true ∧ ∀ cl ∈ c.clients, ClRest conf.maxRdy c.hist cl

theorem InvA.aonly {conf : Conf} {c : Chan} (h : InvA conf c) : AOnly conf c :=
  ⟨h.pend, h.okh3, fun cl hcl => (h.clA cl hcl).2⟩

theorem InvA.inFl {conf : Conf} {c : Chan} (h : InvA conf c) : InFl c := by
  intro cl hcl
  simp only [(h.clA cl hcl).1, h.pend, List.count_nil, Int.natCast_zero, Int.add_zero]

theorem InvA.of {conf : Conf} {c : Chan} (h : Inv 0 c) (f : InFl c) (a : AOnly conf c) : InvA conf c :=
  ⟨h, a.1, a.2.1, fun cl hcl =>
    ⟨by simpa only [a.1, List.count_nil, Int.natCast_zero, Int.add_zero] using f cl hcl, a.2.2 cl hcl⟩⟩

theorem InvA.counters {conf : Conf} {c : Chan} (h : InvA conf c) {cl : Client} (hcl : cl ∈ c.clients) :
    cl.rdy = rdyOf c.hist cl.conn ∧ (cl.closing = true → cl.rdy = 0) ∧
    cl.msgCount = nDeliverBy c.hist cl.conn ∧ cl.finCount = nFinBy c.hist cl.conn ∧
    cl.reqCount = nReqBy c.hist cl.conn ∧
    cl.inFlight = (heldBy c.msgs cl.conn : Int) ∧ cl.inFlight = outstanding c.hist cl.conn :=
  have h1 := h.inv.cl cl hcl
  have h2 := h.clA cl hcl
  ⟨h1.2.2.1, h1.2.2.2.2.2, h1.1, h2.2.1, h1.2.1, h2.1, by rw [h.inv.held]; exact h2.1⟩

theorem InvA.nonneg {conf : Conf} {c : Chan} (h : InvA conf c) {cl : Client} (hcl : cl ∈ c.clients) :
    0 ≤ cl.inFlight ∧ 0 ≤ cl.rdy ∧ cl.rdy ≤ conf.maxRdy :=
  ⟨by rw [(h.clA cl hcl).1]; exact heldBy_nonneg _ _, (h.inv.cl cl hcl).2.2.2.2.1, (h.clA cl hcl).2.2.1⟩

theorem aonly_removeC {conf : Conf} {c : Chan} (h : AOnly conf c) (k : Nat) :
    AOnly conf { c with clients := removeC c.clients k } :=
  ⟨h.1, h.2.1, fun cl hcl => h.2.2 cl (mem_removeC.1 hcl).1⟩

/-- `Channel.put` touches neither the clients nor the FIN window, and an `ephDrop` event is none of those `okHist3` and `nFinBy` read -/
theorem aonly_enqueue {conf : Conf} {c : Chan} (h : AOnly conf c) (x : Nat) : AOnly conf (enqueue c x) := by
  rcases enqueue_cases c x with ⟨_, h'⟩ | ⟨_, _, h'⟩ | ⟨_, _, h'⟩ <;> rw [h'] <;> exact h

theorem clRest_lower {maxRdy : Int} {h : List Ev} {cl cl' : Client} (h0 : ClRest maxRdy h cl)
    (hf : cl'.conn = cl.conn ∧ cl'.inFlight ≤ cl.inFlight ∧ cl'.finCount = cl.finCount ∧ cl'.rdy = cl.rdy ∧
      cl'.lgr = cl.lgr ∧ cl'.decr = cl.decr) : ClRest maxRdy h cl' := by
  obtain ⟨f1, f2, f3, f4, f5, f6⟩ := hf
  simp only [ClRest, f1, f3, f4, f5, f6]
  exact ⟨h0.1, h0.2.1, by have := h0.2.2.1; omega, h0.2.2.2⟩

theorem eff_aonly {conf : Conf} (hconf : 0 ≤ conf.maxRdy) {c c' : Chan} {op : Op} {o : Out} (h : InvA conf c)
    (he : Eff conf c op c' o) (hat : op.atomic = true) : AOnly conf c' := by
  have ha := h.aonly
  cases he with
  | finChan | finClient | guardOk | guardNo | deliverArmed => cases hat
  | put id env hf hn =>
    refine aonly_enqueue ?_ _
    exact ha
  | putDeferred | sampleDrop | touch | pause | unpause | resplit | rdyIgnored => exact ha
  | addClient k mt sm hc hh hp =>
    have hfresh := hasC_false.1 hc
    refine ⟨ha.1, ha.2.1, ?_⟩
    intro cl hcl
    rcases List.mem_cons.1 hcl with rfl | hcl
    · simp [ClRest, nFinBy, hconf]
    · have := ha.2.2 cl hcl
      simp only [ClRest, nFinBy, Ne.symm (hfresh cl hcl), if_false] at this ⊢
      exact this
  | removeClient k | rdyFatal k | clsFatal k => exact aonly_removeC ha k
  | rdy k n cl hc hcl h0 h1 =>
    obtain ⟨hmem, hconn⟩ := findC_some hc
    refine ⟨ha.1, ?_, ?_⟩
    · have hcl' := (h.inv.cl cl hmem).2.2.2.1
      simp only [okHist3, okEv3, h.okh3, Bool.and_true, Bool.and_eq_true, Bool.not_eq_true', decide_eq_true_eq]
      exact ⟨⟨by rw [← hconn, ← hcl', hcl], h0⟩, h1⟩
    · exact forall_updC ha.2.2
        (fun cl0 _ hk h0 => by
          simp only [ClRest, nFinBy] at h0 ⊢
          refine ⟨h0.1, h1, h0.2.2.1, fun hd => ?_⟩
          simp only [Bool.or_eq_false_iff, decide_eq_false_iff_not, Int.not_lt] at hd
          have := h0.2.2.2 hd.1
          omega)
        (fun _ _ _ h0 => h0)
  | cls k cl hc hcl =>
    refine ⟨ha.1, ha.2.1, forall_updC ha.2.2
      (fun cl0 _ hk h0 => by
        simp only [ClRest, nFinBy] at h0 ⊢
        refine ⟨h0.1, hconf, h0.2.2.1, fun hd => ?_⟩
        simp only [Bool.or_eq_false_iff, decide_eq_false_iff_not, Int.not_lt] at hd
        have := h0.2.2.2 hd.1
        omega)
      (fun _ _ _ h0 => h0)⟩
  | deliver k now cl e hc hr hf hq =>
    -- the guard of the model is the guard of `okEv3`, read through `Inv` (`rdy`, `paused`, `held`) and `InFl`
    obtain ⟨hmem, hconn⟩ := findC_some hc
    obtain ⟨hp, hr0, hr1⟩ := ready_iff.1 hr
    have hcl := h.inv.cl cl hmem
    unfold delivered
    refine ⟨ha.1, ?_, ?_⟩
    · simp only [okHist3, okEv3, h.okh3, Bool.and_true, Bool.and_eq_true, decide_eq_true_eq, Bool.not_eq_true']
      rw [← hconn, ← hcl.2.2.1, h.inv.held, ← (h.clA cl hmem).1, ← h.inv.paused]
      exact ⟨⟨hr0, hr1⟩, hp⟩
    · exact forall_updC ha.2.2
        (fun cl0 hcl0 hk h0 => by
          have : cl0 = cl := eq_of_conn_eq h.inv.cnodup hcl0 hmem (hk.trans hconn.symm)
          subst this
          simp only [ClRest, nFinBy] at h0 ⊢
          exact ⟨h0.1, h0.2.1, by omega, fun _ => Int.le_refl _⟩)
        (fun _ _ _ h0 => h0)
  | fin k e p d hc hf hl =>
    refine ⟨ha.1, ha.2.1, ?_⟩
    show ∀ cl ∈ updC c.clients k _, ClRest conf.maxRdy (Ev.finOk k e.id :: c.hist) cl
    exact forall_updC ha.2.2
      (fun cl0 _ hk h0 => by
        simp only [ClRest, nFinBy, hk, if_true] at h0 ⊢
        exact ⟨by omega, h0.2.1, by omega, h0.2.2.2⟩)
      (fun cl0 _ hk h0 => by
        simp only [ClRest, nFinBy, Ne.symm hk, if_false, Nat.add_zero] at h0 ⊢
        exact h0)
  | reqNow k now e p d hc hf hl =>
    refine aonly_enqueue ?_ _
    refine ⟨ha.1, ha.2.1, ?_⟩
    exact forall_updC ha.2.2 (fun _ _ _ h0 => clRest_lower h0 ⟨rfl, by simp only; omega, rfl, rfl, rfl, rfl⟩)
      (fun _ _ _ h0 => h0)
  | reqLater k delay now e p d hc hf hl hd =>
    refine ⟨ha.1, ha.2.1, ?_⟩
    exact forall_updC ha.2.2 (fun _ _ _ h0 => clRest_lower h0 ⟨rfl, by simp only; omega, rfl, rfl, rfl, rfl⟩)
      (fun _ _ _ h0 => h0)
  | scanInFlight t =>
    exact scanInFlight_rel (R := fun a b => AOnly conf a → AOnly conf b) (fun _ h => h) (fun f g h => g (f h))
      (fun _ x h => aonly_enqueue h x)
      (fun _ _ _ h => ⟨h.1, h.2.1, forall_updC h.2.2
        (fun _ _ _ h0 => clRest_lower h0 ⟨rfl, by simp only [decIn]; omega, rfl, rfl, rfl, rfl⟩) (fun _ _ _ h0 => h0)⟩) _ c ha
  | scanDeferred t =>
    exact scanDeferred_rel (R := fun a b => AOnly conf a → AOnly conf b) (fun _ h => h) (fun f g h => g (f h))
      (fun _ x h => aonly_enqueue h x) (fun _ _ h => h) _ c ha
  | empty =>
    refine ⟨ha.1, ha.2.1, ?_⟩
    intro cl hcl
    obtain ⟨cl0, hcl0, rfl⟩ := List.mem_map.1 hcl
    exact clRest_lower (ha.2.2 cl0 hcl0)
      ⟨rfl, by have := heldBy_nonneg c.msgs cl0.conn; simp only; omega, rfl, rfl, rfl, rfl⟩

theorem step_invA (conf : Conf) (hconf : 0 ≤ conf.maxRdy) {c : Chan} (h : InvA conf c) (op : Op)
    (hat : op.atomic = true) : InvA conf (step conf c op).1 :=
  InvA.of (step_inv conf h.inv op) (step_inFl conf h.inv h.inFl op)
    (step_keeps h.aonly (fun he => eff_aonly hconf h he hat))

theorem invA_init (conf : Conf) (eph : Bool) (cap : Nat) : InvA conf { ephemeral := eph, memCap := cap } :=
  ⟨inv_init eph cap, rfl, rfl, by simp⟩

theorem run_invA (conf : Conf) (hconf : 0 ≤ conf.maxRdy) (ops : List Op) (hat : ∀ op ∈ ops, op.atomic = true)
    {c : Chan} (hi : InvA conf c) : InvA conf (run conf c ops) :=
  run_keeps (P := InvA conf) conf ops (fun _ op ho h => step_invA conf hconf h op (hat op ho)) hi

/-! The executable invariant `invOk` / `invOkA` (evaluated by the driver) is implied by the proved invariant `Inv` /
`InvA`: a state on which `invOk` fails is outside the set the theorems speak about. -/

theorem nodupB_iff (l : List Nat) : nodupB l = true ↔ l.Nodup := by
  induction l with
  | nil => simp [nodupB]
  | cons x xs ih => simp [nodupB, ih, List.nodup_cons]

theorem invOk_of_inv {c : Chan} (h : Inv 0 c) : invOk c = true := by
  unfold invOk
  simp only [Bool.and_eq_true, beq_iff_eq, decide_eq_true_eq, List.all_eq_true, Bool.or_eq_true, Bool.not_eq_true']
  have hcount := h.counts
  refine ⟨⟨⟨⟨⟨⟨⟨⟨⟨⟨⟨⟨⟨?_, ?_⟩, ?_⟩, h.okh⟩, by omega⟩, h.memcap⟩, ?_⟩, h.mcF⟩, h.mcL⟩, h.rq⟩, h.to⟩, ?_⟩, h.paused⟩, ?_⟩
  · exact (nodupB_iff _).2 h.core.nodup
  · intro e he
    exact h.core.agree e he
  · intro i _
    cases hl : (status c.hist i).located
    · exact Or.inr rfl
    · left
      exact hasId_iff.2 (h.core.absent i hl)
  · cases he : c.ephemeral
    · exact Or.inl rfl
    · exact Or.inr (h.eph he)
  · exact (nodupB_iff _).2 h.cnodup
  · intro cl hcl
    obtain ⟨h1, h2, h3, h4, h5, h6⟩ := h.cl cl hcl
    refine ⟨⟨⟨⟨⟨h1, h2⟩, h3⟩, h4⟩, h5⟩, ?_⟩
    cases hc : cl.closing
    · exact Or.inl rfl
    · exact Or.inr (h6 hc)

theorem invOkA_of_invA {conf : Conf} {c : Chan} (h : InvA conf c) : invOkA conf c = true := by
  unfold invOkA
  simp only [Bool.and_eq_true, beq_iff_eq, decide_eq_true_eq, List.all_eq_true, Bool.or_eq_true, List.isEmpty_iff]
  refine ⟨⟨⟨invOk_of_inv h.inv, h.pend⟩, h.okh3⟩, ?_⟩
  intro cl hcl
  obtain ⟨h1, h2, h3, h4, h5⟩ := h.clA cl hcl
  refine ⟨⟨⟨⟨⟨h1, by rw [h.inv.held]; exact h1⟩, h2⟩, h3⟩, h4⟩, ?_⟩
  cases hd : cl.decr
  · exact Or.inr (h5 hd)
  · exact Or.inl rfl

end Nsq.Proofs.Chan
