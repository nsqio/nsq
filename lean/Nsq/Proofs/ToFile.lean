import Nsq.Proofs.ToFileTrack
/-!
Invariant of the `ToFile` router model — every FINished message is durably in a named file — kept by every `Act`.
A pending message is durable or written to the open file; the hypotheses `Synced` / `Closed`
of the acts that end that state (`fin`, `close`, the opens) turn "written" into "durable" (`Inv.allDur`).
-/
namespace Nsq.Proofs.ToFile
open Nsq.Model.ToFile Nsq.Proofs.ToFileLines Nsq.Proofs.ToFileTrack

variable {c : Cfg} {io : Nat → Fault}

def DurS (fs : FS) (l : Bytes) : Prop := ∃ p f, fs.get p = some f ∧ Dur f l

def PendOk (c : Cfg) (st : St) (m : Msg) : Prop :=
  DurS st.fs (line m) ∨
  (st.hasOut = true ∧ st.outOpen = true ∧ ∃ f, st.fs.get st.outPath = some f ∧ Wr c.gzip f (line m))

structure Inv (c : Cfg) (st : St) : Prop where
  fin : ∀ m ∈ st.finished, DurS st.fs (line m)
  pend : st.status = .running → ∀ m ∈ st.pending, PendOk c st m
  wd : c.workDir = true → st.hasOut = true → st.outPath.out = false

def AllDur (st : St) : Prop := st.status = .running → ∀ m ∈ st.pending, DurS st.fs (line m)

theorem Inv.dead {st s' : St} (h : Inv c st) (hd : Dead st s') : Inv c s' := by
  obtain ⟨hs, hfs, hfin, hho, hop⟩ := hd
  exact ⟨by rw [hfin, hfs]; exact h.fin, fun hr => absurd hr hs, by rw [hho, hop]; exact h.wd⟩

theorem DurS_grown {fs fs' : FS} {l : Bytes} (h : Grown c fs fs') (hd : DurS fs l) : DurS fs' l := by
  obtain ⟨p, f, hp, hd⟩ := hd
  obtain ⟨q, f', hq, hle, _⟩ := h p f hp
  exact ⟨q, f', hq, Dur_mono hle hd⟩

theorem Inv.allDur {st : St} (hi : Inv c st) (h : Synced c st ∨ Closed st) : AllDur st := by
  intro hr m hm
  rcases hi.pend hr m hm with hd | ⟨hho, hoo, f, hf, hw⟩
  · exact hd
  · rcases h with hs | hcl
    · exact ⟨_, f, hf, hw.dur (hs f hf).1 (hs f hf).2⟩
    · exact (hcl.not_open hho hoo).elim

theorem Inv.settle {st : St} {fs' : FS} {ho oo : Bool} {q : Path} (hi : Inv c st) (ha : AllDur st) (hg : Grown c st.fs fs')
    (hwd : c.workDir = true → ho = true → q.out = false) :
    Inv c { st with fs := fs', hasOut := ho, outOpen := oo, outPath := q } :=
  ⟨fun m hm => DurS_grown hg (hi.fin m hm), fun hr m hm => Or.inl (DurS_grown hg (ha hr m hm)), hwd⟩

theorem Inv.grow {st : St} {fs' : FS} (hi : Inv c st) (hle : FSLe st.fs fs') : Inv c { st with fs := fs' } := by
  have hg : Grown c st.fs fs' := hle.grown
  refine ⟨fun m hm => DurS_grown hg (hi.fin m hm), fun hr m hm => ?_, hi.wd⟩
  rcases hi.pend hr m hm with hd | ⟨hho, hoo, f, hf, hw⟩
  · exact Or.inl (DurS_grown hg hd)
  · obtain ⟨f', hf', hle'⟩ := hle _ f hf
    exact Or.inr ⟨hho, hoo, f', hf', Wr_mono hle' hw⟩

theorem inv_act {st s' : St} (h : Act c io st s') (hi : Inv c st) : Inv c s' := by
  have hg := h.grown hi.wd
  have hw := wd_act h hi.wd
  cases h with
  | same => exact ⟨hi.fin, hi.pend, hi.wd⟩
  | stop hd => exact hi.dead hd
  | grow h => exact hi.grow h.fsle
  | tear h hd => exact (hi.grow h.fsle).dead hd.1
  | record m h hwv =>
    have h2 := hi.grow h.fsle
    refine ⟨h2.fin, fun hr x hx => ?_, h2.wd⟩
    cases hx with
    | head => exact Or.inr ⟨h.ho, h.oo, _, h.get', Wr_of_wv hwv⟩
    | tail _ hx => exact h2.pend hr x hx
  | fin m rest hr hp hs =>
    have ha : ∀ x ∈ m :: rest, DurS st.fs (line x) := hp ▸ hi.allDur (Or.inl hs) hr
    refine ⟨fun x hx => ?_, fun _ x hx => Or.inl (ha x (List.mem_cons_of_mem _ hx)), hi.wd⟩
    cases hx with
    | head => exact ha m (List.mem_cons_self ..)
    | tail _ hx => exact hi.fin x hx
  | close _ _ hs => exact hi.settle (hi.allDur (Or.inl hs)) hg hw
  | clear _ hcl => exact hi.settle (hi.allDur (Or.inr hcl)) hg hw
  | link dst f _ _ hoo => exact hi.settle (hi.allDur (Or.inr (Or.inr hoo))) hg hw
  | rename dst f _ _ hoo => exact hi.settle (hi.allDur (Or.inr (Or.inr hoo))) hg hw
  | openNew p _ hcl => exact hi.settle (hi.allDur (Or.inr hcl)) hg hw
  | openOld p f _ hcl => exact hi.settle (hi.allDur (Or.inr hcl)) hg hw
  | openSeal p f _ hcl => exact hi.settle (hi.allDur (Or.inr hcl)) hg hw
  | openStop p f _ hcl _ ho _ hd =>
    exact Inv.dead (hi.settle (ho := true) (q := p) (hi.allDur (Or.inr hcl)) (Grown_refl _) fun hw _ => out_workDir ho hw) hd.1

theorem Acts.inv {st s' : St} (h : Acts c io st s') (hi : Inv c st) : Inv c s' := h.keep (fun _ _ => inv_act) hi

theorem inv_closeOut (io : Nat → Fault) (st : St) (h : Inv c st) : Inv c (closeOut c io st) ∧ AllDur (closeOut c io st) :=
  have hi := (closeOut_acts (io := io) st).1.inv h
  ⟨hi, fun hr => hi.allDur (Or.inr ((closeOut_acts st).2 hr)) hr⟩

theorem allDur_openNew (st : St) (fn : String) (hw : Wd c st) (ha : AllDur st) (hcl : st.status = .running → Closed st) :
    AllDur (openNew c io st fn) := by
  intro hr m hm
  by_cases hr0 : st.status = .running
  · obtain ⟨ho, hp⟩ := openNew_acts (c := c) (io := io) st fn hcl
    rw [hp hr] at hm
    exact DurS_grown (ho.grown hw) (ha hr0 m hm)
  · rw [openNew_dead c io st fn hr0] at hr; exact absurd hr hr0

/-- `updateFile()` (rotation): the old file is closed durably before the new one is opened -/
theorem inv_updateFile (io : Nat → Fault) (st : St) (now : Int) (fn : String) (h : Inv c st) :
    Inv c (updateFile c io st now fn) ∧ AllDur (updateFile c io st now fn) := by
  refine ⟨(updateFile_acts st now fn).inv h, ?_⟩
  obtain ⟨h1, ha⟩ := inv_closeOut io st h
  exact allDur_openNew _ fn h1.wd ha (closeOut_acts st).2

theorem inv_step (io : Nat → Fault) (st : St) (ev : Ev) (starved : Bool) (h : Inv c st) :
    Inv c (step c io st ev starved) :=
  step_keeps (E := fun _ => True) (fun _ _ => inv_act)
    (fun _ _ _ _ _ hfree h => h.grow (FSLe_new _ hfree)) (fun _ _ data _ _ _ hg _ h => h.grow (FSLe_set hg (FLe_write false data _)))
    st ev starved trivial h

theorem inv_run (io : Nat → Fault) (evs : List (Ev × Bool)) (st : St) (h : Inv c st) :
    Inv c (run c io st evs) :=
  run_preserves (E := fun _ => True) (fun st ev s _ h => inv_step io st ev s h) evs (fun _ _ => trivial) st h

theorem inv_init (c : Cfg) (fs : FS) : Inv c (init fs) :=
  ⟨fun m hm => (by cases hm), fun _ m hm => (by cases hm), fun _ hh => (by simp [init] at hh)⟩

end Nsq.Proofs.ToFile
