import Nsq.Proofs.ToFileWalk
/-!
What the router can do to the world, as a relation: `Act c io st s'` lists the effects of its primitives (and of the
two pairs of primitives between which the invariants do not hold — the two writes of a record, open-then-seal: each pair is
one constructor, an interruption between the two a stop, `tear` / `openStop`), each with what the code has checked or done before. `step_acts`: every tool event is a chain of these. An invariant of
the router is then a case analysis over `Act` (`step_keeps`), in which `same` — a change of `tick`, `filesize`, `rev`, `filename`,
`openTime` only — holds by unfolding; the order of the calls (`Sync()` before the FINs and before `Close()`,
`Close()` before the next open) is in the hypotheses `Synced` and `Closed` of the constructors.
-/
namespace Nsq.Proofs.ToFile
open Nsq.Model.ToFile Nsq.Proofs.ToFileLines

variable {c : Cfg} {io : Nat → Fault}

def Synced (c : Cfg) (st : St) : Prop :=
  ∀ f, st.fs.get st.outPath = some f → wv c.gzip f = f.data ∧ f.data.length ≤ f.durable

def Closed (st : St) : Prop := st.hasOut = false ∨ st.outOpen = false

theorem Closed.not_open {st : St} (h : Closed st) (hho : st.hasOut = true) (hoo : st.outOpen = true) : False := by
  rcases h with h | h
  · rw [hho] at h; cases h
  · rw [hoo] at h; cases h

/-- a revision search over `fs` runs out of fuel: the only way to `diverged` (`Act.stop`); `not_stuck` refutes it under `Cfg.WF` and `DomOk` -/
def Stuck (c : Cfg) (fs : FS) : Prop :=
  ∃ fn r, search (taken c fs fn) (fuel fs) r = none ∨ (c.workDir = true ∧ search (takenDst c fs fn) (fuel fs) r = none)

/-- `sealTail` leaves the existing file `f` as it is: F47b could not read its last byte, or fix F47, where present, found it to
be "\n" (without F47 every file is left as it is). Which read failed is forgotten (it is `io st.tick`): `ReadsOk` speaks of all. -/
def Untorn (c : Cfg) (io : Nat → Fault) (f : File) : Prop :=
  (c.sealReadWarns = true ∧ ∃ t, io t = .rdErr) ∨ (c.sealsTail = true → nlEndedB f.content = true)

inductive Act (c : Cfg) (io : Nat → Fault) : St → St → Prop
  /-- bookkeeping only: the fields no invariant of the router looks at -/
  | same {st} (t z r : Nat) (n : String) (o : Int) :
      Act c io st { st with tick := t, filesize := z, rev := r, filename := n, openTime := o }
  | stop {st s'} : Dead st s' → (s'.status = .diverged → st.status = .diverged ∨ Stuck c st.fs) → Act c io st s'
  /-- a gzip member close or an fsync: the decodable bytes stay as they are -/
  | grow {st f f' fs'} : Grew st f f' fs' → f'.content = f.content → Act c io st { st with fs := fs' }
  /-- … or after which it stopped (between the two writes of a record, at the in-flight limit) -/
  | tear {st f f' fs' s'} : Grew st f f' fs' → Dead' { st with fs := fs' } s' → Act c io st s'
  /-- the record of `m`, whole, and `output[pos] = m` -/
  | record {st f F fs'} (m : Msg) : Grew st f F fs' → wv c.gzip F = f.content ++ line m →
      F.content = f.content ++ line m → Act c io st { st with fs := fs', pending := m :: st.pending }
  | fin {st} (m : Msg) (rest : List Msg) : st.status = .running → st.pending = m :: rest → Synced c st →
      Act c io st { st with finished := m :: st.finished, pending := rest }
  | close {st} : st.status = .running → st.hasOut = true → Synced c st → Act c io st { st with outOpen := false }
  | clear {st} : st.status = .running → Closed st → Act c io st { st with hasOut := false }
  /-- first half of the move work dir → output dir -/
  | link {st} (dst : Path) (f : File) : st.status = .running → st.hasOut = true → st.outOpen = false → c.workDir = true →
      st.fs.get st.outPath = some f → st.fs.get dst = none → dst.out = true →
      Act c io st { st with fs := st.fs.set dst f }
  /-- both halves -/
  | rename {st} (dst : Path) (f : File) : st.status = .running → st.hasOut = true → st.outOpen = false → c.workDir = true →
      st.fs.get st.outPath = some f → st.fs.get dst = none → dst.out = true →
      Act c io st { st with fs := (st.fs.set dst f).del st.outPath }
  | openNew {st} (p : Path) : st.status = .running → Closed st → st.fs.get p = none → p.out = !c.workDir →
      Act c io st { st with fs := st.fs.set p ⟨[], [], 0⟩, hasOut := true, outOpen := true, outPath := p }
  /-- an existing file opened for appending (never with O_EXCL) and left as it is -/
  | openOld {st} (p : Path) (f : File) : st.status = .running → Closed st → st.fs.get p = some f → p.out = !c.workDir →
      c.excl = false → Untorn c io f → Act c io st { st with hasOut := true, outOpen := true, outPath := p }
  | openSeal {st} (p : Path) (f : File) : st.status = .running → Closed st → st.fs.get p = some f → p.out = !c.workDir →
      c.excl = false →
      Act c io st { st with fs := st.fs.set p (fileWrite c.gzip [10] f), hasOut := true, outOpen := true, outPath := p }
  | openStop {st s'} (p : Path) (f : File) : st.status = .running → Closed st → st.fs.get p = some f →
      p.out = !c.workDir → c.excl = false → Dead' { st with hasOut := true, outPath := p } s' → Act c io st s'

inductive Acts (c : Cfg) (io : Nat → Fault) : St → St → Prop
  | refl {st} : Acts c io st st
  | tail {st s s'} : Acts c io st s → Act c io s s' → Acts c io st s'

theorem Acts.trans {st s s' : St} (h1 : Acts c io st s) (h2 : Acts c io s s') : Acts c io st s' := by
  induction h2 with
  | refl => exact h1
  | tail _ a ih => exact ih.tail a

theorem Act.acts {st s' : St} (h : Act c io st s') : Acts c io st s' := Acts.refl.tail h

theorem Acts.keep {P : St → Prop} (hact : ∀ st s', Act c io st s' → P st → P s') {st s' : St}
    (h : Acts c io st s') (h0 : P st) : P s' := by
  induction h with
  | refl => exact h0
  | tail _ a ih => exact hact _ _ a ih

theorem Dead'.act {st s' : St} (h : Dead' st s') : Acts c io st s' := (Act.stop h.1 fun e => Or.inl (h.2 e)).acts

/-- `e`: `s'` is `s` up to the bookkeeping fields of `Act.same` -/
theorem Act.upto {st s s' : St} (h : Act c io st s)
    (e : s' = { s with tick := s'.tick, filesize := s'.filesize, rev := s'.rev, filename := s'.filename, openTime := s'.openTime }) :
    Acts c io st s' := by
  rw [e]; exact h.acts.tail (.same ..)

/-- a chain of acts from `st` to `s'` after which `Q` holds if the tool is still running -/
def To (c : Cfg) (io : Nat → Fault) (st : St) (Q : St → Prop) (s' : St) : Prop :=
  Acts c io st s' ∧ (s'.status = .running → Q s')

theorem Dead'.to {st s' : St} {Q : St → Prop} (h : Dead' st s') : To c io st Q s' := ⟨h.act, fun hr => absurd hr h.1.1⟩

theorem To.then {st s s' : St} {Q R : St → Prop} (h : To c io st Q s) (h2 : (s.status = .running → Q s) → To c io s R s') :
    To c io st R s' :=
  ⟨h.1.trans (h2 h.2).1, (h2 h.2).2⟩

theorem onOut_acts (st : St) (g : File → File) (hle : ∀ f, FLe f (g f)) (hct : ∀ f, (g f).content = f.content) :
    Acts c io st (onOut io st g) := by
  apply onOut_elim (P := Acts c io st)
  · intro s' hd; exact hd.act
  · intro f hr hho hoo hg
    exact (Act.grow (Grew.set hr hho hoo hg (hle f)) (hct f)).upto rfl

theorem syncOut_acts (st : St) : Acts c io st (syncOut c io st) := by
  unfold syncOut
  cases c.gzip
  · exact onOut_acts st _ FLe_fsync content_fsync
  · exact (onOut_acts st _ FLe_gzClose content_gzClose).trans (onOut_acts _ _ FLe_fsync content_fsync)

theorem syncOut_synced (st : St) (hr : (syncOut c io st).status = .running) : Synced c (syncOut c io st) := by
  obtain ⟨f, _, _, _, _, hg', hop⟩ := syncOut_running c io st hr
  intro F hF
  rw [hop, hg'] at hF; cases hF
  exact ⟨wv_synced c.gzip f, synced_durable c.gzip f⟩

theorem finList_acts (l : List Msg) (st : St) (hp : st.status = .running → st.pending = l)
    (hs : st.status = .running → Synced c st) : Acts c io st (finList io st l) := by
  induction l generalizing st with
  | nil => exact .refl
  | cons m rest ih =>
    unfold finList
    apply guard_elim (P := fun s => Acts c io st (finList io s rest))
    · intro s' hd; rw [finList_dead io rest s' hd.1.1]; exact hd.act
    · intro hr
      exact ((Act.fin m rest hr (hp hr) (hs hr)).upto (s' := { st with tick := st.tick + 1, finished := m :: st.finished, pending := rest })
        rfl).trans (ih _ (fun _ => rfl) fun _ => hs hr)

theorem syncBlock_acts (st : St) : Acts c io st (syncBlock c io st) := by
  unfold syncBlock
  by_cases hp : st.pending = []
  · rw [if_pos hp]; exact .refl
  · rw [if_neg hp]; exact (syncOut_acts st).trans (finList_acts _ _ (fun _ => rfl) (syncOut_synced st))

theorem closeFd_acts (st : St) (hs : st.status = .running → Synced c st) : Acts c io st (closeFd io st) := by
  unfold closeFd
  apply guard_elim (P := Acts c io st)
  · intro s' hd; exact hd.act
  · intro hr
    by_cases h1 : st.hasOut = false ∨ st.outOpen = false
    · rw [if_pos h1]; exact (Dead'.stop st _ .fatalExit (by decide) (by decide)).act
    · rw [if_neg h1]
      simp only [not_or, Bool.not_eq_false] at h1
      exact (Act.close hr h1.1 (hs hr)).upto rfl

theorem clearOut_acts (st : St) (h : st.status = .running → Closed st) : Acts c io st (clearOut st) := by
  unfold clearOut
  by_cases h1 : st.status ≠ .running
  · rw [if_pos h1]; exact .refl
  · rw [if_neg h1]; exact (Act.clear (Decidable.not_not.mp h1) (h (Decidable.not_not.mp h1))).acts

theorem renameP_acts (st : St) (dst : Path) (hho : st.hasOut = true) (hoo : st.outOpen = false) (hwd : c.workDir = true)
    (hfree : st.fs.get dst = none) (hdst : dst.out = true) : To c io st Closed (renameP io st st.outPath dst) := by
  unfold renameP
  -- the motive keeps the second `guard` (the remove) applied: if the link stops, it is `guard_dead`
  apply guard_elim (st := st) (P := fun s => To c io st Closed (Nsq.Model.ToFile.guard io s fun s => { s with fs := s.fs.del st.outPath }))
  · intro s' hd
    rw [guard_dead io s' _ hd.1.1]; exact hd.to
  · intro hr
    cases hs : st.fs.get st.outPath with
    | none =>
      simp only []
      rw [guard_dead io _ _ (by simp [fatal])]
      exact (Dead'.stop st _ .fatalExit (by decide) (by decide)).to
    | some f =>
      simp only []
      apply guard_elim (P := To c io st Closed)
      · intro s' hd
        exact ⟨((Act.link dst f hr hho hoo hwd hs hfree hdst).upto (s' := { st with tick := st.tick + 1, fs := st.fs.set dst f })
          rfl).trans hd.act, fun h => absurd h hd.1.1⟩
      · intro _; exact ⟨(Act.rename dst f hr hho hoo hwd hs hfree hdst).upto rfl, fun _ => Or.inr hoo⟩

theorem moveOut_acts (st : St) (hho : st.hasOut = true) (hoo : st.outOpen = false) (hwd : c.workDir = true) :
    To c io st Closed (moveOut c io st) := by
  apply moveOut_elim (P := To c io st Closed)
  · intro hsr
    exact ⟨(Act.stop (Dead.stop st st.tick .diverged (by decide)) fun _ => Or.inr ⟨st.filename, st.rev + 1, Or.inr ⟨hwd, hsr⟩⟩).acts,
      fun h => by cases h⟩
  · intro dst hdst hfree; exact renameP_acts st dst hho hoo hwd hfree hdst
  · intro s hs; exact hs.then fun h => ⟨clearOut_acts s h, fun hr => Or.inl (clearOut_closed s hr)⟩

theorem closeOut_acts (st : St) : To c io st Closed (closeOut c io st) := by
  have h3 : Acts c io st (closeFd io (syncOut c io st)) :=
    (syncOut_acts st).trans (closeFd_acts _ (syncOut_synced st))
  apply closeOut_elim (P := To c io st Closed)
  · intro hho; exact ⟨.refl, fun _ => Or.inl hho⟩
  · intro hr; exact ⟨h3, fun h => absurd h hr⟩
  · intro _ hr
    exact ⟨h3.trans (clearOut_acts _ fun h => Or.inr (closeFd_running io _ h).2), fun h => Or.inl (clearOut_closed _ h)⟩
  · intro hwd hr
    have := moveOut_acts (c := c) (io := io) _ (closeFd_running io _ hr).1 (closeFd_running io _ hr).2 hwd
    exact ⟨h3.trans this.1, this.2⟩

theorem openNew_acts (st : St) (fn : String) (hcl : st.status = .running → Closed st) :
    To c io st (fun s => s.pending = st.pending) (openNew c io st fn) := by
  unfold openNew
  apply guard_elim io st _ (To c io st _)
  · intro s' hd; exact hd.to
  · intro hr
    simp only []
    cases hsr : search (taken c st.fs fn) (fuel st.fs) st.rev with
    | none =>
      exact ⟨(Act.stop (Dead.stop st _ .diverged (by decide)) fun _ => Or.inr ⟨fn, st.rev, Or.inl hsr⟩).acts, fun h => by cases h⟩
    | some r =>
      simp only []
      cases hg : st.fs.get (mkPath c (!c.workDir) fn r) with
      | none => exact ⟨(Act.openNew _ hr (hcl hr) hg rfl).upto rfl, fun _ => rfl⟩
      | some f =>
        simp only []
        -- the search skips existing files when `O_EXCL` is used
        have hnx : c.excl = false := by
          have hnt := search_some hsr
          simp only [taken, hg, Bool.or_eq_false_iff] at hnt
          exact hnt.2.1
        rcases sealTail_cases c io (io st.tick) _ f with ⟨e, hc⟩ | hd | ⟨f0, hg0, e⟩
        · rw [e]
          refine ⟨(Act.openOld _ f hr (hcl hr) hg rfl hnx ?_).upto rfl, fun _ => rfl⟩
          rcases hc with ⟨hrd, hw⟩ | hc
          · exact Or.inl ⟨hw, st.tick, hrd⟩
          · exact Or.inr fun hs => hc hs hnx
        · exact ⟨(Act.openStop _ f hr (hcl hr) hg rfl hnx hd).acts, fun h => absurd h hd.1.1⟩
        · rw [e]
          have : f0 = f := by rw [hg] at hg0; exact (Option.some.inj hg0).symm
          subst this
          exact ⟨(Act.openSeal _ f0 hr (hcl hr) hg rfl hnx).upto rfl, fun _ => rfl⟩

theorem updateFile_acts (st : St) (now : Int) (fn : String) : Acts c io st (updateFile c io st now fn) := by
  unfold updateFile
  simp only []
  obtain ⟨h1, hcl⟩ := closeOut_acts (c := c) (io := io) st
  refine Acts.trans ?_ (openNew_acts _ fn ?_).1
  · exact h1.tail (.same ..)
  · exact hcl

theorem writeLine_stopped (st : St) (m : Msg) (h : (writeLine c io st m).status ≠ .running) :
    Acts c io st (writeLine c io st m) := by
  unfold writeLine at h ⊢
  by_cases h1w : c.oneWrite = true
  · rw [if_pos h1w] at h ⊢; exact (onOut_stopped io st _ h).act
  · rw [if_neg h1w] at h ⊢
    have h2 := onOut_stopped io _ _ h
    by_cases hr1 : (onOut io st (fileWrite c.gzip m.body)).status = .running
    · obtain ⟨f0, hr0, hho0, hoo0, hg0, he0⟩ := onOut_running io st _ hr1
      rw [he0] at h2 ⊢
      exact (Act.tear (Grew.set hr0 hho0 hoo0 hg0 (FLe_write c.gzip m.body f0)) h2).acts
    · exact (onOut_stopped io st _ hr1).act.trans h2.act

theorem writeMsg_acts (st : St) (m : Msg) : Acts c io st (writeMsg c io st m) := by
  unfold writeMsg
  by_cases hr : (writeLine c io st m).status ≠ .running
  · rw [if_pos hr]; exact writeLine_stopped st m hr
  · rw [if_neg hr]
    obtain ⟨f0, F, fs', t, hgrew, hwv, hct, he⟩ := writeLine_grew c io st m (Decidable.not_not.mp hr)
    rw [he]
    by_cases hp : st.pending.length ≥ c.maxInFlight
    · rw [if_pos hp]
      exact Act.acts (Act.tear hgrew ⟨⟨by simp, rfl, rfl, rfl, rfl⟩, by simp⟩)
    · rw [if_neg hp]
      exact (Act.record m hgrew hwv hct).upto rfl

theorem finishRun_acts (st : St) : Acts c io st (finishRun st) := by
  unfold finishRun
  split
  · exact .refl
  · exact (Dead'.stop st st.tick .done (by decide) (by decide)).act

theorem step_acts (st : St) (ev : Ev) (starved : Bool) (hev : ev.isExt = false) : Acts c io st (step c io st ev starved) := by
  have hite : ∀ (b : Bool) (s s1 s2 : St), Acts c io s s1 → Acts c io s s2 → Acts c io s (if b = true then s1 else s2) := by
    intro b s s1 s2 h1 h2; split <;> assumption
  unfold step
  by_cases hr : st.status ≠ .running
  · rw [if_pos hr]; exact .refl
  · rw [if_neg hr]
    cases ev with
    | msg m now fn =>
      simp only []
      have h2 := (hite (needsRotation c st now fn) st _ _ (updateFile_acts st now fn) .refl).trans (writeMsg_acts _ m)
      exact hite _ _ _ _ (h2.trans (syncBlock_acts _)) h2
    | tick now fn =>
      simp only []
      have h2 := (hite (needsRotation c st now fn && !c.skipEmpty) st _ _ (updateFile_acts st now fn) .refl).trans
        (syncBlock_acts _)
      exact hite _ _ _ _ (h2.trans (closeOut_acts _).1) h2
    | hup => exact (syncBlock_acts st).trans (closeOut_acts _).1
    | term => exact syncBlock_acts st
    | stopped => exact ((syncBlock_acts st).trans (closeOut_acts _).1).trans (finishRun_acts _)
    | ext p data => cases hev
    | extAppend p data => cases hev

/-- `E` is what the predicate needs to know of the environment's event. -/
theorem step_keeps {P : St → Prop} {E : Ev → Prop} (hact : ∀ st s', Act c io st s' → P st → P s')
    (hext : ∀ st p data, E (.ext p data) → st.status = .running → st.fs.get p = none → P st →
      P { st with fs := st.fs.set p ⟨data, [], data.length⟩ })
    (happ : ∀ st p data f, E (.extAppend p data) → st.status = .running → st.fs.get p = some f → c.excl = false →
      P st → P { st with fs := st.fs.set p (fileWrite false data f) })
    (st : St) (ev : Ev) (starved : Bool) (hev : E ev) (h : P st) : P (step c io st ev starved) := by
  cases hx : ev.isExt with
  | false => exact (step_acts st ev starved hx).keep hact h
  | true =>
    by_cases hr : st.status = .running
    · unfold step
      rw [if_neg (not_not_intro hr)]
      cases ev with
      | ext p data =>
        simp only []
        split
        · exact h
        · rename_i hp
          exact hext st p data hev hr (by simpa using hp) h
      | extAppend p data =>
        simp only []
        cases hg : st.fs.get p with
        | none => exact h
        | some f =>
          simp only []
          split
          · exact h
          · rename_i hxc
            exact happ st p data f hev hr hg (by simpa using hxc) h
      | _ => cases hx
    · rw [step_stopped c io st ev starved hr]; exact h

end Nsq.Proofs.ToFile
