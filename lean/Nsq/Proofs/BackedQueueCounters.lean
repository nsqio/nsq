import Nsq.Proofs.ChanStep
import Nsq.Proofs.BackedQueue
/-!
The two queue counters of the E2 channel model (`memLen`, `dqLen` of `Nsq.Model.Chan`) are the two lengths of the
queue of byte strings, along every history of valid-size records.
-/
namespace Nsq.Proofs.BackedQueue
open Nsq.Model Nsq.Model.Wire
open Nsq.Model.BackedQueue (BQ PutOut Op Run stepRun fresh run openBQ flushInto)
open Nsq.Model.DiskQueue (St Cfg FS PutRes openQ)
open Nsq.Proofs.DiskQueue

def CntRel (q : BQ) (disk : List Bytes) (c : Chan.Chan) : Prop :=
  c.memLen = q.mem.length ∧ c.dqLen = disk.length ∧ c.memCap = q.memCap ∧ c.ephemeral = false

/-- the counter update of every E2 step that takes a queued message (`doDeliver`, `sampleDrop`):
"`memLen > 0` ? memory : disk" -/
def e2Take (c : Chan.Chan) : Chan.Chan :=
  { c with memLen := if c.memLen > 0 then c.memLen - 1 else c.memLen,
           dqLen := if c.memLen > 0 then c.dqLen else c.dqLen - 1 }

theorem e2Take_sum (c : Chan.Chan) (h : 0 < c.dqLen) :
    (e2Take c).memLen + (e2Take c).dqLen = c.memLen + (c.dqLen - 1) := by
  show (if c.memLen > 0 then c.memLen - 1 else c.memLen) + (if c.memLen > 0 then c.dqLen else c.dqLen - 1) = _
  by_cases hp : c.memLen > 0
  · rw [if_pos hp, if_pos hp]
    exact (Nat.sub_add_comm hp).symm.trans (Nat.add_sub_assoc h _)
  · rw [if_neg hp, if_neg hp]

theorem doDeliver_counters (c : Chan.Chan) (cl : Chan.Client) (k id : Nat) (now : Int) (a : Nat)
    (h : (Chan.doDeliver c cl k id now).2 = .msg a) :
    (Chan.doDeliver c cl k id now).1.memLen = (e2Take c).memLen ∧
    (Chan.doDeliver c cl k id now).1.dqLen = (e2Take c).dqLen := by
  rcases Nsq.Proofs.Chan.doDeliver_cases c cl k id now with e | ⟨_, _, _, _, e⟩
  · rw [e] at h
    cases h
  · rw [e]
    exact ⟨rfl, rfl⟩

/-- `CntRel q disk c` is `Cnt q.mem.length disk.length q.memCap c` -/
def Cnt (m d cap : Nat) (c : Chan.Chan) : Prop :=
  c.memLen = m ∧ c.dqLen = d ∧ c.memCap = cap ∧ c.ephemeral = false

section
variable {m d cap : Nat} {c : Chan.Chan}

theorem cnt_enqueue_mem (h : Cnt m d cap c) (hm : m < cap) (id : Nat) : Cnt (m + 1) d cap (Chan.enqueue c id) := by
  obtain ⟨rfl, rfl, rfl, he⟩ := h
  rcases Nsq.Proofs.Chan.enqueue_cases c id with ⟨_, e⟩ | ⟨h', _⟩ | ⟨h', _⟩
  · rw [e]; exact ⟨rfl, rfl, rfl, he⟩
  · exact absurd hm h'
  · exact absurd hm h'

theorem cnt_enqueue_disk (h : Cnt m d cap c) (hm : ¬ m < cap) (id : Nat) : Cnt m (d + 1) cap (Chan.enqueue c id) := by
  obtain ⟨rfl, rfl, rfl, he⟩ := h
  rcases Nsq.Proofs.Chan.enqueue_cases c id with ⟨h', _⟩ | ⟨_, h', _⟩ | ⟨_, _, e⟩
  · exact absurd h' hm
  · rw [he] at h'; cases h'
  · rw [e]; exact ⟨rfl, rfl, rfl, he⟩

theorem cnt_take_mem (h : Cnt (m + 1) d cap c) : Cnt m d cap (e2Take c) := by
  obtain ⟨h1, h2, h3, h4⟩ := h
  have hp : c.memLen > 0 := h1 ▸ Nat.succ_pos m
  refine ⟨?_, ?_, h3, h4⟩
  · show (if c.memLen > 0 then c.memLen - 1 else c.memLen) = m
    rw [if_pos hp, h1]; rfl
  · show (if c.memLen > 0 then c.dqLen else c.dqLen - 1) = d
    rw [if_pos hp, h2]

theorem cnt_resplit (conf : Chan.Conf) (h : Cnt m d cap c) (m' d' : Nat) (hs : m' + d' = m + d) (hm : m' ≤ cap) :
    Cnt m' d' cap (Chan.step conf c (.resplit m' d')).1 := by
  obtain ⟨rfl, rfl, rfl, he⟩ := h
  have hc : (m' + d' = c.memLen + c.dqLen && decide (m' ≤ c.memCap) && (!c.ephemeral || d' == 0)) = true := by
    simp [hs, hm, he]
  have e : Chan.step conf c (.resplit m' d') = ({ c with memLen := m', dqLen := d' }, Chan.Out.ok) := by
    simp only [Chan.step]
    rw [if_pos hc]
  rw [e]
  exact ⟨rfl, rfl, rfl, he⟩

/-- the pump took the backend case: E2 takes by its own rule (`e2Take`), then `resplit` puts the counters where the
queues are -/
theorem cnt_take_disk (conf : Chan.Conf) (h : Cnt m (d + 1) cap c) (hm : m ≤ cap) :
    Cnt m d cap (Chan.step conf (e2Take c) (.resplit m (c.dqLen - 1))).1 := by
  have ht : Cnt (e2Take c).memLen (e2Take c).dqLen cap (e2Take c) := ⟨rfl, rfl, h.2.2.1, h.2.2.2⟩
  have hd : c.dqLen - 1 = d := by rw [h.2.1]; rfl
  have := cnt_resplit conf ht m (c.dqLen - 1) (by rw [e2Take_sum c (h.2.1 ▸ Nat.succ_pos d), h.1]) hm
  exact ⟨this.1, this.2.1.trans hd, this.2.2⟩

theorem cnt_empty (conf : Chan.Conf) (h : Cnt m d cap c) : Cnt 0 0 cap (Chan.step conf c .empty).1 :=
  ⟨rfl, rfl, h.2.2.1, h.2.2.2⟩

end

/-- the E2 steps (counters only) that one queue operation corresponds to; the outcome of the operation
is the observation of the runtime's choice (`resplit`) -/
def e2Step (conf : Chan.Conf) (r : Run) (c : Chan.Chan) : Op → Chan.Chan
  | .put _ => Chan.enqueue c 0
  | .takeMem => if r.q.mem = [] then c else e2Take c
  | .takeDisk =>
    match (BackedQueue.takeDisk r.q).1 with
    | none => c
    | some _ => (Chan.step conf (e2Take c) (.resplit r.q.mem.length (c.dqLen - 1))).1
  | .restart => (Chan.step conf c (.resplit 0 (c.memLen + c.dqLen))).1
  | .empty => (Chan.step conf c .empty).1

theorem cnt_step {cfg : Cfg} {memCap : Nat} {r r' : Run} {disk disk' gone : List Bytes} {o : Op}
    (hs : StepR cfg r disk o r' disk') (h : Ledger cfg memCap r disk gone) (hc : Clean cfg r) (conf : Chan.Conf)
    (c : Chan.Chan) (hr : CntRel r.q disk c) (hv : ∀ b, o = .put b → ValidRec cfg b) :
    CntRel r'.q disk' (e2Step conf r c o) := by
  have hr' : Cnt r.q.mem.length disk.length r.q.memCap c := hr
  cases hs with
  | putMem b hm =>
    show Cnt (r.q.mem ++ [b]).length _ _ _
    rw [List.length_append]
    exact cnt_enqueue_mem hr' hm 0
  | putDisk b hm hv' =>
    show Cnt _ (disk ++ [b]).length _ _
    rw [List.length_append]
    exact cnt_enqueue_disk hr' hm 0
  | putRefused b hm hv' => exact absurd (hv b rfl) hv'
  | takeMemNil hm =>
    show CntRel _ _ (if r.q.mem = [] then c else e2Take c)
    rw [if_pos hm]
    exact hr
  | takeMemCons b rest hm =>
    show Cnt rest.length _ _ (if r.q.mem = [] then c else e2Take c)
    rw [if_neg (hm ▸ List.cons_ne_nil b rest)]
    rw [hm] at hr'
    exact cnt_take_mem hr'
  | takeDiskNil hd ht =>
    unfold e2Step
    rw [ht]
    exact hd ▸ hr
  | takeDiskCons d rest hd ht =>
    unfold e2Step
    rw [ht]
    rw [hd] at hr'
    exact cnt_take_disk conf hr' (h.cap ▸ h.bound)
  | restart =>
    show Cnt 0 (disk ++ r.q.mem.filter (validB cfg)).length _ _
    rw [(filter_all_valid cfg r.q.mem hc).1, List.length_append, ← hr.1, ← hr.2.1, Nat.add_comm]
    exact cnt_resplit conf hr' 0 _ (by rw [Nat.zero_add, hr.1, hr.2.1]) (Nat.zero_le _)
  | empty => exact cnt_empty conf hr'

def e2Run (conf : Chan.Conf) (cfg : Cfg) : Run → Chan.Chan → List Op → Chan.Chan
  | _, c, [] => c
  | r, c, o :: ops => e2Run conf cfg (stepRun cfg r o) (e2Step conf r c o) ops

theorem cnt_foldl (cfg : Cfg) (memCap : Nat) (conf : Chan.Conf) (ops : List Op)
    (hv : ∀ b, Op.put b ∈ ops → ValidRec cfg b) (r : Run) (disk gone : List Bytes) (h : Ledger cfg memCap r disk gone)
    (hc : Clean cfg r) (c : Chan.Chan) (hr : CntRel r.q disk c) :
    ∃ disk' gone', Ledger cfg memCap (ops.foldl (stepRun cfg) r) disk' gone' ∧
      CntRel (ops.foldl (stepRun cfg) r).q disk' (e2Run conf cfg r c ops) := by
  induction ops generalizing r disk gone c with
  | nil => exact ⟨disk, gone, h, hr⟩
  | cons o ops ih =>
    have hs := (stepRun_inv h o).1
    have hvo : ∀ b, o = .put b → ValidRec cfg b := fun b hb => hv b (hb ▸ List.mem_cons_self)
    exact ih (fun b hb => hv b (List.mem_cons_of_mem o hb)) _ _ _ (ledger_step h o) ((ghost_step hs).2.2 hc hvo).1 _
      (cnt_step hs h hc conf c hr hvo)

end Nsq.Proofs.BackedQueue
