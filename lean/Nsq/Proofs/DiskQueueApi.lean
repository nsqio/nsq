import Nsq.Proofs.DiskQueue
/-! The API of the disk queue against the abstract FIFO `Q s q`, one lemma per call; no call changes `cfg`. -/
namespace Nsq.Proofs.DiskQueue
open Nsq.Model.Wire Nsq.Model.DiskQueue

variable {s : St} {pre : Bytes} {recs : Nat → List Bytes}

/-- abstraction relation: the live queue `s` (at rest: `ioLoop` parked in its `select`) holds exactly
the records `q`, oldest first -/
def Q (s : St) (q : List Bytes) : Prop :=
  ∃ pre recs, Rep s pre recs ∧ Ready s recs ∧ absQ s recs = q

theorem Q_of_rep (h : Rep s pre recs) : Q (settle s) (absQ s recs) := by
  obtain ⟨pre', a, b, c, _⟩ := settle_rep h
  exact ⟨pre', recs, a, b, c⟩

theorem checkTail_cfg (u : St) : (checkTail u).cfg = u.cfg :=
  checkTail_keeps (·.cfg) (fun _ => rfl) (fun _ => rfl) u

theorem checkTail_bad (u : St) : (checkTail u).fs.bad = u.fs.bad :=
  checkTail_keeps (·.fs.bad) (fun _ => rfl) (fun _ => rfl) u

theorem syncDue_cfg (t : St) : (syncDue t).cfg = t.cfg := (E_pos (syncDue_E t)).cfg

theorem handleReadError_cfg (u : St) : (handleReadError u).cfg = u.cfg := by
  unfold handleReadError
  split <;> rw [checkTail_cfg]

theorem settleStep_cfg (t : St) : (settleStep t).2.cfg = t.cfg := by
  unfold settleStep
  split
  · split
    · split
      · rw [(readOne_frame _).cfg, syncDue_cfg]
      · rw [handleReadError_cfg, (readOne_frame _).cfg, syncDue_cfg]
    · exact syncDue_cfg t
  · exact syncDue_cfg t

theorem settle_cfg (s : St) : (settle s).cfg = s.cfg := by
  have hn : ∀ n (t : St), (settleN n t).cfg = t.cfg := by
    intro n
    induction n with
    | zero => intro t; rfl
    | succ n ih =>
      intro t
      unfold settleN
      split
      · rw [ih, settleStep_cfg]
      · exact settleStep_cfg t
  exact hn _ s

theorem put_cfg (s : St) (d : Bytes) : (put s d).2.cfg = s.cfg := by
  have w : ∀ t : St, (writeOne t d).2.cfg = t.cfg := by
    intro t; unfold writeOne
    split
    · rfl
    · split <;> rfl
  unfold put
  split
  · rfl
  · split
    · rw [settle_cfg, w]
    · rw [settle_cfg]

theorem recv_cfg (s : St) : (recv s).2.cfg = s.cfg := by
  unfold recv
  split
  · simp only []
    rw [settle_cfg]
    unfold moveForward
    split <;> rw [checkTail_cfg]
  · rfl

theorem empty_cfg (s : St) : (empty s).2.cfg = s.cfg := by
  unfold empty
  split
  · rfl
  · exact settle_cfg _

theorem openQ_cfg (cfg : Cfg) (fs : FS) : (openQ cfg fs).cfg = cfg := by
  unfold openQ
  rw [settle_cfg]
  unfold retrieve
  split
  · rfl
  · split
    · rfl
    · split <;> rfl

/-- without a metadata file the new process starts at file 0, position 0, depth 0 — whatever the files
hold: nothing is offered to consumers -/
theorem crash_nomd (fs : FS) (hmd : fs.md = none) (cfg' : Cfg) (hok : CfgOk cfg') :
    openQ cfg' fs = { cfg := cfg', fs := fs } := by
  have hr : retrieve cfg' fs = { cfg := cfg', fs := fs } := by
    unfold retrieve; rw [hmd]
  unfold openQ
  rw [hr]
  exact settle_at_tail (by simp [canRead]) rfl (Nat.ne_of_lt hok.sync)

/-- `.bad` files may lie around: `New` does not look at them -/
theorem open_leftover (cfg : Cfg) (hok : CfgOk cfg) (fs : FS) (hdat : ∀ i, fs.dat i = none) (hmd : fs.md = none) :
    Q (openQ cfg fs) [] := by
  have h : Rep ({ cfg := cfg, fs := fs } : St) [] (fun _ => []) :=
    Rep.of_files_closed hok rfl (Nat.le_refl _) (fun i x hx => absurd hx (by simp)) (Files.none_at hdat 0)
      (by rw [show absQ _ _ = _ from qFrom_nil _ _]; rfl) ⟨rfl, rfl⟩ rfl
  rw [crash_nomd fs hmd cfg hok]
  exact ⟨[], fun _ => [], h, ⟨rfl, fun hh => absurd hh (by simp [canRead])⟩, qFrom_nil _ _⟩

theorem fresh_Q (cfg : Cfg) (hok : CfgOk cfg) : Q (openQ cfg FS.empty) [] :=
  open_leftover cfg hok FS.empty (fun _ => rfl) rfl

theorem depth_Q {s : St} {q : List Bytes} (h : Q s q) : s.depth = (q.length : Int) := by
  obtain ⟨pre, recs, a, _, c⟩ := h
  rw [a.depth, ← c]; rfl

theorem live_Q {s : St} {q : List Bytes} (h : Q s q) : s.exited = false := by
  obtain ⟨pre, recs, a, _, _⟩ := h
  exact a.live

theorem put_valid {s : St} (hl : s.exited = false) (d : Bytes) (hv : ValidRec s.cfg d) :
    put s d = (.ok, settle (if needRoll s d then appendRec (rollWrite { s with count := s.count + 1 }) d
      else appendRec { s with count := s.count + 1 } d)) := by
  unfold put
  rw [if_neg (by rw [hl]; simp), writeOne_valid { s with count := s.count + 1 } d hv]
  rfl

theorem put_invalid {s : St} (hl : s.exited = false) (d : Bytes) (hv : ¬ ValidRec s.cfg d) :
    put s d = (.invalid, settle { s with count := s.count + 1 }) := by
  unfold put
  rw [if_neg (by rw [hl]; simp), writeOne_invalid { s with count := s.count + 1 } d hv]
  rfl

theorem recv_live {s : St} (hl : s.exited = false) (hc : canRead s = true) :
    recv s = (some s.pending, settle (moveForward { s with count := s.count + 1 })) := by
  unfold recv
  rw [if_pos ⟨hl, hc⟩]

theorem recv_tail {s : St} (hc : canRead s = false) : recv s = (none, s) := by
  unfold recv
  rw [if_neg (by rw [hc]; simp)]

theorem rep_count (h : Rep s pre recs) :
    Rep { s with count := s.count + 1 } pre recs := h.upd s.needSync (s.count + 1) s.fs.md

theorem put_ok_Q {s : St} {q : List Bytes} (h : Q s q) (d : Bytes) (hv : ValidRec s.cfg d) :
    (put s d).1 = .ok ∧ Q (put s d).2 (q ++ [d]) := by
  obtain ⟨pre, recs, a, _, c⟩ := h
  obtain ⟨recs', w2, w3⟩ := written_rep (rep_count a) d hv
  rw [put_valid a.live d hv, ← c]
  refine ⟨rfl, ?_⟩
  have := Q_of_rep w2
  rw [w3] at this
  exact this

theorem put_invalid_Q {s : St} {q : List Bytes} (h : Q s q) (d : Bytes) (hv : ¬ ValidRec s.cfg d) :
    (put s d).1 = .invalid ∧ Q (put s d).2 q := by
  obtain ⟨pre, recs, a, _, c⟩ := h
  rw [put_invalid a.live d hv, ← c]
  exact ⟨rfl, Q_of_rep (rep_count a)⟩

theorem canRead_of (a : Rep s pre recs) (hc : s.rf < s.wf ∨ absQ s recs ≠ []) : canRead s = true :=
  (canRead_iff s).mpr (Decidable.byContradiction fun hn => by
    obtain ⟨e1, _, e3, _⟩ := tail_facts a hn
    exact hc.elim (fun x => absurd x (e1 ▸ Nat.lt_irrefl _)) (fun x => x e3))

theorem recv_head_Q {s : St} {d : Bytes} {q : List Bytes} (h : Q s (d :: q)) :
    (recv s).1 = some d ∧ Q (recv s).2 q := by
  obtain ⟨pre, recs, a, b, c⟩ := h
  have hc := canRead_of a (Or.inr (c ▸ List.cons_ne_nil d q))
  obtain ⟨pre', recs', m1, m2⟩ := moveForward_rep (rep_count a) (b.2 hc)
  replace m2 : d :: q = s.pending :: absQ (moveForward { s with count := s.count + 1 }) recs' := c.symm.trans m2
  rw [recv_live a.live hc]
  refine ⟨congrArg some (List.cons.inj m2).1.symm, ?_⟩
  rw [(List.cons.inj m2).2]
  exact Q_of_rep m1

theorem recv_none_Q {s : St} (h : Q s []) : recv s = (none, s) := by
  obtain ⟨pre, recs, a, b, c⟩ := h
  apply recv_tail
  cases hc : canRead s with
  | false => rfl
  | true =>
    obtain ⟨d, rest, b1, _, _⟩ := b.2 hc
    rw [absQ_eq, b1] at c
    exact absurd c (by simp)

theorem canRead_deleteAll (s : St) : canRead ({ deleteAllFiles s with count := 0 } : St) = false := by
  show (decide (s.wf + 1 < s.wf + 1) || decide (0 < 0)) = false
  simp

theorem empty_live (a : Rep s pre recs) (hn : s.needSync = false) :
    empty s = (true, { deleteAllFiles s with count := 0 }) := by
  have hst : settle ({ deleteAllFiles s with count := 0 } : St) = { deleteAllFiles s with count := 0 } :=
    settle_at_tail (canRead_deleteAll s) hn
      (Nat.ne_of_lt a.cfg.sync)
  unfold empty
  rw [if_neg (by rw [a.live]; simp), hst]

theorem empty_Q {s : St} {q : List Bytes} (h : Q s q) :
    (empty s).1 = true ∧ Q (empty s).2 [] ∧ (∀ i, (empty s).2.fs.dat i = none) ∧ (empty s).2.fs.md = none ∧
      (empty s).2.fs.bad = s.fs.bad := by
  obtain ⟨pre, recs, a, b, _⟩ := h
  obtain ⟨e1, e2⟩ := empty_rep a
  rw [empty_live a b.1]
  refine ⟨rfl, ⟨[], fun _ => [], e1, ⟨b.1, fun hh => absurd hh (by rw [canRead_deleteAll]; simp)⟩, qFrom_nil _ _⟩, e2, rfl, rfl⟩

theorem reopen_cur_Q (a : Rep s pre recs) (cfg' : Cfg) (hok : CfgOk cfg')
    (hmin : cfg'.minMsgSize = s.cfg.minMsgSize) (hmax : cfg'.maxMsgSize = s.cfg.maxMsgSize)
    (hmd : Cur s) : Q (openQ cfg' s.fs) (absQ s recs) := by
  obtain ⟨r1, r2⟩ := reopen_rep a cfg' hok hmin hmax hmd
  rw [← r2]
  exact Q_of_rep r1

theorem reopen_Q {s : St} {q : List Bytes} (h : Q s q) (cfg' : Cfg) (hok : CfgOk cfg')
    (hmin : cfg'.minMsgSize = s.cfg.minMsgSize) (hmax : cfg'.maxMsgSize = s.cfg.maxMsgSize) :
    Q (openQ cfg' (close s).fs) q := by
  obtain ⟨pre, recs, a, _, c⟩ := h
  rw [← c]
  exact reopen_cur_Q a.persisted cfg' hok hmin hmax rfl

end Nsq.Proofs.DiskQueue
