/-
What `filterSnap` (the topic / channel / include_clients selection of `GetStats`) keeps: the image of the topics that
pass the filters under `shown incl ∘ narrow fc`, whose rows are the `project`ions of the rows of the full JSON rendering
(`C13.render_agree`, `render_complete`).
-/
import Nsq.Model.ChanStats
namespace Nsq.Proofs.ChanStats
open Nsq.Model.ChanStats

/-! `filterSnap` in its three stages: the topic filter, the channel filter (a topic that owns the channel is kept, `narrow`ed to
it), the client lists (`shown`) -/

def byTopic (ft : Option Nat) (snap : List TStat) : List TStat :=
  match ft with
  | none => snap
  | some t => snap.filter (fun x => x.tid == t)

def narrow (fc : Option Nat) (t : TStat) : TStat :=
  match fc with
  | none => t
  | some c => { t with chans := t.chans.filter (fun x => x.cid == c) }

def byChan (fc : Option Nat) (ts : List TStat) : List TStat :=
  match fc with
  | none => ts
  | some c => ts.filterMap (fun t =>
      if t.chans.any (fun x => x.cid == c) then some { t with chans := t.chans.filter (fun x => x.cid == c) } else none)

def shownC (incl : Bool) (c : CStat) : CStat := if incl then c else { c with clients := [] }

def shown (incl : Bool) (t : TStat) : TStat := if incl then t else stripClients t

theorem filterSnap_eq (ft fc : Option Nat) (incl : Bool) (snap : List TStat) :
    filterSnap ft fc incl snap = (byChan fc (byTopic ft snap)).map (shown incl) := by
  cases incl
  · rfl
  · exact (List.map_id' _).symm

theorem mem_byTopic {ft : Option Nat} {snap : List TStat} {x : TStat} :
    x ∈ byTopic ft snap ↔ x ∈ snap ∧ (ft = none ∨ ft = some x.tid) := by
  cases ft with
  | none => simp [byTopic]
  | some v =>
    simp only [byTopic, List.mem_filter, beq_iff_eq, reduceCtorEq, false_or, Option.some.injEq]
    exact ⟨fun h => ⟨h.1, h.2.symm⟩, fun h => ⟨h.1, h.2.symm⟩⟩

theorem mem_byChan {fc : Option Nat} {ts : List TStat} {x : TStat} :
    x ∈ byChan fc ts ↔ ∃ t ∈ ts, (∀ c, fc = some c → ∃ y ∈ t.chans, y.cid = c) ∧ narrow fc t = x := by
  cases fc with
  | none => simp [byChan, narrow]
  | some c =>
    simp only [byChan, narrow, List.mem_filterMap, Option.some.injEq, forall_eq']
    constructor
    · rintro ⟨t, ht, h⟩
      split at h
      · rename_i ha
        obtain ⟨y, hy, hyc⟩ := List.any_eq_true.1 ha
        exact ⟨t, ht, ⟨y, hy, by simpa using hyc⟩, Option.some.inj h⟩
      · cases h
    · rintro ⟨t, ht, ⟨y, hy, hyc⟩, h⟩
      exact ⟨t, ht, by rw [if_pos (List.any_eq_true.2 ⟨y, hy, by simp [hyc]⟩), h]⟩

theorem mem_narrow {fc : Option Nat} {t : TStat} {c : CStat} :
    c ∈ (narrow fc t).chans ↔ c ∈ t.chans ∧ (fc = none ∨ fc = some c.cid) := by
  cases fc with
  | none => simp [narrow]
  | some v =>
    simp only [narrow, List.mem_filter, beq_iff_eq, reduceCtorEq, false_or, Option.some.injEq]
    exact ⟨fun h => ⟨h.1, h.2.symm⟩, fun h => ⟨h.1, h.2.symm⟩⟩

theorem mem_filterSnap {ft fc : Option Nat} {incl : Bool} {snap : List TStat} {t' : TStat} :
    t' ∈ filterSnap ft fc incl snap ↔ ∃ t ∈ snap, (ft = none ∨ ft = some t.tid) ∧
      (∀ c, fc = some c → ∃ y ∈ t.chans, y.cid = c) ∧ shown incl (narrow fc t) = t' := by
  simp only [filterSnap_eq, List.mem_map, mem_byChan, mem_byTopic]
  constructor
  · rintro ⟨_, ⟨t, ⟨ht, hft⟩, hfc, rfl⟩, rfl⟩; exact ⟨t, ht, hft, hfc, rfl⟩
  · rintro ⟨t, ht, hft, hfc, rfl⟩; exact ⟨_, ⟨t, ⟨ht, hft⟩, hfc, rfl⟩, rfl⟩

theorem shown_tid (incl : Bool) (fc : Option Nat) (t : TStat) : (shown incl (narrow fc t)).tid = t.tid := by
  cases incl <;> cases fc <;> rfl

theorem mem_shown_chans {incl : Bool} {fc : Option Nat} {t : TStat} {c' : CStat} :
    c' ∈ (shown incl (narrow fc t)).chans ↔ ∃ c ∈ t.chans, (fc = none ∨ fc = some c.cid) ∧ shownC incl c = c' := by
  cases incl
  · simp only [shown, stripClients, Bool.false_eq_true, if_false, List.mem_map, mem_narrow, shownC, and_assoc]
  · simp only [shown, if_true, mem_narrow, shownC]
    exact ⟨fun ⟨h1, h2⟩ => ⟨c', h1, h2, rfl⟩, fun ⟨_, h1, h2, e⟩ => e ▸ ⟨h1, h2⟩⟩

theorem topicRow_shown (fmt : Fmt) (incl : Bool) (fc : Option Nat) (t : TStat) :
    topicRow fmt (shown incl (narrow fc t)) = project fmt incl (topicRow .json t) := by
  cases incl <;> cases fc <;> cases fmt <;> rfl

theorem chanRow_shown (fmt : Fmt) (incl : Bool) (tid : Nat) (c : CStat) :
    chanRow fmt tid (shownC incl c) = project fmt incl (chanRow .json tid c) := by
  cases incl <;> cases fmt <;> rfl

theorem mem_rows {fmt : Fmt} {snap : List TStat} {r : Row} :
    r ∈ rows fmt snap ↔ ∃ t ∈ snap, r = topicRow fmt t ∨ ∃ c ∈ t.chans, chanRow fmt t.tid c = r := by
  simp only [rows, List.mem_flatMap, List.mem_cons, List.mem_map]

end Nsq.Proofs.ChanStats
