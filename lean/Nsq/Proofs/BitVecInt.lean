/-!
Signed reading of 64-bit values: Go computes with `int64` (`BitVec 64`, wrap-around), the models speak of `Int`.
A word operation denotes the integer operation whenever the integer result is an int64 (`toInt_add_of_range`,
`toInt_mul_of_range`); the second operand comes with its integer value (`rfl` for a literal), so that the bounds are about
integers only. Comparisons are core's `BitVec.slt_iff_toInt_lt`, `BitVec.sle_iff_toInt_le`, `BitVec.sle_eq_decide`.
Core Lean only.
-/
namespace Nsq.Proofs.BitVecInt

theorem beq_eq_decide_toInt (a c : BitVec 64) : (a == c) = decide (a.toInt = c.toInt) := by
  simp only [BitVec.toInt_inj, Bool.beq_eq_decide_eq]

theorem toInt_add_of_range {a b : BitVec 64} {n : Int} (hb : b.toInt = n)
    (h0 : -9223372036854775808 ≤ a.toInt + n) (h1 : a.toInt + n < 9223372036854775808) :
    (a + b).toInt = a.toInt + n :=
  hb ▸ (BitVec.toInt_add a b).trans (Int.bmod_eq_of_le (hb ▸ h0) (hb ▸ h1))

theorem toInt_mul_of_range {a b : BitVec 64} {n : Int} (hb : b.toInt = n)
    (h0 : -9223372036854775808 ≤ a.toInt * n) (h1 : a.toInt * n < 9223372036854775808) :
    (a * b).toInt = a.toInt * n :=
  hb ▸ (BitVec.toInt_mul a b).trans (Int.bmod_eq_of_le (hb ▸ h0) (hb ▸ h1))

end Nsq.Proofs.BitVecInt
