import Nsq.Proofs.ProtoV2
import Nsq.Proofs.Num
/-! What the exactness of `ByteToBase10` (`byteToBase10_iff`, in `Proofs/Num.lean`: the value of the digit string or an error, never a wrapped
value) gives for RDY, DPUB and REQ. -/
namespace Nsq.Proofs.Base10
open Nsq.Model.ProtoV2 Nsq.Model.Names Nsq.Model.Base10 Nsq.Model Nsq.Spec.ProtoSpec

theorem rdy_exact (conf : Conf) (s : ConnState) (b : Broker) (cmd p : Bytes) (tl : List Bytes) (rest : Bytes)
    (n : Int) (h : (rdy conf s b (cmd :: p :: tl) rest).eff = [.rdy n]) :
    (∀ c ∈ p, IsDigit c) ∧ n = (decVal p 0 : Int) ∧ 0 ≤ n ∧ n ≤ conf.maxRdy := by
  -- `fun_cases` wants the parameter list as a variable; `hps` brings `p` back in the matching branch and refutes the fall-through
  revert h
  generalize hps : cmd :: p :: tl = ps
  -- 1 closing, 2 not subscribed, 3 the count does not parse, 4 it parses, 5 no count given
  fun_cases rdy conf s b ps rest
  case case4 v hv =>
    cases hps
    obtain ⟨hdig, hval, hle⟩ := (byteToBase10_iff p v).mp hv
    fun_cases rdySet conf s b rest (toInt64 v)
    · nofun
    · rename_i hr
      rintro ⟨⟩
      unfold toInt64 maxU64 at *
      split at hr
      · omega
      · rename_i hlt
        exact ⟨hdig, by simp [hlt, hval], by omega, by omega⟩
  case case5 hno => exact (hno _ _ _ hps.symm).elim
  all_goals nofun

theorem pubBody_enq (conf : Conf) (s : ConnState) (b : Broker) (t : Bytes) (d : Int) (rest : Bytes)
    (t' : Bytes) (ms : List Msg) (h : (pubBody conf s b t d rest).eff = [.enq t' ms]) :
    ∀ m ∈ ms, m.deferNs = d := by
  revert h
  fun_cases pubBody conf s b t d rest
  case case4 => rintro ⟨⟩; simp
  all_goals nofun

theorem dpub_exact (conf : Conf) (s : ConnState) (b : Broker) (cmd t d : Bytes) (tl : List Bytes) (rest : Bytes)
    (ms : List Msg) (hmax : conf.maxReqTimeoutNs < maxI64)
    (h : (dpub conf s b (cmd :: t :: d :: tl) rest).eff = [.enq t ms]) :
    (∀ c ∈ d, IsDigit c) ∧ (decVal d 0 : Int) * 1000000 ≤ conf.maxReqTimeoutNs ∧
      ∀ m ∈ ms, m.deferNs = (decVal d 0 : Int) * 1000000 := by
  revert h
  generalize hps : cmd :: t :: d :: tl = ps
  -- 1 bad topic name, 2 the delay does not parse, 3 out of range, 4 handed to `pubBody`, 5 too few parameters
  fun_cases dpub conf s b ps rest
  case case4 v hv hr =>
    cases hps
    intro h
    obtain ⟨hdig, hval, hle⟩ := (byteToBase10_iff d v).mp hv
    have hdef := pubBody_enq _ _ _ _ _ _ _ _ h
    unfold msToDuration maxI64 at *
    split at hr
    · omega
    · rename_i hsmall
      subst hval
      refine ⟨hdig, by omega, fun m hm => ?_⟩
      simpa [hsmall] using hdef m hm
  case case5 hno => exact (hno _ _ _ _ hps.symm).elim
  all_goals nofun

/-- `msToDuration` saturates only above every permitted maximum (`hmax`). -/
theorem clampReq_msToDuration (conf : Conf) (v : Nat) (hmax : conf.maxReqTimeoutNs ≤ maxI64) :
    clampReq conf (msToDuration v) = min ((v : Int) * 1000000) conf.maxReqTimeoutNs := by
  rw [clampReq, msToDuration_min]
  unfold maxI64 at *
  omega

theorem req_clamp (conf : Conf) (s : ConnState) (b : Broker) (cmd id t : Bytes) (tl : List Bytes) (rest : Bytes)
    (ns : Int) (h0 : 0 ≤ conf.maxReqTimeoutNs) (hmax : conf.maxReqTimeoutNs ≤ maxI64)
    (h : (req conf s b (cmd :: id :: t :: tl) rest).eff = [.req id ns]) :
    (∀ c ∈ t, IsDigit c) ∧ ns = min ((decVal t 0 : Int) * 1000000) conf.maxReqTimeoutNs := by
  revert h
  generalize hps : cmd :: id :: t :: tl = ps
  -- 1 wrong state, 2 id length, 3 the delay does not parse, 4 requeued, 5 not in flight, 6 too few parameters
  fun_cases req conf s b ps rest
  case case4 v hv _ =>
    cases hps
    rintro ⟨⟩
    obtain ⟨hdig, rfl, hle⟩ := (byteToBase10_iff t v).mp hv
    exact ⟨hdig, clampReq_msToDuration conf _ hmax⟩
  case case6 hno => exact (hno _ _ _ _ hps.symm).elim
  all_goals nofun

end Nsq.Proofs.Base10
