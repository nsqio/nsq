import Nsq.Proofs.Timing
/-!
The window between the two halves of one iteration of `processInFlightQueue`, fixed shape
(`fixed = true`): the heap pop and the in-flight-map delete are ONE step (`scanPopPQ true`); then any
history of other operations in which deliveries come from the queue (`runQ`); then the hand-over
to `put` (`scanFinishPop true`).

Right after the critical section the message is `Gone` (`gone_after_pop`: the popped entry was due, `e.pri ≤ t`), and
nothing that happens in the window brings it back (`gone_runQ`), because the only source of deliveries is the queue and
the message is not there yet: when it is handed to `put` it has neither a deadline in the in-flight heap
(`deadlineOf_none`) nor an entry in the in-flight map (`Gone.lookup_none`) — `Props.C04.never_early_micro_fixed`.
-/
namespace Nsq.Proofs.ScanWindow
open Nsq.Model.PQ Nsq.Model.Timing Nsq.Proofs.PQ Nsq.Proofs.Timing

/-- `id` is nowhere in the channel: not in the in-flight heap (hence, by `inv`, not in the in-flight map), not in the
queue, not deferred -/
structure Gone (id : Nat) (c : Chan) : Prop where
  inv : ChanInv c
  heap : id ∉ heapIds c.ifpq
  ready : id ∉ c.ready
  dmap : id ∉ c.dmap

theorem Gone.lookup_none {id : Nat} {c : Chan} (g : Gone id c) : lookup c.ifmap id = none :=
  lookup_none_iff.2 (fun h => g.heap (g.inv.ifIds.mem_iff.2 h))

theorem Gone.ne_of_lookup {id id' : Nat} {c : Chan} (g : Gone id c) {r : InF}
    (hr : lookup c.ifmap id' = some r) : id ≠ id' := by
  intro h
  have := g.lookup_none
  rw [h, hr] at this
  cases this

theorem heapIds_sub {a b : H} (h : ∀ k ∈ keys b, k ∈ keys a) {id : Nat} (hid : id ∈ heapIds b) :
    id ∈ heapIds a := by
  obtain ⟨p, hp⟩ := mem_heapIds.1 hid
  exact mem_heapIds.2 ⟨p, h _ hp⟩

theorem scanPopPQ_true_some {c : Chan} {t : Int} {e : E} (he : (scanPopPQ true c t).2 = some e) :
    ∃ pq r, peekAndShift1 c.ifpq t = some (pq, e) ∧ lookup c.ifmap e.id = some r ∧
      (scanPopPQ true c t).1 = { c with ifpq := pq, ifmap := erase c.ifmap e.id } := by
  cases hp : peekAndShift1 c.ifpq t with
  | none => simp [scanPopPQ, hp] at he
  | some x =>
    obtain ⟨pq, e'⟩ := x
    cases hl : lookup c.ifmap e'.id with
    | none => simp [scanPopPQ, hp, hl] at he
    | some r =>
      simp only [scanPopPQ, hp, hl, if_true, Option.some.injEq] at he
      subst he
      exact ⟨pq, r, rfl, hl, by simp [scanPopPQ, hp, hl]⟩

theorem gone_after_pop {c : Chan} {t : Int} {e : E} (h : ChanInv c)
    (he : (scanPopPQ true c t).2 = some e) (h1 : e.id ∉ c.ready) (h2 : e.id ∉ c.dmap) :
    e.pri ≤ t ∧ Gone e.id (scanPopPQ true c t).1 := by
  obtain ⟨pq, r, hp, _, hc⟩ := scanPopPQ_true_some he
  obtain ⟨tk, hle⟩ := peekAndShift1_took hp
  refine ⟨hle, ?_⟩
  rw [hc]
  exact ⟨h.tookIf tk _, fun hin => (h.ifNodup.mem_erase_iff.1 ((h.ifSide.took tk).perm.mem_iff.1 hin)).1 rfl, h1, h2⟩

/-- a scan hands to `put` only what its heap held -/
theorem Gone.scan_ready {id : Nat} {c : Chan} (g : Gone id c) {t : Int} {pq : Chan → H} {d : Bool} {ex : List E}
    {r : Scan} (hq : id ∉ heapIds (pq c)) (sc : Scanned t pq c d [] ex r) : id ∉ r.chan.ready := by
  rw [sc.ready]
  intro hin
  rcases List.mem_append.1 hin with h | h
  · exact g.ready h
  · obtain ⟨e, he, rfl⟩ := List.mem_map.1 h
    exact hq (mem_heapIds.2 ⟨e.pri, (sc.perm g.inv).mem_iff.1 (List.mem_append_left _ (List.mem_map.2 ⟨e, he, rfl⟩))⟩)

theorem gone_scanInFlight {id : Nat} {c : Chan} (g : Gone id c) (t : Int) :
    Gone id (scanInFlight c t).chan := by
  obtain ⟨sc, _, hd, _⟩ := scanInFlight_spec c t
  exact ⟨sc.inv g.inv, fun hin => g.heap (heapIds_sub sc.sub hin), g.scan_ready g.heap sc, hd ▸ g.dmap⟩

theorem gone_scanDeferred {id : Nat} {c : Chan} (g : Gone id c) (t : Int) :
    Gone id (scanDeferred c t).chan := by
  obtain ⟨sc, hq, _⟩ := scanDeferred_spec c t
  have hd : id ∉ heapIds c.dpq := fun hin => g.dmap (g.inv.dIds.mem_iff.1 hin)
  exact ⟨sc.inv g.inv, hq ▸ g.heap, g.scan_ready hd sc,
    fun hin => hd (heapIds_sub sc.sub ((sc.inv g.inv).dIds.mem_iff.2 hin))⟩

theorem trans_gone {max : Int} {c c' : Chan} {op : Op} {id : Nat} (h : Trans max c op c') (g : Gone id c)
    (hop : ∀ now d, op ≠ .defer now id d) (hfl : ∀ now cl t, op ≠ .inflight now id cl t) : Gone id c' := by
  suffices hs : id ∉ heapIds c'.ifpq ∧ id ∉ c'.ready ∧ id ∉ c'.dmap from ⟨trans_inv h g.inv, hs.1, hs.2.1, hs.2.2⟩
  have hpush {a : H} {id' : Nat} {p : Int} (hne : id ≠ id') (ha : id ∉ heapIds a) : id ∉ heapIds (push a id' p) :=
    fun hin => (List.mem_cons.1 ((heapIds_push _ _ _).mem_iff.1 hin)).elim hne ha
  have hrem {id' : Nat} {pq : H} (hpq : removeFromPQ c.ifpq id' = some pq) : id ∉ heapIds pq :=
    fun hin => g.heap (heapIds_sub (removeFromPQ_sub hpq) hin)
  cases h with
  | idle => exact ⟨g.heap, g.ready, g.dmap⟩
  | inflight now id' cl t hn => exact ⟨hpush (fun e => hfl now cl t (e ▸ rfl)) g.heap, g.ready, g.dmap⟩
  | touch now cl id' mt r pq hl hpq => exact ⟨hpush (g.ne_of_lookup hl) (hrem hpq), g.ready, g.dmap⟩
  | finish cl id' r pq hl hpq | requeueDup now cl id' d r pq hl hpq => exact ⟨hrem hpq, g.ready, g.dmap⟩
  | requeueNow now cl id' r pq hl hpq =>
    exact ⟨hrem hpq, fun hin => (List.mem_append.1 hin).elim g.ready
      (fun h => g.ne_of_lookup hl (by simpa using h)), g.dmap⟩
  | requeueDefer now cl id' d r pq hl hpq hd hn =>
    exact ⟨hrem hpq, g.ready, fun hin => (List.mem_cons.1 hin).elim (g.ne_of_lookup hl) g.dmap⟩
  | defer now id' d hn =>
    exact ⟨g.heap, g.ready, fun hin => (List.mem_cons.1 hin).elim (fun e => hop now d (e ▸ rfl)) g.dmap⟩
  | scanIf t => have := gone_scanInFlight g t; exact ⟨this.heap, this.ready, this.dmap⟩
  | scanDef t => have := gone_scanDeferred g t; exact ⟨this.heap, this.ready, this.dmap⟩

/-- The one call excluded, a `defer` of that very id, is one that only the owner of the message — here the scan
itself — could issue. -/
theorem gone_stepQ (max : Int) {id : Nat} {c : Chan} (g : Gone id c) (op : Op)
    (hop : ∀ now d, op ≠ .defer now id d) : Gone id (stepQ max c op) := by
  cases op with
  | inflight now id' cl t =>
    show Gone id (if c.ready.contains id' then _ else c)
    split
    · rename_i hc
      have hmem : id' ∈ c.ready := by simpa using hc
      refine trans_gone (step_trans max _ (.inflight now id' cl t))
        ⟨.of g.inv.ifSide g.inv.dSide, g.heap, fun h => g.ready (List.mem_of_mem_erase h), g.dmap⟩ hop ?_
      rintro _ _ _ ⟨⟩
      exact g.ready hmem
    · exact g
  | _ => exact trans_gone (step_trans max c _) g hop (fun _ _ _ e => nomatch e)

theorem gone_runQ (max : Int) {id : Nat} (ops : List Op) :
    ∀ c, Gone id c → (∀ op ∈ ops, ∀ now d, op ≠ .defer now id d) → Gone id (runQ max c ops) := by
  induction ops with
  | nil => intro c g _; exact g
  | cons op ops ih =>
    intro c g h
    exact ih _ (gone_stepQ max g op (h op List.mem_cons_self))
      (fun op' h' => h op' (List.mem_cons_of_mem _ h'))

theorem deadlineOf_none {c : Chan} {id : Nat} (h : id ∉ heapIds c.ifpq) :
    deadlineOf c id = none := by
  unfold deadlineOf
  have hf : c.ifpq.find? (fun e => e.id == id) = none := by
    rw [Array.find?_eq_none]
    intro x hx hp
    have hid : x.id = id := by simpa using hp
    exact h (mem_heapIds.2 ⟨x.pri, mem_keys.2 ⟨x, hx, by simp [key, hid]⟩⟩)
  rw [hf]
  rfl

end Nsq.Proofs.ScanWindow
