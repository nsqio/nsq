import Nsq.Proofs.ProtoEnv
import Nsq.Proofs.Broker
/-! C09 with `--max-channel-consumers > 0`: the whole run of a connection is the same against two brokers that agree on the
number of consumers of the channels it subscribes to (a channel that does not exist counts 0) — an instance of `loopX_rel`,
as is the run without a consumer limit, which is the same against any two brokers. The broker side: publishes,
`GetTopic`, `GetChannel` (all through `settle`) change no client count, an accepted SUB adds exactly one to its own channel. -/
namespace Nsq.Proofs.ProtoAgree
open Nsq.Model.ProtoV2 Nsq.Model.Names Nsq.Model.ProtoEnv Nsq.Model Nsq.Proofs.ProtoV2 Nsq.Proofs.ProtoEnv
open Nsq.Proofs.Broker

def chanCount (tp : Topic) (c : Bytes) : Nat :=
  match findChan tp c with
  | none => 0
  | some ch => ch.clients

theorem clientCount_eq (b : Broker) (t c : Bytes) :
    clientCount b t c = (match findTopic b t with | none => 0 | some tp => chanCount tp c) := by
  unfold clientCount chanCount; rfl

theorem clientCount_modify (b : Broker) (n t c : Bytes) (f : Topic → Topic) (hf : ∀ tp, (f tp).name = tp.name) :
    clientCount (modifyTopic b n f) t c =
      (match findTopic b t with | none => 0 | some tp => if t = n then chanCount (f tp) c else chanCount tp c) := by
  rw [clientCount_eq, findTopic_modify b n t f hf]
  by_cases htn : t = n
  · simp only [htn, if_true]; cases findTopic b n <;> rfl
  · simp only [htn, if_false]

theorem clientCount_modify_same (b : Broker) (n t c : Bytes) (f : Topic → Topic) (hf : ∀ tp, (f tp).name = tp.name)
    (hc : ∀ tp, chanCount (f tp) c = chanCount tp c) : clientCount (modifyTopic b n f) t c = clientCount b t c := by
  rw [clientCount_modify b n t c f hf, clientCount_eq]
  cases findTopic b t with
  | none => rfl
  | some tp => simp only [hc]; split <;> rfl

theorem chanCount_settle (tp : Topic) (c : Bytes) : chanCount (settle tp) c = chanCount tp c := by
  unfold settle
  split
  · rfl
  · unfold chanCount findChan
    simp only
    rw [Keyed.find?_map (key := Chan.name) (by intro; rfl)]
    cases List.find? _ tp.chans <;> rfl

theorem clientCount_getTopic (b : Broker) (n t c : Bytes) : clientCount (getTopic b n) t c = clientCount b t c := by
  unfold getTopic
  split
  · rfl
  · rename_i hh
    rw [clientCount_eq, clientCount_eq]
    simp only [findTopic, List.find?_append]
    cases h : List.find? (fun x => x.name == t) b with
    | some tp => rfl
    | none =>
      simp only [Option.none_or, List.find?_cons]
      cases hn : (n == t)
      · simp
      · simp [chanCount, findChan]

theorem clientCount_putMsgs (b : Broker) (n : Bytes) (ms : List Msg) (t c : Bytes) :
    clientCount (putMsgs b n ms) t c = clientCount b t c := by
  unfold putMsgs
  apply clientCount_modify_same
  · intro tp; rw [settle_name]
  · intro tp; rw [chanCount_settle]; rfl

theorem clientCount_publish (b : Broker) (n : Bytes) (ms : List Msg) (t c : Bytes) :
    clientCount (publish b n ms) t c = clientCount b t c := by
  unfold publish; rw [clientCount_putMsgs, clientCount_getTopic]

def gcF (cn : Bytes) (t : Topic) : Topic :=
  if hasChan t cn then t
  else settle { t with chans := t.chans ++ [{ name := cn, paused := false, clients := 0, msgs := [] }] }

theorem getChannel_eq (b : Broker) (tn cn : Bytes) : getChannel b tn cn = modifyTopic b tn (gcF cn) := rfl

theorem gcF_name (cn : Bytes) (t : Topic) : (gcF cn t).name = t.name := by
  unfold gcF; split
  · rfl
  · rw [settle_name]

theorem findChan_none_of_not_has {t : Topic} {cn : Bytes} (h : ¬ hasChan t cn = true) : findChan t cn = none := by
  unfold findChan
  rw [List.find?_eq_none]
  intro x hx hp
  apply h
  unfold hasChan
  exact List.any_eq_true.2 ⟨x, hx, hp⟩

theorem chanCount_gcF (cn : Bytes) (t : Topic) (c : Bytes) : chanCount (gcF cn t) c = chanCount t c := by
  unfold gcF
  split
  · rfl
  · rename_i hh
    rw [chanCount_settle]
    unfold chanCount findChan
    simp only [List.find?_append]
    cases h : List.find? (fun x => x.name == c) t.chans with
    | some ch => rfl
    | none =>
      simp only [Option.none_or, List.find?_cons]
      cases hn : (cn == c) <;> simp

theorem clientCount_getChannel (b : Broker) (tn cn t c : Bytes) :
    clientCount (getChannel b tn cn) t c = clientCount b t c := by
  rw [getChannel_eq]
  exact clientCount_modify_same b tn t c (gcF cn) (gcF_name cn) (fun tp => chanCount_gcF cn tp c)

theorem hasChan_gcF (c : Bytes) (tp : Topic) : hasChan (gcF c tp) c = true := by
  unfold gcF
  by_cases hh : hasChan tp c = true
  · simp only [hh, if_true]
  · have hh' : hasChan tp c = false := by simpa using hh
    simp only [hh', Bool.false_eq_true, if_false]
    rw [hasChan_settle]
    unfold hasChan
    simp [List.any_append]

theorem exists_after_get (b : Broker) (t c : Bytes) :
    ∃ tp ch, findTopic (getChannel (getTopic b t) t c) t = some tp ∧ findChan tp c = some ch := by
  obtain ⟨tp0, h0⟩ := Option.isSome_iff_exists.mp
    (List.find?_isSome.mpr (List.any_eq_true.mp (hasTopic_getTopic b t)))
  have h0' : findTopic (getTopic b t) t = some tp0 := h0
  have hn := findTopic_name h0'
  obtain ⟨ch, hch⟩ := Option.isSome_iff_exists.mp
    (List.find?_isSome.mpr (List.any_eq_true.mp (hasChan_gcF c tp0)))
  refine ⟨gcF c tp0, ch, ?_, hch⟩
  rw [getChannel_eq, findTopic_modify_eq _ _ _ (gcF_name c), h0']
  rfl

theorem clientCount_modifyChan (b : Broker) (t c t' c' : Bytes) (g : Chan → Chan) (hg : ∀ ch, (g ch).name = ch.name) :
    clientCount (modifyChan b t c g) t' c' =
      match findTopic b t' with
      | none => 0
      | some tp =>
        match findChan tp c' with
        | none => 0
        | some ch => if t' = t ∧ c' = c then (g ch).clients else ch.clients := by
  rw [modifyChan, clientCount_modify _ _ _ _ _ (fun _ => by rfl)]
  cases findTopic b t' with
  | none => rfl
  | some tp =>
    by_cases ht : t' = t
    · simp only [ht, if_true, true_and, chanCount, findChan]
      rw [Keyed.find?_upd hg]
      by_cases hc : c' = c <;> simp only [hc, if_true, if_false] <;> cases List.find? _ tp.chans <;> rfl
    · simp only [ht, if_false, false_and]
      unfold chanCount
      cases findChan tp c' <;> rfl

theorem clientCount_sub (b : Broker) (t c t' c' : Bytes) :
    clientCount (addClient (getChannel (getTopic b t) t c) t c) t' c' =
      clientCount b t' c' + (if t' = t ∧ c' = c then 1 else 0) := by
  have hB : clientCount (getChannel (getTopic b t) t c) t' c' = clientCount b t' c' := by
    rw [clientCount_getChannel, clientCount_getTopic]
  rw [← hB, addClient, clientCount_modifyChan _ _ _ _ _ _ (fun _ => by rfl), clientCount]
  by_cases h : t' = t ∧ c' = c
  · -- after `getChannel (getTopic b t) t c` the topic `t` and its channel `c` exist: the update finds a channel to count on
    obtain ⟨rfl, rfl⟩ := h
    obtain ⟨tp, ch, h1, h2⟩ := exists_after_get b t' c'
    simp [h1, h2]
  · simp only [h, if_false, Nat.add_zero]
    rfl

theorem exec_broker_cases (conf : Conf) (s : ConnState) (b : Broker) (ps : List Bytes) (rest : Bytes) :
    (exec conf s b ps rest).broker = b ∨ (∃ t, (exec conf s b ps rest).broker = getTopic b t) ∨
    (∃ t ms, (exec conf s b ps rest).eff = [.enq t ms]) ∨
    (∃ t c, (exec conf s b ps rest).eff = [.sub t c] ∧
      (exec conf s b ps rest).broker = addClient (getChannel (getTopic b t) t c) t c) := by
  obtain ⟨a, h⟩ := exec_act conf s ps rest
  rw [h]
  cases a with
  | reject _ _ created =>
    cases created with
    | none => exact .inl rfl
    | some t => exact .inr (.inl ⟨t, rfl⟩)
  | refuse => exact .inl rfl
  | conn => exact .inl rfl
  | enqueue t ms => exact .inr (.inr (.inl ⟨t, ms, rfl⟩))
  | subscribe t c => exact .inr (.inr (.inr ⟨t, c, rfl, rfl⟩))

def AgreeAt (t c : Bytes) (b b' : Broker) : Prop := clientCount b t c = clientCount b' t c

def Agree (b b' : Broker) : Prop := ∀ t c, AgreeAt t c b b'

theorem agreeAt_limit {t c : Bytes} {b b' : Broker} (h : AgreeAt t c b b') (xc : XConf) :
    limitHit xc b t c = limitHit xc b' t c := by
  unfold limitHit; rw [h]

theorem agree_limit {b b' : Broker} (h : Agree b b') (xc : XConf) (t c : Bytes) : limitHit xc b t c = limitHit xc b' t c :=
  agreeAt_limit (h t c) xc

theorem agree_publish {t c : Bytes} {b b' : Broker} (h : AgreeAt t c b b') (n : Bytes) (ms ms' : List Msg) :
    AgreeAt t c (publish b n ms) (publish b' n ms') := by
  unfold AgreeAt; rw [clientCount_publish, clientCount_publish]; exact h

theorem agree_getTopic {t c : Bytes} {b b' : Broker} (h : AgreeAt t c b b') (n n' : Bytes) :
    AgreeAt t c (getTopic b n) (getTopic b' n') := by
  unfold AgreeAt; rw [clientCount_getTopic, clientCount_getTopic]; exact h

theorem agree_refused {t c : Bytes} {b b' : Broker} (h : AgreeAt t c b b') (n m : Bytes) :
    AgreeAt t c (getChannel (getTopic b n) n m) (getChannel (getTopic b' n) n m) := by
  unfold AgreeAt
  rw [clientCount_getChannel, clientCount_getChannel, clientCount_getTopic, clientCount_getTopic]; exact h

theorem agree_sub {t c : Bytes} {b b' : Broker} (h : AgreeAt t c b b') (n m : Bytes) :
    AgreeAt t c (addClient (getChannel (getTopic b n) n m) n m) (addClient (getChannel (getTopic b' n) n m) n m) := by
  unfold AgreeAt; rw [clientCount_sub, clientCount_sub, h]

theorem exec_agree (conf : Conf) (s : ConnState) {t0 c0 : Bytes} {b b' : Broker} (h : AgreeAt t0 c0 b b') (ps : List Bytes) (rest : Bytes) :
    AgreeAt t0 c0 (exec conf s b ps rest).broker (exec conf s b' ps rest).broker := by
  obtain ⟨a, ha⟩ := exec_act conf s ps rest
  rw [ha, ha]
  cases a with
  | reject _ _ created =>
    cases created with
    | none => exact h
    | some t => exact agree_getTopic h t t
  | refuse => exact h
  | conn => exact h
  | enqueue t ms => exact agree_publish h t ms ms
  | subscribe t c => exact agree_sub h t c

theorem execX_agree_at (xc : XConf) (x : XState) {b b' : Broker} (ps : List Bytes) (rest : Bytes)
    (hl : ∀ t c, (baseStep xc x b ps rest).eff = [.sub t c] → AgreeAt t c b b') (t0 c0 : Bytes) (h : AgreeAt t0 c0 b b') :
    AgreeAt t0 c0 (execX xc x b ps rest).1.broker (execX xc x b' ps rest).1.broker :=
  execX_rel xc x b b' ps rest (fun r r' => AgreeAt t0 c0 r.1.broker r'.1.broker) (fun t c he => agreeAt_limit (hl t c he) xc)
    (agree_refused h) (fun _ _ _ _ => agree_publish h _ _ _) fun _ => exec_agree _ _ h ps rest

/-- the channels the connection's run asks the broker about: the `(topic, channel)` of every SUB its own input gets
accepted by the base step (at most one in fact: afterwards the connection is subscribed or closed) -/
def subTargets (xc : XConf) : Nat → XState → Broker → Bytes → List (Bytes × Bytes)
  | 0, _, _, _ => []
  | fuel + 1, x, b, bs =>
    match readLine bs with
    | .line l rest =>
      (match (baseStep xc x b (splitSp l) rest).eff with
       | [.sub t c] => [(t, c)]
       | _ => []) ++
      (match (execX xc x b (splitSp l) rest).1.ctl with
       | .cont => subTargets xc fuel (execX xc x b (splitSp l) rest).2 (execX xc x b (splitSp l) rest).1.broker
                    (execX xc x b (splitSp l) rest).1.rest
       | _ => [])
    | _ => []

section run
variable (xc : XConf) (R : Bytes → Bytes → Broker → Broker → Prop)
  (hlim : ∀ {t c b b'}, R t c b b' → limitHit xc b t c = limitHit xc b' t c)
  (hstep : ∀ x {b b'} ps rest, (∀ t c, (baseStep xc x b ps rest).eff = [.sub t c] → R t c b b') →
    ∀ t0 c0, R t0 c0 b b' → R t0 c0 (execX xc x b ps rest).1.broker (execX xc x b' ps rest).1.broker)
include hlim hstep

/-- For a relation `R t c` between two brokers that makes the consumer limit of channel `t/c` come out the
same and that every step keeps: the run of a connection is the same against two brokers related at the channels the
connection SUBscribes to (and they are then related wherever they were before). -/
theorem loopX_rel :
    ∀ (fuel : Nat) (x : XState) (b b' : Broker) (bs : Bytes),
    (∀ p ∈ subTargets xc fuel x b bs, R p.1 p.2 b b') →
    rview (loopX xc fuel x b bs) = rview (loopX xc fuel x b' bs) ∧
    ∀ t0 c0, R t0 c0 b b' → R t0 c0 (loopX xc fuel x b bs).broker (loopX xc fuel x b' bs).broker
  | 0, _, _, _, _, _ => by simp [loopX, rview]
  | fuel + 1, x, b, b', bs, H => by
    unfold loopX
    unfold subTargets at H
    split
    · simp [rview]
    · simp [rview]
    · rename_i l rest hln
      simp only [hln, List.mem_append] at H
      have hl : ∀ t c, (baseStep xc x b (splitSp l) rest).eff = [.sub t c] → R t c b b' := by
        intro t c he
        exact H (t, c) (Or.inl (by rw [he]; simp))
      -- `hv`: the two steps look the same (control, reply, state, rest, effects, next state), so both loops take the same
      -- branch of the `match` on the control and go on from the same input; `hag`: the step carries `R` to the two successor
      -- brokers, which is what the induction hypothesis asks at the remaining targets
      have hv := execX_view_at xc x b b' (splitSp l) rest fun t c he => hlim (hl t c he)
      have hag := hstep x (splitSp l) rest hl
      simp only [viewX, view, Prod.mk.injEq] at hv
      obtain ⟨⟨h1, h2, h3, h4, h5⟩, h6⟩ := hv
      generalize execX xc x b (splitSp l) rest = X at *
      generalize execX xc x b' (splitSp l) rest = Y at *
      rw [← h1]
      cases hx : X.1.ctl
      · simp only [Run.cons, rview]
        have H2 : ∀ p ∈ subTargets xc fuel X.2 X.1.broker X.1.rest, R p.1 p.2 X.1.broker Y.1.broker := by
          intro p hp
          exact hag p.1 p.2 (H p (Or.inr (by rw [hx]; exact hp)))
        have ih := loopX_rel fuel X.2 X.1.broker Y.1.broker X.1.rest H2
        obtain ⟨ih1, ih2⟩ := ih
        simp only [rview, Prod.mk.injEq] at ih1
        obtain ⟨i1, i2, i3, i4⟩ := ih1
        rw [← h2, ← h4, ← h5, ← h6]
        exact ⟨by simp [i1, i2, i3, i4], fun t0 c0 h => ih2 t0 c0 (hag t0 c0 h)⟩
      · exact ⟨by simp [Run.stop, rview, h2, h3, h5], hag⟩
      · exact ⟨by simp [Run.stop, rview, h2, h3, h5], hag⟩
      · exact ⟨by simp [Run.stop, rview, h2, h3, h5], hag⟩

end run

theorem loopX_indep (xc : XConf) (h0 : xc.maxChanConsumers = 0) (fuel : Nat) (x : XState) (b b' : Broker) (bs : Bytes) :
    rview (loopX xc fuel x b bs) = rview (loopX xc fuel x b' bs) :=
  (loopX_rel xc (fun _ _ _ _ => True) (by simp [limitHit, h0]) (fun _ _ _ _ _ _ _ _ _ => trivial) fuel x b b' bs
    fun _ _ => trivial).1

theorem loopX_agree (xc : XConf) (fuel : Nat) (x : XState) (b b' : Broker) (bs : Bytes)
    (h : ∀ p ∈ subTargets xc fuel x b bs, AgreeAt p.1 p.2 b b') :
    rview (loopX xc fuel x b bs) = rview (loopX xc fuel x b' bs) ∧
    ∀ t c, AgreeAt t c b b' → AgreeAt t c (loopX xc fuel x b bs).broker (loopX xc fuel x b' bs).broker :=
  loopX_rel xc AgreeAt (agreeAt_limit · xc) (execX_agree_at xc) fuel x b b' bs h

end Nsq.Proofs.ProtoAgree
