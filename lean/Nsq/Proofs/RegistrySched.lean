import Nsq.Model.RegistrySched
/-!
Schedules of two handlers (section 3 of `Nsq.Props.C14`). `interleave xs ys` enumerates exactly the shuffles of
`xs` and `ys` (`Shuffle`, `mem_interleaveF_iff`): statements about every schedule are inductions over `Shuffle`, a
particular schedule is a term built from its constructors. A reader that is ONE critical section lands between two
sections of the writers, so its observation is the atomic observation of the registry after a prefix of the writers'
sections.
-/
namespace Nsq.Proofs.RegistrySched
open Nsq.Model.Registry Nsq.Model.Registry.AMap

inductive Shuffle {α : Type} : List α → List α → List α → Prop
  | nil : Shuffle [] [] []
  | left {x : α} {xs ys s : List α} : Shuffle xs ys s → Shuffle (x :: xs) ys (x :: s)
  | right {y : α} {xs ys s : List α} : Shuffle xs ys s → Shuffle xs (y :: ys) (y :: s)

theorem Shuffle.nil_left {α : Type} : ∀ ys : List α, Shuffle [] ys ys
  | [] => .nil
  | _ :: ys => .right (nil_left ys)

theorem Shuffle.nil_right {α : Type} : ∀ xs : List α, Shuffle xs [] xs
  | [] => .nil
  | _ :: xs => .left (nil_right xs)

theorem Shuffle.eq_of_nil_left {α : Type} : ∀ {ys s : List α}, Shuffle [] ys s → s = ys
  | [], _, .nil => rfl
  | _ :: _, _, .right h => congrArg _ (eq_of_nil_left h)

theorem Shuffle.eq_of_nil_right {α : Type} : ∀ {xs s : List α}, Shuffle xs [] s → s = xs
  | [], _, .nil => rfl
  | _ :: _, _, .left h => congrArg _ (eq_of_nil_right h)

theorem mem_interleaveF_iff {α : Type} : ∀ (n : Nat) (xs ys s : List α), xs.length + ys.length ≤ n →
    (s ∈ interleaveF n xs ys ↔ Shuffle xs ys s) := by
  intro n
  induction n with
  | zero =>
    intro xs ys s hn
    obtain rfl : xs = [] := List.eq_nil_of_length_eq_zero (by omega)
    obtain rfl : ys = [] := List.eq_nil_of_length_eq_zero (by omega)
    simp only [interleaveF, List.mem_singleton]
    exact ⟨fun h => h ▸ .nil, fun h => h.eq_of_nil_left⟩
  | succ n ih =>
    intro xs ys s hn
    match xs, ys with
    | [], ys =>
      simp only [interleaveF, List.mem_singleton]
      exact ⟨fun h => h ▸ .nil_left ys, fun h => h.eq_of_nil_left⟩
    | x :: xs, [] =>
      simp only [interleaveF, List.mem_singleton]
      exact ⟨fun h => h ▸ .nil_right _, fun h => h.eq_of_nil_right⟩
    | x :: xs, y :: ys =>
      simp only [List.length_cons] at hn
      simp only [interleaveF, List.mem_append, List.mem_map, ih xs (y :: ys) _ (by simp only [List.length_cons]; omega),
        ih (x :: xs) ys _ (by simp only [List.length_cons]; omega)]
      constructor
      · rintro (⟨s', h, rfl⟩ | ⟨s', h, rfl⟩)
        · exact .left h
        · exact .right h
      · intro h
        cases h with
        | left h => exact Or.inl ⟨_, h, rfl⟩
        | right h => exact Or.inr ⟨_, h, rfl⟩

theorem mem_interleave_iff {α : Type} (xs ys s : List α) : s ∈ interleave xs ys ↔ Shuffle xs ys s :=
  mem_interleaveF_iff _ xs ys s (Nat.le_refl _)

theorem interleave_pair {α : Type} (f g : α) : interleave [f] [g] = [[f, g], [g, f]] := rfl

theorem foldl_interleave_pair {σ : Type} (f g : σ → σ) (x : σ) :
    ∀ s ∈ interleave [f] [g], s.foldl (fun d h => h d) x = g (f x) ∨ s.foldl (fun d h => h d) x = f (g x) := by
  intro s hs
  simp only [interleave_pair, List.mem_cons, List.not_mem_nil, or_false] at hs
  rcases hs with rfl | rfl
  · exact Or.inl rfl
  · exact Or.inr rfl

theorem Shuffle.single {α : Type} {r : α} : ∀ {xs s : List α}, Shuffle xs [r] s →
    ∃ k, k ≤ xs.length ∧ s = xs.take k ++ r :: xs.drop k
  | [], _, h => ⟨0, Nat.le_refl _, h.eq_of_nil_left⟩
  | x :: xs, _, .left h => by
    obtain ⟨k, hk, rfl⟩ := single h
    exact ⟨k + 1, Nat.succ_le_succ hk, rfl⟩
  | x :: xs, _, .right h => ⟨0, Nat.zero_le _, by rw [h.eq_of_nil_right]; rfl⟩

theorem interleave_single {α : Type} (xs : List α) (r : α) :
    ∀ s ∈ interleave xs [r], ∃ k, k ≤ xs.length ∧ s = xs.take k ++ r :: xs.drop k :=
  fun s hs => ((mem_interleave_iff xs [r] s).mp hs).single

theorem foldl_interleave_single {σ : Type} (xs : List (σ → σ)) (r : σ → σ) (x : σ) :
    ∀ s ∈ interleave xs [r], ∃ k, k ≤ xs.length ∧
      s.foldl (fun d f => f d) x = (xs.drop k).foldl (fun d f => f d) (r ((xs.take k).foldl (fun d f => f d) x)) := by
  intro s hs
  obtain ⟨k, hk, rfl⟩ := interleave_single xs r s hs
  exact ⟨k, hk, by rw [List.foldl_append, List.foldl_cons]⟩

theorem runSecs_cons (db : DB) (f : Section) (l : List Section) : runSecs db (f :: l) = runSecs (f db) l := rfl

theorem runSecs_append (db : DB) (l₁ l₂ : List Section) :
    runSecs db (l₁ ++ l₂) = runSecs (runSecs db l₁) l₂ := by
  simp [runSecs, List.foldl_append]

theorem runSecsO_wsec {α : Type} (ws : List Section) (db : DB) (o : α) :
    runSecsO (db, o) (ws.map wsec) = (runSecs db ws, o) := by
  rw [runSecsO, List.foldl_map]
  exact List.foldl_hom (fun d => (d, o)) fun _ _ => rfl

theorem atomic_reader_sees_prefix {α : Type} (ws : List Section) (rd : DB → α) (db : DB) (o : α) :
    ∀ s ∈ interleave (ws.map wsec) [rsec rd],
      ∃ k, k ≤ ws.length ∧ runSecsO (db, o) s = (runSecs db ws, rd (runSecs db (ws.take k))) := by
  intro s hs
  obtain ⟨k, hk, e⟩ := foldl_interleave_single _ _ (db, o) s hs
  rw [List.length_map] at hk
  refine ⟨k, hk, ?_⟩
  have h1 := runSecsO_wsec (ws.take k) db o
  have h2 := runSecsO_wsec (ws.drop k) (runSecs db (ws.take k)) (rd (runSecs db (ws.take k)))
  simp only [runSecsO] at h1 h2
  rw [runSecsO, e, ← List.map_take, ← List.map_drop, h1, rsec, h2, ← runSecs_append, List.take_append_drop]

theorem lookup_answer_of_obs (c : Conf) (r : Registry) (t : Name) (now : Int) :
    qLookup c r t now =
      if (lookupDB r.db t).found then
        some ⟨(lookupDB r.db t).channels,
              peerInfos r (filterByActive r c.inactive c.tombLife now (lookupDB r.db t).prods)⟩
      else none := by
  unfold qLookup lookupDB qChannels
  by_cases h : (findRegistrations r.db Cat.topic t []).isEmpty = true <;> simp [h]

theorem nodeTopics_of_obs (c : Conf) (r : Registry) (id : Nat) (now : Int) :
    nodeTopics c r id now = (nodeDB r.db id).flags.map (fun f => (f.1, flagOf c.tombLife now f.2)) := by
  simp only [nodeTopics, nodeDB, topicsOf, List.map_map]
  apply List.map_congr_left
  intro k _
  simp only [Function.comp, tombFlag, flagOf]
  cases mget (producersOf r.db (topicKey k.key)) id <;> rfl

theorem nodes_section_compose (db : DB) (ids : List Nat) :
    runSecsO (db, NodesObs.init) (nodesSecs true ids) = (db, nodesDB db) := by
  simp [nodesSecs, runSecsO, rsec]

end Nsq.Proofs.RegistrySched
