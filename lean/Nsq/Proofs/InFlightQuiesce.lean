import Nsq.Model.InFlight
import Nsq.Proofs.InFlight
/-
C08 micro-step model, the tree with F7 + F16 + F48 (`fixed`, `scanAtomic`, `pushAtomic`): an invariant of EVERY
schedule that gives `IndexOK` in every reachable state and `MapHeapAgree` (the heap is a permutation of the in-flight
map; both are without duplicates) whenever no operation is in progress.

  ok   : every heap slot's object carries that slot's index
  mp   : every in-flight message has a heap entry             (F48: inserted together; removed heap-first only by the scan,
                                                               which removes the map entry in the same section, F16)
  pm   : a heap entry belongs to an in-flight message or to one an answer (FIN/REQ/TOUCH) has just popped from the map
  own  : every object id has at most ONE owner among: the queue, the in-flight map, the deferred map, an answer /
         timeout scan in progress  (location invariant; ids are unique, C12: `put` is disabled for an id still referred to)
-/
namespace Nsq.Proofs.InFlightQuiesce
open Nsq.Model.InFlight Nsq.Proofs.InFlight

def ownCont : Cont → List Nat
  | .finAfterPop o | .reqAfterPop o _ | .reqAfterRemove o _ | .touchAfterPop o | .touchAfterRemove o
  | .scanAfterPQPop o => [o]
  | _ => []

def owners (cs : List Cont) : List Nat := (cs.map ownCont).flatten

def own (s : St) (o : Nat) : Nat :=
  s.queued.count o + s.map.count o + s.dmap.count o + (owners s.conts).count o

/-- popped from the in-flight map by an answer whose heap removal is still to come -/
def ansCont : Cont → List Nat
  | .finAfterPop o | .reqAfterPop o _ | .touchAfterPop o => [o]
  | _ => []

def answering (cs : List Cont) : List Nat := (cs.map ansCont).flatten

structure QInv (s : St) : Prop where
  ok : IndexOK s.h
  mp : ∀ o ∈ s.map, o ∈ s.h.pq
  pm : ∀ o ∈ s.h.pq, o ∈ s.map ∨ o ∈ answering s.conts
  own : ∀ o, own s o ≤ 1

theorem owners_cons (c : Cont) (cs : List Cont) (x : Nat) :
    (owners (c :: cs)).count x = (ownCont c).count x + (owners cs).count x := by
  simp [owners, List.count_append]

theorem owners_erase {c : Cont} {cs : List Cont} (hc : c ∈ cs) (x : Nat) :
    (owners (cs.erase c)).count x + (ownCont c).count x = (owners cs).count x := by
  have h := ((List.perm_cons_erase hc).map ownCont).flatten.count_eq x
  have := owners_cons c (cs.erase c) x
  simp only [owners] at *
  omega

theorem owners_erase_le (c : Cont) (cs : List Cont) (x : Nat) : (owners (cs.erase c)).count x ≤ (owners cs).count x := by
  by_cases hc : c ∈ cs
  · have := owners_erase hc x; omega
  · rw [List.erase_of_not_mem hc]; exact Nat.le_refl _

theorem answering_cons {x : Nat} {c : Cont} {cs : List Cont} : x ∈ answering (c :: cs) ↔ x ∈ ansCont c ∨ x ∈ answering cs := by
  simp [answering]

theorem answering_erase_of {x : Nat} {c : Cont} {cs : List Cont} (h : x ∈ answering cs) (hn : x ∉ ansCont c) :
    x ∈ answering (cs.erase c) :=
  mem_collect_erase h hn

theorem answering_tail {x : Nat} {c : Cont} {cs : List Cont} (h : x ∈ answering cs) : x ∈ answering (c :: cs) :=
  answering_cons.mpr (Or.inr h)

theorem ans_sub_own (c : Cont) (x : Nat) (h : x ∈ ansCont c) : x ∈ ownCont c := by
  cases c <;> simp [ansCont, ownCont] at h ⊢ <;> exact h

theorem count_own_of_mem {x : Nat} {c : Cont} {cs : List Cont} (hc : c ∈ cs) (hx : x ∈ ownCont c) :
    1 ≤ (owners cs).count x := by
  have h1 := owners_erase hc x
  have h2 : 1 ≤ (ownCont c).count x := List.count_pos_iff.mpr hx
  omega

theorem count_own_of_answering {x : Nat} {cs : List Cont} (h : x ∈ answering cs) : 1 ≤ (owners cs).count x := by
  obtain ⟨c, hc, hx⟩ := mem_collect.mp h
  exact count_own_of_mem hc (ans_sub_own c x hx)

/-- an owner cont `c` of `x` and an answering cont (a different one, since `x ∉ ansCont c`) : two owners -/
theorem count_own_two {x : Nat} {c : Cont} {cs : List Cont} (hc : c ∈ cs) (hx : x ∈ ownCont c) (hn : x ∉ ansCont c)
    (ha : x ∈ answering cs) : 2 ≤ (owners cs).count x := by
  have h1 := owners_erase hc x
  have h2 : 1 ≤ (ownCont c).count x := List.count_pos_iff.mpr hx
  have h3 := count_own_of_answering (answering_erase_of ha hn)
  omega

theorem owners_sub_contObjs {x : Nat} {cs : List Cont} (h : x ∈ owners cs) : x ∈ contObjs cs := by
  simp only [owners, contObjs, List.mem_flatten, List.mem_map] at h ⊢
  obtain ⟨l, ⟨c, hc, rfl⟩, hx⟩ := h
  refine ⟨contObj c, ⟨c, hc, rfl⟩, ?_⟩
  cases c <;> simp [ownCont, contObj] at hx ⊢ <;> exact hx

theorem count_erase_nat (l : List Nat) (a x : Nat) : (l.erase a).count x = l.count x - if a = x then 1 else 0 := by
  rw [List.count_erase]
  by_cases h : a = x <;> simp [h]

theorem cnt_cons (o x : Nat) (l : List Nat) : (o :: l).count x = l.count x + (if o = x then 1 else 0) := by
  rw [List.count_cons]
  by_cases h : o = x <;> simp [h]

theorem cnt_single (o x : Nat) : [o].count x = if o = x then 1 else 0 := by
  rw [cnt_cons]; simp

/-- counting argument: unfold the owner count on both sides, split on `o = x`, linear arithmetic.  It works on the
whole context (`at *`): a call site first puts there, as `have`s, the counts the case needs (the invariant at `x`,
`owners_erase` for the operation that ends, `1 ≤ count` for a membership premise). -/
macro "count_tac" o:term "," x:term : tactic => `(tactic| (
  simp only [own, owners_cons, ownCont, cnt_cons, cnt_single, count_erase_nat, List.count_nil, dropCont] at *
  by_cases e : $o = $x
  · subst e; simp only [↓reduceIte] at *; omega
  · simp only [e, ↓reduceIte] at *; omega))

theorem qinv_objs (s : St) (objs' : Nat → Obj) (inv : QInv s)
    (hsame : ∀ o ∈ s.h.pq, (objs' o).index = (s.h.objs o).index) :
    IndexOK { s.h with objs := objs' } := indexOK_objs_congr s.h objs' inv.ok hsame

theorem QInv.map_nodup {s : St} (inv : QInv s) : s.map.Nodup := by
  rw [List.nodup_iff_count]
  intro x
  have := inv.own x
  simp only [InFlightQuiesce.own] at this
  omega

/-- FIN / REQ / TOUCH take `o` out of the in-flight map: the answer now in progress (`c`) is its owner, and its heap
entry, still to be removed, is accounted for by `answering` -/
theorem qinv_ansPop {s : St} (inv : QInv s) {o : Nat} (hm : o ∈ s.map) (c : Cont) (ha : ansCont c = [o])
    (ho : ownCont c = [o]) : QInv { s with map := s.map.erase o, conts := c :: s.conts } := by
  have hmo : 1 ≤ s.map.count o := List.count_pos_iff.mpr hm
  refine ⟨inv.ok, fun o' ho' => inv.mp o' (List.mem_of_mem_erase ho'), ?_, ?_⟩
  · intro y hy
    rcases inv.pm y hy with h1 | h1
    · by_cases e : y = o
      · exact Or.inr (answering_cons.mpr (Or.inl (by rw [ha, e]; exact List.mem_singleton.mpr rfl)))
      · exact Or.inl ((List.mem_erase_of_ne e).mpr h1)
    · exact Or.inr (answering_tail h1)
  · intro x
    have := inv.own x
    simp only [own, owners_cons, ho] at *
    count_tac o, x

/-- … and then remove its heap entry (`removeFromInFlightPQ`); `cs'` is what becomes of the parked operations:
the answer `c` is replaced by its next stage (which still owns `o`) or is over -/
theorem qinv_ansRemove {s : St} (inv : QInv s) {o : Nat} {c : Cont} (hm : c ∈ s.conts) (ho : o ∈ ownCont c)
    {h' : HS} (hr : removeFromPQ true s.h o = some h') (cs' : List Cont)
    (hans : ∀ y, y ≠ o → y ∈ answering s.conts → y ∈ answering cs')
    (hown : ∀ x, (owners cs').count x ≤ (owners s.conts).count x) : QInv { s with h := h', conts := cs' } := by
  obtain ⟨hok, hmem⟩ := of_some (removeFromPQ_spec s.h o) hr inv.ok
  have ho1 := count_own_of_mem hm ho
  have hnm : o ∉ s.map := by
    intro hmm
    have : 1 ≤ s.map.count o := List.count_pos_iff.mpr hmm
    have := inv.own o; simp only [own] at this; omega
  refine ⟨hok, ?_, ?_, ?_⟩
  · intro o' ho'
    exact (hmem o').mpr ⟨inv.mp o' ho', fun e => hnm (e ▸ ho')⟩
  · intro y hy
    obtain ⟨hy1, hy2⟩ := (hmem y).mp hy
    rcases inv.pm y hy1 with h1 | h1
    · exact Or.inl h1
    · exact Or.inr (hans y hy2 h1)
  · intro x
    have := inv.own x
    have := hown x
    simp only [own] at *
    omega

theorem qinv_of_le {s s' : St} (inv : QInv s) (ok : IndexOK s'.h) (hpq : s'.h.pq = s.h.pq) (hmap : s'.map = s.map)
    (hans : ∀ y, y ∈ answering s.conts → y ∈ answering s'.conts) (hown : ∀ x, own s' x ≤ own s x) : QInv s' :=
  ⟨ok, by rw [hmap, hpq]; exact inv.mp, by rw [hpq, hmap]; exact fun y hy => (inv.pm y hy).imp_right (hans y),
    fun x => Nat.le_trans (hown x) (inv.own x)⟩

/-- `pushInFlightMessage` in one section (F48): `o`, in no answer's hands and not in the map, is not in the heap;
it enters map and heap together -/
theorem qinv_push {s s' : St} (inv : QInv s) {o : Nat} {h0 : HS} (ok0 : IndexOK h0) (hpq : h0.pq = s.h.pq)
    (hr : push h0 o = some s'.h) (hno : o ∉ s.h.pq) (hmap : s'.map = o :: s.map)
    (hans : ∀ y, y ∈ answering s.conts → y ∈ answering s'.conts) (hown : ∀ x, own s' x ≤ 1) : QInv s' := by
  obtain ⟨hmem, hok⟩ := of_some (push_spec h0 o) hr
  rw [hpq] at hmem
  refine ⟨hok ok0 (hpq ▸ hno), ?_, ?_, hown⟩
  · intro o' ho'
    rw [hmap] at ho'
    exact (hmem o').mpr ((List.mem_cons.mp ho').imp_right (inv.mp o'))
  · intro y hy
    rw [hmap]
    rcases (hmem y).mp hy with e | e
    · exact Or.inl (List.mem_cons.mpr (Or.inl e))
    · exact (inv.pm y e).imp (List.mem_cons_of_mem _) (hans y)

theorem trans_qinv {s s' : St} {a : Step} (inv : QInv s) (hpa : s.pushAtomic = true) (hsa : s.scanAtomic = true)
    (h : Trans true s a s') : QInv s' := by
  have cnt := inv.own
  cases h with
  | idle => exact inv
  | touchMapPush _ _ _ hpa' | touchPQPush _ _ _ hpa' | startMapPush _ _ _ _ hpa' | startPQPush _ _ _ hpa' =>
    exact absurd hpa hpa'
  | scanHold _ _ _ _ hsa' | scanPop _ _ hsa' | scanPopGone _ _ hsa' => exact absurd hsa hsa'
  | finPop c o hm | reqPop c o d hm | touchPop c o hm => exact qinv_ansPop inv hm.1 _ rfl rfl
  | finRemove o h' hc hr =>
    exact qinv_ansRemove inv hc (List.mem_singleton.mpr rfl) hr _
      (fun y hy h1 => answering_erase_of h1 (by simp [ansCont, hy])) (owners_erase_le _ _)
  | reqRemove o d h' hc hr | touchRemove o h' hc hr =>
    refine qinv_ansRemove inv hc (List.mem_singleton.mpr rfl) hr _
      (fun y hy h1 => answering_cons.mpr (Or.inr (answering_erase_of h1 (by simp [ansCont, hy])))) ?_
    intro x
    have := owners_erase hc x
    simp only [dropCont, owners_cons, ownCont] at *
    omega
  -- a parked operation ends
  | reqPutDup o d hc | touchPQDone o hc | startPQDone o hc | deferPQPush o p hc | reqDeferPQPush o p hc
  | dscanPopGone o hc | emptyRest hc =>
    refine qinv_of_le inv inv.ok rfl rfl (fun _ h1 => answering_erase_of h1 List.not_mem_nil) (fun x => ?_)
    have := owners_erase hc x
    simp only [own, dropCont, List.count_nil] at *
    omega
  | emptyResetDeferred hc =>
    refine qinv_of_le inv inv.ok rfl rfl
      (fun _ h1 => answering_tail (answering_erase_of h1 List.not_mem_nil)) (fun x => ?_)
    have := owners_erase hc x
    simp only [own, owners_cons, ownCont, List.count_nil, dropCont] at *
    omega
  -- … or hands the object it owns to a container
  | reqPutQueue o d hc =>
    refine qinv_of_le inv inv.ok rfl rfl (fun _ h1 => answering_erase_of h1 List.not_mem_nil) (fun x => ?_)
    have := owners_erase hc x
    count_tac o, x
  | reqPutDefer o d hc =>
    refine qinv_of_le inv inv.ok rfl rfl
      (fun _ h1 => answering_tail (answering_erase_of h1 List.not_mem_nil)) (fun x => ?_)
    have := owners_erase hc x
    count_tac o, x
  | scanPopDone o hc =>
    refine qinv_of_le inv inv.ok rfl rfl (fun _ h1 => answering_erase_of h1 List.not_mem_nil) (fun x => ?_)
    have := owners_erase hc.1 x
    count_tac o, x
  | dscanPop o hc hd =>
    refine qinv_of_le inv inv.ok rfl rfl (fun _ h1 => answering_erase_of h1 List.not_mem_nil) (fun x => ?_)
    have := owners_erase hc x
    have := List.count_pos_iff.mpr hd
    count_tac o, x
  | touchMapDup o p hc =>
    refine qinv_of_le inv (setPri_indexOK inv.ok o p) rfl rfl (fun _ h1 => answering_erase_of h1 List.not_mem_nil) (fun x => ?_)
    have := owners_erase hc x
    count_tac o, x
  | startMapDup c o p | deferMapDup o =>
    refine qinv_of_le inv (by first | exact setDeliver_indexOK inv.ok o c p | exact inv.ok) rfl rfl (fun _ h1 => h1) (fun x => ?_)
    simp only [own, count_erase_nat]
    omega
  | deferMapPush o hq =>
    refine qinv_of_le inv inv.ok rfl rfl (fun _ => answering_tail) (fun x => ?_)
    have := List.count_pos_iff.mpr hq
    count_tac o, x
  | dscanTake t e =>
    refine qinv_of_le inv inv.ok rfl rfl (fun _ => answering_tail) (fun x => ?_)
    simp only [own, owners_cons, ownCont, List.count_nil]
    omega
  | reload o hq => exact qinv_of_le inv (freshObj_indexOK inv.ok hq.2) rfl rfl (fun _ h1 => h1) (fun _ => Nat.le_refl _)
  | touchMapPushA o p h' hc hm hpa hr =>
    have her := fun x => owners_erase hc x
    refine qinv_push inv (setPri_indexOK inv.ok o p) rfl hr ?_ rfl
      (fun _ h1 => answering_tail (answering_erase_of h1 List.not_mem_nil)) ?_
    · intro hq
      rcases inv.pm o hq with h1 | h1
      · exact hm h1
      · have := count_own_two hc (show o ∈ ownCont (Cont.touchAfterRemove o) by simp [ownCont])
          (by simp [ansCont]) h1
        have := cnt o; simp only [own] at this; omega
    · intro x
      have := cnt x
      have := her x
      count_tac o, x
  | startMapPushA c o p h' hq hm hpa hr =>
    have hqc : 1 ≤ s.queued.count o := List.count_pos_iff.mpr hq
    refine qinv_push inv (setDeliver_indexOK inv.ok o c p) rfl hr ?_ rfl (fun _ => answering_tail) ?_
    · intro hpq
      rcases inv.pm o hpq with h1 | h1
      · exact hm h1
      · have := count_own_of_answering h1
        have := cnt o; simp only [own] at this; omega
    · intro x
      have := cnt x
      count_tac o, x
  | scanTake t h' o hr hm =>
    obtain ⟨hok, ho, hmem⟩ := of_some (peekAndShift_spec _ _) hr inv.ok
    refine ⟨hok, ?_, ?_, ?_⟩
    · intro y hy
      obtain ⟨hy2, hy1⟩ := inv.map_nodup.mem_erase_iff.1 hy
      exact (hmem y).mpr ⟨inv.mp y hy1, hy2⟩
    · intro y hy
      obtain ⟨hy1, hy2⟩ := (hmem y).mp hy
      rcases inv.pm y hy1 with h1 | h1
      · exact Or.inl ((List.mem_erase_of_ne hy2).mpr h1)
      · exact Or.inr (answering_tail h1)
    · intro x
      have := cnt x
      have hmo : 1 ≤ s.map.count o := List.count_pos_iff.mpr hm
      count_tac o, x
  | scanStale t h' o hr hm =>
    obtain ⟨hok, ho, hmem⟩ := of_some (peekAndShift_spec _ _) hr inv.ok
    refine ⟨hok, ?_, ?_, inv.own⟩
    · intro y hy
      exact (hmem y).mpr ⟨inv.mp y hy, fun e => hm (e ▸ hy)⟩
    · intro y hy
      exact inv.pm y ((hmem y).mp hy).1
  | emptyResetInflight =>
    refine ⟨(fun i hi => by cases hi), (fun o ho => by cases ho), (fun o ho => by cases ho), ?_⟩
    intro x
    have := cnt x
    simp only [own, owners_cons, ownCont, List.count_nil] at *
    omega
  | put o hfree =>
    simp only [not_or] at hfree
    obtain ⟨f1, f2, f3, f4, _, f6⟩ := hfree
    refine ⟨freshObj_indexOK inv.ok f4, inv.mp, inv.pm, fun x => ?_⟩
    have := cnt x
    have h1 := List.count_eq_zero.mpr f1
    have h2 := List.count_eq_zero.mpr f2
    have h3 := List.count_eq_zero.mpr f3
    have h4 := List.count_eq_zero.mpr (mt owners_sub_contObjs f6)
    count_tac o, x

theorem qinv_init (q : List Nat) (hq : q.Nodup) (sa pa al : Bool) :
    QInv { initSt q with scanAtomic := sa, pushAtomic := pa, ansLock := al } := by
  refine ⟨(fun i hi => by simp [initSt] at hi), (fun o ho => by simp [initSt] at ho), (fun o ho => by simp [initSt] at ho), ?_⟩
  intro x
  simp only [own, initSt, owners, List.map_nil, List.flatten_nil, List.count_nil, Nat.add_zero]
  exact List.nodup_iff_count.mp hq x

theorem run_qinv (sched : List Step) (s s' : St) (inv : QInv s) (hpa : s.pushAtomic = true) (hsa : s.scanAtomic = true)
    (h : run true s sched = Res.ok s') : QInv s' :=
  (run_induction (A := fun _ => True) (P := fun s => QInv s ∧ s.pushAtomic = true ∧ s.scanAtomic = true)
    (fun _ _ _ _ hP ht =>
      ⟨trans_qinv hP.1 hP.2.1 hP.2.2 ht, (trans_params ht).2.1.trans hP.2.1, (trans_params ht).1.trans hP.2.2⟩)
    sched s s' (fun _ _ => trivial) ⟨inv, hpa, hsa⟩ h).1

theorem qinv_reachable (q : List Nat) (hq : q.Nodup) (al : Bool) (sched : List Step) (s : St)
    (h : run true { initSt q with scanAtomic := true, pushAtomic := true, ansLock := al } sched = Res.ok s) : QInv s :=
  run_qinv sched _ s (qinv_init q hq true true al) rfl rfl h

theorem qinv_quiescent (s : St) (inv : QInv s) (hq : s.conts = []) : s.h.pq.Perm s.map := by
  rw [List.perm_ext_iff_of_nodup (indexOK_nodup inv.ok) inv.map_nodup]
  intro x
  constructor
  · intro hx
    rcases inv.pm x hx with h1 | h1
    · exact h1
    · rw [hq] at h1; simp [answering] at h1
  · exact inv.mp x

end Nsq.Proofs.InFlightQuiesce
