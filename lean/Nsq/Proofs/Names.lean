import Nsq.Model.Names
import Nsq.Spec.ProtoSpec
/-! The name automaton accepts exactly the grammar `base(#ephemeral)?`, 1–64 bytes. -/
namespace Nsq.Proofs.Names
open Nsq.Model.Names Nsq.Spec.ProtoSpec

theorem run_dead (s : Bytes) : run .dead s = .dead := by
  induction s with
  | nil => rfl
  | cons c cs ih => simpa [run, step] using ih

theorem run_cons (q : Q) (c : UInt8) (cs : Bytes) : run q (c :: cs) = run (step q c) cs := rfl

theorem hash_not_nameChar : nameChar 35 = false := by decide

theorem cons_eq_drop {α : Type} {l : List α} {k : Nat} {c : α} {cs : List α} :
    c :: cs = l.drop k ↔ l[k]? = some c ∧ cs = l.drop (k + 1) := by
  by_cases h : k < l.length
  · rw [List.drop_eq_getElem_cons h, List.getElem?_eq_getElem h, List.cons.injEq, Option.some.injEq, eq_comm]
  · rw [List.drop_eq_nil_of_le (Nat.le_of_not_lt h), List.getElem?_eq_none (Nat.le_of_not_lt h)]
    simp

theorem suf_accepts : ∀ (s : Bytes) (k : Nat), k ≤ ephSuffix.length →
    (accepting (run (.suf k) s) = true ↔ s = ephSuffix.drop k)
  | [], k, hk => by
    rw [eq_comm (a := []), List.drop_eq_nil_iff]
    simp only [run, List.foldl_nil, accepting, beq_iff_eq]
    omega
  | c :: cs, k, hk => by
    rw [run_cons, cons_eq_drop, step]
    by_cases hc : ephSuffix[k]? = some c
    · rw [if_pos hc, suf_accepts cs (k + 1) (List.getElem?_eq_some_iff.mp hc).1]
      exact (and_iff_right hc).symm
    · rw [if_neg hc, run_dead]
      exact ⟨nofun, fun h => absurd h.1 hc⟩

/-- What the state `base` still accepts: bytes of the class, then nothing or `#ephemeral`. The invariant of the automaton's run. -/
def Tail (s : Bytes) : Prop :=
  ∃ cs suffix, s = cs ++ suffix ∧ (∀ c ∈ cs, nameChar c = true) ∧ (suffix = [] ∨ suffix = ephSuffix)

theorem tail_cons (c : UInt8) (s : Bytes) : Tail (c :: s) ↔ (nameChar c = true ∧ Tail s) ∨ c :: s = ephSuffix := by
  constructor
  · rintro ⟨cs, suf, heq, hcs, hsuf⟩
    cases cs with
    | nil =>
      rcases hsuf with rfl | rfl
      · cases heq
      · exact .inr heq
    | cons x xs =>
      cases heq
      exact .inl ⟨hcs c List.mem_cons_self, xs, suf, rfl, fun y hy => hcs y (List.mem_cons_of_mem _ hy), hsuf⟩
  · rintro (⟨hc, cs, suf, rfl, hcs, hsuf⟩ | h)
    · exact ⟨c :: cs, suf, rfl, fun y hy => (List.mem_cons.mp hy).elim (· ▸ hc) (hcs y), hsuf⟩
    · exact ⟨[], c :: s, rfl, fun _ => nofun, .inr h⟩

theorem base_accepts : ∀ (s : Bytes), accepting (run .base s) = true ↔ Tail s
  | [] => ⟨fun _ => ⟨[], [], rfl, fun _ => nofun, .inl rfl⟩, fun _ => rfl⟩
  | c :: s' => by
    rw [run_cons, tail_cons]
    by_cases hc : nameChar c = true
    · have hne : c :: s' ≠ ephSuffix := fun h => by
        have : c = 35 := (List.cons.inj h).1
        rw [this, hash_not_nameChar] at hc; cases hc
      simp only [step, hc, if_true, true_and, hne, or_false]
      exact base_accepts s'
    · by_cases h35 : c = 35
      · subst h35
        rw [show step .base 35 = .suf 1 from by decide, suf_accepts s' 1 (by decide)]
        rw [hash_not_nameChar]
        exact ⟨fun h => .inr (by rw [h]; rfl), fun h => h.elim (fun h => nomatch h.1) fun h => (List.cons.inj h).2⟩
      · have hne : c :: s' ≠ ephSuffix := fun h => h35 (List.cons.inj h).1
        simp [step, hc, h35, run_dead, accepting, hne]

theorem regexMatch_iff (s : Bytes) :
    regexMatch s = true ↔ ∃ base, IsBase base ∧ (s = base ∨ s = base ++ ephSuffix) := by
  unfold regexMatch
  cases s with
  | nil =>
    refine ⟨nofun, ?_⟩
    rintro ⟨base, ⟨hne, _⟩, h | h⟩
    · exact absurd h.symm hne
    · exact absurd (List.append_eq_nil_iff.mp h.symm).1 hne
  | cons c s' =>
    rw [run_cons]
    have inv : ∀ base, IsBase base → (c :: s' = base ∨ c :: s' = base ++ ephSuffix) → nameChar c = true ∧ Tail s' := by
      rintro (_ | ⟨x, xs⟩) ⟨hne, hb⟩ h
      · exact absurd rfl hne
      · have hxs := fun y hy => hb y (List.mem_cons_of_mem _ hy)
        rcases h with h | h <;> cases h
        · exact ⟨hb _ List.mem_cons_self, _, [], (List.append_nil _).symm, hxs, .inl rfl⟩
        · exact ⟨hb _ List.mem_cons_self, _, ephSuffix, rfl, hxs, .inr rfl⟩
    by_cases hc : nameChar c = true
    · simp only [step, hc, if_true]
      rw [base_accepts]
      refine ⟨?_, fun ⟨base, hb, h⟩ => (inv base hb h).2⟩
      rintro ⟨cs, suf, rfl, hcs, hsuf⟩
      refine ⟨c :: cs, ⟨nofun, fun y hy => (List.mem_cons.mp hy).elim (· ▸ hc) (hcs y)⟩, ?_⟩
      rcases hsuf with rfl | rfl
      · exact .inl (by simp)
      · exact .inr rfl
    · have hstep : step .start c = .dead := by simp [step, hc]
      rw [hstep, run_dead]
      exact ⟨nofun, fun ⟨base, hb, h⟩ => absurd (inv base hb h).1 hc⟩

theorem isValidName_iff (s : Bytes) : isValidName s = true ↔ Grammatical s := by
  unfold isValidName Grammatical
  by_cases h : s.length > 64 ∨ s.length < 1
  · have : (decide (s.length > 64) || decide (s.length < 1)) = true := by simpa using h
    simp only [this, if_true]
    constructor
    · intro h'; simp at h'
    · rintro ⟨h1, h2, _⟩; omega
  · have : (decide (s.length > 64) || decide (s.length < 1)) = false := by
      simp only [Bool.or_eq_false_iff, decide_eq_false_iff_not]
      exact ⟨fun h' => h (Or.inl h'), fun h' => h (Or.inr h')⟩
    simp only [this, Bool.false_eq_true, if_false]
    rw [regexMatch_iff]
    constructor
    · intro h'; exact ⟨by omega, by omega, h'⟩
    · rintro ⟨_, _, h'⟩; exact h'

theorem valid_bytes {b : Bytes} (h : isValidName b = true) : ∀ c ∈ b, nameChar c = true ∨ c ∈ ephSuffix := by
  obtain ⟨_, _, base, ⟨_, hb⟩, rfl | rfl⟩ := (isValidName_iff b).mp h
  · exact fun c hc => Or.inl (hb c hc)
  · exact fun c hc => (List.mem_append.mp hc).imp (hb c) id

end Nsq.Proofs.Names
