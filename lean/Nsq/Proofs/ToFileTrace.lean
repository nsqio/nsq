import Nsq.Model.ToFileTrace
/-!
Soundness of the two syscall-trace checkers of the syscall leg of C19: per file (`checkFrom`: what the scan of a suffix certifies;
the end result `Nsq.Props.C19.fin_after_fsync_checker_sound` puts the two lemmas together) and per message (`checkMsgFrom`).
-/
namespace Nsq.Proofs.ToFileTrace
open Nsq.Model.ToFileTrace

theorem checkFrom_suffix (dirty : List Nat) (a r : List Sys) (h : checkFrom dirty (a ++ r) = true) :
    ∃ d, checkFrom d r = true := by
  induction a generalizing dirty with
  | nil => exact ⟨dirty, h⟩
  | cons x a ih =>
    cases x with
    | fin k => simp [checkFrom] at h; exact ih _ h.2
    | _ => exact ih _ h

theorem checkFrom_dirty (dirty : List Nat) (a b : List Sys) (id : Nat)
    (h : checkFrom dirty (a ++ Sys.fin id :: b) = true) : ∀ f ∈ dirty, Sys.fsync f ∈ a := by
  intro f hf
  induction a generalizing dirty with
  | nil => simp [checkFrom] at h; rw [h.1] at hf; cases hf
  | cons x a ih =>
    cases x with
    | write g => exact List.mem_cons_of_mem _ (ih (g :: dirty) h (List.mem_cons_of_mem _ hf))
    | fsync g =>
      by_cases e : f = g
      · subst e; exact List.mem_cons_self ..
      · exact List.mem_cons_of_mem _ (ih _ h (by simp [List.mem_filter, hf, e]))
    | fin k => simp [checkFrom] at h; exact List.mem_cons_of_mem _ (ih dirty h.2 hf)

example : checkTrace [.write 0, .write 0, .fsync 0, .fin 1] = true := by decide
example : checkTrace [.write 0, .fsync 0, .write 1, .fin 1] = false := by decide

/-- in `a` the record of message `id` is written to some file and that file is fsynced afterwards -/
def Covered (id : Nat) (a : List MSys) : Prop :=
  ∃ a1 a2 a3 f, a = a1 ++ MSys.wmsg f id :: a2 ++ MSys.fsync f :: a3

theorem Covered_cons {id : Nat} {a : List MSys} (x : MSys) (h : Covered id a) : Covered id (x :: a) := by
  obtain ⟨a1, a2, a3, f, e⟩ := h
  exact ⟨x :: a1, a2, a3, f, by rw [e]; simp⟩

theorem checkMsgFrom_sound (dirty : List (Nat × Nat)) (clean : List Nat) (a b : List MSys) (id : Nat)
    (h : checkMsgFrom dirty clean (a ++ MSys.fin id :: b) = true) :
    id ∈ clean ∨ (∃ f a2 a3, (f, id) ∈ dirty ∧ a = a2 ++ MSys.fsync f :: a3) ∨ Covered id a := by
  induction a generalizing dirty clean with
  | nil => simp [checkMsgFrom] at h; exact Or.inl h.1
  | cons x a ih =>
    -- what the scan of the rest certifies carries over, given where the first entry `x` took its dirty and clean lists from
    have keep : ∀ {d c}, checkMsgFrom d c (a ++ MSys.fin id :: b) = true →
        (∀ f, (f, id) ∈ d → (f, id) ∈ dirty ∨ x = .wmsg f id) →
        (id ∈ c → id ∈ clean ∨ ∃ f, (f, id) ∈ dirty ∧ x = .fsync f) →
        id ∈ clean ∨ (∃ f a2 a3, (f, id) ∈ dirty ∧ x :: a = a2 ++ MSys.fsync f :: a3) ∨ Covered id (x :: a) := by
      intro d c hd hdirty hclean
      rcases ih d c hd with hc | ⟨f, a2, a3, hmem, e⟩ | hc
      · rcases hclean hc with hc | ⟨f, hmem, rfl⟩
        · exact Or.inl hc
        · exact Or.inr (Or.inl ⟨f, [], a, hmem, rfl⟩)
      · rcases hdirty f hmem with hmem | rfl
        · exact Or.inr (Or.inl ⟨f, x :: a2, a3, hmem, by rw [e]; rfl⟩)
        · exact Or.inr (Or.inr ⟨[], a2, a3, f, by rw [e]; rfl⟩)
      · exact Or.inr (Or.inr (Covered_cons _ hc))
    cases x with
    | wmsg g k =>
      refine keep h (fun f hf => ?_) Or.inl
      cases hf with
      | head => exact Or.inr rfl
      | tail _ hf => exact Or.inl hf
    | fsync g =>
      refine keep h (fun f hf => Or.inl (List.mem_filter.mp hf).1) (fun hc => ?_)
      rcases List.mem_append.mp hc with hc | hc
      · obtain ⟨p, hp, e⟩ := List.mem_map.mp hc
        have hp := List.mem_filter.mp hp
        exact Or.inr ⟨g, by rw [← of_decide_eq_true hp.2, ← e]; exact hp.1, rfl⟩
      · exact Or.inl hc
    | fin k =>
      simp [checkMsgFrom] at h
      exact keep h.2 (fun f hf => Or.inl hf) Or.inl

theorem checkMsgTrace_sound (tr pre post : List MSys) (id : Nat) (h : checkMsgTrace tr = true)
    (hs : tr = pre ++ MSys.fin id :: post) : Covered id pre := by
  subst hs
  cases checkMsgFrom_sound [] [] pre post id h with
  | inl hc => cases hc
  | inr hrest =>
    cases hrest with
    | inl hd => obtain ⟨_, _, _, hmem, _⟩ := hd; cases hmem
    | inr hc => exact hc

example : checkMsgTrace [.wmsg 0 1, .wmsg 0 2, .fsync 0, .wmsg 0 3, .fin 2, .fin 1] = true := by decide
example : checkMsgTrace [.wmsg 0 1, .fin 1, .fsync 0] = false := by decide

end Nsq.Proofs.ToFileTrace
