/-!
The shape of the four decisions about go-nsq's give-up rule `max_attempts = k` (nsq_to_file: one delivery, whole runs;
nsq_to_http; nsq_to_nsq).
-/
namespace Nsq.Proofs

theorem iff_zero_of {P : Nat → Prop} (h0 : P 0) (hpos : ∀ k, 0 < k → ¬ P k) (k : Nat) : P k ↔ k = 0 :=
  ⟨fun h => Nat.eq_zero_of_not_pos fun hk => hpos k hk h, fun e => e ▸ h0⟩

end Nsq.Proofs
