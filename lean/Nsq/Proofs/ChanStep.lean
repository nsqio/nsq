/-
The branches of `Nsq.Model.Chan.step`, walked through once.

`Eff conf c op c' o` lists the branches of `step conf c op` that do something: one constructor per
branch, its premises the tests the branch has passed, its result the record the model builds.  Every
other branch answers a refusal and leaves the channel alone (`step_cases`).  The invariants and the
frame facts of the other files are proved by `cases` on `Eff`; only `put_nFanout` and `put_records` unfold `step` again, at
the put, to know that a put of a fresh id is accepted.  The two scans are folds of
`timeoutOne` / `deferDueOne`: a relation kept by one pass and by `Channel.put` is kept by the scan.
-/
import Nsq.Proofs.Chan
namespace Nsq.Proofs.Chan
open Nsq.Model.Chan

/-- `isPut`, `isSend`: the operations a frame fact leaves out (`nonput_nFanout`, `eff_env_frame`) -/
def isPut : Op → Bool
  | .put .. => true
  | .putDeferred .. => true
  | _ => false

/-- a put of this message, at once or deferred -/
def IsPut (id : Nat) (env : Env) (op : Op) : Prop := op = .put id env ∨ ∃ pri, op = .putDeferred id pri env

def isSend : Op → Bool
  | .deliver .. => true
  | .deliverArmed .. => true
  | _ => false

def Refused : Out → Prop
  | .reject _ => True
  | .err _ false => True
  | _ => False

theorem Refused.ne_ok {o : Out} (h : Refused o) : o ≠ .ok := by
  intro e; rw [e] at h; exact h

theorem of_not_bnot {b : Bool} (h : ¬ (!b) = true) : b = true := by simpa using h

theorem isQueued_iff {e : Entry} : isQueued e = true ↔ e.loc = .queued := by
  cases hl : e.loc <;> simp [isQueued, hl]

theorem ready_iff {p : Bool} {cl : Client} : ready p cl = true ↔ p = false ∧ 0 < cl.rdy ∧ cl.inFlight < cl.rdy := by
  unfold ready
  cases p <;> simp

theorem mem_of_findE {l : List Entry} {x : Nat} {e : Entry} (h : findE l x = some e) : e ∈ l := (findE_some h).1

/-- the result of the last branch of `doDeliver` -/
def delivered (c : Chan) (cl : Client) (k : Nat) (e : Entry) (now : Int) : Chan :=
  { c with msgs := setE c.msgs e.id (e.att + 1) (.inflight k (now + cl.msgTimeout) now),
           memLen := if c.memLen > 0 then c.memLen - 1 else c.memLen,
           dqLen := if c.memLen > 0 then c.dqLen else c.dqLen - 1,
           clients := updC c.clients k (fun cl => { cl with inFlight := cl.inFlight + 1, msgCount := cl.msgCount + 1, lgr := cl.rdy, decr := false, armed := false }),
           hist := Ev.deliver k e.id (e.att + 1) :: c.hist,
           elog := EEv.deliver k e.id (e.att + 1) e.env :: c.elog }

theorem doDeliver_cases (c : Chan) (cl : Client) (k id : Nat) (now : Int) :
    doDeliver c cl k id now = (c, .reject "not-queued") ∨
    ∃ e, findE c.msgs e.id = some e ∧ id = e.id ∧ e.loc = .queued ∧
      doDeliver c cl k id now = (delivered c cl k e now, .msg (e.att + 1)) := by
  fun_cases doDeliver c cl k id now
  · exact .inl rfl
  · exact .inl rfl
  · rename_i e he hq
    obtain ⟨_, rfl⟩ := findE_some he
    exact .inr ⟨e, he, rfl, isQueued_iff.1 (of_not_bnot hq), rfl⟩

/-- the result of `finChanPart` -/
def finished (c : Chan) (k : Nat) (e : Entry) : Chan :=
  { c with msgs := removeE c.msgs e.id, hist := Ev.finOk k e.id :: c.hist }

theorem finChanPart_some {c c' : Chan} {k id : Nat} (h : finChanPart c k id = some c') :
    ∃ e p d, findE c.msgs e.id = some e ∧ id = e.id ∧ e.loc = .inflight k p d ∧ c' = finished c k e := by
  revert h
  fun_cases finChanPart c k id <;> intro h <;> cases h
  rename_i e he p d hl
  obtain ⟨_, rfl⟩ := findE_some he
  exact ⟨e, p, d, he, rfl, hl, rfl⟩

theorem enqueue_cases (c : Chan) (x : Nat) :
    (c.memLen < c.memCap ∧ enqueue c x = { c with memLen := c.memLen + 1 }) ∨
    (¬ c.memLen < c.memCap ∧ c.ephemeral = true ∧
      enqueue c x = { c with msgs := removeE c.msgs x, hist := Ev.ephDrop x :: c.hist }) ∨
    (¬ c.memLen < c.memCap ∧ c.ephemeral = false ∧ enqueue c x = { c with dqLen := c.dqLen + 1 }) := by
  fun_cases enqueue c x
  · exact .inl ⟨‹_›, rfl⟩
  · exact .inr (.inl ⟨‹_›, ‹_›, rfl⟩)
  · exact .inr (.inr ⟨‹_›, Bool.not_eq_true _ ▸ ‹_›, rfl⟩)

theorem timeoutOne_cases (c : Chan) (id : Nat) :
    ((∀ e, findE c.msgs id = some e → ∀ k p d, e.loc ≠ .inflight k p d) ∧ timeoutOne c id = c) ∨
    ∃ e k p d, findE c.msgs e.id = some e ∧ id = e.id ∧ e.loc = .inflight k p d ∧
      timeoutOne c id = enqueue { c with
        msgs := setE c.msgs e.id e.att .queued,
        timeoutCount := c.timeoutCount + 1,
        clients := updC c.clients k decIn,
        hist := Ev.timeout e.id k :: c.hist } e.id := by
  fun_cases timeoutOne c id
  · rename_i e he k p d hl
    obtain ⟨_, rfl⟩ := findE_some he
    exact .inr ⟨e, k, p, d, he, rfl, hl, rfl⟩
  · rename_i e he hn
    exact .inl ⟨fun e' he' k p d hl => hn k p d (Option.some.inj (he.symm.trans he') ▸ hl), rfl⟩
  · rename_i hn
    exact .inl ⟨fun e' he' => (by rw [hn] at he'; cases he'), rfl⟩

theorem deferDueOne_cases (c : Chan) (id : Nat) :
    ((∀ e, findE c.msgs id = some e → ∀ p, e.loc ≠ .deferred p) ∧ deferDueOne c id = c) ∨
    ∃ e p, findE c.msgs e.id = some e ∧ id = e.id ∧ e.loc = .deferred p ∧
      deferDueOne c id = enqueue { c with msgs := setE c.msgs e.id e.att .queued, hist := Ev.deferDue e.id :: c.hist } e.id := by
  fun_cases deferDueOne c id
  · rename_i e he p hl
    obtain ⟨_, rfl⟩ := findE_some he
    exact .inr ⟨e, p, he, rfl, hl, rfl⟩
  · rename_i e he hn
    exact .inl ⟨fun e' he' p hl => hn p (Option.some.inj (he.symm.trans he') ▸ hl), rfl⟩
  · rename_i hn
    exact .inl ⟨fun e' he' => (by rw [hn] at he'; cases he'), rfl⟩

theorem foldl_keeps {P : Chan → Prop} {f : Chan → Nat → Chan} (hf : ∀ c x, P c → P (f c x)) (l : List Nat) {c : Chan}
    (h : P c) : P (l.foldl f c) := by
  induction l generalizing c with
  | nil => exact h
  | cons x l ih => exact ih (hf c x h)

theorem foldl_rel {R : Chan → Chan → Prop} (refl : ∀ c, R c c) (trans : ∀ {a b c}, R a b → R b c → R a c)
    {f : Chan → Nat → Chan} (hf : ∀ c x, R c (f c x)) (l : List Nat) (c : Chan) : R c (l.foldl f c) :=
  foldl_keeps (P := R c) (fun c' x h => trans h (hf c' x)) l (refl c)

theorem scanInFlight_rel {R : Chan → Chan → Prop} (refl : ∀ c, R c c) (trans : ∀ {a b c}, R a b → R b c → R a c)
    (enq : ∀ c x, R c (enqueue c x))
    (hit : ∀ (c : Chan) (e : Entry) (k : Nat), R c { c with
      msgs := setE c.msgs e.id e.att .queued, timeoutCount := c.timeoutCount + 1,
      clients := updC c.clients k decIn, hist := Ev.timeout e.id k :: c.hist })
    (l : List Nat) (c : Chan) : R c (l.foldl timeoutOne c) := by
  refine foldl_rel refl trans (fun c x => ?_) l c
  rcases timeoutOne_cases c x with ⟨_, h⟩ | ⟨e, k, _, _, _, _, _, h⟩ <;> rw [h]
  · exact refl c
  · exact trans (hit c e k) (enq _ _)

theorem scanDeferred_rel {R : Chan → Chan → Prop} (refl : ∀ c, R c c) (trans : ∀ {a b c}, R a b → R b c → R a c)
    (enq : ∀ c x, R c (enqueue c x))
    (hit : ∀ (c : Chan) (e : Entry), R c { c with
      msgs := setE c.msgs e.id e.att .queued, hist := Ev.deferDue e.id :: c.hist })
    (l : List Nat) (c : Chan) : R c (l.foldl deferDueOne c) := by
  refine foldl_rel refl trans (fun c x => ?_) l c
  rcases deferDueOne_cases c x with ⟨_, h⟩ | ⟨e, _, _, _, _, h⟩ <;> rw [h]
  · exact refl c
  · exact trans (hit c e) (enq _ _)

inductive Eff (conf : Conf) (c : Chan) : Op → Chan → Out → Prop
  | put (id : Nat) (env : Env) (hf : nFanout c.hist id = 0) (hn : hasId c.msgs id = false) :
      Eff conf c (.put id env)
        (enqueue { c with msgs := { id := id, att := 0, loc := .queued, env := env } :: c.msgs,
                          elog := EEv.put id env :: c.elog,
                          messageCount := c.messageCount + 1,
                          hist := Ev.fanout id false :: c.hist } id) .ok
  | putDeferred (id : Nat) (pri : Int) (env : Env) (hf : nFanout c.hist id = 0) (hn : hasId c.msgs id = false) :
      Eff conf c (.putDeferred id pri env)
        { c with msgs := { id := id, att := 0, loc := .deferred pri, env := env } :: c.msgs,
                 elog := EEv.put id env :: c.elog,
                 messageCount := c.messageCount + 1,
                 hist := Ev.fanout id true :: c.hist } .ok
  | addClient (k : Nat) (mt : Int) (sample : Nat) (hc : hasC c.clients k = false) (hh : heldBy c.msgs k = 0)
      (hp : c.pendingFin.contains k = false) :
      Eff conf c (.addClient k mt sample)
        { c with clients := { conn := k, msgTimeout := mt, sample := sample } :: c.clients,
                 hist := Ev.joined k :: c.hist } .ok
  | removeClient (k : Nat) (hc : hasC c.clients k = true) :
      Eff conf c (.removeClient k) { c with clients := removeC c.clients k } .ok
  | rdyIgnored (k : Nat) (n : Int) (cl : Client) (hc : findC c.clients k = some cl) (hcl : cl.closing = true) :
      Eff conf c (.rdy k n) c .ok
  | rdyFatal (k : Nat) (n : Int) (cl : Client) (hc : findC c.clients k = some cl) (hcl : cl.closing = false)
      (hn : n < 0 ∨ conf.maxRdy < n) :
      Eff conf c (.rdy k n) { c with clients := removeC c.clients k } (.err "E_INVALID" true)
  | rdy (k : Nat) (n : Int) (cl : Client) (hc : findC c.clients k = some cl) (hcl : cl.closing = false)
      (h0 : 0 ≤ n) (h1 : n ≤ conf.maxRdy) :
      Eff conf c (.rdy k n)
        { c with clients := updC c.clients k (fun cl => { cl with rdy := n, decr := cl.decr || decide (n < cl.rdy) }),
                 hist := Ev.rdySet k n :: c.hist } .ok
  | clsFatal (k : Nat) (cl : Client) (hc : findC c.clients k = some cl) (hcl : cl.closing = true) :
      Eff conf c (.cls k) { c with clients := removeC c.clients k } (.err "E_INVALID" true)
  | cls (k : Nat) (cl : Client) (hc : findC c.clients k = some cl) (hcl : cl.closing = false) :
      Eff conf c (.cls k)
        { c with clients := updC c.clients k (fun cl => { cl with rdy := 0, closing := true, decr := cl.decr || decide (0 < cl.rdy) }),
                 hist := Ev.closed k :: c.hist } .ok
  | deliver (k : Nat) (now : Int) (cl : Client) (e : Entry) (hc : findC c.clients k = some cl)
      (hr : ready c.paused cl = true) (he : findE c.msgs e.id = some e) (hq : e.loc = .queued) :
      Eff conf c (.deliver k e.id now) (delivered c cl k e now) (.msg (e.att + 1))
  | guardOk (k : Nat) (cl : Client) (hc : findC c.clients k = some cl) (hr : ready c.paused cl = true) :
      Eff conf c (.guard k)
        { c with clients := updC c.clients k (fun cl => { cl with armed := true }), hist := Ev.guardOk k :: c.hist } .ok
  | guardNo (k : Nat) (cl : Client) (hc : findC c.clients k = some cl) (hr : ready c.paused cl = false) :
      Eff conf c (.guard k) { c with clients := updC c.clients k (fun cl => { cl with armed := false }) } (.reject "guard")
  | deliverArmed (k : Nat) (now : Int) (cl : Client) (e : Entry) (hc : findC c.clients k = some cl)
      (ha : cl.armed = true) (he : findE c.msgs e.id = some e) (hq : e.loc = .queued) :
      Eff conf c (.deliverArmed k e.id now) (delivered c cl k e now) (.msg (e.att + 1))
  | sampleDrop (k : Nat) (cl : Client) (e : Entry) (hc : findC c.clients k = some cl) (hr : ready c.paused cl = true)
      (hs : cl.sample ≠ 0) (he : findE c.msgs e.id = some e) (hq : e.loc = .queued) :
      Eff conf c (.sampleDrop k e.id)
        { c with msgs := removeE c.msgs e.id,
                 memLen := if c.memLen > 0 then c.memLen - 1 else c.memLen,
                 dqLen := if c.memLen > 0 then c.dqLen else c.dqLen - 1,
                 hist := Ev.sampledOut k e.id :: c.hist } .ok
  | fin (k : Nat) (e : Entry) (p d : Int) (hc : hasC c.clients k = true) (he : findE c.msgs e.id = some e)
      (hl : e.loc = .inflight k p d) :
      Eff conf c (.fin k e.id) (finClientPart (finished c k e) k) .ok
  | finChan (k : Nat) (e : Entry) (p d : Int) (hc : hasC c.clients k = true) (he : findE c.msgs e.id = some e)
      (hl : e.loc = .inflight k p d) :
      Eff conf c (.finChan k e.id) { finished c k e with pendingFin := k :: c.pendingFin } .ok
  | finClient (k : Nat) (hp : c.pendingFin.contains k = true) :
      Eff conf c (.finClient k) (finClientPart { c with pendingFin := c.pendingFin.erase k } k) .ok
  | reqNow (k : Nat) (now : Int) (e : Entry) (p d : Int) (hc : hasC c.clients k = true)
      (he : findE c.msgs e.id = some e) (hl : e.loc = .inflight k p d) :
      Eff conf c (.req k e.id 0 now)
        (enqueue { c with
          requeueCount := c.requeueCount + 1,
          clients := updC c.clients k (fun cl => { cl with reqCount := cl.reqCount + 1, inFlight := cl.inFlight - 1 }),
          hist := Ev.reqOk k e.id 0 :: c.hist,
          msgs := setE c.msgs e.id e.att .queued } e.id) .ok
  | reqLater (k delay : Nat) (now : Int) (e : Entry) (p d : Int) (hc : hasC c.clients k = true)
      (he : findE c.msgs e.id = some e) (hl : e.loc = .inflight k p d) (hd : delay ≠ 0) :
      Eff conf c (.req k e.id delay now)
        { c with
          requeueCount := c.requeueCount + 1,
          clients := updC c.clients k (fun cl => { cl with reqCount := cl.reqCount + 1, inFlight := cl.inFlight - 1 }),
          hist := Ev.reqOk k e.id delay :: c.hist,
          msgs := setE c.msgs e.id e.att (.deferred (now + (delay : Int) * 1000000)) } .ok
  | touch (k : Nat) (now : Int) (cl : Client) (e : Entry) (p d : Int) (hc : findC c.clients k = some cl)
      (he : findE c.msgs e.id = some e) (hl : e.loc = .inflight k p d) :
      Eff conf c (.touch k e.id now)
        { c with msgs := setE c.msgs e.id e.att (.inflight k (touchPri conf now cl.msgTimeout d) d),
                 hist := Ev.touchOk k e.id :: c.hist } .ok
  | scanInFlight (t : Int) :
      Eff conf c (.scanInFlight t) ((dueInflight c t).foldl timeoutOne c) (.ids (dueInflight c t))
  | scanDeferred (t : Int) :
      Eff conf c (.scanDeferred t) ((dueDeferred c t).foldl deferDueOne c) (.ids (dueDeferred c t))
  | pause : Eff conf c .pause { c with paused := true, hist := Ev.pauseSet true :: c.hist } .ok
  | unpause : Eff conf c .unpause { c with paused := false, hist := Ev.pauseSet false :: c.hist } .ok
  | empty :
      Eff conf c .empty
        { c with msgs := [], memLen := 0, dqLen := 0,
                 clients := c.clients.map (fun cl => { cl with inFlight := cl.inFlight - (heldBy c.msgs cl.conn : Int) }),
                 hist := Ev.emptied (c.msgs.map (·.id)) :: c.hist } (.ids (c.msgs.map (·.id)))
  | resplit (m d : Nat) (hs : m + d = c.memLen + c.dqLen) (hm : m ≤ c.memCap) (he : c.ephemeral = true → d = 0) :
      Eff conf c (.resplit m d) { c with memLen := m, dqLen := d } .ok

/-- `fun_cases` gives one goal per branch of the definition of `step`, in the order of its text; those that answer a
refusal are closed at once, each of the others is a constructor of `Eff`. -/
theorem step_cases (conf : Conf) (c : Chan) (op : Op) :
    (∃ o, step conf c op = (c, o) ∧ Refused o) ∨ Eff conf c op (step conf c op).1 (step conf c op).2 := by
  fun_cases step conf c op
  all_goals first | exact .inl ⟨_, rfl, trivial⟩ | skip
  · rename_i id env hn
    simp only [bne_iff_ne, ne_eq, Bool.or_eq_true, not_or, Decidable.not_not, Bool.not_eq_true] at hn
    exact .inr (.put id env hn.1 hn.2)
  · rename_i id pri env hn
    simp only [bne_iff_ne, ne_eq, Bool.or_eq_true, not_or, Decidable.not_not, Bool.not_eq_true] at hn
    exact .inr (.putDeferred id pri env hn.1 hn.2)
  · rename_i k mt sample hn
    simp only [bne_iff_ne, ne_eq, Bool.or_eq_true, not_or, Decidable.not_not, Bool.not_eq_true] at hn
    exact .inr (.addClient k mt sample hn.1.1 hn.1.2 hn.2)
  · rename_i k hc
    exact .inr (.removeClient k (of_not_bnot hc))
  · rename_i k n cl hc hcl
    exact .inr (.rdyIgnored k n cl hc hcl)
  · rename_i k n cl hc hcl hn
    exact .inr (.rdyFatal k n cl hc (by simpa using hcl) (by simpa using hn))
  · rename_i k n cl hc hcl hn
    simp only [Bool.or_eq_true, decide_eq_true_eq, not_or, Int.not_lt] at hn
    exact .inr (.rdy k n cl hc (by simpa using hcl) hn.1 hn.2)
  · rename_i k cl hc hcl
    exact .inr (.clsFatal k cl hc hcl)
  · rename_i k cl hc hcl
    exact .inr (.cls k cl hc (by simpa using hcl))
  · rename_i k id now cl hc hrd
    rcases doDeliver_cases c cl k id now with e | ⟨e, he, rfl, hq, e'⟩
    · rw [e]; exact .inl ⟨_, rfl, trivial⟩
    · rw [e']; exact .inr (.deliver k now cl e hc (of_not_bnot hrd) he hq)
  · rename_i k cl hc hrd
    exact .inr (.guardOk k cl hc hrd)
  · rename_i k cl hc hrd
    exact .inr (.guardNo k cl hc (by simpa using hrd))
  · rename_i k id now cl hc ha
    rcases doDeliver_cases c cl k id now with e | ⟨e, he, rfl, hq, e'⟩
    · rw [e]; exact .inl ⟨_, rfl, trivial⟩
    · rw [e']; exact .inr (.deliverArmed k now cl e hc (of_not_bnot ha) he hq)
  · rename_i k id cl hc hrd hs e he hq
    obtain ⟨_, rfl⟩ := findE_some he
    exact .inr (.sampleDrop k cl e hc (of_not_bnot hrd) (by simpa using hs) he (isQueued_iff.1 (of_not_bnot hq)))
  · rename_i k id hc c' hf
    obtain ⟨e, p, d, he, rfl, hl, rfl⟩ := finChanPart_some hf
    exact .inr (.fin k e p d (of_not_bnot hc) he hl)
  · rename_i k id hc c' hf
    obtain ⟨e, p, d, he, rfl, hl, rfl⟩ := finChanPart_some hf
    exact .inr (.finChan k e p d (of_not_bnot hc) he hl)
  · rename_i k hp
    exact .inr (.finClient k (of_not_bnot hp))
  · rename_i k id now hc e he k' p d hl hk _
    obtain ⟨_, rfl⟩ := findE_some he
    obtain rfl : k' = k := Decidable.not_not.1 hk
    exact .inr (.reqNow k' now e p d (of_not_bnot hc) he hl)
  · rename_i k id delay now hc e he k' p d hl hk _ hd
    obtain ⟨_, rfl⟩ := findE_some he
    obtain rfl : k' = k := Decidable.not_not.1 hk
    exact .inr (.reqLater k' delay now e p d (of_not_bnot hc) he hl hd)
  · rename_i k id now cl hc e he k' p d hl hk
    obtain ⟨_, rfl⟩ := findE_some he
    obtain rfl : k' = k := Decidable.not_not.1 hk
    exact .inr (.touch k' now cl e p d hc he hl)
  · exact .inr (.scanInFlight _)
  · exact .inr (.scanDeferred _)
  · exact .inr .pause
  · exact .inr .unpause
  · exact .inr .empty
  · rename_i m d hn
    simp only [Bool.and_eq_true, beq_iff_eq, decide_eq_true_eq, Bool.or_eq_true, Bool.not_eq_true'] at hn
    refine .inr (.resplit m d hn.1.1 hn.1.2 (fun he => ?_))
    rcases hn.2 with h' | h'
    · rw [he] at h'; cases h'
    · exact h'

theorem step_elim {motive : Chan → Out → Prop} {conf : Conf} {c : Chan} {op : Op}
    (hr : ∀ o, Refused o → motive c o) (h : ∀ {c' o}, Eff conf c op c' o → motive c' o) :
    motive (step conf c op).1 (step conf c op).2 := by
  rcases step_cases conf c op with ⟨o, ho, hro⟩ | he
  · rw [ho]; exact hr o hro
  · exact h he

theorem step_keeps {P : Chan → Prop} {conf : Conf} {c : Chan} {op : Op} (hc : P c)
    (h : ∀ {c' o}, Eff conf c op c' o → P c') : P (step conf c op).1 :=
  step_elim (motive := fun c' _ => P c') (fun _ _ => hc) h

theorem run_keeps {P : Chan → Prop} (conf : Conf) (ops : List Op)
    (h : ∀ c, ∀ op ∈ ops, P c → P (step conf c op).1) {c : Chan} (hc : P c) : P (run conf c ops) := by
  induction ops generalizing c with
  | nil => exact hc
  | cons op ops ih =>
    exact ih (fun c o ho => h c o (List.mem_cons_of_mem _ ho)) (h c op List.mem_cons_self hc)

end Nsq.Proofs.Chan
