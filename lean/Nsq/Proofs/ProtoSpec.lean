import Nsq.Proofs.ProtoExec
/-!
The model answers every command as the declarative table `Nsq.Spec.ProtoSpec.allowed` says. The table judges each defect
on its own; a handler tests them in one order and answers at the first that fails. `Judged.test` is that step: a test of
the handler that decides a defect (`decide p = hasDefect … d`, mostly by `rfl`: the table's Boolean is the handler's test
once the line is split) is answered with the defect's code where it fails and leaves the defect's absence behind as a
hypothesis where it passes. Each handler is its chain of tests; where all have passed, a defect the handler tested is
absent by such a hypothesis and every other one does not concern the command (`cases d <;> first | rfl | assumption`).
-/
namespace Nsq.Proofs.ProtoSpec
open Nsq.Model.ProtoV2 Nsq.Model.Names Nsq.Model.Base10 Nsq.Model Nsq.Spec.ProtoSpec
open Nsq.Proofs.ProtoV2

theorem mem_allCodes (c : Code) : c ∈ allCodes := by cases c <;> decide

theorem mem_allDefects (d : Defect) : d ∈ allDefects := by
  cases d with
  | batch c => exact List.mem_append_left _ (List.mem_append_right _ (List.mem_map.mpr ⟨c, mem_allCodes c, rfl⟩))
  | auth c => exact List.mem_append_right _ (List.mem_map.mpr ⟨c, mem_allCodes c, rfl⟩)
  | _ => decide

def outcome (x : Step) : Option Reply × Bool := (x.reply, decide (x.ctl = .close))

/-- `x` is an answer the table allows the command `c`, the row "RDY while closing" apart. -/
def Judged (conf : Conf) (s : ConnState) (ps : List Bytes) (rest : Bytes) (c : Cmd) (x : Option Reply × Bool) : Prop :=
  classify (ps.headD []) = c → ¬ (c = .rdy ∧ s.st = .closing ∧ conf.tlsGate = true) → x ∈ allowed conf s ps rest

namespace Judged
variable {conf : Conf} {s : ConnState} {ps : List Bytes} {rest : Bytes} {c : Cmd}

theorem err (d : Defect) (h : hasDefect conf s ps rest c d = true) :
    Judged conf s ps rest c (some (.err (codeOf c d).1), (codeOf c d).2) := by
  rintro rfl hp
  have hmem : d ∈ defects conf s ps rest := List.mem_filter.mpr ⟨mem_allDefects d, h⟩
  unfold allowed
  rw [if_neg hp, if_neg (List.ne_nil_of_mem hmem)]
  exact List.mem_map.mpr ⟨d, hmem, rfl⟩

theorem ok (h : ∀ d, hasDefect conf s ps rest c d = false) :
    Judged conf s ps rest c (successReply conf c (conf.decode (bodyOf rest)), false) := by
  rintro rfl hp
  have hnil : defects conf s ps rest = [] := List.filter_eq_nil_iff.mpr fun d _ => by rw [h d]; nofun
  unfold allowed
  rw [if_neg hp, if_pos hnil]
  exact List.mem_singleton.mpr rfl

theorem test {p : Prop} [Decidable p] {x y : Step} (d : Defect)
    (hd : decide p = hasDefect conf s ps rest c d)
    (hx : outcome x = (some (.err (codeOf c d).1), (codeOf c d).2))
    (hy : hasDefect conf s ps rest c d = false → Judged conf s ps rest c (outcome y)) :
    Judged conf s ps rest c (outcome (if p then x else y)) := by
  split
  · exact hx ▸ err d (hd ▸ decide_eq_true ‹p›)
  · exact hy (hd ▸ decide_eq_false ‹¬ p›)

theorem short {b : Broker} (h : ps.length < minParams c) : Judged conf s ps rest c (outcome (fatal .E_INVALID s b)) := by
  have := err (conf := conf) (s := s) (ps := ps) (rest := rest) (c := c) .params (by simp [hasDefect, h])
  rwa [show codeOf c .params = (.E_INVALID, true) by cases c <;> rfl] at this

end Judged

theorem bodyOk_of_bad {limit : Int} {rest : Bytes} (h : readBody limit rest = .bad) : bodyOk limit rest = false := by
  revert h
  unfold bodyOk
  fun_cases readBody limit rest
  case case1 hl => intro _; rw [hl]
  case case4 => omega
  case case6 => nofun
  all_goals
    intro _
    simp only [‹readLen rest = some _›, Bool.and_eq_false_iff, decide_eq_false_iff_not]
    omega

theorem bodyOk_of_ok {limit : Int} {rest body r : Bytes} (h : readBody limit rest = .ok body r) :
    bodyOk limit rest = true ∧ bodyOf rest = body := by
  revert h
  unfold bodyOk bodyOf
  fun_cases readBody limit rest
  case case6 n r0 hl _ _ _ _ =>
    rintro ⟨⟩
    simp only [hl, Bool.and_eq_true, decide_eq_true_eq, and_true]
    omega
  all_goals nofun

/-- The fall-through branch of a handler's match on its parameters, in the form `split` hands it over. -/
theorem short2 {ps : List Bytes} (h : ∀ a b t, ps = a :: b :: t → False) : ps.length < 2 := by
  match ps with
  | [] => exact Nat.zero_lt_succ _
  | [_] => exact Nat.lt_succ_self _
  | a :: b :: t => exact (h a b t rfl).elim

theorem short3 {ps : List Bytes} (h : ∀ a b c t, ps = a :: b :: c :: t → False) : ps.length < 3 := by
  match ps with
  | [] => exact Nat.zero_lt_succ _
  | [_] => exact Nat.succ_lt_succ (Nat.zero_lt_succ _)
  | [_, _] => exact Nat.lt_succ_self _
  | a :: b :: c :: t => exact (h a b c t rfl).elim

theorem stateOk_init {c : Cmd} (hc : c = .identify ∨ c = .auth ∨ c = .sub) (st : St) :
    decide (st ≠ .init) = !stateOk c st := by
  rcases hc with rfl | rfl | rfl <;> cases st <;> rfl

theorem stateOk_held {c : Cmd} (hc : c = .fin ∨ c = .req ∨ c = .touch) (st : St) :
    decide (st ≠ .subscribed ∧ st ≠ .closing) = !stateOk c st := by
  rcases hc with rfl | rfl | rfl <;> cases st <;> rfl

theorem stateOk_cls (st : St) : decide (st ≠ .subscribed) = !stateOk .cls st := by
  cases st <;> rfl

theorem stateOk_rdy {st : St} (h : st ≠ .closing) : decide (st ≠ .subscribed) = !stateOk .rdy st := by
  cases st <;> first | rfl | exact absurd rfl h

theorem not_contains {l : List Bytes} {a : Bytes} : decide (¬ a ∈ l) = !l.contains a := by simp

section
variable {conf : Conf} {s : ConnState} {b : Broker} {ps : List Bytes} {rest : Bytes} {c : Cmd} {cmd : Bytes} {tl : List Bytes}

/-- The tail PUB and DPUB share; past it the caller says why no other defect applies (`hk`). -/
theorem pubBody_judged (hc : c = .pub ∨ c = .dpub) (t : Bytes) (dly : Int)
    (hk : hasDefect conf s ps rest c .bodySize = false → (∀ code, hasDefect conf s ps rest c (.auth code) = false) →
      ∀ d, hasDefect conf s ps rest c d = false) :
    Judged conf s ps rest c (outcome (pubBody conf s b t dly rest)) := by
  unfold pubBody
  rcases hc with rfl | rfl
  all_goals
    split
    · exact .err .bodySize (by simp [hasDefect, bodyOk_of_bad ‹_›])
    · exact absurd ‹_› (readBody_ne_panic _ _)
    rename_i hb
    split
    · exact .err (.auth _) (by simp [hasDefect, takesTopic, isPublish, ‹conf.authGate = some _›])
    rename_i ha
    exact .ok (hk (by simp [hasDefect, (bodyOk_of_ok hb).1]) fun code => by simp [hasDefect, takesTopic, isPublish, ha])

theorem pub_judged (htls : hasDefect conf s ps rest .pub .tlsRequired = false) :
    Judged conf s ps rest .pub (outcome (pub conf s b ps rest)) := by
  unfold pub
  split
  · refine .test .topicName Bool.decide_eq_true rfl fun _ => pubBody_judged (.inl rfl) _ _ fun _ ha d => ?_
    cases d with
    | auth code => exact ha code
    | _ => first | rfl | assumption
  · exact .short (short2 ‹_›)

theorem dpub_judged (htls : hasDefect conf s ps rest .dpub .tlsRequired = false) :
    Judged conf s ps rest .dpub (outcome (dpub conf s b ps rest)) := by
  unfold dpub
  split
  · refine .test .topicName Bool.decide_eq_true rfl fun _ => ?_
    split
    · exact .err .number (by simp [hasDefect, param, ‹byteToBase10 _ = none›])
    rename_i hn
    refine .test .range (by simp [hasDefect, param, hn]) rfl fun _ => pubBody_judged (.inr rfl) _ _ fun _ ha d => ?_
    cases d with
    | number => simp [hasDefect, param, hn]
    | auth code => exact ha code
    | _ => first | rfl | assumption
  · exact .short (short3 ‹_›)

theorem mpub_judged (htls : hasDefect conf s ps rest .mpub .tlsRequired = false) :
    Judged conf s ps rest .mpub (outcome (mpub conf s b ps rest)) := by
  unfold mpub
  split
  · refine .test .topicName Bool.decide_eq_true rfl fun _ => ?_
    split
    · exact .err (.auth _) (by simp [hasDefect, takesTopic, isPublish, ‹conf.authGate = some _›])
    rename_i ha
    split
    · exact .err .bodySize (by simp [hasDefect, mpubSizeOk, ‹readLen rest = none›])
    rename_i hl
    split
    · exact .err .bodySize (by simp [hasDefect, mpubSizeOk, hl]; omega)
    split
    · exact .err .bodySize (by simp [hasDefect, mpubSizeOk, hl]; omega)
    have hsz : mpubSizeOk conf rest = true := by simp [mpubSizeOk, hl]; omega
    split
    · rename_i hm
      exact .err (.batch _) (by simp [hasDefect, hsz, mpubBatch, hl, hm])
    · exact absurd ‹_› (Mpub.readMPUB_ne_panic _ _ _)
    · rename_i hm
      refine .ok fun d => ?_
      cases d with
      | bodySize => simp [hasDefect, hsz]
      | batch code => simp [hasDefect, mpubBatch, hl, hm]
      | auth code => simp [hasDefect, takesTopic, isPublish, ha]
      | _ => first | rfl | assumption
  · exact .short (short2 ‹_›)

theorem fin_judged (htls : hasDefect conf s ps rest .fin .tlsRequired = false) :
    Judged conf s ps rest .fin (outcome (fin s b ps rest)) := by
  unfold fin
  refine .test .wrongState (stateOk_held (.inl rfl) _) rfl fun _ => ?_
  split
  · refine .test .messageId rfl rfl fun _ => ?_
    rw [← ite_not]
    refine .test .notInFlight not_contains rfl fun _ => .ok fun d => ?_
    cases d <;> first | rfl | assumption
  · exact .short (short2 ‹_›)

theorem touch_judged (htls : hasDefect conf s ps rest .touch .tlsRequired = false) :
    Judged conf s ps rest .touch (outcome (touch s b ps rest)) := by
  unfold touch
  refine .test .wrongState (stateOk_held (.inr (.inr rfl)) _) rfl fun _ => ?_
  split
  · refine .test .messageId rfl rfl fun _ => ?_
    rw [← ite_not]
    refine .test .notInFlight not_contains rfl fun _ => .ok fun d => ?_
    cases d <;> first | rfl | assumption
  · exact .short (short2 ‹_›)

theorem req_judged (htls : hasDefect conf s ps rest .req .tlsRequired = false) :
    Judged conf s ps rest .req (outcome (req conf s b ps rest)) := by
  unfold req
  refine .test .wrongState (stateOk_held (.inr (.inl rfl)) _) rfl fun _ => ?_
  split
  · refine .test .messageId rfl rfl fun _ => ?_
    split
    · exact .err .number (by simp [hasDefect, param, ‹byteToBase10 _ = none›])
    rename_i hn
    rw [← ite_not]
    refine .test .notInFlight not_contains rfl fun _ => .ok fun d => ?_
    cases d with
    | number => simp [hasDefect, param, hn]
    | _ => first | rfl | assumption
  · exact .short (short3 ‹_›)

theorem cls_judged (htls : hasDefect conf s (cmd :: tl) rest .cls .tlsRequired = false) :
    Judged conf s (cmd :: tl) rest .cls (outcome (cls s b rest)) := by
  unfold cls
  refine .test .wrongState (stateOk_cls _) rfl fun _ => .ok fun d => ?_
  cases d <;> first | rfl | assumption

theorem nop_judged (htls : hasDefect conf s (cmd :: tl) rest .nop .tlsRequired = false) :
    Judged conf s (cmd :: tl) rest .nop (outcome (done none s b rest [])) :=
  .ok fun d => by cases d <;> first | rfl | assumption

theorem rdySet_judged (count : Int)
    (hrange : decide (count < 0 ∨ count > conf.maxRdy) = hasDefect conf s ps rest .rdy .range)
    (hk : hasDefect conf s ps rest .rdy .range = false → ∀ d, hasDefect conf s ps rest .rdy d = false) :
    Judged conf s ps rest .rdy (outcome (rdySet conf s b rest count)) := by
  unfold rdySet
  exact .test .range hrange rfl fun hr => .ok (hk hr)

theorem rdy_judged (htls : hasDefect conf s ps rest .rdy .tlsRequired = false) (hcl : s.st ≠ .closing) (hne : ps ≠ []) :
    Judged conf s ps rest .rdy (outcome (rdy conf s b ps rest)) := by
  unfold rdy
  rw [if_neg hcl]
  refine .test .wrongState (stateOk_rdy hcl) rfl fun _ => ?_
  split
  · split
    · exact .err .number (by simp [hasDefect, param, ‹byteToBase10 _ = none›])
    rename_i hn
    refine rdySet_judged _ (by simp [hasDefect, param, hn]) fun _ d => ?_
    cases d with
    | number => simp [hasDefect, param, hn]
    | _ => first | rfl | assumption
  · rename_i hps
    have hnone : param ps 1 = none := List.getElem?_eq_none (Nat.le_of_lt_succ (short2 hps))
    refine rdySet_judged 1 (by simp [hasDefect, hnone]) fun _ d => ?_
    cases d with
    | params => simp [hasDefect, minParams, hne]
    | number => simp [hasDefect, hnone]
    | _ => first | rfl | assumption

theorem sub_judged (htls : hasDefect conf s ps rest .sub .tlsRequired = false) :
    Judged conf s ps rest .sub (outcome (sub conf s b ps rest)) := by
  unfold sub
  refine .test .wrongState (stateOk_init (.inr (.inr rfl)) _) rfl fun _ => ?_
  refine .test .heartbeatsOff rfl rfl fun _ => ?_
  split
  · refine .test .topicName Bool.decide_eq_true rfl fun _ => ?_
    refine .test .channelName Bool.decide_eq_true rfl fun _ => ?_
    split
    · exact .err (.auth _) (by simp [hasDefect, takesTopic, ‹conf.authGate = some _›])
    rename_i ha
    refine .ok fun d => ?_
    cases d with
    | auth code => simp [hasDefect, takesTopic, ha]
    | _ => first | rfl | assumption
  · exact .short (short3 ‹_›)

theorem auth_judged (htls : hasDefect conf s ps rest .auth .tlsRequired = false) :
    Judged conf s ps rest .auth (outcome (auth conf s b ps rest)) := by
  unfold auth
  refine .test .wrongState (stateOk_init (.inr (.inl rfl)) _) rfl fun _ => ?_
  refine .test .params (by cases ps <;> simp [hasDefect, minParams]) rfl fun _ => ?_
  split
  · exact .err .bodySize (by simp [hasDefect, bodyOk_of_bad ‹_›])
  · exact absurd ‹_› (readBody_ne_panic _ _)
  rename_i hb
  unfold authStep
  split
  case h_5 ha =>
    refine .ok fun d => ?_
    cases d with
    | bodySize => simp [hasDefect, (bodyOk_of_ok hb).1]
    | auth code => simp [hasDefect, takesTopic, isPublish, ha]
    | _ => first | rfl | assumption
  -- the four refusals of the auth server
  all_goals exact .err (.auth _) (by simp [hasDefect, takesTopic, isPublish, ‹conf.authCmd = _›])

theorem identify_judged : Judged conf s (cmd :: tl) rest .identify (outcome (identify conf s b rest)) := by
  unfold identify
  refine .test .wrongState (stateOk_init (.inl rfl) _) rfl fun _ => ?_
  split
  · exact .err .bodySize (by simp [hasDefect, bodyOk_of_bad ‹_›])
  · exact absurd ‹_› (readBody_ne_panic _ _)
  rename_i hb
  obtain ⟨hok, rfl⟩ := bodyOk_of_ok hb
  split
  · exact .err .bodyContent (by simp [hasDefect, hok, ‹conf.decode _ = none›])
  rename_i d hd
  split
  · exact .err .bodyContent (by simp [hasDefect, hok, hd, ‹applyIdentify _ _ _ = none›])
  rename_i ha
  -- the body is accepted: only `compression` can still apply
  have accepted (hcomp : hasDefect conf s (cmd :: tl) rest .identify .compression = false) :
      Judged conf s (cmd :: tl) rest .identify (if d.featureNegotiation then some .json else some .ok, false) := by
    have := Judged.ok (conf := conf) (s := s) (ps := cmd :: tl) (rest := rest) (c := .identify) fun d' => by
      cases d' with
      | bodySize => simp [hasDefect, hok]
      | bodyContent => simp [hasDefect, hok, hd, ha]
      | _ => first | rfl | assumption
    rwa [hd] at this
  cases hfn : d.featureNegotiation <;> rw [hfn] at accepted
  · exact accepted (by simp [hasDefect, hd, hfn])
  · rw [if_neg nofun]
    refine .test .compression (by simp [hasDefect, hok, hd, hfn]) rfl fun hcomp => ?_
    split <;> exact accepted hcomp

end

theorem exec_refines (conf : Conf) (s : ConnState) (b : Broker) (ps : List Bytes) (rest : Bytes)
    (hps : ps ≠ []) : outcome (exec conf s b ps rest) ∈ allowed conf s ps rest := by
  cases ps with
  | nil => exact absurd rfl hps
  | cons cmd tl =>
    rw [exec_eq]
    by_cases hsp : classify cmd = .rdy ∧ s.st = .closing ∧ conf.tlsGate = true
    · unfold allowed
      rw [if_pos (by exact hsp), if_neg (by simp [hsp.2.2]), hsp.1]
      show outcome (rdy conf s b (cmd :: tl) rest) ∈ _
      unfold rdy
      rw [if_pos hsp.2.1]
      exact List.mem_singleton.mpr rfl
    refine (?_ : Judged conf s (cmd :: tl) rest (classify cmd) _) rfl hsp
    refine .test .tlsRequired (by simp [hasDefect]; rfl) (by cases classify cmd <;> rfl) fun htls => ?_
    generalize classify cmd = c at hsp htls
    cases c with
    | identify => exact identify_judged
    | unknown => exact .err .unknownCommand rfl
    | auth => exact auth_judged htls
    | sub => exact sub_judged htls
    | pub => exact pub_judged htls
    | mpub => exact mpub_judged htls
    | dpub => exact dpub_judged htls
    | rdy => exact rdy_judged htls (fun h => hsp ⟨rfl, h, by simpa [hasDefect] using htls⟩) nofun
    | fin => exact fin_judged htls
    | req => exact req_judged htls
    | touch => exact touch_judged htls
    | cls => exact cls_judged htls
    | nop => exact nop_judged htls

end Nsq.Proofs.ProtoSpec
