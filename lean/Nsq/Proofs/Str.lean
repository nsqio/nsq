import Nsq.Model.Str
/-!
Lemmas about the byte-string operations of `Nsq.Model.Str` (Go `strings.Replace`/`Contains`/`HasSuffix`).
Main result: `replaceAll_split`: `strings.Replace(s, old, new, -1)` rewrites what precedes and what follows an occurrence of
a pattern `p` independently when `p` and `old` cannot overlap (`noOverlap p old`, a decidable condition on the two
constants); so the occurrence survives (`replaceAll_keeps`, `replaceAll_keeps_suffix`).
-/
namespace Nsq.Proofs.Str
open Nsq.Model.Str

theorem contains_iff (s p : Str) : contains s p = true ↔ p <:+: s := by
  induction s with
  | nil => simp [contains, List.isPrefixOf_iff_prefix]
  | cons c cs ih =>
    rw [contains, Bool.or_eq_true, ih, List.isPrefixOf_iff_prefix, List.infix_cons_iff]

theorem hasSuffix_iff (s p : Str) : hasSuffix s p = true ↔ p <:+ s := by
  unfold hasSuffix
  exact List.isSuffixOf_iff_suffix

theorem replGo_skip (old new : Str) (a b : Str) : replGo old new a.length (a ++ b) = replGo old new 0 b := by
  induction a with
  | nil => rfl
  | cons x a ih => simpa [replGo] using ih

theorem replGo_match (old new rest : Str) (h : old ≠ []) :
    replGo old new 0 (old ++ rest) = new ++ replGo old new 0 rest := by
  cases old with
  | nil => exact absurd rfl h
  | cons o os =>
    have hp : (o :: os).isPrefixOf (o :: (os ++ rest)) = true :=
      List.isPrefixOf_iff_prefix.mpr (List.prefix_append (o :: os) rest)
    show replGo (o :: os) new 0 (o :: (os ++ rest)) = _
    rw [replGo, if_pos hp]
    congr 1
    simpa using replGo_skip (o :: os) new os rest

theorem replGo_nomatch (old new : Str) (c : UInt8) (cs : Str) (h : old.isPrefixOf (c :: cs) = false) :
    replGo old new 0 (c :: cs) = c :: replGo old new 0 cs := by
  rw [replGo]; simp [h]

/-- `p` and `old` cannot overlap: `old` does not occur inside `p`, no non-empty suffix of `p` is a
prefix of `old`, no non-empty suffix of `old` is a prefix of `p`, `p` does not occur inside `old` -/
def noOverlap (p old : Str) : Bool :=
  (List.range p.length).all (fun i => !old.isPrefixOf (p.drop i) && !(p.drop i).isPrefixOf old) &&
  (List.range old.length).all (fun j => !(old.drop j).isPrefixOf p && !p.isPrefixOf (old.drop j))

private theorem noOverlap_spec {p old : Str} (h : noOverlap p old = true) :
    (∀ i, i < p.length → ¬ old <+: p.drop i ∧ ¬ p.drop i <+: old) ∧
    (∀ j, j < old.length → ¬ old.drop j <+: p ∧ ¬ p <+: old.drop j) := by
  unfold noOverlap at h
  simpa only [Bool.and_eq_true, List.all_eq_true, List.mem_range, Bool.not_eq_true', ← Bool.not_eq_true,
    List.isPrefixOf_iff_prefix] using h

theorem replGo_copy (old new : Str) (q post : Str)
    (h : ∀ i, i < q.length → ¬ old <+: (q.drop i ++ post)) :
    replGo old new 0 (q ++ post) = q ++ replGo old new 0 post := by
  induction q with
  | nil => rfl
  | cons c q ih =>
    have h0 : old.isPrefixOf (c :: (q ++ post)) = false := by
      have := h 0 (by simp)
      simpa [← Bool.not_eq_true, List.isPrefixOf_iff_prefix] using this
    show replGo old new 0 (c :: (q ++ post)) = _
    rw [replGo_nomatch _ _ _ _ h0, ih]
    · rfl
    · intro i hi
      have := h (i + 1) (by simp; omega)
      simpa using this

theorem replGo_copy_pattern (old new p post : Str) (h : noOverlap p old = true) :
    replGo old new 0 (p ++ post) = p ++ replGo old new 0 post := by
  apply replGo_copy
  intro i hi hpre
  obtain ⟨h1, h2⟩ := (noOverlap_spec h).1 i hi
  exact (List.prefix_or_prefix_of_prefix hpre (List.prefix_append _ _)).elim h1 h2

/-- an occurrence of `old` that starts in `pre` ends in `pre`: it cannot reach into, or over, a `p` it cannot overlap -/
theorem isPrefixOf_cut {p old : Str} (h : noOverlap p old = true) (pre post : Str) :
    old.isPrefixOf (pre ++ p ++ post) = old.isPrefixOf pre := by
  rw [Bool.eq_iff_iff, List.isPrefixOf_iff_prefix, List.isPrefixOf_iff_prefix, List.append_assoc]
  refine ⟨fun hpre => ?_, fun hp => hp.trans (List.prefix_append _ _)⟩
  refine List.prefix_of_prefix_length_le hpre (List.prefix_append _ _) (Nat.le_of_not_lt fun hl => ?_)
  have hsplit : old = pre ++ old.drop pre.length := by
    obtain ⟨t, ht⟩ := List.prefix_of_prefix_length_le (List.prefix_append _ _) hpre (Nat.le_of_lt hl)
    rw [← ht]; simp
  have hr : old.drop pre.length <+: p ++ post := by
    rw [hsplit] at hpre
    exact (List.prefix_append_right_inj _).mp hpre
  obtain ⟨h3, h4⟩ := (noOverlap_spec h).2 pre.length hl
  exact (List.prefix_or_prefix_of_prefix hr (List.prefix_append _ _)).elim h3 h4

/-- an occurrence of `p` cuts the scan in two; for the induction the scanner is anywhere in `pre`, the `k` bytes of a
replaced occurrence it still has to drop all inside `pre` -/
theorem replGo_pattern (old new p : Str) (h : noOverlap p old = true) (post : Str) :
    ∀ (pre : Str) (k : Nat), k ≤ pre.length →
      replGo old new k (pre ++ p ++ post) = replGo old new k pre ++ p ++ replGo old new 0 post
  | [], 0, _ => by simpa [replGo] using replGo_copy_pattern old new p post h
  | c :: pre, k + 1, hk => replGo_pattern old new p h post pre k (Nat.le_of_succ_le_succ hk)
  | c :: pre, 0, _ => by
    -- the scanner at `c` takes the same branch with and without `p ++ post` behind `pre`
    have e : old.isPrefixOf (c :: (pre ++ p ++ post)) = old.isPrefixOf (c :: pre) := isPrefixOf_cut h (c :: pre) post
    show replGo old new 0 (c :: (pre ++ p ++ post)) = _
    rw [replGo, replGo, e]
    split
    · next hm =>
      have := (List.isPrefixOf_iff_prefix.mp hm).length_le
      rw [replGo_pattern old new p h post pre (old.length - 1) (by simp at this; omega)]
      simp
    · rw [replGo_pattern old new p h post pre 0 (Nat.zero_le _)]
      rfl

theorem replaceAll_nil (old new : Str) : replaceAll [] old new = [] := by
  unfold replaceAll; split <;> rfl

theorem replaceAll_split (old new p pre post : Str) (h : noOverlap p old = true) :
    replaceAll (pre ++ p ++ post) old new = replaceAll pre old new ++ p ++ replaceAll post old new := by
  unfold replaceAll
  split
  · rfl
  · exact replGo_pattern old new p h post pre 0 (Nat.zero_le _)

theorem replaceAll_keeps (s old new p : Str) (h : noOverlap p old = true) (hc : contains s p = true) :
    contains (replaceAll s old new) p = true := by
  rw [contains_iff] at hc ⊢
  obtain ⟨pre, post, rfl⟩ := hc
  exact ⟨_, _, (replaceAll_split old new p pre post h).symm⟩

theorem replaceAll_keeps_suffix (s old new p : Str) (h : noOverlap p old = true) (hc : hasSuffix s p = true) :
    hasSuffix (replaceAll s old new) p = true := by
  rw [hasSuffix_iff] at hc ⊢
  obtain ⟨pre, rfl⟩ := hc
  have e := replaceAll_split old new p pre [] h
  rw [List.append_nil, replaceAll_nil, List.append_nil] at e
  exact ⟨_, e.symm⟩

theorem contains_append_left (s t p : Str) (h : contains s p = true) : contains (s ++ t) p = true := by
  rw [contains_iff] at h ⊢
  obtain ⟨a, b, hab⟩ := h
  exact ⟨a, b ++ t, by rw [← hab]; simp [List.append_assoc]⟩

end Nsq.Proofs.Str
