import Nsq.Model.Aggregate
import Nsq.Proofs.Latency
import Nsq.Proofs.AggregateReports
import Nsq.Proofs.AggregateMerge
import Nsq.Proofs.AggregateProducers
/-!
On a tree with the six guards of `/repo` (`Guards fx`; the switch of F58 is free) no fetch function of the view model
returns a `Fault`. For GetNSQDStats this comes with its value: its reports (`AggregateMerge.statsNodes` and the two
loops below it) are the pure reports of `Proofs.AggregateReports` (`*Nodes_eq`), so it is `statsFetched` (`nsqdStats_eq`),
and the reports carry nothing in their `NodeStats` (`CleanTs`).
-/

/-! The decode step of one nsqd's `/stats` answer (`Aggregate.nodeAnswer`): with the F53 guard (`nilPct`) every answer
decodes (`statsDecodes_true`), and the Bool `pctDecodes` is exactly "`Latency.unmarshal` does not fault". -/
namespace Nsq.Proofs.AggregateDecode
open Nsq.Model.Aggregate
open Nsq.Model

section
variable {fx : Fixes}

theorem pctDecodes_true (hp : fx.nilPct = true) (e2e : Bool) (pct : List Latency.Pct) : pctDecodes fx e2e pct = true := by
  simp [pctDecodes, hp]

theorem chanDecodes_true (hp : fx.nilPct = true) (c : Option Chan) : chanDecodes fx c = true := by
  cases c <;> simp [chanDecodes, pctDecodes_true hp]

theorem topicDecodes_true (hp : fx.nilPct = true) (t : Option Topic) : topicDecodes fx t = true := by
  cases t with
  | none => rfl
  | some t => simp [topicDecodes, pctDecodes_true hp, chanDecodes_true hp]

theorem statsDecodes_true (hp : fx.nilPct = true) (ans : List (Option Topic)) : statsDecodes fx ans = true := by
  simp [statsDecodes, topicDecodes_true hp]

end

theorem pctDecodes_iff (fx : Fixes) (pct : List Latency.Pct) :
    pctDecodes fx true pct = true ↔ ∃ r, Latency.unmarshal fx.nilPct pct = .ok r := by
  cases hfx : fx.nilPct with
  | true => simp [pctDecodes, hfx, Proofs.Latency.unmarshal_fixed]
  | false =>
    obtain ⟨e, he⟩ := Proofs.Latency.unmarshal_unfixed
    simp only [pctDecodes, hfx, he, Bool.not_true, Bool.false_or, List.all_eq_true]
    by_cases h : none ∈ pct
    · rw [if_pos h]; exact ⟨fun ha => Bool.noConfusion (ha none h), fun ⟨_, h'⟩ => nomatch h'⟩
    · rw [if_neg h]; exact ⟨fun _ => ⟨pct, rfl⟩, fun _ x hx => by cases x; exact absurd hx h; rfl⟩

end Nsq.Proofs.AggregateDecode

namespace Nsq.Proofs.AggregateSafe
open Nsq.Model.Aggregate Nsq.Proofs.AggregateViews Nsq.Proofs.AggregateMerge Nsq.Proofs.AggregateFetch
open Nsq.Proofs.AggregateProducers

@[simp] theorem all_tombBounds : Fixes.all.tombBounds = true := rfl
@[simp] theorem all_nilElems : Fixes.all.nilElems = true := rfl
@[simp] theorem all_nilE2e : Fixes.all.nilE2e = true := rfl
@[simp] theorem all_chanNotFound : Fixes.all.chanNotFound = true := rfl

/-- The guards of the committed tree; `inactiveErrs` (F58) is not among them. -/
structure Guards (fx : Fixes) : Prop where
  tombBounds : fx.tombBounds = true
  nilElems : fx.nilElems = true
  nilE2e : fx.nilE2e = true
  chanNotFound : fx.chanNotFound = true
  nilPct : fx.nilPct = true
  clearNodes : fx.clearNodes = true

theorem Guards.all : Guards Fixes.all := ⟨rfl, rfl, rfl, rfl, rfl, rfl⟩
theorem Guards.tree : Guards Fixes.tree := ⟨rfl, rfl, rfl, rfl, rfl, rfl⟩

section
variable {fx : Fixes}

theorem getProducers_ok (g : Guards fx) (w : World) : ∃ r, getProducers fx w = .ok r := by
  unfold getProducers
  split
  · exact ⟨_, lookupdProducers_eq g.tombBounds g.nilElems _⟩
  · exact ⟨_, rfl⟩

theorem getTopicProducers_ok (g : Guards fx) (w : World) (topic : String) : ∃ r, getTopicProducers fx w topic = .ok r := by
  unfold getTopicProducers
  split
  · exact ⟨_, lookupdTopicProducers_eq g.tombBounds g.nilElems _⟩
  · exact ⟨_, rfl⟩

theorem chanAgg_add_eq (he : fx.nilE2e = true) (c : ChanAgg) (a : ChanNode) : c.add fx a = .ok (addPure c a) := by
  rw [chanAgg_add, he]; cases a.e2e <;> rfl

/-- Nothing in a report's `NodeStats` when it leaves GetNSQDStats (F54). -/
def CleanNodes (as : List ChanNode) : Prop := ∀ a ∈ as, a.upNodes = []
def CleanTs (ts : List TopicNode) : Prop := ∀ t ∈ ts, CleanNodes t.channels

theorem chanNodes_eq (g : Guards fx) (p : Producer) (topic : String) (cs : List (Option Chan)) :
    chanNodes fx p topic cs = .ok (chanReports p topic cs) := by
  induction cs with
  | nil => rfl
  | cons c rest ih =>
    cases c with
    | none => simpa [chanNodes, chanReports, g.nilElems] using ih
    | some c =>
      simp only [chanNodes, chanNodeOf_eq g.nilElems g.clearNodes, g.nilE2e, Bool.not_true, Bool.and_false,
        Bool.false_eq_true, if_false, ih]
      rfl

theorem topicNodes_eq (g : Guards fx) (p : Producer) (sel : String) (ts : List (Option Topic)) :
    topicNodes fx p sel ts = .ok (topicReports p sel ts) := by
  induction ts with
  | nil => rfl
  | cons t rest ih =>
    cases t with
    | none => simpa [topicNodes, topicReports, g.nilElems] using ih
    | some t =>
      unfold topicNodes topicReports
      split
      · exact ih
      · simp only [chanNodes_eq g, ih]; rfl

theorem statsNodes_eq (g : Guards fx) (w : World) (sel selc : String) (incl : Bool) (ps : List Producer) :
    statsNodes fx w sel selc incl ps = .ok (ps.flatMap (reportsOf w sel selc incl)) := by
  induction ps with
  | nil => rfl
  | cons p rest ih =>
    unfold statsNodes
    rw [List.flatMap_cons, reportsOf]
    cases statsOf w p.addr sel (if sel == "" then "" else selc) incl with
    | none => exact ih
    | some ans => simp only [AggregateDecode.statsDecodes_true g.nilPct, if_true, topicNodes_eq g, ih]

/-- What GetNSQDStats returns on a tree with the guards: every responding producer's own reports, their channels merged
by key, one failure per producer that does not answer. -/
def statsFetched (w : World) (ps : List Producer) (sel selc : String) (incl : Bool) : Fetched (List TopicNode × ChanMap) :=
  fetched (statsAnswers w ps sel selc incl) (ps.flatMap (reportsOf w sel selc incl),
    (chansOfTopics (ps.flatMap (reportsOf w sel selc incl))).foldl (addNodePure sel) [])

theorem nsqdStats_eq (g : Guards fx) (w : World) (ps : List Producer) (sel selc : String) (incl : Bool) :
    nsqdStats fx w ps sel selc incl = .ok (statsFetched w ps sel selc incl) := by
  rw [nsqdStats_split, statsNodes_eq g]; rfl

theorem reports_clean (w : World) (sel selc : String) (incl : Bool) (ps : List Producer) :
    CleanTs (ps.flatMap (reportsOf w sel selc incl)) := by
  intro t ht
  obtain ⟨p, _, hp⟩ := List.mem_flatMap.1 ht
  unfold reportsOf at hp
  split at hp
  · cases hp
  · rw [topicReports_eq] at hp
    obtain ⟨t0, _, rfl⟩ := List.mem_map.1 hp
    intro a ha
    obtain ⟨c, _, hc⟩ := List.mem_filterMap.1 ha
    cases c <;> cases hc
    rfl

theorem statsFetched_clean {w : World} {ps : List Producer} {sel selc : String} {incl : Bool}
    {ts : List TopicNode} {m : ChanMap} {f : Nat} (h : statsFetched w ps sel selc incl = .got (ts, m) f) :
    ts = ps.flatMap (reportsOf w sel selc incl) ∧ CleanTs ts := by
  cases (fetched_got h).1
  exact ⟨rfl, reports_clean w sel selc incl ps⟩

theorem nsqdStats_clean (g : Guards fx) (w : World) (ps : List Producer) (sel selc : String) (incl : Bool)
    (ts : List TopicNode) (m : ChanMap) (f : Nat)
    (h : nsqdStats fx w ps sel selc incl = .ok (.got (ts, m) f)) : CleanTs ts := by
  rw [nsqdStats_eq g] at h
  exact (statsFetched_clean (Except.ok.inj h)).2

end

end Nsq.Proofs.AggregateSafe
