import Nsq.Model.Life
import Nsq.Proofs.Keyed
/-
The atomic life-cycle model (C08, C05). Look-ups after an update of one topic or channel (`modTopic`, `modChan`) are
the laws of `Proofs/Keyed`; `step_*` say what `step` does where an operation succeeds. Two facts about every `step`:
a file it adds belongs to a durable topic or channel (`DurableOwner`, the lemmas about `addFile` and the fan-out), and
an id absent from a channel stays absent until it is published again (`Absent`): the updates at one topic or channel
are `Keyed.forall_upd`, so each operation only says what its update does to the ids held.
-/
namespace Nsq.Proofs.Life
open Nsq.Model.Life

theorem find_append_new {α} (l : List α) (p : α → Bool) (a : α) (h : l.find? p = none) (ha : p a = true) :
    (l ++ [a]).find? p = some a := by
  simp [List.find?_append, h, List.find?, ha]

theorem getChan_name {T : Topic} {c : String} {C : Chan} (h : T.getChan c = some C) : C.name = c :=
  (Keyed.find?_some h).2

theorem getTopic_modTopic_any (s : St) (t t' : String) (f : Topic → Topic) (hf : ∀ T, (f T).name = T.name) :
    getTopic (modTopic s t f) t' = if t' = t then (getTopic s t').map f else getTopic s t' :=
  Keyed.find?_upd hf

theorem getChan_modChan_topic_any (T : Topic) (c c' : String) (f : Chan → Chan) (hf : ∀ C, (f C).name = C.name) :
    (T.modChan c f).getChan c' = if c' = c then (T.getChan c').map f else T.getChan c' :=
  Keyed.find?_upd hf

theorem getTopic_modTopic {s : St} {t : String} {f : Topic → Topic} {T : Topic} (hf : ∀ T, (f T).name = T.name)
    (hT : getTopic s t = some T) : getTopic (modTopic s t f) t = some (f T) := by
  rw [getTopic_modTopic_any s t t f hf, if_pos rfl, hT]; rfl

theorem getChan_modChan_topic {T : Topic} {c : String} {f : Chan → Chan} {C : Chan} (hf : ∀ C, (f C).name = C.name)
    (hC : T.getChan c = some C) : (T.modChan c f).getChan c = some (f C) := by
  rw [getChan_modChan_topic_any T c c f hf, if_pos rfl, hC]; rfl

theorem modChan_name (T : Topic) (c : String) (f : Chan → Chan) : (T.modChan c f).name = T.name := rfl

theorem getChan_some {s : St} {t c : String} {C : Chan} (h : getChan s t c = some C) :
    ∃ T, getTopic s t = some T ∧ T.getChan c = some C := by
  unfold getChan at h
  cases hT : getTopic s t with
  | none => simp [hT] at h
  | some T => exact ⟨T, rfl, by simpa [hT] using h⟩

theorem getTopic_mem {s : St} {t : String} {T : Topic} (h : getTopic s t = some T) : T ∈ s.topics ∧ T.name = t :=
  Keyed.find?_some h

theorem getChan_mem {s : St} {t c : String} {C : Chan} (h : getChan s t c = some C) :
    ∃ T ∈ s.topics, T.name = t ∧ C ∈ T.chans ∧ C.name = c := by
  obtain ⟨T, hT, hC⟩ := getChan_some h
  exact ⟨T, (getTopic_mem hT).1, (getTopic_mem hT).2, List.mem_of_find?_eq_some hC, getChan_name hC⟩

theorem getChan_modChan {s : St} {t c : String} {f : Chan → Chan} {C : Chan} (hf : ∀ C, (f C).name = C.name)
    (h : getChan s t c = some C) : getChan (modChan s t c f) t c = some (f C) := by
  obtain ⟨T, hT, hC⟩ := getChan_some h
  unfold getChan modChan
  rw [getTopic_modTopic (fun T => modChan_name T c f) hT]
  exact getChan_modChan_topic hf hC

theorem getChan_modChan_other (s : St) (t c t' c' : String) (f : Chan → Chan)
    (hf : ∀ C, (f C).name = C.name) (hne : ¬ (t' = t ∧ c' = c)) :
    getChan (modChan s t c f) t' c' = getChan s t' c' := by
  unfold getChan modChan
  rw [getTopic_modTopic_any s t t' _ (fun T => modChan_name T c f)]
  by_cases e : t' = t
  · subst e
    rw [if_pos rfl]
    cases getTopic s t' with
    | none => rfl
    | some T => exact (getChan_modChan_topic_any T c c' f hf).trans (if_neg fun h => hne ⟨rfl, h⟩)
  · rw [if_neg e]

theorem getTopic_filter_ne (s : St) (t : String) (s' : St)
    (h : s'.topics = s.topics.filter (fun X => X.name != t)) : getTopic s' t = none := by
  unfold getTopic
  rw [h]
  exact Keyed.find?_del.trans (if_pos rfl)

theorem getChan_filter_ne (T : Topic) (c : String) :
    ({ T with chans := T.chans.filter (fun X => X.name != c) } : Topic).getChan c = none :=
  Keyed.find?_del.trans (if_pos rfl)

theorem deleteBegin_name (C : Chan) : (Chan.deleteBegin C).name = C.name := rfl
theorem empty_name (C : Chan) : (Chan.empty C).name = C.name := rfl

theorem mem_removeFiles (fs : List BName) (b : BName) : b ∉ removeFiles fs b := by
  unfold removeFiles
  simp

/-- `DeleteExistingChannel` = `Channel.Delete()` then the unlink from the topic's map -/
def deleteChan (s : St) (t c : String) : St :=
  (step (step s (.deleteChanBegin t c)).1 (.deleteChanUnlink t c)).1

theorem step_deleteChanBegin {s : St} {t c : String} {C : Chan} (h : getChan s t c = some C) (hx : C.exiting = false) :
    (step s (.deleteChanBegin t c)).1 =
      { modChan s t c Chan.deleteBegin with
          closed := s.closed ++ C.clients.map (·.id), files := removeFiles s.files (t, some c) } := by
  simp [step, h, hx]

theorem step_emptyChan {s : St} {t c : String} {C : Chan} (h : getChan s t c = some C) (hx : C.exiting = false) :
    (step s (.emptyChan t c)).1 = { modChan s t c Chan.empty with files := removeFiles s.files (t, some c) } := by
  simp [step, h, hx]

theorem step_deleteChanUnlink {s : St} {t c : String} {T : Topic} {C : Chan} (hT : getTopic s t = some T)
    (hC : T.getChan c = some C) (hx : C.exiting = true) :
    (step s (.deleteChanUnlink t c)).1 =
      if T.eph && (T.chans.filter (fun X => X.name != c)).isEmpty then
        { s with topics := s.topics.filter (fun X => X.name != t),
                 files := s.files.filter (fun b => !(T.filesOf.contains b)) }
      else modTopic s t (fun T => T.dropChan c) := by
  simp only [step, hT, hC, hx, Bool.not_true, Bool.false_eq_true, if_false]
  split <;> rfl

theorem step_unsub_exiting {s : St} {t c : String} {k : Nat} {C : Chan} (h : getChan s t c = some C)
    (hx : C.exiting = true) : step s (.unsub t c k) = (s, Ans.ok) := by
  simp [step, h, hx]

theorem empty_located (C : Chan) : (Chan.empty C).located = [] := rfl

theorem empty_clients (C : Chan) :
    (Chan.empty C).clients.map (·.id) = C.clients.map (·.id) ∧
    ∀ k ∈ (Chan.empty C).clients, k.inFlight = 0 := by
  constructor
  · simp [Chan.empty, List.map_map, Function.comp_def]
  · intro k hk
    simp [Chan.empty] at hk
    obtain ⟨a, _, rfl⟩ := hk
    rfl

/-- the topic, or the channel, that the backend name `b` names exists and is not ephemeral (the topic of a durable channel may be) -/
def DurableOwner (s : St) (b : BName) : Prop :=
  match b.2 with
  | none => ∃ T ∈ s.topics, T.name = b.1 ∧ T.eph = false
  | some c => ∃ T ∈ s.topics, T.name = b.1 ∧ ∃ C ∈ T.chans, C.name = c ∧ C.eph = false

theorem mem_addFile {fs : List BName} {b x : BName} (h : x ∈ addFile fs b) : x ∈ fs ∨ x = b := by
  unfold addFile at h
  by_cases hb : b ∈ fs
  · simp [hb] at h; exact Or.inl h
  · simp [hb] at h; rcases h with h | h
    · exact Or.inr h
    · exact Or.inl h

theorem putMessage_eph (cap : Nat) (C : Chan) (m : Msg) :
    (C.putMessage cap m).eph = C.eph ∧ (C.putMessage cap m).name = C.name := by
  unfold Chan.putMessage Chan.put
  by_cases h1 : C.exiting <;> by_cases h2 : C.memLen < cap <;> by_cases h3 : C.eph <;> simp [h1, h2, h3]

theorem foldl_files_mem (t : String) (cap : Nat) (cs : List Chan) : ∀ (fs : List BName) (x : BName),
    x ∈ cs.foldl (fun acc C => if !C.exiting && C.putWrites cap then addFile acc (t, some C.name) else acc) fs →
    x ∈ fs ∨ ∃ C ∈ cs, C.eph = false ∧ x = (t, some C.name) := by
  induction cs with
  | nil => intro fs x h; exact Or.inl h
  | cons Y ys ih =>
    intro fs x h
    simp only [List.foldl] at h
    rcases ih _ x h with h1 | ⟨C, hC, he, hx⟩
    · by_cases hw : (!Y.exiting && Y.putWrites cap) = true
      · simp only [hw, if_true] at h1
        rcases mem_addFile h1 with h2 | h2
        · exact Or.inl h2
        · refine Or.inr ⟨Y, List.mem_cons_self, ?_, h2⟩
          simp [Chan.putWrites] at hw
          exact hw.2.2
      · simp only [hw] at h1
        exact Or.inl h1
    · exact Or.inr ⟨C, List.mem_cons_of_mem _ hC, he, hx⟩

theorem fanoutFiles_mem (t : String) (cap : Nat) (ms : List Msg) : ∀ (cs : List Chan) (fs : List BName) (x : BName),
    x ∈ fanoutFiles cap t cs ms fs →
    x ∈ fs ∨ ∃ C ∈ cs, C.eph = false ∧ x = (t, some C.name) := by
  induction ms with
  | nil => intro cs fs x h; exact Or.inl h
  | cons m ms ih =>
    intro cs fs x h
    simp only [fanoutFiles] at h
    rcases ih _ _ x h with h1 | ⟨C', hC', he', hx'⟩
    · exact foldl_files_mem t cap cs fs x h1
    · unfold fanout at hC'
      obtain ⟨C, hC, rfl⟩ := List.mem_map.mp hC'
      refine Or.inr ⟨C, hC, ?_, ?_⟩
      · rw [← (putMessage_eph cap C m).1]; exact he'
      · rw [hx', (putMessage_eph cap C m).2]

theorem mem_addFile_if {fs : List BName} {b x : BName} {w : Bool} (h : x ∈ if w then addFile fs b else fs) :
    x ∈ fs ∨ (w = true ∧ x = b) := by
  cases w with
  | false => exact Or.inl h
  | true => exact (mem_addFile h).imp_right fun e => ⟨rfl, e⟩

/-- the part of `Absent` that one topic answers for: its own queue and its channel `c` -/
def TAbs (T : Topic) (c : String) (x : Nat) : Prop :=
  (∀ m ∈ T.queue, m.id ≠ x) ∧ ∀ C ∈ T.chans, C.name = c → ∀ m ∈ C.located, m.id ≠ x

/-- `Absent`, stated of the two lists it reads: the state after a `step` is `{ modChan … with files := …, … }`, whose
topics and orphans reduce to those of `modChan …`, so a lemma that concludes `AbsentL` of these closes the goal whatever
the other fields become -/
def AbsentL (ts : List Topic) (os : List (BName × List Msg)) (t c : String) (x : Nat) : Prop :=
  (∀ T ∈ ts, T.name = t → TAbs T c x) ∧ (∀ e ∈ os, ∀ m ∈ e.2, m.id ≠ x)

/-- `x` is in none of the places from which it reaches channel (t, c) without a publish: the channel, topic t's queue
(`pump`), an orphaned queue (`createChan` reopens one) -/
def Absent (s : St) (t c : String) (x : Nat) : Prop := AbsentL s.topics s.orphans t c x

theorem absentL_map {ts : List Topic} {os : List (BName × List Msg)} {t c : String} {x : Nat} (t' : String)
    (f : Topic → Topic) (hn : ∀ T, (f T).name = T.name) (hp : t' = t → ∀ T, TAbs T c x → TAbs (f T) c x)
    (h : AbsentL ts os t c x) : AbsentL (ts.map (fun T => if T.name == t' then f T else T)) os t c x :=
  ⟨Keyed.forall_upd (Q := fun T : Topic => T.name = t → TAbs T c x)
    (fun T hT e hn' => have hn' := (hn T).symm.trans hn'; hp (e.symm.trans hn') T (h.1 T hT hn'))
    (fun T hT _ => h.1 T hT), h.2⟩

theorem tabs_modChan {T : Topic} {c : String} {x : Nat} (c' : String) (f : Chan → Chan) (hn : ∀ C, (f C).name = C.name)
    (hp : c' = c → ∀ C, (∀ m ∈ C.located, m.id ≠ x) → ∀ m ∈ (f C).located, m.id ≠ x)
    (h : TAbs T c x) : TAbs (T.modChan c' f) c x :=
  ⟨h.1, Keyed.forall_upd (Q := fun C : Chan => C.name = c → ∀ m ∈ C.located, m.id ≠ x)
    (fun C hC e hcn => have hcn := (hn C).symm.trans hcn; hp (e.symm.trans hcn) C (h.2 C hC hcn))
    (fun C hC _ => h.2 C hC)⟩

theorem absentL_filter {ts : List Topic} {os} {t c : String} {x : Nat} (p : Topic → Bool)
    (h : AbsentL ts os t c x) : AbsentL (ts.filter p) os t c x :=
  ⟨fun T hT => h.1 T (List.mem_filter.mp hT).1, h.2⟩

theorem takeId_mem {l : List Msg} {id : Nat} {m : Msg} {rest : List Msg} (h : takeId l id = some (m, rest)) :
    m ∈ l ∧ m.id = id ∧ ∀ y ∈ rest, y ∈ l := by
  unfold takeId at h
  split at h
  · cases h
  · rename_i m0 hf
    cases h
    refine ⟨List.mem_of_find?_eq_some hf, ?_, fun y hy => List.mem_of_mem_erase hy⟩
    have := List.find?_some hf
    exact eq_of_beq this

theorem mem_located_iff (C : Chan) (y : Msg) :
    y ∈ C.located ↔ y ∈ C.queue ∨ (∃ e ∈ C.inflight, e.1 = y) ∨ y ∈ C.deferred := by
  simp only [Chan.located, List.mem_append, List.mem_map, or_assoc]

theorem put_located (cap : Nat) (C : Chan) (m : Msg) : ∀ y ∈ (Chan.put cap C m).located, y ∈ C.located ∨ y = m := by
  intro y hy
  unfold Chan.put at hy
  split at hy
  · simp only [mem_located_iff] at hy ⊢
    grind
  · split at hy
    · exact Or.inl hy
    · simp only [mem_located_iff] at hy ⊢
      grind

theorem put_name (cap : Nat) (C : Chan) (m : Msg) : (Chan.put cap C m).name = C.name := by
  unfold Chan.put
  by_cases h2 : C.memLen < cap <;> by_cases h3 : C.eph <;> simp [h2, h3]

theorem topic_put_name (cap : Nat) (T : Topic) (m : Msg) :
    (T.put cap m).name = T.name ∧ (T.put cap m).chans = T.chans := by
  unfold Topic.put
  by_cases h2 : T.memLen < cap <;> by_cases h3 : T.eph <;> simp [h2, h3]

theorem putMessage_located (cap : Nat) (C : Chan) (m : Msg) :
    ∀ y ∈ (C.putMessage cap m).located, y ∈ C.located ∨ y = m := by
  intro y hy
  unfold Chan.putMessage at hy
  by_cases h1 : C.exiting
  · simp only [h1, if_true] at hy; exact Or.inl hy
  · simp only [h1] at hy
    exact put_located cap C m y hy

theorem foldl_putMessage_located (cap : Nat) (ms : List Msg) : ∀ (C : Chan),
    ∀ y ∈ (ms.foldl (fun C m => C.putMessage cap m) C).located, y ∈ C.located ∨ y ∈ ms := by
  induction ms with
  | nil => intro C y hy; exact Or.inl hy
  | cons m ms ih =>
    intro C y hy
    rcases ih (C.putMessage cap m) y hy with h | h
    · rcases putMessage_located cap C m y h with h2 | h2
      · exact Or.inl h2
      · exact Or.inr (by simp [h2])
    · exact Or.inr (List.mem_cons_of_mem _ h)

theorem foldl_putMessage_name (cap : Nat) (ms : List Msg) : ∀ (C : Chan),
    (ms.foldl (fun C m => C.putMessage cap m) C).name = C.name := by
  induction ms with
  | nil => intro C; rfl
  | cons m ms ih => intro C; simp only [List.foldl]; rw [ih]; exact (putMessage_eph cap C m).2

theorem foldl_put_durable (cap : Nat) (ms : List Msg) : ∀ (C : Chan), C.eph = false → C.exiting = false →
    (ms.foldl (fun C m => C.putMessage cap m) C).queue = C.queue ++ ms := by
  induction ms with
  | nil => intro C _ _; simp
  | cons m ms ih =>
    intro C he hx
    have hq : (C.putMessage cap m).queue = C.queue ++ [m] ∧ (C.putMessage cap m).eph = false ∧
        (C.putMessage cap m).exiting = false := by
      unfold Chan.putMessage Chan.put
      by_cases h2 : C.memLen < cap <;> simp [hx, he, h2]
    rw [List.foldl_cons, ih _ hq.2.1 hq.2.2, hq.1, List.append_assoc, List.singleton_append]

theorem fanoutAll_eq (cap : Nat) (ms : List Msg) : ∀ (cs : List Chan),
    fanoutAll cap cs ms = cs.map (fun C => ms.foldl (fun C m => C.putMessage cap m) C) := by
  induction ms with
  | nil => intro cs; simp [fanoutAll]
  | cons m ms ih =>
    intro cs
    show fanoutAll cap (fanout cap cs m) ms = _
    rw [ih]; unfold fanout; rw [List.map_map]; rfl

def NoPub (o : Op) (t : String) (x : Nat) : Prop := ∀ m, o = Op.pub t m → m.id ≠ x

theorem orphanOf_mem {os : List (BName × List Msg)} {b : BName} {m : Msg} (h : m ∈ orphanOf os b) :
    ∃ e ∈ os, m ∈ e.2 := by
  unfold orphanOf at h
  split at h
  · rename_i e he
    exact ⟨e, List.mem_of_find?_eq_some he, h⟩
  · cases h

theorem openChan_located (os : List (BName × List Msg)) (t c : String) (e : Bool) (m : Msg)
    (h : m ∈ (openChan os t c e).located) : ∃ en ∈ os, m ∈ en.2 := by
  unfold openChan at h
  cases e with
  | true => simp [newChan, Chan.located] at h
  | false =>
    simp only [Chan.located, List.map_nil, List.append_nil, Bool.false_eq_true, if_false] at h
    exact orphanOf_mem h

theorem openChan_name (os : List (BName × List Msg)) (t c : String) (e : Bool) : (openChan os t c e).name = c := by
  unfold openChan; cases e <;> rfl

theorem Absent.not_located {s : St} {t c t' c' : String} {x : Nat} {C : Chan} (h : Absent s t c x)
    (hC : getChan s t' c' = some C) (htt : t' = t) (hcc : c' = c) : ∀ z ∈ C.located, z.id ≠ x := by
  obtain ⟨T, hT, hn, hCm, hcn⟩ := getChan_mem hC
  exact (h.1 T hT (by rw [hn, htt])).2 C hCm (by rw [hcn, hcc])

/-- `hp` may also use the channel found, `C0`: the updates of `step` carry what was read from it (the message taken,
the in-flight entry) -/
theorem absent_modChan {s : St} {t c t' c' : String} {x : Nat} {C0 : Chan} (hC0 : getChan s t' c' = some C0)
    (f : Chan → Chan) (hn : ∀ C, (f C).name = C.name)
    (hp : (∀ m ∈ C0.located, m.id ≠ x) → ∀ C, (∀ m ∈ C.located, m.id ≠ x) → ∀ m ∈ (f C).located, m.id ≠ x)
    (h : Absent s t c x) : AbsentL (modChan s t' c' f).topics (modChan s t' c' f).orphans t c x :=
  absentL_map t' _ (fun _ => rfl)
    (fun htt _ => tabs_modChan c' f hn fun hcc => hp (h.not_located hC0 htt hcc)) h

theorem absent_step (s : St) (o : Op) (t c : String) (x : Nat) (h : Absent s t c x) (hno : NoPub o t x) :
    Absent (step s o).1 t c x := by
  unfold Absent
  revert hno
  fun_cases step s o
  all_goals intro hno
  -- `createTopic`, `createChan` under a free name: the new channel holds at most an orphaned queue
  case case2 t' e _ =>
    refine ⟨?_, h.2⟩
    intro T hT hn
    rcases List.mem_append.mp hT with h1 | h1
    · exact h.1 T h1 hn
    · simp at h1; subst h1
      exact ⟨(by intro m hm; cases hm), (by intro C hC; cases hC)⟩
  case case5 t' c' e _ _ _ =>
    refine ⟨?_, ?_⟩
    · refine (absentL_map t' (fun T => T.addChan (openChan s.orphans t' c' e)) (fun _ => rfl) ?_ h).1
      intro _ T hT
      refine ⟨hT.1, ?_⟩
      intro C hC hcn
      rcases List.mem_append.mp hC with h1 | h1
      · exact hT.2 C h1 hcn
      · simp at h1; subst h1
        intro m hm
        obtain ⟨en, hen, hmen⟩ := openChan_located _ _ _ _ m hm
        exact h.2 en hen m hmen
    · intro en hen
      cases e with
      | true => exact h.2 en hen
      | false => exact h.2 en (List.mem_filter.mp hen).1
  -- `deleteTopic`; `deleteChanUnlink` of the last channel of an ephemeral topic
  case case7 | case14 => exact absentL_filter _ h
  -- `deleteChanBegin`, `emptyChan`, the auto-delete in `unsub`: nothing is located afterwards
  case case10 hC0 _ | case20 hC0 _ | case37 hC0 _ _ _ =>
    exact absent_modChan hC0 _ (fun _ => rfl) (fun _ _ _ _ hm => nomatch hm) h
  -- `deleteChanUnlink` otherwise, `emptyTopic`, `pauseTopic`
  case case15 t' c' _ _ _ _ _ _ =>
    apply absentL_map t' (fun T => T.dropChan c') (fun _ => rfl) _ h
    intro _ T hT
    exact ⟨hT.1, fun C hC hcn => hT.2 C (List.mem_filter.mp hC).1 hcn⟩
  case case17 t' _ _ =>
    apply absentL_map t' Topic.clearQueue (fun _ => rfl) _ h
    intro _ T hT
    exact ⟨(by intro m hm; cases hm), hT.2⟩
  case case22 t' p _ _ =>
    exact absentL_map t' (fun T => { T with paused := p }) (fun _ => rfl) (fun _ _ hT => hT) h
  -- `pauseChan`, `sub`, `unsub`: what is located stays
  case case24 hC0 | case33 hC0 _ _ | case38 hC0 _ _ _ =>
    exact absent_modChan hC0 _ (fun _ => rfl) (fun _ _ hC => hC) h
  -- `pub`: the one operation that brings an id, and not `x` (`hno`)
  case case26 t' m _ _ =>
    apply absentL_map t' (fun T => T.put s.memCap m) (fun T => (topic_put_name s.memCap T m).1) _ h
    · intro htt T hT
      have hmx : m.id ≠ x := hno m (by rw [htt])
      have happ : ∀ y ∈ T.queue ++ [m], y.id ≠ x := by
        intro y hy
        rcases List.mem_append.mp hy with h1 | h1
        · exact hT.1 y h1
        · simp at h1; subst h1; exact hmx
      unfold Topic.put
      split
      · exact ⟨happ, hT.2⟩
      · split
        · exact hT
        · exact ⟨happ, hT.2⟩
  -- `pump`: a channel receives what the topic's queue held
  case case29 t' _ _ _ =>
    apply absentL_map t'
      (fun T => Topic.mk T.name T.eph T.paused [] 0 (fanoutAll s.memCap T.chans T.queue) T.msgCount)
      (fun _ => rfl) _ h
    intro _ T hT
    refine ⟨(by intro m hm; cases hm), ?_⟩
    intro C' hC' hcn
    rw [fanoutAll_eq] at hC'
    obtain ⟨C, hC, rfl⟩ := List.mem_map.mp hC'
    rw [foldl_putMessage_name] at hcn
    intro m hm
    rcases foldl_putMessage_located s.memCap T.queue C m hm with h1 | h1
    · exact hT.2 C hC hcn m h1
    · exact hT.1 m h1
  -- `deliver`, `fin`, `req` (deferred, onto the queue), `release`: the ids move inside the channel found
  case case43 t' c' k fm id C0 hC0 _ _ m rest htake =>
    obtain ⟨hm0, _, hrest⟩ := takeId_mem htake
    refine absent_modChan hC0 _ (fun _ => rfl) ?_ h
    intro hC0abs C hC y hy
    simp only [mem_located_iff] at hy hC hC0abs
    grind
  case case46 t' c' k id C0 hC0 e0 he0 =>
    refine absent_modChan hC0 _ (fun _ => rfl) ?_ h
    intro _ C hC y hy
    simp only [mem_located_iff] at hy hC
    grind [List.mem_of_mem_erase]
  case case49 t' c' k id C0 hC0 e0 he0 =>
    have he0m : e0 ∈ C0.inflight := List.mem_of_find?_eq_some he0
    refine absent_modChan hC0 _ (fun _ => rfl) ?_ h
    intro this C hC y hy
    simp only [mem_located_iff] at hy hC this
    grind [List.mem_of_mem_erase]
  case case50 t' c' k id d C0 hC0 e0 he0 _ =>
    have he0m : e0 ∈ C0.inflight := List.mem_of_find?_eq_some he0
    refine absent_modChan hC0 _ (fun _ => put_name s.memCap _ _) ?_ h
    intro this C hC y hy
    have h1 := put_located s.memCap _ e0.1 y hy
    simp only [mem_located_iff] at h1 hC this
    grind [List.mem_of_mem_erase]
  case case53 t' c' id C0 hC0 m rest htake =>
    obtain ⟨hm0, _, hrest⟩ := takeId_mem htake
    refine absent_modChan hC0 _ (fun _ => put_name s.memCap _ _) ?_ h
    intro hC0abs C hC y hy
    have h1 := put_located s.memCap _ m y hy
    simp only [mem_located_iff] at h1 hC hC0abs
    grind
  all_goals exact h

theorem deliver_absent (s : St) (t c : String) (k : Nat) (fm : Bool) (x : Nat) (h : Absent s t c x) :
    (step s (.deliver t c k fm x)).2 ≠ Ans.ok := by
  simp only [step]
  cases hC0 : getChan s t c with
  | none => simp
  | some C0 =>
    simp only []
    by_cases hg : (C0.exiting || C0.paused || !hasClient C0 k) = true
    · rw [if_pos hg]; simp
    · rw [if_neg hg]
      by_cases hz : (if fm = true then C0.memLen else C0.diskLen) = 0
      · rw [if_pos hz]; simp
      · rw [if_neg hz]
        cases htake : takeId C0.queue x with
        | none => simp
        | some p =>
          obtain ⟨m, rest⟩ := p
          obtain ⟨hm0, hid, _⟩ := takeId_mem htake
          exact absurd hid (h.not_located hC0 rfl rfl m ((mem_located_iff C0 m).mpr (Or.inl hm0)))

def runAns (s : St) : List Op → List Ans
  | [] => []
  | o :: os => (step s o).2 :: runAns (step s o).1 os

theorem absent_run : ∀ (ops : List Op) (s : St) (t c : String) (x : Nat), Absent s t c x →
    (∀ o ∈ ops, NoPub o t x) → Absent (run s ops) t c x := by
  intro ops
  induction ops with
  | nil => intro s t c x h _; exact h
  | cons o os ih =>
    intro s t c x h hno
    exact ih _ t c x (absent_step s o t c x h (hno o List.mem_cons_self))
      (fun o' ho' => hno o' (List.mem_cons_of_mem _ ho'))

theorem absent_after_clear (s : St) (t c : String) (x : Nat) (f : Chan → Chan) (hf : ∀ C, (f C).located = [])
    (hq : ∀ T ∈ s.topics, T.name = t → ∀ m ∈ T.queue, m.id ≠ x)
    (ho : ∀ e ∈ s.orphans, ∀ m ∈ e.2, m.id ≠ x) :
    AbsentL (modChan s t c f).topics s.orphans t c x :=
  ⟨Keyed.upd_at (Q := fun T : Topic => TAbs T c x) fun T hT e =>
    ⟨hq T hT e, Keyed.upd_at (Q := fun C : Chan => ∀ m ∈ C.located, m.id ≠ x) fun C _ _ => by rw [hf]; nofun⟩, ho⟩

end Nsq.Proofs.Life
