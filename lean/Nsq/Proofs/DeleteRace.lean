/-
The invariant shared by the two deletion race models (Model/ChanDelete.lean, Model/TopicDelete.lean): one object
may be registered under the name, objects that left the map are kept in a list, a deletion is "in progress" from the
moment it wins the exit flag until it unlinks.  With the identity-checked unlink an object leaves the map only dead.
The models differ in what an object carries; the invariant reads it through a `View`.
-/
namespace Nsq.Proofs.DeleteRace

structure View (α : Type) where
  id : α → Nat
  exiting : α → Bool
  /-- the exit stage of its deletion has run -/
  exited : α → Bool
  /-- it holds nothing (no consumer, no message) -/
  empty : α → Prop

variable {α : Type} (V : View α)

def Dead (T : α) : Prop := V.exiting T = true ∧ V.empty T

structure MapOK (deleters : List Nat) (nextId : Nat) (T : α) : Prop where
  /-- only a deletion that set the flag runs the exit stage, and nothing enters an exiting object -/
  done : V.exited T = true → Dead V T
  del : V.id T ∈ deleters → V.exiting T = true
  fresh : V.id T < nextId

structure Inv (ownUnlink : Bool) (map : Option α) (unlinked : List α) (deleters : List Nat) (nextId : Nat) :
    Prop where
  g : ownUnlink = true
  unl : ∀ T ∈ unlinked, Dead V T
  mp : ∀ T, map = some T → MapOK V deleters nextId T
  /-- the next object's id is no deleter's -/
  fr : ∀ id ∈ deleters, id < nextId

variable {V} {g : Bool} {m : Option α} {u : List α} {d : List Nat} {n : Nat}

theorem Inv.init : Inv V true none [] [] n :=
  ⟨rfl, fun _ h => (by cases h), fun _ h => (by cases h), fun _ h => (by cases h)⟩

theorem Inv.register (h : Inv V g none u d n) (T : α) (hid : V.id T = n) (hx : V.exited T = false) :
    Inv V g (some T) u d (n + 1) :=
  { h with
    mp := by
      intro X hX
      cases hX
      exact ⟨fun he => (by rw [hx] at he; cases he), fun hi => absurd (h.fr _ hi) (hid ▸ Nat.lt_irrefl _),
        hid ▸ Nat.lt_succ_self _⟩
    fr := fun id hid => Nat.lt_succ_of_lt (h.fr id hid) }

theorem Inv.grow {T : α} (h : Inv V g (some T) u d n) (hx : V.exiting T = false) (T' : α)
    (hid : V.id T' = V.id T) (hex : V.exited T' = V.exited T) (hxi : V.exiting T' = V.exiting T) :
    Inv V g (some T') u d n :=
  { h with
    mp := by
      intro X hX
      cases hX
      have ok := h.mp T rfl
      refine ⟨fun he => ?_, fun hi => hxi.trans (ok.del (hid ▸ hi)), hid ▸ ok.fresh⟩
      rw [(ok.done (hex ▸ he)).1] at hx; cases hx }

theorem Inv.begin {T : α} (h : Inv V g (some T) u d n) (T' : α) (hid : V.id T' = V.id T)
    (hex : V.exited T' = V.exited T) (hxi : V.exiting T' = true) (hem : V.empty T → V.empty T') :
    Inv V g (some T') u (V.id T :: d) n :=
  have ok := h.mp T rfl
  { h with
    mp := by
      intro X hX
      cases hX
      exact ⟨fun he => ⟨hxi, hem (ok.done (hex ▸ he)).2⟩, fun _ => hxi, hid ▸ ok.fresh⟩
    fr := by
      intro id hi
      rcases List.mem_cons.mp hi with rfl | hi
      · exact ok.fresh
      · exact h.fr id hi }

theorem Inv.mapObjs (h : Inv V g m u d n) (f : α → α) (hdead : ∀ T, Dead V T → Dead V (f T))
    (hok : ∀ T, MapOK V d n T → MapOK V d n (f T)) : Inv V g (m.map f) (u.map f) d n :=
  { h with
    unl := by
      intro T' hT'
      obtain ⟨T, hT, rfl⟩ := List.mem_map.mp hT'
      exact hdead T (h.unl T hT)
    mp := by
      intro T' hT'
      obtain ⟨T, hT, rfl⟩ := Option.map_eq_some_iff.mp hT'
      exact hok T (h.mp T hT) }

theorem Inv.shrink (h : Inv V g m u d n) (f : α → α) (hid : ∀ T, V.id (f T) = V.id T)
    (hxi : ∀ T, V.exiting (f T) = V.exiting T) (hex : ∀ T, V.exited (f T) = V.exited T)
    (hem : ∀ T, V.empty T → V.empty (f T)) : Inv V g (m.map f) (u.map f) d n :=
  have hdead : ∀ T, Dead V T → Dead V (f T) := fun T hT =>
    ⟨(hxi T).trans hT.1, hem T hT.2⟩
  h.mapObjs f hdead fun T ok =>
    ⟨fun he => hdead T (ok.done ((hex T).symm.trans he)), fun hi => (hxi T).trans (ok.del (hid T ▸ hi)), hid T ▸ ok.fresh⟩

theorem Inv.exitStage (h : Inv V g m u d n) {id : Nat} (hd : id ∈ d) (f : α → α) (hid : ∀ T, V.id (f T) = V.id T)
    (hxi : ∀ T, V.exiting (f T) = V.exiting T) (hem : ∀ T, V.empty (f T)) :
    Inv V g (m.map fun T => if V.id T = id then f T else T) (u.map fun T => if V.id T = id then f T else T) d n := by
  refine h.mapObjs _ ?_ ?_
  · intro T hT
    by_cases hi : V.id T = id
    · rw [if_pos hi]; exact ⟨(hxi T).trans hT.1, hem T⟩
    · rw [if_neg hi]; exact hT
  · intro T ok
    by_cases hi : V.id T = id
    · rw [if_pos hi]
      have hx : V.exiting (f T) = true := (hxi T).trans (ok.del (hi ▸ hd))
      exact ⟨fun _ => ⟨hx, hem T⟩, fun _ => hx, hid T ▸ ok.fresh⟩
    · rw [if_neg hi]; exact ok

theorem Inv.finish (h : Inv V g m u d n) (d' : List Nat) (hd : ∀ x ∈ d', x ∈ d) : Inv V g m u d' n :=
  { h with
    mp := fun T hT => ⟨(h.mp T hT).done, fun hi => (h.mp T hT).del (hd _ hi), (h.mp T hT).fresh⟩
    fr := fun x hx => h.fr x (hd x hx) }

theorem Inv.unlink {T : α} (h : Inv V g (some T) u d n) (hex : V.exited T = true) : Inv V g none (T :: u) d n :=
  { h with
    unl := by
      intro X hX
      rcases List.mem_cons.mp hX with rfl | hX
      · exact (h.mp X rfl).done hex
      · exact h.unl X hX
    mp := fun _ hn => (by cases hn) }

theorem Inv.flatten_nil (h : Inv V g m u d n) {β : Type} (f : α → List β) (hf : ∀ T, V.empty T → f T = []) :
    (u.map f).flatten = [] := by
  rw [List.flatten_eq_nil_iff]
  intro l hl
  obtain ⟨T, hT, rfl⟩ := List.mem_map.mp hl
  exact hf T (h.unl T hT).2

theorem Inv.filter_not_exiting (h : Inv V g m u d n) : u.filter (fun T => !V.exiting T) = [] := by
  rw [List.filter_eq_nil_iff]
  intro T hT
  simp [(h.unl T hT).1]

end Nsq.Proofs.DeleteRace
