import Nsq.Proofs.AdminGate
/-!
Which `ClusterInfo` action a mutating handler performs: the judgement `fanoutOk` on the paths of a skeleton (evaluated on
the regenerated skeletons in `Nsq.Tie.AdminGate`, whose namespace its definitions carry) and its lifting to every run.
-/
namespace Nsq.Tie.AdminGate
open Nsq.Model.AdminGate

def upstreamsOf (effs : List Eff) : List String :=
  effs.filterMap (fun e => match e with
    | .upstream n => some n
    | .upstreamMany n => some n
    | _ => none)

def actionOf : List (Cond × Bool) → String
  | [] => ""
  | (.actionIs a, true) :: _ => a
  | _ :: rest => actionOf rest

def hasChannelParam (cs : List (Cond × Bool)) : Bool := cs.contains (.paramNonEmpty "channel", true)

/-- The table: handler, body action, "the route has a channel" → the `ClusterInfo` method. -/
def expectedAction (handler action : String) (chan : Bool) : String :=
  if handler == "createTopicChannelHandler" then "CreateTopicChannel"
  else if handler == "deleteTopicHandler" then "DeleteTopic"
  else if handler == "deleteChannelHandler" then "DeleteChannel"
  else if handler == "tombstoneNodeForTopicHandler" then "TombstoneNodeForTopic"
  else if handler == "topicActionHandler" || (handler == "channelActionHandler" && !chan) then
    (if action == "pause" then "PauseTopic" else if action == "unpause" then "UnPauseTopic"
     else if action == "empty" then "EmptyTopic" else "?")
  else if handler == "channelActionHandler" then
    (if action == "pause" then "PauseChannel" else if action == "unpause" then "UnPauseChannel"
     else if action == "empty" then "EmptyChannel" else "?")
  else "?"

def isActionHandler (h : String) : Bool := h == "topicActionHandler" || h == "channelActionHandler"

def channelTested (cs : List (Cond × Bool)) : Bool :=
  cs.contains (.paramNonEmpty "channel", true) || cs.contains (.paramNonEmpty "channel", false)

/-- On every path of a mutating handler: an answer 200/502 comes with exactly the one upstream
action of the table (and the path has tested what the table row depends on); any other answer
(400, 403) comes with none. -/
def fanoutOk (handler : String) (sk : Skel) : Bool :=
  (paths sk).all (fun p =>
    if p.2.2 == 200 || p.2.2 == 502 then
      upstreamsOf p.2.1 == [expectedAction handler (actionOf p.1) (hasChannelParam p.1)] &&
      (!isActionHandler handler || actionOf p.1 != "") &&
      (!(handler == "channelActionHandler") || channelTested p.1)
    else upstreamsOf p.2.1 == [])

end Nsq.Tie.AdminGate

namespace Nsq.Proofs.AdminFanout
open Nsq.Model.AdminGate Nsq.Proofs.AdminGate Nsq.Tie.AdminGate

def upstreamObs (obs : List Obs) : List String :=
  obs.filterMap (fun o => match o with | .upstream n => some n | _ => none)

theorem upstreamObs_filterMap (effs : List Eff) :
    upstreamObs (effs.filterMap obsOf) = upstreamsOf effs := by
  simp only [upstreamObs, upstreamsOf, List.filterMap_filterMap]
  congr 1; funext e; cases e <;> rfl

theorem pathHolds_tested (env : Env) (cs : List (Cond × Bool)) (h : pathHolds env cs = true) (c : Cond)
    (hs : stateDep c = false) (ht : (cs.contains (c, true) || cs.contains (c, false)) = true) :
    cs.contains (c, true) = evalCond env {} c := by
  cases hc : cs.contains (c, true)
  · rw [hc, Bool.false_or, List.contains_iff_mem] at ht
    exact (pathHolds_mem env cs h c false ht hs).symm
  · exact (pathHolds_mem env cs h c true (List.contains_iff_mem.1 hc) hs).symm

theorem actionOf_mem (cs : List (Cond × Bool)) (h : actionOf cs ≠ "") :
    (Cond.actionIs (actionOf cs), true) ∈ cs := by
  fun_induction actionOf cs with
  | case1 => exact absurd rfl h
  | case2 a rest => exact List.mem_cons_self
  | case3 x rest _ ih => exact List.mem_cons_of_mem _ (ih h)

theorem actionOf_eq (env : Env) (cs : List (Cond × Bool)) (h : pathHolds env cs = true)
    (hne : actionOf cs ≠ "") : env.req.action = actionOf cs := by
  simpa [evalCond] using pathHolds_mem env cs h _ _ (actionOf_mem cs hne) rfl

theorem expectedAction_congr (h a a' : String) (c c' : Bool) (ha : isActionHandler h = true → a = a')
    (hc : h = "channelActionHandler" → c = c') : expectedAction h a c = expectedAction h a' c' := by
  by_cases hch : h = "channelActionHandler"
  · subst hch; rw [ha (by decide), hc rfl]
  · by_cases htop : h = "topicActionHandler"
    · subst htop; rw [ha (by decide)]; simp [expectedAction]
    · simp [expectedAction, hch, htop]

theorem fanout_lift (handler : String) (sk : Skel) (hok : fanoutOk handler sk = true) (env : Env) :
    (((run env sk).1 = 200 ∨ (run env sk).1 = 502) →
      upstreamObs (run env sk).2 =
        [expectedAction handler env.req.action (env.req.nonEmptyParams.contains "channel")]) ∧
    (¬((run env sk).1 = 200 ∨ (run env sk).1 = 502) → upstreamObs (run env sk).2 = []) := by
  obtain ⟨p, hp', hrun, h3⟩ := run_path hok env
  rw [hrun, upstreamObs_filterMap]
  constructor
  · intro hs
    have hcond : (p.2.2 == 200 || p.2.2 == 502) = true := by simpa using hs
    simp only [hcond, if_true, Bool.and_eq_true, beq_iff_eq, Bool.or_eq_true, Bool.not_eq_true',
      bne_iff_ne, ne_eq] at hp'
    obtain ⟨⟨hu, hact⟩, hch⟩ := hp'
    rw [hu]
    congr 1
    apply expectedAction_congr
    · intro hah
      exact (actionOf_eq env p.1 h3 (hact.resolve_left (by simp [hah]))).symm
    · intro hh
      have ht := hch.resolve_left (by simp [hh])
      exact pathHolds_tested env p.1 h3 (.paramNonEmpty "channel") rfl ht
  · intro hs
    have hcond : (p.2.2 == 200 || p.2.2 == 502) = false := by simpa using hs
    simpa [hcond] using hp'

end Nsq.Proofs.AdminFanout
