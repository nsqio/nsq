import Nsq.Model.Restart
import Nsq.Proofs.Life
/-!
C05 — graceful shutdown and restart. `closeAll`/`reload` on the life-cycle model hand every queue back by name, which
makes the topics after a restart an equation (`cycle_topics`); the shutdown race model has its step read through a
table of moves (`Trans`) and the invariants of its lock shapes as one chain over `Barrier`.
-/
namespace Nsq.Proofs.Restart
open Nsq.Model.Life Nsq.Model.Restart Nsq.Proofs.Life

/-- `topicQueues T` is what `Topic.exit` leaves on disk -/
theorem mem_topicQueues {T : Topic} {e : BName × List Msg} : e ∈ topicQueues T ↔
    (T.eph = false ∧ e = ((T.name, none), T.queue)) ∨
      ∃ C ∈ T.chans, C.eph = false ∧ e = ((T.name, some C.name), C.located) := by
  simp only [topicQueues, List.mem_append, List.mem_map, List.mem_filter, Chan.flushed]
  refine or_congr ?_ ⟨fun ⟨C, ⟨hC, he⟩, h⟩ => ⟨C, hC, by simpa using he, h.symm⟩,
    fun ⟨C, hC, he, h⟩ => ⟨C, ⟨hC, by simp [he]⟩, h.symm⟩⟩
  cases T.eph <;> simp

/-- Names are unique, so the queues of the topics are one entry per key, and they come before the orphans. -/
theorem lookup_closeAll {s : St} (hwf : WF s) {T : Topic} (hT : T ∈ s.topics) {e : BName × List Msg}
    (he : e ∈ topicQueues T) : lookupDQ (closeAll s).dq e.1 = e.2 := by
  have hk : ∀ {X : Topic} {e' : BName × List Msg}, e' ∈ topicQueues X → e'.1.1 = X.name := by
    intro X e' h'
    rcases mem_topicQueues.1 h' with ⟨_, rfl⟩ | ⟨_, _, _, rfl⟩ <;> rfl
  unfold lookupDQ closeAll
  simp only []
  rw [List.find?_append, Keyed.find?_of_unique (key := Prod.fst) (List.mem_flatten.2 ⟨_, List.mem_map_of_mem hT, he⟩)]
  · rfl
  · intro e' h' hkey
    obtain ⟨_, hq, h'⟩ := List.mem_flatten.1 h'
    obtain ⟨X, hX, rfl⟩ := List.mem_map.1 hq
    -- the topic of that name is `T`, and under `T` the channel of that name is the same
    cases Keyed.eq_of_key_eq hwf.1 hX hT (by rw [← hk h', ← hk he, hkey])
    rcases mem_topicQueues.1 h' with ⟨_, rfl⟩ | ⟨C', hC', _, rfl⟩ <;>
      rcases mem_topicQueues.1 he with ⟨_, rfl⟩ | ⟨C, hC, _, rfl⟩
    · rfl
    · cases hkey
    · cases hkey
    · cases Keyed.eq_of_key_eq (hwf.2 T hT) hC' hC (by injection hkey with _ h; injection h)
      rfl

theorem lookup_topic (s : St) (T : Topic) (hT : T ∈ s.topics) (he : T.eph = false) (hwf : WF s) :
    lookupDQ (closeAll s).dq (T.name, none) = T.queue :=
  lookup_closeAll (e := ((T.name, none), T.queue)) hwf hT (mem_topicQueues.2 (.inl ⟨he, rfl⟩))

theorem lookup_chan (s : St) (T : Topic) (C : Chan) (hT : T ∈ s.topics) (hC : C ∈ T.chans)
    (he : C.eph = false) (hwf : WF s) :
    lookupDQ (closeAll s).dq (T.name, some C.name) = C.located :=
  lookup_closeAll (e := ((T.name, some C.name), C.located)) hwf hT (mem_topicQueues.2 (.inr ⟨C, hC, he, rfl⟩))

def WFt (ts : List Topic) : Prop :=
  (ts.map (·.name)).Nodup ∧ ∀ T ∈ ts, (T.chans.map (·.name)).Nodup

theorem wft_filter (ts : List Topic) (p : Topic → Bool) (h : WFt ts) : WFt (ts.filter p) :=
  ⟨Keyed.nodup_filter p h.1, fun T hT => h.2 T (List.mem_filter.mp hT).1⟩

theorem wft_append (ts : List Topic) (X : Topic) (hf : ∀ T ∈ ts, T.name ≠ X.name)
    (hx : (X.chans.map (·.name)).Nodup) (h : WFt ts) : WFt (ts ++ [X]) := by
  refine ⟨Keyed.nodup_append_fresh h.1 hf, fun T hT => ?_⟩
  rcases List.mem_append.mp hT with h1 | h1
  · exact h.2 T h1
  · cases List.mem_singleton.1 h1; exact hx

theorem wf_modTopic (s : St) (t : String) (f : Topic → Topic) (hn : ∀ T, (f T).name = T.name)
    (hc : ∀ T ∈ s.topics, T.name = t → (T.chans.map (·.name)).Nodup → ((f T).chans.map (·.name)).Nodup)
    (h : WF s) : WFt (modTopic s t f).topics :=
  ⟨Keyed.nodup_map (Keyed.key_upd hn) h.1,
    Keyed.forall_upd (fun T hT e => hc T hT e (h.2 T hT)) (fun T hT _ => h.2 T hT)⟩

theorem wf_modChan (s : St) (t c : String) (f : Chan → Chan) (hn : ∀ C, (f C).name = C.name)
    (h : WF s) : WFt (modChan s t c f).topics :=
  wf_modTopic s t (fun T => T.modChan c f) (fun _ => rfl) (fun _ _ _ hnd => Keyed.nodup_map (Keyed.key_upd hn) hnd) h

theorem uniq_topic {s : St} {t : String} {T X : Topic} (h : WF s) (hT : getTopic s t = some T)
    (hX : X ∈ s.topics) (hn : X.name = t) : X = T :=
  Keyed.eq_of_key_eq h.1 hX (getTopic_mem hT).1 (hn.trans (getTopic_mem hT).2.symm)

theorem wf_step (s : St) (o : Op) (h : WF s) : WF (step s o).1 := by
  show WFt (step s o).1.topics
  fun_cases step s o
  case case2 t e hnone => exact wft_append s.topics _ (Keyed.find?_none.1 hnone) (by simp [newTopic]) h
  -- `createChan` under a free name: the topic found is the only one of that name
  case case5 t c e T hT hnone =>
    refine wf_modTopic s t (fun T => T.addChan (openChan s.orphans t c e)) (fun _ => rfl) ?_ h
    intro X hX hXn hnd
    cases uniq_topic h hT hX hXn
    exact Keyed.nodup_append_fresh hnd (by rw [openChan_name]; exact Keyed.find?_none.1 hnone)
  -- `deleteTopic`; `deleteChanUnlink` of the last channel of an ephemeral topic
  case case7 | case14 => exact wft_filter s.topics _ h
  case case15 t c _ _ _ _ _ _ =>
    exact wf_modTopic s t (fun T => T.dropChan c) (fun _ => rfl) (fun _ _ _ hnd => Keyed.nodup_filter _ hnd) h
  case case17 t _ _ => exact wf_modTopic s t Topic.clearQueue (fun _ => rfl) (fun _ _ _ hnd => hnd) h
  case case22 t p _ _ =>
    exact wf_modTopic s t (fun T => { T with paused := p }) (fun _ => rfl) (fun _ _ _ hnd => hnd) h
  case case26 t m _ _ =>
    exact wf_modTopic s t (fun T => T.put s.memCap m) (fun T => (topic_put_name s.memCap T m).1)
      (fun X _ _ hnd => by rw [(topic_put_name s.memCap X m).2]; exact hnd) h
  -- `pump`: every channel keeps its name through the fan-out
  case case29 t _ _ _ =>
    refine wf_modTopic s t _ (fun _ => rfl) (fun X hX _ _ => ?_) h
    show ((fanoutAll s.memCap X.chans X.queue).map (·.name)).Nodup
    rw [fanoutAll_eq, List.map_map]
    exact (List.map_congr_left fun C _ => (foldl_putMessage_name s.memCap X.queue C).symm) ▸ h.2 X hX
  -- an update of one channel that keeps its name: `deleteChanBegin`, `emptyChan`, `pauseChan`, `sub`, `unsub` (twice),
  -- `deliver`, `fin`, `req` into the deferred map
  case case10 | case20 | case24 | case33 | case37 | case38 | case43 | case46 | case49 =>
    exact wf_modChan s _ _ _ (fun _ => rfl) h
  -- `req` back onto the queue, `release`
  case case50 | case53 => exact wf_modChan s _ _ _ (fun _ => put_name s.memCap _ _) h
  all_goals exact h

theorem wf_init (cap : Nat) : WF (init cap) := by
  constructor
  · simp [init]
  · intro T hT; simp [init] at hT

theorem wf_run : ∀ (ops : List Op) (s : St), WF s → WF (run s ops) := by
  intro ops
  induction ops with
  | nil => intro s h; exact h
  | cons o os ih => intro s h; exact ih _ (wf_step s o h)

/-! ### what a shutdown followed by a start makes of the topics -/

theorem filter_map_self {α β : Type} (g : α → β) (p : β → Bool) (l : List α) (h : ∀ a, p (g a) = true) :
    (l.map g).filter p = l.map g := by
  rw [List.filter_eq_self]
  intro b hb
  obtain ⟨a, _, rfl⟩ := List.mem_map.mp hb
  exact h a

/-- `PersistMetadata` after `LoadMetadata`, whatever the queues were filled with -/
theorem persisted_of_metadata (cap : Nat) (md : List (String × Bool × List (String × Bool)))
    (f : String × Bool × List (String × Bool) → Topic) (g : String → String × Bool → Chan)
    (hf : ∀ e, (f e).name = e.1 ∧ (f e).eph = false ∧ (f e).paused = e.2.1 ∧ (f e).chans = e.2.2.map (g e.1))
    (hg : ∀ t c, (g t c).name = c.1 ∧ (g t c).eph = false ∧ (g t c).paused = c.2) :
    persisted { memCap := cap, topics := md.map f } = md := by
  unfold persisted
  simp only []
  rw [filter_map_self f _ md (fun e => by simp [(hf e).2.1]), List.map_map]
  refine (List.map_congr_left fun e _ => ?_).trans (List.map_id md)
  obtain ⟨h1, _, h3, h4⟩ := hf e
  simp only [Function.comp, id, h1, h3, h4]
  rw [filter_map_self (g e.1) _ e.2.2 (fun c => by simp [(hg e.1 c).2.1]), List.map_map]
  have : e.2.2.map ((fun C : Chan => (C.name, C.paused)) ∘ g e.1) = e.2.2 :=
    (List.map_congr_left fun c _ => by simp only [Function.comp, id, (hg e.1 c).1, (hg e.1 c).2.2]).trans (List.map_id _)
  rw [this]

theorem persisted_reload (cap : Nat) (p : Persist) : persisted (reload cap p) = p.metadata :=
  persisted_of_metadata cap p.metadata (reloadTopic p.dq) (reloadChan p.dq) (fun _ => ⟨rfl, rfl, rfl, rfl⟩)
    (fun _ _ => ⟨rfl, rfl, rfl⟩)

def reloadedChan (C : Chan) : Chan :=
  { name := C.name, eph := false, paused := C.paused, queue := C.located, memLen := 0 }

def reloadedTopic (T : Topic) : Topic :=
  { name := T.name, eph := false, paused := T.paused, queue := T.queue, memLen := 0,
    chans := (T.chans.filter (fun C => !C.eph)).map reloadedChan }

theorem cycle_topics (s : St) (hwf : WF s) :
    (cycle s).topics = (s.topics.filter (fun T => !T.eph)).map reloadedTopic := by
  show (persisted s).map (reloadTopic (closeAll s).dq) = _
  unfold persisted
  rw [List.map_map]
  refine List.map_congr_left fun T hT => ?_
  obtain ⟨hT, he⟩ := List.mem_filter.mp hT
  have hq := lookup_topic s T hT (by simpa using he) hwf
  have hc : ((T.chans.filter (fun C => !C.eph)).map (fun C => (C.name, C.paused))).map (reloadChan (closeAll s).dq T.name) =
      (T.chans.filter (fun C => !C.eph)).map reloadedChan := by
    rw [List.map_map]
    refine List.map_congr_left fun C hC => ?_
    obtain ⟨hC, hce⟩ := List.mem_filter.mp hC
    have := lookup_chan s T C hT hC (by simpa using hce) hwf
    simp only [Function.comp, reloadChan, reloadedChan, this]
  simp only [Function.comp, reloadTopic, reloadedTopic, hq, hc]

theorem cycle_wf (s : St) (hwf : WF s) : WF (cycle s) := by
  show WFt (cycle s).topics
  rw [cycle_topics s hwf]
  refine ⟨Keyed.nodup_map (fun _ => rfl) (Keyed.nodup_filter _ hwf.1), fun T' hT' => ?_⟩
  obtain ⟨T, hT, rfl⟩ := List.mem_map.1 hT'
  exact Keyed.nodup_map (fun _ => rfl) (Keyed.nodup_filter _ (hwf.2 T (List.mem_filter.1 hT).1))

theorem reloadedChan_idem (C : Chan) : reloadedChan (reloadedChan C) = reloadedChan C := by
  simp [reloadedChan, Chan.located]

theorem reloadedTopic_idem (T : Topic) : reloadedTopic (reloadedTopic T) = reloadedTopic T := by
  have : ((T.chans.filter (fun C => !C.eph)).map reloadedChan).filter (fun C => !C.eph) =
      (T.chans.filter (fun C => !C.eph)).map reloadedChan := filter_map_self _ _ _ (fun _ => rfl)
  simp only [reloadedTopic, this, List.map_map]
  congr 1
  exact List.map_congr_left fun C _ => reloadedChan_idem C

theorem cycle_cycle_topics (s : St) (hwf : WF s) : (cycle (cycle s)).topics = (cycle s).topics := by
  rw [cycle_topics _ (cycle_wf s hwf), cycle_topics s hwf,
    filter_map_self reloadedTopic (fun T => !T.eph) _ (fun _ => rfl), List.map_map]
  exact List.map_congr_left fun T _ => reloadedTopic_idem T

/-! ### the race model

Every transition of `raceStep` but the three stages of the shutdown takes one message out of one container (or
brings a new one) and puts it into others; `Row.src`, `Row.dsts`, `Row.guard` are the table of these moves and
`Trans` reads `raceStep` through it (`raceStep_trans`).  The invariants are proved by cases on `Trans`.  An
accounting fact — every message of a log (`acked`, `fanned`) is in a place that counts (`Covered`) — is kept by a
move as soon as its target counts whenever its source did (`keeps`, `covered_move`): for most rows the table says so
whatever the flags are (`rfl`), and the proofs name the rows that need a flag to have the value their guard or an
invariant gives it.  A fact "this place is empty" is kept by a move that does not target the place (`empty_move`).
Two accountings make up the claim: the topic side keeps what was acknowledged until it is handed to the channel
(`topW`, needs the barrier), the channel side keeps what it was handed (`chanW`, needs the exit lock). -/

/-- the containers of the race model; the last five are logs, which nothing leaves -/
inductive Place
  | putPending | topicMem | topicDisk | chanMem | chanDisk | inflight | deferred | pumpHolds | scanHolds | ansHolds
  | finished | lateTopic | lateReg | fanned | acked
deriving DecidableEq

def content (s : RaceSt) : Place → List Nat
  | .putPending => s.putPending | .topicMem => s.topicMem | .topicDisk => s.topicDisk | .chanMem => s.chanMem
  | .chanDisk => s.chanDisk | .inflight => s.inflight | .deferred => s.deferred | .pumpHolds => s.pumpHolds
  | .scanHolds => s.scanHolds | .ansHolds => s.ansHolds | .finished => s.finished | .lateTopic => s.lateTopic
  | .lateReg => s.lateReg | .fanned => s.fanned | .acked => s.acked

def rewrite (s : RaceSt) (f : Place → List Nat → List Nat) : RaceSt :=
  { s with
    putPending := f .putPending s.putPending, topicMem := f .topicMem s.topicMem, topicDisk := f .topicDisk s.topicDisk,
    chanMem := f .chanMem s.chanMem, chanDisk := f .chanDisk s.chanDisk, inflight := f .inflight s.inflight,
    deferred := f .deferred s.deferred, pumpHolds := f .pumpHolds s.pumpHolds, scanHolds := f .scanHolds s.scanHolds,
    ansHolds := f .ansHolds s.ansHolds, finished := f .finished s.finished, lateTopic := f .lateTopic s.lateTopic,
    lateReg := f .lateReg s.lateReg, fanned := f .fanned s.fanned, acked := f .acked s.acked }

theorem content_rewrite (s : RaceSt) (f : Place → List Nat → List Nat) (p : Place) :
    content (rewrite s f) p = f p (content s p) := by
  cases p <;> rfl

/-- the four queues are written at the back, the maps and logs at the front (so that a branch of `raceStep` builds
literally the state `rewrite` computes) -/
def Place.fifo : Place → Bool
  | .topicMem | .topicDisk | .chanMem | .chanDisk => true
  | _ => false

def mv (m : Nat) (src : Option Place) (dsts : List Place) (p : Place) (l : List Nat) : List Nat :=
  let l := if src = some p then l.erase m else l
  if dsts.contains p then (if p.fifo then l ++ [m] else m :: l) else l

theorem mem_erase_or {l : List Nat} {x m : Nat} (h : x ∈ l) : x = m ∨ x ∈ l.erase m :=
  Decidable.or_iff_not_imp_left.2 fun hx => (List.mem_erase_of_ne hx).2 h

section mv
variable {m : Nat} {src : Option Place} {dsts : List Place} {p : Place} {l : List Nat} {x : Nat}

theorem mem_mv_dst (hp : p ∈ dsts) : m ∈ mv m src dsts p l := by
  simp only [mv, List.contains_eq_mem, hp, decide_true, if_true]
  split <;> simp

theorem mem_mv_of_mem (hx : x ∈ l) : x ∈ mv m src dsts p l ∨ (src = some p ∧ x = m) := by
  have stays : ∀ {l' : List Nat}, x ∈ l' → x ∈ if dsts.contains p then (if p.fifo then l' ++ [m] else m :: l') else l' := by
    intro l' h
    split
    · split <;> simp [h]
    · exact h
  by_cases hs : src = some p
  · rcases mem_erase_or (m := m) hx with h | h
    · exact Or.inr ⟨hs, h⟩
    · exact Or.inl (by simp only [mv, hs, if_true]; exact stays h)
  · exact Or.inl (by simp only [mv, hs, if_false]; exact stays hx)

theorem mem_of_mem_mv (hx : x ∈ mv m src dsts p l) : x ∈ l ∨ (dsts.contains p = true ∧ x = m) := by
  have sub : ∀ y ∈ (if src = some p then l.erase m else l), y ∈ l := by
    intro y hy
    split at hy
    · exact List.mem_of_mem_erase hy
    · exact hy
  simp only [mv] at hx
  split at hx
  · rename_i hp
    split at hx
    · rcases List.mem_append.mp hx with h | h
      · exact Or.inl (sub x h)
      · exact Or.inr ⟨hp, List.mem_singleton.mp h⟩
    · rcases List.mem_cons.mp hx with h | h
      · exact Or.inr ⟨hp, h⟩
      · exact Or.inl (sub x h)
  · exact Or.inl (sub x hx)

end mv

def Covered (w : Place → Bool) (s : RaceSt) (x : Nat) : Prop := ∃ p, w p = true ∧ x ∈ content s p

theorem Covered.keep {w : Place → Bool} {s s' : RaceSt} {x : Nat} {p : Place} (hp : x ∈ content s p)
    (same : content s' p = content s p) (hw : w p = true) : Covered w s' x := ⟨p, hw, same ▸ hp⟩

/-- what a move owes to an accounting of the log `a` by `w`: a message it logs, or takes from a place that counts,
enters a place that counts -/
def keeps (a : Place) (w : Place → Bool) (src : Option Place) (dsts : List Place) : Bool :=
  !(dsts.contains a || src.any w) || dsts.any w

/-- What counts may depend on the flags (`topW s.topicClosed`): a move leaves them alone, so one `w` serves both states. -/
theorem covered_move {a : Place} {w : Place → Bool} {s : RaceSt} {m : Nat} {src : Option Place} {dsts : List Place}
    (goes : keeps a w src dsts = true) (h : ∀ x ∈ content s a, Covered w s x) :
    ∀ x ∈ content (rewrite s (mv m src dsts)) a, Covered w (rewrite s (mv m src dsts)) x := by
  have new : (dsts.contains a || src.any w) = true → Covered w (rewrite s (mv m src dsts)) m := fun hg => by
    rw [keeps, hg] at goes
    obtain ⟨d, hd, hw⟩ := List.any_eq_true.1 goes
    exact ⟨d, hw, by rw [content_rewrite]; exact mem_mv_dst hd⟩
  intro x hx
  rw [content_rewrite] at hx
  rcases mem_of_mem_mv hx with hx | ⟨ha, rfl⟩
  · obtain ⟨p, hw, hp⟩ := h x hx
    rcases mem_mv_of_mem (m := m) (src := src) (dsts := dsts) hp with h1 | ⟨hs, rfl⟩
    · exact ⟨p, hw, by rw [content_rewrite]; exact h1⟩
    · exact new (by rw [hs, Option.any_some, hw, Bool.or_true])
  · exact new (by rw [ha, Bool.true_or])

/-- the moves: one per branch of `raceStep` that carries a message -/
inductive Row
  | pubCheck | pubSendMem | pubSendClosed | pubSendDisk | pubNewTopic | fanoutMem | fanoutDisk | pumpRecv | pumpRecvDisk
  | pumpRegister | pumpRegisterLate | fin | ansTake | reqPutClosed | reqPutMem | reqPutDisk | reqDefer | touchPut
  | scanTake | scanTakeD | scanPutClosed | scanPutMem | scanPutDisk
deriving DecidableEq

/-- from where (none: the message is new) -/
def Row.src : Row → Option Place
  | .pubCheck | .pubNewTopic => none
  | .pubSendMem | .pubSendClosed | .pubSendDisk => some .putPending
  | .fanoutMem | .fanoutDisk => some .topicMem
  | .pumpRecv => some .chanMem
  | .pumpRecvDisk => some .chanDisk
  | .pumpRegister | .pumpRegisterLate => some .pumpHolds
  | .fin | .ansTake | .scanTake => some .inflight
  | .reqPutClosed | .reqPutMem | .reqPutDisk | .reqDefer | .touchPut => some .ansHolds
  | .scanTakeD => some .deferred
  | .scanPutClosed | .scanPutMem | .scanPutDisk => some .scanHolds

/-- to where (nowhere: the message is dropped) -/
def Row.dsts : Row → List Place
  | .pubCheck => [.putPending]
  | .pubSendMem => [.topicMem, .acked]
  | .pubSendDisk => [.topicDisk, .acked]
  | .pubNewTopic => [.lateTopic, .acked]
  | .fanoutMem => [.chanMem, .fanned]
  | .fanoutDisk => [.chanDisk, .fanned]
  | .pumpRecv | .pumpRecvDisk => [.pumpHolds]
  | .pumpRegister | .touchPut => [.inflight]
  | .pumpRegisterLate => [.lateReg, .inflight]
  | .fin => [.finished]
  | .ansTake => [.ansHolds]
  | .reqPutMem | .scanPutMem => [.chanMem]
  | .reqPutDisk | .scanPutDisk => [.chanDisk]
  | .reqDefer => [.deferred]
  | .scanTake | .scanTakeD => [.scanHolds]
  | .pubSendClosed | .reqPutClosed | .scanPutClosed => []

/-- under which condition (the choice between memory and disk queue is left open: nothing below depends on
`memCap`) -/
def Row.guard (s : RaceSt) : Row → Prop
  | .pubCheck | .fanoutMem | .fanoutDisk => s.topicExiting = false
  | .pubSendDisk => s.topicClosed = false
  | .pubNewTopic => s.topicExiting = true ∧ s.newTopicGuard = false
  | .pumpRecv => s.pumpJoin = true → s.topicExiting = false
  | .pumpRecvDisk => (s.pumpJoin = true → s.topicExiting = false) ∧ s.chanClosed = false
  | .pumpRegister | .reqPutMem | .reqPutDisk | .scanTake | .scanTakeD | .scanPutMem | .scanPutDisk => s.chanClosed = false
  | .pumpRegisterLate | .reqPutClosed | .scanPutClosed => s.chanClosed = true
  | _ => True

def Row.all : List Row :=
  [.pubCheck, .pubSendMem, .pubSendClosed, .pubSendDisk, .pubNewTopic, .fanoutMem, .fanoutDisk, .pumpRecv, .pumpRecvDisk,
   .pumpRegister, .pumpRegisterLate, .fin, .ansTake, .reqPutClosed, .reqPutMem, .reqPutDisk, .reqDefer, .touchPut,
   .scanTake, .scanTakeD, .scanPutClosed, .scanPutMem, .scanPutDisk]

theorem Row.mem_all (r : Row) : r ∈ Row.all := by cases r <;> decide

/-- the rows that write to `p`. For a literal `p` the filter computes: `r ∈ writers .scanHolds` is by definition
`r ∈ [.scanTake, .scanTakeD]`, and this is how the proofs below read it (`have h : r ∈ [...] := h`). -/
def writers (p : Place) : List Row := Row.all.filter (·.dsts.contains p)

theorem empty_move {s : RaceSt} {m : Nat} (p : Place) (r : Row) (h0 : content s p = []) :
    content (rewrite s (mv m r.src r.dsts)) p = [] ∨ r ∈ writers p := by
  cases hd : r.dsts.contains p
  · refine .inl ?_
    rw [content_rewrite, List.eq_nil_iff_forall_not_mem]
    intro x hx
    rcases mem_of_mem_mv hx with h | ⟨h, _⟩
    · rw [h0] at h; cases h
    · rw [hd] at h; cases h
  · exact .inr (List.mem_filter.2 ⟨r.mem_all, hd⟩)

def Row.has (s : RaceSt) (m : Nat) (r : Row) : Prop :=
  match r.src with
  | some p => m ∈ content s p
  | none => True

inductive Trans (s : RaceSt) : RaceSt → Prop
  /-- a publish that is answered "exiting" -/
  | refused : Trans s s
  | move (r : Row) (m : Nat) (hm : r.has s m) (g : r.guard s) : Trans s (rewrite s (mv m r.src r.dsts))
  | exitFlag (he : s.topicExiting = false) (hb : s.topicBarrier = true → s.putPending = [])
      (hj : s.pumpJoin = true → s.pumpHolds = []) : Trans s { s with topicExiting := true }
  | exitChan (hs : s.scanLock = true → s.scanHolds = []) (ha : s.ansLock = true → s.ansHolds = [])
      (he : s.topicExiting = true) (hc : s.chanClosed = false) :
      Trans s { s with chanDisk := s.chanDisk ++ s.chanMem ++ s.inflight ++ s.deferred, chanMem := [], chanClosed := true }
  | exitTopicFlush (hc : s.chanClosed = true) (ht : s.topicClosed = false) :
      Trans s { s with topicDisk := s.topicDisk ++ s.topicMem, topicMem := [], topicClosed := true }

theorem tail_eq_erase {l rest : List Nat} {m : Nat} (h : l = m :: rest) : rest = l.erase m := by
  rw [h, List.erase_cons_head]

theorem head_mem {l rest : List Nat} {m : Nat} (h : l = m :: rest) : m ∈ l := h ▸ List.mem_cons_self

/-- For a move the branch names its row; that the record the branch builds is what `rewrite` computes for that row is
checked by unfolding (a queue head `m :: rest` leaves `rest = (m :: rest).erase m`). -/
theorem raceStep_trans {s s' : RaceSt} {a : RaceStep} : raceStep s a = some s' → Trans s s' := by
  fun_cases raceStep s a <;> intro hs <;> cases hs
  case case1 | case8 => exact .refused
  case case2 m he => exact .move .pubCheck m trivial (Bool.eq_false_iff.2 he)
  case case3 m hm _ => exact .move .pubSendMem m hm trivial
  case case4 m hm _ _ => exact .move .pubSendClosed m hm trivial
  case case5 m hm _ ht => exact .move .pubSendDisk m hm (Bool.eq_false_iff.2 ht)
  case case9 m he hg => exact .move .pubNewTopic m trivial ⟨by simpa using he, Bool.eq_false_iff.2 hg⟩
  case case12 he m rest hq _ =>
    rw [tail_eq_erase hq]; exact .move .fanoutMem m (head_mem hq) (Bool.eq_false_iff.2 he)
  case case13 he m rest hq _ =>
    rw [tail_eq_erase hq]; exact .move .fanoutDisk m (head_mem hq) (Bool.eq_false_iff.2 he)
  case case16 hj m rest hq =>
    rw [tail_eq_erase hq]; exact .move .pumpRecv m (head_mem hq) (by simpa [Row.guard] using hj)
  case case20 hj hc m rest hq =>
    rw [tail_eq_erase hq]
    exact .move .pumpRecvDisk m (head_mem hq) ⟨by simpa using hj, Bool.eq_false_iff.2 hc⟩
  case case21 m hm =>
    split
    · exact .move .pumpRegisterLate m hm ‹_›
    · exact .move .pumpRegister m hm (Bool.eq_false_iff.2 ‹_›)
  case case23 m hm => exact .move .fin m hm trivial
  case case25 m hm => exact .move .ansTake m hm trivial
  case case27 m hm hc => exact .move .reqPutClosed m hm hc
  case case28 m hm hc _ => exact .move .reqPutMem m hm (Bool.eq_false_iff.2 hc)
  case case29 m hm hc _ => exact .move .reqPutDisk m hm (Bool.eq_false_iff.2 hc)
  case case31 m hm => exact .move .reqDefer m hm trivial
  case case33 m hm => exact .move .touchPut m hm trivial
  case case36 m hc hm => exact .move .scanTake m hm (Bool.eq_false_iff.2 hc)
  case case39 m hc hm => exact .move .scanTakeD m hm (Bool.eq_false_iff.2 hc)
  case case41 m hm hc => exact .move .scanPutClosed m hm hc
  case case42 m hm hc _ => exact .move .scanPutMem m hm (Bool.eq_false_iff.2 hc)
  case case43 m hm hc _ => exact .move .scanPutDisk m hm (Bool.eq_false_iff.2 hc)
  -- `exitFlag`, `exitChan`, `exitTopicFlush`: the guards are the conditions of the branch
  all_goals constructor <;> grind [Bool.not_eq_true']

theorem raceRun_induction {P : RaceSt → Prop} (step : ∀ s s', P s → Trans s s' → P s') :
    ∀ (sched : List RaceStep) (s s' : RaceSt), P s → raceRun s sched = some s' → P s' := by
  intro sched
  induction sched with
  | nil => intro s s' h hs; cases hs; exact h
  | cons a as ih =>
    intro s s' h hs
    simp only [raceRun] at hs
    split at hs
    · cases hs
    · rename_i s1 h1
      exact ih s1 s' (step s s1 h (raceStep_trans h1)) hs

structure SameParams (s s' : RaceSt) : Prop where
  scanLock : s'.scanLock = s.scanLock
  ansLock : s'.ansLock = s.ansLock
  pumpJoin : s'.pumpJoin = s.pumpJoin
  newTopicGuard : s'.newTopicGuard = s.newTopicGuard

theorem trans_params {s s' : RaceSt} (h : Trans s s') : SameParams s s' := by
  cases h <;> exact ⟨rfl, rfl, rfl, rfl⟩

def Located (s : RaceSt) (m : Nat) : Prop :=
  m ∈ s.topicMem ∨ m ∈ s.topicDisk ∨ m ∈ s.chanMem ∨ m ∈ s.chanDisk ∨ m ∈ s.inflight ∨ m ∈ s.deferred ∨
    m ∈ s.pumpHolds ∨ m ∈ s.scanHolds ∨ m ∈ s.ansHolds ∨ m ∈ s.finished ∨ m ∈ s.lateTopic

/-- invariant of every tree whose scans hold the exit lock (model parameter, tied to the tree) -/
def RaceInv (s : RaceSt) : Prop :=
  s.scanLock = true ∧ (s.chanClosed = false → ∀ m ∈ s.acked, Located s m) ∧ (s.chanClosed = true → s.scanHolds = [])

theorem raceInv_init (s0 : RaceSt) (h : s0.scanLock = true) (ha : s0.acked = []) (hs : s0.scanHolds = []) : RaceInv s0 := by
  refine ⟨h, ?_, fun _ => hs⟩
  intro _ m hm; rw [ha] at hm; cases hm

def locW : Place → Bool
  | .putPending | .lateReg | .fanned | .acked => false
  | _ => true

theorem located_iff {s : RaceSt} {x : Nat} : Located s x ↔ Covered locW s x := by
  constructor
  · intro h
    rcases h with h | h | h | h | h | h | h | h | h | h | h
    · exact ⟨.topicMem, rfl, h⟩
    · exact ⟨.topicDisk, rfl, h⟩
    · exact ⟨.chanMem, rfl, h⟩
    · exact ⟨.chanDisk, rfl, h⟩
    · exact ⟨.inflight, rfl, h⟩
    · exact ⟨.deferred, rfl, h⟩
    · exact ⟨.pumpHolds, rfl, h⟩
    · exact ⟨.scanHolds, rfl, h⟩
    · exact ⟨.ansHolds, rfl, h⟩
    · exact ⟨.finished, rfl, h⟩
    · exact ⟨.lateTopic, rfl, h⟩
  · intro ⟨p, hw, h⟩
    unfold Located
    cases p with
    | putPending | lateReg | fanned | acked => cases hw
    | _ => simp only [content] at h; simp only [h, true_or, or_true]

/-- On any tree: a move either drops its message, which needs the channel closed, or keeps it in the places `Located` counts. -/
theorem located_step {s s' : RaceSt} (h : Trans s s') (hL : s.chanClosed = false → ∀ m ∈ s.acked, Located s m) :
    s'.chanClosed = false → ∀ m ∈ s'.acked, Located s' m := by
  intro hc x hx
  cases h with
  | refused => exact hL hc x hx
  | move r m hm g =>
    refine located_iff.2 (covered_move (a := .acked) (w := locW) ?_ (fun x hx => located_iff.1 (hL hc x hx)) x hx)
    cases r with
    | reqPutClosed | scanPutClosed => cases g.symm.trans hc
    | _ => rfl
  | exitFlag => exact hL hc x hx
  | exitChan => cases hc
  | exitTopicFlush hc' => cases hc'.symm.trans hc

/-- With the exit lock held by the scans, `Channel.exit` runs only while no scan holds a message, and a scan
takes none from a closed channel. -/
theorem scanHolds_step {s s' : RaceSt} (h : Trans s s') (hlock : s.scanLock = true)
    (hS : s.chanClosed = true → s.scanHolds = []) : s'.chanClosed = true → s'.scanHolds = [] := by
  cases h with
  | move r m hm g =>
    intro hc
    refine (empty_move .scanHolds r (hS hc)).resolve_right fun h => ?_
    have h : r ∈ [Row.scanTake, .scanTakeD] := h
    simp only [List.mem_cons, List.not_mem_nil, or_false] at h
    rcases h with rfl | rfl <;> cases g.symm.trans hc
  | exitChan hs => exact fun _ => hs hlock
  | _ => exact hS

theorem raceInv_step (s s' : RaceSt) (h : RaceInv s) (hs : Trans s s') : RaceInv s' :=
  ⟨(trans_params hs).scanLock.trans h.1, located_step hs h.2.1, scanHolds_step hs h.1 h.2.2⟩

/-! #### the topic side: any tree with the barrier (F17), whatever the channel-side parameters -/

/-- the three stages of the shutdown happen in their order, and — the barrier — once the flag is set no publisher
is between test and write -/
structure Barrier (s : RaceSt) : Prop where
  bar : s.topicBarrier = true
  pend : s.topicExiting = true → s.putPending = []
  ce : s.chanClosed = true → s.topicExiting = true
  tc : s.topicClosed = true → s.chanClosed = true

theorem barrier_step (s s' : RaceSt) (h : Barrier s) (hs : Trans s s') : Barrier s' := by
  obtain ⟨bar, pend, ce, tc⟩ := h
  cases hs with
  | refused => exact ⟨bar, pend, ce, tc⟩
  | move r m hm g =>
    refine ⟨bar, fun he => (empty_move .putPending r (pend he)).resolve_right fun h => ?_, ce, tc⟩
    have h : r ∈ [Row.pubCheck] := h
    cases List.mem_singleton.1 h
    cases g.symm.trans he
  | exitFlag he hb => exact ⟨bar, fun _ => hb bar, fun _ => rfl, tc⟩
  | exitChan _ _ he => exact ⟨bar, pend, fun _ => he, fun _ => rfl⟩
  | exitTopicFlush hc => exact ⟨bar, pend, ce, fun _ => hc⟩

theorem Barrier.open_of_pending {s : RaceSt} (h : Barrier s) {m : Nat} (hm : m ∈ s.putPending) : s.topicClosed = false := by
  cases ht : s.topicClosed with
  | false => rfl
  | true => rw [h.pend (h.ce (h.tc ht))] at hm; cases hm

/-- the memory queue counts while the topic is still going to be flushed -/
def topW (topicClosed : Bool) : Place → Bool
  | .topicDisk | .fanned | .lateTopic => true
  | .topicMem => !topicClosed
  | _ => false

structure BarrierInv (s : RaceSt) : Prop extends Barrier s where
  safe : ∀ m ∈ s.acked, Covered (topW s.topicClosed) s m

theorem barrierInv_init {s : RaceSt} (hb : s.topicBarrier = true) (he : s.topicExiting = false)
    (hc : s.chanClosed = false) (ht : s.topicClosed = false) (ha : s.acked = []) : BarrierInv s where
  bar := hb
  pend := fun h => nomatch he.symm.trans h
  ce := fun h => nomatch hc.symm.trans h
  tc := fun h => nomatch ht.symm.trans h
  safe := fun m hm => nomatch ha ▸ hm

theorem BarrierInv.closed {s : RaceSt} (inv : BarrierInv s) (hd : s.topicClosed = true) :
    ∀ m ∈ s.acked, m ∈ s.topicDisk ∨ m ∈ s.fanned ∨ m ∈ s.lateTopic := by
  intro m hm
  obtain ⟨p, hw, hp⟩ := inv.safe m hm
  rw [hd] at hw
  cases p with
  | topicDisk => exact Or.inl hp
  | fanned => exact Or.inr (Or.inl hp)
  | lateTopic => exact Or.inr (Or.inr hp)
  | _ => cases hw

theorem barrierInv_step (s s' : RaceSt) (h : BarrierInv s) (hs : Trans s s') : BarrierInv s' := by
  refine ⟨barrier_step s s' h.toBarrier hs, ?_⟩
  have hS := h.safe
  cases hs with
  | refused => exact hS
  | move r m hm g =>
    refine covered_move (a := .acked) (w := topW s.topicClosed) ?_ hS
    cases r with
    -- a publisher writes to the memory queue of an open topic only
    | pubSendMem => rw [h.open_of_pending hm]; rfl
    | _ => cases s.topicClosed <;> rfl
  | exitFlag => exact hS
  | exitChan =>
    intro x hx
    obtain ⟨p, hw, hp⟩ := hS x hx
    cases p with
    | chanMem | chanDisk => cases hw
    | _ => exact .keep hp rfl hw
  | exitTopicFlush =>
    intro x hx
    obtain ⟨p, hw, hp⟩ := hS x hx
    cases p with
    | topicDisk => exact ⟨.topicDisk, rfl, List.mem_append_left _ hp⟩
    | topicMem => exact ⟨.topicDisk, rfl, List.mem_append_right _ hp⟩
    | _ => exact .keep hp rfl hw

/-! #### the channel side: any tree whose scans and answers hold the exit lock (F18), given the order of the stages -/

/-- a container of a closed channel does not count: it is not going to be flushed -/
def chanW (chanClosed : Bool) : Place → Bool
  | .chanDisk | .finished | .lateReg | .pumpHolds => true
  | .chanMem | .inflight | .deferred | .scanHolds | .ansHolds => !chanClosed
  | _ => false

/-- A place of the channel stops counting when the channel closes: `Channel.exit` flushes the queues at that moment and
finds `scanHolds` and `ansHolds` empty; what enters such a place later came from another one of them (or from a pump:
`lateReg`). -/
theorem chan_step {s s' : RaceSt} (hs : Trans s s') (scan : s.scanLock = true) (ans : s.ansLock = true)
    (ce : s.chanClosed = true → s.topicExiting = true) (hC : ∀ m ∈ s.fanned, Covered (chanW s.chanClosed) s m) :
    ∀ m ∈ s'.fanned, Covered (chanW s'.chanClosed) s' m := by
  cases hs with
  | refused => exact hC
  | move r m hm g =>
    refine covered_move (a := .fanned) (w := chanW s.chanClosed) ?_ hC
    cases r with
    -- the topic pump runs until `Topic.exit`, and the channel is closed after that
    | fanoutMem => rw [Bool.eq_false_iff.2 fun hc => nomatch (ce hc).symm.trans g]; rfl
    -- the guard says whether the channel is closed
    | pumpRegister | reqPutClosed | scanPutClosed => rw [show s.chanClosed = _ from g]; rfl
    | _ => cases s.chanClosed <;> rfl
  | exitFlag => exact hC
  | exitChan hsc han =>
    intro x hx
    obtain ⟨p, hw, hp⟩ := hC x hx
    have disk : ∀ {l : List Nat}, x ∈ l → l = s.chanDisk ∨ l = s.chanMem ∨ l = s.inflight ∨ l = s.deferred →
        Covered (chanW true) { s with chanDisk := s.chanDisk ++ s.chanMem ++ s.inflight ++ s.deferred, chanMem := [], chanClosed := true } x := by
      intro l hl h
      refine ⟨.chanDisk, rfl, ?_⟩
      show x ∈ s.chanDisk ++ s.chanMem ++ s.inflight ++ s.deferred
      simp only [List.mem_append]
      rcases h with rfl | rfl | rfl | rfl <;> simp [hl]
    cases p with
    | chanDisk => exact disk hp (Or.inl rfl)
    | chanMem => exact disk hp (Or.inr (Or.inl rfl))
    | inflight => exact disk hp (Or.inr (Or.inr (Or.inl rfl)))
    | deferred => exact disk hp (Or.inr (Or.inr (Or.inr rfl)))
    -- the exit lock: no scan and no answer holds a message
    | scanHolds => have hp : x ∈ s.scanHolds := hp; rw [hsc scan] at hp; cases hp
    | ansHolds => have hp : x ∈ s.ansHolds := hp; rw [han ans] at hp; cases hp
    | _ => exact .keep hp rfl hw
  | exitTopicFlush =>
    intro x hx
    obtain ⟨p, hw, hp⟩ := hC x hx
    cases p with
    | topicMem | topicDisk => cases hw
    | _ => exact .keep hp rfl hw

/-! #### the tree with both repairs (F17 topic-exit barrier, F18 answers hold the exit lock): the two sides together -/

structure FixedInv (s : RaceSt) : Prop extends BarrierInv s where
  scan : s.scanLock = true
  ans : s.ansLock = true
  chan : ∀ m ∈ s.fanned, Covered (chanW s.chanClosed) s m

theorem fixedInv_init : FixedInv fixedTree :=
  { barrierInv_init rfl rfl rfl rfl rfl with scan := rfl, ans := rfl, chan := fun _ hm => nomatch hm }

theorem fixedInv_step (s s' : RaceSt) (h : FixedInv s) (hs : Trans s s') : FixedInv s' :=
  { barrierInv_step s s' h.toBarrierInv hs with
    scan := (trans_params hs).scanLock.trans h.scan
    ans := (trans_params hs).ansLock.trans h.ans
    chan := chan_step hs h.scan h.ans h.ce h.chan }

theorem raceDone_iff (s : RaceSt) : raceDone s = true ↔
    s.topicClosed = true ∧ s.putPending = [] ∧ s.pumpHolds = [] ∧ s.scanHolds = [] ∧ s.ansHolds = [] := by
  simp only [raceDone, Bool.and_eq_true, List.isEmpty_iff, and_assoc]

theorem allAckedOnDisk_of {s : RaceSt} (h : ∀ m ∈ s.acked, m ∈ s.topicDisk ∨ m ∈ s.chanDisk ∨ m ∈ s.finished) :
    allAckedOnDisk s = true := by
  unfold allAckedOnDisk
  rw [List.all_eq_true]
  intro m hm
  simp only [Bool.or_eq_true, List.contains_eq_mem, decide_eq_true_eq]
  rcases h m hm with h1 | h1 | h1
  · exact Or.inl (Or.inl h1)
  · exact Or.inl (Or.inr h1)
  · exact Or.inr h1

/-- the two sides composed: an acknowledged message is in a place of the topic side that still counts, or was handed
to the channel and is in a place of the channel that still counts -/
theorem FixedInv.done {s : RaceSt} (inv : FixedInv s) (hd : raceDone s = true) :
    ∀ m ∈ s.acked, m ∈ s.topicDisk ∨ m ∈ s.chanDisk ∨ m ∈ s.finished ∨ m ∈ s.lateReg ∨ m ∈ s.lateTopic := by
  obtain ⟨htc, _, hph, _, _⟩ := (raceDone_iff s).1 hd
  intro m hm
  rcases inv.closed htc m hm with hp | hp | hp
  · exact Or.inl hp
  · obtain ⟨q, hw, hq⟩ := inv.chan m hp
    rw [inv.tc htc] at hw
    cases q with
    | chanDisk => exact Or.inr (Or.inl hq)
    | finished => exact Or.inr (Or.inr (Or.inl hq))
    | lateReg => exact Or.inr (Or.inr (Or.inr (Or.inl hq)))
    | pumpHolds => have hq : m ∈ s.pumpHolds := hq; rw [hph] at hq; cases hq
    | _ => cases hw
  · exact Or.inr (Or.inr (Or.inr (Or.inr hp)))

/-- … so nothing is lost where no pump registered a message late and no topic was created late -/
theorem FixedInv.lossless {s : RaceSt} (inv : FixedInv s) (hd : raceDone s = true) (hl : s.lateReg = [])
    (hlt : s.lateTopic = []) : allAckedOnDisk s = true :=
  allAckedOnDisk_of fun m hm => by simpa [hl, hlt] using inv.done hd m hm

/-! #### … and with fixes/F23, F26: Exit joins every connection handler and its pump before it closes the topics, and
`GetTopic` hands out a closed topic once Exit has begun (`newTopicGuard`) -/

structure JoinInv (s : RaceSt) : Prop extends FixedInv s where
  join : s.pumpJoin = true
  ph : s.topicExiting = true → s.pumpHolds = []
  late : s.lateReg = []
  guard : s.newTopicGuard = true
  lt : s.lateTopic = []

theorem joinInv_init : JoinInv joinedTree :=
  { barrierInv_init rfl rfl rfl rfl rfl with
    scan := rfl, ans := rfl, chan := fun _ hm => (nomatch hm), join := rfl, ph := fun _ => rfl, late := rfl,
    guard := rfl, lt := rfl }

theorem joinInv_step (s s' : RaceSt) (h : JoinInv s) (hs : Trans s s') : JoinInv s' := by
  have par := trans_params hs
  refine { fixedInv_step s s' h.toFixedInv hs with
           join := par.pumpJoin.trans h.join, guard := par.newTopicGuard.trans h.guard, ph := ?_, late := ?_, lt := ?_ }
  · cases hs with
    | move r m hm g =>
      intro he
      refine (empty_move .pumpHolds r (h.ph he)).resolve_right fun hw => ?_
      have hw : r ∈ [Row.pumpRecv, .pumpRecvDisk] := hw
      simp only [List.mem_cons, List.not_mem_nil, or_false] at hw
      rcases hw with rfl | rfl
      · cases (g h.join).symm.trans he
      · cases (g.1 h.join).symm.trans he
    | exitFlag he hb hj => exact fun _ => hj h.join
    | _ => exact h.ph
  · cases hs with
    | move r m hm g =>
      refine (empty_move .lateReg r h.late).resolve_right fun hw => ?_
      have hw : r ∈ [Row.pumpRegisterLate] := hw
      cases List.mem_singleton.1 hw
      -- the channel is closed, so the topics are being closed, so no pump holds `m`
      have hm : m ∈ s.pumpHolds := hm
      rw [h.ph (h.ce g)] at hm; cases hm
    | _ => exact h.late
  · cases hs with
    | move r m hm g =>
      refine (empty_move .lateTopic r h.lt).resolve_right fun hw => ?_
      have hw : r ∈ [Row.pubNewTopic] := hw
      cases List.mem_singleton.1 hw
      cases h.guard.symm.trans g.2
    | _ => exact h.lt

end Nsq.Proofs.Restart
