import Nsq.Model.Aggregate
/-!
One nsqd's `/stats` answer as GetNSQDStats reads it, as pure functions of the answer (`reportsOf` and its parts), and the
two leaves of GetNSQDStats that compute them on the guarded tree. (The namespace is that of `Proofs/AggregateViews`.)
-/
namespace Nsq.Proofs.AggregateViews
open Nsq.Model.Aggregate

def clientsPure (node : String) (cl : List (Option Client)) : List ClientV :=
  cl.filterMap (fun c => c.map (fun c => ⟨c.hostname, c.clientId, node⟩))

/-- One channel object of producer `p`'s answer: `memory_depth` / `delivery_msg_count` recomputed, nothing else touched. -/
def chanReport (p : Producer) (topic : String) (c : Chan) : ChanNode :=
  { node := p.addr, hostname := p.hostname, topic := topic, name := c.name, cnt := c.cnt.derive,
    paused := c.paused, clients := clientsPure p.addr c.clients, e2e := c.e2e, upNodes := [] }

def chanReports (p : Producer) (topic : String) (cs : List (Option Chan)) : List ChanNode :=
  cs.filterMap (fun c => c.map (chanReport p topic))

def topicReport (p : Producer) (t : Topic) : TopicNode :=
  { node := p.addr, hostname := p.hostname, name := t.name, cnt := t.cnt.derive, paused := t.paused,
    channels := chanReports p t.name t.channels, e2e := t.e2e }

/-- The topic objects of an answer that GetNSQDStats keeps. -/
def topicReports (p : Producer) (sel : String) : List (Option Topic) → List TopicNode
  | [] => []
  | none :: rest => topicReports p sel rest
  | some t :: rest =>
    if sel != "" && t.name != sel then topicReports p sel rest
    else topicReport p t :: topicReports p sel rest

theorem topicReports_eq (p : Producer) (sel : String) (ans : List (Option Topic)) :
    topicReports p sel ans =
      ((ans.filterMap id).filter (fun t => sel == "" || t.name == sel)).map (topicReport p) := by
  induction ans with
  | nil => rfl
  | cons t rest ih =>
    cases t with
    | none => simpa [topicReports] using ih
    | some t => cases h1 : sel == "" <;> cases h2 : t.name == sel <;> simp [topicReports, bne, h1, h2, ih]

/-- What producer `p` contributes to GetNSQDStats: nothing if its `/stats` request fails. -/
def reportsOf (w : World) (sel selc : String) (incl : Bool) (p : Producer) : List TopicNode :=
  match statsOf w p.addr sel (if sel == "" then "" else selc) incl with
  | none => []
  | some ans => topicReports p sel ans

variable {fx : Fixes}

theorem clientsOf_eq (hn : fx.nilElems = true) (node : String) (cl : List (Option Client)) :
    clientsOf fx node cl = .ok (clientsPure node cl) := by
  induction cl with
  | nil => rfl
  | cons c rest ih =>
    cases c with
    | none => simpa [clientsOf, clientsPure, hn] using ih
    | some c => simp [clientsOf, ih, clientsPure]

theorem chanNodeOf_eq (hn : fx.nilElems = true) (hc : fx.clearNodes = true) (p : Producer) (topic : String) (c : Chan) :
    chanNodeOf fx p topic c = .ok (chanReport p topic c) := by
  simp only [chanNodeOf, clientsOf_eq hn, hc]
  rfl

end Nsq.Proofs.AggregateViews
