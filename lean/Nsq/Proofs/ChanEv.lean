import Nsq.Model.ChanInv
/-! The history functions of `Nsq.Model.ChanInv` event by event: what one more event does to the status of an id and to
the counts (`*_cons`; an event that does not mention an id leaves it alone), and what an accepted event says of the ids
it mentions (`okEv_mem`). No invariant yet. -/
namespace Nsq.Proofs.Chan
open Nsq.Model.Chan

theorem evSt_of_not_mem {ev : Ev} {id : Nat} (h : id ∉ evIds ev) (s : St) : evSt ev id s = s := by
  -- the event names no id, one id, or the list of an `Empty`
  cases ev <;> simp only [evIds, List.mem_singleton, List.mem_nil_iff, not_false_eq_true] at h <;>
    first | rfl | exact if_neg (Ne.symm h) | exact if_neg (by simpa using h)

theorem nDeliver_cons_of_not_mem {ev : Ev} {id : Nat} (h : id ∉ evIds ev) (hs : List Ev) :
    nDeliver (ev :: hs) id = nDeliver hs id := by
  cases ev <;> try rfl
  simp only [evIds, List.mem_singleton] at h
  simp only [nDeliver, if_neg (Ne.symm h), Nat.add_zero]

theorem not_mem_evIds {ev : Ev} {x j : Nat} (hs : evIds ev = [x]) (hj : j ≠ x) : j ∉ evIds ev := by
  rw [hs]; exact fun h => hj (List.mem_singleton.1 h)

theorem status_cons (ev : Ev) (h : List Ev) (j : Nat) : status (ev :: h) j = evSt ev j (status h j) := rfl

theorem okHist_cons {ev : Ev} {h : List Ev} (hev : okEv h ev = true) (hh : okHist h = true) : okHist (ev :: h) = true := by
  simp only [okHist, hev, hh, Bool.and_self]

theorem nEv_cons (p : Ev → Bool) (ev : Ev) (h : List Ev) : nEv p (ev :: h) = nEv p h + (if p ev = true then 1 else 0) :=
  List.countP_cons

theorem nGone_cons (ev : Ev) (h : List Ev) :
    nGone (ev :: h) = nGone h + (match ev with
      | .finOk .. => 1 | .emptied ids => ids.length | .sampledOut .. => 1 | .ephDrop .. => 1 | _ => 0) := by
  unfold nGone
  rw [nEv_cons, nEv_cons, nEv_cons]
  cases ev <;> simp only [nEmptied, isFin, isSampled, isEphDrop, Bool.false_eq_true, ↓reduceIte, Nat.add_zero] <;> omega

theorem nFanout_cons (ev : Ev) (h : List Ev) (id : Nat) :
    nFanout (ev :: h) id = nFanout h id + (match ev with | .fanout i _ => if i = id then 1 else 0 | _ => 0) := by
  unfold nFanout
  rw [List.countP_cons]
  cases ev <;> first | rfl | simp only [beq_iff_eq]

theorem okEv_mem {rest : List Ev} {ev : Ev} {id : Nat} (hok : okEv rest ev = true) (hm : id ∈ evIds ev) :
    (∃ d, ev = .fanout id d ∧ status rest id = .none) ∨ (status rest id).located = true := by
  cases ev <;> simp only [evIds, List.mem_singleton, List.mem_nil_iff] at hm <;>
    simp only [okEv, beq_iff_eq, Bool.and_eq_true, List.all_eq_true] at hok
  case fanout i d => subst hm; exact .inl ⟨d, rfl, hok⟩
  case emptied ids => exact .inr (hok id hm)
  case deliver k i a => subst hm; rw [hok.1]; exact .inr rfl
  all_goals (subst hm; rw [hok]; exact .inr rfl)

theorem status_none_of_nFanout_zero {h : List Ev} (hok : okHist h = true) {id : Nat}
    (hz : nFanout h id = 0) : status h id = .none := by
  induction h with
  | nil => rfl
  | cons ev h ih =>
    simp only [okHist, Bool.and_eq_true] at hok
    rw [nFanout_cons] at hz
    have ih' := ih hok.2 (by omega)
    rw [status_cons, ih']
    by_cases hm : id ∈ evIds ev
    · rcases okEv_mem hok.1 hm with ⟨d, rfl, _⟩ | hl
      · simp at hz
      · rw [ih'] at hl; cases hl
    · exact evSt_of_not_mem hm _

theorem evSt_none {ev : Ev} {id : Nat} {s : St} (h : evSt ev id s = .none) : s = .none := by
  by_cases hm : id ∈ evIds ev
  · cases ev <;> simp_all [evSt, evIds] <;> split at h <;> cases h
  · exact evSt_of_not_mem hm s ▸ h

theorem nDeliver_zero_of_status_none {h : List Ev} {id : Nat} (hs : status h id = .none) :
    nDeliver h id = 0 := by
  induction h with
  | nil => rfl
  | cons ev h ih =>
    rw [status_cons] at hs
    have ih' := ih (evSt_none hs)
    cases ev with
    | deliver k i a =>
      by_cases hi : i = id
      · simp only [evSt, hi, if_true] at hs; cases hs
      · simp only [nDeliver, ih', hi, if_false]
    | _ => exact ih'

theorem outstanding_fanout (x : Nat) (d : Bool) (h : List Ev) (k : Nat) :
    outstanding (.fanout x d :: h) k = outstanding h k := rfl

end Nsq.Proofs.Chan
