import Nsq.Model.WireStack
import Nsq.Proofs.WireStream
/-! C07 / C11: facts about `Nsq.Model.WireStack` — which transport every output byte goes to. `fun_cases tstep` /
`fun_cases kstep` number the branches in the order of the definitions. -/
namespace Nsq.Proofs.WireStack
open Nsq.Model.Wire Nsq.Model.WireStack Nsq.Proofs.Wire

/-- kept by `tstep` in both trees: the stream is the frames sent, and before SUB nothing is buffered (so an upgrade,
accepted only then, replaces an empty writer) -/
def StreamInv (c : TConn) : Prop :=
  c.stream = (c.sent.map encodeFrame).flatten ∧ (c.subscribed = false → c.w.buf = [])

theorem _root_.Nsq.Model.WireStack.TConn.stream_eq (c : TConn) : c.stream = (c.closed.map (·.data)).flatten ++ c.w.sink ++ c.w.buf := by
  simp [TConn.stream, TConn.segs]

theorem streamInv_tconn0 (cap : Nat) : StreamInv (tconn0 cap) := by
  simp [StreamInv, tconn0, TConn.stream_eq]

/-- a writer is replaced only when its buffer is empty (before SUB) or right after a flush -/
theorem streamInv_step (fixed : Bool) (c : TConn) (op : ConnOp) (h : StreamInv c) :
    StreamInv (tstep fixed c op) := by
  obtain ⟨hs, hb⟩ := h
  rw [TConn.stream_eq] at hs
  have hw := fun f => (writeFrame_wrote c.w f).stream
  unfold StreamInv
  rw [TConn.stream_eq]
  fun_cases tstep fixed c op
  case case1 f =>   -- sendResponse
    exact ⟨by simp [bufFlush, ← hs, List.append_assoc, ← hw f], fun _ => rfl⟩
  case case2 f hsub =>   -- sendMessage to a subscribed client
    exact ⟨by simp [← hs, List.append_assoc, ← hw f], fun h' => by simp [hsub] at h'⟩
  case case4 => exact ⟨by simp [bufFlush, ← hs], fun _ => rfl⟩   -- flush
  case case6 | case7 => exact ⟨by simp [bufFlush, ← hs], fun _ => rfl⟩   -- setOutputBuffer, either tree
  case case9 size hsub =>   -- upgrade: the buffer is empty before SUB
    exact ⟨by simp [← hs, hb (by simpa using hsub)], fun _ => rfl⟩
  case case10 => exact ⟨hs, nofun⟩   -- subscribe
  all_goals exact ⟨hs, hb⟩

theorem streamInv_run (fixed : Bool) (c : TConn) (ops : List ConnOp) (h : StreamInv c) :
    StreamInv (trun fixed c ops) :=
  List.foldlRecOn ops _ h fun c hc op _ => streamInv_step fixed c op hc

theorem tstream (fixed : Bool) (cap : Nat) (ops : List ConnOp) :
    (trun fixed (tconn0 cap) ops).stream = (((trun fixed (tconn0 cap) ops).sent).map encodeFrame).flatten :=
  (streamInv_run fixed _ ops (streamInv_tconn0 cap)).1

/-- the current writer is on the transport the client decodes with, and so was that of every finished segment -/
def Good (c : TConn) : Prop := c.dest = c.top ∧ ∀ s ∈ c.closed, s.dest = s.want

theorem good_tconn0 (cap : Nat) : Good (tconn0 cap) := by simp [Good, tconn0]

theorem good_closed_snoc (c : TConn) (h : Good c) (d : Bytes) :
    ∀ s ∈ c.closed ++ [⟨c.dest, c.top, d⟩], s.dest = s.want := by
  intro s hs
  simp only [List.mem_append, List.mem_singleton] at hs
  rcases hs with hs | hs
  · exact h.2 s hs
  · subst hs; exact h.1

theorem tstep_top_other (fixed : Bool) (c : TConn) (op : ConnOp) (hup : ∀ n, op ≠ .upgrade n) :
    (tstep fixed c op).top = c.top := by
  fun_cases tstep fixed c op
  case case9 size _ => exact absurd rfl (hup size)   -- the accepted upgrade
  all_goals rfl

/-- `hop` excludes a `SetOutputBuffer` of the unfixed tree after something has been negotiated (case 7 of `tstep`: the
new writer goes onto the raw connection). -/
theorem good_step (fixed : Bool) (c : TConn) (op : ConnOp) (h : Good c)
    (hop : fixed = true ∨ c.top = 0 ∨ ∀ n, op ≠ .setOutputBuffer n) : Good (tstep fixed c op) := by
  fun_cases tstep fixed c op
  case case7 size _ hd =>
    rcases hop with rfl | h0 | hop
    · exact absurd rfl hd
    · exact absurd (by simp [h.1, h0]) hd
    · exact absurd rfl (hop size)
  case case9 => exact ⟨rfl, good_closed_snoc c h _⟩
  all_goals exact h

theorem good_run (fixed : Bool) (c : TConn) (ops : List ConnOp) (h : Good c)
    (hops : fixed = true ∨ ∀ n, .setOutputBuffer n ∉ ops) : Good (trun fixed c ops) :=
  List.foldlRecOn ops _ h fun c hc op hm =>
    good_step fixed c op hc (hops.imp_right fun ha => .inr fun n e => ha n (e ▸ hm))

/-- until the first upgrade `top = 0`, so a re-buffer stays on transport 0; from the first upgrade on the hypothesis leaves no
re-buffer and `good_run` takes over -/
theorem good_run_unfixed (c : TConn) (ops : List ConnOp) (h : Good c) (h0 : c.top = 0)
    (hops : NoRebufferAfterUpgrade ops = true) : Good (trun false c ops) := by
  induction ops generalizing c with
  | nil => exact h
  | cons op ops ih =>
    cases op with
    | upgrade size =>
      refine good_run false c (.upgrade size :: ops) h (.inr fun n hm => ?_)
      rcases List.mem_cons.mp hm with e | hm
      · cases e
      · exact Bool.false_ne_true (List.all_eq_true.mp hops _ hm)
    | _ =>
      exact ih _ (good_step false c _ h (.inr (.inl h0)))
        ((tstep_top_other false c _ (by intro n e; cases e)).trans h0) hops

theorem good_segs (c : TConn) (h : Good c) : ∀ s ∈ c.segs, s.dest = s.want :=
  good_closed_snoc c h _

theorem good_leaked (c : TConn) (h : Good c) : c.leaked = [] := by
  have : c.segs.filter (fun s => s.dest = 0 && s.want != 0) = [] := by
    apply List.filter_eq_nil_iff.mpr
    intro s hs
    have := good_segs c h s hs
    simp [this]
  simp [TConn.leaked, this]

theorem good_seen (c : TConn) (h : Good c) : c.seen = (c.segs.map (·.data)).flatten := by
  have : c.segs.filter (fun s => s.dest = s.want) = c.segs := by
    apply List.filter_eq_self.mpr
    intro s hs
    simpa using good_segs c h s hs
  simp [TConn.seen, this]

theorem good_spec (c : TConn) (g : Good c) (h : StreamInv c) :
    c.OnNegotiated ∧ c.leaked = [] ∧ c.seen ++ c.w.buf = (c.sent.map encodeFrame).flatten :=
  ⟨fun s hs _ => good_segs c g s hs, good_leaked c g, by rw [good_seen c g]; exact h.1⟩

/-! ### the fixed tree IS the connection model `Model.Wire.Conn` -/

theorem forget_step (c : TConn) (op : ConnOp) : (tstep true c op).forget = connStep c.forget op := by
  cases op with
  | sendMessage _ | setOutputBuffer _ | upgrade _ =>   -- the three that test `subscribed`
    by_cases hs : c.subscribed = true <;> simp [tstep, connStep, TConn.forget, hs]
  | _ => rfl

theorem forget_run (c : TConn) (ops : List ConnOp) : (trun true c ops).forget = connRun c.forget ops :=
  (List.foldl_hom TConn.forget fun c op => (forget_step c op).symm).symm

theorem forget_stream (c : TConn) : c.forget.stream = c.stream := by
  simp [Conn.stream, TConn.forget, TConn.stream_eq]

/-! ### upgrade kinds and `c.flateWriter`: the kinded model runs the tagged model underneath (`krun_t`) -/

theorem kstep_t (tr : Tree) (c : KConn) (op : KOp) : (kstep tr c op).t = tstep tr.rebufferKeeps c.t op.forget := by
  cases op with
  | upgrade k n => cases k <;> by_cases hs : c.t.subscribed = true <;> simp [kstep, KOp.forget, tstep, hs]
  | _ => rfl

theorem krun_t (tr : Tree) (c : KConn) (ops : List KOp) :
    (krun tr c ops).t = trun tr.rebufferKeeps c.t (ops.map KOp.forget) := by
  rw [trun, List.foldl_map]
  exact (List.foldl_hom (·.t) (g₂ := fun t op => tstep tr.rebufferKeeps t op.forget)
    fun c op => (kstep_t tr c op).symm).symm

theorem tstep_top_upgrade (fixed : Bool) (c : TConn) (n : Nat) (hs : c.subscribed = false) :
    (tstep fixed c (.upgrade n)).top = c.top + 1 := by simp [tstep, hs]

/-- `(layer, fw)` after an accepted upgrade: a TLS session becomes the layer that later upgrades wrap; deflate records
its writer with the stack it belongs to (`top + 1`) and the layer it writes to -/
def upgraded (tr : Tree) (c : KConn) : UKind → Nat × Option FlateW
  | .tls => (c.t.top + 1, if tr.tlsClears then none else c.fw)
  | .snappy => (c.layer, if tr.snappyClears then none else c.fw)
  | .deflate => (c.layer, some ⟨c.t.top + 1, c.layer⟩)

/-- `kstep` taken apart once: either `top`, `layer`, `fw`, `kinds` are unchanged and at most the marker `c.mark t'` of a
`t'` with the same `top` is appended, or the action is an accepted upgrade, described by `upgraded` -/
theorem kstep_cases (tr : Tree) (c : KConn) (op : KOp) :
    ((kstep tr c op).t.top = c.t.top ∧ (kstep tr c op).layer = c.layer ∧ (kstep tr c op).fw = c.fw ∧
      (kstep tr c op).kinds = c.kinds ∧
      ((kstep tr c op).stray = c.stray ∨ ∃ t', t'.top = c.t.top ∧ (kstep tr c op).stray = c.stray ++ c.mark t')) ∨
    (∃ k n, op = .upgrade k n ∧ (kstep tr c op).t.top = c.t.top + 1 ∧ (kstep tr c op).kinds = c.kinds ++ [k] ∧
      (kstep tr c op).stray = c.stray ∧ (kstep tr c op).layer = (upgraded tr c k).1 ∧
      (kstep tr c op).fw = (upgraded tr c k).2) := by
  fun_cases kstep tr c op
  -- `sendResponse`, `flush`: the marker of a flate writer is added
  case case1 f => exact .inl ⟨rfl, rfl, rfl, rfl, .inr ⟨tstep tr.rebufferKeeps c.t (.sendResponse f), rfl, rfl⟩⟩
  case case3 => exact .inl ⟨rfl, rfl, rfl, rfl, .inr ⟨tstep tr.rebufferKeeps c.t .flush, rfl, rfl⟩⟩
  -- accepted upgrades: TLS, snappy, deflate
  case case6 n hs | case8 n hs | case10 n hs =>
    exact .inr ⟨_, n, rfl, tstep_top_upgrade tr.rebufferKeeps c.t n (by simpa using hs), rfl, rfl, rfl, rfl⟩
  -- an upgrade on a subscribed connection is refused
  case case5 | case7 | case9 => exact .inl ⟨rfl, rfl, rfl, rfl, .inl rfl⟩
  all_goals exact .inl ⟨tstep_top_other _ _ _ (by intro n e; cases e), rfl, rfl, rfl, .inl rfl⟩

/-- a flate writer, if there is one, belongs to the stack the client decodes (it is not stale), and no stray marker was written -/
def Clean (c : KConn) : Prop := (∀ w, c.fw = some w → w.stack = c.t.top) ∧ c.stray = []

theorem clean_kconn0 (cap : Nat) : Clean (kconn0 cap) := by simp [Clean, kconn0]

theorem clean_mark (c : KConn) (t' : TConn) (h : Clean c) (ht : t'.top = c.t.top) : c.mark t' = [] := by
  unfold KConn.mark
  cases hf : c.fw with
  | none => rfl
  | some w => simp [h.1 w hf, ht]

/-- a tree in which snappy drops `c.flateWriter` (F30) never has a stale one, as long as no TLS upgrade meets a flate
writer: TLS drops it too (F30b), the action is no TLS upgrade, or there is none -/
theorem clean_step (tr : Tree) (hs : tr.snappyClears = true) (c : KConn) (op : KOp) (h : Clean c)
    (ht : tr.tlsClears = true ∨ op.isTls = false ∨ c.fw = none) : Clean (kstep tr c op) := by
  rcases kstep_cases tr c op with ⟨htop, _, hf, _, hst⟩ | ⟨k, n, rfl, htop, _, hst, _, hfw⟩
  · refine ⟨by rw [hf, htop]; exact h.1, ?_⟩
    rcases hst with e | ⟨t', htt, e⟩
    · exact e.trans h.2
    · rw [e, clean_mark c t' h htt, h.2]; rfl
  · refine ⟨fun w hw => ?_, hst.trans h.2⟩
    rw [hfw] at hw
    rw [htop]
    cases k with
    | tls =>
      rcases ht with ht | ht | ht
      · simp [upgraded, ht] at hw
      · cases ht
      · simp [upgraded, ht] at hw
    | snappy => simp [upgraded, hs] at hw
    | deflate => cases hw; rfl

theorem clean_run (tr : Tree) (hs : tr.snappyClears = true) (c : KConn) (ops : List KOp) (h : Clean c)
    (ht : tr.tlsClears = true ∨ ops.all (fun o => !o.isTls) = true) : Clean (krun tr c ops) :=
  List.foldlRecOn ops _ h fun c hc op hm =>
    clean_step tr hs c op hc (ht.imp_right fun ha => .inl (by simpa using List.all_eq_true.mp ha op hm))

/-- in EVERY tree: a flate writer writes to a layer below its own stack, which is at most the client's; so a stray
marker never lands on the transport the client decodes with. (`c.layer ≤ c.t.top` is there for the deflate upgrade:
its writer `⟨top + 1, layer⟩` then has `layer < stack`.) -/
def Layered (c : KConn) : Prop :=
  (∀ w, c.fw = some w → w.layer < w.stack ∧ w.stack ≤ c.t.top) ∧ c.layer ≤ c.t.top ∧ ∀ s ∈ c.stray, s.dest < s.want

theorem layered_kconn0 (cap : Nat) : Layered (kconn0 cap) := by simp [Layered, kconn0, tconn0]

theorem layered_mark (c : KConn) (t' : TConn) (h : Layered c) (ht : t'.top = c.t.top) :
    ∀ s ∈ c.stray ++ c.mark t', s.dest < s.want := by
  intro s hs
  rw [List.mem_append] at hs
  rcases hs with hs | hs
  · exact h.2.2 s hs
  · unfold KConn.mark at hs
    cases hf : c.fw with
    | none => simp [hf] at hs
    | some w =>
      have := h.1 w hf
      by_cases hw : w.stack = t'.top
      · simp [hf, hw] at hs
      · simp only [hf, hw, if_false, List.mem_singleton] at hs
        subst hs
        show w.layer < t'.top
        omega

theorem layered_step (tr : Tree) (c : KConn) (op : KOp) (h : Layered c) : Layered (kstep tr c op) := by
  rcases kstep_cases tr c op with ⟨htop, hl, hf, _, hst⟩ | ⟨k, _, _, htop, _, hst, hly, hfw⟩
  · refine ⟨by rw [hf, htop]; exact h.1, by rw [hl, htop]; exact h.2.1, ?_⟩
    rcases hst with e | ⟨t', htt, e⟩ <;> rw [e]
    · exact h.2.2
    · exact layered_mark c t' h htt
  · obtain ⟨h1, h2, h3⟩ := h
    -- TLS and snappy drop the flate writer or keep it, with one more stack above it
    have keep : ∀ (b : Bool) w, (if b then none else c.fw) = some w → w.layer < w.stack ∧ w.stack ≤ c.t.top + 1 := by
      intro b w hw
      split at hw
      · cases hw
      · exact ⟨(h1 w hw).1, Nat.le_succ_of_le (h1 w hw).2⟩
    rw [Layered, htop, hst, hly, hfw]
    cases k with
    | tls => exact ⟨keep _, Nat.le_refl _, h3⟩
    | snappy => exact ⟨keep _, Nat.le_succ_of_le h2, h3⟩
    | deflate =>
      refine ⟨fun w hw => ?_, Nat.le_succ_of_le h2, h3⟩
      cases hw
      exact ⟨Nat.lt_succ_of_le h2, Nat.le_refl _⟩

theorem layered_run (tr : Tree) (c : KConn) (ops : List KOp) (h : Layered c) : Layered (krun tr c ops) :=
  List.foldlRecOn ops _ h fun c hc op _ => layered_step tr c op hc

theorem kOnNegotiated_iff (c : KConn) (h : Layered c) : c.OnNegotiated ↔ c.t.OnNegotiated ∧ c.stray = [] := by
  constructor
  · intro ⟨h1, h2⟩
    refine ⟨h1, ?_⟩
    cases hs : c.stray with
    | nil => rfl
    | cons s rest =>
      have a := h2 s (by simp [hs])
      have b := h.2.2 s (by simp [hs])
      omega
  · intro ⟨h1, h2⟩
    exact ⟨h1, by simp [h2]⟩

/-- the d6aa4e3 tree's `c.flateWriter` and upgrade count are a function of the upgrade kinds -/
def FwTracks (c : KConn) : Prop := (c.fw.map (·.stack), c.t.top) = fwAfter c.kinds

theorem fwAfter_snoc (ks : List UKind) (k : UKind) : fwAfter (ks ++ [k]) = fwStep (fwAfter ks) k := by
  simp [fwAfter, List.foldl_append]

theorem fwTracks_step (c : KConn) (op : KOp) (h : FwTracks c) : FwTracks (kstep treeF30 c op) := by
  unfold FwTracks at h ⊢
  rcases kstep_cases treeF30 c op with ⟨htop, _, hf, hk, _⟩ | ⟨k, _, _, htop, hk, _, _, hfw⟩
  · rw [hf, htop, hk]; exact h
  · rw [hk, fwAfter_snoc, ← h, htop, hfw]
    cases k <;> rfl

theorem fwTracks_run (c : KConn) (ops : List KOp) (h : FwTracks c) : FwTracks (krun treeF30 c ops) :=
  List.foldlRecOn ops _ h fun c hc op _ => fwTracks_step c op hc

theorem stale_iff_of_tracks (c : KConn) (h : FwTracks c) : c.Stale ↔ staleAfter c.kinds = true := by
  unfold FwTracks at h
  unfold staleAfter KConn.Stale
  rw [← h]
  cases hf : c.fw with
  | none => simp
  | some w => simp

theorem foldl_fwStep_snd (ks : List UKind) (acc : Option Nat × Nat) :
    (ks.foldl fwStep acc).2 = acc.2 + ks.length := by
  induction ks generalizing acc with
  | nil => rfl
  | cons k ks ih => rw [List.foldl_cons, ih]; cases k <;> simp [fwStep] <;> omega

theorem fwAfter_snd (ks : List UKind) : (fwAfter ks).2 = ks.length := by
  simp [fwAfter, foldl_fwStep_snd]

theorem fwAfter_tls (ks : List UKind) (n : Nat) :
    fwAfter (ks ++ List.replicate n .tls) = ((fwAfter ks).1, ks.length + n) := by
  induction n with
  | zero => simp [← fwAfter_snd ks]
  | succ n ih =>
    rw [List.replicate_succ', ← List.append_assoc, fwAfter_snoc, ih]
    simp [fwStep]; omega

theorem staleAfter_only_tls (n : Nat) : staleAfter (List.replicate n .tls) = false := by
  unfold staleAfter
  rw [show List.replicate n UKind.tls = [] ++ List.replicate n UKind.tls from rfl, fwAfter_tls]
  simp [fwAfter]

theorem staleAfter_snappy (ks : List UKind) (n : Nat) :
    staleAfter (ks ++ [.snappy] ++ List.replicate n .tls) = false := by
  unfold staleAfter
  rw [fwAfter_tls, fwAfter_snoc]
  simp [fwStep]

theorem staleAfter_deflate_last (ks : List UKind) : staleAfter (ks ++ [.deflate]) = false := by
  simp [staleAfter, fwAfter_snoc, fwStep, fwAfter_snd]

/-- `c.flateWriter` is still the deflate writer of upgrade `|ks| + 1` -/
theorem staleAfter_deflate_tls (ks : List UKind) (n : Nat) :
    staleAfter (ks ++ [.deflate] ++ List.replicate (n + 1) .tls) = true := by
  unfold staleAfter
  rw [fwAfter_tls, fwAfter_snoc]
  simp [fwStep, fwAfter_snd]

theorem kstep_fw_none (tr : Tree) (c : KConn) (op : KOp) (h : c.fw = none) (hd : ∀ n, op ≠ .upgrade .deflate n) :
    (kstep tr c op).fw = none := by
  rcases kstep_cases tr c op with ⟨_, _, hf, _⟩ | ⟨k, n, rfl, _, _, _, _, hfw⟩
  · exact hf.trans h
  · rw [hfw]
    cases k with
    | deflate => exact absurd rfl (hd n)
    | _ => simp [upgraded, h]

/-- until the first deflate upgrade there is no flate writer; after it no TLS upgrade follows -/
theorem clean_run_noTls (tr : Tree) (hs : tr.snappyClears = true) (c : KConn) (ops : List KOp) (h : Clean c)
    (hf : c.fw = none) (hops : NoTlsAfterDeflate ops = true) : Clean (krun tr c ops) := by
  induction ops generalizing c with
  | nil => exact h
  | cons op ops ih =>
    by_cases hd : ∃ n, op = .upgrade .deflate n
    · obtain ⟨n, rfl⟩ := hd
      exact clean_run tr hs c _ h (.inr (List.all_cons.trans ((Bool.and_eq_true _ _).mpr ⟨rfl, hops⟩)))
    · have hd' : ∀ n, op ≠ .upgrade .deflate n := fun n e => hd ⟨n, e⟩
      have h' : NoTlsAfterDeflate ops = true := by
        cases op with
        | upgrade k n => cases k with
          | deflate => exact absurd rfl (hd' n)
          | _ => exact hops
        | _ => exact hops
      exact ih _ (clean_step tr hs c op h (.inr (.inr hf))) (kstep_fw_none tr c op hf hd') h'

theorem clean_spec (c : KConn) (hc : Clean c) (g : Good c.t) (h : StreamInv c.t) :
    c.OnNegotiated ∧ ¬ c.Stale ∧ c.stray = [] ∧ c.t.leaked = [] ∧
      c.seen ++ c.t.w.buf = (c.t.sent.map encodeFrame).flatten := by
  obtain ⟨h1, h2, h3⟩ := good_spec c.t g h
  refine ⟨⟨h1, by simp [hc.2]⟩, fun ⟨w, hw, hn⟩ => hn (hc.1 w hw), hc.2, h2, ?_⟩
  simp only [KConn.seen, hc.2]; exact h3

end Nsq.Proofs.WireStack
