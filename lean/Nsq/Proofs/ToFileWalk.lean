import Nsq.Model.ToFile
/-!
What the building blocks of the `ToFile` router model do, whatever is to be proved of them; `Nsq.Proofs.ToFileActs` reads the
effects of the router off them. At the end: a run is a fold of `step` (`run_preserves`, `run_append`), a stopped tool stays as
it is, and the tool step is the router step while go-nsq does not give up (`toolStep_eq_step`).
-/
namespace Nsq.Proofs.ToFile
open Nsq.Model.ToFile

/-- `l` lies inside the fsynced prefix of `data` -/
def Dur (f : File) (l : Bytes) : Prop := ∃ a b, f.data = a ++ l ++ b ∧ (a ++ l).length ≤ f.durable

/-- `l` has been handed to `write` on `f` (gzip: it may still sit in the open member) -/
def Wr (gz : Bool) (f : File) (l : Bytes) : Prop :=
  if gz then ∃ a b, f.data ++ f.tail = a ++ l ++ b else ∃ a b, f.data = a ++ l ++ b

/-- `g` is `f` grown: more bytes behind the same ones, no less of them fsynced (what `Dur` is monotone along) -/
def FileLe (f g : File) : Prop := (∃ x, g.data = f.data ++ x) ∧ f.durable ≤ g.durable

theorem Dur_mono {f g : File} {l : Bytes} (h : FileLe f g) (hd : Dur f l) : Dur g l := by
  obtain ⟨⟨x, hx⟩, hle⟩ := h
  obtain ⟨a, b, hab, hlen⟩ := hd
  exact ⟨a, b ++ x, by rw [hx, hab]; simp, by omega⟩

end Nsq.Proofs.ToFile

namespace Nsq.Proofs.ToFileLines
open Nsq.Model.ToFile

def wv (gz : Bool) (f : File) : Bytes := if gz then f.content else f.data

end Nsq.Proofs.ToFileLines

namespace Nsq.Proofs.ToFile
open Nsq.Model.ToFile Nsq.Proofs.ToFileLines

theorem wv_le_content (gz : Bool) (f : File) : (wv gz f).length ≤ f.content.length := by
  unfold wv File.content; cases gz <;> simp

theorem Wr_iff (gz : Bool) (f : File) (l : Bytes) : Wr gz f l ↔ ∃ a b, wv gz f = a ++ l ++ b := by
  cases gz <;> exact Iff.rfl

theorem Wr_of_wv {gz : Bool} {f : File} {a l : Bytes} (h : wv gz f = a ++ l) : Wr gz f l :=
  (Wr_iff gz f l).2 ⟨a, [], by rw [h, List.append_nil]⟩

/-- the second conjunct is for gzip: what sits in the open member stays too -/
def FLe (f g : File) : Prop := FileLe f g ∧ ∃ y, g.content = f.content ++ y

theorem FileLe_refl (f : File) : FileLe f f := ⟨⟨[], by simp⟩, Nat.le_refl _⟩

theorem FileLe_trans {a b d : File} (h1 : FileLe a b) (h2 : FileLe b d) : FileLe a d := by
  obtain ⟨⟨x, hx⟩, l1⟩ := h1
  obtain ⟨⟨y, hy⟩, l2⟩ := h2
  exact ⟨⟨x ++ y, by rw [hy, hx]; simp⟩, Nat.le_trans l1 l2⟩

theorem FLe_refl (f : File) : FLe f f := ⟨FileLe_refl f, [], by simp⟩

theorem FLe_trans {a b d : File} (h1 : FLe a b) (h2 : FLe b d) : FLe a d := by
  obtain ⟨x, hx⟩ := h1.2
  obtain ⟨y, hy⟩ := h2.2
  exact ⟨FileLe_trans h1.1 h2.1, x ++ y, by rw [hy, hx, List.append_assoc]⟩

theorem content_write (gz : Bool) (p : Bytes) (f : File) : (fileWrite gz p f).content = f.content ++ p := by
  unfold fileWrite File.content; cases gz <;> simp

theorem wv_write (gz : Bool) (p : Bytes) (f : File) : wv gz (fileWrite gz p f) = f.content ++ p := by
  unfold wv fileWrite File.content; cases gz <;> simp

theorem content_gzClose (f : File) : (fileGzClose f).content = f.content := by
  unfold fileGzClose File.content; simp

theorem content_fsync (f : File) : (fileFsync f).content = f.content := rfl

theorem FLe_write (gz : Bool) (p : Bytes) (f : File) : FLe f (fileWrite gz p f) :=
  ⟨by unfold fileWrite FileLe; cases gz <;> simp, p, content_write gz p f⟩

theorem FLe_gzClose (f : File) : FLe f (fileGzClose f) :=
  ⟨by unfold fileGzClose FileLe; simp, [], by rw [content_gzClose]; simp⟩

theorem FLe_fsync (f : File) : FLe f (fileFsync f) :=
  ⟨by unfold fileFsync FileLe; simp; omega, [], by rw [content_fsync]; simp⟩

theorem FLe.wv {f g : File} (h : FLe f g) (gz : Bool) : ∃ y, wv gz g = wv gz f ++ y := by
  cases gz
  · exact h.1.1
  · exact h.2

theorem Wr_mono {gz : Bool} {f g : File} {l : Bytes} (hle : FLe f g) (h : Wr gz f l) : Wr gz g l := by
  obtain ⟨a, b, hab⟩ := (Wr_iff gz f l).1 h
  obtain ⟨y, hy⟩ := hle.wv gz
  exact (Wr_iff gz g l).2 ⟨a, b ++ y, by rw [hy, hab, List.append_assoc]⟩

theorem Wr_fsync (gz : Bool) (f : File) (l : Bytes) (h : Wr gz f l) : Wr gz (fileFsync f) l :=
  Wr_mono (FLe_fsync f) h

theorem wv_synced (gz : Bool) (f : File) :
    wv gz (fileFsync (if gz then fileGzClose f else f)) = (fileFsync (if gz then fileGzClose f else f)).data := by
  cases gz <;> simp [fileFsync, fileGzClose, wv, File.content]

theorem synced_durable (gz : Bool) (f : File) :
    (fileFsync (if gz then fileGzClose f else f)).data.length ≤ (fileFsync (if gz then fileGzClose f else f)).durable :=
  Nat.le_max_right ..

theorem Wr.dur {gz : Bool} {f : File} {l : Bytes} (h : Wr gz f l) (e : wv gz f = f.data) (hlen : f.data.length ≤ f.durable) :
    Dur f l := by
  obtain ⟨a, b, hab⟩ := (Wr_iff gz f l).1 h
  rw [e] at hab
  refine ⟨a, b, hab, ?_⟩
  rw [hab] at hlen
  simp only [List.length_append] at hlen ⊢
  omega

@[simp] theorem get_set_same (fs : FS) (p : Path) (f : File) : (fs.set p f).get p = some f := by simp [FS.set]
theorem get_set_ne (fs : FS) (p q : Path) (f : File) (h : q ≠ p) : (fs.set p f).get q = fs.get q := by simp [FS.set, h]
@[simp] theorem get_del_same (fs : FS) (p : Path) : (fs.del p).get p = none := by simp [FS.del]
theorem get_del_ne (fs : FS) (p q : Path) (h : q ≠ p) : (fs.del p).get q = fs.get q := by simp [FS.del, h]

/-- `s'` is `st` stopped: what the invariants of the router still read of a tool that no longer runs is as it was -/
def Dead (st s' : St) : Prop :=
  s'.status ≠ .running ∧ s'.fs = st.fs ∧ s'.finished = st.finished ∧ s'.hasOut = st.hasOut ∧ s'.outPath = st.outPath

theorem Dead_trans {a b d : St} (h1 : Dead a b) (h2 : Dead b d) : Dead a d :=
  ⟨h2.1, h2.2.1.trans h1.2.1, h2.2.2.1.trans h1.2.2.1, h2.2.2.2.1.trans h1.2.2.2.1, h2.2.2.2.2.trans h1.2.2.2.2⟩

theorem Dead_self {st : St} (h : st.status ≠ .running) : Dead st st := ⟨h, rfl, rfl, rfl, rfl⟩

theorem Dead.stop (st : St) (t : Nat) (s : Status) (h : s ≠ .running) : Dead st { st with tick := t, status := s } :=
  ⟨h, rfl, rfl, rfl, rfl⟩

/-- … and it has not newly `diverged`: no primitive does that, only a revision search out of fuel (`Act.stop`) -/
def Dead' (st s' : St) : Prop := Dead st s' ∧ (s'.status = .diverged → st.status = .diverged)

theorem Dead'.stop (st : St) (t : Nat) (s : Status) (h : s ≠ .running) (h' : s ≠ .diverged) :
    Dead' st { st with tick := t, status := s } :=
  ⟨Dead.stop st t s h, fun e => absurd e h'⟩

theorem guard_elim (io : Nat → Fault) (st : St) (k : St → St) (P : St → Prop)
    (hdead : ∀ s', Dead' st s' → P s')
    (hlive : st.status = .running → P (k { st with tick := st.tick + 1 })) : P (Nsq.Model.ToFile.guard io st k) := by
  fun_cases Nsq.Model.ToFile.guard io st k with
  | case1 h1 => exact hdead st ⟨Dead_self h1, id⟩
  | case2 => exact hdead _ (Dead'.stop st st.tick .killed (by decide) (by decide))
  | case3 => exact hdead _ (Dead'.stop st st.tick .fatalExit (by decide) (by decide))
  | case4 h1 => exact hlive (Decidable.not_not.mp h1)

theorem guard_dead (io : Nat → Fault) (st : St) (k : St → St) (h : st.status ≠ .running) : Nsq.Model.ToFile.guard io st k = st := by
  unfold Nsq.Model.ToFile.guard; rw [if_pos h]

theorem onOut_elim (io : Nat → Fault) (st : St) (g : File → File) (P : St → Prop)
    (hdead : ∀ s', Dead' st s' → P s')
    (hlive : ∀ f, st.status = .running → st.hasOut = true → st.outOpen = true → st.fs.get st.outPath = some f →
      P { st with tick := st.tick + 1, fs := st.fs.set st.outPath (g f) }) : P (onOut io st g) := by
  unfold onOut
  apply guard_elim io st _ P hdead
  intro hr
  by_cases h1 : st.hasOut = false ∨ st.outOpen = false
  · rw [if_pos h1]; exact hdead _ (Dead'.stop st _ .fatalExit (by decide) (by decide))
  · rw [if_neg h1]
    have h1' : st.hasOut = true ∧ st.outOpen = true := by simpa using h1
    cases hg : st.fs.get st.outPath with
    | none => exact hdead _ (Dead'.stop st _ .fatalExit (by decide) (by decide))
    | some f => exact hlive f hr h1'.1 h1'.2 hg

theorem search_some {t : Nat → Bool} {n r i : Nat} (h : search t n r = some i) : t i = false := by
  fun_induction search t n r with
  | case1 => cases h
  | case2 n r ht ih => exact ih h
  | case3 n r ht => cases h; simpa using ht

theorem mkPath_out (c : Cfg) (o : Bool) (t : String) (r : Nat) : (mkPath c o t r).out = o := rfl

theorem closeFd_running (io : Nat → Fault) (st : St) (hr : (closeFd io st).status = .running) :
    (closeFd io st).hasOut = true ∧ (closeFd io st).outOpen = false := by
  revert hr
  unfold closeFd
  apply guard_elim (P := fun s => s.status = .running → s.hasOut = true ∧ s.outOpen = false)
  · intro s' hd hrun; exact absurd hrun hd.1.1
  · intro _
    by_cases hc : st.hasOut = false ∨ st.outOpen = false
    · rw [if_pos hc]; intro hrun; cases hrun
    · rw [if_neg hc]; intro _
      simp only [not_or, Bool.not_eq_false] at hc
      exact ⟨hc.1, rfl⟩

theorem moveOut_elim (c : Cfg) (io : Nat → Fault) (st : St) (P : St → Prop)
    (hdiv : search (takenDst c st.fs st.filename) (fuel st.fs) (st.rev + 1) = none → P { st with status := .diverged })
    (hmove : ∀ dst, dst.out = true → st.fs.get dst = none → P (renameP io st st.outPath dst))
    (hclear : ∀ s, P s → P (clearOut s)) : P (moveOut c io st) := by
  fun_cases moveOut c io st with
  | case1 _ dst hfree _ => exact hclear _ (hmove dst rfl (by simpa using hfree))
  | case2 _ dst hfree _ => exact hmove dst rfl (by simpa using hfree)
  | case3 _ _ _ hsr => exact hdiv hsr
  | case4 _ _ _ i hsr => exact hclear _ (hmove _ (mkPath_out c true _ i) (by simpa [takenDst] using search_some hsr))

theorem closeOut_elim (c : Cfg) (io : Nat → Fault) (st : St) (P : St → Prop)
    (hnone : st.hasOut = false → P st)
    (hstop : (closeFd io (syncOut c io st)).status ≠ .running → P (closeFd io (syncOut c io st)))
    (hclear : c.workDir = false → (closeFd io (syncOut c io st)).status = .running →
      P (clearOut (closeFd io (syncOut c io st))))
    (hmove : c.workDir = true → (closeFd io (syncOut c io st)).status = .running →
      P (moveOut c io (closeFd io (syncOut c io st)))) : P (closeOut c io st) := by
  fun_cases closeOut c io st with
  | case1 hho => exact hnone hho
  | case2 _ _ hr => exact hstop hr
  | case3 _ _ hr hwd => exact hclear hwd (Decidable.not_not.mp hr)
  | case4 _ _ hr hwd => exact hmove (by simpa using hwd) (Decidable.not_not.mp hr)

theorem onOut_running (io : Nat → Fault) (st : St) (g : File → File) (h : (onOut io st g).status = .running) :
    ∃ f, st.status = .running ∧ st.hasOut = true ∧ st.outOpen = true ∧ st.fs.get st.outPath = some f ∧
      onOut io st g = { st with tick := st.tick + 1, fs := st.fs.set st.outPath (g f) } := by
  revert h
  apply onOut_elim (P := fun s => s.status = .running → ∃ f, st.status = .running ∧ st.hasOut = true ∧
      st.outOpen = true ∧ st.fs.get st.outPath = some f ∧ s = { st with tick := st.tick + 1, fs := st.fs.set st.outPath (g f) })
  · intro s' hd hr; exact absurd hr hd.1.1
  · intro f hr hho hoo hg _; exact ⟨f, hr, hho, hoo, hg, rfl⟩

theorem onOut_stopped (io : Nat → Fault) (st : St) (g : File → File) (h : (onOut io st g).status ≠ .running) :
    Dead' st (onOut io st g) := by
  revert h
  apply onOut_elim (P := fun s => s.status ≠ .running → Dead' st s)
  · intro s' hd _; exact hd
  · intro f hr _ _ _ h; exact absurd hr h

/-- `sealTail` on the state `s1` just after the open of the existing file: nothing (F47 found "\n" or has nothing to do, F47b could
not read), a stop, or the seal -/
theorem sealTail_cases (c : Cfg) (io : Nat → Fault) (rd : Fault) (s1 : St) (f : File) :
    (sealTail c io rd s1 f = s1 ∧ ((rd = .rdErr ∧ c.sealReadWarns = true) ∨
      (c.sealsTail = true → c.excl = false → nlEndedB f.content = true))) ∨
    Dead' s1 (sealTail c io rd s1 f) ∨
    ∃ f0, s1.fs.get s1.outPath = some f0 ∧ sealTail c io rd s1 f =
      { s1 with tick := s1.tick + 1, fs := s1.fs.set s1.outPath (fileWrite c.gzip [10] f0), filesize := s1.filesize + 1 } := by
  fun_cases sealTail c io rd s1 f with
  | case1 h1 hw =>
    simp only [Bool.and_eq_true, beq_iff_eq] at h1
    exact Or.inl ⟨rfl, Or.inl ⟨h1.2, hw⟩⟩
  | case2 => exact Or.inr (Or.inl ⟨⟨by simp [fatal], rfl, rfl, rfl, rfl⟩, by simp [fatal]⟩)
  | case3 _ _ _ hr => exact Or.inr (Or.inl (onOut_stopped io _ _ hr))
  | case4 _ _ _ hr =>
    obtain ⟨f0, _, _, _, hg0, he⟩ := onOut_running io _ _ (Decidable.not_not.mp hr)
    exact Or.inr (Or.inr ⟨f0, hg0, congrArg (fun s => { s with filesize := s.filesize + 1 }) he⟩)
  | case5 _ hc => exact Or.inl ⟨rfl, Or.inr fun hs hx => by simpa [hs, hx] using hc⟩

theorem syncOut_running (c : Cfg) (io : Nat → Fault) (st : St) (h : (syncOut c io st).status = .running) :
    ∃ f, st.status = .running ∧ st.hasOut = true ∧ st.outOpen = true ∧ st.fs.get st.outPath = some f ∧
      (syncOut c io st).fs.get st.outPath = some (fileFsync (if c.gzip then fileGzClose f else f)) ∧
      (syncOut c io st).outPath = st.outPath := by
  unfold syncOut at h ⊢
  cases hgz : c.gzip
  · simp only [hgz, Bool.false_eq_true, if_false] at h ⊢
    obtain ⟨f, hr, hho, hoo, hg, he⟩ := onOut_running io st _ h
    exact ⟨f, hr, hho, hoo, hg, by rw [he]; simp, by rw [he]⟩
  · simp only [hgz, if_true] at h ⊢
    obtain ⟨f1, hr1, hho1, hoo1, hg1, he1⟩ := onOut_running io _ _ h
    obtain ⟨f, hr, hho, hoo, hg, he⟩ := onOut_running io st _ hr1
    have hf1 : f1 = fileGzClose f := by rw [he] at hg1; simpa using hg1.symm
    refine ⟨f, hr, hho, hoo, hg, ?_, ?_⟩
    · rw [he1, he, hf1]; simp
    · rw [he1, he]

theorem finList_dead (io : Nat → Fault) (l : List Msg) (st : St) (h : st.status ≠ .running) : finList io st l = st := by
  induction l generalizing st with
  | nil => rfl
  | cons m rest ih => unfold finList; rw [guard_dead io st _ h]; exact ih st h

theorem openNew_dead (c : Cfg) (io : Nat → Fault) (st : St) (fn : String) (h : st.status ≠ .running) :
    openNew c io st fn = st := by
  unfold openNew; exact guard_dead io st _ h

/-- the running tool's open file `f` has become `f'`, grown; every other name reads as before -/
structure Grew (st : St) (f f' : File) (fs' : FS) : Prop where
  run : st.status = .running
  ho : st.hasOut = true
  oo : st.outOpen = true
  get : st.fs.get st.outPath = some f
  le : FLe f f'
  get' : fs'.get st.outPath = some f'
  oth : ∀ q, q ≠ st.outPath → fs'.get q = st.fs.get q
  dom : ∀ q ∈ st.fs.dom, q ∈ fs'.dom

theorem Grew.set {st : St} {f f' : File} (hr : st.status = .running) (hho : st.hasOut = true)
    (hoo : st.outOpen = true) (hg : st.fs.get st.outPath = some f) (hle : FLe f f') :
    Grew st f f' (st.fs.set st.outPath f') :=
  ⟨hr, hho, hoo, hg, hle, by simp, fun q hq => get_set_ne _ _ _ _ hq, fun q hq => List.mem_cons_of_mem _ hq⟩

theorem writeLine_grew (c : Cfg) (io : Nat → Fault) (st : St) (m : Msg) (h : (writeLine c io st m).status = .running) :
    ∃ f0 F fs' t, Grew st f0 F fs' ∧ wv c.gzip F = f0.content ++ line m ∧ F.content = f0.content ++ line m ∧
      writeLine c io st m = { st with tick := t, fs := fs' } := by
  unfold writeLine at h ⊢
  by_cases h1w : c.oneWrite = true
  · rw [if_pos h1w] at h ⊢
    obtain ⟨f0, hr0, hho0, hoo0, hg0, he0⟩ := onOut_running io st _ h
    exact ⟨f0, _, _, _, Grew.set hr0 hho0 hoo0 hg0 (FLe_write c.gzip _ f0), wv_write _ _ _, content_write _ _ _, he0⟩
  · rw [if_neg h1w] at h ⊢
    obtain ⟨f1, hr1, _, _, hg1, he1⟩ := onOut_running io _ _ h
    obtain ⟨f0, hr0, hho0, hoo0, hg0, he0⟩ := onOut_running io st _ hr1
    have hf1 : f1 = fileWrite c.gzip m.body f0 := by rw [he0] at hg1; simpa using hg1.symm
    subst hf1
    refine ⟨f0, fileWrite c.gzip [10] (fileWrite c.gzip m.body f0), _, _,
      ⟨hr0, hho0, hoo0, hg0, FLe_trans (FLe_write ..) (FLe_write ..), ?_, ?_, ?_⟩, ?_, ?_, by rw [he1, he0]⟩
    · simp
    · intro q hq; simp only []; rw [get_set_ne _ _ _ _ hq, get_set_ne _ _ _ _ hq]
    · intro q hq; exact List.mem_cons_of_mem _ (List.mem_cons_of_mem _ hq)
    · rw [wv_write, content_write]; simp [line]
    · rw [content_write, content_write]; simp [line]

theorem guard_fs (io : Nat → Fault) (st : St) (k : St → St) (h : ∀ s, (k s).fs = s.fs) :
    (Nsq.Model.ToFile.guard io st k).fs = st.fs := by
  apply guard_elim (P := fun s => s.fs = st.fs)
  · intro s' hd; exact hd.1.2.1
  · intro _; rw [h]

theorem finList_fs (io : Nat → Fault) (l : List Msg) (st : St) : (finList io st l).fs = st.fs := by
  induction l generalizing st with
  | nil => rfl
  | cons m rest ih =>
    unfold finList
    rw [ih]
    exact guard_fs io st _ (fun _ => rfl)

theorem closeFd_fs (io : Nat → Fault) (st : St) : (closeFd io st).fs = st.fs := by
  unfold closeFd
  apply guard_fs
  intro s; split <;> rfl

theorem clearOut_fs (st : St) : (clearOut st).fs = st.fs := by unfold clearOut; split <;> rfl

theorem clearOut_closed (st : St) (h : (clearOut st).status = .running) : (clearOut st).hasOut = false := by
  unfold clearOut at h ⊢
  by_cases h1 : st.status ≠ .running
  · rw [if_pos h1] at h; exact absurd h h1
  · rw [if_neg h1]

theorem clearOut_status (st : St) : (clearOut st).status = st.status := by unfold clearOut; split <;> rfl

theorem clearOut_outOpen (st : St) : (clearOut st).outOpen = st.outOpen := by unfold clearOut; split <;> rfl

theorem finishRun_fs (st : St) : (finishRun st).fs = st.fs := by unfold finishRun; split <;> rfl

theorem run_preserves {c : Cfg} {io : Nat → Fault} {P : St → Prop} {E : Ev → Prop}
    (hstep : ∀ st ev starved, E ev → P st → P (step c io st ev starved))
    (evs : List (Ev × Bool)) (hevs : ∀ e ∈ evs, E e.1) (st : St) (h : P st) : P (run c io st evs) := by
  induction evs generalizing st with
  | nil => exact h
  | cons e es ih =>
    exact ih (fun x hx => hevs x (List.mem_cons_of_mem _ hx)) _ (hstep st e.1 e.2 (hevs e (List.mem_cons_self ..)) h)

theorem toolStep_eq_step (c : Cfg) (io : Nat → Fault) (k : Nat) (st : St) (m : Msg) (attempts : Nat) (now : Int)
    (fn : String) (starved : Bool) (hno : shouldFail k attempts = false) :
    toolStep c io k st m attempts now fn starved = step c io st (.msg m now fn) starved := by
  unfold toolStep
  by_cases hr : st.status ≠ .running
  · rw [if_pos hr]; unfold step; rw [if_pos hr]
  · rw [if_neg hr, hno]; simp

theorem step_stopped (c : Cfg) (io : Nat → Fault) (st : St) (e : Ev) (s : Bool) (h : st.status ≠ .running) :
    step c io st e s = st := by
  unfold step; rw [if_pos h]

theorem run_stopped (c : Cfg) (io : Nat → Fault) (st : St) (evs : List (Ev × Bool)) (h : st.status ≠ .running) :
    run c io st evs = st := by
  induction evs with
  | nil => rfl
  | cons e es ih => unfold run; rw [step_stopped c io st e.1 e.2 h]; exact ih

theorem run_append (c : Cfg) (io : Nat → Fault) (st : St) (e1 e2 : List (Ev × Bool)) :
    run c io st (e1 ++ e2) = run c io (run c io st e1) e2 := by
  induction e1 generalizing st with
  | nil => rfl
  | cons e es ih => exact ih _

end Nsq.Proofs.ToFile
