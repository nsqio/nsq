import Nsq.Proofs.Timing
/-!
C04 (timing half), one tick of `queueScanLoop`: `scanChannel` (one worker pass over a channel, both
queues with one clock reading), `scanTick` / `queueScanTick` (the channels selected by `UniqRands`).
-/
namespace Nsq.Proofs.Tick
open Nsq.Model.PQ Nsq.Model.Timing Nsq.Proofs.PQ Nsq.Proofs.Timing

theorem scanChannel_chan (c : Chan) (t : Int) :
    (scanChannel c t).chan = (scanDeferred (scanInFlight c t).chan t).chan := rfl

theorem scanChannel_released (c : Chan) (t : Int) :
    (scanChannel c t).released =
      (scanInFlight c t).released ++ (scanDeferred (scanInFlight c t).chan t).released := rfl

theorem nothingDue_iff (c : Chan) (t : Int) :
    nothingDue c t = true ↔
      (∀ k (hk : k < c.ifpq.size), t < (c.ifpq[k]).pri) ∧
      (∀ k (hk : k < c.dpq.size), t < (c.dpq[k]).pri) := by
  simp [nothingDue, Array.all_eq_true]

theorem scanChannel_never_early (c : Chan) (t : Int) :
    ∀ e ∈ (scanChannel c t).released, e.pri ≤ t := by
  intro e he
  rw [scanChannel_released] at he
  rcases List.mem_append.1 he with h | h
  · exact (scanInFlight_spec c t).1.due e h
  · exact (scanDeferred_spec _ t).1.due e h

theorem scanChannel_spec (c : Chan) (h : ChanInv c) (t : Int) :
    ChanInv (scanChannel c t).chan ∧ nothingDue (scanChannel c t).chan t = true := by
  have s1 := (scanInFlight_spec c t).1
  obtain ⟨s2, e1, _⟩ := scanDeferred_spec (scanInFlight c t).chan t
  refine ⟨s2.inv (s1.inv h), ?_⟩
  rw [nothingDue_iff, scanChannel_chan]
  refine ⟨?_, s2.late (s1.inv h)⟩
  rw [e1]
  exact s1.late h

theorem scanTick_length (cs : List Chan) (sel : List Nat) (now : Nat → Int) :
    (scanTick cs sel now).length = cs.length := by
  simp [scanTick]

theorem scanTick_getElem (cs : List Chan) (sel : List Nat) (now : Nat → Int) (i : Nat)
    (hi : i < (scanTick cs sel now).length) (hi' : i < cs.length) :
    (scanTick cs sel now)[i] =
      if i ∈ sel then (scanChannel cs[i] (now i)).chan else cs[i] := by
  simp [scanTick, List.getElem_mapIdx]

theorem tick_general (q : Nat) (cs : List Chan) (r : Nat → Nat) (now : Nat → Int) :
    ∃ sel cs', uniqRands (min q cs.length) cs.length r = some sel ∧
      queueScanTick q cs r now = some cs' ∧
      sel.length = min q cs.length ∧ sel.Nodup ∧ cs'.length = cs.length ∧
      ∀ i (hi : i < cs'.length) (hi' : i < cs.length),
        (i ∈ sel → cs'[i] = (scanChannel cs[i] (now i)).chan) ∧ (i ∉ sel → cs'[i] = cs[i]) := by
  obtain ⟨l, h1, h2, h3, _, _⟩ := uniqRands_perm (min q cs.length) cs.length r
  refine ⟨l, scanTick cs l now, h1, by simp [queueScanTick, h1], ?_, h3,
    scanTick_length cs l now, ?_⟩
  · rw [h2]; omega
  · intro i hi hi'
    rw [scanTick_getElem cs l now i hi hi']
    constructor
    · intro hm; rw [if_pos hm]
    · intro hm; rw [if_neg hm]

/-- two channels, each holding one deferred entry, due at 5 resp. 6 -/
def twoChans : List Chan :=
  [(startDeferred {} 0 7 5).1, (startDeferred {} 0 8 6).1]

theorem twoChans_inv : ∀ c ∈ twoChans, ChanInv c := by
  intro c hc
  simp only [twoChans, List.mem_cons, List.not_mem_nil, or_false] at hc
  rcases hc with rfl | rfl
  · exact step_inv 0 {} (.defer 0 7 5) inv_init
  · exact step_inv 0 {} (.defer 0 8 6) inv_init

example :
    (queueScanTick 20 twoChans (fun i => 7 * i + 2) (fun _ => 10)).map
        (fun cs' => cs'.map fun c => (c.ready, keys c.dpq, nothingDue c 10)) =
      some [([7], [], true), ([8], [], true)] := by decide +kernel

example : twoChans.map (fun c => nothingDue c 10) = [false, false] := by decide +kernel

end Nsq.Proofs.Tick
