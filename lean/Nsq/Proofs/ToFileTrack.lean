import Nsq.Proofs.ToFileActs
/-!
What every act of the `ToFile` router does to the directory, whatever else is proved of it: each file is still there
afterwards with its old bytes as a prefix — under the same name, or moved by the tool itself from the work dir to the
output dir (`Grown`; needs neither `Cfg.WF` nor a finite directory); `FSLe` is the case without a move, along which the
invariants of the router that look at the open file are monotone (`Inv.grow`, `Core.grow`). Durability (`Nsq.Proofs.ToFile.Inv`) and "no overwrite"
for the names that must survive (`Grown.keep`) rest on it.
-/
namespace Nsq.Proofs.ToFile
open Nsq.Model.ToFile

variable {c : Cfg} {io : Nat → Fault}

def Wd (c : Cfg) (st : St) : Prop := c.workDir = true → st.hasOut = true → st.outPath.out = false

theorem out_workDir {p : Path} (e : p.out = !c.workDir) (hw : c.workDir = true) : p.out = false := by rw [e, hw]; rfl

theorem wd_act {st s' : St} (h : Act c io st s') (hw : Wd c st) : Wd c s' := by
  unfold Wd
  cases h with
  | same => exact hw
  | stop hd => rw [hd.2.2.2.1, hd.2.2.2.2]; exact hw
  | tear _ hd => rw [hd.1.2.2.2.1, hd.1.2.2.2.2]; exact hw
  | grow | record | fin | close | link | rename => exact hw
  | clear => exact fun _ hh => by cases hh
  | openNew p _ _ _ ho => exact fun hw' _ => out_workDir ho hw'
  | openOld p _ _ _ _ ho => exact fun hw' _ => out_workDir ho hw'
  | openSeal p _ _ _ _ ho => exact fun hw' _ => out_workDir ho hw'
  | openStop p _ _ _ _ ho _ hd => rw [hd.1.2.2.2.1, hd.1.2.2.2.2]; exact fun hw' _ => out_workDir ho hw'

theorem wd_init (c : Cfg) (fs : FS) : Wd c (init fs) := fun _ hh => by simp [init] at hh

end Nsq.Proofs.ToFile

namespace Nsq.Proofs.ToFileTrack
open Nsq.Model.ToFile Nsq.Proofs.ToFile

variable {c : Cfg} {io : Nat → Fault}

def FSLe (fs fs' : FS) : Prop := ∀ p f, fs.get p = some f → ∃ f', fs'.get p = some f' ∧ FLe f f'

theorem FSLe_refl (fs : FS) : FSLe fs fs := fun _ f hp => ⟨f, hp, FLe_refl f⟩

theorem FSLe_set {fs : FS} {p : Path} {f f' : File} (hg : fs.get p = some f) (hle : FLe f f') :
    FSLe fs (fs.set p f') := by
  intro q g hq
  by_cases e : q = p
  · subst e; rw [hg] at hq; cases hq; exact ⟨f', by simp, hle⟩
  · exact ⟨g, by rw [get_set_ne _ _ _ _ e]; exact hq, FLe_refl g⟩

theorem FSLe_new {fs : FS} {p : Path} (f' : File) (hg : fs.get p = none) : FSLe fs (fs.set p f') := by
  intro q g hq
  have e : q ≠ p := by intro e; subst e; rw [hg] at hq; cases hq
  exact ⟨g, by rw [get_set_ne _ _ _ _ e]; exact hq, FLe_refl g⟩

theorem _root_.Nsq.Proofs.ToFile.Grew.fsle {st : St} {f f' : File} {fs' : FS} (h : Grew st f f' fs') :
    FSLe st.fs fs' := by
  intro q g hq
  by_cases e : q = st.outPath
  · subst e; rw [h.get] at hq; cases hq; exact ⟨f', h.get', h.le⟩
  · exact ⟨g, by rw [h.oth q e]; exact hq, FLe_refl g⟩

def Grown (c : Cfg) (fs fs' : FS) : Prop :=
  ∀ p f, fs.get p = some f →
    ∃ q f', fs'.get q = some f' ∧ FileLe f f' ∧ (q = p ∨ (c.workDir = true ∧ p.out = false ∧ q.out = true))

theorem Grown_refl (fs : FS) : Grown c fs fs := fun p f h => ⟨p, f, h, FileLe_refl f, Or.inl rfl⟩

theorem Grown_of_eq {fs fs' : FS} (h : fs' = fs) : Grown c fs fs' := by subst h; exact Grown_refl _

theorem Grown_trans {a b d : FS} (h1 : Grown c a b) (h2 : Grown c b d) : Grown c a d := by
  intro p f hp
  obtain ⟨q, f1, hq, l1, c1⟩ := h1 p f hp
  obtain ⟨r, f2, hr, l2, c2⟩ := h2 q f1 hq
  refine ⟨r, f2, hr, FileLe_trans l1 l2, ?_⟩
  cases c1 with
  | inl e => subst e; exact c2
  | inr m =>
    cases c2 with
    | inl e => subst e; exact Or.inr m
    | inr m2 => rw [m.2.2] at m2; cases m2.2.1

theorem FSLe.grown {fs fs' : FS} (h : FSLe fs fs') : Grown c fs fs' := fun p f hp =>
  have ⟨f', hf', hle⟩ := h p f hp
  ⟨p, f', hf', hle.1, Or.inl rfl⟩

theorem get_rename {fs : FS} {src dst : Path} {f : File} (hs : fs.get src = some f) (hfree : fs.get dst = none)
    {q : Path} {g : File} (hq : fs.get q = some g) : ((fs.set dst f).del src).get (if q = src then dst else q) = some g := by
  by_cases e : q = src
  · have hne : dst ≠ src := by intro e2; rw [e2, hs] at hfree; cases hfree
    rw [e, hs] at hq
    rw [if_pos e, get_del_ne _ _ _ hne, get_set_same]; exact hq
  · have e2 : q ≠ dst := by intro e2; rw [e2, hfree] at hq; cases hq
    rw [if_neg e, get_del_ne _ _ _ e, get_set_ne _ _ _ _ e2]; exact hq

theorem Grown_rename {fs : FS} {src dst : Path} {f : File} (hwd : c.workDir = true) (hs : fs.get src = some f)
    (hfree : fs.get dst = none) (hso : src.out = false) (hdo : dst.out = true) : Grown c fs ((fs.set dst f).del src) := by
  intro q g hq
  refine ⟨_, g, get_rename hs hfree hq, FileLe_refl g, ?_⟩
  split
  · next e => exact Or.inr ⟨hwd, e ▸ hso, hdo⟩
  · exact Or.inl rfl

theorem _root_.Nsq.Proofs.ToFile.Act.grown {st s' : St} (h : Act c io st s') (hwd : Wd c st) : Grown c st.fs s'.fs := by
  cases h with
  | same => exact Grown_refl _
  | stop hd => exact Grown_of_eq hd.2.1
  | grow h => exact h.fsle.grown
  | tear h hd => rw [hd.1.2.1]; exact h.fsle.grown
  | record m h => exact h.fsle.grown
  | fin | close | clear | openOld => exact Grown_refl _
  | link dst f _ _ _ _ _ hfree => exact (FSLe_new f hfree).grown
  | rename dst f _ hho _ hw hs hfree hdst => exact Grown_rename hw hs hfree (hwd hw hho) hdst
  | openNew p _ _ hg => exact (FSLe_new _ hg).grown
  | openSeal p f _ _ hg => exact (FSLe_set hg (FLe_write c.gzip [10] f)).grown
  | openStop p f _ _ _ _ _ hd => exact Grown_of_eq hd.1.2.1

theorem _root_.Nsq.Proofs.ToFile.Acts.grown {st s' : St} (h : Acts c io st s') (hw : Wd c st) : Grown c st.fs s'.fs :=
  (h.keep (P := fun s => Wd c s ∧ Grown c st.fs s.fs) (fun _ _ a t => ⟨wd_act a t.1, Grown_trans t.2 (a.grown t.1)⟩)
    ⟨hw, Grown_refl _⟩).2

/-- a name that must survive — everything in the output dir, and every name at all when there is no separate work dir (then
nothing is ever unlinked) — is never the source of a move -/
theorem Grown.keep {fs fs' : FS} (h : Grown c fs fs') {p : Path} {f : File} (hp : fs.get p = some f)
    (hk : p.out = true ∨ c.workDir = false) : ∃ f', fs'.get p = some f' ∧ FileLe f f' := by
  obtain ⟨q, f', hq, hle, e | ⟨hw, hpo, _⟩⟩ := h p f hp
  · exact ⟨f', e ▸ hq, hle⟩
  · rcases hk with hk | hk
    · rw [hpo] at hk; cases hk
    · rw [hw] at hk; cases hk

theorem tracked_step {fs0 : FS} (st : St) (ev : Ev) (starved : Bool) (h : Wd c st ∧ Grown c fs0 st.fs) :
    Wd c (step c io st ev starved) ∧ Grown c fs0 (step c io st ev starved).fs :=
  step_keeps (E := fun _ => True) (P := fun s => Wd c s ∧ Grown c fs0 s.fs)
    (fun _ _ a h => ⟨wd_act a h.1, Grown_trans h.2 (a.grown h.1)⟩)
    (fun _ _ _ _ _ hfree h => ⟨h.1, Grown_trans h.2 (FSLe_new _ hfree).grown⟩)
    (fun _ _ data f _ _ hg _ h => ⟨h.1, Grown_trans h.2 (FSLe_set hg (FLe_write false data f)).grown⟩)
    st ev starved trivial h

theorem tracked_run (evs : List (Ev × Bool)) (st : St) (hw : Wd c st) :
    Wd c (run c io st evs) ∧ Grown c st.fs (run c io st evs).fs :=
  run_preserves (E := fun _ => True) (P := fun s => Wd c s ∧ Grown c st.fs s.fs)
    (fun s ev b _ hs => tracked_step s ev b hs) evs (fun _ _ => trivial) st ⟨hw, Grown_refl _⟩

end Nsq.Proofs.ToFileTrack
