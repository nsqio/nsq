import Nsq.Model.ToNsqLoop
import Nsq.Proofs.Split
/-!
`stepR` is an acceptor: most (event, state) pairs leave the state as it is. `Fires` lists the fourteen branches that do
change it, each with its guards and its successor state, and every invariant below is checked against those only
(`invCount_tick`, about the atomic-tick schedules, goes through the two tick equations `step_tickAdd` and `step_tickStore`).
-/
namespace Nsq.Proofs.ToNsqLoop
open Nsq.Model.Split Nsq.Model.ToNsqLoop

/-- the reader is about to call `ReadBytes` (the guard of `stepR … .read`) -/
abbrev AtRead (c : Cfg) (st : St) : Prop :=
  (c.throttle = true ∧ st.phase = .loaded) ∨ (c.throttle = false ∧ st.phase = .idle)

inductive Fires (c : Cfg) (st : St) : REv → St → Prop
  | load (ht : c.throttle = true) (hp : st.phase = .idle) :
    Fires c st .load
      { st with phase := .loaded, loads := st.loads + 1, sleeps := if st.bal ≤ 0 then st.sleeps + 1 else st.sleeps }
  | readEmpty (hg : AtRead c st)
      (he : (trimFixed c.d (readBytes c.d st.unread).1).length = 0) :
    Fires c st .read
      { st with unread := (readBytes c.d st.unread).2.1, phase := afterPublish c (readBytes c.d st.unread).2.2 }
  | readNoProducer (hg : AtRead c st)
      (he : ¬ (trimFixed c.d (readBytes c.d st.unread).1).length = 0) (hn : c.n = 0) :
    Fires c st .read
      { st with unread := (readBytes c.d st.unread).2.1, phase := afterPublish c (readBytes c.d st.unread).2.2,
                done := st.done ++ [trimFixed c.d (readBytes c.d st.unread).1] }
  | readStart (hg : AtRead c st)
      (he : ¬ (trimFixed c.d (readBytes c.d st.unread).1).length = 0) (hn : ¬ c.n = 0) :
    Fires c st .read
      { st with unread := (readBytes c.d st.unread).2.1,
                phase := .publishing (trimFixed c.d (readBytes c.d st.unread).1) (List.range c.n)
                           (readBytes c.d st.unread).2.2 }
  | pubStopped {i r todo eof} (hp : st.phase = .publishing r todo eof) (hi : i ∈ todo) (hs : i ∈ st.stopped) :
    Fires c st (.pub i) { st with main := .exited 1, trace := Out.exit 1 :: st.trace }
  | pubLast {i r todo eof} (hp : st.phase = .publishing r todo eof) (hi : i ∈ todo) (hs : i ∉ st.stopped)
      (hl : todo.erase i = []) :
    Fires c st (.pub i) { st with trace := Out.pub i r :: st.trace, phase := afterPublish c eof, done := st.done ++ [r] }
  | pubMore {i r todo eof} (hp : st.phase = .publishing r todo eof) (hi : i ∈ todo) (hs : i ∉ st.stopped)
      (hl : ¬ todo.erase i = []) :
    Fires c st (.pub i) { st with trace := Out.pub i r :: st.trace, phase := .publishing r (todo.erase i) eof }
  | dec {eof} (hp : st.phase = .toDec eof) :
    Fires c st .dec { st with bal := st.bal - 1, decs := st.decs + 1, phase := if eof then .closed else .idle }
  | sigtermNoProducer (hm : st.main = .waiting) (hn : c.n = 0) :
    Fires c st .sigterm { st with main := .exited 0, termed := true, trace := Out.exit 0 :: st.trace }
  | sigterm (hm : st.main = .waiting) (hn : ¬ c.n = 0) :
    Fires c st .sigterm { st with main := .stopping (List.range c.n), termed := true }
  | wakeNoProducer (hm : st.main = .waiting) (hp : st.phase = .closed) (hn : c.n = 0) :
    Fires c st .wake { st with main := .exited 0, trace := Out.exit 0 :: st.trace }
  | wake (hm : st.main = .waiting) (hp : st.phase = .closed) (hn : ¬ c.n = 0) :
    Fires c st .wake { st with main := .stopping (List.range c.n) }
  | stopLast {i todo} (hm : st.main = .stopping todo) (hi : i ∈ todo) (hl : todo.erase i = []) :
    Fires c st (.stop i)
      { st with main := .exited 0, stopped := i :: st.stopped, trace := Out.exit 0 :: Out.stop i :: st.trace }
  | stopMore {i todo} (hm : st.main = .stopping todo) (hi : i ∈ todo) (hl : ¬ todo.erase i = []) :
    Fires c st (.stop i)
      { st with main := .stopping (todo.erase i), stopped := i :: st.stopped, trace := Out.stop i :: st.trace }

theorem stepR_fires (c : Cfg) (st : St) (e : REv) : stepR c st e = st ∨ Fires c st e (stepR c st e) := by
  -- `case k` is the k-th leaf of `stepR` in source order; the leaves not named here return `st`
  fun_cases stepR c st e
  case case1 h => exact Or.inr (.load h.1 h.2)
  case case3 hg he => exact Or.inr (.readEmpty hg he)
  case case4 hg he hn => exact Or.inr (.readNoProducer hg he hn)
  case case5 hg he hn => exact Or.inr (.readStart hg he hn)
  case case7 hp hi hs => exact Or.inr (.pubStopped hp hi hs)
  case case8 hp hi hs hl => exact Or.inr (.pubLast hp hi hs hl)
  case case9 hp hi hs hl => exact Or.inr (.pubMore hp hi hs hl)
  case case12 hp => exact Or.inr (.dec hp)
  case case14 hm hn => exact Or.inr (.sigtermNoProducer hm hn)
  case case15 hm hn => exact Or.inr (.sigterm hm hn)
  case case17 h hn => exact Or.inr (.wakeNoProducer h.1 h.2 hn)
  case case18 h hn => exact Or.inr (.wake h.1 h.2 hn)
  case case20 hm hi hl => exact Or.inr (.stopLast hm hi hl)
  case case21 hm hi hl => exact Or.inr (.stopMore hm hi hl)
  all_goals exact Or.inl rfl

theorem step_cases (c : Cfg) (st : St) (e : Ev) :
    step c st e = st ∨ (∃ b p t, step c st e = { st with bal := b, pending := p, ticks := t }) ∨
      ∃ r, e = .r r ∧ Fires c st r (step c st e) := by
  fun_cases step c st e
  case case2 => exact Or.inr (Or.inl ⟨_, _, _, rfl⟩)
  case case4 => exact Or.inr (Or.inl ⟨_, _, _, rfl⟩)
  case case5 => exact Or.inr (Or.inl ⟨_, _, _, rfl⟩)
  case case7 _ r => exact (stepR_fires c st r).imp_right fun h => Or.inr ⟨r, rfl, h⟩
  all_goals exact Or.inl rfl

/-- the ticker's two atomic actions, the branches of `step` that `Fires` does not list -/
theorem step_tickAdd (c : Cfg) (st : St) : step c st .tickAdd =
    if st.running = false then st else
    if c.throttle ∧ c.ticker ∧ st.pending = none then
      { st with bal := st.bal + 1, pending := some (st.bal + 1), ticks := st.ticks + 1 }
    else st := rfl

theorem step_tickStore (c : Cfg) (st : St) : step c st .tickStore =
    if st.running = false then st else
    match st.pending with
    | some n => if n > c.rate then { st with bal := c.rate, pending := none } else { st with pending := none }
    | none => st := rfl

/-- An induction principle for predicates blind to `bal`, `pending` and `ticks` only: `htick` lets a tick set them to
anything. (`InvCount` reads them: `invCount_run` is an induction of its own, over `expand`.) -/
theorem run_induct (c : Cfg) (P : St → Prop) (s : List Ev)
    (htick : ∀ st b p t, P st → P { st with bal := b, pending := p, ticks := t })
    (hfire : ∀ st e st', Ev.r e ∈ s → P st → Fires c st e st' → P st') (st : St) (h : P st) : P (run c st s) := by
  induction s generalizing st with
  | nil => exact h
  | cons e es ih =>
    apply ih (fun st r st' hm => hfire st r st' (List.mem_cons_of_mem _ hm))
    rcases step_cases c st e with he | ⟨b, p, t, he⟩ | ⟨r, rfl, hf⟩
    · rw [he]; exact h
    · rw [he]; exact htick st b p t h
    · exact hfire st r _ (List.mem_cons_self ..) h hf

/-! ### every producer receives the records of stdin, in order -/

theorem published_unfold (trim : UInt8 → Bytes → Bytes) (d : UInt8) (input : Bytes) :
    published trim d input =
      (if (trim d (readBytes d input).1).length = 0 then [] else [trim d (readBytes d input).1]) ++
      (if (readBytes d input).2.2 = true then [] else published trim d (readBytes d input).2.1) := by
  rw [published]
  by_cases h : (readBytes d input).2.2 = true <;> simp [h]

/-- records the reader still has to complete -/
def rest (c : Cfg) (unread : Bytes) : Phase → List Bytes
  | .idle => published trimFixed c.d unread
  | .loaded => published trimFixed c.d unread
  | .publishing r _ eof => r :: (if eof then [] else published trimFixed c.d unread)
  | .toDec eof => if eof then [] else published trimFixed c.d unread
  | .closed => []

/-- the part of the record in flight that producer `i` already acknowledged -/
def inflight (i : Nat) : Phase → List Bytes
  | .publishing r todo _ => if i ∈ todo then [] else [r]
  | _ => []

theorem inflight_prefix (i : Nat) (c : Cfg) (unread : Bytes) (ph : Phase) : inflight i ph <+: rest c unread ph := by
  cases ph with
  | publishing r todo eof =>
    simp only [inflight, rest]
    split
    · exact List.nil_prefix
    · exact ⟨_, rfl⟩
  | _ => simp [inflight]

def todoOk : Phase → Prop
  | .publishing _ todo _ => todo.Nodup
  | _ => True

structure InvRec (c : Cfg) (input : Bytes) (st : St) : Prop where
  split : published trimFixed c.d input = st.done ++ rest c st.unread st.phase
  recv : ∀ i, i < c.n → acked i st.trace = st.done ++ inflight i st.phase
  nodup : todoOk st.phase

theorem rest_afterPublish (c : Cfg) (unread : Bytes) (eof : Bool) :
    rest c unread (afterPublish c eof) = if eof then [] else published trimFixed c.d unread := by
  unfold afterPublish
  by_cases h1 : c.throttle <;> by_cases h2 : eof <;> simp [h1, h2, rest]

theorem inflight_afterPublish (c : Cfg) (i : Nat) (eof : Bool) : inflight i (afterPublish c eof) = [] := by
  unfold afterPublish
  by_cases h1 : c.throttle <;> by_cases h2 : eof <;> simp [h1, h2, inflight]

theorem todoOk_afterPublish (c : Cfg) (eof : Bool) : todoOk (afterPublish c eof) := by
  unfold afterPublish
  by_cases h1 : c.throttle <;> by_cases h2 : eof <;> simp [h1, h2, todoOk]

theorem invRec_init (c : Cfg) (input : Bytes) : InvRec c input (init input) :=
  ⟨by simp [init, rest], by intro i _; simp [init, acked, inflight], by simp [init, todoOk]⟩

theorem rest_at_read {c : Cfg} {st : St}
    (hg : AtRead c st) :
    rest c st.unread st.phase = published trimFixed c.d st.unread ∧ (∀ i, inflight i st.phase = []) ∧
      st.phase ≠ .closed := by
  rcases hg with h | h <;> simp [h.2, rest, inflight]

theorem invRec_fires {c : Cfg} {input : Bytes} {st st' : St} {e : REv} (h : InvRec c input st)
    (hf : Fires c st e st') : InvRec c input st' := by
  obtain ⟨hs, hr, hn⟩ := h
  cases hf with
  | load _ hp => rw [hp] at hs hr; exact ⟨hs, hr, trivial⟩
  | readEmpty hg he =>
    obtain ⟨hrest, hinf, _⟩ := rest_at_read hg
    rw [hrest, published_unfold trimFixed c.d st.unread, if_pos he] at hs
    refine ⟨by simpa only [rest_afterPublish, List.nil_append] using hs, fun i hi => ?_, todoOk_afterPublish _ _⟩
    simpa only [inflight_afterPublish, hinf] using hr i hi
  | readNoProducer _ _ hn =>
    -- unreachable (main refuses to start without a producer); the record counts as done at once
    obtain ⟨hrest, _, _⟩ := rest_at_read ‹_›
    rw [hrest, published_unfold trimFixed c.d st.unread, if_neg ‹_›] at hs
    exact ⟨by simpa only [rest_afterPublish, List.append_assoc] using hs, fun i hi => by omega,
      todoOk_afterPublish _ _⟩
  | readStart hg he _ =>
    obtain ⟨hrest, hinf, _⟩ := rest_at_read hg
    rw [hrest, published_unfold trimFixed c.d st.unread, if_neg he] at hs
    refine ⟨by simpa [rest] using hs, fun i hi => ?_, List.nodup_range⟩
    have := hr i hi
    rw [hinf, List.append_nil] at this
    simp [inflight, this, hi]
  | @pubLast i r todo eof hp hi _ hl =>
    rw [hp] at hs hr
    refine ⟨by rw [rest_afterPublish]; simpa only [rest, List.append_assoc, List.singleton_append] using hs,
      fun j hj => ?_, todoOk_afterPublish _ _⟩
    -- `i` was the last producer missing: every other `j` has acknowledged `r` already
    have hj' := hr j hj
    simp only [inflight] at hj'
    simp only [acked, inflight_afterPublish, List.append_nil]
    by_cases hij : i = j
    · subst hij; simp [hj', hi]
    · have : j ∉ todo := fun hm => by simpa [hl] using (List.mem_erase_of_ne (Ne.symm hij)).2 hm
      simp [hij, hj', this]
  | @pubMore i r todo eof hp hi _ _ =>
    rw [hp] at hs hr hn
    refine ⟨hs, fun j hj => ?_, hn.erase i⟩
    have hj' := hr j hj
    simp only [inflight] at hj' ⊢
    simp only [acked]
    by_cases hij : i = j
    · subst hij
      have : i ∉ todo.erase i := fun hm => ((List.Nodup.mem_erase_iff hn).1 hm).1 rfl
      simp [hj', hi, this]
    · have : j ∈ todo.erase i ↔ j ∈ todo := List.mem_erase_of_ne (Ne.symm hij)
      simp [hij, hj', this]
  | @dec eof hp =>
    rw [hp] at hs hr
    cases eof <;> exact ⟨hs, hr, trivial⟩
  -- the other transitions put `exit` / `stop` on the trace at most: nothing a producer acknowledged
  | _ => exact ⟨hs, fun j hj => by simpa only [acked] using hr j hj, hn⟩

theorem invRec_run (c : Cfg) (input : Bytes) (s : List Ev) : InvRec c input (run c (init input) s) :=
  run_induct c (InvRec c input) s (fun _ _ _ _ h => ⟨h.split, h.recv, h.nodup⟩) (fun _ _ _ _ h hf => invRec_fires h hf)
    _ (invRec_init c input)

theorem closed_all (c : Cfg) (input : Bytes) (st : St) (h : InvRec c input st) (hc : st.phase = .closed) :
    ∀ i, i < c.n → acked i st.trace = published trimFixed c.d input := by
  intro i hi
  have h1 := h.split
  have h2 := h.recv i hi
  rw [hc] at h1 h2
  simp only [rest, inflight, List.append_nil] at h1 h2
  rw [h1, h2]

/-! ### ordering: on the EOF path every Stop comes after every acknowledgement -/

/-- the trace is newest first: the history before a `stop` is the tail below it -/
def StopsAfter (c : Cfg) (P : List Bytes) : List Out → Prop
  | [] => True
  | .stop _ :: tr => (∀ i, i < c.n → acked i tr = P) ∧ StopsAfter c P tr
  | _ :: tr => StopsAfter c P tr

theorem stopsAfter_split {c : Cfg} {P : List Bytes} {a b : List Out} {j : Nat} (h : StopsAfter c P (a ++ Out.stop j :: b)) :
    ∀ i, i < c.n → acked i b = P := by
  induction a with
  | nil => exact h.1
  | cons x a ih =>
    cases x with
    | stop _ => exact ih h.2
    | _ => exact ih h

/-- what main may be doing along a schedule without `sigterm`: in its `select` with no producer stopped; past it only after the
reader closed `stopChan`, and then the exit status is 0 -/
def MainOk (stopped : List Nat) (phase : Phase) : Main → Prop
  | .waiting => stopped = []
  | .stopping _ => phase = .closed
  | .exited k => phase = .closed ∧ k = 0

structure InvStop (c : Cfg) (input : Bytes) (st : St) : Prop where
  m : MainOk st.stopped st.phase st.main
  ord : StopsAfter c (published trimFixed c.d input) st.trace

theorem invStop_init (c : Cfg) (input : Bytes) : InvStop c input (init input) := ⟨rfl, trivial⟩

theorem invStop_fires {c : Cfg} {input : Bytes} {st st' : St} {e : REv} (hrec : InvRec c input st)
    (h : InvStop c input st) (hf : Fires c st e st') (he : e ≠ .sigterm) : InvStop c input st' := by
  -- while the reader has not closed `stopChan` main waits, whatever phase the reader moves on to
  have hreader : st.phase ≠ .closed → st.stopped = [] ∧ ∀ ph, MainOk st.stopped ph st.main := fun hp => by
    have hm := h.m
    cases hmain : st.main with
    | waiting => rw [hmain] at hm; exact ⟨hm, fun _ => hm⟩
    | stopping _ => rw [hmain] at hm; exact absurd hm hp
    | exited _ => rw [hmain] at hm; exact absurd hm.1 hp
  cases hf with
  | load _ hp => exact ⟨(hreader (by simp [hp])).2 _, h.ord⟩
  | readEmpty hg _ => exact ⟨(hreader (rest_at_read hg).2.2).2 _, h.ord⟩
  | readNoProducer hg _ _ => exact ⟨(hreader (rest_at_read hg).2.2).2 _, h.ord⟩
  | readStart hg _ _ => exact ⟨(hreader (rest_at_read hg).2.2).2 _, h.ord⟩
  | pubStopped hp _ hs => rw [(hreader (by simp [hp])).1] at hs; cases hs
  | pubLast hp _ _ _ => exact ⟨(hreader (by simp [hp])).2 _, h.ord⟩
  | pubMore hp _ _ _ => exact ⟨(hreader (by simp [hp])).2 _, h.ord⟩
  | dec hp => exact ⟨(hreader (by simp [hp])).2 _, h.ord⟩
  | wakeNoProducer _ hp _ => exact ⟨⟨hp, rfl⟩, h.ord⟩
  | wake _ hp _ => exact ⟨hp, h.ord⟩
  | stopLast hm _ _ =>
    have hc : st.phase = .closed := by have := h.m; rwa [hm] at this
    exact ⟨⟨hc, rfl⟩, closed_all c input st hrec hc, h.ord⟩
  | stopMore hm _ _ =>
    have hc : st.phase = .closed := by have := h.m; rwa [hm] at this
    exact ⟨hc, closed_all c input st hrec hc, h.ord⟩
  | _ => exact absurd rfl he

theorem invStop_run (c : Cfg) (input : Bytes) (s : List Ev) (hs : Ev.r .sigterm ∉ s) :
    InvStop c input (run c (init input) s) :=
  (run_induct c (fun st => InvRec c input st ∧ InvStop c input st) s
    (fun _ _ _ _ h => ⟨⟨h.1.split, h.1.recv, h.1.nodup⟩, ⟨h.2.m, h.2.ord⟩⟩)
    (fun _ _ _ hm h hf => ⟨invRec_fires h.1 hf, invStop_fires h.1 h.2 hf fun e => hs (e ▸ hm)⟩)
    _ ⟨invRec_init c input, invStop_init c input⟩).2

/-! ### the throttle: counting invariant for schedules whose ticks are atomic -/

/-- 1 while an iteration of the throttled loop is between its load and its decrement -/
def prog : Phase → Nat
  | .loaded => 1 | .publishing _ _ _ => 1 | .toDec _ => 1 | _ => 0

/-- 1 while that iteration has not yet completed its record -/
def recProg : Phase → Nat
  | .loaded => 1 | .publishing _ _ _ => 1 | _ => 0

theorem inflight_length_le (i : Nat) (ph : Phase) : (inflight i ph).length ≤ recProg ph ∧ (inflight i ph).length ≤ 1 := by
  cases ph with
  | publishing r todo eof => simp only [inflight, recProg]; split <;> simp
  | _ => simp [inflight]

/-- The counters of the throttled loop. `Fires` keeps it only with the throttle on (`invCount_fires`, hypothesis
`c.throttle = true`): without it `read` starts from `idle`, and a record completes with no load behind it. -/
structure InvCount (st : St) : Prop where
  pn : st.pending = none
  /-- the balance: initial 1, plus ticks (capped), minus one per iteration begun; the one in progress has not paid yet -/
  b : st.bal + (st.loads : Int) ≤ 1 + (st.ticks : Int) + (prog st.phase : Int)
  /-- a load either found a positive balance (≤ 1 + ticks of them) or slept -/
  k : st.loads ≤ 1 + st.ticks + st.sleeps
  /-- a completed record has its load behind it -/
  m : st.done.length + recProg st.phase ≤ st.loads

theorem invCount_init (input : Bytes) : InvCount (init input) :=
  ⟨rfl, by simp [init, prog], by simp [init], by simp [init, recProg]⟩

theorem afterPublish_throttle {c : Cfg} (ht : c.throttle = true) (eof : Bool) : afterPublish c eof = .toDec eof := by
  simp [afterPublish, ht]

theorem invCount_fires {c : Cfg} {st st' : St} {e : REv} (ht : c.throttle = true) (h : InvCount st)
    (hf : Fires c st e st') : InvCount st' := by
  obtain ⟨hpn, hb, hk, hm⟩ := h
  have hread : AtRead c st → st.phase = .loaded := fun hg => hg.elim (·.2) fun h1 => by rw [ht] at h1; cases h1.1
  cases hf with
  | load _ hp =>
    rw [hp] at hb hm; simp only [prog, recProg] at hb hm
    refine ⟨hpn, by simp only [prog]; omega, ?_, by simp only [recProg]; omega⟩
    show st.loads + 1 ≤ 1 + st.ticks + (if st.bal ≤ 0 then st.sleeps + 1 else st.sleeps)
    split <;> omega
  | readEmpty hg _ =>
    rw [hread hg] at hb hm
    exact ⟨hpn, by simpa only [afterPublish_throttle ht, prog] using hb, hk,
      by simp only [afterPublish_throttle ht, recProg] at hm ⊢; omega⟩
  | readNoProducer hg _ _ =>
    rw [hread hg] at hb hm
    exact ⟨hpn, by simpa only [afterPublish_throttle ht, prog] using hb, hk,
      by simpa only [afterPublish_throttle ht, recProg, List.length_append, List.length_singleton] using hm⟩
  | readStart hg _ _ => rw [hread hg] at hb hm; exact ⟨hpn, hb, hk, hm⟩
  | pubLast hp _ _ _ =>
    rw [hp] at hb hm
    exact ⟨hpn, by simpa only [afterPublish_throttle ht, prog] using hb, hk,
      by simpa only [afterPublish_throttle ht, recProg, List.length_append, List.length_singleton] using hm⟩
  | pubMore hp _ _ _ => rw [hp] at hb hm; exact ⟨hpn, hb, hk, hm⟩
  | @dec eof hp =>
    rw [hp] at hb hm; simp only [prog, recProg] at hb hm
    refine ⟨hpn, ?_, hk, ?_⟩
    · cases eof <;> simp only [if_true, if_false, Bool.false_eq_true, prog] <;> omega
    · cases eof <;> simp only [if_true, if_false, Bool.false_eq_true, recProg] <;> omega
  -- main's transitions and the fatal publish leave counters and phase alone
  | _ => exact ⟨hpn, hb, hk, hm⟩

theorem invCount_tick (c : Cfg) (st : St) (h : InvCount st) :
    InvCount (step c (step c st .tickAdd) .tickStore) := by
  obtain ⟨hpn, hb, hk, hm⟩ := h
  rw [step_tickAdd]
  by_cases hrun : st.running = false
  · rw [if_pos hrun, step_tickStore, if_pos hrun]; exact ⟨hpn, hb, hk, hm⟩
  · rw [if_neg hrun]
    split
    · rw [step_tickStore]
      split
      · exact absurd ‹_› hrun   -- `running` reads `main` only, which the Add left alone
      · -- capped at `rate`, or left at `bal + 1`: either way at most one more than before, with one more tick
        show InvCount (if st.bal + 1 > c.rate then _ else _)
        split <;> exact ⟨rfl, by simp only [Int.natCast_add]; omega, by simp only; omega, hm⟩
    · rw [step_tickStore, if_neg hrun, hpn]; exact ⟨hpn, hb, hk, hm⟩

theorem invCount_run (c : Cfg) (ht : c.throttle = true) (ms : List MEv) (st : St) (h : InvCount st) :
    InvCount (run c st (expand ms)) := by
  induction ms generalizing st with
  | nil => exact h
  | cons m ms ih =>
    cases m with
    | tick => exact ih _ (invCount_tick c st h)
    | r e =>
      apply ih
      show InvCount (if st.running = false then st else stepR c st e)
      split
      · exact h
      · rcases stepR_fires c st e with he | hf
        · rw [he]; exact h
        · exact invCount_fires ht h hf

end Nsq.Proofs.ToNsqLoop
