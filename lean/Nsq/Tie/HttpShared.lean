import Nsq.Gen.HttpShared
/-!
# Tie (C10, concurrently served requests): the response path shares no mutable package-level state

`Nsq.Model.HttpFull.serve` answers a request as a function of (options, broker, request);
`Nsq.Props.C10Conc.concurrent_equals_alone` needs the hypothesis that the rendered answer of a request lives
in a request-local slot. Regenerated fact (kind `pkgvars` of `tools/go2lean/kind_pkgvars.go`, identifiers
resolved by go/types): every package-level variable — of the package itself or of an imported one — that

* any function of `internal/http_api` (`Decorate`, `V1`, `PlainText`, `RespondV1`, `Log`, the NotFound /
  MethodNotAllowed / Panic handlers, `NewReqParams`, `GetTopicChannelArgs`, `Serve`, the gzip wrapper, the
  client helpers; closed under static calls inside the package), or
* any function declared in `nsqd/http.go` (`newHTTPServer`, `ServeHTTP`, every handler, `printStats`,
  `getOptByCfgName`; closed under calls inside that file)

refers to, with its type and the kind of use. `Harmless` is the semantic core: the reference reads a value
of a type that cannot carry bytes from one request to another (an error sentinel, a scalar), or it looks a
key up in / ranges over a table of scalars that NO function of the package assigns to, takes the address of
or calls a method on (`…Mutators`). A `sync.Pool`, a `*bytes.Buffer`, a map or slice that somebody writes, a
method call on a package-level object: not harmless — the tie breaks and says which variable.

The seeded defect C10-m9 adds the rows `(RespondV1, marshalJSON, http_api.encodeBufPool, sync.Pool, call:Get)`
/ `call:Put` (example below). The behavioural half is the concurrency leg `harness/e3/concur_*`.
Not covered: state below the package level of the standard library (`encoding/json`'s own caches,
`net/http`'s buffers) — trusted; struct fields reachable from `*httpServer` / `*NSQD` (the broker — that is the
state the model does have, guarded by its own locks: C01–C08).

`lookupd_handlers_share_nothing` / `admin_handlers_share_nothing` state the same for `nsqlookupd/http.go` and
`nsqadmin/http.go`, which use the same `http_api` envelope (C15 / C18 are other properties; the facts live
here because the shared code is C10's).
-/
namespace Nsq.Tie.HttpShared
open Nsq.Gen.HttpShared

/-- types whose values cannot hand bytes of one response to another: sentinels and scalars -/
def scalarType (t : String) : Bool :=
  t ∈ ["error", "string", "bool", "int", "int32", "int64", "uint", "uint16", "uint32", "uint64", "float64",
       "time.Duration", "*regexp.Regexp"]

/-- read-only tables of scalars -/
def tableType (t : String) : Bool :=
  t ∈ ["map[string]bool", "map[string]string", "map[string]int", "[]string", "[]int", "[]float64", "[]byte"]

def Harmless (muts : List (String × String × String)) (row : String × String × String × String × String) : Bool :=
  let v := row.2.2.1
  let t := row.2.2.2.1
  let u := row.2.2.2.2
  let unwritten := muts.all (fun m => m.1 != v)
  (u == "value" && scalarType t && unwritten) ||
  ((u == "index" || u == "range") && tableType t && unwritten)

/-- `internal/http_api`: the only package-level variable in reach is the sentinel `net.ErrClosed` (compared in
`Serve`); in particular `RespondV1` / `V1` / `PlainText` / `Decorate` refer to none. -/
theorem response_path_shares_nothing :
    httpApiVars.all (Harmless httpApiVarsMutators) = true ∧
    (httpApiVars.filter (fun r => r.1 ∈ ["RespondV1", "V1", "PlainText", "Decorate", "Log", "LogPanicHandler",
        "LogNotFoundHandler", "LogMethodNotAllowedHandler"])) = [] := by decide +kernel

/-- `nsqd/http.go`: the handlers read the sentinel `io.EOF` and look keys up in `boolParams`
(`map[string]bool`), which no function of package nsqd writes. -/
theorem nsqd_handlers_share_nothing :
    nsqdHttpVars.all (Harmless nsqdHttpVarsMutators) = true := by decide +kernel

theorem lookupd_handlers_share_nothing :
    lookupdHttpVars.all (Harmless lookupdHttpVarsMutators) = true := by decide +kernel

theorem admin_handlers_share_nothing :
    adminHttpVars.all (Harmless adminHttpVarsMutators) = true := by decide +kernel

/-! Non-vacuity: the extractor does see package-level variables (the `boolParams` lookups of `doStats`), and
`Harmless` refuses the rows of the seeded defect, a written table and a package-level buffer. -/
example : ("(*httpServer).doStats", "(*httpServer).doStats", "nsqd.boolParams", "map[string]bool", "index") ∈ nsqdHttpVars := by
  decide +kernel
example : Harmless [("http_api.encodeBufPool", "marshalJSON", "call:Get")]
    ("RespondV1", "marshalJSON", "http_api.encodeBufPool", "sync.Pool", "call:Get") = false := by decide +kernel
example : Harmless [] ("RespondV1", "RespondV1", "http_api.scratch", "*bytes.Buffer", "value") = false := by decide +kernel
example : Harmless [("nsqd.boolParams", "init", "assign")]
    ("(*httpServer).doStats", "(*httpServer).doStats", "nsqd.boolParams", "map[string]bool", "index") = false := by decide +kernel

end Nsq.Tie.HttpShared
