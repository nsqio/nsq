import Nsq.Gen.ToolsToFileFn
import Nsq.Model.ToFileName
import Nsq.Model.ToFileDisc
import Nsq.Model.ToFileMain
/-!
Tie of the file-name model (`Nsq.Model.ToFileName`) to apps/nsq_to_file/file_logger.go by
*translation*: `tools/go2lean` (kind `strfunc`) re-translates `computeFilenameFormat` and
`FileLogger.currentFilename` from the current tree into Lean definitions over byte strings
(`Nsq.Gen.ToolsToFileFn`); the theorems below prove the translated definitions equal to the hand
model for all inputs. A rewrite of the Go functions that keeps their meaning inside the accepted
subset still proves (possibly after adjusting the argument order below); a change of meaning
(a token renamed, the `<REV>` check weakened, a substitution dropped or reordered) does not.
Tied the same way: `TopicDiscoverer.isTopicAllowed` (`Nsq.Model.ToFileDisc`), the `max_attempts` value `main()` runs with, the
gzip levels it accepts, and its eight refusals (`Nsq.Model.ToFileMain.refuses`).
-/
namespace Nsq.Tie.ToolsToFileFn
open Nsq.Model.Str Nsq.Model.ToFileName

set_option linter.unusedSimpArgs false in
theorem computeFilenameFormat_fn_eq (o : Opts) (topic : Str) (hostname : Except Str Str) (pid : Str) :
    Nsq.Gen.ToolsToFileFn.computeFilenameFormat hostname o.hostIdentifier o.filenameFormat o.gzip
      o.rotateSize o.rotateInterval o.workDir o.outputDir topic pid
    = computeFilenameFormat o topic hostname pid := by
  unfold Nsq.Gen.ToolsToFileFn.computeFilenameFormat computeFilenameFormat
  cases hostname with
  | error e => rfl
  | ok h =>
    simp only [needsRev, identifier, gzSuffix, substitute, tREV, tTOPIC, tHOST, tPID, tSHORT_HOST, tHOSTNAME,
      dot, gz, errMissingRev]
    by_cases hl : o.hostIdentifier = [] <;>
    by_cases hr : (o.gzip || decide (o.rotateSize > 0) || decide (o.rotateInterval > 0) ||
        decide (o.workDir ≠ o.outputDir)) = true <;>
    by_cases hc : contains o.filenameFormat [60, 82, 69, 86, 62] = true <;>
    simp [hl, hr, hc, ← apply_ite Except.ok]

theorem currentFilename_fn_eq (filenameFormat datetime : Str) :
    Nsq.Gen.ToolsToFileFn.currentFilename datetime filenameFormat = currentFilename filenameFormat datetime := rfl

/-- `TopicDiscoverer.isTopicAllowed`: empty pattern allows everything, a pattern that does not compile
allows nothing, otherwise the regexp decides -/
theorem isTopicAllowed_fn_eq (pattern : Str) (matched : Except Str Bool) :
    Nsq.Gen.ToolsToFileFn.isTopicAllowed pattern matched = Nsq.Model.ToFileDisc.isTopicAllowed pattern matched := by
  unfold Nsq.Gen.ToolsToFileFn.isTopicAllowed Nsq.Model.ToFileDisc.isTopicAllowed
  by_cases hp : pattern = [] <;> cases matched <;> simp [hp]

/-- go-nsq's struct-tag default -/
theorem toFileMaxAttempts_lib_eq : Nsq.Gen.ToolsToFileFn.toFileMaxAttempts_lib = 5 := rfl

/-- `main()` sets `cfg.MaxAttempts = 0` (fix F43, committed to /repo as 924c537). Only the fixed shape is accepted:
on a tree without the fix this tie breaks *and* the replay of the fixed finding `gives-up-after-max-attempts` on the
real binary reproduces (a VIOLATION with the concrete delivery). Any other value is a change this check does not understand. -/
theorem toFileMaxAttempts_is_zero : Nsq.Gen.ToolsToFileFn.toFileMaxAttempts = 0 := rfl

/-- the assignment (if any) happens before the operator's `--consumer-opt`s are applied -/
theorem toFileMaxAttempts_overridable : Nsq.Gen.ToolsToFileFn.toFileMaxAttempts_overridable = true := rfl

/-- `main()` refuses exactly the levels outside 1..9 … -/
theorem gzipLevel_accepted_iff (l : Int) :
    Nsq.Gen.ToolsToFileFn.gzipLevelRejected l = false ↔ (1 ≤ l ∧ l ≤ 9) := by
  unfold Nsq.Gen.ToolsToFileFn.gzipLevelRejected
  simp only [Bool.or_eq_false_iff, decide_eq_false_iff_not]
  omega

/-- … so every accepted level lies inside the range `gzip.NewWriterLevel` accepts (`HuffmanOnly = -2` …
`BestCompression = 9`): the error that `updateFile`/`Sync` discard (`f.gzipWriter, _ = gzip.NewWriterLevel(…)`)
is always nil, the writer never a nil pointer -/
theorem gzipLevel_accepted_is_valid (l : Int) (h : Nsq.Gen.ToolsToFileFn.gzipLevelRejected l = false) :
    -2 ≤ l ∧ l ≤ 9 := by
  have := (gzipLevel_accepted_iff l).mp h
  omega

/-- the model's refusal predicate is exactly the disjunction of the eight translated `log.Fatal` conditions -/
theorem main_refusals_eq (o : Nsq.Model.ToFileMain.MainOpts) :
    Nsq.Model.ToFileMain.refuses o =
      (Nsq.Gen.ToolsToFileFn.mainNoChannel o.channel
       || Nsq.Gen.ToolsToFileFn.mainBadConnectTimeout o.connectTimeout
       || Nsq.Gen.ToolsToFileFn.mainBadRequestTimeout o.requestTimeout
       || Nsq.Gen.ToolsToFileFn.mainNoAddress o.nNsqd o.nLookupd
       || Nsq.Gen.ToolsToFileFn.mainBothAddresses o.nNsqd o.nLookupd
       || Nsq.Gen.ToolsToFileFn.gzipLevelRejected o.gzipLevel
       || Nsq.Gen.ToolsToFileFn.mainNoTopic o.nTopics o.pattern
       || Nsq.Gen.ToolsToFileFn.mainPatternNeedsLookupd o.nTopics o.nLookupd) := by
  unfold Nsq.Model.ToFileMain.refuses Nsq.Gen.ToolsToFileFn.mainNoChannel Nsq.Gen.ToolsToFileFn.mainBadConnectTimeout
    Nsq.Gen.ToolsToFileFn.mainBadRequestTimeout Nsq.Gen.ToolsToFileFn.mainNoAddress Nsq.Gen.ToolsToFileFn.mainBothAddresses
    Nsq.Gen.ToolsToFileFn.gzipLevelRejected Nsq.Gen.ToolsToFileFn.mainNoTopic Nsq.Gen.ToolsToFileFn.mainPatternNeedsLookupd
  simp [List.length_eq_zero_iff]

end Nsq.Tie.ToolsToFileFn
