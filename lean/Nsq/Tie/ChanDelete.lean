import Nsq.Gen.Life
import Nsq.Model.ChanDelete
/-!
Tie obligations of the channel-deletion race model (Model/ChanDelete.lean): the shape of
`Topic.DeleteExistingChannel`, `Channel.exit`, `Channel.AddClient`, `Channel.PutMessage` on the current tree; and that
`--sync-every` is not validated (`sync_every_validation_shape`: what a deletion leaves on disk with the value 0).
-/
namespace Nsq.Tie.ChanDelete

/-- `DeleteExistingChannel`: lookup under the read lock, `channel.Delete()` (result ignored), then under the
write lock the unlink + `len`, then (second `Lock`/`Unlock`: the NSQD lock) the post-delete persist, the
ephemeral topic's `deleter.Do` — the `delBegin`/`delExit`/`delUnlink` (`loserUnlink`) steps of the model -/
theorem delete_chan_calls :
    Nsq.Gen.Life.deleteChanCalls = ["RLock", "RUnlock", "Delete", "Lock", "delete", "len", "Unlock", "Lock", "Unlock", "Do"] := rfl

/-- the unlink removes the name only while it still refers to the object that was looked up (F22, /repo c687824;
the by-name unlink of the older tree — `Props.C08ChanDelete.witnessChanDouble` — breaks this tie); no early return for a deletion that lost the CAS on
either tree (its `Delete()` has waited for the winner's exit, see `chan_exit_under_exit_lock`) -/
theorem delete_chan_unlink_shape :
    Nsq.Gen.Life.deleteChanStmts = ["if t.channelMap[channelName] == channel"] := rfl

/-- `Channel.exit`: `exitMutex.Lock()` with a deferred `Unlock` *before* the CAS, so that a second `Delete()`
returns "exiting" only after the first has emptied the channel and deleted its backend — the enabling
condition `exited` of the model's `loserUnlink` (behavioural twin: harness leg `chan_double_delete_waits`) -/
theorem chan_exit_under_exit_lock :
    Nsq.Gen.Life.chanExitLockCalls = ["Lock", "Unlock", "CompareAndSwapInt32", "Empty", "Delete"] := rfl

/-- `AddClient` and `PutMessage` test `Exiting()` under `exitMutex.RLock`: an exiting channel takes no new
consumer and no new message (model steps `sub`, `pub` on an exiting object) -/
theorem add_client_put_refuse_exiting :
    Nsq.Gen.Life.addClientCalls.take 3 = ["RLock", "RUnlock", "Exiting"] ∧
    Nsq.Gen.Life.chanPutMessageCalls = ["RLock", "RUnlock", "Exiting", "put"] := ⟨rfl, rfl⟩

/-- the ephemeral channel's `deleteCallback` is `DeleteExistingChannel` of the channel's *name*: the model's
`delBegin … delUnlink` steps, enabled whenever the name is registered -/
theorem chan_delete_callback_is_delete_by_name :
    Nsq.Gen.Life.chanDeleteCallbackStmts =
      ["assign deleteCallback := func(c *Channel) { t.DeleteExistingChannel(c.name) }"] := rfl

/-- `--sync-every` reaches `diskqueue.New` as given (`Tie.Restart.diskqueue_record_bounds` pins the argument
lists) and `nsqd.New` does not look at it: `0` is a legal configuration in which a deleted topic/channel leaves its
`.diskqueue.meta.dat` (open finding `sync-every-zero-delete-leaves-meta-file`, replay `sync_every_zero_delete`; E9's
`CfgOk.sync` is an assumption on the configuration). fixes/F25 (refuse values below 1: guard `if opts.SyncEvery < 1`) is
NOT committed: refusing a value nsqd has always accepted is a maintainer decision, and the finding stays open. Only the
committed shape is accepted; applying F25 breaks this tie. -/
theorem sync_every_validation_shape : Nsq.Gen.Life.syncEveryGuard = [] := rfl

/-- the model instance the current tree selects -/
def treeModel : Nsq.Model.ChanDelete.CSt :=
  { ownUnlink := Nsq.Gen.Life.deleteChanStmts == ["if t.channelMap[channelName] == channel"] }

/-- F22 is committed (/repo c687824): the tree's instance is the repaired one, so
`Props.C08ChanDelete.no_chan_zombie_fixed` speaks about the tree -/
theorem tree_model_known : treeModel = Nsq.Model.ChanDelete.fixedTree := by
  simp only [treeModel, delete_chan_unlink_shape, beq_self_eq_true]
  rfl

end Nsq.Tie.ChanDelete
