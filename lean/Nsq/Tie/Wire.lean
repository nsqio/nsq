import Nsq.Gen.Codec
import Nsq.Model.Wire
/-! Tie (C07), textual part: the statements of the byte-format code that is NOT translated
(readMPUB, SendMessage, writeMessageToBackend, bufferPoolPut, doMPUB's text loop, messagePump's
copy, doPUB's body read), regenerated from the Go source on every run, are the ones `Model.Wire`
transcribes; the constants agree. `Message.WriteTo`, `decodeMessage`, `SendFramedResponse`,
`SendResponse` and `readLen` are tied by TRANSLATION instead (`Nsq.Tie.WireFn`: real definitions
proved equal to the model), so harmless rewrites of those functions do not break the tie.
The behavioural half of the tie is the correspondence harness (harness/e1/wire_test.go) and the
end-to-end oracle. -/
namespace Nsq.Tie.Wire

theorem msgIDLength_eq : Nsq.Gen.Codec.c_MsgIDLength = 16 := rfl
theorem minValidMsgLength_eq : Nsq.Gen.Codec.c_minValidMsgLength = 26 := rfl
theorem frameTypes_eq : Nsq.Gen.Codec.c_frameTypeResponse = 0 ∧ Nsq.Gen.Codec.c_frameTypeError = 1 ∧
    Nsq.Gen.Codec.c_frameTypeMessage = 2 := ⟨rfl, rfl, rfl⟩
theorem defaultBufferSize_eq : Nsq.Gen.Codec.c_defaultBufferSize = 16384 := rfl

/-- `readMPUB` = `Model.Wire.readMPUB` -/
theorem readMPUBBody_eq : Nsq.Gen.Codec.readMPUBBody = [
  "numMessages, err := readLen(r, tmp)",
  "if err != nil {",
  "return nil, protocol.NewFatalClientErr(err, \"E_BAD_BODY\", \"MPUB failed to read message count\")",
  "}",
  "maxMessages := (maxBodySize - 4) / 5",
  "if numMessages <= 0 || int64(numMessages) > maxMessages {",
  "return nil, protocol.NewFatalClientErr(err, \"E_BAD_BODY\", fmt.Sprintf(\"MPUB invalid message count %d\", numMessages))",
  "}",
  "messages := make([]*Message, 0, numMessages)",
  "for i := int32(0); i < numMessages; i++ {",
  "messageSize, err := readLen(r, tmp)",
  "if err != nil {",
  "return nil, protocol.NewFatalClientErr(err, \"E_BAD_MESSAGE\", fmt.Sprintf(\"MPUB failed to read message(%d) body size\", i))",
  "}",
  "if messageSize <= 0 {",
  "return nil, protocol.NewFatalClientErr(nil, \"E_BAD_MESSAGE\", fmt.Sprintf(\"MPUB invalid message(%d) body size %d\", i, messageSize))",
  "}",
  "if int64(messageSize) > maxMessageSize {",
  "return nil, protocol.NewFatalClientErr(nil, \"E_BAD_MESSAGE\", fmt.Sprintf(\"MPUB message too big %d > %d\", messageSize, maxMessageSize))",
  "}",
  "msgBody := make([]byte, messageSize)",
  "_, err = io.ReadFull(r, msgBody)",
  "if err != nil {",
  "return nil, protocol.NewFatalClientErr(err, \"E_BAD_MESSAGE\", \"MPUB failed to read message body\")",
  "}",
  "messages = append(messages, NewMessage(topic.GenerateID(), msgBody))",
  "}",
  "return messages, nil"] := rfl

/-- `protocolV2.SendMessage`: pooled buffer, `WriteTo`, `Send` (`Model.Wire.withPooledBuffer`) -/
theorem sendMessageBody_eq : Nsq.Gen.Codec.sendMessageBody = [
  "p.nsqd.logf(LOG_DEBUG, \"PROTOCOL(V2): writing msg(%s) to client(%s) - %s\", msg.ID, client, msg.Body)",
  "buf := bufferPoolGet()",
  "defer bufferPoolPut(buf)",
  "_, err := msg.WriteTo(buf)",
  "if err != nil {",
  "return err",
  "}",
  "err = p.Send(client, frameTypeMessage, buf.Bytes())",
  "if err != nil {",
  "return err",
  "}",
  "return nil"] := rfl

/-- `writeMessageToBackend`: pooled buffer, `WriteTo`, `Put` -/
theorem writeBackendBody_eq : Nsq.Gen.Codec.writeBackendBody = [
  "buf := bufferPoolGet()",
  "defer bufferPoolPut(buf)",
  "_, err := msg.WriteTo(buf)",
  "if err != nil {",
  "return err",
  "}",
  "return bq.Put(buf.Bytes())"] := rfl

/-- `bufferPoolPut` resets the buffer before it goes back to the pool -/
theorem bufferPoolPutBody_eq : Nsq.Gen.Codec.bufferPoolPutBody = [
  "b.Reset()",
  "bp.Put(b)"] := rfl

/-- `doMPUB` text mode = `Model.Wire.textLoop` -/
theorem mpubTextStmts_eq : Nsq.Gen.Codec.mpubTextStmts = [
  "assign readMax := s.nsqd.getOpts().MaxBodySize + 1",
  "assign rdr := bufio.NewReader(io.LimitReader(req.Body, readMax))",
  "assign total := 0",
  "assign block, err = rdr.ReadBytes('\\n')",
  "assign total += len(block)",
  "if int64(total) == readMax",
  "if len(block) > 0 && block[len(block)-1] == '\\n'",
  "assign block = block[:len(block)-1]",
  "if len(block) == 0",
  "if int64(len(block)) > s.nsqd.getOpts().MaxMsgSize",
  "assign msg := NewMessage(topic.GenerateID(), block)"] := rfl

/-- `Topic.messagePump`: per-channel copy = `Model.Wire.fanout` -/
theorem fanoutStmts_eq : Nsq.Gen.Codec.fanoutStmts = [
  "assign chanMsg := msg",
  "assign chanMsg = NewMessage(msg.ID, msg.Body)",
  "assign chanMsg.Timestamp = msg.Timestamp",
  "assign chanMsg.deferred = msg.deferred",
  "if chanMsg.deferred != 0",
  "assign err := channel.PutMessage(chanMsg)"] := rfl

/-- `doPUB` body read = `Model.Wire.httpPub` -/
theorem doPUBReadStmts_eq : Nsq.Gen.Codec.doPUBReadStmts = [
  "if req.ContentLength > s.nsqd.getOpts().MaxMsgSize",
  "assign readMax := s.nsqd.getOpts().MaxMsgSize + 1",
  "assign body, err := io.ReadAll(io.LimitReader(req.Body, readMax))",
  "if int64(len(body)) == readMax",
  "if len(body) == 0"] := rfl

end Nsq.Tie.Wire
