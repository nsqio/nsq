import Nsq.Gen.LookupdProto
import Nsq.Model.RegistryProto
import Nsq.Proofs.AsciiString
/-!
Tie (regenerated facts): what `tools/go2lean` reads off the current nsqlookupd sources
(`Nsq.Gen.LookupdProto`, rewritten on every run) against the tables and guards the models
`Nsq.Model.Registry` / `Nsq.Model.RegistryProto` are written from: the TCP protocol side (error sites and codes, IDENTIFY,
the `Exec` and magic switches, the exit path, lock nesting); routes, handlers and the order of the DB calls are in
`Nsq.Tie.Registry`. A source change that touches one of them makes this module fail to build.
-/
namespace Nsq.Tie.RegistryProto
open Nsq.Model.Registry Nsq.Model.RegistryProto
open Nsq.Gen

/-- every error of the protocol is created by `NewFatalClientErr` … -/
theorem errors_all_fatal : LookupdProto.errsites.all (fun e => e.2.1 = "NewFatalClientErr") = true := by decide +kernel

/-- … and function by function with the code the model answers -/
theorem errsites_codes :
    LookupdProto.errsites.map (fun e => (e.1, e.2.2)) = errSites.map (fun e => (e.1, codeName e.2)) := rfl

/-- F2: between reading the size and `make([]byte, bodyLen)` the size is range checked
(this is the `sizeCheck = true` variant of `execIdentify`). -/
theorem identify_size_checked :
    LookupdProto.identifySize =
      ["assign err = binary.Read(reader, binary.BigEndian, &bodyLen)",
       "if int64(bodyLen) > maxIdentifyBodySize",
       "return return nil, protocol.NewFatalClientErr(nil, \"E_BAD_BODY\", fmt.Sprintf(\"IDENTIFY body too big %d > %d\", bodyLen, maxIdentifyBodySize))",
       "if bodyLen <= 0",
       "return return nil, protocol.NewFatalClientErr(nil, \"E_BAD_BODY\", fmt.Sprintf(\"IDENTIFY invalid body size %d\", bodyLen))",
       "assign body := make([]byte, bodyLen)"] := rfl

theorem identify_max : LookupdProto.c_maxIdentifyBodySize = maxIdentifyBody := rfl

theorem identify_calls :
    LookupdProto.callsIdentify = ["Read", "make", "ReadFull", "Unmarshal", "StoreInt64", "AddProducer", "make"] := rfl

theorem exec_cases :
    LookupdProto.execCases =
      ["case \"PING\"", "case \"IDENTIFY\"", "case \"REGISTER\"", "case \"UNREGISTER\"",
       "return return nil, protocol.NewFatalClientErr(nil, \"E_INVALID\", fmt.Sprintf(\"invalid command %s\", params[0]))"] := rfl

/-- the command words of the MODEL, as bytes, are the words of the regenerated `case` labels of
`Exec` (text read off the current source, compared character by character) — `Nsq.Tie.Registry.command_bytes`
only compares Lean literals with Lean literals. The magic `"  V1"` is pinned by `magic_cases` below (the extractor keeps
blanks inside string literals) and by behaviour — the hostile generator sends streams starting with `" V1"`, `"  V1"`,
`"  V2"`, `"  v1"`, … each followed by `PING`. -/
theorem command_bytes_regenerated :
    (LookupdProto.execCases.take 4).map String.toList =
      [cmdPING, cmdIDENTIFY, cmdREGISTER, cmdUNREGISTER].map
        (fun w => "case \"".toList ++ w.map (fun b => Char.ofNat b.toNat) ++ ['"']) := by
  rw [Nsq.Proofs.AsciiString.toList_eq_chars]; decide +kernel

/-- the four magic bytes are blank, blank, `V`, `1` (the extractor keeps white space inside string literals) -/
theorem magic_cases :
    LookupdProto.magicCases = ["assign _, err := io.ReadFull(conn, buf)", "case \"  V1\""] := rfl

/-- The DB key of a connection (`PeerInfo.id`, unexported, so not a JSON member) is set once,
from `client.RemoteAddr()`, BEFORE the body is unmarshalled, and never assigned again;
`RemoteAddress` is overwritten AFTER unmarshalling. This is why the model may take the decoder's
result to be the five IDENTIFY fields only and key every entry of connection `p` by `p` itself
(`identify r p info now`): no member of the document can choose another connection's id. -/
theorem identify_peer_id_from_connection :
    LookupdProto.identifyPeerId =
      ["assign peerInfo := PeerInfo{id: client.RemoteAddr().String()}",
       "assign err = json.Unmarshal(body, &peerInfo)",
       "assign peerInfo.RemoteAddress = client.RemoteAddr().String()"] := rfl

/-- the exit path removes the registrations stored under the connection's own id -/
theorem exit_path_own_id :
    LookupdProto.exitPathId =
      ["if client.peerInfo != nil",
       "assign registrations := p.nsqlookupd.DB.LookupRegistrations(client.peerInfo.id)",
       "assign removed, _ := p.nsqlookupd.DB.RemoveProducer(r, client.peerInfo.id)"] := rfl

/-- Lock nesting (go2lean kind `locknest`): nsqlookupd has ONE lock, `RegistrationDB.RWMutex`, and no
function acquires it (directly or through calls inside the package) while holding it — in
particular no handler read-locks the DB around DB methods that read-lock again (with a writer
waiting in between, a recursive `RLock` deadlocks the DB for good). Every critical section is
therefore a leaf: it ends without waiting for another lock. -/
theorem no_nested_db_lock :
    LookupdProto.lockEdges = [] ∧ LookupdProto.lockEdgesLocks = ["RegistrationDB.RWMutex"] := ⟨rfl, rfl⟩

end Nsq.Tie.RegistryProto
