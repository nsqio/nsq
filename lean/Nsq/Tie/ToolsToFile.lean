import Nsq.Gen.ToolsToFile
import Nsq.Proofs.AsciiString
/-!
Tie of the `ToFile` model to apps/nsq_to_file (regenerated leg). `tools/go2lean` (kind `skeleton`)
re-extracts the statement skeleton of every function the model covers from the current tree; the
theorems below compare them with the skeletons the model was written against (log statements
dropped). Any edit of control flow, call order, conditions or exit paths of these functions breaks
the corresponding `*_eq` (the check then searches for a failing input with the harness).
The order facts are the ones the proofs rely on, stated on the current skeleton. Their searches run on the characters of
the literals (`Proofs.AsciiString.search_of_texts`: the texts of the patterns, of the skeleton and of the expected calls are
found by unification), so that the kernel evaluates a search over `List Char` and neither encodes nor decodes a string.
-/
namespace Nsq.Tie.ToolsToFile
open Nsq.Gen.ToolsToFile Nsq.Proofs.AsciiString

def expected_handleMessage : List String := [
  "m.DisableAutoResponse()",
  "f.logChan <- m",
  "return nil"]

theorem handleMessage_eq : Nsq.Gen.ToolsToFile.handleMessage = expected_handleMessage := rfl

def occursInR (pat s : List Char) : Bool :=
  match s with
  | [] => pat.isPrefixOf []
  | c :: cs => pat.isPrefixOf (c :: cs) || occursInR pat cs

/-- the effect calls of a skeleton, in source order -/
def effectCallsR (calls : List String) (skel : List String) : List String :=
  skel.filterMap fun st => calls.find? fun c => occursInR c.toList st.toList

def expected_router : List String := [
  "pos := 0",
  "output := make([]*nsq.Message, f.opts.MaxInFlight)",
  "sync := false",
  "ticker := time.NewTicker(f.opts.SyncInterval)",
  "closeFile := false",
  "exit := false",
  "for",
  ".select",
  "..case <-f.consumer.StopChan",
  "...sync = true",
  "...closeFile = true",
  "...exit = true",
  "..case <-f.termChan",
  "...ticker.Stop()",
  "...f.consumer.Stop()",
  "...sync = true",
  "..case <-f.hupChan",
  "...sync = true",
  "...closeFile = true",
  "..case <-ticker.C",
  "...if f.needsRotation()",
  "....if f.opts.SkipEmptyFiles",
  ".....closeFile = true",
  "....else",
  ".....f.updateFile()",
  "...sync = true",
  "..case m := <-f.logChan",
  "...if f.needsRotation()",
  "....f.updateFile()",
  "....sync = true",
  "..._, err := f.Write(m.Body)",
  "...if err != nil",
  "....os.Exit(1)",
  "..._, err = f.Write([]byte(\"\\n\"))",
  "...if err != nil",
  "....os.Exit(1)",
  "...output[pos] = m",
  "...pos++",
  "...if pos == cap(output)",
  "....sync = true",
  ".if sync || f.consumer.IsStarved()",
  "..if pos > 0",
  "...err := f.Sync()",
  "...if err != nil",
  "....os.Exit(1)",
  "...for pos > 0",
  "....pos--",
  "....m := output[pos]",
  "....m.Finish()",
  "....output[pos] = nil",
  "..sync = false",
  ".if closeFile",
  "..f.Close()",
  "..closeFile = false",
  ".if exit",
  "..break"]

/-- the record write of `router()` before fix F46: body and "\n" are two `Write` calls -/
def routerWriteTwo : List String := [
  "..._, err := f.Write(m.Body)",
  "...if err != nil",
  "....os.Exit(1)",
  "..._, err = f.Write([]byte(\"\\n\"))",
  "...if err != nil",
  "....os.Exit(1)"]

/-- … and with fix F46 (/repo 85f4c48): one `Write` of body + "\n" (model parameter `Cfg.oneWrite`) -/
def routerWriteOne : List String := [
  "...record := make([]byte, 0, len(m.Body)+1)",
  "...record = append(record, m.Body...)",
  "...record = append(record, '\\n')",
  "..._, err := f.Write(record)",
  "...if err != nil",
  "....os.Exit(1)"]

/-- the skeleton of `router()` with fix F46: `expected_router` with the six statements of the record write replaced -/
def expected_router_fixed : List String := expected_router.take 30 ++ routerWriteOne ++ expected_router.drop 36

/-- the replaced statements are exactly the two-write block -/
theorem expected_router_write_block : (expected_router.drop 30).take 6 = routerWriteTwo := rfl

/-- **`router()` has the shape of fix F46** (/repo 85f4c48, committed: one `Write` of body + "\n"). The
two-write shape `expected_router` (`Props.C19Lines.shared_file_unfixed_witness`) is not accepted: with F46
reverted this tie breaks, the probe `vfE8ProbeOneWrite` on the real `router()` disagrees with the expected value, and the
two-routers scenario reports `two-routers-one-file` (listed `fixed`) as a VIOLATION. Any other edit of `router()`
breaks this too. -/
theorem router_eq : Nsq.Gen.ToolsToFile.router = expected_router_fixed := rfl

/-- the shape of the current tree (model parameter `Cfg.oneWrite`) -/
def routerOneWrite : Bool := decide (Nsq.Gen.ToolsToFile.router = expected_router_fixed)

theorem tree_one_write : routerOneWrite = true := decide_eq_true router_eq

/-- the two shapes differ only in the number of `Write` calls per record: the effect calls in source order are
write(s) (error → exit), `Sync()` (error → exit), `Finish()` -/
theorem router_write_calls :
    effectCallsR ["f.Write(", "f.Sync()", "m.Finish()", "os.Exit(1)"] Nsq.Gen.ToolsToFile.router =
      (if routerOneWrite then ["f.Write(", "os.Exit(1)", "f.Sync()", "os.Exit(1)", "m.Finish()"]
       else ["f.Write(", "os.Exit(1)", "f.Write(", "os.Exit(1)", "f.Sync()", "os.Exit(1)", "m.Finish()"]) := by
  rw [tree_one_write, if_pos rfl]
  apply search_of_texts
  iterate 3 ((repeat apply texts_cons); rfl)
  decide +kernel

def expected_close : List String := [
  "if f.out == nil",
  ".return",
  "if f.gzipWriter != nil",
  ".err := f.gzipWriter.Close()",
  ".if err != nil",
  "..os.Exit(1)",
  "err := f.out.Sync()",
  "if err != nil",
  ".os.Exit(1)",
  "err = f.out.Close()",
  "if err != nil",
  ".os.Exit(1)",
  "if f.opts.WorkDir != f.opts.OutputDir",
  ".src := f.out.Name()",
  ".dst := filepath.Join(f.opts.OutputDir, strings.TrimPrefix(src, f.opts.WorkDir))",
  ".err := exclusiveRename(src, dst)",
  ".if err == nil",
  "..return",
  ".else",
  "..if !os.IsExist(err)",
  "...os.Exit(1)",
  "._, filenameTmpl := filepath.Split(f.filename)",
  ".dstDir, _ := filepath.Split(dst)",
  ".dstTmpl := filepath.Join(dstDir, filenameTmpl)",
  ".for i := f.rev + 1;; i++",
  "..dst := strings.Replace(dstTmpl, \"<REV>\", fmt.Sprintf(\"-%06d\", i), -1)",
  "..err := exclusiveRename(src, dst)",
  "..if err != nil",
  "...if os.IsExist(err)",
  "....continue",
  "...os.Exit(1)",
  "..break",
  "f.out = nil"]

/-- with fix F44: `f.out = nil` also on the successful-move path -/
def expected_close_fixed : List String := [
  "if f.out == nil",
  ".return",
  "if f.gzipWriter != nil",
  ".err := f.gzipWriter.Close()",
  ".if err != nil",
  "..os.Exit(1)",
  "err := f.out.Sync()",
  "if err != nil",
  ".os.Exit(1)",
  "err = f.out.Close()",
  "if err != nil",
  ".os.Exit(1)",
  "if f.opts.WorkDir != f.opts.OutputDir",
  ".src := f.out.Name()",
  ".dst := filepath.Join(f.opts.OutputDir, strings.TrimPrefix(src, f.opts.WorkDir))",
  ".err := exclusiveRename(src, dst)",
  ".if err == nil",
  "..f.out = nil",
  "..return",
  ".else",
  "..if !os.IsExist(err)",
  "...os.Exit(1)",
  "._, filenameTmpl := filepath.Split(f.filename)",
  ".dstDir, _ := filepath.Split(dst)",
  ".dstTmpl := filepath.Join(dstDir, filenameTmpl)",
  ".for i := f.rev + 1;; i++",
  "..dst := strings.Replace(dstTmpl, \"<REV>\", fmt.Sprintf(\"-%06d\", i), -1)",
  "..err := exclusiveRename(src, dst)",
  "..if err != nil",
  "...if os.IsExist(err)",
  "....continue",
  "...os.Exit(1)",
  "..break",
  "f.out = nil"]

def occursIn (pat s : List Char) : Bool :=
  match s with
  | [] => pat.isPrefixOf []
  | c :: cs => pat.isPrefixOf (c :: cs) || occursIn pat cs

def effectCalls (calls : List String) (skel : List String) : List String :=
  skel.filterMap fun st => calls.find? fun c => occursIn c.toList st.toList

def closeCalls : List String :=
  ["f.gzipWriter.Close()", "f.out.Sync()", "f.out.Close()", "exclusiveRename(", "os.Exit(1)"]

/-- **Semantic core of `Close()`** (not equality with one frozen skeleton: a harmless rewrite — e.g. clearing `f.out` in a
`defer` instead of fix F44's extra statement — would break that although the correspondence leg covers every path of
`Close()`): the effect calls in source order are gzip close (error → exit), fsync (→ exit),
close (→ exit), the optimistic exclusive rename (non-EEXIST error → exit), the revision-bump rename (non-EEXIST → exit).
Whether `f.out` is cleared after a successful move (model parameter `Cfg.closeClears`, fix F44) is *probed on the real
function* by the harness; both known shapes `expected_close` / `expected_close_fixed` have this core. -/
theorem close_eq :
    effectCalls closeCalls Nsq.Gen.ToolsToFile.close =
      ["f.gzipWriter.Close()", "os.Exit(1)", "f.out.Sync()", "os.Exit(1)", "f.out.Close()", "os.Exit(1)",
       "exclusiveRename(", "os.Exit(1)", "exclusiveRename(", "os.Exit(1)"] := by
  apply search_of_texts
  iterate 3 ((repeat apply texts_cons); rfl)
  decide +kernel

theorem close_known_shapes_have_core :
    effectCalls closeCalls expected_close = effectCalls closeCalls expected_close_fixed := by
  -- the shapes differ by one statement, and that statement contains no call
  have fixed : expected_close_fixed = expected_close.take 17 ++ ["..f.out = nil"] ++ expected_close.drop 17 := rfl
  have no_call : effectCalls closeCalls ["..f.out = nil"] = [] := by
    apply search_of_texts
    iterate 3 ((repeat apply texts_cons); rfl)
    decide +kernel
  unfold effectCalls at no_call ⊢
  rw [fixed, List.filterMap_append, List.filterMap_append, no_call, List.append_nil, ← List.filterMap_append,
    List.take_append_drop]

def expected_write : List String := [
  "n, err := f.writer.Write(p)",
  "f.filesize += int64(n)",
  "return n, err"]

theorem write_eq : Nsq.Gen.ToolsToFile.write = expected_write := rfl

def expected_sync : List String := [
  "var err error",
  "if f.gzipWriter != nil",
  ".err = f.gzipWriter.Close()",
  ".if err != nil",
  "..return err",
  ".err = f.out.Sync()",
  ".f.gzipWriter, _ = gzip.NewWriterLevel(f.out, f.opts.GZIPLevel)",
  ".f.writer = f.gzipWriter",
  "else",
  ".err = f.out.Sync()",
  "return err"]

theorem sync_eq : Nsq.Gen.ToolsToFile.sync = expected_sync := rfl

def expected_needsRotation : List String := [
  "if f.out == nil",
  ".return true",
  "filename := f.currentFilename()",
  "if filename != f.filename",
  ".return true",
  "if f.opts.RotateInterval > 0",
  ".if s := time.Since(f.openTime); s > f.opts.RotateInterval",
  "..return true",
  "if f.opts.RotateSize > 0 && f.filesize > f.opts.RotateSize",
  ".return true",
  "return false"]

theorem needsRotation_eq : Nsq.Gen.ToolsToFile.needsRotation = expected_needsRotation := rfl

def expected_updateFile : List String := [
  "f.Close()",
  "filename := f.currentFilename()",
  "if filename != f.filename",
  ".f.rev = 0",
  "else",
  ".f.rev++",
  "f.filename = filename",
  "f.openTime = time.Now()",
  "fullPath := path.Join(f.opts.WorkDir, filename)",
  "err := makeDirFromPath(f.logf, fullPath)",
  "if err != nil",
  ".os.Exit(1)",
  "var fi os.FileInfo",
  "for; f.rev++",
  ".absFilename := strings.Replace(fullPath, \"<REV>\", fmt.Sprintf(\"-%06d\", f.rev), -1)",
  ".if f.opts.WorkDir != f.opts.OutputDir",
  "..outputFileName := filepath.Join(f.opts.OutputDir, strings.TrimPrefix(absFilename, f.opts.WorkDir))",
  "..err := makeDirFromPath(f.logf, outputFileName)",
  "..if err != nil",
  "...os.Exit(1)",
  ".._, err = os.Stat(outputFileName)",
  "..if err == nil",
  "...continue",
  "..else",
  "...if !os.IsNotExist(err)",
  "....os.Exit(1)",
  ".openFlag := os.O_WRONLY | os.O_CREATE",
  ".if f.opts.GZIP || f.opts.RotateInterval > 0",
  "..openFlag |= os.O_EXCL",
  ".else",
  "..openFlag |= os.O_APPEND",
  ".f.out, err = os.OpenFile(absFilename, openFlag, 0666)",
  ".if err != nil",
  "..if os.IsExist(err)",
  "...continue",
  "..os.Exit(1)",
  ".fi, err = f.out.Stat()",
  ".if err != nil",
  ".f.filesize = fi.Size()",
  ".if f.opts.RotateSize > 0 && f.filesize > f.opts.RotateSize",
  "..continue",
  ".break",
  "if f.opts.GZIP",
  ".f.gzipWriter, _ = gzip.NewWriterLevel(f.out, f.opts.GZIPLevel)",
  ".f.writer = f.gzipWriter",
  "else",
  ".f.writer = f.out"]

/-- fix F47: before the `break` that accepts the opened file, a non-empty file opened with O_APPEND gets its torn
tail sealed (model parameter `Cfg.sealsTail`, `Model.ToFile.sealTail`) -/
def updateFileSeal : List String := [
  ".if openFlag&os.O_APPEND != 0 && f.filesize > 0",
  "..err = f.sealTornTail(absFilename)",
  "..if err != nil",
  "...os.Exit(1)"]

def expected_updateFile_fixed : List String := expected_updateFile.take 41 ++ updateFileSeal ++ expected_updateFile.drop 41

theorem expected_updateFile_break : (expected_updateFile.drop 41).take 1 = [".break"] := rfl

/-- `sealTornTail`, shape of fix F47 = /repo efaf20c alone (NOT ACCEPTED: F47b = /repo 73f7348 is committed;
it is the base of `expected_sealTornTail_warns` and gives a revert its name): read the last byte, write "\n" unless
it is one; a failure to open the file for reading or to read the byte is returned to `updateFile`, which exits -/
def expected_sealTornTail : List String := [
  "r, err := os.Open(name)",
  "if err != nil",
  ".return err",
  "defer r.Close()",
  "last := make([]byte, 1)",
  "_, err = r.ReadAt(last, f.filesize-1)",
  "if err != nil",
  ".return err",
  "if last[0] == '\\n'",
  ".return nil",
  "n, err := f.out.Write([]byte(\"\\n\"))",
  "f.filesize += int64(n)",
  "return err"]

/-- `sealTornTail`, shape of the follow-up F47b (= /repo 73f7348, committed; the ONLY accepted shape): the two READ
failures (`os.Open`, `ReadAt`) log a warning (log lines are not part of a skeleton) and return nil — the file is appended
to unsealed; everything else as in F47, in particular `return err` of the write of the "\n" -/
def expected_sealTornTail_warns : List String :=
  (expected_sealTornTail.set 2 ".return nil").set 7 ".return nil"

/-- **`updateFile()` has the shape of fix F47** (/repo efaf20c, committed) **and `sealTornTail` is exactly one
frozen function**: the one of the follow-up F47b (/repo 73f7348, committed). The shape before F47 (`expected_updateFile`,
no `sealTornTail`: `Props.C19Lines.fin_owns_line_full_false`) is not accepted: with F47 reverted this tie breaks, the probe
`vfE8ProbeSealsTail` on the real `updateFile()` disagrees with the expected value, and the torn-tail scenarios report
`torn-tail-append` (listed `fixed`) as a VIOLATION. The `sealTornTail` of F47 alone (`expected_sealTornTail`: an
unreadable file is a fatal exit) is not accepted either: with F47b reverted this tie and `tree_seal_read_warns` break and
the probe `vfE8ProbeSealReadWarns` says 0. -/
theorem updateFile_eq :
    Nsq.Gen.ToolsToFile.updateFile = expected_updateFile_fixed ∧
    Nsq.Gen.ToolsToFile.sealTornTail = expected_sealTornTail_warns := ⟨rfl, rfl⟩

/-- model parameter `Cfg.sealReadWarns`, computed: `true` iff the regenerated `sealTornTail` is the F47b
function (decided `true` below; `lib/c19_lines.py seal_read_warns_from_gen` makes the same comparison) -/
def sealReadWarns : Bool := decide (Nsq.Gen.ToolsToFile.sealTornTail = expected_sealTornTail_warns)

/-- **this tree warns and appends when the file cannot be read** (F47b = /repo 73f7348): the model runs with
`sealReadWarns := true`, so what is claimed for the tree carries `ReadsOk`
(`Props.C19Lines.fin_owns_line_this_tree_partial`) -/
theorem tree_seal_read_warns : sealReadWarns = true := decide_eq_true updateFile_eq.2

/-- the shape of F47 alone is a different function: a tree with F47b reverted fails the two facts above -/
theorem sealTornTail_shapes_differ : expected_sealTornTail ≠ expected_sealTornTail_warns := by decide +kernel

/-- **a failure to WRITE the terminating newline is fatal** (F47 and F47b alike): the function ends with the write, the size
update and `return err`; the only `return nil` that follows a successful read is the one for a last byte that IS "\n";
`updateFile` answers a non-nil result with `os.Exit(1)` (`updateFileSeal`, part of `expected_updateFile_fixed`) — the
model's `sealTail` writes through `onOut`, whose failure is `fatalExit` -/
theorem sealTornTail_write_error_fatal :
    Nsq.Gen.ToolsToFile.sealTornTail.drop 8 =
      ["if last[0] == '\\n'", ".return nil", "n, err := f.out.Write([]byte(\"\\n\"))", "f.filesize += int64(n)",
       "return err"] ∧
    (Nsq.Gen.ToolsToFile.updateFile.drop 41).take 5 =
      [".if openFlag&os.O_APPEND != 0 && f.filesize > 0", "..err = f.sealTornTail(absFilename)", "..if err != nil",
       "...os.Exit(1)", ".break"] := ⟨rfl, rfl⟩

/-- the file is read before anything is written (F47 and F47b alike): open for reading, `ReadAt` of the last byte, and only
then the write -/
theorem sealTornTail_reads_then_writes :
    effectCallsR ["os.Open(name)", "r.ReadAt(last, f.filesize-1)", "f.out.Write("] Nsq.Gen.ToolsToFile.sealTornTail =
      ["os.Open(name)", "r.ReadAt(last, f.filesize-1)", "f.out.Write("] := by
  apply search_of_texts
  iterate 3 ((repeat apply texts_cons); rfl)
  decide +kernel

/-- the shape of the current tree (model parameter `Cfg.sealsTail`) -/
def updateFileSeals : Bool := decide (Nsq.Gen.ToolsToFile.updateFile = expected_updateFile_fixed)

theorem tree_seals_tail : updateFileSeals = true := decide_eq_true updateFile_eq.1

/-- in both shapes: the O_EXCL / O_APPEND choice, the open, the size check; the seal (if any) comes after the
rotate-size `continue` and before the `break` — the order `Model.ToFile.openNew` uses -/
theorem updateFile_open_order :
    effectCallsR ["openFlag |= os.O_EXCL", "openFlag |= os.O_APPEND", "os.OpenFile(", "f.filesize = fi.Size()",
                  "f.sealTornTail(", "break"] Nsq.Gen.ToolsToFile.updateFile =
      (if updateFileSeals then ["openFlag |= os.O_EXCL", "openFlag |= os.O_APPEND", "os.OpenFile(", "f.filesize = fi.Size()",
                                "f.sealTornTail(", "break"]
       else ["openFlag |= os.O_EXCL", "openFlag |= os.O_APPEND", "os.OpenFile(", "f.filesize = fi.Size()", "break"]) := by
  rw [tree_seals_tail, if_pos rfl]
  apply search_of_texts
  iterate 3 ((repeat apply texts_cons); rfl)
  decide +kernel

def expected_exclusiveRename : List String := [
  "err := os.Link(src, dst)",
  "if err != nil",
  ".return err",
  "err = os.Remove(src)",
  "if err != nil",
  ".return err",
  "return nil"]

theorem exclusiveRename_eq : Nsq.Gen.ToolsToFile.exclusiveRename = expected_exclusiveRename := rfl

def expected_currentFilename : List String := [
  "t := time.Now()",
  "datetime := strftime(f.opts.DatetimeFormat, t)",
  "return strings.Replace(f.filenameFormat, \"<DATETIME>\", datetime, -1)"]

theorem currentFilename_eq : Nsq.Gen.ToolsToFile.currentFilename = expected_currentFilename := rfl

def expected_computeFilenameFormat : List String := [
  "hostname, err := os.Hostname()",
  "if err != nil",
  ".return \"\", err",
  "shortHostname := strings.Split(hostname, \".\")[0]",
  "identifier := shortHostname",
  "if len(opts.HostIdentifier) != 0",
  ".identifier = strings.Replace(opts.HostIdentifier, \"<SHORT_HOST>\", shortHostname, -1)",
  ".identifier = strings.Replace(identifier, \"<HOSTNAME>\", hostname, -1)",
  "cff := opts.FilenameFormat",
  "if opts.GZIP || opts.RotateSize > 0 || opts.RotateInterval > 0 || opts.WorkDir != opts.OutputDir",
  ".if !strings.Contains(cff, \"<REV>\")",
  "..return \"\", errors.New(\"missing <REV> in --filename-format when gzip, rotation, or work dir enabled\")",
  "else",
  ".cff = strings.Replace(cff, \"<REV>\", \"\", -1)",
  "cff = strings.Replace(cff, \"<TOPIC>\", topic, -1)",
  "cff = strings.Replace(cff, \"<HOST>\", identifier, -1)",
  "cff = strings.Replace(cff, \"<PID>\", fmt.Sprintf(\"%d\", os.Getpid()), -1)",
  "if opts.GZIP && !strings.HasSuffix(cff, \".gz\")",
  ".cff = cff + \".gz\"",
  "return cff, nil"]

theorem computeFilenameFormat_eq : Nsq.Gen.ToolsToFile.computeFilenameFormat = expected_computeFilenameFormat := rfl

def pos (s : String) (l : List String) : Nat := l.findIdx (· == s)

/-- in `router`: `Sync()` is called, its error leads to `os.Exit(1)`, and only then the FIN loop runs -/
theorem router_sync_before_finish :
    pos "...err := f.Sync()" router < pos "....m.Finish()" router
    ∧ pos "....m.Finish()" router < router.length
    ∧ (router.drop (pos "...err := f.Sync()" router)).take 4 =
        ["...err := f.Sync()", "...if err != nil", "....os.Exit(1)", "...for pos > 0"] := by
  rw [router_eq]; decide +kernel

/-- in `Sync`: gzip member close, then fsync (both branches fsync) -/
theorem sync_order :
    pos ".err = f.gzipWriter.Close()" sync < pos ".err = f.out.Sync()" sync
    ∧ pos ".err = f.out.Sync()" sync < pos ".f.gzipWriter, _ = gzip.NewWriterLevel(f.out, f.opts.GZIPLevel)" sync
    ∧ pos ".f.gzipWriter, _ = gzip.NewWriterLevel(f.out, f.opts.GZIPLevel)" sync < sync.length := by
  rw [sync_eq]; decide +kernel

/-- in `Close`: gzip close, fsync, close, and only then the exclusive rename -/
theorem close_order :
    (effectCalls closeCalls Nsq.Gen.ToolsToFile.close).filter (· != "os.Exit(1)") =
      ["f.gzipWriter.Close()", "f.out.Sync()", "f.out.Close()", "exclusiveRename(", "exclusiveRename("] := by
  rw [close_eq]; decide +kernel

/-- `exclusiveRename` is link-then-remove (never rename(2), which would replace the target) -/
theorem exclusiveRename_is_link_then_remove :
    exclusiveRename = ["err := os.Link(src, dst)", "if err != nil", ".return err", "err = os.Remove(src)",
                       "if err != nil", ".return err", "return nil"] := exclusiveRename_eq

/-! ### TopicDiscoverer (model `Nsq.Model.ToFileDisc`; `isTopicAllowed` is tied by translation in `Nsq.Tie.ToolsToFileFn`) -/

def expected_updateTopics : List String := [
  "range topics",
  ".if _, ok := t.topics[topic]; ok",
  "..continue",
  ".if !t.isTopicAllowed(topic)",
  "..continue",
  ".fl, err := NewFileLogger(t.logf, t.opts, topic, t.cfg)",
  ".if err != nil",
  "..continue",
  ".t.topics[topic] = fl",
  ".t.wg.Add(1)",
  ".go func(fl *FileLogger) { fl.router() t.wg.Done() }(fl)"]

theorem updateTopics_eq : Nsq.Gen.ToolsToFile.updateTopics = expected_updateTopics := rfl

def expected_discovererRun : List String := [
  "var ticker <-chan time.Time",
  "if len(t.opts.Topics) == 0",
  ".ticker = time.Tick(t.opts.TopicRefreshInterval)",
  "t.updateTopics(t.opts.Topics)",
  "label forloop",
  "for",
  ".select",
  "..case <-ticker",
  "...newTopics, err := t.ci.GetLookupdTopics(t.opts.NSQLookupdHTTPAddrs)",
  "...if err != nil",
  "....continue",
  "...t.updateTopics(newTopics)",
  "..case <-t.termChan",
  "...range t.topics",
  "....close(fl.termChan)",
  "...break forloop",
  "..case <-t.hupChan",
  "...range t.topics",
  "....fl.hupChan <- true",
  "t.wg.Wait()"]

theorem discovererRun_eq : Nsq.Gen.ToolsToFile.discovererRun = expected_discovererRun := rfl

/-- in `run`: the termination requests go out, the loop is left, and only then `wg.Wait()` (the routers
are awaited, not abandoned); the router goroutine is registered with the WaitGroup before it starts -/
theorem discoverer_term_then_wait :
    pos "....close(fl.termChan)" discovererRun < pos "...break forloop" discovererRun
    ∧ pos "...break forloop" discovererRun < pos "t.wg.Wait()" discovererRun
    ∧ pos "t.wg.Wait()" discovererRun < discovererRun.length
    ∧ pos ".t.topics[topic] = fl" updateTopics < pos ".t.wg.Add(1)" updateTopics
    ∧ pos ".t.wg.Add(1)" updateTopics < pos ".go func(fl *FileLogger) { fl.router() t.wg.Done() }(fl)" updateTopics
    ∧ pos ".go func(fl *FileLogger) { fl.router() t.wg.Done() }(fl)" updateTopics < updateTopics.length := by
  rw [discovererRun_eq, updateTopics_eq]; decide +kernel

end Nsq.Tie.ToolsToFile
