import Nsq.Gen.Proto
import Nsq.Model.HttpApi
/-!
Tie for C10: the route table and the handlers' guards as re-extracted from nsqd/http.go and
internal/http_api by `tools/go2lean` against what `Nsq.Model.HttpApi` was written from.
Part 1: the route table of the model equals the `router.Handle`/`HandlerFunc` registrations.
Part 2: exact ordered text of every status-deciding statement (see `Nsq.Tie.Proto` for the idea).
-/
namespace Nsq.Tie.ProtoHttp
open Nsq.Model.HttpApi Nsq.Model

/-! ## Part 1 -/

def handlerOf (name : String) : Handler :=
  if name = "pingHandler" then .ping
  else if name = "doInfo" then .info
  else if name = "doPUB" then .pub
  else if name = "doMPUB" then .mpub
  else if name = "doStats" then .stats
  else if name = "doCreateTopic" then .createTopic
  else if name = "doDeleteTopic" then .deleteTopic
  else if name = "doEmptyTopic" then .emptyTopic
  else if name = "doPauseTopic" then .pauseTopic
  else if name = "doCreateChannel" then .createChannel
  else if name = "doDeleteChannel" then .deleteChannel
  else if name = "doEmptyChannel" then .emptyChannel
  else if name = "doPauseChannel" then .pauseChannel
  else if name = "doConfig" then .config
  else .external

/-- Both judgements on the registrations in one evaluation: each needs `handlerOf` of every row. -/
theorem _root_.Nsq.Proofs.HttpRoutesSweep.routes :
    Nsq.Gen.Proto.routes.map (fun r => (r.1, r.2.1, handlerOf r.2.2.1)) = routeTable ∧
    ∀ r ∈ Nsq.Gen.Proto.routes, handlerOf r.2.2.1 = .external ∨
      r.2.2.2.contains "http_api.V1" = true ∨ r.2.2.2.contains "http_api.PlainText" = true := by decide +kernel

/-- (method, path, handler) of the model = the registrations found in `newHTTPServer`. -/
theorem routes_model :
    Nsq.Gen.Proto.routes.map (fun r => (r.1, r.2.1, handlerOf r.2.2.1)) = routeTable := Nsq.Proofs.HttpRoutesSweep.routes.1

/-- Every modelled handler is wrapped in the V1 (or PlainText for /ping) decorator, i.e. its
`http_api.Err{code, text}` becomes the response status. -/
theorem decorated : ∀ r ∈ Nsq.Gen.Proto.routes, handlerOf r.2.2.1 = .external ∨
    r.2.2.2.contains "http_api.V1" = true ∨ r.2.2.2.contains "http_api.PlainText" = true :=
  Nsq.Proofs.HttpRoutesSweep.routes.2

theorem regex_literal : Nsq.Gen.Proto.nameRegex = Names.regexLiteral := rfl

/-! ## Part 2 -/

theorem routes_eq : Nsq.Gen.Proto.routes = ([
  ("GET", "/ping", "pingHandler", ["log", "http_api.PlainText"]),
  ("GET", "/info", "doInfo", ["log", "http_api.V1"]),
  ("POST", "/pub", "doPUB", ["http_api.V1"]),
  ("POST", "/mpub", "doMPUB", ["http_api.V1"]),
  ("GET", "/stats", "doStats", ["log", "http_api.V1"]),
  ("POST", "/topic/create", "doCreateTopic", ["log", "http_api.V1"]),
  ("POST", "/topic/delete", "doDeleteTopic", ["log", "http_api.V1"]),
  ("POST", "/topic/empty", "doEmptyTopic", ["log", "http_api.V1"]),
  ("POST", "/topic/pause", "doPauseTopic", ["log", "http_api.V1"]),
  ("POST", "/topic/unpause", "doPauseTopic", ["log", "http_api.V1"]),
  ("POST", "/channel/create", "doCreateChannel", ["log", "http_api.V1"]),
  ("POST", "/channel/delete", "doDeleteChannel", ["log", "http_api.V1"]),
  ("POST", "/channel/empty", "doEmptyChannel", ["log", "http_api.V1"]),
  ("POST", "/channel/pause", "doPauseChannel", ["log", "http_api.V1"]),
  ("POST", "/channel/unpause", "doPauseChannel", ["log", "http_api.V1"]),
  ("GET", "/config/:opt", "doConfig", ["log", "http_api.V1"]),
  ("PUT", "/config/:opt", "doConfig", ["log", "http_api.V1"]),
  ("GET", "/debug/pprof/", "pprof.Index", []),
  ("GET", "/debug/pprof/cmdline", "pprof.Cmdline", []),
  ("GET", "/debug/pprof/symbol", "pprof.Symbol", []),
  ("POST", "/debug/pprof/symbol", "pprof.Symbol", []),
  ("GET", "/debug/pprof/profile", "pprof.Profile", []),
  ("PUT", "/debug/setblockrate", "setBlockRateHandler", ["log", "http_api.PlainText"]),
  ("POST", "/debug/freememory", "freeMemory", ["log", "http_api.PlainText"])] : List (String × String × String × List String)) := rfl

theorem serveHTTP_eq : Nsq.Gen.Proto.serveHTTP = ([
  "if !s.tlsEnabled && s.tlsRequired"] : List String) := rfl

theorem doPubStmts_eq : Nsq.Gen.Proto.doPubStmts = ([
  "if req.ContentLength > s.nsqd.getOpts().MaxMsgSize",
  "return return nil, http_api.Err{413, \"MSG_TOO_BIG\"}",
  "assign readMax := s.nsqd.getOpts().MaxMsgSize + 1",
  "assign body, err := io.ReadAll(io.LimitReader(req.Body, readMax))",
  "return return nil, http_api.Err{500, \"INTERNAL_ERROR\"}",
  "if int64(len(body)) == readMax",
  "return return nil, http_api.Err{413, \"MSG_TOO_BIG\"}",
  "if len(body) == 0",
  "return return nil, http_api.Err{400, \"MSG_EMPTY\"}",
  "assign reqParams, topic, err := s.getTopicFromQuery(req)",
  "assign ds, ok := reqParams[\"defer\"]",
  "assign di, err = strconv.ParseInt(ds[0], 10, 64)",
  "return return nil, http_api.Err{400, \"INVALID_DEFER\"}",
  "if di < 0 || di > int64(s.nsqd.getOpts().MaxReqTimeout/time.Millisecond)",
  "return return nil, http_api.Err{400, \"INVALID_DEFER\"}",
  "assign deferred = time.Duration(di) * time.Millisecond",
  "assign msg.deferred = deferred",
  "return return nil, http_api.Err{503, \"EXITING\"}"] : List String) := rfl

theorem doMpubStmts_eq : Nsq.Gen.Proto.doMpubStmts = ([
  "if req.ContentLength > s.nsqd.getOpts().MaxBodySize",
  "return return nil, http_api.Err{413, \"BODY_TOO_BIG\"}",
  "assign reqParams, topic, err := s.getTopicFromQuery(req)",
  "assign binaryMode := false",
  "assign binaryMode, ok = boolParams[vals[0]]",
  "assign binaryMode = true",
  "if binaryMode",
  "assign msgs, err = readMPUB(io.LimitReader(req.Body, s.nsqd.getOpts().MaxBodySize), tmp, topic, s.nsqd.getOpts().MaxMsgSize, s.nsqd.getOpts().MaxBodySize)",
  "return return nil, http_api.Err{413, err.(*protocol.FatalClientErr).Code[2:]}",
  "assign readMax := s.nsqd.getOpts().MaxBodySize + 1",
  "assign rdr := bufio.NewReader(io.LimitReader(req.Body, readMax))",
  "assign total := 0",
  "assign block, err = rdr.ReadBytes('\\n')",
  "return return nil, http_api.Err{500, \"INTERNAL_ERROR\"}",
  "assign total += len(block)",
  "if int64(total) == readMax",
  "return return nil, http_api.Err{413, \"BODY_TOO_BIG\"}",
  "if len(block) > 0 && block[len(block)-1] == '\\n'",
  "assign block = block[:len(block)-1]",
  "if len(block) == 0",
  "if int64(len(block)) > s.nsqd.getOpts().MaxMsgSize",
  "return return nil, http_api.Err{413, \"MSG_TOO_BIG\"}",
  "assign msg := NewMessage(topic.GenerateID(), block)",
  "return return nil, http_api.Err{503, \"EXITING\"}"] : List String) := rfl

theorem topicFromQueryStmts_eq : Nsq.Gen.Proto.topicFromQueryStmts = ([
  "assign reqParams, err := url.ParseQuery(req.URL.RawQuery)",
  "return return nil, nil, http_api.Err{400, \"INVALID_REQUEST\"}",
  "assign topicNames, ok := reqParams[\"topic\"]",
  "return return nil, nil, http_api.Err{400, \"MISSING_ARG_TOPIC\"}",
  "assign topicName := topicNames[0]",
  "if !protocol.IsValidTopicName(topicName)",
  "return return nil, nil, http_api.Err{400, \"INVALID_TOPIC\"}",
  "return return reqParams, s.nsqd.GetTopic(topicName), nil"] : List String) := rfl

theorem existingTopicStmts_eq : Nsq.Gen.Proto.existingTopicStmts = ([
  "assign reqParams, err := http_api.NewReqParams(req)",
  "return return nil, nil, \"\", http_api.Err{400, \"INVALID_REQUEST\"}",
  "assign topicName, channelName, err := http_api.GetTopicChannelArgs(reqParams)",
  "return return nil, nil, \"\", http_api.Err{400, err.Error()}",
  "assign topic, err := s.nsqd.GetExistingTopic(topicName)",
  "return return nil, nil, \"\", http_api.Err{404, \"TOPIC_NOT_FOUND\"}"] : List String) := rfl

theorem topicChannelArgsStmts_eq : Nsq.Gen.Proto.topicChannelArgsStmts = ([
  "assign topicName, err := rp.Get(\"topic\")",
  "return return \"\", \"\", errors.New(\"MISSING_ARG_TOPIC\")",
  "if !protocol.IsValidTopicName(topicName)",
  "return return \"\", \"\", errors.New(\"INVALID_ARG_TOPIC\")",
  "assign channelName, err := rp.Get(\"channel\")",
  "return return \"\", \"\", errors.New(\"MISSING_ARG_CHANNEL\")",
  "if !protocol.IsValidChannelName(channelName)",
  "return return \"\", \"\", errors.New(\"INVALID_ARG_CHANNEL\")"] : List String) := rfl

theorem emptyTopicStmts_eq : Nsq.Gen.Proto.emptyTopicStmts = ([
  "return return nil, http_api.Err{400, \"INVALID_REQUEST\"}",
  "return return nil, http_api.Err{400, \"MISSING_ARG_TOPIC\"}",
  "if !protocol.IsValidTopicName(topicName)",
  "return return nil, http_api.Err{400, \"INVALID_TOPIC\"}",
  "assign topic, err := s.nsqd.GetExistingTopic(topicName)",
  "return return nil, http_api.Err{404, \"TOPIC_NOT_FOUND\"}",
  "assign err = topic.Empty()",
  "return return nil, http_api.Err{500, \"INTERNAL_ERROR\"}"] : List String) := rfl

theorem deleteTopicStmts_eq : Nsq.Gen.Proto.deleteTopicStmts = ([
  "return return nil, http_api.Err{400, \"INVALID_REQUEST\"}",
  "return return nil, http_api.Err{400, \"MISSING_ARG_TOPIC\"}",
  "assign err = s.nsqd.DeleteExistingTopic(topicName)",
  "return return nil, http_api.Err{404, \"TOPIC_NOT_FOUND\"}"] : List String) := rfl

theorem pauseTopicStmts_eq : Nsq.Gen.Proto.pauseTopicStmts = ([
  "return return nil, http_api.Err{400, \"INVALID_REQUEST\"}",
  "return return nil, http_api.Err{400, \"MISSING_ARG_TOPIC\"}",
  "assign topic, err := s.nsqd.GetExistingTopic(topicName)",
  "return return nil, http_api.Err{404, \"TOPIC_NOT_FOUND\"}",
  "if strings.Contains(req.URL.Path, \"unpause\")",
  "assign err = topic.UnPause()",
  "assign err = topic.Pause()",
  "return return nil, http_api.Err{500, \"INTERNAL_ERROR\"}"] : List String) := rfl

theorem createChannelStmts_eq : Nsq.Gen.Proto.createChannelStmts = ([
  "assign _, topic, channelName, err := s.getExistingTopicFromQuery(req)"] : List String) := rfl

theorem emptyChannelStmts_eq : Nsq.Gen.Proto.emptyChannelStmts = ([
  "assign _, topic, channelName, err := s.getExistingTopicFromQuery(req)",
  "assign channel, err := topic.GetExistingChannel(channelName)",
  "return return nil, http_api.Err{404, \"CHANNEL_NOT_FOUND\"}",
  "assign err = channel.Empty()",
  "return return nil, http_api.Err{500, \"INTERNAL_ERROR\"}"] : List String) := rfl

theorem deleteChannelStmts_eq : Nsq.Gen.Proto.deleteChannelStmts = ([
  "assign _, topic, channelName, err := s.getExistingTopicFromQuery(req)",
  "assign err = topic.DeleteExistingChannel(channelName)",
  "return return nil, http_api.Err{404, \"CHANNEL_NOT_FOUND\"}"] : List String) := rfl

theorem pauseChannelStmts_eq : Nsq.Gen.Proto.pauseChannelStmts = ([
  "assign _, topic, channelName, err := s.getExistingTopicFromQuery(req)",
  "assign channel, err := topic.GetExistingChannel(channelName)",
  "return return nil, http_api.Err{404, \"CHANNEL_NOT_FOUND\"}",
  "if strings.Contains(req.URL.Path, \"unpause\")",
  "assign err = channel.UnPause()",
  "assign err = channel.Pause()",
  "return return nil, http_api.Err{500, \"INTERNAL_ERROR\"}"] : List String) := rfl

theorem pingStmts_eq : Nsq.Gen.Proto.pingStmts = ([
  "if !s.nsqd.IsHealthy()",
  "return return nil, http_api.Err{500, health}"] : List String) := rfl

theorem configStmts_eq : Nsq.Gen.Proto.configStmts = ([
  "assign opt := ps.ByName(\"opt\")",
  "if req.Method == \"PUT\"",
  "assign readMax := s.nsqd.getOpts().MaxMsgSize + 1",
  "assign body, err := io.ReadAll(io.LimitReader(req.Body, readMax))",
  "return return nil, http_api.Err{500, \"INTERNAL_ERROR\"}",
  "if int64(len(body)) == readMax || len(body) == 0",
  "return return nil, http_api.Err{413, \"INVALID_VALUE\"}",
  "assign opts := *s.nsqd.getOpts()",
  "assign err := json.Unmarshal(body, &opts.NSQLookupdTCPAddresses)",
  "return return nil, http_api.Err{400, \"INVALID_VALUE\"}",
  "return return nil, http_api.Err{400, \"INVALID_VALUE\"}",
  "assign opts.LogLevel = logLevel",
  "return return nil, http_api.Err{400, \"INVALID_OPTION\"}",
  "assign v, ok := getOptByCfgName(s.nsqd.getOpts(), opt)",
  "return return nil, http_api.Err{400, \"INVALID_OPTION\"}"] : List String) := rfl

theorem readMpubLimits_eq : Nsq.Gen.Proto.readMpubLimits = ([
  "assign numMessages, err := readLen(r, tmp)",
  "assign maxMessages := (maxBodySize - 4) / 5",
  "if numMessages <= 0 || int64(numMessages) > maxMessages",
  "return return nil, protocol.NewFatalClientErr(err, \"E_BAD_BODY\", fmt.Sprintf(\"MPUB invalid message count %d\", numMessages))",
  "assign messages := make([]*Message, 0, numMessages)",
  "assign messageSize, err := readLen(r, tmp)",
  "if messageSize <= 0",
  "return return nil, protocol.NewFatalClientErr(nil, \"E_BAD_MESSAGE\", fmt.Sprintf(\"MPUB invalid message(%d) body size %d\", i, messageSize))",
  "if int64(messageSize) > maxMessageSize",
  "return return nil, protocol.NewFatalClientErr(nil, \"E_BAD_MESSAGE\", fmt.Sprintf(\"MPUB message too big %d > %d\", messageSize, maxMessageSize))",
  "assign msgBody := make([]byte, messageSize)"] : List String) := rfl

theorem nameRegex_text_eq : Nsq.Gen.Proto.nameRegex = ("^[.a-zA-Z0-9_-]+(#ephemeral)?$" : String) := rfl

theorem nameLen_eq : Nsq.Gen.Proto.nameLen = ([
  "if len(name) > 64 || len(name) < 1",
  "return return validTopicChannelNameRegex.MatchString(name)"] : List String) := rfl

end Nsq.Tie.ProtoHttp
