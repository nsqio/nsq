import Nsq.Gen.MetaFacts
import Nsq.Model.MetaLoad
/-!
Tie (regenerated facts) for the start-up part of C06 (`Nsq.Model.MetaLoad`): the name predicate, the control
flow of `LoadMetadata` / `readOrEmpty`, the error returns of `writeSyncFile` / `PersistMetadata`, the dropped
error in the pause handlers, `dirlock.Lock`, and the fatal exits of apps/nsqd `Start`, re-extracted from the
current tree on every run (`tools/go2lean` kinds `regex`, `stmts`, `skeleton`, `stmtseq`).

The skeleton facts are textual (a harmless rewrite of these functions breaks them and asks for a look); the
same behaviour is checked semantically by the correspondence leg `TestVerifMetaLoad` (harness/meta/load_test.go),
which is the tie that survives refactors.
-/
namespace Nsq.Tie.MetaLoad
open Nsq.Gen.MetaFacts Nsq.Model.MetaLoad

/-- `validName` is `Names.isValidName`, the automaton of exactly this regular expression
(`Proofs.Names.isValidName_iff`: it accepts the grammar `[.a-zA-Z0-9_-]+(#ephemeral)?`, 1..64 bytes) … -/
theorem regex_literal : nameRegex = Nsq.Model.Names.regexLiteral := rfl

/-- … behind the length test 1..64, and both exported predicates are that function. -/
theorem name_guard :
    nameLen = ["if len(name) > 64 || len(name) < 1", "return return validTopicChannelNameRegex.MatchString(name)"] ∧
    validTopicName = ["return return isValidName(name)"] ∧ validChannelName = ["return return isValidName(name)"] :=
  ⟨rfl, rfl, rfl⟩

example : validName (String.ofList (List.replicate 64 'x')) = true ∧ validName (String.ofList (List.replicate 65 'x')) = false ∧
    validName "" = false := by
  simp only [validName, nameBytes, String.toList_ofList]; decide +kernel

/-- `ephName`: a topic is ephemeral iff its name ends in `#ephemeral` (`NewTopic`; `NewChannel` has the same test
inside its struct literal — the white-box `mem=` answer of the correspondence leg shows both flags). -/
theorem ephemeral_by_suffix : newTopicEph = ["if strings.HasSuffix(topicName, \"#ephemeral\")"] := rfl

/-- `readOrEmpty`: `ReadFile`; not-exist ⇒ `(nil, nil)` (`FileContent.absent`), any other error ⇒ error
(`FileContent.unreadable`), else the bytes — an existing empty file gives a non-nil empty slice
(`FileContent.present`). -/
theorem readOrEmpty_flow :
    readOrEmptySkel = ["data, err := os.ReadFile(fn)", "if err != nil", ".if !os.IsNotExist(err)",
      "..return nil, fmt.Errorf(\"failed to read metadata from %s - %s\", fn, err)", "return data, nil"] := rfl

/-- `LoadMetadata` (`load` / `loadRaw`): read error ⇒ refuse; `data == nil` ⇒ fresh; `Unmarshal` error ⇒ refuse;
per topic: invalid name ⇒ `continue` (before `GetTopic`, so its channels are skipped with it), `GetTopic`,
`Pause` only if `t.Paused`, per channel: invalid name ⇒ `continue`, `GetChannel`, `Pause` only if `c.Paused`;
`Start`; nothing is persisted, nothing else can fail. -/
theorem loadMetadata_flow :
    loadMetadataSkel = [
      "atomic.StoreInt32(&n.isLoading, 1)",
      "defer atomic.StoreInt32(&n.isLoading, 0)",
      "fn := newMetadataFile(n.getOpts())",
      "data, err := readOrEmpty(fn)",
      "if err != nil",
      ".return err",
      "if data == nil",
      ".return nil",
      "var m Metadata",
      "err = json.Unmarshal(data, &m)",
      "if err != nil",
      ".return fmt.Errorf(\"failed to parse metadata in %s - %s\", fn, err)",
      "range m.Topics",
      ".if !protocol.IsValidTopicName(t.Name)",
      "..continue",
      ".topic := n.GetTopic(t.Name)",
      ".if t.Paused",
      "..topic.Pause()",
      ".range t.Channels",
      "..if !protocol.IsValidChannelName(c.Name)",
      "...continue",
      "..channel := topic.GetChannel(c.Name)",
      "..if c.Paused",
      "...channel.Pause()",
      ".topic.Start()",
      "return nil"] := rfl

/-- apps/nsqd `Start`: a `LoadMetadata` error is fatal (the process exits, nothing is written: `LoadRes.refuse`),
then `PersistMetadata` (the fixed point of `persist_after_load_fixed_point`), its error is fatal too. -/
theorem start_refuses_on_load_error :
    mainStartSkel = [
      "err := p.nsqd.LoadMetadata()",
      "if err != nil",
      ".logFatal(\"failed to load metadata - %s\", err)",
      "err = p.nsqd.PersistMetadata()",
      "if err != nil",
      ".logFatal(\"failed to persist metadata - %s\", err)",
      "go func() { err := p.nsqd.Main() if err != nil { p.Stop() os.Exit(1) } }()",
      "return nil"] := rfl

/-- `writeSyncFile` (`POutcome.openFails | writeFails | syncFails`): open error ⇒ return before anything is written;
write error ⇒ `Sync` skipped; the file is closed and the error returned in every case. -/
theorem writeSyncFile_errors :
    writeSyncFileSkel = [
      "f, err := os.OpenFile(fn, os.O_WRONLY|os.O_CREATE|os.O_TRUNC, 0600)",
      "if err != nil",
      ".return err",
      "_, err = f.Write(data)",
      "if err == nil",
      ".err = f.Sync()",
      "f.Close()",
      "return err"] := rfl

/-- `PersistMetadata` (`persistOnce`): the temporary name is `<file>.<rand.Int()>.tmp` (`tmpName`); a
`writeSyncFile` error returns BEFORE the rename (`nsqd.dat` untouched); a rename error is returned
(`POutcome.renameFails`); only the temporary file is ever opened for writing. -/
theorem persistMetadata_errors :
    persistMetadataSkel = [
      "fileName := newMetadataFile(n.getOpts())",
      "data, err := json.Marshal(n.GetMetadata(false))",
      "if err != nil",
      ".return err",
      "tmpFileName := fmt.Sprintf(\"%s.%d.tmp\", fileName, rand.Int())",
      "err = writeSyncFile(tmpFileName, data)",
      "if err != nil",
      ".return err",
      "err = os.Rename(tmpFileName, fileName)",
      "if err != nil",
      ".return err",
      "return nil"] := rfl

/-- the pause handlers call `PersistMetadata` as a statement: its error is dropped (`pauseAnswer` ignores it) -/
theorem pause_handlers_drop_persist_error :
    pauseTopicPersist = ["do s.nsqd.PersistMetadata()"] ∧ pauseChannelPersist = ["do s.nsqd.PersistMetadata()"] :=
  ⟨rfl, rfl⟩

/-- `dirlock.Lock` (`dirlockNew`): `os.Open(dir)` error ⇒ error (`PathKind.missing`); nothing checks that the path is
a directory (`PathKind.regularFile` ⇒ locked); `flock(LOCK_EX|LOCK_NB)` error ⇒ error (`held`). -/
theorem dirlock_flow :
    dirlockLockSkel = [
      "f, err := os.Open(l.dir)",
      "if err != nil",
      ".return err",
      "l.f = f",
      "err = syscall.Flock(int(f.Fd()), syscall.LOCK_EX|syscall.LOCK_NB)",
      "if err != nil",
      ".return fmt.Errorf(\"cannot flock directory %s - %s (possibly in use by another instance of nsqd)\", l.dir, err)",
      "return nil"] := rfl

end Nsq.Tie.MetaLoad
