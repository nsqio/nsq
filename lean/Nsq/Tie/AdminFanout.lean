import Nsq.Gen.AdminFanoutFacts
import Nsq.Model.AdminFanout
/-!
Tie (fact-table pin) between internal/clusterinfo/data.go and the request-level model
`Nsq.Model.AdminFanout`: for every state-changing `ClusterInfo` method the statements that build query
strings and call `nsqlookupdPOST` / `producersPOST` / `Get*Producers`, regenerated from the source in
source order (go2lean kind `stmts`), equal the shape the model was written from. Any change of the order
of the calls, of a URI or of a query string in these methods breaks an equation here (and the
correspondence run shows whether the model or the code is off).

  method                  model (`AdminFanout`)
  CreateTopicChannel      lookupdCommands = [/topic/create, /channel/create]; lookup via nsqlookupd always; nsqdCommand = /channel/create
  DeleteTopic/Channel     lookup first (abort when it fails as a whole), then lookupdCommands, then nsqdCommand
  actionHelper (6 users)  lookup, then nsqdCommand = the URI passed by Pause/UnPause/Empty Topic/Channel
  TombstoneNodeForTopic   lookupdCommands = [/topic/tombstone?topic=&node=], GetNSQDProducers([node]), nsqdCommand = /topic/delete
-/
namespace Nsq.Tie.AdminFanout
open Nsq.Gen.AdminFanoutFacts

theorem ci_CreateTopicChannel_shape : ci_CreateTopicChannel = [
  "assign qs := fmt.Sprintf(\"topic=%s\", url.QueryEscape(topicName))",
  "assign err := c.nsqlookupdPOST(lookupdHTTPAddrs, \"topic/create\", qs)",
  "assign qs := fmt.Sprintf(\"topic=%s&channel=%s\", url.QueryEscape(topicName), url.QueryEscape(channelName))",
  "assign err := c.nsqlookupdPOST(lookupdHTTPAddrs, \"channel/create\", qs)",
  "assign producers, err := c.GetLookupdTopicProducers(topicName, lookupdHTTPAddrs)",
  "assign err = c.producersPOST(producers, \"channel/create\", qs)"] := rfl

theorem ci_DeleteTopic_shape : ci_DeleteTopic = [
  "assign producers, err := c.GetTopicProducers(topicName, lookupdHTTPAddrs, nsqdHTTPAddrs)",
  "assign qs := fmt.Sprintf(\"topic=%s\", url.QueryEscape(topicName))",
  "assign err = c.nsqlookupdPOST(lookupdHTTPAddrs, \"topic/delete\", qs)",
  "assign err = c.producersPOST(producers, \"topic/delete\", qs)"] := rfl

theorem ci_DeleteChannel_shape : ci_DeleteChannel = [
  "assign producers, err := c.GetTopicProducers(topicName, lookupdHTTPAddrs, nsqdHTTPAddrs)",
  "assign qs := fmt.Sprintf(\"topic=%s&channel=%s\", url.QueryEscape(topicName), url.QueryEscape(channelName))",
  "assign err = c.nsqlookupdPOST(lookupdHTTPAddrs, \"channel/delete\", qs)",
  "assign err = c.producersPOST(producers, \"channel/delete\", qs)"] := rfl

theorem ci_actionHelper_shape : ci_actionHelper = [
  "assign producers, err := c.GetTopicProducers(topicName, lookupdHTTPAddrs, nsqdHTTPAddrs)",
  "assign err = c.producersPOST(producers, uri, qs)"] := rfl

theorem ci_PauseTopic_shape : ci_PauseTopic = [
  "assign qs := fmt.Sprintf(\"topic=%s\", url.QueryEscape(topicName))",
  "return return c.actionHelper(topicName, lookupdHTTPAddrs, nsqdHTTPAddrs, \"topic/pause\", qs)"] := rfl

theorem ci_UnPauseTopic_shape : ci_UnPauseTopic = [
  "assign qs := fmt.Sprintf(\"topic=%s\", url.QueryEscape(topicName))",
  "return return c.actionHelper(topicName, lookupdHTTPAddrs, nsqdHTTPAddrs, \"topic/unpause\", qs)"] := rfl

theorem ci_EmptyTopic_shape : ci_EmptyTopic = [
  "assign qs := fmt.Sprintf(\"topic=%s\", url.QueryEscape(topicName))",
  "return return c.actionHelper(topicName, lookupdHTTPAddrs, nsqdHTTPAddrs, \"topic/empty\", qs)"] := rfl

theorem ci_PauseChannel_shape : ci_PauseChannel = [
  "assign qs := fmt.Sprintf(\"topic=%s&channel=%s\", url.QueryEscape(topicName), url.QueryEscape(channelName))",
  "return return c.actionHelper(topicName, lookupdHTTPAddrs, nsqdHTTPAddrs, \"channel/pause\", qs)"] := rfl

theorem ci_UnPauseChannel_shape : ci_UnPauseChannel = [
  "assign qs := fmt.Sprintf(\"topic=%s&channel=%s\", url.QueryEscape(topicName), url.QueryEscape(channelName))",
  "return return c.actionHelper(topicName, lookupdHTTPAddrs, nsqdHTTPAddrs, \"channel/unpause\", qs)"] := rfl

theorem ci_EmptyChannel_shape : ci_EmptyChannel = [
  "assign qs := fmt.Sprintf(\"topic=%s&channel=%s\", url.QueryEscape(topicName), url.QueryEscape(channelName))",
  "return return c.actionHelper(topicName, lookupdHTTPAddrs, nsqdHTTPAddrs, \"channel/empty\", qs)"] := rfl

theorem ci_TombstoneNodeForTopic_shape : ci_TombstoneNodeForTopic = [
  "assign qs := fmt.Sprintf(\"topic=%s&node=%s\", url.QueryEscape(topic), url.QueryEscape(node))",
  "assign err := c.nsqlookupdPOST(lookupdHTTPAddrs, \"topic/tombstone\", qs)",
  "assign producers, err := c.GetNSQDProducers([]string{node})",
  "assign qs = fmt.Sprintf(\"topic=%s\", url.QueryEscape(topic))",
  "assign err = c.producersPOST(producers, \"topic/delete\", qs)"] := rfl

theorem ci_nsqlookupdPOST_shape : ci_nsqlookupdPOST = [
  "assign endpoint := fmt.Sprintf(\"http://%s/%s?%s\", addr, uri, qs)",
  "assign err := c.client.POSTV1(endpoint, nil, nil)",
  "if len(errs) > 0",
  "return return ErrList(errs)"] := rfl

theorem ci_producersPOST_shape : ci_producersPOST = [
  "assign endpoint := fmt.Sprintf(\"http://%s/%s?%s\", p.HTTPAddress(), uri, qs)",
  "assign err := c.client.POSTV1(endpoint, nil, nil)",
  "if len(errs) > 0",
  "return return ErrList(errs)"] := rfl

theorem ci_GetTopicProducers_shape : ci_GetTopicProducers = [
  "if len(lookupdHTTPAddrs) != 0",
  "return return c.GetLookupdTopicProducers(topicName, lookupdHTTPAddrs)",
  "return return c.GetNSQDTopicProducers(topicName, nsqdHTTPAddrs)"] := rfl

open Nsq.Model.AdminFanout in
/-- The model's per-action URIs are the ones pinned above. -/
theorem model_uris (a : Action) :
    (a.kind = .deleteTopic → nsqdCommand a = "/topic/delete?" ++ topicQS a ∧
        (lookupFailed w a = false → lookupdCommands w a = ["/topic/delete?" ++ topicQS a])) ∧
    (a.kind = .deleteChannel → nsqdCommand a = "/channel/delete?" ++ chanQS a) ∧
    (a.kind = .createChannel → nsqdCommand a = "/channel/create?" ++ chanQS a ∧
        lookupdCommands w a = ["/topic/create?" ++ topicQS a, "/channel/create?" ++ chanQS a]) ∧
    (a.kind = .createTopic → lookupdCommands w a = ["/topic/create?" ++ topicQS a] ∧ producersFor w a = []) ∧
    (a.kind = .pauseTopic → nsqdCommand a = "/topic/pause?" ++ topicQS a ∧ lookupdCommands w a = []) ∧
    (a.kind = .unpauseTopic → nsqdCommand a = "/topic/unpause?" ++ topicQS a ∧ lookupdCommands w a = []) ∧
    (a.kind = .emptyTopic → nsqdCommand a = "/topic/empty?" ++ topicQS a ∧ lookupdCommands w a = []) ∧
    (a.kind = .pauseChannel → nsqdCommand a = "/channel/pause?" ++ chanQS a ∧ lookupdCommands w a = []) ∧
    (a.kind = .unpauseChannel → nsqdCommand a = "/channel/unpause?" ++ chanQS a ∧ lookupdCommands w a = []) ∧
    (a.kind = .emptyChannel → nsqdCommand a = "/channel/empty?" ++ chanQS a ∧ lookupdCommands w a = []) ∧
    (a.kind = .tombstone → nsqdCommand a = "/topic/delete?" ++ topicQS a ∧
        lookupdCommands w a = ["/topic/tombstone?" ++ topicQS a ++ "&node=" ++ esc a.node]) := by
  refine ⟨?_, ?_, ?_, ?_, ?_, ?_, ?_, ?_, ?_, ?_, ?_⟩ <;> intro h <;>
    simp_all [nsqdCommand, lookupdCommands, producersFor]

end Nsq.Tie.AdminFanout
