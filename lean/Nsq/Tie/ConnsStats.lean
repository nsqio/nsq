import Nsq.Gen.ConnsFacts
/-! Tie (C10 `no_500`, C09 "other clients are unaffected"): `NSQD.GetStats` (and `tcpServer.Close`) assert
the values of `tcpServer.conns` to be client objects; `tcpServer.Handle` must therefore store nothing else.

Lesson of /repo b3a615a → 919b356: an intermediate fix registered the bare `net.Conn` of a connection that
had not yet sent its protocol magic in `conns`; `GET /stats` panicked (→ 500) while such a connection
existed. These facts pin the producer side to what the consumer side asserts; the behavioural half is the
half-open leg `harness/e3/halfopen_test.go` (real listener, real /stats, every format and filter). -/
namespace Nsq.Tie.ConnsStats
open Nsq.Gen.ConnsFacts

/-- `Handle` touches `conns` three times: ONE `Store`, of the object `prot.NewClient(conn)` returned, after
the magic has been read, and the `Delete`s — no other value ever enters the map through `Handle`. -/
theorem handle_stores_the_client_object_only :
    handleConns = ["assign prot = &protocolV2{nsqd: p.nsqd}",
                   "assign client := prot.NewClient(conn)",
                   "do p.conns.Store(conn.RemoteAddr(), client)",
                   "do p.conns.Delete(conn.RemoteAddr())"] ∧
    storeArgs = [["conn.RemoteAddr()", "client"]] := ⟨rfl, rfl⟩

/-- that object is a `*clientV2` (which implements both `nsqd.Client` — `Type`, `Stats` — and
`protocol.Client` — `Close`; the compiler checks the method sets) -/
theorem newClient_is_clientV2 : newClientBody = ["stmt return newClientV2(clientID, conn, p.nsqd)"] := rfl

/-- the two readers of the map and the types they assert (the first extracted row of each is the whole
`Range(func…)` call, whose text is not pinned; the row after it is the assertion inside the closure) -/
theorem readers_assert_client :
    getStatsConns.drop 1 = ["assign c := v.(Client)"] ∧
    closeConns.drop 1 = ["do v.(protocol.Client).Close()"] := ⟨rfl, rfl⟩

end Nsq.Tie.ConnsStats
