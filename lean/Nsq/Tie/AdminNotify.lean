import Nsq.Tie.AdminGate
/-!
Tie obligations for the notification clauses of C17: decidable judgements on the handler skeletons regenerated from
nsqadmin/http.go (`Nsq.Gen.AdminRoutes`), read off the one walk of the route table (`Nsq.Proofs.AdminSweep`).
-/
namespace Nsq.Tie.AdminNotify
open Nsq.Model.AdminGate Nsq.Tie.AdminGate Nsq.Proofs.AdminNotify Nsq.Gen.AdminRoutes Nsq.Proofs.AdminSweep

/-- Every mutating handler: each `notifyAdminAction` sits behind the endpoint test, and on every feasible
path the notifications are exactly those of the `ClusterInfo` actions performed. -/
theorem mutating_routes_notify :
    (adminRoutes.filter Route.mutating).all (fun r =>
      match skelOf r with
      | some sk => notifyOk r.handler sk && notifyGated false sk
      | none => false) = true :=
  all_of_verdict _ (fun r sk => notifyOk r.handler sk && notifyGated false sk) fun _ _ v hm =>
    Bool.and_eq_true _ _ ▸ (v.1 hm).2.2.2.2

/-- No other route ever notifies. -/
theorem other_routes_silent :
    (adminRoutes.filter (fun r => !r.mutating)).all (fun r =>
      match skelOf r with
      | some sk => (paths sk).all (fun p => notesOf p.2.1 == [])
      | none => false) = true :=
  all_of_verdict _ (fun _ sk => (paths sk).all (fun p => notesOf p.2.1 == [])) fun _ _ v hm =>
    List.all_eq_true.2 fun p hp => beq_iff_eq.2 (v.2.2.2.2.2 (Bool.not_eq_true' _ ▸ hm) p hp)

end Nsq.Tie.AdminNotify
