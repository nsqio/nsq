import Nsq.Gen.AdminProg
import Nsq.Model.AdminProg
/-!
Tie (regenerated definitions = model) between internal/clusterinfo/data.go and the program-level model
`Nsq.Model.AdminProg`: go2lean kind `ciprog` translates every state-changing `ClusterInfo` method into a
`Prog` (sequence of nsqlookupdPOST / Get*Producers / producersPOST steps with the error policy and guard of
each, helper calls inlined); the theorems below state that the translated program *is* the program the
model runs (`progOf`). A dropped `errs = append(errs, pe.Errors()...)`, an early `return err` on a partial
error, a swapped order of two steps, another URI or query string, a lost `if len(errs) > 0` ending — each
changes the translated program and breaks one equation here; a renamed variable or an added log line does not.
`cipostloop` / `cifallback` do the same for the two POST helpers and the lookupd-or-nsqd fall-backs.
-/
namespace Nsq.Tie.AdminProg
open Nsq.Gen.AdminProg Nsq.Model.AdminProg Nsq.Model.AdminFanout

theorem createTopic_prog : ciProg_CreateTopicChannel = progOf .createTopic := rfl
theorem createChannel_prog : ciProg_CreateTopicChannel = progOf .createChannel := rfl
theorem deleteTopic_prog : ciProg_DeleteTopic = progOf .deleteTopic := rfl
theorem deleteChannel_prog : ciProg_DeleteChannel = progOf .deleteChannel := rfl
theorem pauseTopic_prog : ciProg_PauseTopic = progOf .pauseTopic := rfl
theorem unpauseTopic_prog : ciProg_UnPauseTopic = progOf .unpauseTopic := rfl
theorem emptyTopic_prog : ciProg_EmptyTopic = progOf .emptyTopic := rfl
theorem pauseChannel_prog : ciProg_PauseChannel = progOf .pauseChannel := rfl
theorem unpauseChannel_prog : ciProg_UnPauseChannel = progOf .unpauseChannel := rfl
theorem emptyChannel_prog : ciProg_EmptyChannel = progOf .emptyChannel := rfl
theorem tombstone_prog : ciProg_TombstoneNodeForTopic = progOf .tombstone := rfl

def genProgOfName (n : String) : Option Prog :=
  if n == "CreateTopicChannel" then some ciProg_CreateTopicChannel
  else if n == "DeleteTopic" then some ciProg_DeleteTopic
  else if n == "DeleteChannel" then some ciProg_DeleteChannel
  else if n == "PauseTopic" then some ciProg_PauseTopic
  else if n == "UnPauseTopic" then some ciProg_UnPauseTopic
  else if n == "EmptyTopic" then some ciProg_EmptyTopic
  else if n == "PauseChannel" then some ciProg_PauseChannel
  else if n == "UnPauseChannel" then some ciProg_UnPauseChannel
  else if n == "EmptyChannel" then some ciProg_EmptyChannel
  else if n == "TombstoneNodeForTopic" then some ciProg_TombstoneNodeForTopic
  else none

/-- The method of `ClusterInfo` that `kindOfName` maps to a kind is the one whose translation is `progOf`
of that kind (names as they appear in the handler skeletons). -/
theorem names_agree : ∀ n ∈ ["DeleteTopic", "DeleteChannel", "PauseTopic", "UnPauseTopic", "EmptyTopic",
    "PauseChannel", "UnPauseChannel", "EmptyChannel", "TombstoneNodeForTopic"],
    (kindOfName n).map progOf = genProgOfName n := by decide +kernel

/-- Both POST helpers contact every address of their list: one POSTV1 per pass, no way out of the loop,
every error appended, the list returned. -/
theorem nsqlookupdPOST_loop : ciLoop_nsqlookupdPOST.good = true := by decide +kernel
theorem producersPOST_loop : ciLoop_producersPOST.good = true := by decide +kernel

/-- The fall-backs: nsqlookupds when any is configured, the configured nsqds otherwise
(`Lookup.topicProducers` in the model; `getProducers` / `getTopicProducers` in `Model.Aggregate`). -/
theorem getTopicProducers_fallback :
    ciFallback_GetTopicProducers = ("GetLookupdTopicProducers", "GetNSQDTopicProducers") := rfl
theorem getProducers_fallback :
    ciFallback_GetProducers = ("GetLookupdProducers", "GetNSQDProducers") := rfl

end Nsq.Tie.AdminProg
