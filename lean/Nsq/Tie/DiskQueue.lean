import Nsq.Gen.DiskQueueFacts
/-!
Tie obligations of engine E9: the go-diskqueue that the current tree builds against is the one
`Nsq.Model.DiskQueue` models (facts regenerated by tools/go2lean kind `modpin` from go.mod and the
resolved module directory). The behavioural tie is the correspondence harness harness/e9.
-/
namespace Nsq.Tie.DiskQueue

/-- go.mod resolves github.com/nsqio/go-diskqueue to the modelled version -/
theorem version_pinned : Nsq.Gen.DiskQueueFacts.diskqueueVersion = "v1.1.0" := rfl

/-- no `replace` directive / vendored copy stands in for it -/
theorem not_replaced : Nsq.Gen.DiskQueueFacts.diskqueueReplaced = false := rfl

/-- the module source that was read when the model was written (textual: any edit of the file, even a
harmless one, asks for the model to be looked at again; the correspondence leg is what survives
harmless rewrites) -/
theorem source_hash :
    Nsq.Gen.DiskQueueFacts.diskqueueSha256 =
      [("diskqueue.go", "1bb025ccb0300ab1cc632c5c5a7874c377df0d2641934e87dbfa3a4d11bd6811")] := rfl

end Nsq.Tie.DiskQueue
