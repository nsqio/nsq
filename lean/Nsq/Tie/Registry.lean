import Nsq.Gen.Lookupd
import Nsq.Model.RegistryProto
/-!
Tie (regenerated facts): what `tools/go2lean` reads off the current nsqlookupd sources
(`Nsq.Gen.Lookupd`, rewritten on every run) against the tables and guards the models
`Nsq.Model.Registry` / `Nsq.Model.RegistryProto` are written from. A source change that touches a
route, an error site, a guard or the order of the DB calls of a handler makes this module fail to build.
-/
namespace Nsq.Tie.Registry
open Nsq.Model.Registry Nsq.Model.RegistryProto
open Nsq.Gen

/-- method/path table of `newHTTPServer` = the model's route table -/
theorem routes_paths : Lookupd.routes.map (fun e => (e.1, e.2.1)) = routes.map (fun e => (e.1, e.2.1)) := rfl

/-- the twelve API routes are bound to the handlers the model dispatches to -/
theorem routes_handlers :
    Lookupd.routes.take 12 = (routes.take 12).map (fun e => (e.1, e.2.1, e.2.2.goName)) := rfl

/-- everything else in the table is net/http/pprof (only its statuses are modelled, `pprofStatuses`; no registry access) -/
theorem routes_rest_pprof :
    (routes.drop 12).all (fun e => e.2.2 = .pprof) = true ∧
    (Lookupd.routes.drop 12).map (fun e => e.2.2) =
      ["pprof.Index", "pprof.Cmdline", "pprof.Symbol", "pprof.Symbol", "pprof.Profile",
       "pprof.Handler(\"heap\")", "pprof.Handler(\"goroutine\")", "pprof.Handler(\"block\")",
       "pprof.Handler(\"threadcreate\")"] := ⟨rfl, rfl⟩

/-- (the two guards of `identify`: `identifiedB`, `missingFields`) -/
theorem identify_guards :
    Lookupd.identifyFields =
      ["if client.peerInfo != nil",
       "if peerInfo.BroadcastAddress == \"\" || peerInfo.TCPPort == 0 || peerInfo.HTTPPort == 0 || peerInfo.Version == \"\""] := rfl

/-- the command words are the byte strings the model compares with (Lean literal against Lean literal: a sanity
check of the byte lists only; the tie to the SOURCE text is `Nsq.Tie.RegistryProto.command_bytes_regenerated`) -/
theorem command_bytes :
    "PING".toList.map (·.toNat) = cmdPING.map (·.toNat) ∧
    "IDENTIFY".toList.map (·.toNat) = cmdIDENTIFY.map (·.toNat) ∧
    "REGISTER".toList.map (·.toNat) = cmdREGISTER.map (·.toNat) ∧
    "UNREGISTER".toList.map (·.toNat) = cmdUNREGISTER.map (·.toNat) ∧
    "  V1".toList.map (·.toNat) = magicV1.map (·.toNat) ∧
    "#ephemeral".toList.map (·.toNat) = ephSuffix.map (·.toNat) ∧
    "*".toList.map (·.toNat) = star.map (·.toNat) := by decide +kernel

/-- (`ioLoop` in `Nsq.Model.RegistryProto`: `readLine`, `trimSpace`, `splitSp`, `exec`, the reply, the clean-up) -/
theorem ioloop_shape :
    Lookupd.ioLoopStmts =
      ["assign line, err = reader.ReadString('\\n')", "assign line = strings.TrimSpace(line)",
       "assign params := strings.Split(line, \" \")", "assign _, ok := err.(*protocol.FatalClientErr)"] ∧
    Lookupd.callsIOLoop =
      ["ReadString", "Exec", "SendResponse", "SendResponse", "LookupRegistrations", "RemoveProducer"] := ⟨rfl, rfl⟩

/-- Every way out of the `for` loop of `IOLoop` is a `break` (read error; error answer that could
not be written; fatal error; success answer that could not be written) — there is no `return`,
`goto` or `panic` inside the loop — so all of them fall into the three statements after the
loop: the log line, the clean-up `if client.peerInfo != nil { … RemoveProducer … }` and
`return err`. This is `ioLoop` ending every branch in `disconnect` (theorem
`disconnect_every_exit`). -/
theorem ioloop_exits_all_reach_cleanup :
    Lookupd.ioLoopExits =
      ["break | if err != nil",
       "break | if err != nil && if sendErr != nil",
       "break | if err != nil && if _, ok := err.(*protocol.FatalClientErr); ok",
       "continue | if err != nil",
       "break | if response != nil && if err != nil",
       "after: 3 statements"] := rfl

/-- (`getTopicChan` in the model) -/
theorem getTopicChan_guards :
    Lookupd.getTopicChanStmts =
      ["if len(params) == 0", "if len(params) >= 2", "if !protocol.IsValidTopicName(topicName)",
       "if channelName != \"\" && !protocol.IsValidChannelName(channelName)"] := rfl

/-- REGISTER: `RegistrationDB.RegisterProducer` (channel key, then topic key under ONE `Lock()`/`Unlock()`;
commit 0d24920 = F21). The shape before F21 (`AddProducer(channel key)`, then `AddProducer(topic key)`: two critical
sections, `regStep1`/`regStep2`, finding `race:register-vs-topic-delete`) is not accepted: with F21
reverted this module does not build. The sequential behaviour is `registerDB`. -/
def registerShapeAtomic : Prop :=
    Lookupd.registerGuards =
      ["if client.peerInfo == nil",
       "assign addedChannel, addedTopic := p.nsqlookupd.DB.RegisterProducer(topic, channel, client.peerInfo)"] ∧
    Lookupd.callsRegister = ["getTopicChan", "RegisterProducer"] ∧
    Lookupd.registerProducerStmts =
      ["if channel != \"\"",
       "assign addedChannel = add(Registration{\"channel\", topic, channel})",
       "return return addedChannel, add(Registration{\"topic\", topic, \"\"})"] ∧
    Lookupd.callsRegisterProducer = ["Lock", "Unlock", "add", "add"]

instance : Decidable registerShapeAtomic := by unfold registerShapeAtomic; infer_instance

theorem register_shape : registerShapeAtomic := ⟨rfl, rfl, rfl, rfl⟩

/-- UNREGISTER: `RemoveProducerAndPrune` (remove + prune of an `#ephemeral` key in one critical section; commit
994e31e = F12). The shape before F12 (`RemoveProducer`, then `RemoveRegistration` when `left == 0`: two critical
sections, findings `race:unregister-gc-vs-register[-topic]`) is not accepted. The sequential
behaviour is `unregisterDB`. -/
def unregisterShapeAtomic : Prop :=
    Lookupd.unregisterGuards =
      ["if client.peerInfo == nil", "if channel != \"\"",
       "assign key := Registration{\"channel\", topic, channel}",
       "assign removed, _ := p.nsqlookupd.DB.RemoveProducerAndPrune(key, client.peerInfo.id, strings.HasSuffix(channel, \"#ephemeral\"))",
       "assign registrations := p.nsqlookupd.DB.FindRegistrations(\"channel\", topic, \"*\")",
       "assign removed, _ := p.nsqlookupd.DB.RemoveProducer(r, client.peerInfo.id)",
       "assign key := Registration{\"topic\", topic, \"\"}",
       "assign removed, _ := p.nsqlookupd.DB.RemoveProducerAndPrune(key, client.peerInfo.id, strings.HasSuffix(topic, \"#ephemeral\"))"] ∧
    Lookupd.callsUnregister =
      ["getTopicChan", "RemoveProducerAndPrune", "FindRegistrations", "RemoveProducer", "RemoveProducerAndPrune"] ∧
    Lookupd.pruneStmts =
      ["assign producers, ok := r.registrationMap[k]", "assign left := len(producers)", "if prune && left == 0"] ∧
    -- the remove AND the prune (the two `delete`s) are under ONE `Lock()`/`Unlock()`
    Lookupd.callsRemoveProducerAndPrune = ["Lock", "Unlock", "delete", "delete"]

instance : Decidable unregisterShapeAtomic := by unfold unregisterShapeAtomic; infer_instance

theorem unregister_shape : unregisterShapeAtomic := ⟨rfl, rfl, rfl, rfl⟩

/-- `FilterByActive` / `IsTombstoned` / `Tombstone`: strict `>` for inactivity, strict `<` for the
tombstone lifetime (`activeB`, `isTombstoned` in the model) -/
theorem liveness_conditions :
    Lookupd.filterByActive =
      ["assign cur := time.Unix(0, atomic.LoadInt64(&p.peerInfo.lastUpdate))",
       "if now.Sub(cur) > inactivityTimeout || p.IsTombstoned(tombstoneLifetime)"] ∧
    Lookupd.isTombstoned = ["return return p.tombstoned && time.Since(p.tombstonedAt) < lifetime"] ∧
    Lookupd.tombstoneSet = ["assign p.tombstoned = true", "assign p.tombstonedAt = time.Now()"] := ⟨rfl, rfl, rfl⟩

/-- (`isMatch`, `needFilter` in the model) -/
theorem match_conditions :
    Lookupd.isMatch =
      ["if category != k.Category", "if key != \"*\" && k.Key != key",
       "if subkey != \"*\" && k.SubKey != subkey"] ∧
    Lookupd.needFilter = ["return return key == \"*\" || subkey == \"*\""] := ⟨rfl, rfl⟩

/-- `doLookup`, `doNodes` BEFORE commit 682420a (F37): every `RegistrationDB` read took the read lock by itself — three
critical sections (`lookupSecs false`), 1 + 2n (`nodesSecs false`); findings `race:lookup-vs-topic-delete`,
`race:nodes-vs-topic-delete` (fixed). The description of the old shape only: NO theorem accepts it —
with F37 reverted `readers_shape` fails and this module does not build. -/
def readersShapeSections : Prop :=
    Lookupd.lookupStmts =
      ["assign registration := s.nsqlookupd.DB.FindRegistrations(\"topic\", topicName, \"\")",
       "if len(registration) == 0",
       "assign channels := s.nsqlookupd.DB.FindRegistrations(\"channel\", topicName, \"*\").SubKeys()",
       "assign producers := s.nsqlookupd.DB.FindProducers(\"topic\", topicName, \"\")",
       "assign producers = producers.FilterByActive(s.nsqlookupd.opts.InactiveProducerTimeout, s.nsqlookupd.opts.TombstoneLifetime)"] ∧
    Lookupd.callsLookup = ["FindRegistrations", "FindRegistrations", "FindProducers", "FilterByActive"] ∧
    Lookupd.nodesStmts =
      ["assign producers := s.nsqlookupd.DB.FindProducers(\"client\", \"\", \"\").FilterByActive( s.nsqlookupd.opts.InactiveProducerTimeout, 0)",
       "assign topics := s.nsqlookupd.DB.LookupRegistrations(p.peerInfo.id).Filter(\"topic\", \"*\", \"\").Keys()",
       "assign topicProducersMap[t] = s.nsqlookupd.DB.FindProducers(\"topic\", t, \"\")",
       "if tp.peerInfo == p.peerInfo",
       "assign tombstones[j] = tp.IsTombstoned(s.nsqlookupd.opts.TombstoneLifetime)"] ∧
    Lookupd.callsNodes = ["FilterByActive", "FindProducers", "LookupRegistrations", "FindProducers", "IsTombstoned"] ∧
    Lookupd.callsFindRegistrations = ["RLock", "RUnlock", "needFilter", "IsMatch"] ∧
    Lookupd.callsFindProducers = ["RLock", "RUnlock", "needFilter", "ProducerMap2Slice", "IsMatch"] ∧
    Lookupd.callsLookupRegistrations = ["RLock", "RUnlock"] ∧
    Lookupd.callsFindRegistrationsBody = [] ∧ Lookupd.callsFindProducersBody = [] ∧
    Lookupd.callsLookupRegistrationsBody = [] ∧ Lookupd.lookupRegistrationsBodyStmts = []

/-- The tree since commit 682420a (F37): the handler takes `DB.RLock()` once (as `doDebug` does) and calls the unlocked
bodies `findRegistrations` / `findProducers` / `lookupRegistrations` (which take no lock; the exported methods are
`RLock` + body) — ONE critical section (`lookupSecs true`, `nodesSecs true`), with `FilterByActive` / `IsTombstoned`
evaluated inside it. The sequential behaviour is that of `qLookup` / `qNodes`. -/
def readersShapeAtomic : Prop :=
    Lookupd.lookupStmts =
      ["assign registration := s.nsqlookupd.DB.findRegistrations(\"topic\", topicName, \"\")",
       "if len(registration) == 0",
       "assign channels := s.nsqlookupd.DB.findRegistrations(\"channel\", topicName, \"*\").SubKeys()",
       "assign producers := s.nsqlookupd.DB.findProducers(\"topic\", topicName, \"\")",
       "assign producers = producers.FilterByActive(s.nsqlookupd.opts.InactiveProducerTimeout, s.nsqlookupd.opts.TombstoneLifetime)"] ∧
    Lookupd.callsLookup = ["RLock", "RUnlock", "findRegistrations", "findRegistrations", "findProducers", "FilterByActive"] ∧
    Lookupd.nodesStmts =
      ["assign producers := s.nsqlookupd.DB.findProducers(\"client\", \"\", \"\").FilterByActive( s.nsqlookupd.opts.InactiveProducerTimeout, 0)",
       "assign topics := s.nsqlookupd.DB.lookupRegistrations(p.peerInfo.id).Filter(\"topic\", \"*\", \"\").Keys()",
       "assign topicProducersMap[t] = s.nsqlookupd.DB.findProducers(\"topic\", t, \"\")",
       "if tp.peerInfo == p.peerInfo",
       "assign tombstones[j] = tp.IsTombstoned(s.nsqlookupd.opts.TombstoneLifetime)"] ∧
    Lookupd.callsNodes =
      ["RLock", "RUnlock", "FilterByActive", "findProducers", "lookupRegistrations", "findProducers", "IsTombstoned"] ∧
    Lookupd.callsFindRegistrations = ["RLock", "RUnlock", "findRegistrations"] ∧
    Lookupd.callsFindProducers = ["RLock", "RUnlock", "findProducers"] ∧
    Lookupd.callsLookupRegistrations = ["RLock", "RUnlock", "lookupRegistrations"] ∧
    Lookupd.callsFindRegistrationsBody = ["needFilter", "IsMatch"] ∧
    Lookupd.callsFindProducersBody = ["needFilter", "ProducerMap2Slice", "IsMatch"] ∧
    Lookupd.callsLookupRegistrationsBody = [] ∧
    Lookupd.lookupRegistrationsBodyStmts = ["if exists", "assign _, exists := producers[id]"]

instance : Decidable readersShapeSections := by unfold readersShapeSections; infer_instance
instance : Decidable readersShapeAtomic := by unfold readersShapeAtomic; infer_instance

/-- F37 is committed (/repo 682420a): ONLY the one-critical-section shape is accepted. With F37 reverted
this fails (and the race leg reproduces `race:lookup-vs-topic-delete` / `race:nodes-vs-topic-delete`, listed `fixed`,
as VIOLATIONs). -/
theorem readers_shape : readersShapeAtomic := ⟨rfl, rfl, rfl, rfl, rfl, rfl, rfl, rfl, rfl, rfl, rfl⟩

/-- COMPUTED from the regenerated facts: are `GET /lookup` and `GET /nodes` one critical section each? -/
def readersAtomic : Bool := decide readersShapeAtomic

/-- the equality the theorems `Props.C14.concurrent_readers_linearizable_this_tree` rest on -/
theorem readers_atomic : readersAtomic = true := decide_eq_true readers_shape

/-- `doDebug` reads the whole map, incl. `tombstoned`/`tombstonedAt`, under one `RLock` -/
theorem debug_shape : Lookupd.callsDebug = ["RLock", "RUnlock"] := rfl

/-- `POST /topic/tombstone` BEFORE commit 415122f (F38): `FindProducers` (one critical section), then `p.Tombstone()` on
the matching producers with NO lock held — the writes raced with the readers (finding `race:tombstone-unlocked-write`,
fixed). The description of the old shape only; no theorem accepts it. -/
def tombShapeUnlocked : Prop :=
    Lookupd.tombstoneStmts =
      ["assign producers := s.nsqlookupd.DB.FindProducers(\"topic\", topicName, \"\")",
       "assign thisNode := fmt.Sprintf(\"%s:%d\", p.peerInfo.BroadcastAddress, p.peerInfo.HTTPPort)",
       "if thisNode == node"] ∧
    Lookupd.callsTombstone = ["FindProducers", "Tombstone"] ∧
    Lookupd.callsTombstoneProducers = [] ∧ Lookupd.tombstoneProducersStmts = []

/-- The tree since commit 415122f (F38): `RegistrationDB.TombstoneProducers` finds and marks under ONE `Lock()`. The
sequential behaviour is `tombstoneDB`. -/
def tombShapeLocked : Prop :=
    Lookupd.tombstoneStmts = [] ∧
    Lookupd.callsTombstone = ["TombstoneProducers"] ∧
    Lookupd.callsTombstoneProducers = ["Lock", "Unlock", "findProducers", "Sprintf", "Tombstone"] ∧
    Lookupd.tombstoneProducersStmts =
      ["assign thisNode := fmt.Sprintf(\"%s:%d\", p.peerInfo.BroadcastAddress, p.peerInfo.HTTPPort)",
       "if thisNode == node"]

instance : Decidable tombShapeUnlocked := by unfold tombShapeUnlocked; infer_instance
instance : Decidable tombShapeLocked := by unfold tombShapeLocked; infer_instance

/-- F38 is committed (/repo 415122f): ONLY the locked shape is accepted; with F38 reverted this fails and the
`-race` leg reports `race:tombstone-unlocked-write` (listed `fixed`) as a VIOLATION with the detector's report. -/
theorem tombstone_shape : tombShapeLocked := ⟨rfl, rfl, rfl, rfl⟩

/-- COMPUTED: is the tombstone step of the model (`tombstoneDB`, one step) one critical section of the code, i.e. are the
marks written under `Lock()` (F38) AND read under `RLock()` (F37: `FilterByActive`/`IsTombstoned` inside the readers'
critical section; `doDebug` always)? Both fixes are committed: `tombstone_atomic`. So "every step of the model is atomic
in the code" is a checked fact for the tombstone step too; the `-race` leg stays as the
behavioural twin. -/
def tombstoneAtomic : Bool := decide tombShapeLocked && readersAtomic

theorem tombstone_atomic : tombstoneAtomic = true :=
  (Bool.and_eq_true _ _).mpr ⟨decide_eq_true tombstone_shape, readers_atomic⟩

/-- (`createTopic`, `deleteChannel` in the model: the argument checks, then the `RegistrationDB` calls) -/
theorem admin_calls :
    Lookupd.callsCreateTopic = ["NewReqParams", "Get", "IsValidTopicName", "AddRegistration"] ∧
    Lookupd.callsDeleteChannel =
      ["NewReqParams", "GetTopicChannelArgs", "FindRegistrations", "RemoveRegistration"] := ⟨rfl, rfl⟩

/-- `/topic/delete` and `/channel/create`: `RemoveTopic` (the channel keys matching `(topic, *)` and the topic key
deleted under one lock) and `AddTopicChannel` (channel key, then topic key under one lock); commit 0d24920 = F21. The
shape before F21 (`FindRegistrations`/`RemoveRegistration` twice; `AddRegistration` twice) is not accepted.
The sequential behaviour is `deleteTopicDB` / `createChannel`. -/
def adminShapeAtomic : Prop :=
    Lookupd.callsDeleteTopic = ["NewReqParams", "Get", "RemoveTopic"] ∧
    Lookupd.callsCreateChannel = ["NewReqParams", "GetTopicChannelArgs", "AddTopicChannel"] ∧
    Lookupd.removeTopicStmts =
      ["if k.IsMatch(\"channel\", topic, \"*\")", "if k.IsMatch(\"topic\", topic, \"\")"] ∧
    Lookupd.callsRemoveTopic = ["Lock", "Unlock", "IsMatch", "IsMatch", "delete", "delete"] ∧
    Lookupd.addTopicChannelStmts =
      ["assign channelKey := Registration{\"channel\", topic, channel}",
       "assign _, ok := r.registrationMap[channelKey]",
       "assign r.registrationMap[channelKey] = make(map[string]*Producer)",
       "assign topicKey := Registration{\"topic\", topic, \"\"}",
       "assign _, ok := r.registrationMap[topicKey]",
       "assign r.registrationMap[topicKey] = make(map[string]*Producer)"] ∧
    Lookupd.callsAddTopicChannel = ["Lock", "Unlock", "make", "make"]

instance : Decidable adminShapeAtomic := by unfold adminShapeAtomic; infer_instance

theorem admin_topic_shape : adminShapeAtomic := ⟨rfl, rfl, rfl, rfl, rfl, rfl⟩

/-- COMPUTED from the regenerated facts: are REGISTER, `/topic/delete`, `/channel/create` one critical section each?
The concurrency theorems of `Nsq.Props.C14` about THIS tree are stated over `registerSecs treeAtomic …`; they hold
because the facts decide `treeAtomic = true` (`tree_atomic`). -/
def treeAtomic : Bool := decide registerShapeAtomic && decide adminShapeAtomic

theorem tree_atomic : treeAtomic = true :=
  (Bool.and_eq_true _ _).mpr ⟨decide_eq_true register_shape, decide_eq_true admin_topic_shape⟩

/-- likewise for UNREGISTER's remove-and-prune -/
def unregisterAtomic : Bool := decide unregisterShapeAtomic

theorem unregister_atomic : unregisterAtomic = true := decide_eq_true unregister_shape

/-- (`getTopicChannelArgs` in the model) -/
theorem topicChannelArgs_shape :
    Lookupd.topicChannelArgs =
      ["assign topicName, err := rp.Get(\"topic\")",
       "return return \"\", \"\", errors.New(\"MISSING_ARG_TOPIC\")",
       "if !protocol.IsValidTopicName(topicName)",
       "return return \"\", \"\", errors.New(\"INVALID_ARG_TOPIC\")",
       "assign channelName, err := rp.Get(\"channel\")",
       "return return \"\", \"\", errors.New(\"MISSING_ARG_CHANNEL\")",
       "if !protocol.IsValidChannelName(channelName)",
       "return return \"\", \"\", errors.New(\"INVALID_ARG_CHANNEL\")"] := rfl

/-- `/ping` returns the string "OK" (= `pingBody`), `/info` a document whose only member is `version`
(= `infoKeys`); both ignore the request and the registry -/
theorem ping_info_shape :
    Lookupd.pingStmts = ["return return \"OK\", nil"] ∧
    Lookupd.infoStmts =
      ["return return struct { Version string `json:\"version\"` }{ Version: version.Binary, }, nil"] ∧
    "OK".toList.map (·.toNat) = pingBody.map (·.toNat) ∧ infoKeys = ["version"] :=
  ⟨rfl, rfl, by decide +kernel, rfl⟩

/-- names: the regular expression and the length bounds `validName` implements -/
theorem names :
    Lookupd.nameRegex = "^[.a-zA-Z0-9_-]+(#ephemeral)?$" ∧
    Lookupd.nameLen = ["if len(name) > 64 || len(name) < 1"] := ⟨rfl, rfl⟩

end Nsq.Tie.Registry
