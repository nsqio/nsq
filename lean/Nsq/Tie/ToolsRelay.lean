import Nsq.Gen.ToolsRelay
/-!
Tie of the `Relay` models to apps/nsq_to_nsq, apps/nsq_to_http and go-nsq's `Consumer.handlerLoop`
(regenerated leg). Two kinds of statement:
* `…_eq : Nsq.Gen.ToolsRelay.X = expected_X := rfl` — the regenerated statement skeleton (log statements dropped) is
  *textually* the hand-written constant `expected_X` the model was written against. A textual tie: any rewrite of the
  function, harmless or not, breaks it (the behaviour is tied by the correspondence legs).
* the facts at the end (`n2n_disable_after_publish`, `n2n_responder_decision`, `n2h_status_tests`, `handlerLoop_rule`,
  `relays_run_with_library_default`) are statements about the **regenerated** definitions `Nsq.Gen.ToolsRelay.*` and are
  decided directly on them, not on the hand-written constants, so that they hold or fail independently of the `_eq`
  theorems.
-/
namespace Nsq.Tie.ToolsRelay
open Nsq.Gen.ToolsRelay

def expected_n2nHandleMessage : List String := [
  "var err error",
  "msgBody := m.Body",
  "if *requireJSONField != \"\" || len(whitelistJSONFields) > 0",
  ".var js map[string]interface{}",
  ".err = json.Unmarshal(msgBody, &js)",
  ".if err != nil",
  "..return nil",
  ".if pass, backoff := ph.shouldPassMessage(js); !pass",
  "..if backoff",
  "...return errors.New(\"backoff\")",
  "..return nil",
  ".msgBody, err = filterMessage(js, msgBody)",
  ".if err != nil",
  "..return err",
  "startTime := time.Now()",
  "switch ph.mode",
  ".case ModeRoundRobin",
  "..counter := atomic.AddUint64(&ph.counter, 1)",
  "..idx := counter % uint64(len(ph.addresses))",
  "..addr := ph.addresses[idx]",
  "..p := ph.producers[addr]",
  "..err = p.PublishAsync(destinationTopic, msgBody, ph.respChan, m, startTime, addr)",
  ".case ModeHostPool",
  "..hostPoolResponse := ph.hostPool.Get()",
  "..p := ph.producers[hostPoolResponse.Host()]",
  "..err = p.PublishAsync(destinationTopic, msgBody, ph.respChan, m, startTime, hostPoolResponse)",
  "..if err != nil",
  "...hostPoolResponse.Mark(err)",
  "if err != nil",
  ".return err",
  "m.DisableAutoResponse()",
  "return nil"]

theorem n2nHandleMessage_eq : Nsq.Gen.ToolsRelay.n2nHandleMessage = expected_n2nHandleMessage := rfl

def expected_n2nResponder : List String := [
  "var msg *nsq.Message",
  "var startTime time.Time",
  "var address string",
  "var hostPoolResponse hostpool.HostPoolResponse",
  "range ph.respChan",
  ".switch ph.mode",
  "..case ModeRoundRobin",
  "...msg = t.Args[0].(*nsq.Message)",
  "...startTime = t.Args[1].(time.Time)",
  "...hostPoolResponse = nil",
  "...address = t.Args[2].(string)",
  "..case ModeHostPool",
  "...msg = t.Args[0].(*nsq.Message)",
  "...startTime = t.Args[1].(time.Time)",
  "...hostPoolResponse = t.Args[2].(hostpool.HostPoolResponse)",
  "...address = hostPoolResponse.Host()",
  ".success := t.Error == nil",
  ".if hostPoolResponse != nil",
  "..if !success",
  "...hostPoolResponse.Mark(errors.New(\"failed\"))",
  "..else",
  "...hostPoolResponse.Mark(nil)",
  ".if success",
  "..msg.Finish()",
  ".else",
  "..msg.Requeue(-1)",
  ".ph.perAddressStatus[address].Status(startTime)",
  ".ph.timermetrics.Status(startTime)"]

theorem n2nResponder_eq : Nsq.Gen.ToolsRelay.n2nResponder = expected_n2nResponder := rfl

def expected_n2hHandleMessage : List String := [
  "if *sample < 1.0 && rand.Float64() > *sample",
  ".return nil",
  "startTime := time.Now()",
  "switch ph.mode",
  ".case ModeAll",
  "..range ph.addresses",
  "...st := time.Now()",
  "...err := ph.Publish(addr, m.Body)",
  "...if err != nil",
  "....return err",
  "...ph.perAddressStatus[addr].Status(st)",
  ".case ModeRoundRobin",
  "..counter := atomic.AddUint64(&ph.counter, 1)",
  "..idx := counter % uint64(len(ph.addresses))",
  "..addr := ph.addresses[idx]",
  "..err := ph.Publish(addr, m.Body)",
  "..if err != nil",
  "...return err",
  "..ph.perAddressStatus[addr].Status(startTime)",
  ".case ModeHostPool",
  "..hostPoolResponse := ph.hostPool.Get()",
  "..addr := hostPoolResponse.Host()",
  "..err := ph.Publish(addr, m.Body)",
  "..hostPoolResponse.Mark(err)",
  "..if err != nil",
  "...return err",
  "..ph.perAddressStatus[addr].Status(startTime)",
  "ph.timermetrics.Status(startTime)",
  "return nil"]

theorem n2hHandleMessage_eq : Nsq.Gen.ToolsRelay.n2hHandleMessage = expected_n2hHandleMessage := rfl

def expected_n2hPost : List String := [
  "buf := bytes.NewBuffer(msg)",
  "resp, err := HTTPPost(addr, buf)",
  "if err != nil",
  ".return err",
  "io.Copy(io.Discard, resp.Body)",
  "resp.Body.Close()",
  "if resp.StatusCode < 200 || resp.StatusCode >= 300",
  ".return fmt.Errorf(\"got status code %d\", resp.StatusCode)",
  "return nil"]

theorem n2hPost_eq : Nsq.Gen.ToolsRelay.n2hPost = expected_n2hPost := rfl

def expected_n2hGet : List String := [
  "endpoint := fmt.Sprintf(addr, url.QueryEscape(string(msg)))",
  "resp, err := HTTPGet(endpoint)",
  "if err != nil",
  ".return err",
  "io.Copy(io.Discard, resp.Body)",
  "resp.Body.Close()",
  "if resp.StatusCode != 200",
  ".return fmt.Errorf(\"got status code %d\", resp.StatusCode)",
  "return nil"]

theorem n2hGet_eq : Nsq.Gen.ToolsRelay.n2hGet = expected_n2hGet := rfl

def expected_handlerLoop : List String := [
  "for",
  ".message, ok := <-r.incomingMessages",
  ".if !ok",
  "..goto exit",
  ".if r.shouldFailMessage(message, handler)",
  "..message.Finish()",
  "..continue",
  ".err := handler.HandleMessage(message)",
  ".if err != nil",
  "..if !message.IsAutoResponseDisabled()",
  "...message.Requeue(-1)",
  "..continue",
  ".if !message.IsAutoResponseDisabled()",
  "..message.Finish()",
  "label exit",
  "if atomic.AddInt32(&r.runningHandlers, -1) == 0",
  ".r.exit()"]

theorem handlerLoop_eq : Nsq.Gen.ToolsRelay.handlerLoop = expected_handlerLoop := rfl

def pos (s : String) (l : List String) : Nat := l.findIdx (· == s)

/-- nsq_to_nsq: auto-response is disabled only after `PublishAsync` succeeded (an error returns before) -/
theorem n2n_disable_after_publish :
    pos "if err != nil" (n2nHandleMessage.drop (pos "switch ph.mode" n2nHandleMessage)) + pos "switch ph.mode" n2nHandleMessage
      < pos "m.DisableAutoResponse()" n2nHandleMessage
    ∧ pos "m.DisableAutoResponse()" n2nHandleMessage < n2nHandleMessage.length := by decide +kernel

/-- nsq_to_nsq responder: `success := t.Error == nil`, then `Finish` iff success else `Requeue(-1)` -/
theorem n2n_responder_decision :
    (n2nResponder.drop (pos ".success := t.Error == nil" n2nResponder)).filter
        (fun s => s == ".if success" || s == "..msg.Finish()" || s == ".else" || s == "..msg.Requeue(-1)")
      = [".if success", "..msg.Finish()", ".else", "..msg.Requeue(-1)"] := by decide +kernel

/-- the status-code tests of the two HTTP publishers -/
theorem n2h_status_tests :
    "if resp.StatusCode < 200 || resp.StatusCode >= 300" ∈ n2hPost ∧ "if resp.StatusCode != 200" ∈ n2hGet := by decide +kernel

/-- go-nsq: handler error → `Requeue(-1)`, otherwise `Finish()`, both only when auto-response is enabled -/
theorem handlerLoop_rule :
    (handlerLoop.drop (pos ".err := handler.HandleMessage(message)" handlerLoop)).take 8 =
      [".err := handler.HandleMessage(message)", ".if err != nil", "..if !message.IsAutoResponseDisabled()",
       "...message.Requeue(-1)", "..continue", ".if !message.IsAutoResponseDisabled()", "..message.Finish()", "label exit"] := by decide +kernel

/-! ### the consumer configuration the relays' `main()` start with (finding `gives-up-after-max-attempts`) -/

/-- both relays leave go-nsq's struct-tag default `max_attempts = 5` in place (no assignment to
`MaxAttempts` in `main()`); the operator's `--consumer-opt max_attempts,N` is applied by `flag.Parse()` -/
theorem relays_run_with_library_default :
    Nsq.Gen.ToolsRelay.n2hMaxAttempts = 5 ∧ Nsq.Gen.ToolsRelay.n2nMaxAttempts = 5
    ∧ Nsq.Gen.ToolsRelay.n2hMaxAttempts_overridable = true ∧ Nsq.Gen.ToolsRelay.n2nMaxAttempts_overridable = true := by decide +kernel

end Nsq.Tie.ToolsRelay
