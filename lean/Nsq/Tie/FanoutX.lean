import Nsq.Gen.GuidLoop
/-!
`Tie.Wire.fanoutStmts_eq` (kind `stmts`) lists the assignments and conditions of
`Topic.messagePump`'s per-channel loop but is blind to its call statements, to `continue` and to nesting:
deleting `channel.PutMessageDeferred(…)` (a deferred message is then dropped for that channel), deleting
the `continue` (the message is then put twice) or moving the copy out of `if i > 0` leaves that fact
unchanged. This is the same loop through kind `stmtsx` (every statement, with depth).
Model: `Model.Wire.fanout` (per-channel copy keeps id, body, timestamp, deferred; first channel gets the
original) and C04's deferred publish (`Props.C04.deferred_not_before`: the copy goes to
`PutMessageDeferred` exactly when `deferred ≠ 0`, else to `PutMessage`, never both).
-/
namespace Nsq.Tie.FanoutX
open Nsq.Gen.GuidLoop

theorem fanoutLoop_eq :
    fanoutLoop.take 10 =
      [(1, "range", "i, channel := range chans"),
       (2, "assign", "chanMsg := msg"),
       (2, "if", "i > 0"),
       (3, "assign", "chanMsg = NewMessage(msg.ID, msg.Body)"),
       (3, "assign", "chanMsg.Timestamp = msg.Timestamp"),
       (3, "assign", "chanMsg.deferred = msg.deferred"),
       (2, "if", "chanMsg.deferred != 0"),
       (3, "expr", "channel.PutMessageDeferred(chanMsg, chanMsg.deferred)"),
       (3, "continue", ""),
       (2, "assign", "err := channel.PutMessage(chanMsg)")] ∧
    -- what follows is only the error report of PutMessage (an `if` and call statements below it)
    (fanoutLoop.drop 10).all (fun r => (r.1 == 2 && r.2.1 == "if") || (r.1 == 3 && r.2.1 == "expr")) = true :=
  ⟨rfl, by decide +kernel⟩

end Nsq.Tie.FanoutX
