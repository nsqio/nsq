import Nsq.Gen.CodecFn
import Nsq.Model.Wire
import Nsq.Model.ByteOps
import Nsq.Proofs.ByteOps
/-!
Tie (C07), translated definitions: `Message.WriteTo`, `decodeMessage` (nsqd/message.go),
`protocol.SendFramedResponse`, `protocol.SendResponse` (internal/protocol/protocol.go) and
`readLen` (nsqd/protocol_v2.go) are re-translated from the Go source on every run by the
translator kind `bytes` (`specs/e1_bytes.json` → `Nsq.Gen.CodecFn`) and PROVED equal to the
hand-written wire model `Nsq.Model.Wire` that the C07 theorems are about — on every input, with
`panic` (a slice expression outside its operand) shown unreachable.

Writers: the translated functions are generic in the `io.Writer`. The equalities below
instantiate it with `bufferWriter` (`bytes.Buffer`, the writer `SendMessage` /
`writeMessageToBackend` use, and any writer that accepts everything); `*_write_error` cover the
error paths for an ARBITRARY writer.
-/
namespace Nsq.Tie.WireFn
open Nsq.Model.Wire Nsq.Model.ByteOps Nsq.Proofs.ByteOps Nsq.Proofs.Wire
open Nsq.Gen.CodecFn

/-- `(*Message).WriteTo` into a buffer holding `w`: the buffer then holds `w ++ encode m`, the
returned count is the number of bytes of the encoding, the error is nil. (The proof unfolds both sides:
it does not depend on the order / spelling of the statements that fill the 10-byte header.) -/
theorem writeTo_eq (w : Bytes) (m : Msg) :
    writeTo m.id m.body m.ts m.attempts bufferWriter w =
      .ret (w ++ encode m, BitVec.ofNat 64 (encode m).length, "") := by
  simp [writeTo, bufferWriter, store, putBE, encode, beBytes, List.replicate, BitVec.ofNat_add]
  ac_rfl

/-- the 10 header bytes `WriteTo` hands to the first `Write` -/
def header (m : Msg) : Bytes := beBytes 8 m.ts.toNat ++ beBytes 2 m.attempts.toNat

/-- Error path, ANY writer: when the first `Write` (the 10 header bytes) fails, `WriteTo` returns
that write's count and error and performs no further write. -/
theorem writeTo_write_error {W : Type} (wr : Writer W) (w : W) (m : Msg)
    (h : (wr.write w (header m)).2.2 ≠ "") :
    writeTo m.id m.body m.ts m.attempts wr w =
      .ret ((wr.write w (header m)).1, (wr.write w (header m)).2.1, (wr.write w (header m)).2.2) := by
  simp [header, beBytes] at h
  simp [writeTo, store, putBE, header, beBytes, List.replicate, h]

/-- the generated result structure for a model message (the in-flight bookkeeping fields of a
freshly decoded message are zero) -/
def ofMsg (m : Msg) : decodeMessage_Message :=
  { ID := m.id, Body := m.body, Timestamp := m.ts, Attempts := m.attempts,
    clientID := 0, pri := 0, index := 0, deferred := 0 }

/-- `decodeMessage` = `Model.Wire.decode` on EVERY buffer: same length check (26), same
big-endian reads, id = bytes 10..26, body = the rest; never panics. -/
theorem decodeMessage_eq (b : Bytes) :
    decodeMessage b = .ret (match decode b with
      | none => (none, "invalid message buffer size (%d)")
      | some m => (some (ofMsg m), "")) := by
  unfold decodeMessage decode
  by_cases h : b.length < 26
  · simp [h]
  · have h8 : 8 ≤ b.length := by omega
    have h10 : 10 ≤ b.length := by omega
    have h26 : 26 ≤ b.length := by omega
    have hs : store (List.replicate 16 (0 : UInt8)) 0 (slice b 10 26) = slice b 10 26 :=
      store_all _ _ (by rw [slice_length b 10 26 h26]; simp)
    simp only [h, decide_false, Bool.false_eq_true, if_false, h8, h10, h26, not_true_eq_false, hs]
    simp [ofMsg, getBE, slice]

/-- the length guard is the constant regenerated from message.go -/
theorem minValidMsgLength_eq : c_minValidMsgLength = 26 ∧ c_MsgIDLength = 16 := ⟨rfl, rfl⟩

/-- `SendFramedResponse` into a buffer: exactly the model frame `encodeFrame`, count = len + 8. -/
theorem sendFramedResponse_eq (w : Bytes) (f : Frame) :
    sendFramedResponse bufferWriter w f.ftype f.data =
      .ret (w ++ encodeFrame f, BitVec.ofNat 64 f.data.length + 8#64, "") := by
  simp [sendFramedResponse, bufferWriter, store_all, putBE_length, beBytes_length, putBE_len_add, encodeFrame]
  -- `putBE` is unfolded only now (the frame type): `putBE_len_add` had to meet the size word intact
  simp [putBE]

/-- Error path, ANY writer: a failing first `Write` (the size) is returned as is. -/
theorem sendFramedResponse_write_error {W : Type} (wr : Writer W) (w : W) (f : Frame)
    (h : (wr.write w (beBytes 4 (f.data.length + 4))).2.2 ≠ "") :
    sendFramedResponse wr w f.ftype f.data =
      .ret ((wr.write w (beBytes 4 (f.data.length + 4))).1,
            (wr.write w (beBytes 4 (f.data.length + 4))).2.1,
            (wr.write w (beBytes 4 (f.data.length + 4))).2.2) := by
  simp [sendFramedResponse, store_all, beBytes_length, putBE_len_add, h]

/-- `SendResponse` (the unframed variant, nsqlookupd's protocol): 4-byte big-endian length + data
= the model's length-prefixed record `lp`, count = len + 4. -/
theorem sendResponse_eq (w data : Bytes) :
    sendResponse bufferWriter w data = .ret (w ++ lp data, BitVec.ofNat 64 data.length + 4#64, "") := by
  simp only [sendResponse, bufferWriter, putBE_len, bne_self_eq_false, Bool.false_eq_true, if_false]
  simp [lp]

/-- what the caller of `readLen` sees: the int32 and the rest of the stream, or an error -/
def readLenView : Res (Bytes × BitVec 32 × String) → Option (Int × Bytes)
  | .ret (rest, v, e) => if e = "" then some (v.toInt, rest) else none
  | .panic _ => none

/-- `readLen(r, tmp)` over a byte stream with the 4-byte scratch slice nsqd passes
(`client.lenSlice = lenBuf[:]`, `lenBuf [4]byte`) = `Model.Wire.readLen`; never panics. -/
theorem readLen_eq (s tmp : Bytes) (ht : tmp.length = 4) :
    readLenView (Nsq.Gen.CodecFn.readLen streamReader s tmp) = Nsq.Model.Wire.readLen s ∧
    ∃ v, Nsq.Gen.CodecFn.readLen streamReader s tmp = .ret v := by
  unfold Nsq.Gen.CodecFn.readLen Nsq.Model.Wire.readLen streamReader
  rw [ht]
  by_cases h : s.length < 4
  · by_cases hs : s = [] <;> simp [h, hs, readLenView]
  · have h4 : 4 ≤ (s.take 4).length := by simp; omega
    have h4' : (s.take 4).length = 4 := by simp; omega
    simp only [h, if_false, bne_self_eq_false, Bool.false_eq_true, h4, not_true_eq_false]
    refine ⟨?_, _, rfl⟩
    simp only [readLenView, if_true, List.take_take, Nat.min_self]
    rw [toInt_getBE32 _ h4']

def closedWriter : Writer Nat := ⟨fun k _ => (k + 1, 0#64, "closed")⟩

example : writeTo (List.replicate 16 48) [5] 1#64 2#16 bufferWriter [7] =
    .ret ([7, 0, 0, 0, 0, 0, 0, 0, 1, 0, 2] ++ List.replicate 16 48 ++ [5], 27#64, "") := by decide +kernel
example : writeTo (List.replicate 16 48) [5] 1#64 2#16 closedWriter 0 = .ret (1, 0#64, "closed") :=
  writeTo_write_error closedWriter 0 ⟨1#64, 2#16, List.replicate 16 48, [5]⟩ (by decide)
example : sendFramedResponse closedWriter 0 2#32 [5] = .ret (1, 0#64, "closed") :=
  sendFramedResponse_write_error closedWriter 0 ⟨2#32, [5]⟩ (by decide)
example : decodeMessage (List.replicate 26 1) = .ret (some (ofMsg ⟨0x0101010101010101#64, 0x0101#16,
    List.replicate 16 1, []⟩), "") := by decide +kernel
example : sendResponse bufferWriter [] [79, 75] = .ret ([0, 0, 0, 2, 79, 75], 6#64, "") := by decide +kernel
example : Nsq.Gen.CodecFn.readLen streamReader [0, 0, 0, 5, 9] [0, 0, 0, 0] = .ret ([9], 5#32, "") := by decide +kernel
example : Nsq.Gen.CodecFn.readLen streamReader [0, 0, 5] [0, 0, 0, 0] = .ret ([], 0#32, "ErrUnexpectedEOF") := by decide +kernel
example := readLen_eq [255, 255, 255, 255] [0, 0, 0, 0] rfl
/-- the hypothesis `tmp.length = 4` is needed: with a shorter scratch slice the real code panics -/
example : Nsq.Gen.CodecFn.readLen streamReader [0, 0, 0, 5, 9] [0, 0] = .panic "binary.BigEndian.Uint32(tmp)" := by
  decide

end Nsq.Tie.WireFn
