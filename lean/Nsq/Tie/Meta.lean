import Nsq.Gen.MetaFacts
import Nsq.Model.Meta
/-!
Tie (regenerated facts) for C06: the order of effects that the micro-step machine `Nsq.Model.Meta`
assumes, re-extracted from the current tree on every run by `tools/go2lean` (kind `effseq`: tracked
calls and matching assignments of one function body in source order). Any edit that reorders,
drops or adds one of these effects makes a theorem below fail (the tie is then reported broken).
-/
namespace Nsq.Tie.Meta
open Nsq.Gen.MetaFacts Nsq.Model.Meta

/-- the system call made when a persist leaves each phase (`PStep` order of the model) -/
def phaseCall : Phase → List String
  | .reading => ["call:Marshal", "call:GetMetadata"]   -- snapshot
  | .snapped => ["call:OpenFile"]                      -- openTmp (O_WRONLY|O_CREATE|O_TRUNC)
  | .opened => ["call:Write"]                          -- writePart* ; writeRest
  | .partialW => []
  | .written => ["call:Sync", "call:Close"]            -- sync
  | .synced => ["call:Rename"]                         -- rename
  | .renamedP => []

def isCall (s : String) : Bool := s.startsWith "call:"

/-- `writeSyncFile`: OpenFile(O_WRONLY|O_CREATE|O_TRUNC) → Write → Sync → Close, nothing else. -/
theorem writeSyncFile_order :
    writeSyncFile = ["assign:f, err := os.OpenFile(fn, os.O_WRONLY|os.O_CREATE|os.O_TRUNC, 0600)"] ++
      phaseCall .snapped ++ phaseCall .opened ++ phaseCall .written := rfl

/-- `PersistMetadata`: snapshot → temporary name `<file>.<rand>.tmp` → writeSyncFile(tmp) → Rename(tmp, file);
it never opens or writes `nsqd.dat` itself. -/
theorem persistMetadata_order :
    persistMetadata = phaseCall .reading ++
      ["assign:tmpFileName := fmt.Sprintf(\"%s.%d.tmp\", fileName, rand.Int())",
       "assign:err = writeSyncFile(tmpFileName, data)", "call:writeSyncFile",
       "assign:err = os.Rename(tmpFileName, fileName)"] ++ phaseCall .synced := rfl

theorem metadataFile_name : metadataFile = ["return return path.Join(opts.DataPath, \"nsqd.dat\")"] := rfl

/-- `GetMetadata` reads each topic's pause flag, then its channel map under that topic's lock (`PStep.read`). -/
theorem getMetadata_order :
    getMetadata = ["call:IsPaused", "call:Lock", "call:IsPaused", "call:Unlock"] := rfl

/-- `LoadMetadata` reads only `nsqd.dat` (missing file = fresh start), creates topics/channels, restores
pause flags, never persists (`Step.start` / `loadDoc`); `isLoading` suppresses the Notify persists. -/
theorem loadMetadata_order :
    loadMetadata = ["call:readOrEmpty", "call:Unmarshal", "call:GetTopic", "call:Pause", "call:GetChannel",
      "call:Pause", "call:Start"] ∧ readOrEmpty = ["call:ReadFile", "call:IsNotExist"] := ⟨rfl, rfl⟩

/-- apps/nsqd `Start`: LoadMetadata, then PersistMetadata (`HKind.startup`), then Main. -/
theorem mainStart_order : mainStart = ["call:LoadMetadata", "call:PersistMetadata", "call:Main"] := rfl

/-- `New` takes the directory flock (exclusive, non-blocking) before it listens (`Step.start` when alive = refused). -/
theorem flock_first :
    nsqdNew = ["assign:err = n.dl.Lock()", "call:Listen", "call:Listen", "call:Listen"] ∧
    dirlockLock = ["call:Open", "assign:err = syscall.Flock(int(f.Fd()), syscall.LOCK_EX|syscall.LOCK_NB)",
      "call:Flock"] := ⟨rfl, rfl⟩

/-- `Notify`: the persist continuation runs `PersistMetadata` with the nsqd lock held and is skipped
while loading or when `persist` is false (`PStep.beginNotify … finish`). -/
theorem notify_order :
    notify = ["assign:loading := atomic.LoadInt32(&n.isLoading) == 1", "call:Lock", "call:PersistMetadata",
      "call:Unlock"] ∧
    notifyGuard = ["assign loading := atomic.LoadInt32(&n.isLoading) == 1", "if loading || !persist"] :=
  ⟨rfl, rfl⟩

/-- Creation: `NewTopic`/`NewChannel` call `Notify` once, and both the constructor call and the map
insert happen inside one critical section (nsqd lock / topic lock), so a persist that starts after the
creation sees the new object (`MemStep.createTopic`, `createChan` are single steps). -/
theorem creation_order :
    Nsq.Gen.MetaFacts.getTopic = ["assign:t, ok := n.topicMap[topicName]", "call:Lock", "assign:t, ok = n.topicMap[topicName]",
      "call:Unlock", "call:NewTopic", "assign:n.topicMap[topicName] = t", "call:Unlock"] ∧
    newTopic = ["call:Notify"] ∧
    getChannel = ["call:Lock", "call:getOrCreateChannel", "call:Unlock"] ∧
    getOrCreateChannel = ["assign:channel, ok := t.channelMap[channelName]", "call:NewChannel",
      "assign:t.channelMap[channelName] = channel"] ∧
    newChannel = ["call:Notify"] := ⟨rfl, rfl, rfl, rfl, rfl⟩

/-- Deletion: `exit(true)` issues its `Notify` right after the exit flag (`delTopicBegin`/`delChanBegin`);
topic exit unlinks and deletes each channel (`delTopicChan`). -/
theorem exit_order :
    topicExit = ["call:CompareAndSwapInt32", "call:Notify", "call:delete", "call:Delete", "call:Delete"] ∧
    channelExit = ["call:CompareAndSwapInt32", "call:Notify", "call:Delete"] := ⟨rfl, rfl⟩

/-- Deletion, the modelled (fixed) tree: after the map unlink a persist runs under the nsqd lock for
non-ephemeral objects (`delTopicUnlink`/`delChanUnlink` queue a `HKind.del` persist when `fix = true`).
This is fix F6; a tree without it breaks this tie. -/
theorem delete_persists_after_unlink :
    deleteExistingTopic = ["call:Delete", "call:Lock", "call:delete", "call:persistMetadataAfterDelete",
      "call:Unlock"] ∧
    deleteExistingChannel = ["call:Delete", "call:Lock", "call:delete", "call:Unlock", "call:Lock",
      "call:persistMetadataAfterDelete", "call:Unlock"] ∧
    deleteTopicGuard = ["if !topic.ephemeral"] ∧ deleteChannelGuard = ["if !channel.ephemeral"] ∧
    persistAfterDelete = ["call:LoadInt32", "return", "call:PersistMetadata"] := ⟨rfl, rfl, rfl, rfl, rfl⟩

/-- Pause handlers: the flag is stored, then `PersistMetadata` runs under the nsqd lock, and only then the
success `return` (the last one) is reached (`MemStep.pauseTopic`/`pauseChan` + `HKind.pause`). -/
theorem pause_persists_before_answer :
    doPauseTopic = ["return", "return", "return", "call:UnPause", "call:Pause", "return", "call:Lock",
      "call:PersistMetadata", "call:Unlock", "return"] ∧
    doPauseChannel = ["return", "return", "call:UnPause", "call:Pause", "return", "call:Lock",
      "call:PersistMetadata", "call:Unlock", "return"] := ⟨rfl, rfl⟩

/-- `NSQD.Exit`: listeners closed (`Step.exitBegin`), then under the nsqd lock `PersistMetadata` (`HKind.exit`) and every
topic closed (flushed), the background goroutines joined, and only then the data-path flock released
(`Step.exitEnd`): the data path is "in use" until Exit has finished writing. -/
theorem exit_releases_dirlock_last :
    nsqdExit = ["call:atomic.CompareAndSwapInt32", "call:n.tcpListener.Close", "call:n.tcpServer.Close",
      "call:n.httpListener.Close", "call:n.httpsListener.Close", "call:n.Lock", "call:n.PersistMetadata",
      "call:topic.Close", "call:n.Unlock", "call:close", "call:n.waitGroup.Wait", "call:n.dl.Unlock",
      "call:n.ctxCancel"] := rfl

end Nsq.Tie.Meta
