import Nsq.Gen.Codec
import Nsq.Model.Guid
/-! Tie: the definition regenerated from nsqd/guid.go equals the hand-written model. -/
namespace Nsq.Tie.Guid
open Nsq.Model.Guid

def toSt (f : Nsq.Gen.Codec.newGUIDState) : St :=
  { nodeID := f.nodeID, seq := f.sequence, lastTs := f.lastTimestamp, lastID := f.lastID }

/-- `Option`, so that an error text the model does not know is mapped to no model error: `newGUID_eq` then fails on it. -/
def toErr (s : String) : Option Err :=
  if s = "" then some .none
  else if s = "ErrTimeBackwards" then some .timeBackwards
  else if s = "ErrSequenceExpired" then some .sequenceExpired
  else if s = "ErrIDBackwards" then some .idBackwards
  else none

def conv (r : Nsq.Gen.Codec.newGUIDState × BitVec 64 × String) : St × BitVec 64 × Option Err :=
  (toSt r.1, r.2.1, toErr r.2.2)

/-- The regenerated `NewGUID` computes exactly the model's result on every state and clock value. -/
theorem newGUID_eq (f : Nsq.Gen.Codec.newGUIDState) (now : BitVec 64) :
    conv (Nsq.Gen.Codec.newGUID f now) =
      ((newGUID (toSt f) now).1, (newGUID (toSt f) now).2.1, some (newGUID (toSt f) now).2.2) := by
  unfold Nsq.Gen.Codec.newGUID newGUID conv toSt pack twepoch
  simp only [BitVec.reduceToNat]
  -- both sides now branch on the same conditions, in the same order
  split
  · rfl
  split
  · split
    · rfl
    split <;> rfl
  · split <;> rfl

theorem twepoch_eq : Nsq.Gen.Codec.c_twepoch = (twepoch.toNat : Int) := rfl

/-- `nsqd.New` refuses node ids outside `[0,1024)` (regenerated from nsqd/nsqd.go): the range
hypothesis of `Props.C12.pack_unpack` is what the daemon enforces at start-up. -/
theorem nodeID_range_checked : Nsq.Gen.Codec.newNodeID = ["if opts.ID < 0 || opts.ID >= 1024"] := rfl

/-- the field widths / shifts of the id layout are the model's -/
theorem layout_eq : Nsq.Gen.Codec.c_timestampShift = 22 ∧ Nsq.Gen.Codec.c_nodeIDShift = 12 ∧
    Nsq.Gen.Codec.c_sequenceMask = 4095 ∧ Nsq.Gen.Codec.c_nodeIDBits = 10 ∧
    Nsq.Gen.Codec.c_sequenceBits = 12 := ⟨rfl, rfl, rfl, rfl, rfl⟩

end Nsq.Tie.Guid
