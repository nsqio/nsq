import Nsq.Gen.Proto
import Nsq.Model.Identify
/-!
Tie for the field-by-field IDENTIFY model: regenerated facts about `protocolV2.IDENTIFY` and
`identifyDataV2` (`specs/e3_proto.json`: kinds `structfields`, `stmts`). The behavioural tie is the
`idn` correspondence leg; the setters are tied by translation (`Nsq.Tie.ProtoFunc`).
-/
namespace Nsq.Tie.ProtoIdentify
open Nsq.Model.Identify

/-- (semantic) JSON keys and Go types of the response document, in order: the twelve fields of
`Identify.Resp` plus `version` and the two topology strings (option echoes). -/
theorem response_fields : Nsq.Gen.Proto.identifyRespFields.map (fun f => (f.2.2, f.2.1)) = [
  ("max_rdy_count", "int64"), ("version", "string"), ("max_msg_timeout", "int64"), ("msg_timeout", "int64"),
  ("tls_v1", "bool"), ("deflate", "bool"), ("deflate_level", "int"), ("max_deflate_level", "int"), ("snappy", "bool"),
  ("sample_rate", "int32"), ("auth_required", "bool"), ("output_buffer_size", "int"), ("output_buffer_timeout", "int64"),
  ("topology_region", "string"), ("topology_zone", "string")] := rfl

/-- (semantic) JSON keys and Go types of `identifyDataV2`: the nine values of `IdentifyData`,
`deflate_level` and the five metadata strings of `Identify.IdFull`. -/
theorem request_fields : Nsq.Gen.Proto.identifyDataFields.map (fun f => (f.2.2, f.2.1)) = [
  ("client_id", "string"), ("hostname", "string"), ("heartbeat_interval", "int"), ("output_buffer_size", "int"),
  ("output_buffer_timeout", "int"), ("feature_negotiation", "bool"), ("tls_v1", "bool"), ("deflate", "bool"),
  ("deflate_level", "int"), ("snappy", "bool"), ("sample_rate", "int32"), ("user_agent", "string"), ("msg_timeout", "int"),
  ("topology_region", "string"), ("topology_zone", "string")] := rfl

/-- (text) the negotiation: which option gates which feature, the level default 6, the two clamps,
the exclusivity check *before* the document is built, the order of the upgrades. -/
theorem negotiation_text :
    (Nsq.Gen.Proto.identifyNegotiation.take 10, Nsq.Gen.Proto.identifyNegotiation.drop 11) = ([
      "assign tlsv1 := p.nsqd.tlsConfig != nil && identifyData.TLSv1",
      "assign deflate := p.nsqd.getOpts().DeflateEnabled && identifyData.Deflate",
      "assign deflateLevel := 6",
      "if deflate && identifyData.DeflateLevel > 0",
      "assign deflateLevel = identifyData.DeflateLevel",
      "if max < deflateLevel",
      "assign deflateLevel = max",
      "assign snappy := p.nsqd.getOpts().SnappyEnabled && identifyData.Snappy",
      "if deflate && snappy",
      "return return nil, protocol.NewFatalClientErr(nil, \"E_IDENTIFY_FAILED\", \"cannot enable both deflate and snappy compression\")"],
     ["if tlsv1", "if snappy", "if deflate", "assign err = client.UpgradeDeflate(deflateLevel)"]) := rfl

end Nsq.Tie.ProtoIdentify
