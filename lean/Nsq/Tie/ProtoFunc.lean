import Nsq.Gen.ProtoFunc
import Nsq.Model.Identify
import Nsq.Proofs.BitVecInt
/-!
Tie (kind `func`, through the `pfunc` normalisation of `tools/go2lean/kind_proto.go`): the four
negotiation setters of nsqd/client_v2.go — `SetHeartbeatInterval`, `SetOutputBuffer`, `SetSampleRate`,
`SetMsgTimeout` — are *translated* from the current source into BitVec definitions
(`Nsq.Gen.ProtoFunc`, regenerated on every run) and proved equal, on every input, to the integer
model the C09 theorems are about (`ProtoV2.setHeartbeat` …, `Identify.setOutputBufferP`).
This is the primary tie of these functions; the statement-text facts `hbLimits / obLimits / srLimits / mtLimits` of
`Nsq.Tie.Proto` are a secondary check.

Hypothesis of the three duration setters: the option bound, in ms, is at most 9223372036854 — true
of every value computed as `int(d / time.Millisecond)` from a `time.Duration` (int64 ns); `setOutputBuffer_eq` also takes the
lower bound in ms to be at least -9223372036854, true for the same reason.
-/
namespace Nsq.Tie.ProtoFunc
open Nsq.Model.ProtoV2 Nsq.Model.Identify Nsq.Gen.ProtoFunc

theorem beq_neg1 (a : BitVec 64) : (a == 18446744073709551615#64) = decide (a.toInt = -1) :=
  Nsq.Proofs.BitVecInt.beq_eq_decide_toInt a _

theorem beq_zero (a : BitVec 64) : (a == 0#64) = decide (a.toInt = 0) :=
  Nsq.Proofs.BitVecInt.beq_eq_decide_toInt a _

theorem sle_iff (a b : BitVec 64) : BitVec.sle a b = decide (a.toInt ≤ b.toInt) :=
  BitVec.sle_eq_decide

theorem toInt_range (a : BitVec 64) : -9223372036854775808 ≤ a.toInt ∧ a.toInt < 9223372036854775808 :=
  ⟨BitVec.le_toInt a, BitVec.toInt_lt⟩

theorem mul_ms (a : BitVec 64) (h0 : -9223372036854 ≤ a.toInt) (h1 : a.toInt ≤ 9223372036854) :
    (a * 1000000#64).toInt = a.toInt * 1000000 :=
  Nsq.Proofs.BitVecInt.toInt_mul_of_range rfl (by omega) (by omega)

/-- `SetHeartbeatInterval` as translated = `ProtoV2.setHeartbeat`. -/
theorem setHeartbeatInterval_eq (conf : Conf) (c : setHeartbeatIntervalState) (d maxHb : BitVec 64)
    (hmax : maxHb.toInt = conf.maxHeartbeatMs) (hb : conf.maxHeartbeatMs ≤ 9223372036854) :
    match setHeartbeat conf c.HeartbeatInterval.toInt d.toInt with
    | some v => (setHeartbeatInterval c d maxHb).2 = "" ∧
        (setHeartbeatInterval c d maxHb).1.HeartbeatInterval.toInt = v ∧
        (setHeartbeatInterval c d maxHb).1 = { c with HeartbeatInterval := (setHeartbeatInterval c d maxHb).1.HeartbeatInterval }
    | none => (setHeartbeatInterval c d maxHb).2 ≠ "" ∧ (setHeartbeatInterval c d maxHb).1 = c := by
  unfold setHeartbeatInterval setHeartbeat
  simp only [beq_neg1, beq_zero, sle_iff, hmax]
  have h1000 : (1000#64 : BitVec 64).toInt = 1000 := by decide
  rw [h1000]
  by_cases h1 : d.toInt = -1
  · simp [h1]
  · by_cases h2 : d.toInt = 0
    · simp [h2]
    · by_cases h3 : d.toInt ≥ 1000 ∧ d.toInt ≤ conf.maxHeartbeatMs
      · have hm := mul_ms d (by omega) (by omega)
        simp [h1, h2, h3, hm]
      · have h3' : ¬ (1000 ≤ d.toInt ∧ d.toInt ≤ conf.maxHeartbeatMs) := by omega
        simp [h1, h2, h3, h3']

/-- `SetMsgTimeout` as translated = `ProtoV2.setMsgTimeout`. -/
theorem setMsgTimeout_eq (conf : Conf) (c : setMsgTimeoutState) (d maxMt : BitVec 64)
    (hmax : maxMt.toInt = conf.maxMsgTimeoutMs) (hb : conf.maxMsgTimeoutMs ≤ 9223372036854) :
    match Nsq.Model.ProtoV2.setMsgTimeout conf c.MsgTimeout.toInt d.toInt with
    | some v => (Gen.ProtoFunc.setMsgTimeout c d maxMt).2 = "" ∧ (Gen.ProtoFunc.setMsgTimeout c d maxMt).1.MsgTimeout.toInt = v ∧
        (Gen.ProtoFunc.setMsgTimeout c d maxMt).1 = { c with MsgTimeout := (Gen.ProtoFunc.setMsgTimeout c d maxMt).1.MsgTimeout }
    | none => (Gen.ProtoFunc.setMsgTimeout c d maxMt).2 ≠ "" ∧ (Gen.ProtoFunc.setMsgTimeout c d maxMt).1 = c := by
  unfold Gen.ProtoFunc.setMsgTimeout Nsq.Model.ProtoV2.setMsgTimeout
  simp only [beq_zero, sle_iff, hmax]
  have h1000 : (1000#64 : BitVec 64).toInt = 1000 := by decide
  rw [h1000]
  by_cases h2 : d.toInt = 0
  · simp [h2]
  · by_cases h3 : d.toInt ≥ 1000 ∧ d.toInt ≤ conf.maxMsgTimeoutMs
    · have hm := mul_ms d (by omega) (by omega)
      simp [h2, h3, hm]
    · have h3' : ¬ (1000 ≤ d.toInt ∧ d.toInt ≤ conf.maxMsgTimeoutMs) := by omega
      simp [h2, h3, h3']

/-- `SetSampleRate` as translated: accepted exactly for 0 … 99, stored unchanged. -/
theorem setSampleRate_eq (c : setSampleRateState) (sr : BitVec 32) :
    ((setSampleRate c sr).2 = "" ↔ (0 ≤ sr.toInt ∧ sr.toInt ≤ 99)) ∧
    ((setSampleRate c sr).2 = "" → (setSampleRate c sr).1 = { c with SampleRate := sr }) ∧
    ((setSampleRate c sr).2 ≠ "" → (setSampleRate c sr).1 = c) := by
  unfold setSampleRate
  have h0 : (0#32 : BitVec 32).toInt = 0 := by decide
  have h99 : (99#32 : BitVec 32).toInt = 99 := by decide
  simp only [BitVec.slt, h0, h99]
  by_cases h : sr.toInt < 0 ∨ 99 < sr.toInt
  · have h' : ¬ (0 ≤ sr.toInt ∧ sr.toInt ≤ 99) := by omega
    rcases h with h | h <;> simp [h, h']
  · have h1 : ¬ sr.toInt < 0 := by omega
    have h2 : ¬ 99 < sr.toInt := by omega
    have h' : 0 ≤ sr.toInt ∧ sr.toInt ≤ 99 := by omega
    simp [h1, h2, h']

/-- `SetOutputBuffer` as translated = `Identify.setOutputBufferP` (both switches, including the
partial effect: an invalid size leaves the timeout already written). The `if desiredSize != 0 { Flush;
new bufio.Writer }` block is dropped by the normalisation (I/O objects only). -/
theorem setOutputBuffer_eq (conf : Conf) (c : setOutputBufferState) (dS dT maxObSize maxObt minObt : BitVec 64)
    (h1 : maxObSize.toInt = conf.maxObSize) (h2 : maxObt.toInt = conf.maxObtMs) (h3 : minObt.toInt = conf.minObtMs)
    (hb : conf.maxObtMs ≤ 9223372036854) (hb' : -9223372036854 ≤ conf.minObtMs) :
    (setOutputBuffer c dS dT maxObSize maxObt minObt).1.OutputBufferSize.toInt =
      (setOutputBufferP conf c.OutputBufferSize.toInt c.OutputBufferTimeout.toInt dS.toInt dT.toInt).1 ∧
    (setOutputBuffer c dS dT maxObSize maxObt minObt).1.OutputBufferTimeout.toInt =
      (setOutputBufferP conf c.OutputBufferSize.toInt c.OutputBufferTimeout.toInt dS.toInt dT.toInt).2.1 ∧
    (((setOutputBuffer c dS dT maxObSize maxObt minObt).2 = "") ↔
      (setOutputBufferP conf c.OutputBufferSize.toInt c.OutputBufferTimeout.toInt dS.toInt dT.toInt).2.2 = true) ∧
    (setOutputBuffer c dS dT maxObSize maxObt minObt).1 =
      { c with OutputBufferSize := (setOutputBuffer c dS dT maxObSize maxObt minObt).1.OutputBufferSize,
               OutputBufferTimeout := (setOutputBuffer c dS dT maxObSize maxObt minObt).1.OutputBufferTimeout } := by
  unfold setOutputBuffer setOutputBufferP
  simp only [beq_neg1, beq_zero, sle_iff, h1, h2, h3, Bool.true_and]
  have e64 : (64#64 : BitVec 64).toInt = 64 := by decide
  have e1 : (1#64 : BitVec 64).toInt = 1 := by decide
  have e0 : (0#64 : BitVec 64).toInt = 0 := by decide
  rw [e64]
  -- the timeout switch (-1, 0, in range, refused) times the size switch (-1, 0, in range, refused); only a timeout in range is
  -- multiplied, and `hb`, `hb'` keep that product within 64 bits (`mul_ms`)
  by_cases t1 : dT.toInt = -1
  · by_cases s1 : dS.toInt = -1
    · simp [t1, s1, e1, e0]
    · by_cases s2 : dS.toInt = 0
      · simp [t1, s2, e0]
      · by_cases s3 : dS.toInt ≥ 64 ∧ dS.toInt ≤ conf.maxObSize
        · simp [t1, s1, s2, s3, e0]
        · have s3' : ¬ (64 ≤ dS.toInt ∧ dS.toInt ≤ conf.maxObSize) := by omega
          simp [t1, s1, s2, s3, s3', e0]
  · by_cases t2 : dT.toInt = 0
    · by_cases s1 : dS.toInt = -1
      · simp [t2, s1, e1, e0]
      · by_cases s2 : dS.toInt = 0
        · simp [t2, s2]
        · by_cases s3 : dS.toInt ≥ 64 ∧ dS.toInt ≤ conf.maxObSize
          · simp [t2, s1, s2, s3]
          · have s3' : ¬ (64 ≤ dS.toInt ∧ dS.toInt ≤ conf.maxObSize) := by omega
            simp [t2, s1, s2, s3, s3']
    · by_cases t3 : dT.toInt ≥ conf.minObtMs ∧ dT.toInt ≤ conf.maxObtMs
      · have hm := mul_ms dT (by omega) (by omega)
        have t3' : conf.minObtMs ≤ dT.toInt ∧ dT.toInt ≤ conf.maxObtMs := by omega
        by_cases s1 : dS.toInt = -1
        · simp [t1, t2, t3, t3', s1, e1, e0]
        · by_cases s2 : dS.toInt = 0
          · simp [t1, t2, t3, t3', s2, hm]
          · by_cases s3 : dS.toInt ≥ 64 ∧ dS.toInt ≤ conf.maxObSize
            · simp [t1, t2, t3, t3', s1, s2, s3, hm]
            · have s3' : ¬ (64 ≤ dS.toInt ∧ dS.toInt ≤ conf.maxObSize) := by omega
              simp [t1, t2, t3, t3', s1, s2, s3, s3', hm]
      · have t3' : ¬ (conf.minObtMs ≤ dT.toInt ∧ dT.toInt ≤ conf.maxObtMs) := by omega
        simp [t1, t2, t3, t3']

end Nsq.Tie.ProtoFunc
