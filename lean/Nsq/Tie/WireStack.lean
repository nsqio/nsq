import Nsq.Tie.WireStackTree
import Nsq.Model.WireStack
/-! Tie (C07 / C11): which transport `SetOutputBuffer` re-creates the writer on, and which upgrades drop
`c.flateWriter`.

Regenerated from nsqd/client_v2.go + protocol_v2.go on every run (`specs/e1_stack.json`). F30 is
committed (/repo d6aa4e3), so ONLY its shape of `SetOutputBuffer` is accepted: `c.outputDest`, which every
`Upgrade*` sets to the very writer it installs. The shape before it (`bufio.NewWriterSize(c.Conn, …)`:
the raw connection; `Props.C07Stack.second_identify_leaks_cleartext`) breaks this tie, and the replay
corpus/C07/fixed/second_identify.stack then reports `second-identify-cleartext` as a VIOLATION.

F30b is committed (/repo d424240), so ONLY its shape of `UpgradeTLS` is accepted:
`c.flateWriter = nil` in front of the new writer. The shape of d6aa4e3 alone (`tlsF30`: `UpgradeTLS` leaves
`c.flateWriter`; `Props.C07Stack.output_on_negotiated_transport_k_false`, finding `tls-after-deflate-garbled`, listed
fixed) breaks `upgrades_shape`, `flate_writers` and `tree_is_F30b`, and the replay
corpus/C07/fixed/tls_after_deflate.stack then reports `tls-after-deflate-garbled` as a VIOLATION. `tree` is still
computed from the facts (the driver and the harness's expectations follow it, so a reverted tree is replayed by the
model of THAT tree); `tree_is_F30b` decides it and discharges the hypothesis of `Props.C07Stack.this_tree_k`.
The behavioural half is the white-box leg `stack` (harness/e1/reident_test.go) and the multi-IDENTIFY class of the
end-to-end oracle. -/
namespace Nsq.Tie.WireStack
open Nsq.Gen.WireStack Nsq.Model.WireStack

/-- `SetOutputBuffer`: flush, then a new writer on `outputDest` (F30) — not on the raw connection (`setUnfixed`) -/
theorem setOutputBuffer_shape : setOutputBufferWriter = setFixed := rfl

theorem tree_fixed : treeFixed = true := beq_iff_eq.mpr setOutputBuffer_shape

/-- the three upgrades install a new writer on a new transport; each records that very transport in `outputDest`
(so `SetOutputBuffer` re-uses it), nothing else assigns `outputDest`. TLS always wraps the RAW connection
(`tls.Server(c.Conn, …)`), snappy / deflate wrap the current TLS session if there is one, the raw connection
otherwise. `UpgradeDeflate` stores its writer in `c.flateWriter`, `UpgradeSnappy` drops it (F30), `UpgradeTLS` drops it
(F30b, /repo d424240 — the only accepted shape). -/
theorem upgrades_shape :
    upgradeTLSWriter = tlsF30b ∧
    upgradeSnappyWriter = ["assign conn := c.Conn",
                           "if c.tlsConn != nil",
                           "assign conn = c.tlsConn",
                           "assign sw := snappy.NewWriter(conn)",
                           "assign c.flateWriter = nil",
                           "assign c.outputDest = sw",
                           "assign c.Writer = bufio.NewWriterSize(sw, c.OutputBufferSize)"] ∧
    upgradeDeflateWriter = ["assign conn := c.Conn",
                            "if c.tlsConn != nil",
                            "assign conn = c.tlsConn",
                            "assign fw, _ := flate.NewWriter(conn, level)",
                            "assign c.flateWriter = fw",
                            "assign c.outputDest = fw",
                            "assign c.Writer = bufio.NewWriterSize(fw, c.OutputBufferSize)"] ∧
    destWrites = [("UpgradeTLS", "assign"), ("UpgradeDeflate", "assign"), ("UpgradeSnappy", "assign")] :=
  ⟨rfl, rfl, rfl, rfl⟩

/-- `c.flateWriter` is assigned by the three upgrades only (all three: F30b), and the list agrees with the shape of
`UpgradeTLS` -/
theorem flate_writers :
    upgradeTLSWriter = tlsF30b ∧
      flateWrites = [("UpgradeTLS", "assign"), ("UpgradeDeflate", "assign"), ("UpgradeSnappy", "assign")] :=
  ⟨upgrades_shape.1, rfl⟩

/-- `Flush`: the buffered writer, then ALWAYS the flate writer if there is one (the model's `KConn.mark`) -/
theorem flush_shape :
    flushBody = ["assign err := c.Writer.Flush()", "if c.flateWriter != nil", "return return c.flateWriter.Flush()"] := rfl

/-- exactly one tree: d6aa4e3 + F30b (/repo d424240) -/
theorem tree_is_F30b : tree = treeF30b := by
  -- `treeFixed` is known from the shape theorem; only the two `clearsFlate` tests are evaluated
  unfold tree; rw [tree_fixed]; decide +kernel

/-- the shape before F30b is a different one: a tree reverted to d6aa4e3 fails `upgrades_shape`, `flate_writers` and `tree_is_F30b` -/
theorem tls_shapes_differ : tlsF30 ≠ tlsF30b ∧ treeF30 ≠ treeF30b := by decide +kernel

/-- the model's alphabet is complete: `client.Writer` is assigned by these four functions only -/
theorem writer_writers :
    writerWrites = [("SetOutputBuffer", "assign"), ("UpgradeTLS", "assign"), ("UpgradeDeflate", "assign"),
                    ("UpgradeSnappy", "assign")] := rfl

/-- IDENTIFY is guarded by the connection state alone: it is accepted again before SUB (the model's
`subscribed` guard), also after an upgrade -/
theorem identify_guard : identifyGuard = ["if atomic.LoadInt32(&client.State) != stateInit"] := rfl

end Nsq.Tie.WireStack
