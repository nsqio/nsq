import Nsq.Gen.Restart
import Nsq.Model.Restart
/-!
Tie obligations of C05: the order of effects inside the shutdown / start-up code of the current
tree (facts regenerated by tools/go2lean kind `calls`/`stmts`) is the one `closeAll`/`reload` model; then which
windows of the shutdown race the tree closes: the shapes that select the parameters of `RaceSt` (`treeModel`).
-/
namespace Nsq.Tie.Restart

/-- `NSQD.Exit`: listeners closed, then under the lock: PersistMetadata *before* the topics are
closed (closing first would write an empty topic list), then the subsystems are waited for -/
theorem exit_order :
    Nsq.Gen.Restart.exitCalls =
      ["Close", "Close", "Close", "Close", "Lock", "PersistMetadata", "Close", "Unlock", "Wait", "Unlock"] := rfl

/-- `Topic.exit`: once-only flag, stop the pump and wait for it; delete path (channels, Empty,
backend.Delete); close path: every channel closed, *then* flush, *then* backend.Close -/
theorem topic_exit_order :
    Nsq.Gen.Restart.topicExitCalls =
      ["CompareAndSwapInt32", "close", "Wait", "Delete", "Empty", "Delete", "Close", "flush", "Close"] := rfl

/-- `Channel.exit`: once-only flag, consumers closed; delete path Empty + backend.Delete; close
path flush + backend.Close -/
theorem chan_exit_order :
    Nsq.Gen.Restart.chanExitCalls = ["CompareAndSwapInt32", "Close", "Empty", "Delete", "flush", "Close"] := rfl

/-- `Channel.flush` writes the three memory channels, then every in-flight message (under
inFlightMutex), then every deferred message (under deferredMutex) -/
theorem chan_flush_covers :
    Nsq.Gen.Restart.chanFlushCalls =
      ["writeMessageToBackend", "writeMessageToBackend", "writeMessageToBackend",
       "Lock", "writeMessageToBackend", "Unlock", "Lock", "writeMessageToBackend", "Unlock"] ∧
    Nsq.Gen.Restart.chanFlushRanges =
      ["assign msg := <-c.memoryMsgChan", "assign msg := item.Value.(*Message)"] := ⟨rfl, rfl⟩

theorem topic_flush_covers : Nsq.Gen.Restart.topicFlushCalls = ["writeMessageToBackend"] := rfl

/-- `LoadMetadata`: per topic GetTopic, Pause, then every channel (GetChannel, Pause), and only
then Start — no pump runs before all channels of the topic exist -/
theorem load_order : Nsq.Gen.Restart.loadCalls = ["GetTopic", "Pause", "GetChannel", "Pause", "Start"] := rfl

/-- the timeout scans take `exitMutex.RLock` (with the deferred `RUnlock`) and test `Exiting()` *before*
their loop and put the message back with a plain `put` inside it: `Channel.exit` (write lock) cannot run
while a timed-out / due message is between its container and the queue (model: `RaceStep.exitChan` is
disabled while `scanHolds ≠ []`) -/
theorem scan_holds_exit_lock :
    -- F16 (/repo 512db6c, committed): heap pop and map delete in one critical section, no popInFlightMessage; the
    -- two-section shape (`…, "PeekAndShift", "popInFlightMessage", …`) is not accepted
    Nsq.Gen.Restart.scanInflightCalls =
        ["RLock", "RUnlock", "Exiting", "PeekAndShift", "RLock", "RUnlock", "TimedOutMessage", "put"] ∧
    Nsq.Gen.Restart.scanDeferredCalls =
      ["RLock", "RUnlock", "Exiting", "PeekAndShift", "popDeferredMessage", "put"] := ⟨rfl, rfl⟩

/-- `GetMetadata` lists a topic / channel whatever its exit flag (only the ephemeral tests guard the
listing): a PersistMetadata that runs after the topics have been closed — a Notify still pending when
Exit took the lock — writes the same file (model: `persisted_ignores_exiting`) -/
theorem metadata_ignores_exit_flag :
    Nsq.Gen.Restart.metadataGuards = ["if topic.ephemeral && !ephemeral", "if channel.ephemeral"] ∧
    Nsq.Gen.Restart.metadataCalls = ["IsPaused", "Lock", "IsPaused", "Unlock"] := ⟨rfl, rfl⟩

/-- the disk queues of a channel and of a topic accept every encoded message: their record-size bounds are
`minValidMsgLength` and `MaxMsgSize + minValidMsgLength` (header + largest body).  `closeAll` models a
flush that writes every message; a smaller bound would make `Channel.flush` drop (and only log) the
largest messages -/
theorem diskqueue_record_bounds :
    Nsq.Gen.Restart.chanDiskqueueArgs.map (fun a => (a[3]?, a[4]?)) =
      [(some "int32(minValidMsgLength)", some "int32(nsqd.getOpts().MaxMsgSize) + minValidMsgLength")] ∧
    Nsq.Gen.Restart.topicDiskqueueArgs.map (fun a => (a[3]?, a[4]?)) =
      [(some "int32(minValidMsgLength)", some "int32(nsqd.getOpts().MaxMsgSize) + minValidMsgLength")] := ⟨rfl, rfl⟩

/-! ### which windows of the shutdown race model the tree protects (parameters of `Model.Restart.RaceSt`) -/

/-- publishers: `Topic.PutMessage(s)` takes the topic read lock *before* the exitFlag test and keeps it
(deferred unlock) across the queue write — the model's `pubCheck … pubSend` window holds `t.RLock` -/
theorem publishers_hold_topic_read_lock :
    Nsq.Gen.Restart.topicPutCalls = ["RLock", "RUnlock", "LoadInt32", "put"] ∧
    Nsq.Gen.Restart.topicPutsCalls = ["RLock", "RUnlock", "LoadInt32", "put"] := ⟨rfl, rfl⟩

/-- `Topic.exit` sets the flag under the topic write lock (F17, /repo e5da0e6: it waits for every publisher holding
the read lock; `RaceStep.exitFlag` is disabled while `putPending ≠ []`).  The fix is committed, so only this shape
is accepted: a tree with the bare CAS (`Props.C05.witnessPublish`) breaks this tie. -/
theorem topic_exit_flag_shape :
    Nsq.Gen.Restart.topicExitHead = ["Lock", "CompareAndSwapInt32", "Unlock", "close", "Lock", "Unlock"] := rfl

/-- REQ / TOUCH hold `exitMutex.RLock` (deferred unlock) from before `popInFlightMessage` (F18, /repo d0f02d3:
`RaceStep.exitChan` is disabled while `ansHolds ≠ []`, as for the timeout scans).  Committed: the older shape
(`Props.C05.witnessReq/ReqDeferred/Touch`) breaks the tie.  ONLY the committed shape is accepted: F18 + F48
(TOUCH's heap push is inside `pushInFlightMessage`) + F27 (/repo ebb5df3: the channel's read lock taken right after
`exitMutex.RLock`; irrelevant to the shutdown race: `Channel.exit` takes `exitMutex`, and `c.RLock` under
`exitMutex` is the order AddClient / RemoveClient / exit already use). -/
theorem answers_exit_lock_shape :
    Nsq.Gen.Restart.reqCalls = ["RLock", "RUnlock", "RLock", "RUnlock", "popInFlightMessage", "Exiting", "put", "StartDeferredTimeout"] ∧
    Nsq.Gen.Restart.touchCalls = ["RLock", "RUnlock", "RLock", "RUnlock", "popInFlightMessage", "pushInFlightMessage"] := ⟨rfl, rfl⟩

/-- the topic pump's hand-over to a channel is excluded from `Channel.exit` by `exitMutex` (model: `fanout`
and `exitChan` are atomic with respect to each other) -/
theorem channel_put_holds_exit_lock :
    Nsq.Gen.Restart.chanPutCalls = ["RLock", "RUnlock", "Exiting", "put"] := rfl

/-- `tcpServer.Close` waits for every handler (`Range` over the connections to close them, then `handlers.Wait`) and
`IOLoop` joins its messagePump (F23, /repo b3a615a).  `exit_order` pins that `Exit` calls it before `Lock` /
`PersistMetadata` / the topic `Close`s, so the channels are flushed when no pump is left (`RaceStep.exitFlag` disabled while
`pumpHolds ≠ []`, no `pumpRecv` afterwards).  Committed: only this shape is accepted; the older one (`["Range"]`, no join:
`Props.C05.witnessPump`) breaks the tie.  Behavioural twin: replay `f9_pump_holds` (`exit_finished_while_pump_parked`).
The flat kind `stmts` sees of the join only the `make` of the channel; the JOIN ITSELF is pinned by
`ioLoopJoinShape` / `io_loop_join_shape` below (kind `stmtsx`). -/
theorem exit_joins_pumps_shape :
    Nsq.Gen.Restart.tcpCloseCalls = ["Range", "Wait"] ∧
    Nsq.Gen.Restart.ioLoopJoin = ["assign messagePumpDoneChan := make(chan struct{})"] := ⟨rfl, rfl⟩

/-- the join of the messagePump inside `IOLoop`, with kinds and nesting (extractor `stmtsx`, rows mentioning
`messagePumpDoneChan`, `client.Close()`, `p.messagePump(` or `return err`): the pump goroutine closes the done channel
AFTER `messagePump` returned (depth 1, inside the `go func`), and at the top level of `IOLoop` the connection is closed,
THEN the done channel is received from, THEN `IOLoop` returns — so when `IOLoop` returns its pump has returned. -/
def ioLoopJoinShape : List (Nat × String × String) :=
      [(0, "assign", "messagePumpDoneChan := make(chan struct{})"),
       (0, "go", "func() { p.messagePump(client, messagePumpStartedChan) close(messagePumpDoneChan) }()"),
       (1, "expr", "p.messagePump(client, messagePumpStartedChan)"),
       (1, "expr", "close(messagePumpDoneChan)"),
       (0, "expr", "client.Close()"),
       (0, "expr", "<-messagePumpDoneChan"),
       (0, "return", "err")]

theorem io_loop_join_shape : Nsq.Gen.Restart.ioLoopJoinX = ioLoopJoinShape := rfl

/-- the shape of the join after /repo 919b356 (connections of running handlers are kept in the mutex-guarded set `live`;
`conns` only holds client objects).  `Close`: under `mtx` set `closing` and close every live connection, then close the
client objects, then wait for the handlers.  `Handle`: under `mtx` — refused once `closing` (`if p.closing`), otherwise
counted (`handlers.Add`) and entered into `live` in the SAME critical section (so a handler that `Close` does not see in
`live` is either refused or not yet counted … and then refused); its deferred exit removes it from `live` and calls `Done`;
`IOLoop` runs in between.  What the race model needs of it: after `Close` returns no `IOLoop` (hence no messagePump, joined by
`IOLoop`: `ioLoopJoin`) is running — `pumpJoin`. -/
theorem tcp_server_join_shape :
    Nsq.Gen.Restart.tcpCloseSeq =
      ["call:p.mtx.Lock", "assign:p.closing = true", "call:conn.Close", "call:p.mtx.Unlock", "call:p.conns.Range",
       "call:v.(protocol.Client).Close", "call:p.handlers.Wait"] ∧
    Nsq.Gen.Restart.tcpHandleSeq =
      ["call:p.mtx.Lock", "call:p.mtx.Unlock", "call:p.handlers.Add", "assign:p.live[conn] = struct{}{}", "call:p.mtx.Unlock",
       "call:p.mtx.Lock", "call:delete", "call:p.mtx.Unlock", "call:p.handlers.Done", "call:p.conns.Store", "call:prot.IOLoop",
       "call:p.conns.Delete"] ∧
    Nsq.Gen.Restart.tcpHandleGuard = ["if p.closing"] := ⟨rfl, rfl, rfl⟩

/-- `GetTopic` looks at `isExiting` under the NSQD lock and hands out a closed topic (F26, /repo 1121881): a publish to
a topic that does not exist yet, arriving during `Exit`, is refused instead of acknowledged into a queue nobody flushes
(`RaceStep.pubNewTopic` with `newTopicGuard`).  Committed: only this shape is accepted; the unguarded one
(`Props.C05.witnessNewTopic`) breaks the tie.  Behavioural twin: replay `exit_races_new_topic_publish`. -/
theorem get_topic_exit_shape :
    Nsq.Gen.Restart.getTopicExitGuard = ["assign exiting := atomic.LoadInt32(&n.isExiting) == 1", "if exiting"] := rfl

/-- … and what the guard DOES (the flat kind `stmts` pins `if exiting`, not its body).  Extractor
`stmtsx`, rows of `GetTopic` mentioning `isExiting`, `exiting`, `t.Close()` or `n.Unlock()`: the flag is read BEFORE the
NSQD lock is released (between the early-return `Unlock` at depth 1 and the `Unlock` at depth 0), and `t.Close()` is the
statement nested under `if exiting`. -/
def getTopicExitShape : List (Nat × String × String) :=
      [(1, "expr", "n.Unlock()"),
       (0, "assign", "exiting := atomic.LoadInt32(&n.isExiting) == 1"),
       (0, "expr", "n.Unlock()"),
       (0, "if", "exiting"),
       (1, "expr", "t.Close()")]

theorem get_topic_exit_closes : Nsq.Gen.Restart.getTopicExitX = getTopicExitShape := rfl

/-- the race model instance the current tree selects -/
def treeModel : Nsq.Model.Restart.RaceSt :=
  { topicBarrier := Nsq.Gen.Restart.topicExitHead.take 3 == ["Lock", "CompareAndSwapInt32", "Unlock"],
    ansLock := (Nsq.Gen.Restart.reqCalls.take 3 == ["RLock", "RUnlock", "popInFlightMessage"] ||
                Nsq.Gen.Restart.reqCalls.take 5 == ["RLock", "RUnlock", "RLock", "RUnlock", "popInFlightMessage"]) &&
               (Nsq.Gen.Restart.touchCalls.take 3 == ["RLock", "RUnlock", "popInFlightMessage"] ||
                Nsq.Gen.Restart.touchCalls.take 5 == ["RLock", "RUnlock", "RLock", "RUnlock", "popInFlightMessage"]),
    pumpJoin := Nsq.Gen.Restart.tcpCloseCalls == ["Range", "Wait"] &&
                Nsq.Gen.Restart.tcpCloseSeq.getLast? == some "call:p.handlers.Wait" &&
                Nsq.Gen.Restart.tcpHandleGuard == ["if p.closing"] &&
                Nsq.Gen.Restart.ioLoopJoin == ["assign messagePumpDoneChan := make(chan struct{})"] &&
                Nsq.Gen.Restart.ioLoopJoinX == ioLoopJoinShape,
    newTopicGuard := Nsq.Gen.Restart.getTopicExitGuard ==
                       ["assign exiting := atomic.LoadInt32(&n.isExiting) == 1", "if exiting"] &&
                     Nsq.Gen.Restart.getTopicExitX == getTopicExitShape }

/-- F17, F18, F23 and F26 are all committed: the tree selects exactly `joinedTree` (an equality) — the
instance `Props.C05.C05_full_joined` / `C05_full_tree` is about -/
theorem tree_model_known : treeModel = Nsq.Model.Restart.joinedTree := by
  -- the fields that compare a whole table are the shape theorems; what is left tests prefixes of short call lists
  simp only [treeModel, io_loop_join_shape, get_topic_exit_closes, get_topic_exit_shape, exit_joins_pumps_shape,
    tcp_server_join_shape, beq_self_eq_true]
  decide +kernel

end Nsq.Tie.Restart
