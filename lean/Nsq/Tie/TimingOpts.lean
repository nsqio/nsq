import Nsq.Gen.TimingOpts
import Nsq.Model.TimingOpts
/-!
Tie for C04 (regenerated by tools/go2lean, spec `specs/e1_opts.json`): where a
connection's `MsgTimeout` comes from, and whether `nsqd.New` compares `--msg-timeout` with
`--max-msg-timeout` (fix F40, /repo bedf305). The tree shape is *read off the source* (`treeFixed`);
F40 is committed, so `new_msgTimeout_shape` accepts ONLY the shape with the guard,
`tree_fixed : treeFixed = true`, and `Props.C04Opts.deadline_cap_this_tree` is stated over `treeFixed`.
-/
namespace Nsq.Tie.TimingOpts
open Nsq.Gen.TimingOpts

/-- the current tree validates the pair (fix F40) iff `New` has a statement mentioning `MsgTimeout` -/
def treeFixed : Bool := !newMsgTimeoutCheck.isEmpty

/-- F40 is committed (/repo bedf305): ONLY the shape with the one guard
`if opts.MsgTimeout > opts.MaxMsgTimeout { <log>; opts.MsgTimeout = opts.MaxMsgTimeout }` is accepted (model
`effectiveMsgTimeout true`). The shape before F40 — no statement of `New` mentions `MsgTimeout`, the default is used
as given (`effectiveMsgTimeout false`, `Props.C04Opts.deadline_cap_unfixed_false`) — breaks this tie, and the
harness then reports `msg-timeout-above-max` (listed `fixed`) as a VIOLATION with the option pair. -/
theorem new_msgTimeout_shape :
    newMsgTimeoutCheck.map (fun r => (r.1, r.2.1)) = [(0, "if"), (1, "expr"), (1, "assign")] ∧
    newMsgTimeoutCheck.head? = some (0, "if", "opts.MsgTimeout > opts.MaxMsgTimeout") ∧
    newMsgTimeoutCheck.getLast? = some (1, "assign", "opts.MsgTimeout = opts.MaxMsgTimeout") := ⟨rfl, rfl, rfl⟩

theorem tree_fixed : treeFixed = true := by decide +kernel

/-- a connection's `MsgTimeout` is written by `SetMsgTimeout` only (range-checked:
`Tie.Num` / `Props.C04.setMsgTimeout_range`) … -/
theorem client_msgTimeout_written_by :
    clientMsgTimeoutWrites.map (·.1) = ["(*clientV2).SetMsgTimeout"] := rfl

/-- … and initialised by `newClientV2` from the daemon option `MsgTimeout`; it is read by the delivery
pump, TOUCH and the two IDENTIFY reports, nowhere else -/
theorem client_msgTimeout_used_by :
    clientMsgTimeoutUses.map (·.1) =
      ["newClientV2", "(*clientV2).Identify", "(*clientV2).SetMsgTimeout", "(*protocolV2).messagePump",
       "(*protocolV2).IDENTIFY", "(*protocolV2).TOUCH"] ∧
    clientMsgTimeoutUses.head? = some ("newClientV2", "MsgTimeout: nsqd.getOpts().MsgTimeout") := ⟨rfl, rfl⟩

/-- the delivery pump hands exactly that value (or the one the IDENTIFY event carries, which is the same
field) to `StartInFlightTimeout`; TOUCH hands it to `TouchMessage` -/
theorem pump_uses_client_msgTimeout :
    pumpMsgTimeout =
      [(0, "assign", "msgTimeout := client.MsgTimeout"),
       (3, "assign", "msgTimeout = identifyData.MsgTimeout"),
       (2, "expr", "subChannel.StartInFlightTimeout(msg, client.ID, msgTimeout)")] ∧
    touchMsgTimeout = [(0, "assign", "msgTimeout := client.MsgTimeout")] := ⟨rfl, rfl⟩

end Nsq.Tie.TimingOpts
