import Nsq.Gen.ToolsRelayOpts
import Nsq.Model.RelayOpts
/-!
Tie of the C20 models of to_nsq's main loop and of `parseCustomHeaders` to the current tree (regenerated leg, spec
`specs/e8_relay_opts.json`; the consumers' options are `Nsq.Tie.ToolsRelay.relays_run_with_library_default`).

* `toNsqMainLoop` — the part of to_nsq's `main()` after the producers are made, with the bodies of the two
  `go func() { … }()` closures (kind `skeleton_deep`): the text `Model/ToNsqLoop.lean` was written against
  (balance starts at 1; ticker Add then conditional Store; reader Load / Sleep / readAndPublish / Add(-1);
  EOF → close(stopChan); main select then Stop of every producer). The behaviour is tied by the end-to-end
  leg (`harness/e8/tonsq_e2e_test.go`); this textual leg only pins what the reviewer of the model read.
-/
namespace Nsq.Tie.ToolsRelayOpts
open Nsq.Gen.ToolsRelayOpts

def expected_toNsqMainLoop : List String := [
  "throttleEnabled := *rate >= 1",
  "balance := int64(1)",
  "var interval time.Duration",
  "if throttleEnabled",
  ".interval = time.Second / time.Duration(*rate)",
  "go func()",
  ".if !throttleEnabled",
  "..return",
  ".range time.Tick(interval)",
  "..n := atomic.AddInt64(&balance, 1)",
  "..if n > int64(*rate)",
  "...atomic.StoreInt64(&balance, int64(*rate))",
  "r := bufio.NewReader(os.Stdin)",
  "delim := (*delimiter)[0]",
  "go func()",
  ".for",
  "..var err error",
  "..if throttleEnabled",
  "...currentBalance := atomic.LoadInt64(&balance)",
  "...if currentBalance <= 0",
  "....time.Sleep(interval)",
  "...err = readAndPublish(r, delim, producers)",
  "...atomic.AddInt64(&balance, -1)",
  "..else",
  "...err = readAndPublish(r, delim, producers)",
  "..if err != nil",
  "...if err != io.EOF",
  "....log.Fatal(err)",
  "...close(stopChan)",
  "...break",
  "select",
  ".case <-termChan",
  ".case <-stopChan",
  "range producers",
  ".producer.Stop()"]

theorem toNsqMainLoop_eq : toNsqMainLoop = expected_toNsqMainLoop := rfl

/-! ### nsq_to_http `parseCustomHeaders`: translated (kind `maploop`) and proved equal to the model -/
open Nsq.Model.RelayOpts

theorem parseCustomHeaders_step_eq (m : List (Str × Str)) (s : Str) :
    Nsq.Gen.ToolsRelayOpts.parseCustomHeaders_step m s = headerStep m s := by
  unfold Nsq.Gen.ToolsRelayOpts.parseCustomHeaders_step headerStep parseHeader splitN2
  cases h : cut 58 s with
  | none => simp
  | some kv =>
    obtain ⟨k, v⟩ := kv
    by_cases h1 : trimSpace k = [] <;> by_cases h2 : trimSpace v = [] <;> simp [h1, h2]

theorem parseCustomHeaders_eq (strs : List Str) :
    Nsq.Gen.ToolsRelayOpts.parseCustomHeaders strs = Nsq.Model.RelayOpts.parseCustomHeaders strs := by
  unfold Nsq.Gen.ToolsRelayOpts.parseCustomHeaders Nsq.Model.RelayOpts.parseCustomHeaders
  congr 1
  funext m s
  exact parseCustomHeaders_step_eq m s

end Nsq.Tie.ToolsRelayOpts
