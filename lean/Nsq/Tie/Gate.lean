import Nsq.Gen.GateFacts
import Nsq.Model.Gate
/-!
Tie (regenerated facts) for engine `gate` / property C11.

`Nsq.Gen.GateFacts` is re-extracted from the current tree by `tools/go2lean` on every run
(kinds `toplevel`, `stmts`, `errsites`, `callers`, `fieldwrites`, `consts`, `calls`). Each theorem
below says that a fact the model `Nsq.Model.Gate` relies on still holds of the source:

* `Exec`: IDENTIFY is dispatched first, then `enforceTLSPolicy` guards the whole switch;
* `PUB` / `MPUB` / `DPUB` / `SUB`: the `CheckAuth` guard is a top-level `if err := …; err != nil
  { return nil, err }` and no statement before it touches the broker — so it dominates
  `GetTopic` / `GetChannel` / `PutMessage(s)` / `AddClient`; the argument checks before the guard are
  the ones the model performs, in the same order;
* `CheckAuth`, `IsAuthorized`, `IsExpired`, `HasAuthorizations`, `Auth`, `AUTH`, `IsAllowed`,
  `HasPermission`, `QueryAuthd`'s validation: statement skeletons equal to the ones modelled;
* `client.TLS` is stored only in `UpgradeTLS`, after a successful `Handshake`, and `UpgradeTLS` is
  called only from `IDENTIFY`; `client.AuthState` is assigned only in `QueryAuthd`;
* `client.Reader` is assigned only in the three `Upgrade*` functions, each time from the new stream alone (the
  model's reader generation `rd`);
* the HTTP gate: `ServeHTTP`'s condition and `Main`'s wiring; `New`'s normalisation.

The right-hand sides are literals: that they are what the model does is seen by reading them beside `Nsq.Model.Gate`;
no theorem here mentions a constant of it.
-/
namespace Nsq.Tie.Gate
open Nsq.Gen.GateFacts

/-- A top-level statement as `go2lean` (kind `toplevel`) gives it: its shape (`if-return`, `assign`, …), its condition or
text, the `return` under an `if-return`, the tracked functions it calls. Kind `stmts` gives one string `<kind> <text>`
per statement instead, hence `"return return nil"`. -/
abbrev Row := String × String × String × List String

def shapeOf (r : Row) : String := r.1
def textOf (r : Row) : String := r.2.1
def retOf (r : Row) : String := r.2.2.1
def callsOf (r : Row) : List String := r.2.2.2

/-- the calls through which a command handler touches the broker -/
def effectCalls : List String :=
  ["GetTopic", "GetChannel", "PutMessage", "PutMessages", "AddClient", "readMPUB", "GenerateID", "PublishedMessage"]

def hasEffect (r : Row) : Bool := (callsOf r).any (fun c => effectCalls.contains c)

def isGuard (guardText : String) (r : Row) : Bool :=
  shapeOf r = "if-return" && textOf r = guardText && retOf r = "return nil, err" && callsOf r = ["CheckAuth"]

/-- The guard statement exists at top level and no statement before it has a broker effect:
everything after it (in particular every effect) runs only when `CheckAuth` returned nil. -/
def guardDominates (guardText : String) : List Row → Bool
  | [] => false
  | r :: rs => if isGuard guardText r then true else if hasEffect r then false else guardDominates guardText rs

def checksBeforeGuard (guardText : String) : List Row → List String
  | [] => []
  | r :: rs =>
    if isGuard guardText r then []
    else if shapeOf r = "if-return" then textOf r :: checksBeforeGuard guardText rs
    else checksBeforeGuard guardText rs

def effectsAfterGuard (guardText : String) : List Row → List String
  | [] => []
  | r :: rs =>
    if isGuard guardText r then (rs.map callsOf).flatten.filter (fun c => effectCalls.contains c)
    else effectsAfterGuard guardText rs

def pubGuard : String := "err := p.CheckAuth(client, \"PUB\", topicName, \"\"); err != nil"
def mpubGuard : String := "err := p.CheckAuth(client, \"MPUB\", topicName, \"\"); err != nil"
def dpubGuard : String := "err := p.CheckAuth(client, \"DPUB\", topicName, \"\"); err != nil"
def subGuard : String := "err := p.CheckAuth(client, \"SUB\", topicName, channelName); err != nil"

end Nsq.Tie.Gate

namespace Nsq.Proofs.GateRows
open Nsq.Tie.Gate Nsq.Gen.GateFacts

/-! Evaluated as they stand, the three walks over a handler's rows compare every condition text with the guard text. Here they
become `take` / `filter` / `drop` around the guard's index: the rows in front of it are recognised by their calls, and the
kernel is spared a comparison of two long strings per row and walk. -/

def guardRow (g : String) : Row := ("if-return", g, "return nil, err", ["CheckAuth"])

def guardIdx (rows : List Row) : Nat := rows.findIdx fun r => callsOf r == ["CheckAuth"]

def GuardAt (g : String) (rows : List Row) (n : Nat) : Prop :=
  guardDominates g rows = true ∧
  checksBeforeGuard g rows = ((rows.take n).filter (shapeOf · = "if-return")).map textOf ∧
  effectsAfterGuard g rows = ((rows.drop (n + 1)).map callsOf).flatten.filter (effectCalls.contains ·)

theorem walks_of_split (g : String) (pre post : List Row)
    (h : pre.all (fun r => callsOf r != ["CheckAuth"] && !hasEffect r) = true) :
    guardDominates g (pre ++ guardRow g :: post) = true ∧
    checksBeforeGuard g (pre ++ guardRow g :: post) = (pre.filter (shapeOf · = "if-return")).map textOf ∧
    effectsAfterGuard g (pre ++ guardRow g :: post) = (post.map callsOf).flatten.filter (effectCalls.contains ·) := by
  induction pre with
  | nil => simp [guardDominates, checksBeforeGuard, effectsAfterGuard, isGuard, guardRow, shapeOf, textOf, retOf, callsOf]
  | cons r pre ih =>
    rw [List.all_cons, Bool.and_eq_true, Bool.and_eq_true, bne_iff_ne, Bool.not_eq_true'] at h
    have ng : isGuard g r = false := by simp [isGuard, h.1.1]
    obtain ⟨d, c, e⟩ := ih h.2
    by_cases s : shapeOf r = "if-return" <;>
      simp [guardDominates, checksBeforeGuard, effectsAfterGuard, ng, h.1.2, d, c, e, s]

theorem guardAt (g : String) (rows : List Row) (n : Nat) (hrow : rows[n]? = some (guardRow g))
    (h : (rows.take n).all (fun r => callsOf r != ["CheckAuth"] && !hasEffect r) = true) : GuardAt g rows n := by
  obtain ⟨hn, hg⟩ := List.getElem?_eq_some_iff.mp hrow
  have e : rows = rows.take n ++ guardRow g :: rows.drop (n + 1) := by
    rw [← hg, ← List.drop_eq_getElem_cons hn, List.take_append_drop]
  have s := walks_of_split g (rows.take n) (rows.drop (n + 1)) h
  rwa [← e] at s

theorem pub : GuardAt pubGuard pubTop (guardIdx pubTop) := guardAt _ _ _ rfl (by decide +kernel)
theorem mpub : GuardAt mpubGuard mpubTop (guardIdx mpubTop) := guardAt _ _ _ rfl (by decide +kernel)
theorem dpub : GuardAt dpubGuard dpubTop (guardIdx dpubTop) := guardAt _ _ _ rfl (by decide +kernel)
theorem sub : GuardAt subGuard subTop (guardIdx subTop) := guardAt _ _ _ rfl (by decide +kernel)

end Nsq.Proofs.GateRows

namespace Nsq.Tie.Gate
open Nsq.Gen.GateFacts

/-! ### Exec -/

theorem exec_identify_first :
    execTop.head? = some ("if-return", "bytes.Equal(params[0], []byte(\"IDENTIFY\"))",
      "return p.IDENTIFY(client, params)", ["IDENTIFY"]) := rfl

theorem exec_tls_gate_before_dispatch :
    (execTop.drop 1).map (fun r => (shapeOf r, textOf r, retOf r)) =
      [("assign", "err := enforceTLSPolicy(client, p, params[0])", ""),
       ("if-return", "err != nil", "return nil, err"),
       ("switch", "", ""),
       ("return", "return nil, protocol.NewFatalClientErr(nil, \"E_INVALID\", fmt.Sprintf(\"invalid command %s\", params[0]))", "")] := rfl

/-- the commands behind the gate: exactly the non-IDENTIFY constructors of `Model.Gate.Cmd` -/
theorem exec_dispatch_table :
    (execTop.map callsOf).flatten =
      ["IDENTIFY", "enforceTLSPolicy", "FIN", "RDY", "REQ", "PUB", "MPUB", "DPUB", "NOP", "TOUCH", "SUB", "CLS", "AUTH"] := rfl

theorem enforceTLS_condition :
    enforceTLS =
      ["if p.nsqd.getOpts().TLSRequired != TLSNotRequired && atomic.LoadInt32(&client.TLS) != 1",
       "return return protocol.NewFatalClientErr(nil, \"E_INVALID\", fmt.Sprintf(\"cannot %s in current state (TLS required)\", command))",
       "return return nil"] := rfl

theorem tlsRequired_consts :
    c_TLSNotRequired = 0 ∧ c_TLSRequiredExceptHTTP = 1 ∧ c_TLSRequired = 2 := ⟨rfl, rfl, rfl⟩

/-! ### the auth guard dominates every broker effect -/

theorem pub_guard_dominates : guardDominates pubGuard pubTop = true := Nsq.Proofs.GateRows.pub.1
theorem mpub_guard_dominates : guardDominates mpubGuard mpubTop = true := Nsq.Proofs.GateRows.mpub.1
theorem dpub_guard_dominates : guardDominates dpubGuard dpubTop = true := Nsq.Proofs.GateRows.dpub.1
theorem sub_guard_dominates : guardDominates subGuard subTop = true := Nsq.Proofs.GateRows.sub.1

/-- non-vacuity of the four facts above: the effects are there, after the guard -/
theorem effects_after_guard :
    effectsAfterGuard pubGuard pubTop = ["GetTopic", "GenerateID", "PutMessage", "PublishedMessage"] ∧
    effectsAfterGuard mpubGuard mpubTop = ["GetTopic", "readMPUB", "PutMessages", "PublishedMessage"] ∧
    effectsAfterGuard dpubGuard dpubTop = ["GetTopic", "GenerateID", "PutMessage", "PublishedMessage"] ∧
    effectsAfterGuard subGuard subTop = ["GetTopic", "GetChannel", "AddClient"] :=
  ⟨Nsq.Proofs.GateRows.pub.2.2.trans (by decide +kernel), Nsq.Proofs.GateRows.mpub.2.2.trans (by decide +kernel),
   Nsq.Proofs.GateRows.dpub.2.2.trans (by decide +kernel), Nsq.Proofs.GateRows.sub.2.2.trans (by decide +kernel)⟩

/-- `CheckAuth` has no other caller: no fifth command is (half-)gated -/
theorem checkAuth_callers : checkAuthCallers = ["SUB", "PUB", "MPUB", "DPUB"] := rfl

/-- the argument checks in front of the guard are those of `execPub` / `execMpub` / `execDpub` /
`execSub`, in the same order -/
theorem checks_before_guard :
    checksBeforeGuard pubGuard pubTop =
      ["len(params) < 2", "!protocol.IsValidTopicName(topicName)", "err != nil", "bodyLen <= 0",
       "int64(bodyLen) > p.nsqd.getOpts().MaxMsgSize", "err != nil"] ∧
    checksBeforeGuard mpubGuard mpubTop =
      ["len(params) < 2", "!protocol.IsValidTopicName(topicName)"] ∧
    checksBeforeGuard dpubGuard dpubTop =
      ["len(params) < 3", "!protocol.IsValidTopicName(topicName)", "err != nil",
       "timeoutDuration < 0 || timeoutDuration > p.nsqd.getOpts().MaxReqTimeout", "err != nil", "bodyLen <= 0",
       "int64(bodyLen) > p.nsqd.getOpts().MaxMsgSize", "err != nil"] ∧
    checksBeforeGuard subGuard subTop =
      ["atomic.LoadInt32(&client.State) != stateInit", "client.HeartbeatInterval <= 0", "len(params) < 3",
       "!protocol.IsValidTopicName(topicName)", "!protocol.IsValidChannelName(channelName)"] :=
  ⟨Nsq.Proofs.GateRows.pub.2.1.trans rfl, Nsq.Proofs.GateRows.mpub.2.1.trans rfl, Nsq.Proofs.GateRows.dpub.2.1.trans rfl, Nsq.Proofs.GateRows.sub.2.1.trans rfl⟩

/-! ### CheckAuth / IsAuthorized / IsExpired / HasAuthorizations / Auth -/

theorem checkAuth_skeleton :
    checkAuth =
      ["if client.nsqd.IsAuthEnabled()",
       "if !client.HasAuthorizations()",
       "return return protocol.NewFatalClientErr(nil, \"E_AUTH_FIRST\", fmt.Sprintf(\"AUTH required before %s\", cmd))",
       "assign ok, err := client.IsAuthorized(topicName, channelName)",
       "if err != nil",
       "return return protocol.NewFatalClientErr(nil, \"E_AUTH_FAILED\", \"AUTH failed\")",
       "if !ok",
       "return return protocol.NewFatalClientErr(nil, \"E_UNAUTHORIZED\", fmt.Sprintf(\"AUTH failed for %s on %q %q\", cmd, topicName, channelName))",
       "return return nil"] := rfl

theorem isAuthorized_skeleton :
    isAuthorized =
      ["if c.AuthState == nil", "return return false, nil",
       "if c.AuthState.IsExpired()", "assign err := c.QueryAuthd()", "if err != nil", "return return false, err",
       "if c.AuthState.IsAllowed(topic, channel)", "return return true, nil", "return return false, nil"] := rfl

theorem isExpired_skeleton : isExpired = ["return return a.Expires.Before(time.Now())"] := rfl

theorem hasAuthorizations_skeleton :
    hasAuthorizations =
      ["if c.AuthState != nil", "return return len(c.AuthState.Authorizations) != 0", "return return false"] := rfl

theorem clientAuth_skeleton :
    clientAuth = ["assign c.AuthSecret = secret", "return return c.QueryAuthd()"] := rfl

theorem isAuthEnabled_skeleton :
    isAuthEnabled = ["return return len(n.getOpts().AuthHTTPAddresses) != 0"] := rfl

/-- every denial of the two gates is a *fatal* client error with the documented code -/
theorem gate_error_sites :
    gateErrs.filter (fun r => r.1 = "CheckAuth" || r.1 = "enforceTLSPolicy") =
      [("CheckAuth", "NewFatalClientErr", "E_AUTH_FIRST"),
       ("CheckAuth", "NewFatalClientErr", "E_AUTH_FAILED"),
       ("CheckAuth", "NewFatalClientErr", "E_UNAUTHORIZED"),
       ("enforceTLSPolicy", "NewFatalClientErr", "E_INVALID")] := by decide +kernel

/-! ### AUTH -/

/-- the early returns of `AUTH`, in order, each with its (fatal) error code: `execAuth`'s chain -/
theorem auth_checks :
    ((authTop.filter (fun r => shapeOf r = "if-return")).map textOf).zip
        ((gateErrs.filter (fun r => r.1 = "AUTH")).map (fun r => (r.2.1, r.2.2))) =
      [("atomic.LoadInt32(&client.State) != stateInit", "NewFatalClientErr", "E_INVALID"),
       ("len(params) != 1", "NewFatalClientErr", "E_INVALID"),
       ("err != nil", "NewFatalClientErr", "E_BAD_BODY"),
       ("int64(bodyLen) > p.nsqd.getOpts().MaxBodySize", "NewFatalClientErr", "E_BAD_BODY"),
       ("bodyLen <= 0", "NewFatalClientErr", "E_BAD_BODY"),
       ("err != nil", "NewFatalClientErr", "E_BAD_BODY"),
       ("client.HasAuthorizations()", "NewFatalClientErr", "E_INVALID"),
       ("!client.nsqd.IsAuthEnabled()", "NewFatalClientErr", "E_AUTH_DISABLED"),
       ("err := client.Auth(string(body)); err != nil", "NewFatalClientErr", "E_AUTH_FAILED"),
       ("!client.HasAuthorizations()", "NewFatalClientErr", "E_UNAUTHORIZED"),
       ("err != nil", "NewFatalClientErr", "E_AUTH_ERROR"),
       ("err != nil", "NewFatalClientErr", "E_AUTH_ERROR")] := rfl

/-! ### who can change the TLS flag and the auth state -/

theorem tls_flag_single_writer :
    tlsWrites.filter (fun r => r.2 ≠ "addr:LoadInt32") = [("UpgradeTLS", "addr:StoreInt32")] := by decide +kernel

theorem upgradeTLS_single_caller : upgradeTLSCallers = ["IDENTIFY"] := rfl

/-- in `UpgradeTLS`: handshake, return on error, and only then the store of the flag -/
theorem upgradeTLS_store_after_handshake :
    (upgradeTLSTop.filter (fun r => callsOf r ≠ [] || shapeOf r = "if-return")).map (fun r => (shapeOf r, textOf r, retOf r)) =
      [("assign", "tlsConn := tls.Server(c.Conn, c.nsqd.tlsConfig)", ""),
       ("assign", "err := tlsConn.Handshake()", ""),
       ("if-return", "err != nil", "return err"),
       ("expr", "atomic.StoreInt32(&c.TLS, 1)", "")] := rfl

/-- `IDENTIFY`: the state guard comes first; the feature-negotiation bail-out precedes the TLS
upgrade; the upgrade happens under `if tlsv1` with `tlsv1 := tlsConfig != nil && identifyData.TLSv1` -/
theorem identify_tls_skeleton :
    ((identifyTop.filter (fun r => shapeOf r = "if" || (shapeOf r = "if-return" && textOf r ≠ "err != nil"))).map
        (fun r => (textOf r, callsOf r))) =
      [("atomic.LoadInt32(&client.State) != stateInit", []),
       ("int64(bodyLen) > p.nsqd.getOpts().MaxBodySize", []),
       ("bodyLen <= 0", []),
       ("!identifyData.FeatureNegotiation", []),
       ("deflate && identifyData.DeflateLevel > 0", []),
       ("max := p.nsqd.getOpts().MaxDeflateLevel; max < deflateLevel", []),
       ("deflate && snappy", []),
       ("tlsv1", ["UpgradeTLS", "Send"]),
       ("snappy", ["UpgradeSnappy", "Send"]),
       ("deflate", ["UpgradeDeflate", "Send"])] ∧
    identifyTLS = ["assign tlsv1 := p.nsqd.tlsConfig != nil && identifyData.TLSv1"] := ⟨rfl, rfl⟩

/-! ### byte provenance: what the readers are built from

The model's `rd` (reader generation) says: after a completed `UpgradeTLS` the connection reads from a
*fresh* `bufio.Reader` over the `tls.Conn` and nothing else — in particular not from whatever the
replaced plaintext reader still had in its buffer. These facts pin exactly that: the only
assignments to `client.Reader` are the three `Upgrade*` functions, and each builds the new reader
from the new stream alone (`c.tlsConn`, resp. the decompressor over `conn`). -/

theorem reader_writers :
    readerWrites = [("UpgradeTLS", "assign"), ("UpgradeDeflate", "assign"), ("UpgradeSnappy", "assign")] := rfl

theorem upgradeTLS_reader_from_tls_only :
    upgradeTLSStreams =
      ["assign c.tlsConn = tlsConn",
       "assign c.Reader = bufio.NewReaderSize(c.tlsConn, defaultBufferSize)",
       "assign c.Writer = bufio.NewWriterSize(c.tlsConn, c.OutputBufferSize)"] := rfl

/-- the WRITER line is the one of fix F30 (/repo d6aa4e3: `sw := snappy.NewWriter(conn)` is kept in
`outputDest`; the statement `sw := …` matches none of the tracked patterns); the line before that fix
(`bufio.NewWriterSize(snappy.NewWriter(conn), …)`) is not accepted. The reader line — what this fact is about — is
the same in both. -/
theorem upgradeSnappy_reader_from_conn_only :
    upgradeSnappyStreams =
      ["assign conn := c.Conn",
       "assign conn = c.tlsConn",
       "assign c.Reader = bufio.NewReaderSize(snappy.NewReader(conn), defaultBufferSize)",
       "assign c.Writer = bufio.NewWriterSize(sw, c.OutputBufferSize)"] := rfl

theorem upgradeDeflate_reader_from_conn_only :
    upgradeDeflateStreams =
      ["assign conn := c.Conn",
       "assign conn = c.tlsConn",
       "assign c.Reader = bufio.NewReaderSize(flate.NewReader(conn), defaultBufferSize)",
       "assign fw, _ := flate.NewWriter(conn, level)",
       "assign c.Writer = bufio.NewWriterSize(fw, c.OutputBufferSize)"] := rfl

theorem authState_single_writer : authStateWrites = [("QueryAuthd", "assign")] := rfl
theorem authSecret_single_writer : authSecretWrites = [("Auth", "assign")] := rfl

/-! ### internal/auth -/

theorem stateIsAllowed_skeleton :
    stateIsAllowed = ["if aa.IsAllowed(topic, channel)", "return return true", "return return false"] := rfl

theorem authzIsAllowed_skeleton :
    authzIsAllowed =
      ["if channel != \"\"", "if !a.HasPermission(\"subscribe\")", "return return false",
       "if !a.HasPermission(\"publish\")", "return return false",
       "assign topicRegex := regexp.MustCompile(a.Topic)", "if !topicRegex.MatchString(topic)", "return return false",
       "assign channelRegex := regexp.MustCompile(c)", "if channelRegex.MatchString(channel)", "return return true",
       "return return false"] := rfl

theorem hasPermission_skeleton :
    hasPermission = ["if permission == p", "return return true", "return return false"] := rfl

theorem queryAuthd_validation :
    queryAuthdValidation =
      ["case \"subscribe\"",
       "return return nil, fmt.Errorf(\"unknown permission %s\", p)",
       "assign _, err := regexp.Compile(auth.Topic)",
       "assign _, err := regexp.Compile(channel)",
       "if authState.TTL <= 0",
       "return return nil, fmt.Errorf(\"invalid TTL %d (must be >0)\", authState.TTL)",
       "assign authState.Expires = time.Now().Add(time.Duration(authState.TTL) * time.Second)"] := rfl

/-! ### HTTP gate and option normalisation -/

theorem serveHTTP_condition :
    serveHTTP = ["if !s.tlsEnabled && s.tlsRequired"] ∧ serveHTTPCalls = ["WriteHeader", "ServeHTTP"] := ⟨rfl, rfl⟩

theorem main_http_wiring :
    mainHTTP =
      ["assign httpServer := newHTTPServer(n, false, n.getOpts().TLSRequired == TLSRequired)",
       "assign httpsServer := newHTTPServer(n, true, true)"] := rfl

theorem new_tls_normalisation :
    newTLS.take 5 =
      ["if opts.TLSClientAuthPolicy != \"\" && opts.TLSRequired == TLSNotRequired",
       "assign opts.TLSRequired = TLSRequired",
       "assign tlsConfig, err := buildTLSConfig(opts)",
       "if tlsConfig == nil && opts.TLSRequired != TLSNotRequired",
       "assign n.tlsConfig = tlsConfig"] := rfl

theorem buildTLS_policy :
    buildTLS =
      ["if opts.TLSCert == \"\" && opts.TLSKey == \"\"",
       "assign tlsClientAuthPolicy := tls.VerifyClientCertIfGiven",
       "assign cert, err := tls.LoadX509KeyPair(opts.TLSCert, opts.TLSKey)",
       "case \"require\"",
       "assign tlsClientAuthPolicy = tls.RequireAnyClientCert",
       "case \"require-verify\"",
       "assign tlsClientAuthPolicy = tls.RequireAndVerifyClientCert",
       "assign tlsClientAuthPolicy = tls.NoClientCert",
       "assign tlsConfig = &tls.Config{ Certificates: []tls.Certificate{cert}, ClientAuth: tlsClientAuthPolicy, MinVersion: opts.TLSMinVersion, }"] := rfl

end Nsq.Tie.Gate
