import Nsq.Gen.PubCounts
/-! Tie (regenerated facts) for `Nsq.Model.PubCounts` (C13, producers in `/stats`): the statement
sequence of the `pub_counts` loop of `clientV2.Stats` and of `clientV2.PublishedMessage`, re-extracted from the current
tree by tools/go2lean (spec specs/e2_pubcounts.json) and compared with the expected tables. -/
namespace Nsq.Tie.PubCounts

/-- the loop of `clientV2.Stats(topicName)` over `c.pubCounts`, under `metaLock.RLock`: skip (`continue`) a key other
than a non-empty filter, append `(topic, count)`, then leave the loop ONLY when a filter was given (fix F49 = /repo
6fb5d96, committed: `Nsq.Model.PubCounts.pubCountsOf true`, `Props.C13Pub.pub_counts_complete_fixed`). The shape before
F49 — the unconditional `break` (`pubCountsOf false`, `pub_counts_full_false_with_break`) — is not
accepted: with F49 reverted this tie breaks and `TestVerifE2PubCounts` reports `stats-pubcounts-break` (listed `fixed`) as a
VIOLATION with the publish script. Nothing else is accepted either (a `continue` in place of the `break`, no `break` at
all, another condition: the theorem fails and the model has to be looked at again). -/
def statsLoopF49 : List String := [
      "do c.metaLock.RLock()",
      "assign pubCounts := make([]PubCount, 0, len(c.pubCounts))",
      "range c.pubCounts",
      "if len(topicName) > 0 && topic != topicName",
      "branch continue",
      "assign pubCounts = append(pubCounts, PubCount{ Topic: topic, Count: count, })",
      "if len(topicName) > 0",
      "branch break",
      "do c.metaLock.RUnlock()",
      "stmt return stats"]

theorem statsPubCounts_eq : Nsq.Gen.PubCounts.statsPubCounts = statsLoopF49 := rfl

/-- COMPUTED: the `fixed` parameter of `Nsq.Model.PubCounts.pubCountsOf` for this tree
(`Props.C13Pub.pub_counts_full_this_tree`) -/
def treeFixed : Bool := Nsq.Gen.PubCounts.statsPubCounts == statsLoopF49

theorem tree_fixed : treeFixed = true := beq_iff_eq.mpr statsPubCounts_eq

/-- `clientV2.PublishedMessage(topic, count)`: `c.pubCounts[topic] += count` under `metaLock` (model `publish`). -/
theorem publishedMessage_eq : Nsq.Gen.PubCounts.publishedMessage = ([
  "do c.metaLock.Lock()",
  "assign c.pubCounts[topic] += count",
  "do c.metaLock.Unlock()"] : List String) := rfl

/-- the publish commands call it (PUB and DPUB with 1, MPUB with `len(messages)`: `Nsq.Tie.Chan` / E3 facts), and it
is the only writer of the map (`NewClientV2` makes it inside the struct literal). -/
theorem publishedMessageCallers_eq :
    Nsq.Gen.PubCounts.publishedMessageCallers = (["protocolV2.DPUB", "protocolV2.MPUB", "protocolV2.PUB"] : List String) := rfl

theorem pubCountsWrites_eq :
    Nsq.Gen.PubCounts.pubCountsWrites = ([("clientV2.PublishedMessage", "store")] : List (String × String)) := rfl

end Nsq.Tie.PubCounts
