import Nsq.Gen.Proto
import Nsq.Gen.LookupdProto
import Nsq.Model.ProtoV2
import Nsq.Model.RegistryProto
/-!
The text ties of the two protocol magics (`Tie.Proto.handleMagic_eq`,
`Tie.RegistryProto.magic_cases`) pin a *string*, which by itself is connected to the model's bytes by nothing.
Here the literal (the extractor keeps the blanks inside string literals) is tied to the model constants.
-/
namespace Nsq.Tie.MagicBytes

def caseOf (bytes : List UInt8) : String :=
  "case \"" ++ String.ofList (bytes.map (fun b => Char.ofNat b.toNat)) ++ "\""

/-- nsqd: the `case` of `tcpServer.Handle`'s protocol switch is the model's four magic bytes `␠␠V2` -/
theorem nsqd_magic_is_model_magic :
    Nsq.Gen.Proto.handleMagic[2]? = some (caseOf Nsq.Model.ProtoV2.magicV2) := by decide +kernel

/-- nsqlookupd: likewise `␠␠V1` -/
theorem lookupd_magic_is_model_magic :
    Nsq.Gen.LookupdProto.magicCases[1]? = some (caseOf Nsq.Model.RegistryProto.magicV1) := by decide +kernel

end Nsq.Tie.MagicBytes
