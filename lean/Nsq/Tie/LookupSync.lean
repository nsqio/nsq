import Nsq.Gen.E6Facts
import Nsq.Model.LookupSync
/-!
Tie (regenerated facts) for C16: guards and order of effects that `Nsq.Model.LookupSync` assumes,
re-extracted from the current tree on every run (`tools/go2lean`, kinds `stmts`, `effseq` and `enclosing`).
-/
namespace Nsq.Tie.LookupSync
open Nsq.Gen.E6Facts

/-- `readResponseBounded`: size read, **negative size rejected**, size over the limit rejected, and only then
`make([]byte, msgSize)` (`readResponse true`; fix F3: a tree without the negative-size test breaks this tie). -/
theorem readResponse_guards :
    readResponseGuards =
      ["assign err := binary.Read(r, binary.BigEndian, &msgSize)",
       "if msgSize < 0",
       "return return nil, fmt.Errorf(\"response body size (%d) is negative\", msgSize)",
       "if int64(msgSize) > limit",
       "return return nil, fmt.Errorf(\"response body size (%d) is greater than limit (%d)\", msgSize, limit)",
       "assign buf := make([]byte, msgSize)"] ∧
    readResponseCalls = ["call:Read", "return", "return", "return", "call:make", "call:ReadFull", "return", "return"] :=
  ⟨rfl, rfl⟩

/-- `lookupPeer.Command`: when not connected: Connect, state := connected, magic, connectCallback (only from
`stateDisconnected`), and if the callback left the peer disconnected the command fails; then write + bounded read;
every failure path calls `Close` (`LookupSync.command`: any failure ⇒ `conn := down`), and — F36, /repo abf2660 — a
reply that starts with `E_` closes the connection too (`commandR true` = `command`). ONLY this shape is accepted: the
shape without the `E_` test (the reply is returned whatever it says: `commandR false`, finding
`register-rejected-not-retried`, replay corpus/C16/fixed/register_rejected.ops) breaks this tie. -/
def commandShapeF36 : Prop :=
    command = ["assign:initialState := lp.state", "call:Connect", "assign:lp.state = stateConnected", "call:Write",
      "call:Close", "call:connectCallback", "call:WriteTo", "call:Close", "call:readResponseBounded", "call:Close",
      "call:Close"] ∧
    commandGuards = ["assign initialState := lp.state", "if lp.state != stateConnected",
      "assign lp.state = stateConnected", "if initialState == stateDisconnected", "if lp.state != stateConnected",
      "if cmd == nil", "if bytes.HasPrefix(resp, []byte(\"E_\"))"]

instance : Decidable commandShapeF36 := by unfold commandShapeF36; infer_instance

theorem command_shape :
    commandShapeF36 ∧ peerClose = ["assign:lp.state = stateDisconnected", "call:Close"] := ⟨⟨rfl, rfl⟩, rfl⟩

/-- COMPUTED from the regenerated facts: the `f36` parameter of `LookupMore.commandR` / `runR` for this tree;
`Props.C16More.converges_with_rejections_this_tree` is stated over it -/
def treeF36 : Bool := decide commandShapeF36

theorem tree_f36 : treeF36 = true := decide_eq_true command_shape.1

/-- The read deadline (F39, /repo 233d375): `lookupPeer.Read` uses `lp.deadline`, which `Command` sets once
before the magic write and once before each round trip (write + bounded read): a round trip takes at most 1 s. ONLY
this shape is accepted: the shape in which `Read` sets a fresh `time.Now()`-based deadline for EVERY Read and `Command`
sets none — a drip-fed reply is never timed out (finding `slow-reply-holds-lookup-loop`, replay
corpus/C16/fixed/slow_drip_reply.ops) — breaks this tie. -/
theorem read_deadline_shape :
    peerRead = ["call:SetReadDeadline", "call:Read"] ∧
    commandDeadline = ["assign:lp.deadline = time.Now().Add(time.Second)", "call:Write",
      "assign:lp.deadline = time.Now().Add(time.Second)", "call:WriteTo", "call:readResponseBounded"] := ⟨rfl, rfl⟩

/-- `connectCallback` (fix F14): IDENTIFY round trip, then under the
read locks every topic's `Exiting()` is tested before its channel map is read and every channel's `Exiting()` before its
REGISTER is built; `REGISTER topic` alone is sent only when no channel was registered (`callbackCmds objs dead`);
then the commands are sent one by one. A tree without the `Exiting` calls breaks this tie. -/
theorem connectCallback_shape :
    connectCallback = ["call:Identify", "call:Close", "call:Command", "call:Close", "call:Unmarshal", "call:Close",
      "call:RLock", "call:Exiting", "call:RLock", "call:Exiting", "call:Register", "call:Register", "call:RUnlock",
      "call:RUnlock", "call:Command"] ∧
    connectCallbackNesting = [("Register", ["func", "for range n.topicMap", "for range topic.channelMap"]),
      ("Register", ["func", "for range n.topicMap", "if !registered"])] := ⟨rfl, rfl⟩

/-- `lookupLoop` (fix F15): new peers get `Command(nil)`; the ticker
branch PINGs every peer; the notify branch chooses REGISTER / UNREGISTER from `lookupHasChannel` / `lookupHasTopic`,
i.e. from the CURRENT state of the notified *name* (`nameLive`), not from the notified object's flag, and sends it to
every peer; removed peers are closed. A tree that tests `Exiting()` of the notified object breaks this tie. -/
theorem lookupLoop_shape :
    lookupLoop = ["call:Reset", "call:newLookupPeer", "call:Command", "call:Ping", "call:Command",
      "call:lookupHasChannel", "call:Register", "call:UnRegister", "call:lookupHasTopic", "call:Register",
      "call:UnRegister", "call:Command", "call:Close"] ∧
    lookupHasTopic = ["assign t, ok := n.topicMap[topicName]", "return return ok && !t.Exiting()"] ∧
    lookupHasChannel = ["assign t, ok := n.topicMap[topicName]", "if !ok || t.Exiting()", "return return false",
      "assign c, ok := t.channelMap[channelName]", "return return ok && !c.Exiting()"] := ⟨rfl, rfl, rfl⟩

/-- `GetTopic` on a new topic: lookupd channel query and `GetChannel` for each non-`#ephemeral`, VALID name (F35, /repo
d2805fe: `IsValidChannelName` is tested before `GetChannel`: `precreateG true` = `precreate`) happen *before*
`t.Start()`; skipped while loading metadata and (F26, /repo 1121881) while nsqd is exiting — then the topic is handed out
CLOSED and nothing is pre-created or started (`LookupSync.precreate` describes an nsqd that is neither loading nor
exiting). ONLY this shape is accepted: the shape without the name test (every other name is created verbatim:
`precreateG false`, finding `precreate-unvalidated-channel-name`, harness cases `prex bad…`) breaks this tie. -/
def precreateShapeF35 : Prop :=
    getTopicPrecreate = ["call:NewTopic", "call:Close", "call:lookupdHTTPAddrs", "call:GetLookupdTopicChannels",
      "call:HasSuffix", "call:IsValidChannelName", "call:GetChannel", "call:Start"] ∧
    getTopicGuards = ["assign exiting := atomic.LoadInt32(&n.isExiting) == 1", "if exiting",
      "if atomic.LoadInt32(&n.isLoading) == 1", "if len(lookupdHTTPAddrs) > 0",
      "if strings.HasSuffix(channelName, \"#ephemeral\")", "if !protocol.IsValidChannelName(channelName)"]

instance : Decidable precreateShapeF35 := by unfold precreateShapeF35; infer_instance

theorem getTopic_precreate_before_start : precreateShapeF35 := ⟨rfl, rfl⟩

/-- COMPUTED: the `f35` parameter of `LookupSync.precreateG` for this tree (`Props.C16More.no_injection_this_tree`) -/
def treeF35 : Bool := decide precreateShapeF35

theorem tree_f35 : treeF35 = true := decide_eq_true getTopic_precreate_before_start

/-- which lookupds `GetTopic` asks (`Lookupd.identified`): `lookupdHTTPAddrs()` takes every configured peer whose cached
`Info.BroadcastAddress` is non-empty — set by a successful IDENTIFY, never cleared — and nothing else is tested: in
particular NOT the state of the TCP connection (seeded C16-m8 adds `lp.state != stateConnected`). -/
theorem httpAddrs_only_needs_identified :
    httpAddrsGuards = ["assign lookupPeers := n.lookupPeers.Load()", "if lookupPeers == nil",
      "if len(lp.Info.BroadcastAddress) <= 0",
      "assign addr := net.JoinHostPort(lp.Info.BroadcastAddress, strconv.Itoa(lp.Info.HTTPPort))"] ∧
    httpAddrsNesting = [("JoinHostPort", ["for range lookupPeers.([]*lookupPeer)"])] := ⟨rfl, rfl⟩

/-- `Topic.DeleteExistingChannel` (/repo c687824, F22): `channel.Delete()` is unconditional (its result is ignored: an
overlapping deleter goes on) and the unlink is guarded by the identity test — the map entry is removed only while it
still is the looked-up object (`LookupMore.stepD true`). The by-name shape (`stepD false`) is not accepted:
its witness `C16More.converges_false_without_F22` is replayed by corpus/C16/fixed/double_delete_channel.ops. -/
theorem deleteChannel_unlinks_own_object :
    deleteChannelUnlink = [("Delete", []), ("delete", ["if t.channelMap[channelName] == channel"])] := rfl

/-- Statement shape of the pre-creation: the `GetChannel` loop over the returned names is enclosed only by "some
lookupd is known" — **not** by a test of the query's error — and `GetLookupdTopicChannels` returns the partial union
together with the error when only some lookupds failed, `nil` only when all failed (`precreate`: union over the
`some` answers). -/
theorem getTopic_loop_not_guarded_by_err :
    getTopicNesting = [("GetLookupdTopicChannels", ["if len(lookupdHTTPAddrs) > 0"]),
      ("GetChannel", ["if len(lookupdHTTPAddrs) > 0", "for range channelNames"]), ("Start", [])] ∧
    topicChannelsContract = ["if len(errs) == len(lookupdHTTPAddrs)", "if len(errs) > 0",
      "return return channels, ErrList(errs)", "return return channels, nil"] := ⟨rfl, rfl⟩

/-- `Notify` hands the object to lookupLoop from its own goroutine (unordered: the model's bag). -/
theorem notify_is_a_goroutine : notifySend = ["call:Wrap", "call:verifPoint"] := rfl

end Nsq.Tie.LookupSync
