import Nsq.Gen.Life
import Nsq.Model.TopicDelete
/-!
Tie obligations of the topic-deletion race model (Model/TopicDelete.lean): the shape of `protocolV2.SUB`'s
re-check and of `NSQD.DeleteExistingTopic` on the current tree selects the model parameters.
-/
namespace Nsq.Tie.TopicDelete

/-- SUB: GetTopic, GetChannel, AddClient, then the `Exiting()` re-check with RemoveClient — one `sub` step of
the model (the retry after 100 ms is a second `sub` attempt of the same connection, refused the same way) -/
theorem sub_calls : Nsq.Gen.Life.subCalls = ["GetTopic", "GetChannel", "AddClient", "Exiting", "Exiting", "RemoveClient"] := rfl

/-- the re-check covers every topic (fix F19); one that covers ephemeral topics only (a SUB racing the deletion of a
durable topic is attached to the dead object — `Props.C08TopicDelete.witnessZombie`) breaks this tie -/
theorem sub_guard_shape :
    Nsq.Gen.Life.subGuard = ["if (channel.ephemeral && channel.Exiting()) || topic.Exiting()"] := rfl

/-- `DeleteExistingTopic`: lookup under the read lock, `topic.Delete()`, then under the write lock the unlink
and the post-delete persist; a deletion that lost the CAS returns and the unlink is guarded by the identity of the
object (fix F20; the shape that ignores the result of `Delete()` and unlinks the *name*, `witnessDouble`, breaks this tie) -/
theorem delete_topic_shape :
    Nsq.Gen.Life.deleteTopicCalls = ["RLock", "RUnlock", "RUnlock", "Delete", "Lock", "delete", "persistMetadataAfterDelete", "Unlock"] ∧
    Nsq.Gen.Life.deleteTopicStmts = ["if err == errExiting", "if n.topicMap[topicName] == topic"] := ⟨rfl, rfl⟩

/-- the ephemeral topic's `deleteCallback` is `DeleteExistingTopic` of the topic's *name*: the model's
`delBegin … delUnlink` steps, enabled whenever the name is registered -/
theorem delete_callback_is_delete_by_name :
    Nsq.Gen.Life.deleteCallbackStmts = ["assign deleteCallback := func(t *Topic) { n.DeleteExistingTopic(t.name) }"] := rfl

/-- the model instance the current tree selects -/
def treeModel : Nsq.Model.TopicDelete.DSt :=
  { subGuard := Nsq.Gen.Life.subGuard == ["if (channel.ephemeral && channel.Exiting()) || topic.Exiting()"],
    ownUnlink := Nsq.Gen.Life.deleteTopicStmts == ["if err == errExiting", "if n.topicMap[topicName] == topic"] }

/-- F19 (/repo 8445d6a) and F20 (dbf8a73) are committed: the tree's instance **is** the repaired one (an
equality, no disjunction) — `Props.C08TopicDelete.no_zombie_fixed` is thereby a theorem about the tree, and a tree
that reverts either repair breaks this tie (and the replays `topic_delete_races_sub`, `topic_double_delete_unlinks_fresh`) -/
theorem tree_model_known : treeModel = Nsq.Model.TopicDelete.fixedTree := by
  simp only [treeModel, sub_guard_shape, delete_topic_shape, beq_self_eq_true]
  rfl

end Nsq.Tie.TopicDelete
