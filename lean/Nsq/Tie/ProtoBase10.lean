import Nsq.Tie.Num
import Nsq.Proofs.Num
/-!
Tie for C09 (numbers): the definition of `ByteToBase10` regenerated from internal/protocol/byte_base10.go
by the translator (`specs/e1_codec.json` → `Nsq.Gen.Codec.byteToBase10`, 64-bit machine arithmetic)
computes exactly the model `Nsq.Model.Base10.byteToBase10` (natural numbers with an explicit
overflow test) on every byte string. The translated text is the 64-bit model `Nsq.Model.Num.byteToBase10` word for word
(`Nsq.Tie.Num.byteToBase10_eq`), and the 64-bit loop takes the steps of the loop on natural numbers
(`Nsq.Proofs.Num.b10loop_agree`).
-/
namespace Nsq.Tie.ProtoBase10
open Nsq.Model Nsq.Model.Base10

def toBytes (b : List (BitVec 8)) : List UInt8 := b.map UInt8.ofBitVec

/-- The model's answer rendered like the Go return values `(n, err)`. -/
def render : Option Nat → BitVec 64 × String
  | some n => (BitVec.ofNat 64 n, "")
  | none => (0#64, "errBase10")

/-- `ByteToBase10` as regenerated from the Go source = the model, for every input. -/
theorem byteToBase10_eq (b : List (BitVec 8)) :
    Nsq.Gen.Codec.byteToBase10 b = render (byteToBase10 (toBytes b)) := by
  -- the two hand models agree: the one on 64-bit words (C04) is the one on natural numbers with an overflow test (C09)
  rw [Tie.Num.byteToBase10_eq, Proofs.Num.byteToBase10_agree, toBytes]
  cases byteToBase10 (b.map UInt8.ofBitVec) <;> rfl

end Nsq.Tie.ProtoBase10
