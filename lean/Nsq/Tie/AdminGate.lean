import Nsq.Gen.AdminRoutes
import Nsq.Proofs.AdminNotify
/-!
Tie obligations for C17 over the tables regenerated from nsqadmin/http.go on every run
(`Nsq.Gen.AdminRoutes`): the admin predicate equals the model, and the decidable judgements on
the route table / handler skeletons that the property theorems lift to all requests.
A new mutating route without the check, a check moved behind an effect, a different failure
status — each makes one of the judgements below fail.

What is asked of a route and the skeleton of its handler is one decidable statement, `Nsq.Proofs.AdminSweep.Verdict`; the
table is walked once (`sweep`: one lookup of each route's skeleton, which is what costs), and the judgements on classes of
routes, here and in `Nsq.Tie.AdminNotify`, are read off it.
-/
namespace Nsq.Tie.AdminGate
open Nsq.Model.AdminGate Nsq.Gen.AdminRoutes

/-- The regenerated `isAuthorizedAdminRequest` is the model's `isAdmin`. -/
theorem isAuthorized_eq (conf : Conf) (req : Req) :
    isAuthorizedAdminRequest conf req = isAdmin conf req := by
  unfold isAuthorizedAdminRequest isAdmin
  by_cases h : conf.adminUsers.length == 0
  · simp only [h, if_true]
  · simp only [h]
    cases conf.adminUsers.any (fun v => v == headerGet req.headers conf.aclHeader) <;> rfl

def skelOf (r : Route) : Option Skel := lookupHandler adminHandlers r.handler

def checkAll (p : Route → Bool) (q : Skel → Bool) : Bool :=
  (adminRoutes.filter p).all (fun r => match skelOf r with | some sk => q sk | none => false)

def Route.apiView (r : Route) : Bool := r.method == "GET" && r.segs.head? == some "api"

def Route.page (r : Route) : Bool :=
  r.method == "GET" && r.segs.head? != some "api" && r.segs.head? != some "config" &&
    r.segs.head? != some "render"

/-! ### State-changing by effect

`Route.mutating` goes by the HTTP method. `skelWrites` goes by what the handler *does*: the table
`upstreamWrites` (regenerated from internal/clusterinfo/data.go and internal/http_api/api_request.go: which
method can send a request that is not a GET) classifies every upstream call of every skeleton. -/

def skelWrites (r : Route) : Bool :=
  match skelOf r with
  | some sk => canWrite upstreamWrites sk
  | none => true

end Nsq.Tie.AdminGate

namespace Nsq.Proofs.AdminSweep
open Nsq.Model.AdminGate Nsq.Gen.AdminRoutes Nsq.Tie.AdminGate Nsq.Proofs.AdminNotify

/-- What is asked of a route and the skeleton of its handler, one conjunct per class of routes; the ties and `Props.C17`
read it by position: (1) a mutating route, six judgements; (2) views and pages; (3) `/config`; (4) whoever writes;
(5) plain GETs; (6) a route that is not mutating never notifies. -/
def Verdict (r : Route) (sk : Skel) : Prop :=
  (r.mutating → guarded sk ∧ canWrite upstreamWrites sk ∧ adminReaches r.handler sk ∧ fanoutOk r.handler sk ∧
    notifyOk r.handler sk ∧ notifyGated false sk) ∧
  (Route.apiView r ∨ Route.page r → authFree sk) ∧
  (r.isConfig → cidrGuarded sk) ∧
  (canWrite upstreamWrites sk → r.mutating || r.isConfig || r.isProxy) ∧
  (r.plainGet → canWrite upstreamWrites sk = false) ∧
  (r.mutating = false → ∀ p ∈ paths sk, notesOf p.2.1 = [])

instance (r : Route) (sk : Skel) : Decidable (Verdict r sk) := by unfold Verdict; infer_instance

theorem sweep : adminRoutes.all (fun r => (skelOf r).any fun sk => decide (Verdict r sk)) = true := by decide +kernel

theorem resolved {r : Route} (hr : r ∈ adminRoutes) : ∃ sk, skelOf r = some sk ∧ Verdict r sk := by
  obtain ⟨sk, hs, v⟩ := (Option.any_eq_true _ _).1 (List.all_eq_true.1 sweep r hr)
  exact ⟨sk, hs, of_decide_eq_true v⟩

theorem all_of_verdict (p : Route → Bool) (q : Route → Skel → Bool)
    (h : ∀ r sk, Verdict r sk → p r → q r sk) :
    (adminRoutes.filter p).all (fun r => match skelOf r with | some sk => q r sk | none => false) = true := by
  refine List.all_eq_true.2 fun r hr => ?_
  obtain ⟨hr, hp⟩ := List.mem_filter.1 hr
  obtain ⟨sk, hs, v⟩ := resolved hr
  rw [hs]; exact h r sk v hp

end Nsq.Proofs.AdminSweep

namespace Nsq.Tie.AdminGate
open Nsq.Model.AdminGate Nsq.Gen.AdminRoutes Nsq.Proofs.AdminSweep

/-- Every POST/PUT/DELETE route below /api has the admin check in front of every effect. -/
theorem mutating_routes_guarded : checkAll Route.mutating guarded = true :=
  all_of_verdict _ _ fun _ _ v hm => (v.1 hm).1

/-- There are such routes (the statement above is not about an empty table). -/
theorem mutating_routes_count : (adminRoutes.filter Route.mutating).length = 6 := by decide +kernel

/-- No GET view below /api evaluates the admin check. -/
theorem api_views_authFree : checkAll Route.apiView authFree = true :=
  all_of_verdict _ _ fun _ _ v h => v.2.1 (.inl h)

/-- The page/static GET routes served by extracted handlers do not branch on the admin check
either (the index page only passes its value to the template). -/
theorem pages_authFree : checkAll Route.page authFree = true :=
  all_of_verdict _ _ fun _ _ v h => v.2.1 (.inr h)

/-- Both /config/:opt routes start with the CIDR gate. -/
theorem config_routes_cidrGuarded : checkAll Route.isConfig cidrGuarded = true :=
  all_of_verdict _ _ fun _ _ v h => v.2.2.1 h
theorem config_routes_count : (adminRoutes.filter Route.isConfig).map (·.method) = ["GET", "PUT"] := by decide +kernel

/-- No route other than the known mutating ones and PUT /config uses a non-GET method
(a mutating route registered outside /api would otherwise escape `Route.mutating`). -/
theorem non_get_routes :
    (adminRoutes.filter (fun r => r.method != "GET")).all (fun r => r.mutating || r.isConfig) = true := by decide +kernel

/-- Every route whose handler can perform a write (a non-GET upstream request, a notification, a
configuration write, or anything the extractor does not understand) is one of the POST/PUT/DELETE routes
below `/api` or a `/config` route. A new `GET /api/purge/:topic` that calls `DeleteTopic` fails here. -/
theorem writers_are_mutating_or_config :
    (adminRoutes.filter skelWrites).all (fun r => r.mutating || r.isConfig || r.isProxy) = true := by
  refine List.all_eq_true.2 fun r hr => ?_
  obtain ⟨hr, hw⟩ := List.mem_filter.1 hr
  obtain ⟨sk, hs, v⟩ := resolved hr
  rw [skelWrites, hs] at hw
  exact v.2.2.2.1 hw

/-- … and each of the POST/PUT/DELETE routes below `/api` does write (the guard theorems are not about
handlers that do nothing). -/
theorem mutating_routes_write : (adminRoutes.filter Route.mutating).all skelWrites = true := by
  refine List.all_eq_true.2 fun r hr => ?_
  obtain ⟨hr, hm⟩ := List.mem_filter.1 hr
  obtain ⟨sk, hs, v⟩ := resolved hr
  rw [skelWrites, hs]
  exact (v.1 hm).2.1

/-- Every GET route outside `/config` (views, pages, static files) performs only reads. -/
theorem get_routes_readonly :
    checkAll Route.plainGet (fun sk => !canWrite upstreamWrites sk) = true :=
  all_of_verdict _ _ fun _ _ v h => by rw [v.2.2.2.2.1 h]; rfl

/-- The classification is not empty talk: the ten actions write, the lookups do not. -/
theorem upstreamWrites_sample :
    writesOf upstreamWrites "DeleteTopic" = true ∧ writesOf upstreamWrites "EmptyChannel" = true ∧
    writesOf upstreamWrites "GetNSQDStats" = false ∧ writesOf upstreamWrites "GetTopicProducers" = false ∧
    writesOf upstreamWrites "client.GETV1" = false ∧ writesOf upstreamWrites "client.POSTV1" = true ∧
    writesOf upstreamWrites "SomethingNew" = true := by decide +kernel

/-- In every mutating handler a well-formed request with an admin identity (body decodes, names valid,
action one of pause / unpause / empty) can only end 200 or 502 — there is no other way out behind the
check. With `mutating_routes_fanout` (200/502 ⇒ exactly the expected `ClusterInfo` action): the action is
carried out. A `return 400` inserted behind the check fails here. -/
theorem mutating_routes_reach :
    (adminRoutes.filter Route.mutating).all (fun r =>
      match skelOf r with | some sk => adminReaches r.handler sk | none => false) = true :=
  all_of_verdict _ (fun r sk => adminReaches r.handler sk) fun _ _ v hm => (v.1 hm).2.2.1

theorem mutating_routes_fanout :
    (adminRoutes.filter Route.mutating).all (fun r =>
      match skelOf r with | some sk => fanoutOk r.handler sk | none => false) = true :=
  all_of_verdict _ (fun r sk => fanoutOk r.handler sk) fun _ _ v hm => (v.1 hm).2.2.2.1

end Nsq.Tie.AdminGate
