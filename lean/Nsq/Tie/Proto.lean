import Nsq.Gen.Proto
import Nsq.Proofs.ProtoV2
/-!
Tie for C09: facts re-extracted from the current source tree by `tools/go2lean`
(`specs/e3_proto.json` → `Nsq.Gen.Proto`) against what the model `Nsq.Model.ProtoV2` was written
from.

* Part 1 — semantic obligations: the regex literal, the reader's buffer size, the id length,
  the order of the IDENTIFY setters, and — as sets — every error
  code/class the model can answer has a `New(Fatal)ClientErr` call site of that class, and every
  call site is either answered by the base model or listed in `faultOnlyCodes` (answered by
  `Nsq.Model.ProtoEnv.execX`: consumer limit, failing backend write; see there).
* Part 2 — the connection-state and frame-type constants; the exact, ordered text of the dispatch switch,
  of every `New(Fatal)ClientErr` call site (function, constructor, code) and of every guard / limit comparison the model mirrors. Any
  edit of a guard (an off-by-one, a dropped or reordered check, a changed code) changes the
  regenerated definition and these `rfl`s no longer check: the tie is reported broken and the
  check searches for a failing input.
-/
namespace Nsq.Tie.Proto
open Nsq.Model.ProtoV2 Nsq.Model Nsq.Proofs.ProtoV2

/-! ## Part 1 -/

theorem regex_literal : Nsq.Gen.Proto.nameRegex = Names.regexLiteral := rfl
theorem buffer_size : Nsq.Gen.Proto.c_defaultBufferSize = (bufSize : Int) := rfl
theorem msg_id_length : Nsq.Gen.Proto.c_MsgIDLength = 16 := rfl
theorem identify_setter_order :
    Nsq.Gen.Proto.identifyOrder = ["SetHeartbeatInterval", "SetOutputBuffer", "SetSampleRate", "SetMsgTimeout"] := rfl

/-- The command names of the dispatch switch, in the model's order of tests (`exec`). -/
def dispatchOrder : List Bytes :=
  [cIDENTIFY, cFIN, cRDY, cREQ, cPUB, cMPUB, cDPUB, cNOP, cTOUCH, cSUB, cCLS, cAUTH]

theorem dispatch_names : dispatchOrder = ["IDENTIFY", "FIN", "RDY", "REQ", "PUB", "MPUB", "DPUB", "NOP", "TOUCH",
    "SUB", "CLS", "AUTH"].map Names.ascii := rfl

/-- Anything that is not one of the twelve names is answered `E_INVALID` (fatal). -/
theorem unknown_command (conf : Conf) (s : ConnState) (b : Broker) (cmd : Bytes) (tl : List Bytes) (rest : Bytes)
    (h : cmd ∉ dispatchOrder) : exec conf s b (cmd :: tl) rest = fatal .E_INVALID s b := by
  simp only [dispatchOrder, List.mem_cons, List.not_mem_nil, or_false, not_or] at h
  obtain ⟨h1, h2, h3, h4, h5, h6, h7, h8, h9, h10, h11, h12⟩ := h
  simp [exec, h1, h2, h3, h4, h5, h6, h7, h8, h9, h10, h11, h12]

def hasSite (ctor : String) (c : Code) : Bool :=
  Nsq.Gen.Proto.errSites.any (fun s => s.2.1 == ctor && s.2.2 == c.toString)

/-- Every fatal code of the model is passed to `NewFatalClientErr` somewhere in package nsqd … -/
theorem fatal_codes_have_sites : ∀ c ∈ modelFatal, hasSite "NewFatalClientErr" c = true := by decide +kernel
/-- … and every non-fatal one to `NewClientErr`. -/
theorem nonfatal_codes_have_sites : ∀ c ∈ modelNonFatal, hasSite "NewClientErr" c = true := by decide +kernel

/-- Codes with call sites that the BASE model `exec` never answers: E_SUB_FAILED is the
`--max-channel-consumers` limit — an ordinary, deterministic read of the broker, not a fault
(whatever the name says) — or a SUB racing a deletion; E_PUB/MPUB/DPUB_FAILED are a failing
backend write (or a topic exiting during the publish). All four ARE answered by
`Nsq.Model.ProtoEnv.execX` (consumer limit and write fault as inputs; theorems in
`Nsq.Props.C09Audit`, guards tied in `Nsq.Tie.ProtoAudit`). Only E_AUTH_ERROR (json.Marshal / send
failure after a successful AUTH) stays outside every model. -/
def faultOnlyCodes : List String :=
  ["E_PUB_FAILED", "E_MPUB_FAILED", "E_DPUB_FAILED", "E_SUB_FAILED", "E_AUTH_ERROR"]

/-- Conversely every call site's (class, code) is one the model answers, or fault-only. -/
theorem sites_are_modelled : ∀ s ∈ Nsq.Gen.Proto.errSites,
    (s.2.1 = "NewFatalClientErr" ∧ (modelFatal.any (fun c => c.toString == s.2.2) = true)) ∨
    (s.2.1 = "NewClientErr" ∧ (modelNonFatal.any (fun c => c.toString == s.2.2) = true)) ∨
    s.2.2 ∈ faultOnlyCodes := by decide +kernel

/-! ## Part 2 -/

theorem errSites_eq : Nsq.Gen.Proto.errSites = ([
  ("Exec", "NewFatalClientErr", "E_INVALID"),
  ("IDENTIFY", "NewFatalClientErr", "E_INVALID"),
  ("IDENTIFY", "NewFatalClientErr", "E_BAD_BODY"),
  ("IDENTIFY", "NewFatalClientErr", "E_BAD_BODY"),
  ("IDENTIFY", "NewFatalClientErr", "E_BAD_BODY"),
  ("IDENTIFY", "NewFatalClientErr", "E_BAD_BODY"),
  ("IDENTIFY", "NewFatalClientErr", "E_BAD_BODY"),
  ("IDENTIFY", "NewFatalClientErr", "E_BAD_BODY"),
  ("IDENTIFY", "NewFatalClientErr", "E_IDENTIFY_FAILED"),
  ("IDENTIFY", "NewFatalClientErr", "E_IDENTIFY_FAILED"),
  ("IDENTIFY", "NewFatalClientErr", "E_IDENTIFY_FAILED"),
  ("IDENTIFY", "NewFatalClientErr", "E_IDENTIFY_FAILED"),
  ("IDENTIFY", "NewFatalClientErr", "E_IDENTIFY_FAILED"),
  ("IDENTIFY", "NewFatalClientErr", "E_IDENTIFY_FAILED"),
  ("IDENTIFY", "NewFatalClientErr", "E_IDENTIFY_FAILED"),
  ("IDENTIFY", "NewFatalClientErr", "E_IDENTIFY_FAILED"),
  ("IDENTIFY", "NewFatalClientErr", "E_IDENTIFY_FAILED"),
  ("AUTH", "NewFatalClientErr", "E_INVALID"),
  ("AUTH", "NewFatalClientErr", "E_INVALID"),
  ("AUTH", "NewFatalClientErr", "E_BAD_BODY"),
  ("AUTH", "NewFatalClientErr", "E_BAD_BODY"),
  ("AUTH", "NewFatalClientErr", "E_BAD_BODY"),
  ("AUTH", "NewFatalClientErr", "E_BAD_BODY"),
  ("AUTH", "NewFatalClientErr", "E_INVALID"),
  ("AUTH", "NewFatalClientErr", "E_AUTH_DISABLED"),
  ("AUTH", "NewFatalClientErr", "E_AUTH_FAILED"),
  ("AUTH", "NewFatalClientErr", "E_UNAUTHORIZED"),
  ("AUTH", "NewFatalClientErr", "E_AUTH_ERROR"),
  ("AUTH", "NewFatalClientErr", "E_AUTH_ERROR"),
  ("CheckAuth", "NewFatalClientErr", "E_AUTH_FIRST"),
  ("CheckAuth", "NewFatalClientErr", "E_AUTH_FAILED"),
  ("CheckAuth", "NewFatalClientErr", "E_UNAUTHORIZED"),
  ("SUB", "NewFatalClientErr", "E_INVALID"),
  ("SUB", "NewFatalClientErr", "E_INVALID"),
  ("SUB", "NewFatalClientErr", "E_INVALID"),
  ("SUB", "NewFatalClientErr", "E_BAD_TOPIC"),
  ("SUB", "NewFatalClientErr", "E_BAD_CHANNEL"),
  ("SUB", "NewFatalClientErr", "E_SUB_FAILED"),
  ("SUB", "NewFatalClientErr", "E_SUB_FAILED"),
  ("RDY", "NewFatalClientErr", "E_INVALID"),
  ("RDY", "NewFatalClientErr", "E_INVALID"),
  ("RDY", "NewFatalClientErr", "E_INVALID"),
  ("FIN", "NewFatalClientErr", "E_INVALID"),
  ("FIN", "NewFatalClientErr", "E_INVALID"),
  ("FIN", "NewFatalClientErr", "E_INVALID"),
  ("FIN", "NewClientErr", "E_FIN_FAILED"),
  ("REQ", "NewFatalClientErr", "E_INVALID"),
  ("REQ", "NewFatalClientErr", "E_INVALID"),
  ("REQ", "NewFatalClientErr", "E_INVALID"),
  ("REQ", "NewFatalClientErr", "E_INVALID"),
  ("REQ", "NewClientErr", "E_REQ_FAILED"),
  ("CLS", "NewFatalClientErr", "E_INVALID"),
  ("PUB", "NewFatalClientErr", "E_INVALID"),
  ("PUB", "NewFatalClientErr", "E_BAD_TOPIC"),
  ("PUB", "NewFatalClientErr", "E_BAD_MESSAGE"),
  ("PUB", "NewFatalClientErr", "E_BAD_MESSAGE"),
  ("PUB", "NewFatalClientErr", "E_BAD_MESSAGE"),
  ("PUB", "NewFatalClientErr", "E_BAD_MESSAGE"),
  ("PUB", "NewFatalClientErr", "E_PUB_FAILED"),
  ("MPUB", "NewFatalClientErr", "E_INVALID"),
  ("MPUB", "NewFatalClientErr", "E_BAD_TOPIC"),
  ("MPUB", "NewFatalClientErr", "E_BAD_BODY"),
  ("MPUB", "NewFatalClientErr", "E_BAD_BODY"),
  ("MPUB", "NewFatalClientErr", "E_BAD_BODY"),
  ("MPUB", "NewFatalClientErr", "E_MPUB_FAILED"),
  ("DPUB", "NewFatalClientErr", "E_INVALID"),
  ("DPUB", "NewFatalClientErr", "E_BAD_TOPIC"),
  ("DPUB", "NewFatalClientErr", "E_INVALID"),
  ("DPUB", "NewFatalClientErr", "E_INVALID"),
  ("DPUB", "NewFatalClientErr", "E_BAD_MESSAGE"),
  ("DPUB", "NewFatalClientErr", "E_BAD_MESSAGE"),
  ("DPUB", "NewFatalClientErr", "E_BAD_MESSAGE"),
  ("DPUB", "NewFatalClientErr", "E_BAD_MESSAGE"),
  ("DPUB", "NewFatalClientErr", "E_DPUB_FAILED"),
  ("TOUCH", "NewFatalClientErr", "E_INVALID"),
  ("TOUCH", "NewFatalClientErr", "E_INVALID"),
  ("TOUCH", "NewFatalClientErr", "E_INVALID"),
  ("TOUCH", "NewClientErr", "E_TOUCH_FAILED"),
  ("readMPUB", "NewFatalClientErr", "E_BAD_BODY"),
  ("readMPUB", "NewFatalClientErr", "E_BAD_BODY"),
  ("readMPUB", "NewFatalClientErr", "E_BAD_MESSAGE"),
  ("readMPUB", "NewFatalClientErr", "E_BAD_MESSAGE"),
  ("readMPUB", "NewFatalClientErr", "E_BAD_MESSAGE"),
  ("readMPUB", "NewFatalClientErr", "E_BAD_MESSAGE"),
  ("enforceTLSPolicy", "NewFatalClientErr", "E_INVALID")] : List (String × String × String)) := rfl

theorem execDispatch_eq : Nsq.Gen.Proto.execDispatch = ([
  "if bytes.Equal(params[0], []byte(\"IDENTIFY\"))",
  "return return p.IDENTIFY(client, params)",
  "assign err := enforceTLSPolicy(client, p, params[0])",
  "case bytes.Equal(params[0], []byte(\"FIN\"))",
  "return return p.FIN(client, params)",
  "case bytes.Equal(params[0], []byte(\"RDY\"))",
  "return return p.RDY(client, params)",
  "case bytes.Equal(params[0], []byte(\"REQ\"))",
  "return return p.REQ(client, params)",
  "case bytes.Equal(params[0], []byte(\"PUB\"))",
  "return return p.PUB(client, params)",
  "case bytes.Equal(params[0], []byte(\"MPUB\"))",
  "return return p.MPUB(client, params)",
  "case bytes.Equal(params[0], []byte(\"DPUB\"))",
  "return return p.DPUB(client, params)",
  "case bytes.Equal(params[0], []byte(\"NOP\"))",
  "return return p.NOP(client, params)",
  "case bytes.Equal(params[0], []byte(\"TOUCH\"))",
  "return return p.TOUCH(client, params)",
  "case bytes.Equal(params[0], []byte(\"SUB\"))",
  "return return p.SUB(client, params)",
  "case bytes.Equal(params[0], []byte(\"CLS\"))",
  "return return p.CLS(client, params)",
  "case bytes.Equal(params[0], []byte(\"AUTH\"))",
  "return return p.AUTH(client, params)",
  "return return nil, protocol.NewFatalClientErr(nil, \"E_INVALID\", fmt.Sprintf(\"invalid command %s\", params[0]))"] : List String) := rfl

theorem ioLoopStmts_eq : Nsq.Gen.Proto.ioLoopStmts = ([
  "assign line, err = client.Reader.ReadSlice('\\n')",
  "if err == io.EOF",
  "assign line = line[:len(line)-1]",
  "if len(line) > 0 && line[len(line)-1] == '\\r'",
  "assign line = line[:len(line)-1]",
  "assign params := bytes.Split(line, separatorBytes)",
  "assign response, err = p.Exec(client, params)",
  "assign sendErr := p.Send(client, frameTypeError, []byte(err.Error()))",
  "assign _, ok := err.(*protocol.FatalClientErr)",
  "assign err = p.Send(client, frameTypeResponse, response)"] : List String) := rfl

theorem handleMagic_eq : Nsq.Gen.Proto.handleMagic = ([
  "assign _, err := io.ReadFull(conn, buf)",
  "assign protocolMagic := string(buf)",
  "case \"  V2\"",
  "assign prot = &protocolV2{nsqd: p.nsqd}"] : List String) := rfl

theorem c_defaultBufferSize_eq : Nsq.Gen.Proto.c_defaultBufferSize = (16384 : Int) := buffer_size

theorem c_MsgIDLength_eq : Nsq.Gen.Proto.c_MsgIDLength = (16 : Int) := msg_id_length

theorem c_stateInit_eq : Nsq.Gen.Proto.c_stateInit = (0 : Int) := rfl

theorem c_stateSubscribed_eq : Nsq.Gen.Proto.c_stateSubscribed = (3 : Int) := rfl

theorem c_stateClosing_eq : Nsq.Gen.Proto.c_stateClosing = (4 : Int) := rfl

theorem c_frameTypeResponse_eq : Nsq.Gen.Proto.c_frameTypeResponse = (0 : Int) := rfl

theorem c_frameTypeError_eq : Nsq.Gen.Proto.c_frameTypeError = (1 : Int) := rfl

theorem c_frameTypeMessage_eq : Nsq.Gen.Proto.c_frameTypeMessage = (2 : Int) := rfl

theorem identifyLimits_eq : Nsq.Gen.Proto.identifyLimits = ([
  "if atomic.LoadInt32(&client.State) != stateInit",
  "assign bodyLen, err := readLen(client.Reader, client.lenSlice)",
  "if int64(bodyLen) > p.nsqd.getOpts().MaxBodySize",
  "return return nil, protocol.NewFatalClientErr(nil, \"E_BAD_BODY\", fmt.Sprintf(\"IDENTIFY body too big %d > %d\", bodyLen, p.nsqd.getOpts().MaxBodySize))",
  "if bodyLen <= 0",
  "return return nil, protocol.NewFatalClientErr(nil, \"E_BAD_BODY\", fmt.Sprintf(\"IDENTIFY invalid body size %d\", bodyLen))",
  "assign body := make([]byte, bodyLen)",
  "if !identifyData.FeatureNegotiation",
  "assign tlsv1 := p.nsqd.tlsConfig != nil && identifyData.TLSv1",
  "assign deflate := p.nsqd.getOpts().DeflateEnabled && identifyData.Deflate",
  "assign snappy := p.nsqd.getOpts().SnappyEnabled && identifyData.Snappy",
  "if deflate && snappy"] : List String) := rfl

theorem authLimits_eq : Nsq.Gen.Proto.authLimits = ([
  "if atomic.LoadInt32(&client.State) != stateInit",
  "if len(params) != 1",
  "assign bodyLen, err := readLen(client.Reader, client.lenSlice)",
  "if int64(bodyLen) > p.nsqd.getOpts().MaxBodySize",
  "return return nil, protocol.NewFatalClientErr(nil, \"E_BAD_BODY\", fmt.Sprintf(\"AUTH body too big %d > %d\", bodyLen, p.nsqd.getOpts().MaxBodySize))",
  "if bodyLen <= 0",
  "return return nil, protocol.NewFatalClientErr(nil, \"E_BAD_BODY\", fmt.Sprintf(\"AUTH invalid body size %d\", bodyLen))",
  "assign body := make([]byte, bodyLen)"] : List String) := rfl

theorem subLimits_eq : Nsq.Gen.Proto.subLimits = ([
  "if atomic.LoadInt32(&client.State) != stateInit",
  "if client.HeartbeatInterval <= 0",
  "if len(params) < 3",
  "assign topicName := string(params[1])",
  "if !protocol.IsValidTopicName(topicName)",
  "assign channelName := string(params[2])",
  "if !protocol.IsValidChannelName(channelName)"] : List String) := rfl

theorem rdyLimits_eq : Nsq.Gen.Proto.rdyLimits = ([
  "assign state := atomic.LoadInt32(&client.State)",
  "if state == stateClosing",
  "if state != stateSubscribed",
  "return return nil, protocol.NewFatalClientErr(nil, \"E_INVALID\", \"cannot RDY in current state\")",
  "assign count := int64(1)",
  "if len(params) > 1",
  "return return nil, protocol.NewFatalClientErr(err, \"E_INVALID\", fmt.Sprintf(\"RDY could not parse count %s\", params[1]))",
  "assign count = int64(b10)",
  "if count < 0 || count > p.nsqd.getOpts().MaxRdyCount",
  "return return nil, protocol.NewFatalClientErr(nil, \"E_INVALID\", fmt.Sprintf(\"RDY count %d out of range 0-%d\", count, p.nsqd.getOpts().MaxRdyCount))"] : List String) := rfl

theorem finLimits_eq : Nsq.Gen.Proto.finLimits = ([
  "assign state := atomic.LoadInt32(&client.State)",
  "if state != stateSubscribed && state != stateClosing",
  "return return nil, protocol.NewFatalClientErr(nil, \"E_INVALID\", \"cannot FIN in current state\")",
  "if len(params) < 2",
  "assign id, err := getMessageID(params[1])"] : List String) := rfl

theorem reqLimits_eq : Nsq.Gen.Proto.reqLimits = ([
  "assign state := atomic.LoadInt32(&client.State)",
  "if state != stateSubscribed && state != stateClosing",
  "return return nil, protocol.NewFatalClientErr(nil, \"E_INVALID\", \"cannot REQ in current state\")",
  "if len(params) < 3",
  "assign id, err := getMessageID(params[1])",
  "assign timeoutMs, err := protocol.ByteToBase10(params[2])",
  "assign timeoutDuration := msToDuration(timeoutMs)",
  "assign clampedTimeout := timeoutDuration",
  "if timeoutDuration < 0",
  "assign clampedTimeout = 0",
  "if timeoutDuration > maxReqTimeout",
  "assign clampedTimeout = maxReqTimeout",
  "if clampedTimeout != timeoutDuration",
  "assign timeoutDuration = clampedTimeout",
  "assign err = client.Channel.RequeueMessage(client.ID, *id, timeoutDuration)"] : List String) := rfl

theorem touchLimits_eq : Nsq.Gen.Proto.touchLimits = ([
  "assign state := atomic.LoadInt32(&client.State)",
  "if state != stateSubscribed && state != stateClosing",
  "return return nil, protocol.NewFatalClientErr(nil, \"E_INVALID\", \"cannot TOUCH in current state\")",
  "if len(params) < 2",
  "assign id, err := getMessageID(params[1])"] : List String) := rfl

theorem clsLimits_eq : Nsq.Gen.Proto.clsLimits = ([
  "if atomic.LoadInt32(&client.State) != stateSubscribed"] : List String) := rfl

theorem pubLimits_eq : Nsq.Gen.Proto.pubLimits = ([
  "if len(params) < 2",
  "assign topicName := string(params[1])",
  "if !protocol.IsValidTopicName(topicName)",
  "assign bodyLen, err := readLen(client.Reader, client.lenSlice)",
  "if bodyLen <= 0",
  "return return nil, protocol.NewFatalClientErr(nil, \"E_BAD_MESSAGE\", fmt.Sprintf(\"PUB invalid message body size %d\", bodyLen))",
  "if int64(bodyLen) > p.nsqd.getOpts().MaxMsgSize",
  "return return nil, protocol.NewFatalClientErr(nil, \"E_BAD_MESSAGE\", fmt.Sprintf(\"PUB message too big %d > %d\", bodyLen, p.nsqd.getOpts().MaxMsgSize))",
  "assign messageBody := make([]byte, bodyLen)",
  "assign err := p.CheckAuth(client, \"PUB\", topicName, \"\")"] : List String) := rfl

theorem mpubLimits_eq : Nsq.Gen.Proto.mpubLimits = ([
  "if len(params) < 2",
  "assign topicName := string(params[1])",
  "if !protocol.IsValidTopicName(topicName)",
  "assign err := p.CheckAuth(client, \"MPUB\", topicName, \"\")",
  "assign topic := p.nsqd.GetTopic(topicName)",
  "assign bodyLen, err := readLen(client.Reader, client.lenSlice)",
  "if bodyLen <= 0",
  "return return nil, protocol.NewFatalClientErr(nil, \"E_BAD_BODY\", fmt.Sprintf(\"MPUB invalid body size %d\", bodyLen))",
  "if int64(bodyLen) > p.nsqd.getOpts().MaxBodySize",
  "return return nil, protocol.NewFatalClientErr(nil, \"E_BAD_BODY\", fmt.Sprintf(\"MPUB body too big %d > %d\", bodyLen, p.nsqd.getOpts().MaxBodySize))",
  "assign messages, err := readMPUB(io.LimitReader(client.Reader, int64(bodyLen)), client.lenSlice, topic, p.nsqd.getOpts().MaxMsgSize, p.nsqd.getOpts().MaxBodySize)"] : List String) := rfl

theorem dpubLimits_eq : Nsq.Gen.Proto.dpubLimits = ([
  "if len(params) < 3",
  "assign topicName := string(params[1])",
  "if !protocol.IsValidTopicName(topicName)",
  "assign timeoutMs, err := protocol.ByteToBase10(params[2])",
  "return return nil, protocol.NewFatalClientErr(err, \"E_INVALID\", fmt.Sprintf(\"DPUB could not parse timeout %s\", params[2]))",
  "assign timeoutDuration := msToDuration(timeoutMs)",
  "if timeoutDuration < 0 || timeoutDuration > p.nsqd.getOpts().MaxReqTimeout",
  "return return nil, protocol.NewFatalClientErr(nil, \"E_INVALID\", fmt.Sprintf(\"DPUB timeout %d out of range 0-%d\", timeoutMs, p.nsqd.getOpts().MaxReqTimeout/time.Millisecond))",
  "assign bodyLen, err := readLen(client.Reader, client.lenSlice)",
  "if bodyLen <= 0",
  "return return nil, protocol.NewFatalClientErr(nil, \"E_BAD_MESSAGE\", fmt.Sprintf(\"DPUB invalid message body size %d\", bodyLen))",
  "if int64(bodyLen) > p.nsqd.getOpts().MaxMsgSize",
  "return return nil, protocol.NewFatalClientErr(nil, \"E_BAD_MESSAGE\", fmt.Sprintf(\"DPUB message too big %d > %d\", bodyLen, p.nsqd.getOpts().MaxMsgSize))",
  "assign messageBody := make([]byte, bodyLen)",
  "assign err := p.CheckAuth(client, \"DPUB\", topicName, \"\")",
  "assign msg.deferred = timeoutDuration"] : List String) := rfl

theorem readMpubLimits_eq : Nsq.Gen.Proto.readMpubLimits = ([
  "assign numMessages, err := readLen(r, tmp)",
  "assign maxMessages := (maxBodySize - 4) / 5",
  "if numMessages <= 0 || int64(numMessages) > maxMessages",
  "return return nil, protocol.NewFatalClientErr(err, \"E_BAD_BODY\", fmt.Sprintf(\"MPUB invalid message count %d\", numMessages))",
  "assign messages := make([]*Message, 0, numMessages)",
  "assign messageSize, err := readLen(r, tmp)",
  "if messageSize <= 0",
  "return return nil, protocol.NewFatalClientErr(nil, \"E_BAD_MESSAGE\", fmt.Sprintf(\"MPUB invalid message(%d) body size %d\", i, messageSize))",
  "if int64(messageSize) > maxMessageSize",
  "return return nil, protocol.NewFatalClientErr(nil, \"E_BAD_MESSAGE\", fmt.Sprintf(\"MPUB message too big %d > %d\", messageSize, maxMessageSize))",
  "assign msgBody := make([]byte, messageSize)"] : List String) := rfl

theorem getMessageIDLimits_eq : Nsq.Gen.Proto.getMessageIDLimits = ([
  "if len(p) != MsgIDLength"] : List String) := rfl

theorem readLenStmts_eq : Nsq.Gen.Proto.readLenStmts = ([
  "assign _, err := io.ReadFull(r, tmp)",
  "return return int32(binary.BigEndian.Uint32(tmp)), nil"] : List String) := rfl

theorem msToDurationStmts_eq : Nsq.Gen.Proto.msToDurationStmts = ([
  "if ms > maxMs",
  "return return time.Duration(ms) * time.Millisecond"] : List String) := rfl

theorem tlsPolicy_eq : Nsq.Gen.Proto.tlsPolicy = ([
  "if p.nsqd.getOpts().TLSRequired != TLSNotRequired && atomic.LoadInt32(&client.TLS) != 1"] : List String) := rfl

theorem hbLimits_eq : Nsq.Gen.Proto.hbLimits = ([
  "case desiredInterval == -1",
  "case desiredInterval == 0",
  "case desiredInterval >= 1000 && desiredInterval <= int(c.nsqd.getOpts().MaxHeartbeatInterval/time.Millisecond)",
  "assign c.HeartbeatInterval = time.Duration(desiredInterval) * time.Millisecond",
  "return return fmt.Errorf(\"heartbeat interval (%d) is invalid\", desiredInterval)"] : List String) := rfl

theorem obLimits_eq : Nsq.Gen.Proto.obLimits = ([
  "case desiredTimeout == -1",
  "case desiredTimeout == 0",
  "case true && desiredTimeout >= int(c.nsqd.getOpts().MinOutputBufferTimeout/time.Millisecond) && desiredTimeout <= int(c.nsqd.getOpts().MaxOutputBufferTimeout/time.Millisecond)",
  "assign c.OutputBufferTimeout = time.Duration(desiredTimeout) * time.Millisecond",
  "return return fmt.Errorf(\"output buffer timeout (%d) is invalid\", desiredTimeout)",
  "case desiredSize == -1",
  "case desiredSize == 0",
  "case desiredSize >= 64 && desiredSize <= int(c.nsqd.getOpts().MaxOutputBufferSize)",
  "assign c.OutputBufferSize = desiredSize",
  "return return fmt.Errorf(\"output buffer size (%d) is invalid\", desiredSize)",
  "if desiredSize != 0"] : List String) := rfl

theorem srLimits_eq : Nsq.Gen.Proto.srLimits = ([
  "if sampleRate < 0 || sampleRate > 99",
  "return return fmt.Errorf(\"sample rate (%d) is invalid\", sampleRate)"] : List String) := rfl

theorem mtLimits_eq : Nsq.Gen.Proto.mtLimits = ([
  "case msgTimeout == 0",
  "case msgTimeout >= 1000 && msgTimeout <= int(c.nsqd.getOpts().MaxMsgTimeout/time.Millisecond)",
  "assign c.MsgTimeout = time.Duration(msgTimeout) * time.Millisecond",
  "return return fmt.Errorf(\"msg timeout (%d) is invalid\", msgTimeout)"] : List String) := rfl

theorem identifyOrder_eq : Nsq.Gen.Proto.identifyOrder = (["SetHeartbeatInterval", "SetOutputBuffer", "SetSampleRate", "SetMsgTimeout"] : List String) :=
  identify_setter_order

theorem nameRegex_eq : Nsq.Gen.Proto.nameRegex = ("^[.a-zA-Z0-9_-]+(#ephemeral)?$" : String) := rfl

theorem nameLen_eq : Nsq.Gen.Proto.nameLen = ([
  "if len(name) > 64 || len(name) < 1",
  "return return validTopicChannelNameRegex.MatchString(name)"] : List String) := rfl

theorem base10Stmts_eq : Nsq.Gen.Proto.base10Stmts = ([
  "assign base := uint64(10)",
  "assign n = 0",
  "assign d := b[i]",
  "case '0' <= d && d <= '9'",
  "assign v = d - '0'",
  "assign n = 0",
  "return return",
  "if n > (maxUint64-uint64(v))/base",
  "assign n = 0",
  "return return",
  "assign n *= base",
  "assign n += uint64(v)",
  "return return n, err"] : List String) := rfl

end Nsq.Tie.Proto
