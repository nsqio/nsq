import Nsq.Gen.ChanFunc
import Nsq.Model.Chan
import Nsq.Proofs.BitVecInt
/-!
Tie (kind `afunc`, specs/e2_chanfunc.json): the `clientV2` counter methods and the guard
`IsReadyForMessages` as TRANSLATED Go definitions (`Nsq.Gen.ChanFunc`, regenerated from
nsqd/client_v2.go on every run) proved to have the effect the channel model `Nsq.Model.Chan` has on
the corresponding `Client` fields, absent int64 overflow (only `clIsReady_eq` and `clTimedOut_eq` mention a definition
of `Nsq.Model.Chan`; the others state the arithmetic effect the model's step performs). The statement-text facts `isReady_eq`,
`clientFinished_eq`, `clientSending_eq`, `clientDiscarded_eq`, `clientEmpty_eq` of `Nsq.Tie.Chan`
stay beside them: they pin the ORDER of calls, which a value-level translation cannot.

Integers: Go's counters are `int64` / `uint64` (wrap-around, here `BitVec 64`), the model's are
`Int` / `Nat`. Each theorem states the side condition under which the two agree (the value does not
leave the int64 range: more than 2^63 messages in flight on one connection — unreachable, RDY is
bounded by max-rdy-count < 2^63 and `C03.inflight_le_rdy`).
The ghost field `wake` counts the calls of `tryUpdateReadyState` (the non-blocking send on
`ReadyStateChan`): every method that can turn the guard from false to true wakes the pump.
-/
namespace Nsq.Tie.ChanFunc
open Nsq.Gen.ChanFunc

theorem toInt_dec (x : BitVec 64) (h : -9223372036854775808 < x.toInt) :
    (x + 18446744073709551615#64).toInt = x.toInt - 1 :=
  Nsq.Proofs.BitVecInt.toInt_add_of_range (n := -1) rfl (by omega) (by have := BitVec.toInt_lt (x := x); omega)

theorem toInt_inc (x : BitVec 64) (h : x.toInt < 9223372036854775807) : (x + 1#64).toInt = x.toInt + 1 :=
  Nsq.Proofs.BitVecInt.toInt_add_of_range rfl (by have := BitVec.le_toInt (x := x); omega) (by omega)

/-- the model client that a pair of Go counters stands for -/
def clientOf (rdy inFlight : BitVec 64) : Nsq.Model.Chan.Client :=
  { conn := 0, rdy := rdy.toInt, inFlight := inFlight.toInt }

/-- `clientV2.IsReadyForMessages` = the model's guard `ready` (signed comparison, no side condition),
and it changes nothing -/
theorem clIsReady_eq (c : clIsReadyState) (paused : Bool) :
    (clIsReady c paused).2 = Nsq.Model.Chan.ready paused (clientOf c.ReadyCount c.InFlightCount) ∧
    (clIsReady c paused).1 = c := by
  unfold clIsReady Nsq.Model.Chan.ready clientOf
  cases paused
  · simp only [Bool.false_eq_true, ↓reduceIte, Bool.not_false, Bool.true_and]
    -- the Go condition `inFlight >= rdy || rdy <= 0`, as signed comparisons, against the model's `0 < rdy ∧ inFlight < rdy`
    split
    · next h =>
      simp only [BitVec.sle, Bool.or_eq_true, decide_eq_true_eq, BitVec.toInt_zero] at h
      refine ⟨?_, rfl⟩
      simp only [Bool.false_eq, Bool.and_eq_false_iff, decide_eq_false_iff_not]
      omega
    · next h =>
      simp only [BitVec.sle, Bool.or_eq_true, decide_eq_true_eq, BitVec.toInt_zero] at h
      refine ⟨?_, rfl⟩
      simp only [Bool.true_eq, Bool.and_eq_true, decide_eq_true_eq]
      omega
  · simp

/-- `SetReadyCount` stores the value (model `Op.rdy`: `rdy := n`) and wakes the pump iff it changed -/
theorem clSetReady_eq (c : clSetReadyState) (n : BitVec 64) :
    (clSetReady c n).ReadyCount = n ∧
    (clSetReady c n).wake = if c.ReadyCount = n then c.wake else c.wake + 1#64 := by
  unfold clSetReady
  by_cases h : c.ReadyCount = n <;> simp [h]

/-- `FinishedMessage` = the model's `finClientPart`: `finCount + 1`, `inFlight - 1`, pump woken -/
theorem clFinished_eq (c : clFinishedState) (h : -9223372036854775808 < c.InFlightCount.toInt) :
    (clFinished c).InFlightCount.toInt = c.InFlightCount.toInt - 1 ∧
    (clFinished c).FinishCount = c.FinishCount + 1#64 ∧ (clFinished c).wake = c.wake + 1#64 :=
  ⟨toInt_dec _ h, rfl, rfl⟩

/-- `RequeuedMessage` = the model's REQ bookkeeping: `reqCount + 1`, `inFlight - 1`, pump woken -/
theorem clRequeued_eq (c : clRequeuedState) (h : -9223372036854775808 < c.InFlightCount.toInt) :
    (clRequeued c).InFlightCount.toInt = c.InFlightCount.toInt - 1 ∧
    (clRequeued c).RequeueCount = c.RequeueCount + 1#64 ∧ (clRequeued c).wake = c.wake + 1#64 :=
  ⟨toInt_dec _ h, rfl, rfl⟩

/-- `TimedOutMessage` = the model's `decIn`, pump woken -/
theorem clTimedOut_eq (c : clTimedOutState) (h : -9223372036854775808 < c.InFlightCount.toInt) :
    (clTimedOut c).InFlightCount.toInt = (Nsq.Model.Chan.decIn (clientOf 0 c.InFlightCount)).inFlight ∧
    (clTimedOut c).wake = c.wake + 1#64 :=
  ⟨toInt_dec _ h, rfl⟩

/-- `SendingMessage` = the model's delivery bookkeeping: `inFlight + 1`, `msgCount + 1` (no wake-up:
the pump itself is running) -/
theorem clSending_eq (c : clSendingState) (h : c.InFlightCount.toInt < 9223372036854775807) :
    (clSending c).InFlightCount.toInt = c.InFlightCount.toInt + 1 ∧
    (clSending c).MessageCount = c.MessageCount + 1#64 :=
  ⟨toInt_inc _ h, rfl⟩

/-- `Discarded(n)` (fix F13) subtracts exactly `n` (model `Op.empty`: `inFlight - heldBy`), pump woken -/
theorem clDiscarded_eq (c : clDiscardedState) (n : BitVec 64) :
    (clDiscarded c n).InFlightCount = c.InFlightCount - n ∧ (clDiscarded c n).wake = c.wake + 1#64 := by
  unfold clDiscarded
  exact ⟨by simp [BitVec.sub_eq_add_neg], rfl⟩

/-- `clientV2.Empty` stores 0 (since F13 `Channel.Empty` calls it only for a consumer type without `Discarded`: `Tie.Chan.chanEmpty_eq`) -/
theorem clEmpty_eq (c : clEmptyState) : (clEmpty c).InFlightCount = 0#64 ∧ (clEmpty c).wake = c.wake + 1#64 :=
  ⟨rfl, rfl⟩

/-- `Pause` / `UnPause` of a consumer only wake its pump (the flag lives on the channel) -/
theorem clPause_eq (c : clPauseState) (d : clUnPauseState) :
    (clPause c).wake = c.wake + 1#64 ∧ (clUnPause d).wake = d.wake + 1#64 := ⟨rfl, rfl⟩

/-- `Channel.IsPaused` reads the flag: paused ⇔ the stored int32 is 1 -/
theorem chIsPaused_eq (c : chIsPausedState) : (chIsPaused c).2 = (c.paused == 1#32) ∧ (chIsPaused c).1 = c :=
  ⟨rfl, rfl⟩

/-! non-vacuity -/
example : (clIsReady ⟨3#64, 2#64⟩ false).2 = true ∧ (clIsReady ⟨3#64, 3#64⟩ false).2 = false ∧
    (clIsReady ⟨3#64, 2#64⟩ true).2 = false ∧ (clIsReady ⟨0#64, 18446744073709551615#64⟩ false).2 = false := by decide
example : (clSetReady ⟨5#64, 0#64⟩ 5#64).wake = 0#64 ∧ (clSetReady ⟨5#64, 0#64⟩ 3#64).wake = 1#64 := by decide
example : (clFinished ⟨1#64, 7#64, 0#64⟩).InFlightCount = 0#64 := by decide

end Nsq.Tie.ChanFunc
