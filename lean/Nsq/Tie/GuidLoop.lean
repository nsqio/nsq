import Nsq.Gen.GuidLoop
import Nsq.Model.Guid
/-!
Tie of the model `Nsq.Model.Guid.generateID` ("call `NewGUID` until it succeeds; return that id; touch
nothing else") to `Topic.GenerateID` in nsqd/topic.go and to the id factory's other users.

Regenerated facts (tools/go2lean kinds `stmtsx`, `structwrites`, `fielduses` — see kind_stmtsx.go):
* `generateIDBody`  every statement of `GenerateID` with its nesting depth;
* `factoryWrites`   every assignment / inc-dec / address-of of a `guidFactory` field in package nsqd;
* `idFactoryUses`   every mention of `Topic.idFactory` in package nsqd;
* `generateIDCallers…` the statements of the five publish paths that mention `GenerateID`.

The statements below are the *semantic core* (they survive a reworded log line, another sleep length, a
renamed counter); the behaviour itself is checked by the correspondence op `genids` and the two
clock-stepped-back oracles on the real `Topic.GenerateID` (harness/e1/guid_clock_test.go).
-/
namespace Nsq.Tie.GuidLoop
open Nsq.Gen.GuidLoop

abbrev Row := Nat × String × String

def ofKind (b : List Row) (k : String) : List Row := b.filter (fun r => r.2.1 == k)

def rowBefore : List Row → String → Option Row
  | a :: b :: rest, k => if b.2.1 == k then some a else rowBefore (b :: rest) k
  | _, _ => none

/-- `GenerateID` is one unconditional `for { … }` at the top level … -/
theorem loop_forever : ofKind generateIDBody "for" = [(0, "for", "")] ∧ ofKind generateIDBody "range" = [] := by decide +kernel

/-- … whose only exit is `return id.Hex()`, directly under an `if` of the loop body … -/
theorem one_exit : ofKind generateIDBody "return" = [(2, "return", "id.Hex()")] := by decide +kernel

/-- … that `if` being `err == nil` on the result of the factory call (model: `if r.2.2 = .none then (r.1, some r.2.1)`) -/
theorem exit_guard : rowBefore generateIDBody "return" = some (1, "if", "err == nil") := by decide +kernel

/-- no other way out of / around the loop: no `break`, `goto`, label, `fallthrough`, no goroutine, no `defer`,
no `else` branch -/
theorem no_jump : generateIDBody.filter (fun r => r.2.1 == "break" || r.2.1 == "goto" || r.2.1 == "label" ||
    r.2.1 == "fallthrough" || r.2.1 == "go" || r.2.1 == "defer" || r.2.1 == "else" || r.2.1 == "elseif" ||
    r.2.1 == "func" || r.2.1 == "other") = [] := by decide +kernel

/-- the factory is touched exactly once per iteration: `id, err := t.idFactory.NewGUID()`; the only other
mention of `Topic.idFactory` in the package is its construction in `NewTopic` (model: the state is
changed by `newGUID` only; seeded C12-m7 adds `t.idFactory.followClock()`) -/
theorem factory_used_only_by_NewGUID_call : idFactoryUses =
    [("NewTopic", "idFactory: NewGUIDFactory(nsqd.getOpts().ID)"),
     ("(*Topic).GenerateID", "id, err := t.idFactory.NewGUID()")] := rfl

/-- every write of a `guidFactory` field in package nsqd is inside `NewGUID` (whose body is the
translated definition `Tie.Guid.newGUID_eq`) -/
theorem factory_written_only_in_NewGUID :
    factoryWrites.all (fun r => r.1 == "(*guidFactory).NewGUID") = true ∧ factoryWrites.length = 4 := by decide +kernel

/-- every accepted message gets its id from `topic.GenerateID()`: TCP PUB, DPUB, MPUB (`readMPUB`, inside
the per-message loop), HTTP /pub, /mpub (text branch, inside the per-line loop; the binary branch goes
through `readMPUB`) -/
theorem publish_paths_call_GenerateID :
    generateIDCallers = [(0, "assign", "msg := NewMessage(topic.GenerateID(), messageBody)")] ∧
    generateIDCallersDPUB = [(0, "assign", "msg := NewMessage(topic.GenerateID(), messageBody)")] ∧
    generateIDCallersMPUB = [(1, "assign", "messages = append(messages, NewMessage(topic.GenerateID(), msgBody))")] ∧
    generateIDCallersHTTP = [(0, "assign", "msg := NewMessage(topic.GenerateID(), body)")] ∧
    generateIDCallersHTTPM = [(2, "assign", "msg := NewMessage(topic.GenerateID(), block)")] :=
  ⟨rfl, rfl, rfl, rfl, rfl⟩

end Nsq.Tie.GuidLoop
