import Nsq.Gen.Proto
import Nsq.Model.HttpFull
import Nsq.Proofs.AsciiString
/-!
Tie for the whole-table HTTP model (`Nsq.Model.HttpFull`), over the facts `tools/go2lean` re-extracts
from nsqd/http.go, internal/http_api and internal/lg on every run (`specs/e3_proto.json`, kinds
`routesall`, `structfields`, `stmts`). The behavioural tie is the correspondence leg `httpx`
(`harness/e3/httpfull_test.go`): these facts pin the *shape* the model was written from; the facts
marked (semantic) survive harmless rewrites, those marked (text) are exact statement text and a
refactoring of the handler breaks them although the correspondence leg would still pass.
-/
namespace Nsq.Tie.ProtoHttpFull
open Nsq.Model.HttpFull Nsq.Model.HttpApi Nsq.Model

def decoOf (d : String) : Option Deco :=
  if d = "http_api.V1" then some .v1
  else if d = "http_api.PlainText" then some .plain
  else if d = "" then some .raw
  else none

/-- (semantic) Every registration of `newHTTPServer` — `Handle`, `HandlerFunc` and `Handler` — with
its outermost decorator is a row of the model's table, in order, and nothing else is. -/
theorem routes_full :
    Nsq.Gen.Proto.routesAll.map (fun r => (r.1, r.2.1, r.2.2.1, decoOf r.2.2.2)) =
      fullTable.map (fun r => (r.1, r.2.1, r.2.2.1, some r.2.2.2)) := rfl

/-- The three judgements on `fullTable` in one evaluation: each reads the literals of the table. -/
theorem _root_.Nsq.Proofs.HttpFullSweep.table :
    (fullTable.map (fun r => (r.1, r.2.1))).Nodup ∧
    (∀ r ∈ routeTable, ∃ r' ∈ fullTable, r'.1 = r.1 ∧ r'.2.1 = r.2.1 ∧
      (r.2.2 = .external ∨ baseHandler r'.2.2.1 = some r.2.2 ∨
       r'.2.2.1 ∈ ["pingHandler", "doInfo", "doStats", "doConfig"])) ∧
    ∀ r ∈ fullTable, (r.2.2.2 = .raw ↔ r.2.2.1.toList.take 6 = "pprof.".toList) := by
  rw [Nsq.Proofs.AsciiString.toList_eq_chars]; decide +kernel

/-- (semantic) No (method, path) is registered twice (httprouter would panic at start-up). -/
theorem routes_functional : (fullTable.map (fun r => (r.1, r.2.1))).Nodup := Nsq.Proofs.HttpFullSweep.table.1

/-- (semantic) The C10 table of `HttpApi` is the same table without the four `router.Handler`
registrations; handlers agree by name. -/
theorem old_table_embedded :
    ∀ r ∈ routeTable, ∃ r' ∈ fullTable, r'.1 = r.1 ∧ r'.2.1 = r.2.1 ∧
      (r.2.2 = .external ∨ baseHandler r'.2.2.1 = some r.2.2 ∨
       r'.2.2.1 ∈ ["pingHandler", "doInfo", "doStats", "doConfig"]) := Nsq.Proofs.HttpFullSweep.table.2.1

/-- (semantic) The undecorated registrations are exactly the `net/http/pprof` handlers. -/
theorem raw_is_pprof : ∀ r ∈ fullTable, (r.2.2.2 = .raw ↔ r.2.2.1.toList.take 6 = "pprof.".toList) :=
  Nsq.Proofs.HttpFullSweep.table.2.2

/-- (semantic) JSON keys of the `/info` document. -/
theorem info_keys : Nsq.Gen.Proto.infoFields.map (·.2.2) =
    ["version", "broadcast_address", "hostname", "http_port", "tcp_port", "start_time", "max_heartbeat_interval",
     "max_output_buffer_size", "max_output_buffer_timeout", "max_deflate_level", "topology_zone", "topology_region"] := rfl

/-- (semantic) The words of `lg.ParseLogLevel`, in level order, are the model's (`wordLevel`). -/
theorem log_level_words :
    Nsq.Gen.Proto.parseLogLevelStmts.take 5 =
      ["case \"debug\"", "case \"info\"", "case \"warn\"", "case \"error\"", "case \"fatal\""] ∧
    [Names.ascii "debug", Names.ascii "info", Names.ascii "warn", Names.ascii "error", Names.ascii "fatal"].map wordLevel =
      [some 1, some 2, some 3, some 4, some 5] := ⟨rfl, by decide +kernel⟩

/-- (text) `doStats`: the five arguments, `format == "json"`, "not in boolParams ⇒ true". -/
theorem stats_args : Nsq.Gen.Proto.statsArgStmts = [
  "return return nil, http_api.Err{400, \"INVALID_REQUEST\"}",
  "assign formatString, _ := reqParams.Get(\"format\")",
  "assign topicName, _ := reqParams.Get(\"topic\")",
  "assign channelName, _ := reqParams.Get(\"channel\")",
  "assign includeClientsParam, _ := reqParams.Get(\"include_clients\")",
  "assign includeMemParam, _ := reqParams.Get(\"include_mem\")",
  "assign jsonFormat := formatString == \"json\"",
  "assign includeClients, ok := boolParams[includeClientsParam]",
  "assign includeClients = true",
  "assign includeMem, ok := boolParams[includeMemParam]",
  "assign includeMem = true",
  "if !jsonFormat"] := rfl

/-- (text) the two debug handlers: `Atoi(FormValue("rate"))` → 400, otherwise `nil, nil` (the nil
result is what `PlainText` must cope with — finding F24). -/
theorem debug_handlers :
    Nsq.Gen.Proto.setBlockRateStmts = [
      "assign rate, err := strconv.Atoi(req.FormValue(\"rate\"))",
      "return return nil, http_api.Err{http.StatusBadRequest, fmt.Sprintf(\"invalid block rate : %s\", err.Error())}",
      "return return nil, nil"] ∧
    Nsq.Gen.Proto.freeMemoryStmts = ["return return nil, nil"] := ⟨rfl, rfl⟩

/-- (text) `RespondV1`: JSON content type for marshalled data and for every non-200. -/
theorem respond_v1 : Nsq.Gen.Proto.respondV1Stmts = [
  "if code == 200", "assign isJSON = true", "assign code = 500", "if code != 200", "assign isJSON = true",
  "if isJSON"] := rfl

/-- (semantic) `http_api.NewReqParams` parses the query string and reads NOTHING of the request body (fix F33 = /repo
894b9eb, committed: `Model.HttpBody.bodyRead`, the `R` column of the `httpb` leg). The shape before F33
(`["ParseQuery", "ReadAll"]`: `bodyReadOld`, `Props.C10Char.body_read_bounded_false_before_F33`) is not accepted:
with F33 reverted this tie breaks and the replay corpus/C10/fixed/admin_body_unbounded.opsb reports
`admin-body-unbounded` (listed `fixed`) as a VIOLATION. -/
theorem newReqParams_reads_no_body : Nsq.Gen.Proto.newReqParamsCalls = ["ParseQuery"] := rfl

end Nsq.Tie.ProtoHttpFull
