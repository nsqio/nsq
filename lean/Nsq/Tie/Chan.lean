import Nsq.Gen.Chan
/-! Tie (regenerated facts) for the E2 channel state machine: every fact the hand-written model
`Nsq.Model.Chan` / `Nsq.Model.ChanNsqd` relies on about the *shape* of the Go code is re-extracted from
the current tree by tools/go2lean (spec specs/e2_chan.json) and compared here with the expected table.
A code change that alters one of them breaks the corresponding theorem. -/
namespace Nsq.Tie.Chan

/-- C02: the only functions that delete from `inFlightMessages` are `popInFlightMessage` (FIN / REQ / TOUCH) and the timeout scan's own critical section (fix F16: heap pop and map delete together), plus the re-make in `initPQ`: the map removal decides the single winner. Model: `finChanPart`, `req`, `touch`, `timeoutOne` all go through `findE … .inflight`; micro-step model: `ansMapPop`, `scanPop`. -/
theorem inFlightWrites_eq : Nsq.Gen.Chan.inFlightWrites = ([
  ("Channel.initPQ", "assign"),
  ("Channel.popInFlightMessage", "delete"),
  ("Channel.processInFlightQueue", "delete"),
  ("Channel.pushInFlightMessage", "store")] : List (String × String)) := rfl

/-- same for the deferred map: `popDeferredMessage` is the only deleter. Model: `deferDueOne`. -/
theorem deferredWrites_eq : Nsq.Gen.Chan.deferredWrites = ([
  ("Channel.initPQ", "assign"),
  ("Channel.popDeferredMessage", "delete"),
  ("Channel.pushDeferredMessage", "store")] : List (String × String)) := rfl

/-- C02: the ownership test `msg.clientID != clientID` (model: `if k' = k`) after the presence test. -/
theorem popOwnership_eq : Nsq.Gen.Chan.popOwnership = ([
  "if !ok",
  "if msg.clientID != clientID"] : List String) := rfl

/-- C02: exactly FIN, REQ and TOUCH pop from the in-flight map through `popInFlightMessage` (the timeout scan deletes in its own critical section, `scanInFlight_eq`). -/
theorem popCallers_eq : Nsq.Gen.Chan.popCallers = (["Channel.FinishMessage", "Channel.RequeueMessage", "Channel.TouchMessage"] : List String) := rfl

/-- C02/C03: error-code mapping. The only non-fatal errors of FIN/REQ/TOUCH are E_FIN_FAILED / E_REQ_FAILED / E_TOUCH_FAILED (one site each, wrapping the channel's error); everything else is a fatal E_INVALID; RDY and CLS have only fatal E_INVALID sites. -/
theorem answerErrs_eq : Nsq.Gen.Chan.answerErrs = ([
  ("RDY", "NewFatalClientErr", "E_INVALID"),
  ("RDY", "NewFatalClientErr", "E_INVALID"),
  ("RDY", "NewFatalClientErr", "E_INVALID"),
  ("FIN", "NewFatalClientErr", "E_INVALID"),
  ("FIN", "NewFatalClientErr", "E_INVALID"),
  ("FIN", "NewFatalClientErr", "E_INVALID"),
  ("FIN", "NewClientErr", "E_FIN_FAILED"),
  ("REQ", "NewFatalClientErr", "E_INVALID"),
  ("REQ", "NewFatalClientErr", "E_INVALID"),
  ("REQ", "NewFatalClientErr", "E_INVALID"),
  ("REQ", "NewFatalClientErr", "E_INVALID"),
  ("REQ", "NewClientErr", "E_REQ_FAILED"),
  ("CLS", "NewFatalClientErr", "E_INVALID"),
  ("TOUCH", "NewFatalClientErr", "E_INVALID"),
  ("TOUCH", "NewFatalClientErr", "E_INVALID"),
  ("TOUCH", "NewFatalClientErr", "E_INVALID"),
  ("TOUCH", "NewClientErr", "E_TOUCH_FAILED")] : List (String × String × String)) := rfl

/-- C03 `resume`: every path that can turn the guard true wakes the pump: SetReadyCount (RDY raise), FinishedMessage / RequeuedMessage / TimedOutMessage / Discarded / Empty (in-flight count drops), Pause / UnPause. -/
theorem readyStateCallers_eq : Nsq.Gen.Chan.readyStateCallers = (["clientV2.Discarded", "clientV2.Empty", "clientV2.FinishedMessage", "clientV2.Pause", "clientV2.RequeuedMessage", "clientV2.SetReadyCount", "clientV2.TimedOutMessage", "clientV2.UnPause"] : List String) := rfl

/-- C03: the ready count is written only by RDY and by StartClose (CLS). -/
theorem setReadyCallers_eq : Nsq.Gen.Chan.setReadyCallers = (["clientV2.StartClose", "protocolV2.RDY"] : List String) := rfl

/-- C03: text of the guard `IsReadyForMessages`: paused → false; `inFlightCount >= readyCount || readyCount <= 0` → false (model `Chan.ready`). -/
theorem isReady_eq : Nsq.Gen.Chan.isReady = ([
  "if c.Channel.IsPaused()",
  "stmt return false",
  "assign readyCount := atomic.LoadInt64(&c.ReadyCount)",
  "assign inFlightCount := atomic.LoadInt64(&c.InFlightCount)",
  "do c.nsqd.logf(LOG_DEBUG, \"[%s] state rdy: %4d inflt: %4d\", c, readyCount, inFlightCount)",
  "if inFlightCount >= readyCount || readyCount <= 0",
  "stmt return false",
  "stmt return true"] : List String) := rfl

/-- C03: the pump evaluates the guard once per loop iteration, before the select. -/
theorem pumpGuard_eq : Nsq.Gen.Chan.pumpGuard = ([
  "if subChannel == nil || !client.IsReadyForMessages()"] : List String) := rfl

/-- C02/C03: order of effects of one delivery: sampling test, `Attempts++`, SendingMessage (count first — fix F13: `Channel.Empty` subtracts what it finds registered, so the count never lags behind the in-flight map), StartInFlightTimeout (register), SendMessage (model `Op.deliver` / `Op.sampleDrop`). -/
theorem pumpDeliver_eq : Nsq.Gen.Chan.pumpDeliver = ([
  "if sampleRate > 0 && rand.Int31n(100) > sampleRate",
  "do msg.Attempts++",
  "do client.SendingMessage()",
  "do subChannel.StartInFlightTimeout(msg, client.ID, msgTimeout)",
  "assign err = p.SendMessage(client, msg)"] : List String) := rfl

/-- C13/F8: FIN = Channel.FinishMessage, then client.FinishedMessage (two critical sections: model `finChan` / `finClient`). -/
theorem finOrder_eq : Nsq.Gen.Chan.finOrder = ([
  "assign err = client.Channel.FinishMessage(client.ID, *id)",
  "do client.FinishedMessage()"] : List String) := rfl

/-- C02: REQ clamps the delay into [0, max-req-timeout] (model `clampReq`), Channel.RequeueMessage, then client.RequeuedMessage. -/
theorem reqOrder_eq : Nsq.Gen.Chan.reqOrder = ([
  "if timeoutDuration < 0",
  "assign clampedTimeout = 0",
  "if timeoutDuration > maxReqTimeout",
  "assign clampedTimeout = maxReqTimeout",
  "assign err = client.Channel.RequeueMessage(client.ID, *id, timeoutDuration)",
  "do client.RequeuedMessage()"] : List String) := rfl

/-- C03: RDY is ignored when closing, fatal unless subscribed, fatal unless `0 <= count <= MaxRdyCount`, else SetReadyCount. -/
theorem rdyRange_eq : Nsq.Gen.Chan.rdyRange = ([
  "if state == stateClosing",
  "if state != stateSubscribed",
  "if count < 0 || count > p.nsqd.getOpts().MaxRdyCount",
  "do client.SetReadyCount(count)"] : List String) := rfl

/-- C03: CLS forces RDY 0, then marks the client closing. -/
theorem startClose_eq : Nsq.Gen.Chan.startClose = ([
  "do c.SetReadyCount(0)",
  "do atomic.StoreInt32(&c.State, stateClosing)"] : List String) := rfl

/-- C01/C13: RequeueMessage = pop, heap removal, requeueCount++, then `put` (delay 0) or StartDeferredTimeout. -/
theorem requeueMessage_eq : Nsq.Gen.Chan.requeueMessage = ([
  "assign msg, err := c.popInFlightMessage(clientID, id)",
  "do c.removeFromInFlightPQ(msg)",
  "do atomic.AddUint64(&c.requeueCount, 1)",
  "if timeout == 0",
  "assign err := c.put(msg)",
  "stmt return c.StartDeferredTimeout(msg, timeout)"] : List String) := rfl

/-- C02: FinishMessage = pop, heap removal. -/
theorem finishMessage_eq : Nsq.Gen.Chan.finishMessage = ([
  "assign msg, err := c.popInFlightMessage(clientID, id)",
  "do c.removeFromInFlightPQ(msg)"] : List String) := rfl

/-- C01/C02/C13 (fix F16): timeout scan body = ONE critical section {heap pop; if the map still holds that very object delete it, else forget the stale entry}, exit when nothing was taken; then timeoutCount++, client.TimedOutMessage, put (model `timeoutOne`; micro-step model `scanPop | scanPut`). -/
theorem scanInFlight_eq : Nsq.Gen.Chan.scanInFlight = ([
  "do c.inFlightMutex.Lock()",
  "assign msg, _ := c.inFlightPQ.PeekAndShift(t)",
  "if msg != nil",
  "if ok && m == msg",
  "assign m, ok := c.inFlightMessages[msg.ID]",
  "do delete(c.inFlightMessages, msg.ID)",
  "assign msg = nil",
  "do c.inFlightMutex.Unlock()",
  "if msg == nil",
  "do atomic.AddUint64(&c.timeoutCount, 1)",
  "do client.TimedOutMessage()",
  "do c.put(msg)"] : List String) := rfl

/-- C01: deferred scan body = heap pop, map pop, put. -/
theorem scanDeferred_eq : Nsq.Gen.Chan.scanDeferred = ([
  "assign item, _ := c.deferredPQ.PeekAndShift(t)",
  "assign _, err := c.popDeferredMessage(msg.ID)",
  "do c.put(msg)"] : List String) := rfl

/-- C13: Channel.PutMessage counts a message only after a successful put. -/
theorem chanPutMessage_eq : Nsq.Gen.Chan.chanPutMessage = ([
  "assign err := c.put(m)",
  "do atomic.AddUint64(&c.messageCount, 1)"] : List String) := rfl

/-- C13: PutMessageDeferred counts, then defers. -/
theorem chanPutDeferred_eq : Nsq.Gen.Chan.chanPutDeferred = ([
  "do atomic.AddUint64(&c.messageCount, 1)",
  "do c.StartDeferredTimeout(msg, timeout)"] : List String) := rfl

/-- C13 (fix F13): Empty = `dropped := initPQ()`, for every client `Discarded(dropped[id])` (a consumer type without it: `Empty()`), drain, backend.Empty (model `Op.empty`: each client's counter minus the in-flight messages it owned). -/
theorem chanEmpty_eq : Nsq.Gen.Chan.chanEmpty = ([
  "assign dropped := c.initPQ()",
  "assign d, ok := client.(interface{ Discarded(int64) })",
  "do d.Discarded(dropped[id])",
  "do client.Empty()",
  "stmt return c.backend.Empty()"] : List String) := rfl

/-- C13 (F13): `initPQ` counts, under `inFlightMutex` and before it replaces the map, the in-flight messages per owning client, and returns that. -/
theorem initPQDropped_eq : Nsq.Gen.Chan.initPQDropped = ([
  "do c.inFlightMutex.Lock()",
  "assign dropped := make(map[int64]int64)",
  "do dropped[msg.clientID]++",
  "assign c.inFlightMessages = make(map[MessageID]*Message)",
  "do c.inFlightMutex.Unlock()",
  "stmt return dropped"] : List String) := rfl

/-- C13 (F13): `clientV2.Discarded(n)` subtracts n from the in-flight count and wakes the pump. -/
theorem clientDiscarded_eq : Nsq.Gen.Chan.clientDiscarded = ([
  "do atomic.AddInt64(&c.InFlightCount, -n)",
  "do c.tryUpdateReadyState()"] : List String) := rfl

/-- C01.1/C13.2: Topic.PutMessage counts message and bytes only after a successful put. -/
theorem topicPut_eq : Nsq.Gen.Chan.topicPut = ([
  "stmt return errors.New(\"exiting\")",
  "assign err := t.put(m)",
  "stmt return err",
  "do atomic.AddUint64(&t.messageCount, 1)",
  "do atomic.AddUint64(&t.messageBytes, uint64(len(m.Body)))",
  "stmt return nil"] : List String) := rfl

/-- C13.2: PutMessages adds the enqueued prefix (i messages, their bytes) when a put fails, else all. -/
theorem topicPutMany_eq : Nsq.Gen.Chan.topicPutMany = ([
  "assign err := t.put(m)",
  "do atomic.AddUint64(&t.messageCount, uint64(i))",
  "do atomic.AddUint64(&t.messageBytes, uint64(messageTotalBytes))",
  "do atomic.AddUint64(&t.messageBytes, uint64(messageTotalBytes))",
  "do atomic.AddUint64(&t.messageCount, uint64(len(msgs)))"] : List String) := rfl

/-- C01.1: PUB answers OK only after PutMessage returned. -/
theorem pubAck_eq : Nsq.Gen.Chan.pubAck = ([
  "assign err = topic.PutMessage(msg)",
  "stmt return okBytes, nil"] : List String) := rfl

/-- C01.1: MPUB answers OK only after PutMessages returned. -/
theorem mpubAck_eq : Nsq.Gen.Chan.mpubAck = ([
  "assign err = topic.PutMessages(messages)",
  "stmt return okBytes, nil"] : List String) := rfl

/-- C01.1: DPUB answers OK only after PutMessage returned. -/
theorem dpubAck_eq : Nsq.Gen.Chan.dpubAck = ([
  "assign err = topic.PutMessage(msg)",
  "stmt return okBytes, nil"] : List String) := rfl

/-- C01.2/C03.5: the topic pump stops receiving iff it has no channel or the topic is paused, and puts every message on every channel of its snapshot (deferred ones through PutMessageDeferred). -/
theorem topicFanout_eq : Nsq.Gen.Chan.topicFanout = ([
  "if len(chans) == 0 || t.IsPaused()",
  "if len(chans) == 0 || t.IsPaused()",
  "do channel.PutMessageDeferred(chanMsg, chanMsg.deferred)",
  "assign err := channel.PutMessage(chanMsg)"] : List String) := rfl

/-- C01.2: GetChannel synchronises with the pump (`channelUpdateChan`) after creating a channel. -/
theorem getChannel_eq : Nsq.Gen.Chan.getChannel = ([
  "assign channel, isNew := t.getOrCreateChannel(channelName)",
  "send t.channelUpdateChan <- 1"] : List String) := rfl

/-- C03.5: topic pause/unpause stores the flag, then hands shakes with the pump (`pauseChan`). -/
theorem topicDoPause_eq : Nsq.Gen.Chan.topicDoPause = ([
  "do atomic.StoreInt32(&t.paused, 1)",
  "do atomic.StoreInt32(&t.paused, 0)",
  "send t.pauseChan <- 1"] : List String) := rfl

/-- C13/F8: client.Empty stores 0 into InFlightCount and wakes the pump. -/
theorem clientEmpty_eq : Nsq.Gen.Chan.clientEmpty = ([
  "do atomic.StoreInt64(&c.InFlightCount, 0)",
  "do c.tryUpdateReadyState()"] : List String) := rfl

/-- C13: FinishedMessage: FinishCount++, InFlightCount--. -/
theorem clientFinished_eq : Nsq.Gen.Chan.clientFinished = ([
  "do atomic.AddUint64(&c.FinishCount, 1)",
  "do atomic.AddInt64(&c.InFlightCount, -1)"] : List String) := rfl

/-- C13: SendingMessage: InFlightCount++, MessageCount++. -/
theorem clientSending_eq : Nsq.Gen.Chan.clientSending = ([
  "do atomic.AddInt64(&c.InFlightCount, 1)",
  "do atomic.AddUint64(&c.MessageCount, 1)"] : List String) := rfl

/-- C01: Channel.put tries the memory channel, else writes to the backend (never drops on a durable channel). -/
theorem chanPut_eq : Nsq.Gen.Chan.chanPut = ([
  "if c.topologyAwareConsumption",
  "send c.memoryMsgChan <- m",
  "send c.memoryMsgChan <- m",
  "assign err := writeMessageToBackend(m, c.backend)"] : List String) := rfl

/-- C02 (seeded C02-m2): `StartInFlightTimeout` stamps owner, delivery time and deadline on the message BEFORE it becomes findable in the in-flight map (`pushInFlightMessage`, which since F48 inserts into map AND deadline heap in one critical section): a late answer of the previous holder can never meet a stale `clientID`. -/
theorem startInFlight_eq : Nsq.Gen.Chan.startInFlight = ([
  "assign msg.clientID = clientID",
  "assign msg.deliveryTS = now",
  "assign msg.pri = now.Add(timeout).UnixNano()",
  "assign err := c.pushInFlightMessage(msg)"] : List String) := rfl

/-- C03 (seeded C03-m2): `Channel.doPause` stores the `paused` flag BEFORE it walks over the consumers to wake their pumps (model: `pause`/`unpause` set the flag in the same step the guard sees). -/
theorem chanDoPause_eq : Nsq.Gen.Chan.chanDoPause = ([
  "do atomic.StoreInt32(&c.paused, 1)",
  "do atomic.StoreInt32(&c.paused, 0)",
  "do c.RLock()",
  "do client.Pause()",
  "do client.UnPause()",
  "do c.RUnlock()"] : List String) := rfl

/-- C01: the topic pump rebuilds its channel snapshot from the channel map at start-up and on every `channelUpdateChan` event (model: `refreshPump`). -/
theorem topicPumpLoop_eq : Nsq.Gen.Chan.topicPumpLoop = ([
  "assign chans = append(chans, c)",
  "assign chans = chans[:0]",
  "assign chans = append(chans, c)"] : List String) := rfl

/-- C02.7 (micro-step model `ChanMicro`): TOUCH is three critical sections in this order — map pop (the decision), heap removal, map + heap push with the new deadline (`ansMapPop` | `ansFinish` | `touchMapPush`+`heapPush` in one section since F48). -/
theorem touchMessage_eq : Nsq.Gen.Chan.touchMessage = ([
  "assign msg, err := c.popInFlightMessage(clientID, id)",
  "do c.removeFromInFlightPQ(msg)",
  "assign msg.pri = newTimeout.UnixNano()",
  "assign err = c.pushInFlightMessage(msg)"] : List String) := rfl

/-- C02.7: `removeFromInFlightPQ` is one critical section that removes the object only if it is in the heap at its recorded index (model: `heap.erase id` is a no-op when the entry is gone — a late answer in the delivery window, or after the scan popped it). -/
theorem heapRemoveGuard_eq : Nsq.Gen.Chan.heapRemoveGuard = ([
  "do c.inFlightMutex.Lock()",
  "if msg.index < 0 || msg.index >= len(c.inFlightPQ) || c.inFlightPQ[msg.index] != msg",
  "do c.inFlightMutex.Unlock()",
  "do c.inFlightPQ.Remove(msg.index)",
  "do c.inFlightMutex.Unlock()"] : List String) := rfl

/-- C02.7: `popInFlightMessage` is one critical section: lookup by id, owner test on the object's `clientID`, delete — the map step that decides the race (model: `ansMapPop`; the scan's own section: `scanPop`). -/
theorem popInFlight_eq : Nsq.Gen.Chan.popInFlight = ([
  "do c.inFlightMutex.Lock()",
  "assign msg, ok := c.inFlightMessages[id]",
  "do c.inFlightMutex.Unlock()",
  "if msg.clientID != clientID",
  "do c.inFlightMutex.Unlock()",
  "do delete(c.inFlightMessages, id)",
  "do c.inFlightMutex.Unlock()"] : List String) := rfl

/-- C02.7: `pushInFlightMessage` is one critical section: refuse when the id is present, else insert into the map AND the deadline heap (F48; model: `delMapPush`, `touchMapPush` with `ChanMicroT.fixed = true`; the refusal is proved unreachable, `never_already_in_flight`). -/
theorem pushInFlight_eq : Nsq.Gen.Chan.pushInFlight = ([
  "do c.inFlightMutex.Lock()",
  "assign _, ok := c.inFlightMessages[msg.ID]",
  "do c.inFlightMutex.Unlock()",
  "assign c.inFlightMessages[msg.ID] = msg",
  "do c.inFlightPQ.Push(msg)",
  "do c.inFlightMutex.Unlock()"] : List String) := rfl

/-- fix F48 (/repo 88fd245; ONLY this shape is accepted) — `pushInFlightMessage` inserts
into map AND heap in one critical section and neither caller pushes the heap again (`ChanMicroT` with `fixed = true`, the
shape `Props.C04Micro.scan_complete_micro_fixed` is about). The pre-F48 shape (two critical sections: `ChanMicroT` with
`fixed = false`, `scan_complete_micro_false`) and every mixture (no heap push at all, or two) break this tie. -/
theorem inflightPushShape_eq :
    "do c.inFlightPQ.Push(msg)" ∈ Nsq.Gen.Chan.pushInFlight ∧ "do c.addToInFlightPQ(msg)" ∉ Nsq.Gen.Chan.startInFlight ∧
      "do c.addToInFlightPQ(msg)" ∉ Nsq.Gen.Chan.touchMessage := by decide +kernel

/-- C01 (seeded C01-m5): the channel's disk queue accepts records up to max-msg-size + 26 (`minValidMsgLength`: timestamp, attempts, id) — every body the front ends accept fits when the message overflows to the channel's disk (model: `enqueue` never refuses on a durable channel). -/
theorem chanBackendNew_eq : Nsq.Gen.Chan.chanBackendNew = ([
  "assign c.backend = newDummyBackendQueue()",
  "assign c.backend = diskqueue.New( backendName, nsqd.getOpts().DataPath, nsqd.getOpts().MaxBytesPerFile, int32(minValidMsgLength), int32(nsqd.getOpts().MaxMsgSize)+minValidMsgLength, nsqd.getOpts().SyncEvery, nsqd.getOpts().SyncTimeout, dqLogf, )"] : List String) := rfl

/-- C01: the same bound for the topic's disk queue. -/
theorem topicBackendNew_eq : Nsq.Gen.Chan.topicBackendNew = ([
  "assign t.backend = newDummyBackendQueue()",
  "assign t.backend = diskqueue.New( topicName, nsqd.getOpts().DataPath, nsqd.getOpts().MaxBytesPerFile, int32(minValidMsgLength), int32(nsqd.getOpts().MaxMsgSize)+minValidMsgLength, nsqd.getOpts().SyncEvery, nsqd.getOpts().SyncTimeout, dqLogf, )"] : List String) := rfl

/-- C01 (seeded C01-m6): `queueScanLoop` replaces its cached channel list unconditionally at every refresh tick (model: `scanInFlight` / `scanDeferred` are enabled on every existing channel). -/
theorem scanRefresh_eq : Nsq.Gen.Chan.scanRefresh = ([
  "assign channels := n.channels()",
  "do n.resizePool(len(channels), workCh, responseCh, closeCh)",
  "assign channels = n.channels()",
  "do n.resizePool(len(channels), workCh, responseCh, closeCh)"] : List String) := rfl

/-- C03 (seeded C03-m5): when the topic pump leaves its pre-start loop (which swallows pause signals) it arms its sources only if the topic is not paused (model: `pumpTopic` is refused while `paused`, whenever the pause arrived). -/
theorem topicPumpArm_eq : Nsq.Gen.Chan.topicPumpArm = ([
  "do <-t.pauseChan",
  "do <-t.startChan",
  "if len(chans) > 0 && !t.IsPaused()",
  "do <-t.pauseChan"] : List String) := rfl

/-- C13 (seeded C13-m6): `GetStats` skips (`continue`) a topic that lacks the filtered channel and goes on with the next one (model `filterSnap`: a filter of the whole snapshot, `render_agree`). -/
theorem statsFilter_eq : Nsq.Gen.Chan.statsFilter = ([
  "assign val, exists := n.topicMap[topic]",
  "stmt return stats",
  "assign val, exists := t.channelMap[channel]",
  "assign realChannels = []*Channel{val}",
  "branch continue",
  "stmt return stats"] : List String) := rfl

/-- C03 (output buffer, model `Nsq.Model.Pump`): the pump's three-way arming at the head of its loop (not ready: queue cases and flusher off + forced `Flush`, `flushed = true`; flushed: flusher off; else flusher = ticker), the flusher case (`Flush`, `flushed = true`), the one-shot `subEventChan` / `identifyEventChan` (set to nil when taken), the ticker replaced only when `OutputBufferTimeout > 0`, the heartbeat through `Send`, `flushed = false` after a message was written. -/
theorem pumpFlush_eq : Nsq.Gen.Chan.pumpFlush = ([
  "assign outputBufferTicker := time.NewTicker(client.OutputBufferTimeout)",
  "assign heartbeatChan := heartbeatTicker.C",
  "assign flushed := true",
  "if subChannel == nil || !client.IsReadyForMessages()",
  "assign memoryMsgChan = nil",
  "assign backendMsgChan = nil",
  "assign flusherChan = nil",
  "assign err = client.Flush()",
  "assign flushed = true",
  "if flushed",
  "assign memoryMsgChan = subChannel.memoryMsgChan",
  "assign backendMsgChan = subChannel.backend.ReadChan()",
  "assign flusherChan = nil",
  "assign memoryMsgChan = subChannel.memoryMsgChan",
  "assign backendMsgChan = subChannel.backend.ReadChan()",
  "assign flusherChan = outputBufferTicker.C",
  "do <-flusherChan",
  "assign err = client.Flush()",
  "assign flushed = true",
  "do <-client.ReadyStateChan",
  "assign subEventChan = nil",
  "assign identifyEventChan = nil",
  "do outputBufferTicker.Stop()",
  "if identifyData.OutputBufferTimeout > 0",
  "assign outputBufferTicker = time.NewTicker(identifyData.OutputBufferTimeout)",
  "assign heartbeatChan = nil",
  "if identifyData.HeartbeatInterval > 0",
  "assign heartbeatChan = heartbeatTicker.C",
  "do <-heartbeatChan",
  "assign err = p.Send(client, frameTypeResponse, heartbeatBytes)",
  "assign flushed = false",
  "do outputBufferTicker.Stop()"] : List String) := rfl

/-- C03 (output buffer): `protocolV2.Send` writes the frame under `writeLock` and flushes iff it is not a message frame (model `respond` / `heartbeat` flush, `recv` does not). -/
theorem sendFlush_eq : Nsq.Gen.Chan.sendFlush = ([
  "do client.writeLock.Lock()",
  "assign _, err := protocol.SendFramedResponse(client.Writer, frameType, data)",
  "do client.writeLock.Unlock()",
  "if frameType != frameTypeMessage",
  "assign err = client.Flush()",
  "do client.writeLock.Unlock()"] : List String) := rfl

/-- C03 (seeded C03-m7): `Topic.doPause` stores the flag and then notifies the pump through a BLOCKING select — only the arms `pauseChan <- 1` and `<-exitChan`, no `default:` (a row `select-default` would appear here): `Pause()` / `UnPause()` return only when the pump has taken the notification (model: `pauseTopic` is one atomic step; behaviourally: leg `busypause`, corpus/C03/busy_pause.ops). -/
theorem topicDoPauseSelect_eq : Nsq.Gen.Chan.topicDoPauseSelect = ([
  "do atomic.StoreInt32(&t.paused, 1)",
  "do atomic.StoreInt32(&t.paused, 0)",
  "send t.pauseChan <- 1",
  "do <-t.exitChan"] : List String) := rfl

end Nsq.Tie.Chan
