import Nsq.Gen.ToolsRelayRedirect
import Nsq.Model.RelayRedirect
/-!
Tie of `Nsq.Model.RelayRedirect` to apps/nsq_to_http (fix F45b): which `http.Client`
does `main()` build, and what does its `CheckRedirect` decide?

Regenerated by go2lean kind `clientlit` from the statement `httpclient = &http.Client{…}` of `main()`:
the keys of the literal, the function given as `CheckRedirect` — its statements as text (`n2hClient_CheckRedirect`,
informative) and **translated** into a Lean function of (`req.Method = "POST"`, `via[0].Method = "POST"`, `len(via)`) with
result 0 = `nil`, 1 = `http.ErrUseLastResponse`, 2 = another error (`n2hClient_CheckRedirect_fn`; `…_translated = false`
when the body leaves the translator's subset or the key is absent) — and every other write to `httpclient` in the
package (none expected — the publishers `HTTPGet`/`HTTPPost` use that one client).

`treeCheck` is the `Check` of the tree under check. Accepted is EXACTLY one function (`n2hClient_shape`):
* `checkSameMethod` — fix F45b = /repo 833e42b, the committed tree:
  `if req.Method != via[0].Method || len(via) >= 10 { return http.ErrUseLastResponse }; return nil`.
The equality is between functions (all methods, all `len(via)`), so a harmless rewrite of `noRedirect` (two `if`s, the
disjuncts swapped, `> 9`) keeps the tie and any change of what it decides breaks it.
Not accepted: `checkNever` (fix F45 = /repo 2a7fc8c alone, `return http.ErrUseLastResponse`: it also refuses the
redirects that keep the method — 307/308 of a POST, any redirect of a GET; `never_is_not_accepted`), and the tree before
F45 (no `CheckRedirect`: net/http's default = `checkDefault`), which has `translated = false`. Both break this tie.
`lib/c20_redirect.py` probes the behaviour on the real binary (does a second request arrive after a `307 Location:` / a
`302 Location:` answer to a POST?) and expects the probed client to be the regenerated one.

Also here: the go-nsq version the skeleton / default-value extraction of `specs/e8_relay.json`
reads (`mod:github.com/nsqio/go-nsq@v1.1.0`) is the version the repo's `go.mod` resolves to, unreplaced.
-/
namespace Nsq.Tie.ToolsRelayRedirect
open Nsq.Gen.ToolsRelayRedirect Nsq.Model.RelayRedirect

/-- the `Check` parameter of `Nsq.Model.RelayRedirect.doReq` for the tree under check: the translated `noRedirect` -/
def treeCheck : Check := fun reqPost via0Post nvia => verdictOfCode (n2hClient_CheckRedirect_fn reqPost via0Post nvia)

/-- `main()` sets `CheckRedirect`, and its function was translated (not defaulted) -/
theorem n2hClient_fields_shape :
    n2hClient_fields = ["Transport", "Timeout", "CheckRedirect"] ∧ n2hClient_CheckRedirect_translated = true := ⟨rfl, rfl⟩

set_option linter.unusedSimpArgs false in
/-- **the client of this tree is the one of fix F45b** (/repo 833e42b) — as functions -/
theorem n2hClient_shape : treeCheck = checkSameMethod := by
  funext rp vp n
  -- the limit in every spelling a rewrite may use (`>= 10`, `> 9`, `!(< 10)`, `!(<= 9)`); the present one leaves some of
  -- these `simp` arguments unused, hence the linter option
  by_cases h : 10 ≤ n
  · have h1 : 9 < n := by omega
    have h2 : ¬ n ≤ 9 := by omega
    have h3 : ¬ n < 10 := by omega
    cases rp <;> cases vp <;>
      simp [treeCheck, n2hClient_CheckRedirect_fn, checkSameMethod, verdictOfCode, h, h1, h2, h3]
  · have h1 : ¬ 9 < n := by omega
    have h2 : n ≤ 9 := by omega
    have h3 : n < 10 := by omega
    cases rp <;> cases vp <;>
      simp [treeCheck, n2hClient_CheckRedirect_fn, checkSameMethod, verdictOfCode, h, h1, h2, h3]

/-- the client of F45 alone is a different function: a tree with F45b reverted fails `n2hClient_shape` -/
theorem never_is_not_accepted : treeCheck ≠ checkNever := by
  rw [n2hClient_shape]
  intro h
  have := congrFun (congrFun (congrFun h true) true) 1
  simp [checkNever, checkSameMethod] at this

/-- the driver code of this tree's client (`rd <client> …`: 0 = `checkNever`, 2 = `checkSameMethod`), computed from the
translated function on the input that separates F45 from F45b: a kept method at `len(via) = 1`. (Computed, not
the constant 2: on a tree with F45b reverted the python side reads 0 by `#eval` and names the revert.) -/
def treeClientCode : Nat := if n2hClient_CheckRedirect_fn true true 1 = 0 then 2 else 0

/-- derived from `n2hClient_shape`, not evaluated: it survives the rewrites of `noRedirect` that theorem survives -/
theorem treeClientCode_spec : treeClientCode = 2 ∧ treeCheck = checkSameMethod := by
  have h := n2hClient_shape
  refine ⟨?_, h⟩
  have := congrFun (congrFun (congrFun h true) true) 1
  simp only [treeCheck, checkSameMethod, verdictOfCode] at this
  unfold treeClientCode
  by_cases h0 : n2hClient_CheckRedirect_fn true true 1 = 0
  · simp [h0]
  · by_cases h1 : n2hClient_CheckRedirect_fn true true 1 = 1 <;> simp [h0, h1] at this

/-- nothing else in the package re-points the client or patches its fields -/
theorem n2hClient_single_definition : n2hClient_others = [] := rfl

/-- the go-nsq sources read by `specs/e8_relay.json` (`mod:…@v1.1.0`) are the ones the tools are built with -/
theorem goNsq_version_is_the_one_read : goNsqVersion = "v1.1.0" ∧ goNsqReplaced = false := ⟨rfl, rfl⟩

end Nsq.Tie.ToolsRelayRedirect
