import Nsq.Gen.Codec
import Nsq.Model.PQ
import Nsq.Model.Timing
/-! Tie (C04 timing): the statements of the heap / channel-deadline / UniqRands code, regenerated
from the Go source on every run, are the ones the hand-written models `Model.PQ` and
`Model.Timing` transcribe. Any edit of these functions breaks an `rfl` here (the check then
searches for a failing input). The behavioural half of the tie is the correspondence harness
(harness/e1/timing_test.go). `container/heap` itself is the Go standard library (trusted; its
`up`/`down`/`Push`/`Remove` are modelled explicitly and compared on the real package). -/
namespace Nsq.Tie.PQ

/-- `inFlightPqueue.Swap` = `Model.PQ.swp`: exchange, then both `index` fields -/
theorem ifpqSwap_eq : Nsq.Gen.Codec.ifpqSwap = [
  "pq[i], pq[j] = pq[j], pq[i]",
  "pq[i].index = i",
  "pq[j].index = j"] := rfl

/-- `inFlightPqueue.Push` = `Model.PQ.push` -/
theorem ifpqPush_eq : Nsq.Gen.Codec.ifpqPush = [
  "n := len(*pq)",
  "c := cap(*pq)",
  "if n+1 > c {",
  "npq := make(inFlightPqueue, n, c*2)",
  "copy(npq, *pq)",
  "*pq = npq",
  "}",
  "*pq = (*pq)[0 : n+1]",
  "x.index = n",
  "(*pq)[n] = x",
  "pq.up(n)"] := rfl

/-- `inFlightPqueue.Pop` = `Model.PQ.pop1` -/
theorem ifpqPop_eq : Nsq.Gen.Codec.ifpqPop = [
  "n := len(*pq)",
  "c := cap(*pq)",
  "pq.Swap(0, n-1)",
  "pq.down(0, n-1)",
  "if n < (c/2) && c > 25 {",
  "npq := make(inFlightPqueue, n, c/2)",
  "copy(npq, *pq)",
  "*pq = npq",
  "}",
  "x := (*pq)[n-1]",
  "x.index = -1",
  "*pq = (*pq)[0 : n-1]",
  "return x"] := rfl

/-- `inFlightPqueue.Remove` = `Model.PQ.remove1` -/
theorem ifpqRemove_eq : Nsq.Gen.Codec.ifpqRemove = [
  "n := len(*pq)",
  "if n-1 != i {",
  "pq.Swap(i, n-1)",
  "pq.down(i, n-1)",
  "pq.up(i)",
  "}",
  "x := (*pq)[n-1]",
  "x.index = -1",
  "*pq = (*pq)[0 : n-1]",
  "return x"] := rfl

/-- `inFlightPqueue.PeekAndShift` = `Model.PQ.peekAndShift1` (`x.pri > max` → nil) -/
theorem ifpqPeekAndShift_eq : Nsq.Gen.Codec.ifpqPeekAndShift = [
  "if len(*pq) == 0 {",
  "return nil, 0",
  "}",
  "x := (*pq)[0]",
  "if x.pri > max {",
  "return nil, x.pri - max",
  "}",
  "pq.Pop()",
  "return x, 0"] := rfl

/-- `inFlightPqueue.up` = `Model.PQ.up` -/
theorem ifpqUp_eq : Nsq.Gen.Codec.ifpqUp = [
  "for ; ;  {",
  "i := (j - 1) / 2",
  "if i == j || (*pq)[j].pri >= (*pq)[i].pri {",
  "break",
  "}",
  "pq.Swap(i, j)",
  "j = i",
  "}"] := rfl

/-- `inFlightPqueue.down` = `Model.PQ.down true` -/
theorem ifpqDown_eq : Nsq.Gen.Codec.ifpqDown = [
  "for ; ;  {",
  "j1 := 2*i + 1",
  "if j1 >= n || j1 < 0 {",
  "break",
  "}",
  "j := j1",
  "if j2 := j1 + 1; j2 < n && (*pq)[j1].pri >= (*pq)[j2].pri {",
  "j = j2",
  "}",
  "if (*pq)[j].pri >= (*pq)[i].pri {",
  "break",
  "}",
  "pq.Swap(i, j)",
  "i = j",
  "}"] := rfl

/-- `PriorityQueue.Less` -/
theorem pqLess_eq : Nsq.Gen.Codec.pqLess = [
  "return pq[i].Priority < pq[j].Priority"] := rfl

/-- `PriorityQueue.Swap` = `Model.PQ.swp` -/
theorem pqSwap_eq : Nsq.Gen.Codec.pqSwap = [
  "pq[i], pq[j] = pq[j], pq[i]",
  "pq[i].Index = i",
  "pq[j].Index = j"] := rfl

/-- `PriorityQueue.Push` (the `heap.Interface` half of `Model.PQ.push`) -/
theorem pqPush_eq : Nsq.Gen.Codec.pqPush = [
  "n := len(*pq)",
  "c := cap(*pq)",
  "if n+1 > c {",
  "npq := make(PriorityQueue, n, c*2)",
  "copy(npq, *pq)",
  "*pq = npq",
  "}",
  "*pq = (*pq)[0 : n+1]",
  "item := x.(*Item)",
  "item.Index = n",
  "(*pq)[n] = item"] := rfl

/-- `PriorityQueue.Pop` = `Model.PQ.takeLast` -/
theorem pqPop_eq : Nsq.Gen.Codec.pqPop = [
  "n := len(*pq)",
  "c := cap(*pq)",
  "if n < (c/2) && c > 25 {",
  "npq := make(PriorityQueue, n, c/2)",
  "copy(npq, *pq)",
  "*pq = npq",
  "}",
  "item := (*pq)[n-1]",
  "item.Index = -1",
  "*pq = (*pq)[0 : n-1]",
  "return item"] := rfl

/-- `PriorityQueue.PeekAndShift` = `Model.PQ.peekAndShift2` (`heap.Remove(pq, 0)`) -/
theorem pqPeekAndShift_eq : Nsq.Gen.Codec.pqPeekAndShift = [
  "if pq.Len() == 0 {",
  "return nil, 0",
  "}",
  "item := (*pq)[0]",
  "if item.Priority > max {",
  "return nil, item.Priority - max",
  "}",
  "heap.Remove(pq, 0)",
  "return item, 0"] := rfl

/-- `util.UniqRands` = `Model.Timing.uniqRands` -/
theorem uniqRandsBody_eq : Nsq.Gen.Codec.uniqRandsBody = [
  "if maxval < quantity {",
  "quantity = maxval",
  "}",
  "intSlice := make([]int, maxval)",
  "for i := 0; i < maxval; i++ {",
  "intSlice[i] = i",
  "}",
  "for i := 0; i < quantity; i++ {",
  "j := rand.Int()%maxval + i",
  "intSlice[i], intSlice[j] = intSlice[j], intSlice[i]",
  "maxval--",
  "}",
  "return intSlice[0:quantity]"] := rfl

/-- `Channel.TouchMessage`: the deadline is `Model.Timing.touchDeadline` -/
theorem touchStmts_eq : Nsq.Gen.Codec.touchStmts = [
  "assign newTimeout := time.Now().Add(clientMsgTimeout)",
  "if newTimeout.Sub(msg.deliveryTS) >= c.nsqd.getOpts().MaxMsgTimeout",
  "assign newTimeout = msg.deliveryTS.Add(c.nsqd.getOpts().MaxMsgTimeout)",
  "assign msg.pri = newTimeout.UnixNano()"] := rfl

/-- `protocolV2.TOUCH` passes the client's negotiated `MsgTimeout` -/
theorem touchCmdStmts_eq : Nsq.Gen.Codec.touchCmdStmts = [
  "assign msgTimeout := client.MsgTimeout",
  "assign err = client.Channel.TouchMessage(client.ID, *id, msgTimeout)"] := rfl

/-- `Channel.StartInFlightTimeout` = `Model.Timing.startInFlight` -/
theorem startInFlightBody_eq : Nsq.Gen.Codec.startInFlightBody = [
  "now := time.Now()",
  "msg.clientID = clientID",
  "msg.deliveryTS = now",
  "msg.pri = now.Add(timeout).UnixNano()",
  "err := c.pushInFlightMessage(msg)",
  "if err != nil {",
  "return err",
  "}",
  -- fix F48 (audit A3, /repo 88fd245): `pushInFlightMessage` inserts into map AND heap in one critical section;
  -- the pre-F48 body (a separate `c.addToInFlightPQ(msg)` after the hook point) breaks this tie
  "verifPoint(\"chan.inflight.afterMapPush\")",
  "return nil"] := rfl

/-- `Channel.StartDeferredTimeout` = `Model.Timing.startDeferred` -/
theorem startDeferredBody_eq : Nsq.Gen.Codec.startDeferredBody = [
  "absTs := time.Now().Add(timeout).UnixNano()",
  "item := &pqueue.Item{Value: msg, Priority: absTs}",
  "err := c.pushDeferredMessage(item)",
  "if err != nil {",
  "return err",
  "}",
  "verifPoint(\"chan.deferred.afterMapPush\")",
  "c.addToDeferredPQ(item)",
  "return nil"] := rfl

/-- `Channel.RequeueMessage` = `Model.Timing.requeue`.  ONLY the committed body is accepted: `exitMutex.RLock`
held with a deferred unlock over the whole function (F18, /repo d0f02d3, property C05: `Channel.exit` cannot flush while the
message is out of the in-flight map) and the channel's read lock as well (F27, /repo ebb5df3, C08: `Channel.Empty`
— write lock — cannot run while the message is in REQ's hands).  The two older bodies (lock only around the final `put`;
F18 without `c.RLock`) break this tie.  What is popped and which delay is used was the same in all three. -/
theorem requeueBody_eq : Nsq.Gen.Codec.requeueBody = [
  "c.exitMutex.RLock()",
  "defer c.exitMutex.RUnlock()",
  "c.RLock()",
  "defer c.RUnlock()",
  "msg, err := c.popInFlightMessage(clientID, id)",
  "if err != nil {",
  "return err",
  "}",
  "verifPoint(\"chan.req.afterPop\")",
  "c.removeFromInFlightPQ(msg)",
  "atomic.AddUint64(&c.requeueCount, 1)",
  "if timeout == 0 {",
  "if c.Exiting() {",
  "return errors.New(\"exiting\")",
  "}",
  "err := c.put(msg)",
  "return err",
  "}",
  "return c.StartDeferredTimeout(msg, timeout)"] := rfl

/-- `Channel.processInFlightQueue` = `Model.Timing.scanInFlight` — the shape after fix F16: the heap pop
and the in-flight-map delete of one iteration are ONE critical section (`PeekAndShift`, then
`delete(c.inFlightMessages, msg.ID)` if the map still holds that very object, all under
`inFlightMutex`), i.e. the micro-steps `scanPopPQ true` / `scanFinishPop true` of the model. The
pre-fix shape (two critical sections, `popInFlightMessage(msg.clientID, …)` after the hook point)
is `scanPopPQ false` / `scanFinishPop false`, about which `Props.C04.never_early_micro_false` speaks. -/
theorem processInFlightBody_eq : Nsq.Gen.Codec.processInFlightBody = [
  "c.exitMutex.RLock()",
  "defer c.exitMutex.RUnlock()",
  "if c.Exiting() {",
  "return false",
  "}",
  "dirty := false",
  "for ; ;  {",
  "c.inFlightMutex.Lock()",
  "msg, _ := c.inFlightPQ.PeekAndShift(t)",
  "if msg != nil {",
  "if m, ok := c.inFlightMessages[msg.ID]; ok && m == msg {",
  "delete(c.inFlightMessages, msg.ID)",
  "} else {",
  "msg = nil",
  "dirty = true",
  "}",
  "}",
  "c.inFlightMutex.Unlock()",
  "if msg == nil {",
  "goto exit",
  "}",
  "dirty = true",
  "verifPoint(\"chan.scan.afterPQPop\")",
  "atomic.AddUint64(&c.timeoutCount, 1)",
  "c.RLock()",
  "client, ok := c.clients[msg.clientID]",
  "c.RUnlock()",
  "if ok {",
  "client.TimedOutMessage()",
  "}",
  "c.put(msg)",
  "}",
  "exit:",
  "return dirty"] := rfl

/-- which shape of the scan iteration the current tree has (pinned by `processInFlightBody_eq`) -/
def scanFixed : Bool := true

/-- `Channel.processDeferredQueue` = `Model.Timing.scanDeferred` -/
theorem processDeferredBody_eq : Nsq.Gen.Codec.processDeferredBody = [
  "c.exitMutex.RLock()",
  "defer c.exitMutex.RUnlock()",
  "if c.Exiting() {",
  "return false",
  "}",
  "dirty := false",
  "for ; ;  {",
  "c.deferredMutex.Lock()",
  "item, _ := c.deferredPQ.PeekAndShift(t)",
  "c.deferredMutex.Unlock()",
  "if item == nil {",
  "goto exit",
  "}",
  "dirty = true",
  "msg := item.Value.(*Message)",
  "_, err := c.popDeferredMessage(msg.ID)",
  "if err != nil {",
  "goto exit",
  "}",
  "c.put(msg)",
  "}",
  "exit:",
  "return dirty"] := rfl

/-- `NSQD.queueScanWorker`: both scans with one clock reading = `Model.Timing.scanChannel` -/
theorem scanWorkerBody_eq : Nsq.Gen.Codec.scanWorkerBody = [
  "for ; ;  {",
  "select { case c := <-workCh: now := time.Now().UnixNano() dirty := false if c.processInFlightQueue(now) { dirty = true } if c.processDeferredQueue(now) { dirty = true } responseCh <- dirty case <-closeCh: return }",
  "}"] := rfl

/-- `NSQD.queueScanLoop`: `num = min(QueueScanSelectionCount, len(channels))`, repeat while dirty -/
theorem scanLoopStmts_eq : Nsq.Gen.Codec.scanLoopStmts = [
  "assign num := n.getOpts().QueueScanSelectionCount",
  "if num > len(channels)",
  "assign num = len(channels)",
  "assign numDirty := 0",
  "if float64(numDirty)/float64(num) > n.getOpts().QueueScanDirtyPercent"] := rfl

end Nsq.Tie.PQ
