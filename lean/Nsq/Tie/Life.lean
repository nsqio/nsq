import Nsq.Gen.Life
import Nsq.Model.LifeLock
/-!
Tie obligations of C08 against the facts regenerated from the current tree (Nsq.Gen.Life): the lock order of nsqd/
(acyclic, no recursive acquisition, the nestings the models rely on), the call order of `Channel.Empty` / `Channel.exit` /
`DeleteExistingChannel` / `RemoveClient`, and the four model parameters read off the tree (`treeFixed`, `treeScanAtomic`,
`treePushAtomic`, `treeAnsLock`).
-/
namespace Nsq.Tie.Life
open Nsq.Model.LifeLock

/-- the lock-nesting relation extracted from nsqd/ has a topological order -/
theorem lock_order_acyclic : acyclicB Nsq.Gen.Life.lockEdges = true := by decide +kernel

/-- the guard of `removeFromInFlightPQ` before fix F7 (the model's `fixed = false`; not accepted, `remove_guard_known`) -/
def guardUnfixed : List String := ["if msg.index == -1"]
def guardFixed : List String :=
  ["if msg.index < 0 || msg.index >= len(c.inFlightPQ) || c.inFlightPQ[msg.index] != msg"]

/-- model parameter `fixed` for this tree: the guard is the one of fix F7 -/
def treeFixed : Bool := Nsq.Gen.Life.removeGuard == guardFixed

/-- F7 is committed (/repo 80a0e5f): only the patched guard is accepted — `Props.C08.no_fault` is a
theorem about `fixed = true`, and this tie is what makes it a statement about the tree -/
theorem remove_guard_known : Nsq.Gen.Life.removeGuard = guardFixed := rfl

theorem tree_fixed : treeFixed = true := beq_iff_eq.mpr remove_guard_known

/-- `Channel.Empty`: lock, reset both structures, the hook, every consumer's counter adjustment (F13, /repo 2a83354,
committed: `Discarded(n)` subtracts exactly what the reset dropped, `client.Empty()` only for foreign consumers),
backend.Empty. The shape before F13 (`client.Empty()` zeroes every counter: no `Discarded` call) is not
accepted. -/
theorem empty_calls :
    Nsq.Gen.Life.emptyCalls = ["Lock", "initPQ", "verifPoint", "Discarded", "Empty", "Empty"] := rfl

/-- `Channel.exit`: once-only flag, notify, close consumers, then Empty + backend.Delete (delete)
or flush + backend.Close (close) -/
theorem chan_exit_calls :
    Nsq.Gen.Life.chanExitCalls = ["CompareAndSwapInt32", "Notify", "Close", "Empty", "Delete", "flush", "Close"] := rfl

/-- `DeleteExistingChannel`: lookup under the read lock; Channel.Delete() before the unlink; the unlink
and the count of the channels that are left (`len` **after** `delete`, both inside the write-locked
section — the count decides the ephemeral topic's once-only delete callback); persist; callback -/
theorem delete_chan_calls :
    Nsq.Gen.Life.deleteChanCalls =
      ["RLock", "RUnlock", "Delete", "Lock", "delete", "len", "Unlock", "Lock", "Unlock", "Do"] ∧
    Nsq.Gen.Life.deleteChanNum =
      ["assign numChannels := len(t.channelMap)", "if numChannels == 0 && t.ephemeral"] := ⟨rfl, rfl⟩

/-- `RemoveClient`: exiting check, removal, once-only ephemeral delete -/
theorem remove_client_calls : Nsq.Gen.Life.removeClientCalls = ["Exiting", "delete", "Do"] := rfl

/-- the timeout scan before fix F16: heap pop and a separate `popInFlightMessage` (two critical sections; not accepted,
`scan_shape_known`) -/
def scanTwoSections : List String := ["PeekAndShift", "popInFlightMessage", "TimedOutMessage", "put"]
def scanOneSection : List String := ["PeekAndShift", "delete", "TimedOutMessage", "put"]

/-- model parameter `St.scanAtomic` for this tree -/
def treeScanAtomic : Bool := Nsq.Gen.Life.scanCalls == scanOneSection

/-- F16 is committed: only the one-section scan is accepted -/
theorem scan_shape_known : Nsq.Gen.Life.scanCalls = scanOneSection := rfl

theorem tree_scan_atomic : treeScanAtomic = true := beq_iff_eq.mpr scan_shape_known

/-! ### F48: map insert and heap push of a delivery / TOUCH are one critical section (`St.pushAtomic`) -/

/-- model parameter `St.pushAtomic` for this tree: `pushInFlightMessage` pushes the heap entry between its `Lock`
and its final `Unlock`, and neither caller has a second heap-push section -/
def treePushAtomic : Bool :=
  Nsq.Gen.Life.pushInflightCalls == ["Lock", "Unlock", "Push", "Unlock"] &&
  Nsq.Gen.Life.startInflightCalls == ["pushInFlightMessage"] &&
  Nsq.Gen.Life.touchPushCalls == ["popInFlightMessage", "removeFromInFlightPQ", "pushInFlightMessage"]

/-- F48 is committed (/repo 88fd245): only the one-section shape is accepted.  `Lock, Unlock, Push, Unlock`: the
first `Unlock` is the early return "ID already in flight" (nothing inserted, nothing pushed — model: the
`o ∈ s.map` branch), the `Push` sits before the final `Unlock` -/
theorem push_shape_known :
    Nsq.Gen.Life.pushInflightCalls = ["Lock", "Unlock", "Push", "Unlock"] ∧
    Nsq.Gen.Life.startInflightCalls = ["pushInFlightMessage"] ∧
    Nsq.Gen.Life.touchPushCalls = ["popInFlightMessage", "removeFromInFlightPQ", "pushInFlightMessage"] :=
  ⟨rfl, rfl, rfl⟩

theorem tree_push_atomic : treePushAtomic = true := by
  simp only [treePushAtomic, push_shape_known, beq_self_eq_true, Bool.and_self]

/-! ### F27 (/repo ebb5df3, committed): REQ / TOUCH hold the channel's read lock (`St.ansLock`) -/

def reqSeqF18 : List String :=
  ["call:c.exitMutex.RLock", "defer:RUnlock", "call:c.popInFlightMessage", "call:c.removeFromInFlightPQ", "call:c.put",
   "call:c.StartDeferredTimeout"]
def reqSeqF27 : List String :=
  ["call:c.exitMutex.RLock", "defer:RUnlock", "call:c.RLock", "defer:RUnlock", "call:c.popInFlightMessage",
   "call:c.removeFromInFlightPQ", "call:c.put", "call:c.StartDeferredTimeout"]
def touchSeqF18 : List String :=
  ["call:c.exitMutex.RLock", "defer:RUnlock", "call:c.popInFlightMessage", "call:c.removeFromInFlightPQ",
   "call:c.pushInFlightMessage"]
def touchSeqF27 : List String :=
  ["call:c.exitMutex.RLock", "defer:RUnlock", "call:c.RLock", "defer:RUnlock", "call:c.popInFlightMessage",
   "call:c.removeFromInFlightPQ", "call:c.pushInFlightMessage"]

/-- model parameter `St.ansLock` for this tree: both answers take `c.RLock` (deferred unlock: held until they
return) after `exitMutex.RLock` and before `popInFlightMessage` -/
def treeAnsLock : Bool :=
  Nsq.Gen.Life.reqLockSeq == reqSeqF27 && Nsq.Gen.Life.touchLockSeq == touchSeqF27

/-- F27 is committed (/repo ebb5df3): ONLY its shape is accepted, consistently over both functions (`ansLock = true`).
The shape with F18 alone (`reqSeqF18`/`touchSeqF18`: `ansLock = false`, findings
`empty-races-req-message-survives` / `empty-races-touch-message-survives`, listed `fixed`) breaks this tie, and the hook
replays `empty_races_req_survives` / `empty_races_touch_survives` then report the surviving message as a VIOLATION. -/
theorem answers_channel_lock_shape :
    Nsq.Gen.Life.reqLockSeq = reqSeqF27 ∧ Nsq.Gen.Life.touchLockSeq = touchSeqF27 := ⟨rfl, rfl⟩

theorem tree_ans_lock : treeAnsLock = true := by
  simp only [treeAnsLock, answers_channel_lock_shape, beq_self_eq_true, Bool.and_self]

/-- `Channel.Empty` holds the channel's write lock (deferred unlock) over `initPQ` and everything after it: the model's
three sections of Empty are one `c.Lock` critical section (`emptyRunning` ⇒ `reqPop`/`touchPop` disabled with `ansLock`) -/
theorem empty_holds_channel_lock :
    Nsq.Gen.Life.emptyLockSeq = ["call:c.Lock", "defer:Unlock", "call:c.initPQ"] := rfl

/-- no function of nsqd/ acquires a lock it may already hold (directly or through any callee the call graph resolves):
in particular no callee of `RequeueMessage` / `TouchMessage` takes `c.RLock` again — a second read lock while
`Empty` waits for the write lock would deadlock (sync.RWMutex blocks new readers behind a waiting writer).
F27 adds no edge to the relation (`Channel.RWMutex → inFlightMutex/deferredMutex` exist through
`Empty → initPQ`); a recursive acquisition would add the pair `(Channel.RWMutex, Channel.RWMutex)`. -/
theorem no_recursive_lock : Nsq.Gen.Life.lockEdges.all (fun e => e.1 != e.2) = true := by decide +kernel

/-! ### what the acyclicity fact rests on -/

/-- the calls the extractor could NOT follow (function-typed fields): pinned, so that a new unresolved call site —
which the acyclicity theorem would silently not cover — breaks this tie and is looked at.  Each of the eight was
reviewed: `deleteCallback` (both) runs in its own goroutine (`go c.deleter.Do`, `go t.deleter.Do`-style: nothing of
the caller is held), `ctxCancel`/`exitFunc`/`logf` take no nsqd lock, `connectCallback` is called by `lookupPeer.Command`
from `lookupLoop`/`queryLookupd` with no nsqd mutex held. -/
theorem unresolved_calls_pinned :
    Nsq.Gen.Life.lockEdgesUnresolved =
      ["Channel.RemoveClient$1: c.deleteCallback(...)", "NSQD.Exit: n.ctxCancel(...)", "NSQD.Main$6: exitFunc(...)",
       "NSQD.Main$7: exitFunc(...)", "NSQD.Main$8: exitFunc(...)", "Topic.DeleteExistingChannel$13: t.deleteCallback(...)",
       "lookupPeer.Command: lp.connectCallback(...)", "lookupPeer.Connect: lp.logf(...)"] := rfl

/-- must-hold edges: the nestings the models RELY on (deleting one of these acquisitions would make the relation
smaller, hence still acyclic — but the model would be wrong): Empty resets both structures under `c.Lock`; REQ/TOUCH and
the scans work under `exitMutex.RLock`; AddClient/RemoveClient take `c.Lock` under `exitMutex`; Exit closes the topics
under the NSQD lock; a topic closes/creates its channels under its own lock; GetMetadata reads a topic under the NSQD lock -/
theorem must_hold_edges :
    [("Channel.RWMutex", "Channel.inFlightMutex"), ("Channel.RWMutex", "Channel.deferredMutex"),
     ("Channel.exitMutex", "Channel.inFlightMutex"), ("Channel.exitMutex", "Channel.deferredMutex"),
     ("Channel.exitMutex", "Channel.RWMutex"), ("NSQD.RWMutex", "Topic.RWMutex"), ("NSQD.RWMutex", "Channel.exitMutex"),
     ("Topic.RWMutex", "Channel.exitMutex"), ("Topic.RWMutex", "Channel.RWMutex")].all
      (fun e => Nsq.Gen.Life.lockEdges.contains e) = true := by decide +kernel

end Nsq.Tie.Life
