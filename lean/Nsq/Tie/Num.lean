import Nsq.Gen.Codec
import Nsq.Model.Num
/-! Tie (C04 numeric): the definitions regenerated from the Go source equal the hand model, and
the comparison / assignment statements of the handlers are the ones the model encodes. -/
namespace Nsq.Tie.Num
open Nsq.Model.Num

def conv (r : Option (BitVec 64)) : BitVec 64 × String :=
  match r with
  | some n => (n, "")
  | none => (0#64, "errBase10")

theorem b10loop_eq (b : List (BitVec 8)) (n : BitVec 64) :
    Nsq.Gen.Codec.byteToBase10.loop b n "" 10#64 = conv (b10loop b n) := by
  induction b generalizing n with
  | nil => rfl
  | cons d tl ih =>
    unfold Nsq.Gen.Codec.byteToBase10.loop b10loop
    simp only [isDigit, maxUint64]
    by_cases h1 : (BitVec.ule 48#8 d && BitVec.ule d 57#8) = true
    · by_cases h2 : BitVec.ult ((18446744073709551615#64 - BitVec.setWidth 64 (d - 48#8)) / 10#64) n = true
      · simp [h1, h2, conv]
      · simp only [h1, h2, if_true, if_false, Bool.false_eq_true]
        exact ih _
    · simp [h1, conv]

/-- `ByteToBase10` regenerated from internal/protocol/byte_base10.go = the model. -/
theorem byteToBase10_eq (b : List (BitVec 8)) :
    Nsq.Gen.Codec.byteToBase10 b = conv (byteToBase10 b) := by
  unfold Nsq.Gen.Codec.byteToBase10 byteToBase10
  exact b10loop_eq b 0#64

/-- `msToDuration` regenerated from nsqd/protocol_v2.go = the model. -/
theorem msToDuration_eq (ms : BitVec 64) : Nsq.Gen.Codec.msToDuration ms = msToDuration ms := by
  rfl

/-- REQ: parse, saturating conversion, clamp to `[0, MaxReqTimeout]`, requeue with the clamped value. -/
theorem reqStmts_eq : Nsq.Gen.Codec.reqStmts = [
    "assign timeoutMs, err := protocol.ByteToBase10(params[2])",
    "assign timeoutDuration := msToDuration(timeoutMs)",
    "assign clampedTimeout := timeoutDuration",
    "if timeoutDuration < 0",
    "assign clampedTimeout = 0",
    "if timeoutDuration > maxReqTimeout",
    "assign clampedTimeout = maxReqTimeout",
    "if clampedTimeout != timeoutDuration",
    "assign timeoutDuration = clampedTimeout",
    "assign err = client.Channel.RequeueMessage(client.ID, *id, timeoutDuration)"] := rfl

/-- DPUB: parse, saturating conversion, reject outside `[0, MaxReqTimeout]`, defer by exactly that. -/
theorem dpubStmts_eq : Nsq.Gen.Codec.dpubStmts = [
    "assign timeoutMs, err := protocol.ByteToBase10(params[2])",
    "assign timeoutDuration := msToDuration(timeoutMs)",
    "if timeoutDuration < 0 || timeoutDuration > p.nsqd.getOpts().MaxReqTimeout",
    "return return nil, protocol.NewFatalClientErr(nil, \"E_INVALID\", fmt.Sprintf(\"DPUB timeout %d out of range 0-%d\", timeoutMs, p.nsqd.getOpts().MaxReqTimeout/time.Millisecond))",
    "assign msg.deferred = timeoutDuration"] := rfl

/-- HTTP /pub?defer=: ParseInt base 10, range check in milliseconds, then the conversion. -/
theorem doPUBStmts_eq : Nsq.Gen.Codec.doPUBStmts = [
    "assign di, err = strconv.ParseInt(ds[0], 10, 64)",
    "if di < 0 || di > int64(s.nsqd.getOpts().MaxReqTimeout/time.Millisecond)",
    "assign deferred = time.Duration(di) * time.Millisecond",
    "assign msg.deferred = deferred"] := rfl

theorem setMsgTimeoutStmts_eq : Nsq.Gen.Codec.setMsgTimeoutStmts = [
    "case msgTimeout == 0",
    "case msgTimeout >= 1000 && msgTimeout <= int(c.nsqd.getOpts().MaxMsgTimeout/time.Millisecond)",
    "assign c.MsgTimeout = time.Duration(msgTimeout) * time.Millisecond",
    "return return fmt.Errorf(\"msg timeout (%d) is invalid\", msgTimeout)"] := rfl

end Nsq.Tie.Num
