import Nsq.Gen.TopicEph
/-! Tie (regenerated facts) for `Nsq.Model.TopicEph` (C01 on `#ephemeral` topics): the statement sequence
of `Topic.put`, the `#ephemeral` branch of `NewTopic` and `dummyBackendQueue.Put`, re-extracted from the current tree
by tools/go2lean (spec specs/e2_topiceph.json) and compared with the expected tables. -/
namespace Nsq.Tie.TopicEph

/-- `Topic.put`: the memory channel is tried when it is buffered OR the topic is ephemeral OR the message is deferred
(`roomTE`: an ephemeral topic tries it even with `mem-queue-size 0`); the send is one arm of a `select` with a
`default:` arm (non-blocking: `roomTE` false ⇒ fall through) and returns nil (kept); otherwise
`writeMessageToBackend(m, t.backend)`, whose error is the result — for the dummy backend nil (`dummyPut_eq`):
`putTE`'s "dropped, publisher answered OK". (`Topic.PutMessage` counts after a nil result: `Tie.Chan.topicPut_eq`.) -/
theorem topicPutBody_eq : Nsq.Gen.TopicEph.topicPutBody = ([
  "if cap(t.memoryMsgChan) > 0 || t.ephemeral || m.deferred != 0",
  "send t.memoryMsgChan <- m",
  "stmt return nil",
  "select-default",
  "branch break",
  "assign err := writeMessageToBackend(m, t.backend)",
  "stmt return err",
  "stmt return nil"] : List String) := rfl

/-- `NewTopic`: a name ending in `#ephemeral` sets the flag and gives the topic the dummy backend; any other name gets
a go-diskqueue (`Tie.Chan.topicBackendNew_eq`: the only two assignments of `t.backend`, with the disk queue's arguments) -/
theorem newTopicEphemeral_eq : Nsq.Gen.TopicEph.newTopicEphemeral = ([
  "if strings.HasSuffix(topicName, \"#ephemeral\")",
  "assign t.ephemeral = true",
  "assign t.backend = newDummyBackendQueue()"] : List String) := rfl

/-- the flag is assigned nowhere else in package nsqd (`ES.eph` never shrinks or grows for an existing topic) -/
theorem topicEphemeralWrites_eq :
    Nsq.Gen.TopicEph.topicEphemeralWrites = ([("NewTopic", "assign")] : List (String × String)) := rfl

/-- `dummyBackendQueue.Put` discards the bytes and reports success -/
theorem dummyPut_eq : Nsq.Gen.TopicEph.dummyPut = (["stmt return nil"] : List String) := rfl

end Nsq.Tie.TopicEph
