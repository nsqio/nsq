import Nsq.Gen.AdminAgg
import Nsq.Model.Aggregate
/-!
Tie obligations for C18 over facts regenerated from internal/clusterinfo/{types,data}.go on every run
(`Nsq.Gen.AdminAgg`, extractor `tools/go2lean/kind_adminagg.go`). They bind the parts of the hand-written model
`Nsq.Model.Aggregate` that a small source change can silently invalidate:

* (i)   every integer counter field of `TopicStats` / `ChannelStats` is `+=`-summed by `Add` exactly once, from the
        field of the same name, unconditionally — and the translated sums are the model's `Counters.add`;
* (ii)  the channel lookup of `TopicStats.Add` is the linear scan by `ChannelName` with the `found` flag that
        `mergeChan` models (no index arithmetic, no assumption that the list is sorted);
* (iii) in every fetch function one failing upstream records exactly one error (each `errs = append(errs, err)` sits
        in an `if err != nil { …; return }` of the upstream's own goroutine, none inside a nested goroutine / closure),
        and "nothing answered" is `len(errs) == len(<the list the goroutines range over>)` — the model's
        `countFailed answers == upstreams.length`;
* (iv)  the de-duplication keys, sort / uniq calls and recomputed fields are the ones the model uses;
* (v)   the retry rule of GETV1 / POSTV1; and the committed (unfixed) shape of `GET /api/topics?inactive=true`.
-/
namespace Nsq.Tie.AdminAgg
open Nsq.Gen.AdminAgg Nsq.Model.Aggregate

/-! ### (i) counters -/

def isIntType (t : String) : Bool := t == "int64" || t == "int" || t == "int32" || t == "uint64"

def intFields (fs : List (String × String × String)) : List String :=
  (fs.filter (fun f => isIntType f.2.1)).map (·.1)

def sums (sk : List (Nat × String × String × String)) : List (Nat × String × String) :=
  sk.filterMap (fun e => if e.2.1 == "sum" then some (e.1, e.2.2.1, e.2.2.2) else none)

/-- Every integer field is summed exactly once, at top level (unconditionally), from the same field of the
argument, and nothing else is summed. -/
def summedOnce (fs : List (String × String × String)) (sk : List (Nat × String × String × String)) : Bool :=
  (intFields fs).all (fun f => (sums sk).count (0, f, f) == 1) && (sums sk).length == (intFields fs).length

/-- The two `Add` methods in one evaluation: most of their fields bear the same names, and an evaluation compares two given
literals once, in however many tables they occur. -/
theorem _root_.Nsq.Proofs.AggSweep.counters :
    summedOnce topicStatsFields topicAdd = true ∧ summedOnce channelStatsFields channelAdd = true := by decide +kernel

theorem topic_counters_summed_once : summedOnce topicStatsFields topicAdd = true := Nsq.Proofs.AggSweep.counters.1
theorem channel_counters_summed_once : summedOnce channelStatsFields channelAdd = true := Nsq.Proofs.AggSweep.counters.2

/-- The counters the model carries are exactly the integer fields of the Go structs (by JSON name). -/
theorem topic_counter_tags :
    (topicStatsFields.filter (fun f => isIntType f.2.1)).map (fun f => (f.1, f.2.2)) =
      [("Depth", "depth"), ("MemoryDepth", "memory_depth"), ("BackendDepth", "backend_depth"),
       ("MessageCount", "message_count"), ("DeliveryMsgCount", "delivery_msg_count"),
       ("ZoneLocalMsgCount", "zone_local_msg_count,omitempty"),
       ("RegionLocalMsgCount", "region_local_msg_count,omitempty"),
       ("GlobalMsgCount", "global_msg_count,omitempty")] := rfl

theorem channel_counter_tags :
    (channelStatsFields.filter (fun f => isIntType f.2.1)).map (fun f => (f.1, f.2.2)) =
      [("Depth", "depth"), ("MemoryDepth", "memory_depth"), ("BackendDepth", "backend_depth"),
       ("InFlightCount", "in_flight_count"), ("DeferredCount", "deferred_count"),
       ("RequeueCount", "requeue_count"), ("TimeoutCount", "timeout_count"), ("MessageCount", "message_count"),
       ("DeliveryMsgCount", "delivery_msg_count,omitempty"), ("ZoneLocalMsgCount", "zone_local_msg_count,omitempty"),
       ("RegionLocalMsgCount", "region_local_msg_count,omitempty"), ("GlobalMsgCount", "global_msg_count,omitempty"),
       ("ClientCount", "client_count")] := rfl

/-- The `+=` statements of `ChannelStats.Add`, translated, are the model's `Counters.add`. -/
theorem channelAddCounters_eq (t a : Counters) : channelAddCounters t a = t.add a := rfl

/-- … and those of `TopicStats.Add` are `Counters.add` on the topic's counters (a `TopicStats` has no in-flight /
deferred / requeue / timeout / client counters: they are 0 in every topic report of the model). -/
theorem topicAddCounters_eq (t a : Counters)
    (ha : a.inFlight = 0 ∧ a.deferred = 0 ∧ a.requeue = 0 ∧ a.timeout = 0 ∧ a.clientCount = 0) :
    topicAddCounters t a = t.add a := by
  obtain ⟨h1, h2, h3, h4, h5⟩ := ha
  simp [topicAddCounters, Counters.add, h1, h2, h3, h4, h5]

/-- `paused` is or-ed, the report is appended to the node list, clients are concatenated (what `ChanAgg.add` /
`TopicAgg.add` do). -/
def otherEffects (sk : List (Nat × String × String × String)) : List (Nat × String × String × String) :=
  sk.filter (fun e => e.2.1 == "append" || e.2.1 == "appendAll" || (e.2.1 == "set" && e.2.2.1 == "Paused") ||
    (e.2.1 == "if" && e.2.2.1 == "a.Paused") || (e.2.1 == "set" && e.2.2.1 == "Node"))

theorem channelAdd_effects : otherEffects channelAdd =
    [(0, "set", "Node", "\"*\""), (0, "if", "a.Paused", ""), (1, "set", "Paused", "a.Paused"),
     (0, "append", "NodeStats", "a"), (0, "appendAll", "Clients", "a.Clients")] := by decide +kernel

theorem topicAdd_effects : otherEffects topicAdd =
    [(0, "set", "Node", "\"*\""), (0, "if", "a.Paused", ""), (1, "set", "Paused", "a.Paused"),
     (2, "append", "Channels", "aChannelStats"), (0, "append", "NodeStats", "a")] := by decide +kernel

/-! ### (ii) the channel lookup of TopicStats.Add -/

def channelLoop (sk : List (Nat × String × String × String)) : List (Nat × String × String × String) :=
  (sk.dropWhile (fun e => !(e.2.1 == "range" && e.2.2.1 == "a.Channels"))).takeWhile
    (fun e => e.1 > 0 || e.2.1 == "range")

/-- For every channel of the report: scan *all* merged channels comparing names; `Add` into each match; append the
report's own channel object when none matched — `Nsq.Model.Aggregate.mergeChan`. -/
theorem topicAdd_channel_lookup_is_linear_scan : channelLoop topicAdd =
    [(0, "range", "a.Channels", "aChannelStats"),
     (1, "setvar", "found", "false"),
     (1, "range", "t.Channels", "channelStats"),
     (2, "if", "aChannelStats.ChannelName == channelStats.ChannelName", ""),
     (3, "setvar", "found", "true"),
     (3, "call", "channelStats.Add", "aChannelStats"),
     (1, "if", "!found", ""),
     (2, "append", "Channels", "aChannelStats")] := rfl

/-! ### (iii) one error per failing upstream; "nothing answered" -/

def factsOf (k : String) (fs : List (String × String)) : List String :=
  (fs.filter (·.1 == k)).map (·.2)

/-- The error accounting of one fetch function is the one `Fetched` models. -/
def errorAccountingOk (fs : List (String × String)) : Bool :=
  (factsOf "errappend" fs).all (· == "guarded-return") && !(factsOf "errappend" fs).isEmpty &&
  factsOf "nestedgo" fs == ["0"] &&
  (match factsOf "range" fs with
   | [r] => factsOf "allfailed" fs == ["len(errs) == len(" ++ r ++ ")"]
   | _ => false) &&
  factsOf "partial" fs == ["len(errs) > 0"]

def _root_.Nsq.Proofs.AggSweep.fetchFns : List (List (String × String)) :=
  [fetch_GetLookupdTopics, fetch_GetLookupdTopicChannels, fetch_GetLookupdProducers, fetch_GetLookupdTopicProducers,
   fetch_GetNSQDTopics, fetch_GetNSQDProducers, fetch_GetNSQDTopicProducers, fetch_GetNSQDStats]

/-- One evaluation for the eight: their facts are written in the same six keys and, the ranged list apart, the same answers. -/
theorem _root_.Nsq.Proofs.AggSweep.fetch : ∀ fs ∈ Nsq.Proofs.AggSweep.fetchFns, errorAccountingOk fs = true := by
  decide +kernel

theorem GetLookupdTopics_error_accounting : errorAccountingOk fetch_GetLookupdTopics = true :=
  Nsq.Proofs.AggSweep.fetch _ (by simp [Nsq.Proofs.AggSweep.fetchFns])
theorem GetLookupdTopicChannels_error_accounting : errorAccountingOk fetch_GetLookupdTopicChannels = true :=
  Nsq.Proofs.AggSweep.fetch _ (by simp [Nsq.Proofs.AggSweep.fetchFns])
theorem GetLookupdProducers_error_accounting : errorAccountingOk fetch_GetLookupdProducers = true :=
  Nsq.Proofs.AggSweep.fetch _ (by simp [Nsq.Proofs.AggSweep.fetchFns])
theorem GetLookupdTopicProducers_error_accounting : errorAccountingOk fetch_GetLookupdTopicProducers = true :=
  Nsq.Proofs.AggSweep.fetch _ (by simp [Nsq.Proofs.AggSweep.fetchFns])
theorem GetNSQDTopics_error_accounting : errorAccountingOk fetch_GetNSQDTopics = true :=
  Nsq.Proofs.AggSweep.fetch _ (by simp [Nsq.Proofs.AggSweep.fetchFns])
theorem GetNSQDProducers_error_accounting : errorAccountingOk fetch_GetNSQDProducers = true :=
  Nsq.Proofs.AggSweep.fetch _ (by simp [Nsq.Proofs.AggSweep.fetchFns])
theorem GetNSQDTopicProducers_error_accounting : errorAccountingOk fetch_GetNSQDTopicProducers = true :=
  Nsq.Proofs.AggSweep.fetch _ (by simp [Nsq.Proofs.AggSweep.fetchFns])
theorem GetNSQDStats_error_accounting : errorAccountingOk fetch_GetNSQDStats = true :=
  Nsq.Proofs.AggSweep.fetch _ (by simp [Nsq.Proofs.AggSweep.fetchFns])

/-! ### (iv) de-duplication keys, sorting, recomputed fields -/

def stmtsOf (fs : List (String × String)) : List String := factsOf "stmt" fs

/-- union = stringy.Uniq then sort.Strings (`sortNames (uniq …)`). -/
theorem GetLookupdTopics_keys : stmtsOf fetch_GetLookupdTopics = [
    "topics = append(topics, resp.Topics...)",
    "topics = stringy.Uniq(topics)",
    "sort.Strings(topics)"] := rfl

/-- same shape as GetLookupdTopics. -/
theorem GetLookupdTopicChannels_keys : stmtsOf fetch_GetLookupdTopicChannels = [
    "channels = stringy.Uniq(channels)",
    "sort.Strings(channels)"] := rfl

/-- key = TCP address; first record kept, every answer adds a remote address; out-of-date by max version (`mergeProducers`, `markOutOfDate`). -/
theorem GetLookupdProducers_keys : stmtsOf fetch_GetLookupdProducers = [
    "maxVersion, _ := semver.Parse(\"0.0.0\")",
    "key := producer.TCPAddress()",
    "p, ok := producersByAddr[key]",
    "producersByAddr[key] = producer",
    "producers = append(producers, producer)",
    "if maxVersion.LT(producer.VersionObj)",
    "maxVersion = producer.VersionObj",
    "sort.Sort(producer.Topics)",
    "p.RemoteAddresses = append(p.RemoteAddresses, fmt.Sprintf(\"%s/%s\", addr, producer.Address()))",
    "if producer.VersionObj.LT(maxVersion)",
    "producer.OutOfDate = true",
    "sort.Sort(ProducersByHost{producers})"] := rfl

/-- de-duplication by HTTP address (`mergeTopicProducers`). -/
theorem GetLookupdTopicProducers_keys : stmtsOf fetch_GetLookupdTopicProducers = [
    "if p.HTTPAddress() == pp.HTTPAddress()",
    "producers = append(producers, p)"] := rfl

/-- stringy.Add then sort.Strings. -/
theorem GetNSQDTopics_keys : stmtsOf fetch_GetNSQDTopics = [
    "topics = stringy.Add(topics, topic.Name)",
    "sort.Strings(topics)"] := rfl

/-- one producer per answering nsqd, no de-duplication (`nsqdProducers`). -/
theorem GetNSQDProducers_keys : stmtsOf fetch_GetNSQDProducers = [
    "producers = append(producers, &Producer{ Version: infoResp.Version, VersionObj: version, BroadcastAddress: infoResp.BroadcastAddress, Hostname: infoResp.Hostname, HTTPPort: infoResp.HTTPPort, TCPPort: infoResp.TCPPort, Topics: producerTopics, TopologyZone: infoResp.TopologyZone, TopologyRegion: infoResp.TopologyRegion, })"] := rfl

/-- one producer per nsqd that lists the topic (`nsqdTopicProducers`). -/
theorem GetNSQDTopicProducers_keys : stmtsOf fetch_GetNSQDTopicProducers = [
    "producers = append(producers, &Producer{ Version: infoResp.Version, VersionObj: version, BroadcastAddress: infoResp.BroadcastAddress, Hostname: infoResp.Hostname, HTTPPort: infoResp.HTTPPort, TCPPort: infoResp.TCPPort, Topics: producerTopics, TopologyZone: infoResp.TopologyZone, TopologyRegion: infoResp.TopologyRegion, })"] := rfl

/-- memory depth / delivery count recomputed; topic filter; channel key = name, or topic:name without a selected topic (`Counters.derive`, `topicsOfNode`, `chansOfTopic`). -/
theorem GetNSQDStats_keys : stmtsOf fetch_GetNSQDStats = [
    "if selectedTopic != \"\"",
    "endpoint += \"&topic=\" + url.QueryEscape(selectedTopic)",
    "topic.MemoryDepth = topic.Depth - topic.BackendDepth",
    "topic.DeliveryMsgCount = topic.ZoneLocalMsgCount + topic.RegionLocalMsgCount + topic.GlobalMsgCount",
    "if selectedTopic != \"\" && topic.TopicName != selectedTopic",
    "topicStatsList = append(topicStatsList, topic)",
    "channel.MemoryDepth = channel.Depth - channel.BackendDepth",
    "channel.DeliveryMsgCount = channel.ZoneLocalMsgCount + channel.RegionLocalMsgCount + channel.GlobalMsgCount",
    "key := channel.ChannelName",
    "if selectedTopic == \"\"",
    "key = fmt.Sprintf(\"%s:%s\", topic.TopicName, channel.ChannelName)",
    "channelStats.Add(channel)",
    "sort.Sort(TopicStatsByHost{topicStatsList})"] := rfl

/-! ### (v) the request loop of GETV1 / POSTV1 (internal/http_api/api_request.go) -/

/-- The retry rule is the one `Nsq.Model.Fetch.getV1` models: one request per pass; the jump back is taken on a 403
when the *current* endpoint is not https — a condition recomputed on every pass (no identifier in it is
loop-invariant) after `endpoint` has been replaced by the announced https endpoint. -/
def retryLoopOk (fs : List (String × String)) : Bool :=
  factsOf "jumpcond" fs == ["resp.StatusCode == 403 && !strings.HasPrefix(endpoint, \"https\")"] &&
  factsOf "update" fs == ["endpoint, err = httpsEndpoint(endpoint, body)"] &&
  factsOf "invariant" fs == [] && factsOf "requests" fs == ["1"] && (factsOf "loop" fs).length == 1

theorem _root_.Nsq.Proofs.AggSweep.retry : retryLoopOk retry_GETV1 = true ∧ retryLoopOk retry_POSTV1 = true := by
  decide +kernel

theorem GETV1_retry_condition_recomputed : retryLoopOk retry_GETV1 = true := Nsq.Proofs.AggSweep.retry.1
theorem POSTV1_retry_condition_recomputed : retryLoopOk retry_POSTV1 = true := Nsq.Proofs.AggSweep.retry.2

/-! ### `GET /api/topics?inactive=true` (F58 = /repo 783e91a, REVERTED by 338c8a6)

The committed tree is the UNFIXED shape again: both per-topic fetches of `topicsHandler` throw their error away (`_`).
Only this shape is accepted; the model the driver runs for the tree is `Fixes.tree` (`inactiveErrs := false`), the
repaired behaviour stays behind the switch `Fixes.inactiveErrs` as the documented proposal (`Props.C18.inactive_warning`),
and the defect is the open finding `view:inactive-drops-errors` (replayed on every run). A new repair of the handler
breaks this tie and the model has to be looked at again. -/
theorem topics_inactive_discards_errors : topicsInactiveFetches = [
    "assign producers, _ := s.ci.GetLookupdTopicProducers( topicName, s.nsqadmin.getOpts().NSQLookupdHTTPAddresses)",
    "assign topicChannels, _ := s.ci.GetLookupdTopicChannels( topicName, s.nsqadmin.getOpts().NSQLookupdHTTPAddresses)"] := rfl

theorem tree_inactive_errs : Nsq.Model.Aggregate.Fixes.tree.inactiveErrs = false := rfl

end Nsq.Tie.AdminAgg
