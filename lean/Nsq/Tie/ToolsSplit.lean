import Nsq.Gen.ToolsRelay
import Nsq.Model.Split
/-!
Tie of the `Split` model to apps/to_nsq (regenerated leg): the trimming rule of `readAndPublish`, translated
from the current tree by `tools/go2lean` (kind `trimrule`), equals `trimFixed`; the rest of the function has
the skeleton the model `published` was written against (read, trim, skip empty, publish to every producer,
return the read error). A tree without fix F5 breaks `readAndPublish_trim_eq`.
-/
namespace Nsq.Tie.ToolsSplit
open Nsq.Gen.ToolsRelay Nsq.Model.Split

theorem readAndPublish_trim_eq (d : UInt8) (l : List UInt8) : readAndPublish_trim d l = trimFixed d l := by
  unfold readAndPublish_trim trimFixed
  by_cases h1 : l.length > 0 <;> by_cases h2 : l.getLast? = some d <;> simp [h1, h2]

def expected_readAndPublish : List String := [
  "line, readErr := r.ReadBytes(delim)",
  "if len(line) > 0 && line[len(line)-1] == delim",
  ".line = line[:len(line)-1]",
  "if len(line) == 0",
  ".return readErr",
  "range producers",
  ".err := producer.Publish(*topic, line)",
  ".if err != nil",
  "..return err",
  "return readErr"]

theorem readAndPublish_eq : Nsq.Gen.ToolsRelay.readAndPublish = expected_readAndPublish := rfl

end Nsq.Tie.ToolsSplit
