import Nsq.Gen.ProtoAudit
import Nsq.Model.ProtoEnv
/-!
Tie for `Nsq.Model.ProtoEnv` (C09): the statements the model's broker-dependent,
environment-dependent and state-dependent outcomes were written from, re-extracted from the current
tree on every run (`specs/e3_audit09.json` → `Nsq.Gen.ProtoAudit`). The behavioural tie is the
correspondence leg `iox` (harness/e3/audit09_test.go); these facts pin the guards the model mirrors.

`newTickerOptionChecks`: F31 is committed (/repo a24e9f3), so ONLY the two checks of the patch are accepted
(`Model.ProtoEnv.newAccepts true`). The shape before it (no check: `newAccepts false`,
`Props.C09Audit.options_never_kill_unchecked_false`) breaks this tie, and `props/C09.py`'s subprocess leg
then reports `ticker-option-kills-daemon` (listed `fixed`) as a VIOLATION with the option value that kills
the daemon.
-/
namespace Nsq.Tie.ProtoAudit
open Nsq.Model.ProtoEnv

/-- `Topic.PutMessages` / `PutMessage`: exit flag, then `put` per message, the error returned from
inside the loop (what was written before stays) — `pubFailed`. -/
theorem putMessagesStmts_eq : Nsq.Gen.ProtoAudit.putMessagesStmts = ([
  "if atomic.LoadInt32(&t.exitFlag) == 1",
  "return return errors.New(\"exiting\")",
  "assign err := t.put(m)",
  "return return err",
  "return return nil"] : List String) := rfl

theorem putMessageStmts_eq : Nsq.Gen.ProtoAudit.putMessageStmts = ([
  "if atomic.LoadInt32(&t.exitFlag) == 1",
  "return return errors.New(\"exiting\")",
  "assign err := t.put(m)",
  "return return err",
  "return return nil"] : List String) := rfl

theorem mpubPutStmts_eq : Nsq.Gen.ProtoAudit.mpubPutStmts = ([
  "assign err = topic.PutMessages(messages)",
  "return return nil, protocol.NewFatalClientErr(err, \"E_MPUB_FAILED\", \"MPUB failed \"+err.Error())"] : List String) := rfl

/-- `Channel.AddClient`: the comparison `limitHit` mirrors. -/
theorem addClientStmts_eq : Nsq.Gen.ProtoAudit.addClientStmts = ([
  "assign _, ok := c.clients[clientID]",
  "assign numClients := len(c.clients)",
  "assign maxChannelConsumers := c.nsqd.getOpts().MaxChannelConsumers",
  "if maxChannelConsumers != 0 && numClients >= maxChannelConsumers",
  "return return fmt.Errorf(\"consumers for %s:%s exceeds limit of %d\", c.topicName, c.name, maxChannelConsumers)",
  "assign c.clients[clientID] = client"] : List String) := rfl

/-- SUB: gate, then GetTopic, GetChannel, AddClient (the topic and channel exist when AddClient
refuses — `subRefused`). -/
theorem subAddClientStmts_eq : Nsq.Gen.ProtoAudit.subAddClientStmts = ([
  "assign err := p.CheckAuth(client, \"SUB\", topicName, channelName)",
  "assign topic := p.nsqd.GetTopic(topicName)",
  "assign channel = topic.GetChannel(channelName)",
  "assign err := channel.AddClient(client.ID, client)",
  "return return nil, protocol.NewFatalClientErr(err, \"E_SUB_FAILED\", \"SUB failed \"+err.Error())",
  "return return nil, protocol.NewFatalClientErr(nil, \"E_SUB_FAILED\", \"SUB failed to deleted topic/channel\")"] : List String) := rfl

/-- `CheckAuth` — `gate` (E_AUTH_FAILED: a failed re-query after the TTL expired, C11). -/
theorem checkAuthStmts_eq : Nsq.Gen.ProtoAudit.checkAuthStmts = ([
  "if client.nsqd.IsAuthEnabled()",
  "if !client.HasAuthorizations()",
  "return return protocol.NewFatalClientErr(nil, \"E_AUTH_FIRST\", fmt.Sprintf(\"AUTH required before %s\", cmd))",
  "assign ok, err := client.IsAuthorized(topicName, channelName)",
  "if err != nil",
  "return return protocol.NewFatalClientErr(nil, \"E_AUTH_FAILED\", \"AUTH failed\")",
  "if !ok",
  "return return protocol.NewFatalClientErr(nil, \"E_UNAUTHORIZED\", fmt.Sprintf(\"AUTH failed for %s on %q %q\", cmd, topicName, channelName))"] : List String) := rfl

/-- The tail of AUTH in the order of `authOutcome`. -/
theorem authTailStmts_eq : Nsq.Gen.ProtoAudit.authTailStmts = ([
  "if client.HasAuthorizations()",
  "if !client.nsqd.IsAuthEnabled()",
  "assign err := client.Auth(string(body))",
  "if !client.HasAuthorizations()"] : List String) := rfl

/-- `messagePump`: the two unguarded tickers (`pumpStart`) and the two guarded re-creations on IDENTIFY. -/
theorem pumpTickerStmts_eq : Nsq.Gen.ProtoAudit.pumpTickerStmts = ([
  "assign outputBufferTicker := time.NewTicker(client.OutputBufferTimeout)",
  "assign heartbeatTicker := time.NewTicker(client.HeartbeatInterval)",
  "assign outputBufferTicker = time.NewTicker(identifyData.OutputBufferTimeout)",
  "assign heartbeatTicker = time.NewTicker(identifyData.HeartbeatInterval)"] : List String) := rfl

/-- Which `newAccepts` the tree has. -/
def treeChecksTickerOptions : Bool :=
  Nsq.Gen.ProtoAudit.newTickerOptionChecks ==
    ["if opts.OutputBufferTimeout <= 0", "if opts.ClientTimeout/2 <= 0"]

theorem newTickerOptionChecks_shape_known :
    Nsq.Gen.ProtoAudit.newTickerOptionChecks =
      ["if opts.OutputBufferTimeout <= 0", "if opts.ClientTimeout/2 <= 0"] := rfl

/-- the `checked` parameter of `firstConnection` / `OptionsNeverKill` for this tree is `true` -/
theorem tree_checks_ticker_options : treeChecksTickerOptions = true :=
  beq_iff_eq.mpr newTickerOptionChecks_shape_known

/-- The model's check is the patch's: `d <= 0` and `d/2 <= 0` refuse. -/
theorem newAccepts_mirrors_checks (o : Opts) :
    newAccepts true o = (!decide (o.outputBufferTimeoutNs ≤ 0) && !decide (Int.tdiv o.clientTimeoutNs 2 ≤ 0)) := by
  simp only [newAccepts, heartbeatOf, Bool.not_true, Bool.false_or]
  by_cases h1 : o.outputBufferTimeoutNs ≤ 0 <;> by_cases h2 : Int.tdiv o.clientTimeoutNs 2 ≤ 0 <;>
    simp [h1, h2] <;> omega

end Nsq.Tie.ProtoAudit
