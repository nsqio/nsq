import Nsq.Gen.DiskQueueArgs
import Nsq.Proofs.DiskQueue
import Nsq.Proofs.Wire
/-!
Tie obligations on what nsqd hands to go-diskqueue: the arguments `maxBytesPerFile`, `minMsgSize`,
`maxMsgSize`, `syncEvery`, `syncTimeout` of the `diskqueue.New(...)` calls in `NewTopic` (nsqd/topic.go) and
`NewChannel` (nsqd/channel.go) are regenerated as *translated expressions* over BitVec (tools/go2lean kind
`callexpr`, specs/e9_dqargs.json → `Nsq.Gen.DiskQueueArgs`): `int32(x)` of an int64 is `BitVec.setWidth 32`,
`+` wraps.  Nothing below compares source text: every theorem is proved about the translated function on
all option values, first reduced to a canonical form (`*_spec`) by a proof that does not depend on the shape
of the expression (`bv_omega`: equality of the `toNat`s by `omega`), so a rewrite such as
`int32(MaxMsgSize + minValidMsgLength)` keeps this file green while `int32(MaxMsgSize)` does not.

`dqCfgOf` turns the option values into the configuration of the E9 model (`Nsq.Model.DiskQueue.Cfg`, fields in
`Nat`).  The arguments are *signed* Go integers (`*.signed`, `arg_types`), read with `BitVec.toInt`; a
negative value is clamped to 0 (`Int.toNat`):
  * `maxMsgSize < 0`: go-diskqueue rejects every record (`dataLen > maxMsgSize`), and so does the model with
    bound 0 because `minMsgSize = 26` (`wrapped_bound_rejects_all`) — the clamp is faithful;
  * `maxBytesPerFile < 0`: both sides roll before every write at a position > 0 and treat every read
    position as past the end — same behaviour (the model compares `maxBytesPerFile < wp + …`, `nrp ≥ mbr`);
  * `syncEvery ≤ 0`: NOT faithful for negative values (`count == syncEvery` never holds in Go, always in the
    clamped model) — outside `CfgOk`, which `cfgOk_of_options` shows to be exactly `1 ≤ SyncEvery`.
-/
namespace Nsq.Tie.DiskQueueArgs
open Nsq.Gen.DiskQueueArgs Nsq.Model.Wire Nsq.Model.DiskQueue Nsq.Proofs.DiskQueue

/-! ### the Go types the reading below relies on -/

/-- the callee's parameters at the five positions are the ones the definitions are named after, all of
signed integer types, and the four options are int64 / time.Duration values -/
theorem arg_types :
    [topicMaxBytesPerFile.goParam, topicMinMsgSize.goParam, topicMaxMsgSize.goParam, topicSyncEvery.goParam,
      topicSyncTimeout.goParam] = ["maxBytesPerFile", "minMsgSize", "maxMsgSize", "syncEvery", "syncTimeout"] ∧
    [chanMaxBytesPerFile.goParam, chanMinMsgSize.goParam, chanMaxMsgSize.goParam, chanSyncEvery.goParam,
      chanSyncTimeout.goParam] = ["maxBytesPerFile", "minMsgSize", "maxMsgSize", "syncEvery", "syncTimeout"] ∧
    [topicMaxBytesPerFile.goType, topicMinMsgSize.goType, topicMaxMsgSize.goType, topicSyncEvery.goType,
      topicSyncTimeout.goType] = ["int64", "int32", "int32", "int64", "time.Duration"] ∧
    [chanMaxBytesPerFile.goType, chanMinMsgSize.goType, chanMaxMsgSize.goType, chanSyncEvery.goType,
      chanSyncTimeout.goType] = ["int64", "int32", "int32", "int64", "time.Duration"] ∧
    [topicMaxBytesPerFile.signed, topicMinMsgSize.signed, topicMaxMsgSize.signed, topicSyncEvery.signed,
      topicSyncTimeout.signed, chanMaxBytesPerFile.signed, chanMinMsgSize.signed, chanMaxMsgSize.signed,
      chanSyncEvery.signed, chanSyncTimeout.signed] = List.replicate 10 true ∧
    topicMaxMsgSize.extTypes = [("maxBytesPerFile", "int64"), ("maxMsgSize", "int64"), ("syncEvery", "int64"),
      ("syncTimeout", "time.Duration")] ∧
    chanMaxMsgSize.extTypes = topicMaxMsgSize.extTypes := ⟨rfl, rfl, rfl, rfl, rfl, rfl, rfl⟩

example : topicMaxMsgSize.goType ≠ "int64" := by decide

/-! ### canonical forms (the only theorems that look inside the generated definitions) -/

/-- the upper record-size bound is the int32 truncation of `MaxMsgSize + 26` — whatever the order of the
conversion and the addition in the source -/
theorem topic_maxMsgSize_spec (a m s t : BitVec 64) :
    topicMaxMsgSize a m s t = BitVec.setWidth 32 (m + 26#64) := by
  unfold topicMaxMsgSize; bv_omega

theorem chan_maxMsgSize_spec (a m s t : BitVec 64) :
    chanMaxMsgSize a m s t = BitVec.setWidth 32 (m + 26#64) := by
  unfold chanMaxMsgSize; bv_omega

example : topicMaxMsgSize 0 1048576#64 0 0 = 1048602#32 ∧ chanMaxMsgSize 0 1048576#64 0 0 = 1048602#32 := by
  rw [topic_maxMsgSize_spec, chan_maxMsgSize_spec]; decide

/-- the lower bound is the constant 26 (`minValidMsgLength`, evaluated by go/types) -/
theorem minMsgSize_spec (a m s t : BitVec 64) :
    topicMinMsgSize a m s t = 26#32 ∧ chanMinMsgSize a m s t = 26#32 := by
  unfold topicMinMsgSize chanMinMsgSize; exact ⟨by bv_omega, by bv_omega⟩

example : (topicMinMsgSize 5 6 7 8).toInt = 26 := by rw [(minMsgSize_spec 5 6 7 8).1]; decide

/-- `--max-bytes-per-file`, `--sync-every`, `--sync-timeout` reach go-diskqueue unchanged, each at its
own position (a swap of two of them refutes this).  go-diskqueue hands `syncTimeout` to `time.NewTicker`, which
panics for a value ≤ 0: nothing in nsqd excludes `--sync-timeout 0` (observed on the real code, see docs) -/
theorem options_passed_through (a m s t : BitVec 64) :
    topicMaxBytesPerFile a m s t = a ∧ topicSyncEvery a m s t = s ∧ topicSyncTimeout a m s t = t ∧
    chanMaxBytesPerFile a m s t = a ∧ chanSyncEvery a m s t = s ∧ chanSyncTimeout a m s t = t := by
  unfold topicMaxBytesPerFile topicSyncEvery topicSyncTimeout chanMaxBytesPerFile chanSyncEvery chanSyncTimeout
  exact ⟨by bv_omega, by bv_omega, by bv_omega, by bv_omega, by bv_omega, by bv_omega⟩

example : topicMaxBytesPerFile 104857600#64 1 2500#64 3 = 104857600#64 ∧ topicSyncEvery 104857600#64 1 2500#64 3 = 2500#64 ∧
    topicMaxBytesPerFile 104857600#64 1 2500#64 3 ≠ topicSyncEvery 104857600#64 1 2500#64 3 := by
  simp only [options_passed_through]; decide

/-- topic queues and channel queues get the same five arguments: equal as functions of the options -/
theorem topic_chan_same_args :
    topicMaxBytesPerFile = chanMaxBytesPerFile ∧ topicMinMsgSize = chanMinMsgSize ∧
    topicMaxMsgSize = chanMaxMsgSize ∧ topicSyncEvery = chanSyncEvery ∧ topicSyncTimeout = chanSyncTimeout := by
  refine ⟨?_, ?_, ?_, ?_, ?_⟩ <;> funext a m s t <;>
    simp only [options_passed_through, minMsgSize_spec, topic_maxMsgSize_spec, chan_maxMsgSize_spec]

example : topicMaxMsgSize 1 1024#64 3 4 = chanMaxMsgSize 1 1024#64 3 4 ∧ chanMaxMsgSize 1 1024#64 3 4 = 1050#32 := by
  rw [topic_chan_same_args.2.2.1, chan_maxMsgSize_spec]; decide

/-! ### the configuration of the E9 model that nsqd's options denote -/

/-- options (`--max-bytes-per-file`, `--max-msg-size`, `--sync-every` as int64 bit patterns) ↦ the model's
`Cfg`, through the regenerated argument expressions (of `NewTopic`; `NewChannel`'s are the same functions by
`topic_chan_same_args`); signed reading, negative clamped to 0 (see the header for what that means) -/
def dqCfgOf (maxBytesPerFile maxMsgSize syncEvery : BitVec 64) : Cfg :=
  { maxBytesPerFile := (topicMaxBytesPerFile maxBytesPerFile maxMsgSize syncEvery 0#64).toInt.toNat
    minMsgSize := (topicMinMsgSize maxBytesPerFile maxMsgSize syncEvery 0#64).toInt.toNat
    maxMsgSize := (topicMaxMsgSize maxBytesPerFile maxMsgSize syncEvery 0#64).toInt.toNat
    syncEvery := (topicSyncEvery maxBytesPerFile maxMsgSize syncEvery 0#64).toInt.toNat }

/-- `--sync-timeout` does not enter the four arguments `dqCfgOf` reads (so fixing it to 0 there loses nothing) -/
theorem cfg_args_ignore_syncTimeout (a m s t : BitVec 64) :
    topicMaxBytesPerFile a m s t = topicMaxBytesPerFile a m s 0#64 ∧ topicMinMsgSize a m s t = topicMinMsgSize a m s 0#64 ∧
    topicMaxMsgSize a m s t = topicMaxMsgSize a m s 0#64 ∧ topicSyncEvery a m s t = topicSyncEvery a m s 0#64 := by
  simp only [options_passed_through, minMsgSize_spec, topic_maxMsgSize_spec, and_self]

example : topicMaxMsgSize 1 1024#64 3 2000000000#64 = topicMaxMsgSize 1 1024#64 3 0#64 :=
  (cfg_args_ignore_syncTimeout 1 1024#64 3 2000000000#64).2.2.1

/-- the same configuration read off `NewChannel`'s arguments -/
theorem dqCfgOf_chan (a m s : BitVec 64) :
    dqCfgOf a m s =
      { maxBytesPerFile := (chanMaxBytesPerFile a m s 0#64).toInt.toNat
        minMsgSize := (chanMinMsgSize a m s 0#64).toInt.toNat
        maxMsgSize := (chanMaxMsgSize a m s 0#64).toInt.toNat
        syncEvery := (chanSyncEvery a m s 0#64).toInt.toNat } := by
  obtain ⟨h1, h2, h3, h4, -⟩ := topic_chan_same_args
  unfold dqCfgOf; rw [h1, h2, h3, h4]

example : dqCfgOf 104857600#64 1048576#64 2500#64 =
    { maxBytesPerFile := 104857600, minMsgSize := 26, maxMsgSize := 1048602, syncEvery := 2500 } := by
  simp only [dqCfgOf_chan, options_passed_through, minMsgSize_spec, chan_maxMsgSize_spec]; decide

theorem dqCfgOf_eq (a m s : BitVec 64) :
    dqCfgOf a m s =
      { maxBytesPerFile := a.toInt.toNat, minMsgSize := 26,
        maxMsgSize := (BitVec.setWidth 32 (m + 26#64)).toInt.toNat, syncEvery := s.toInt.toNat } := by
  simp only [dqCfgOf, options_passed_through, minMsgSize_spec, topic_maxMsgSize_spec]; rfl

example : (dqCfgOf 100#64 (-1#64) 5#64).maxMsgSize = 25 ∧ (dqCfgOf (-7#64) 0#64 5#64).maxBytesPerFile = 0 := by
  rw [dqCfgOf_eq, dqCfgOf_eq]; decide

/-- the lower bound is 26 = the length of the encoding of a message with an empty body (timestamp 8 +
attempts 2 + id 16): the header the model's `Wire.encode` writes -/
theorem minMsgSize_is_header_length (a m s : BitVec 64) (msg : Msg) (hid : msg.id.length = 16) (hb : msg.body = []) :
    (dqCfgOf a m s).minMsgSize = 26 ∧ (encode msg).length = (dqCfgOf a m s).minMsgSize := by
  rw [dqCfgOf_eq, Nsq.Proofs.Wire.encode_length msg hid, hb]; exact ⟨rfl, rfl⟩

example : (dqCfgOf 1 2 3).minMsgSize = (encode { ts := 7, attempts := 1, id := List.replicate 16 0x61, body := [] }).length :=
  ((minMsgSize_is_header_length 1 2 3 _ (by decide) rfl).2).symm

/-! ### when does `int32(MaxMsgSize) + minValidMsgLength` mean `MaxMsgSize + 26`? -/

private theorem toInt32_eq (m : BitVec 64) :
    (BitVec.setWidth 32 (m + 26#64)).toInt = (m.toInt + 26).bmod (2 ^ 32) := by
  -- cutting a 64-bit wrap to 32 bits is the 32-bit wrap
  have d : (2 ^ 32 : Nat) ∣ 2 ^ 64 := ⟨2 ^ 32, by decide⟩
  rw [BitVec.toInt_setWidth, ← Int.bmod_bmod_of_dvd d, ← BitVec.toInt_eq_toNat_bmod, BitVec.toInt_add,
    Int.bmod_bmod_of_dvd d]
  rfl

example : (BitVec.setWidth 32 (2147483622#64 + 26#64)).toInt = ((2147483622#64).toInt + 26).bmod (2 ^ 32) ∧
    ((2147483622#64).toInt + 26).bmod (2 ^ 32) = -2147483648 := ⟨toInt32_eq _, by decide⟩

/-- EXACTLY: the int32 expression equals the mathematical `MaxMsgSize + 26` iff that sum is an int32,
i.e. iff `−2^31 − 26 ≤ MaxMsgSize ≤ 2^31 − 27`; outside, conversion or addition wraps -/
theorem maxMsgSize_exact_iff (a m s t : BitVec 64) :
    (topicMaxMsgSize a m s t).toInt = m.toInt + 26 ↔ (-2147483648 ≤ m.toInt + 26 ∧ m.toInt + 26 < 2147483648) := by
  rw [topic_maxMsgSize_spec, toInt32_eq, Int.bmod_def]
  omega

example : (topicMaxMsgSize 0 2147483621#64 0 0).toInt = 2147483647 ∧ (topicMaxMsgSize 0 2147483622#64 0 0).toInt ≠ 2147483648 := by
  constructor
  · exact (maxMsgSize_exact_iff 0 2147483621#64 0 0).2 (by decide)
  · intro h; exact absurd ((maxMsgSize_exact_iff 0 2147483622#64 0 0).1 h) (by decide)

/-- no wrap on the sensible range: `0 ≤ MaxMsgSize`, `MaxMsgSize + 26 < 2^31` -/
theorem maxMsgSize_no_wrap (a m s t : BitVec 64) (h0 : 0 ≤ m.toInt) (h1 : m.toInt + 26 < 2147483648) :
    (topicMaxMsgSize a m s t).toInt = m.toInt + 26 ∧ (chanMaxMsgSize a m s t).toInt = m.toInt + 26 ∧
    (dqCfgOf a m s).maxMsgSize = m.toInt.toNat + 26 := by
  have h t := (maxMsgSize_exact_iff a m s t).2 ⟨by omega, h1⟩
  refine ⟨h t, by rw [← topic_chan_same_args.2.2.1]; exact h t, ?_⟩
  show (topicMaxMsgSize a m s 0#64).toInt.toNat = _
  rw [h]; omega

example : (dqCfgOf 104857600#64 1048576#64 2500#64).maxMsgSize = 1048576 + 26 :=
  (maxMsgSize_no_wrap 104857600#64 1048576#64 2500#64 0 (by decide) (by decide)).2.2

/-- hence every encoded message that PUB/MPUB/DPUB accept (`len(body) ≤ MaxMsgSize`) is a valid record of
the topic's and the channel's disk queue -/
theorem encoded_message_valid (a m s : BitVec 64) (h0 : 0 ≤ m.toInt) (h1 : m.toInt + 26 < 2147483648)
    (msg : Msg) (hid : msg.id.length = 16) (hb : msg.body.length ≤ m.toInt.toNat) :
    ValidRec (dqCfgOf a m s) (encode msg) := by
  unfold ValidRec
  rw [(maxMsgSize_no_wrap a m s 0#64 h0 h1).2.2, Nsq.Proofs.Wire.encode_length msg hid]
  simp only [dqCfgOf_eq]; omega

example : ValidRec (dqCfgOf 104857600#64 64#64 2500#64)
      (encode { ts := 1, attempts := 0, id := List.replicate 16 0x30, body := List.replicate 64 0x78 }) ∧
    ¬ ValidRec (dqCfgOf 104857600#64 64#64 2500#64)
      (encode { ts := 1, attempts := 0, id := List.replicate 16 0x30, body := List.replicate 65 0x78 }) := by
  refine ⟨encoded_message_valid _ _ _ (by decide) (by decide) _ (by decide) (by decide), ?_⟩
  rw [dqCfgOf_eq]; decide

/-- whatever the options: a record-size bound is an int32, so `CfgOk.max` always holds, and a bound below the
header length rejects everything -/
theorem bound_lt_2_31 (a m s : BitVec 64) : (dqCfgOf a m s).maxMsgSize < 2147483648 := by
  have := BitVec.toInt_lt (x := BitVec.setWidth 32 (m + 26#64))
  simp only [dqCfgOf_eq]; omega

example : (dqCfgOf 0 9223372036854775807#64 0).maxMsgSize < 2147483648 := bound_lt_2_31 _ _ _

/-- the wrap: for `2^31 − 26 ≤ MaxMsgSize < 2^31` the conversion is exact but the int32 addition wraps to
`MaxMsgSize + 26 − 2^32 < 0`; go-diskqueue then refuses EVERY record (`dataLen > maxMsgSize`), and so does the
model's configuration: no `Put` on any topic or channel disk queue succeeds -/
theorem wrapped_bound_rejects_all (a m s : BitVec 64) (h0 : 2147483648 - 26 ≤ m.toInt) (h1 : m.toInt < 2147483648) :
    (topicMaxMsgSize a m s 0#64).toInt = m.toInt + 26 - 4294967296 ∧ (topicMaxMsgSize a m s 0#64).toInt < 0 ∧
    ∀ d, ¬ ValidRec (dqCfgOf a m s) d := by
  have h : (topicMaxMsgSize a m s 0#64).toInt = m.toInt + 26 - 4294967296 := by
    rw [topic_maxMsgSize_spec, toInt32_eq, Int.bmod_def]; omega
  refine ⟨h, by omega, fun d hv => ?_⟩
  rw [topic_maxMsgSize_spec] at h
  simp only [ValidRec, dqCfgOf_eq, h] at hv; omega

example : ∀ d, ¬ ValidRec (dqCfgOf 104857600#64 2147483647#64 2500#64) d :=
  (wrapped_bound_rejects_all _ _ _ (by decide) (by decide)).2.2

/-- concrete witness: `--max-msg-size 2147483622` (= 2^31 − 26) gives the bound −2147483648; the smallest
message (empty body) is refused -/
theorem wrap_witness :
    (topicMaxMsgSize 104857600#64 2147483622#64 2500#64 2000000000#64).toInt = -2147483648 ∧
    (chanMaxMsgSize 104857600#64 2147483622#64 2500#64 2000000000#64).toInt = -2147483648 ∧
    ¬ ValidRec (dqCfgOf 104857600#64 2147483622#64 2500#64)
        (encode { ts := 1, attempts := 0, id := List.replicate 16 0x30, body := [] }) := by
  refine ⟨?_, ?_, (wrapped_bound_rejects_all _ _ _ (by decide) (by decide)).2.2 _⟩
  · rw [topic_maxMsgSize_spec]; decide
  · rw [chan_maxMsgSize_spec]; decide

/-- beyond 2^31 the conversion itself truncates: `--max-msg-size 4294968296` (2^32 + 1000) gives the bound
1026, so a 2000-byte body, far below the configured limit, is refused by the disk queue -/
theorem truncation_witness :
    (dqCfgOf 104857600#64 4294968296#64 2500#64).maxMsgSize = 1026 ∧
    ¬ ValidRec (dqCfgOf 104857600#64 4294968296#64 2500#64)
        (encode { ts := 1, attempts := 0, id := List.replicate 16 0x30, body := List.replicate 2000 0x78 }) := by
  have hm : (dqCfgOf 104857600#64 4294968296#64 2500#64).maxMsgSize = 1026 := by rw [dqCfgOf_eq]; decide
  refine ⟨hm, ?_⟩
  unfold ValidRec
  rw [hm, Nsq.Proofs.Wire.encode_length _ (by simp)]
  simp only [List.length_replicate]; omega

/-- EXACT range for non-negative `--max-msg-size`: the disk queues accept every encoded message with a
body of at most `MaxMsgSize` bytes iff `MaxMsgSize + 26 < 2^31` (i.e. `MaxMsgSize ≤ 2147483621`) -/
theorem bound_covers_all_bodies_iff (a m s : BitVec 64) (h0 : 0 ≤ m.toInt) :
    (∀ msg : Msg, msg.id.length = 16 → msg.body.length ≤ m.toInt.toNat → ValidRec (dqCfgOf a m s) (encode msg)) ↔
      m.toInt + 26 < 2147483648 := by
  constructor
  · intro h
    have hv := h { ts := 0, attempts := 0, id := List.replicate 16 0, body := List.replicate m.toInt.toNat 0 }
      (by simp) (by simp)
    unfold ValidRec at hv
    rw [Nsq.Proofs.Wire.encode_length _ (by simp)] at hv
    have hlt := bound_lt_2_31 a m s
    simp only [List.length_replicate] at hv
    omega
  · intro h1 msg hid hb
    exact encoded_message_valid a m s h0 h1 msg hid hb

example : ¬ (∀ msg : Msg, msg.id.length = 16 → msg.body.length ≤ (2147483622#64).toInt.toNat →
    ValidRec (dqCfgOf 1 2147483622#64 3) (encode msg)) := by
  rw [bound_covers_all_bodies_iff _ _ _ (by decide)]; decide

/-! ### `CfgOk` -/

/-- the E9 theorems assume `CfgOk` (`0 < syncEvery`, `maxMsgSize < 2^31`).  In terms of nsqd's options that is
EXACTLY `1 ≤ --sync-every` (signed int64): the size bound is an int32 for every `--max-msg-size`, and
`--max-bytes-per-file` / `--sync-timeout` do not enter.  `--sync-every 0` and negative values are outside. -/
theorem cfgOk_of_options (a m s : BitVec 64) : CfgOk (dqCfgOf a m s) ↔ 0 < s.toInt := by
  constructor
  · intro h
    have := h.sync
    simp only [dqCfgOf_eq] at this; omega
  · intro h
    exact ⟨by simp only [dqCfgOf_eq]; omega, bound_lt_2_31 a m s⟩

example : CfgOk (dqCfgOf 104857600#64 1048576#64 2500#64) ∧ ¬ CfgOk (dqCfgOf 104857600#64 1048576#64 0#64) ∧
    ¬ CfgOk (dqCfgOf 104857600#64 1048576#64 (-1#64)) := by
  refine ⟨(cfgOk_of_options _ _ _).2 (by decide), fun h => ?_, fun h => ?_⟩
  · exact absurd ((cfgOk_of_options _ _ _).1 h) (by decide)
  · exact absurd ((cfgOk_of_options _ _ _).1 h) (by decide)

/-- the option ranges under which the E9 model with `dqCfgOf` is the disk queue nsqd runs AND stores every
acceptable message: `1 ≤ SyncEvery`, `0 ≤ MaxMsgSize ≤ 2^31 − 27`, `0 ≤ MaxBytesPerFile`; nsqd's defaults
(100 MiB, 1 MiB, 2500) are inside -/
theorem sane_options (a m s : BitVec 64) (ha : 0 ≤ a.toInt) (hs : 0 < s.toInt) (h0 : 0 ≤ m.toInt)
    (h1 : m.toInt + 26 < 2147483648) :
    CfgOk (dqCfgOf a m s) ∧
    dqCfgOf a m s = { maxBytesPerFile := a.toInt.toNat, minMsgSize := 26, maxMsgSize := m.toInt.toNat + 26,
                      syncEvery := s.toInt.toNat } ∧
    ((dqCfgOf a m s).maxBytesPerFile : Int) = a.toInt ∧ ((dqCfgOf a m s).syncEvery : Int) = s.toInt := by
  have hm := (maxMsgSize_no_wrap a m s 0#64 h0 h1).2.2
  have he := dqCfgOf_eq a m s
  refine ⟨(cfgOk_of_options a m s).2 hs, ?_, ?_, ?_⟩
  · rw [he] at hm ⊢
    simp only at hm
    rw [hm]
  · rw [he]; show (a.toInt.toNat : Int) = _; omega
  · rw [he]; show (s.toInt.toNat : Int) = _; omega

example : CfgOk (dqCfgOf 104857600#64 1048576#64 2500#64) ∧
    dqCfgOf 104857600#64 1048576#64 2500#64 =
      { maxBytesPerFile := 104857600, minMsgSize := 26, maxMsgSize := 1048602, syncEvery := 2500 } := by
  have h := sane_options 104857600#64 1048576#64 2500#64 (by decide) (by decide) (by decide) (by decide)
  exact ⟨h.1, h.2.1⟩

end Nsq.Tie.DiskQueueArgs
