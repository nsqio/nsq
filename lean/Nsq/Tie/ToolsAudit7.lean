import Nsq.Gen.ToolsRelay
import Nsq.Gen.ToolsRelayOpts
/-!
Regenerated-leg facts for the C20 models `ToNsqRefuse`, `HttpGet` and `Relay.N2N`. Every fact is decided **directly on
the regenerated definitions** `Nsq.Gen.ToolsRelay.*` / `Nsq.Gen.ToolsRelayOpts.*` (never on a hand-written `expected_…`
constant), and states only the semantic core the model relies on, so a harmless rewrite elsewhere in the function does not
break it. The behaviour itself is tied by the correspondence legs (real binary / real functions); these facts only pin the
shape the models were written against.
-/
namespace Nsq.Tie.ToolsAudit7
open Nsq.Gen.ToolsRelay

def after (s : String) (l : List String) : List String := (l.dropWhile (· != s)).drop 1

/-- `Nsq.Model.ToNsqRefuse.publishOne`: inside `range producers` the first refused `Publish` returns its error at once
(fail-stop per record), and only after the loop `readErr` is returned -/
theorem readAndPublish_fail_stop :
    (after "range producers" readAndPublish).take 4 =
      [".err := producer.Publish(*topic, line)", ".if err != nil", "..return err", "return readErr"] := by decide +kernel

/-- `Nsq.Model.ToNsqRefuse.run`: in main's reader goroutine an error of `readAndPublish` other than `io.EOF` is
`log.Fatal` (exit status 1); only `io.EOF` closes `stopChan` -/
theorem toNsq_publish_error_is_fatal :
    (after "..if err != nil" Nsq.Gen.ToolsRelayOpts.toNsqMainLoop).take 4 =
      ["...if err != io.EOF", "....log.Fatal(err)", "...close(stopChan)", "...break"] := by decide +kernel

/-- `Nsq.Model.HttpGet.endpoint`: the request target is `fmt.Sprintf(addr, url.QueryEscape(string(msg)))` and that
string is what `HTTPGet` is called with -/
theorem get_endpoint_statement :
    n2hGet.take 2 = ["endpoint := fmt.Sprintf(addr, url.QueryEscape(string(msg)))", "resp, err := HTTPGet(endpoint)"] := rfl

/-- `Nsq.Model.Relay.N2N.consume`: in go-nsq's `handlerLoop` the give-up test comes before the handler and finishes the
message without calling it -/
theorem handlerLoop_giveup_before_handler :
    (after ".if r.shouldFailMessage(message, handler)" handlerLoop).take 3 =
      ["..message.Finish()", "..continue", ".err := handler.HandleMessage(message)"] := by decide +kernel

/-- `Nsq.Model.Relay.N2N.step (.result …)`: the responder answers the message stored in the transaction it received
(`t.Args[0]`), in both modes -/
theorem responder_answers_its_transaction :
    (after "..case ModeRoundRobin" n2nResponder).head? = some "...msg = t.Args[0].(*nsq.Message)" ∧
    (after "..case ModeHostPool" n2nResponder).head? = some "...msg = t.Args[0].(*nsq.Message)" ∧
    "..msg.Finish()" ∈ n2nResponder ∧ "..msg.Requeue(-1)" ∈ n2nResponder := by decide +kernel

end Nsq.Tie.ToolsAudit7
