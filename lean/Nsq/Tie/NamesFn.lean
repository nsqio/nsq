import Nsq.Gen.NamesFn
import Nsq.Model.Names
/-!
Tie (names), translated definitions: `isValidName`, `IsValidTopicName`, `IsValidChannelName`
(internal/protocol/names.go) are re-translated from the Go source on every run (kind `strfunc`,
`specs/e1_names.json` → `Nsq.Gen.NamesFn`) and PROVED equal to `Nsq.Model.Names.isValidName`:
the length bounds 1..64 come from the translated code; the regular-expression match is an
input of the translated function (`regexMatches`), instantiated with the model's automaton
`regexMatch` whose literal is tied by `nameRegex_eq` (and whose behaviour is compared with
`regexp` by the correspondence harness of C09).
-/
namespace Nsq.Tie.NamesFn
open Nsq.Model.Names

/-- `isValidName(name)` = the model, on every byte string -/
theorem isValidName_eq (name : List UInt8) :
    Nsq.Gen.NamesFn.isValidName name (regexMatch name) = isValidName name := by
  unfold Nsq.Gen.NamesFn.isValidName isValidName
  by_cases h1 : name.length > 64 <;> by_cases h2 : name.length < 1 <;> simp [h1, h2] <;> omega

/-- `IsValidTopicName` / `IsValidChannelName` return exactly what `isValidName(name)` returns -/
theorem isValidTopicName_eq (v : Bool) : Nsq.Gen.NamesFn.isValidTopicName v = v := rfl
theorem isValidChannelName_eq (v : Bool) : Nsq.Gen.NamesFn.isValidChannelName v = v := rfl

/-- the regex literal the automaton was built from is the one in the source -/
theorem nameRegex_eq : Nsq.Gen.NamesFn.nameRegex = regexLiteral := rfl

/-! non-vacuity: 64 bytes accepted, 65 and 0 refused whatever the regex says -/
example : Nsq.Gen.NamesFn.isValidName (List.replicate 64 97) true = true := by decide +kernel
example : Nsq.Gen.NamesFn.isValidName (List.replicate 65 97) true = false := by decide +kernel
example : Nsq.Gen.NamesFn.isValidName [] true = false := by decide +kernel
example : Nsq.Gen.NamesFn.isValidName (ascii "a#ephemeral") (regexMatch (ascii "a#ephemeral")) = true := by decide +kernel

end Nsq.Tie.NamesFn
