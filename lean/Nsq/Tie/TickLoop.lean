import Nsq.Gen.Tick
/-!
Tie of `Nsq.Model.Timing.tickLoop` (the whole tick of `NSQD.queueScanLoop`) to the source:
regenerated order of the statements of the loop (specs/e2_tick.json, kind `stmtseq` with loop rows).
What the rows pin, in the model's terms:
  * `num = min(QueueScanSelectionCount, len(channels))`            — `min q cs.length`
  * the label `loop` sits BEFORE the selection                      — every round draws a fresh `UniqRands`
  * `range util.UniqRands(num, len(channels))`, `workCh <- channels[i]` — `scanTick cs sel`
  * `numDirty := 0` inside the loop, one `<-responseCh` per selected channel — `dirtyCount`
  * `float64(numDirty)/float64(num) > QueueScanDirtyPercent` ⇒ `goto loop` — the repeat test
  * an empty channel list skips the tick (`continue`)
The worker (`queueScanWorker`: both scans with one clock reading, `dirty` = either) and `UniqRands`
are tied in `Nsq.Tie.PQ` (`scanWorkerBody_eq`, `uniqRandsBody_eq`); behaviourally the loop is exercised by
the scan-loop legs of `props/C04.py` (TestVerifScanLoop) and by E2's `scanloop` / concurrent legs.
A harmless refactor of the loop (e.g. `for { … if !(dirty > pct) { break } }` instead of the label)
breaks this fact although the behaviour is the same: then the C04 check searches for a failing input
and reports `no-failing-input-found`.
-/
namespace Nsq.Tie.TickLoop

theorem scanTickLoop_eq : Nsq.Gen.Tick.scanTickLoop = ([
  "if len(channels) == 0",
  "assign num := n.getOpts().QueueScanSelectionCount",
  "if num > len(channels)",
  "assign num = len(channels)",
  "label loop",
  "range util.UniqRands(num, len(channels))",
  "send workCh <- channels[i]",
  "assign numDirty := 0",
  "for i < num",
  "if <-responseCh",
  "do numDirty++",
  "if float64(numDirty)/float64(num) > n.getOpts().QueueScanDirtyPercent",
  "branch goto loop"] : List String) := rfl

/-- C04 (seeded C04-m7): on EVERY refresh tick the loop replaces its cached channel list by `n.channels()` (unconditionally — no `if` in front of it) and resizes the pool: a channel that replaces a deleted one within one refresh interval is scanned from the next refresh on. `tickLoop` takes the channel list as a parameter; this fact + the real-loop leg `scanloop` (corpus/C01/scan_loop_refresh.ops, also run by `props/C04.py`) tie that parameter to `n.channels()`. -/
theorem scanRefreshBranch_eq : Nsq.Gen.Tick.scanRefreshBranch = ([
  "assign channels := n.channels()",
  "do n.resizePool(len(channels), workCh, responseCh, closeCh)",
  "do <-refreshTicker.C",
  "assign channels = n.channels()",
  "do n.resizePool(len(channels), workCh, responseCh, closeCh)"] : List String) := rfl

end Nsq.Tie.TickLoop
